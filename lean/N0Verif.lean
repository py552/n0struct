-- GENERATED by harness/gen_lean_roots.py; do not edit
import N0Verif.Drv.Compare
import N0Verif.Drv.Csv
import N0Verif.Drv.CsvFile
import N0Verif.Drv.CsvPy
import N0Verif.Drv.CsvReader
import N0Verif.Drv.Esc
import N0Verif.Drv.Files
import N0Verif.Drv.FindAll
import N0Verif.Drv.FindAllList
import N0Verif.Drv.FwfPy
import N0Verif.Drv.Ini
import N0Verif.Drv.Json
import N0Verif.Drv.NXml
import N0Verif.Drv.Names
import N0Verif.Drv.Tlv
import N0Verif.Drv.TlvGenPy
import N0Verif.Drv.TlvPy
import N0Verif.Drv.XPath
import N0Verif.Drv.XPathMatch
import N0Verif.Drv.XPathPrim
import N0Verif.Drv.XPathTerm
import N0Verif.Drv.Xml
import N0Verif.Gen.CompositeKeysPy
import N0Verif.Gen.Cp1252
import N0Verif.Gen.CsvPy
import N0Verif.Gen.EscPy
import N0Verif.Gen.FwfPy
import N0Verif.Gen.Symtab
import N0Verif.Gen.TlvGenPy
import N0Verif.Gen.TlvPy
import N0Verif.Gen.XPathMatch
import N0Verif.Gen.XPathPrim
import N0Verif.Gen.XmlConsts
import N0Verif.Model.Compare
import N0Verif.Model.Csv
import N0Verif.Model.CsvFile
import N0Verif.Model.CsvReader
import N0Verif.Model.Esc
import N0Verif.Model.Files
import N0Verif.Model.FindAll
import N0Verif.Model.Fwf
import N0Verif.Model.Ini
import N0Verif.Model.Json
import N0Verif.Model.NXml
import N0Verif.Model.Names
import N0Verif.Model.Tlv
import N0Verif.Model.Tree
import N0Verif.Model.XPath
import N0Verif.Model.XPathApi
import N0Verif.Model.XPathFuel
import N0Verif.Model.Xml
import N0Verif.Proofs.Compare
import N0Verif.Proofs.CompareAlign
import N0Verif.Proofs.CompareDigits
import N0Verif.Proofs.CompareFaithful
import N0Verif.Proofs.CompareFlags
import N0Verif.Proofs.CompareFrame
import N0Verif.Proofs.CompareIdxBlind
import N0Verif.Proofs.CompareKeyVals
import N0Verif.Proofs.CompareKeyed
import N0Verif.Proofs.CompareOpts
import N0Verif.Proofs.ComparePairs
import N0Verif.Proofs.ComparePerm
import N0Verif.Proofs.CompareSwap
import N0Verif.Proofs.CompareSwapKeyed
import N0Verif.Proofs.CompareTransform
import N0Verif.Proofs.CompareTransformCk
import N0Verif.Proofs.CompareTransformKeyed
import N0Verif.Proofs.CompareWalk
import N0Verif.Proofs.CompareWalkEq
import N0Verif.Proofs.CompositeKeysGenEq
import N0Verif.Proofs.Csv
import N0Verif.Proofs.CsvBinary
import N0Verif.Proofs.CsvFile
import N0Verif.Proofs.CsvGenEq
import N0Verif.Proofs.CsvHeaderModes
import N0Verif.Proofs.CsvOptions
import N0Verif.Proofs.CsvReader
import N0Verif.Proofs.CsvRecord
import N0Verif.Proofs.Digits
import N0Verif.Proofs.Esc
import N0Verif.Proofs.EscGenEq
import N0Verif.Proofs.EscSer
import N0Verif.Proofs.Files
import N0Verif.Proofs.FilesCodec
import N0Verif.Proofs.FindAll
import N0Verif.Proofs.FindAllExact
import N0Verif.Proofs.FindAllSel
import N0Verif.Proofs.FindAllSpell
import N0Verif.Proofs.FindAllTailFan
import N0Verif.Proofs.FindAllTailKeys
import N0Verif.Proofs.FindAllWalk
import N0Verif.Proofs.Fwf
import N0Verif.Proofs.FwfGenEq
import N0Verif.Proofs.FwfLoad
import N0Verif.Proofs.Ini
import N0Verif.Proofs.JsonLayout
import N0Verif.Proofs.JsonLoad
import N0Verif.Proofs.JsonPairs
import N0Verif.Proofs.JsonPyEq
import N0Verif.Proofs.JsonReader
import N0Verif.Proofs.JsonScan
import N0Verif.Proofs.NXmlExpr
import N0Verif.Proofs.NXmlFind
import N0Verif.Proofs.NXmlFirst
import N0Verif.Proofs.NXmlGet
import N0Verif.Proofs.NXmlPath
import N0Verif.Proofs.NXmlStars
import N0Verif.Proofs.Names
import N0Verif.Proofs.Slice
import N0Verif.Proofs.Split
import N0Verif.Proofs.Tlv
import N0Verif.Proofs.TlvGenEq
import N0Verif.Proofs.TlvGenWriterEq
import N0Verif.Proofs.TlvInt
import N0Verif.Proofs.TreeLemmas
import N0Verif.Proofs.XPathAdd
import N0Verif.Proofs.XPathCreate
import N0Verif.Proofs.XPathCreateGrammar
import N0Verif.Proofs.XPathCreateReadback
import N0Verif.Proofs.XPathCreateTokens
import N0Verif.Proofs.XPathDelete
import N0Verif.Proofs.XPathDeleteRec
import N0Verif.Proofs.XPathFanLoop
import N0Verif.Proofs.XPathFindEq
import N0Verif.Proofs.XPathFirst
import N0Verif.Proofs.XPathFound
import N0Verif.Proofs.XPathGText
import N0Verif.Proofs.XPathGWalk
import N0Verif.Proofs.XPathGetEq
import N0Verif.Proofs.XPathHidden
import N0Verif.Proofs.XPathHiddenPop
import N0Verif.Proofs.XPathHiddenSet
import N0Verif.Proofs.XPathHistory
import N0Verif.Proofs.XPathLeaves
import N0Verif.Proofs.XPathListRoot
import N0Verif.Proofs.XPathMatchGenEq
import N0Verif.Proofs.XPathMatchSpec
import N0Verif.Proofs.XPathMiss
import N0Verif.Proofs.XPathPrimGenEq
import N0Verif.Proofs.XPathPure
import N0Verif.Proofs.XPathPureApi
import N0Verif.Proofs.XPathPureFind
import N0Verif.Proofs.XPathRender
import N0Verif.Proofs.XPathSelCond
import N0Verif.Proofs.XPathSelFind
import N0Verif.Proofs.XPathSelListRoot
import N0Verif.Proofs.XPathSelPaths
import N0Verif.Proofs.XPathSelSpec
import N0Verif.Proofs.XPathSelSteps
import N0Verif.Proofs.XPathSelTexts
import N0Verif.Proofs.XPathSelect
import N0Verif.Proofs.XPathSpellings
import N0Verif.Proofs.XPathStore
import N0Verif.Proofs.XPathTerm
import N0Verif.Proofs.XPathTermApi
import N0Verif.Proofs.XPathTermMain
import N0Verif.Proofs.XPathTermPlain
import N0Verif.Proofs.XPathTermPot
import N0Verif.Proofs.XPathText
import N0Verif.Proofs.XPathTok
import N0Verif.Proofs.XPathTokShape
import N0Verif.Proofs.XPathTree
import N0Verif.Proofs.XPathUpRoot
import N0Verif.Proofs.XPathWalk
import N0Verif.Proofs.XmlEntries
import N0Verif.Proofs.XmlRead
import N0Verif.Proofs.XmlTree
import N0Verif.Props.C01
import N0Verif.Props.C02
import N0Verif.Props.C03
import N0Verif.Props.C04
import N0Verif.Props.C05
import N0Verif.Props.C06
import N0Verif.Props.C07
import N0Verif.Props.C08
import N0Verif.Props.C09
import N0Verif.Props.C10
import N0Verif.Props.C11
import N0Verif.Props.C12
import N0Verif.Props.C13
import N0Verif.Props.C14
import N0Verif.Props.C15
import N0Verif.Props.C16
import N0Verif.Props.C17
import N0Verif.Props.C18
import N0Verif.Props.C19
import N0Verif.Props.C20
import N0Verif.Proto
import N0Verif.Py.AssocLemmas
import N0Verif.Py.Basic
import N0Verif.Py.Lemmas
import N0Verif.Py.ListLemmas
import N0Verif.Py.StripLemmas
import N0Verif.Val
