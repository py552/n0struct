import N0Verif.Proofs.CompareWalk
import N0Verif.Py.ListLemmas
/-!
The specification side of the compare engine (C07–C10): structural equality `deq`, converted trees `isN0`, default
options `NoOpts`, the invariant of the flag machine.  Under default options a comparison is exact for every notion of
equality that follows the alignments (`Exact`, `sub_exact`); `direct_compare` with `deq` is the positional instance.
`LeafTransform`: what a `transform` function may do, the hypothesis the frame results (C09) and the `transform` results
(C10) share.
-/
namespace N0.Compare
open N0

/-- invariant of the flag machine: `equal` is on iff exactly one of its two sub-flags is -/
def FlagInv (f : Flags) : Prop :=
  f.equal = (f.records || f.elements) ∧ ¬(f.records = true ∧ f.elements = true)

instance (f : Flags) : Decidable (FlagInv f) := by unfold FlagInv; infer_instance

mutual
/-- converted recursively: every container is an `n0dict` / `n0list` -/
def isN0 : Val → Bool
  | .list c xs => c == .n0 && isN0L xs
  | .dict c kvs => c == .n0 && isN0K kvs
  | _ => true
def isN0L : List Val → Bool
  | [] => true
  | x :: xs => isN0 x && isN0L xs
def isN0K : List (Str × Val) → Bool
  | [] => true
  | (_, x) :: xs => isN0 x && isN0K xs
end

mutual
/-- structural equality: same constructor and class, dictionaries with the same key set and equal values per key
(insertion order is irrelevant), lists of equal length with pairwise equal items, leaves equal with equal type.  A key is
looked up with `Val.lookup` (FIRST occurrence), as the walks do: on a repeated key (`{k: 1, k: 2}`, no Python `dict`) `deq`
is not reflexive, which is why exactness of `direct_compare` needs no `uniqKeys` and reflexivity does. -/
def deq : Val → Val → Bool
  | .none, .none => true
  | .bool a, .bool b => a == b
  | .int a, .int b => a == b
  | .flt a, .flt b => a == b
  | .str a, .str b => a == b
  | .list c xs, .list c' ys => c == c' && deqL xs ys
  | .dict c kvs, .dict c' kvs' => c == c' && deqK kvs kvs' && kvs'.all (fun kv => hasKey kv.1 kvs)
  | _, _ => false
def deqL : List Val → List Val → Bool
  | [], [] => true
  | x :: xs, y :: ys => deq x y && deqL xs ys
  | _, _ => false
def deqK : List (Str × Val) → List (Str × Val) → Bool
  | [], _ => true
  | (k, v) :: rest, o =>
    (match Val.lookup k o with
     | some w => deq v w
     | none => false) && deqK rest o
end

/-- the keys of a dictionary are pairwise different (`keysNodup` of `CompareWalkEq`, `noDupK_eq`) -/
def noDupK : List (Str × Val) → Bool
  | [] => true
  | (k, _) :: rest => !hasKey k rest && noDupK rest

mutual
/-- no dictionary of the tree repeats a key (true of every Python `dict`) -/
def uniqKeys : Val → Bool
  | .list _ xs => uniqKeysL xs
  | .dict _ kvs => noDupK kvs && uniqKeysK kvs
  | _ => true
def uniqKeysL : List Val → Bool
  | [] => true
  | x :: xs => uniqKeys x && uniqKeysL xs
def uniqKeysK : List (Str × Val) → Bool
  | [] => true
  | (_, v) :: rest => uniqKeys v && uniqKeysK rest
end

theorem noDupK_eq : ∀ kvs : List (Str × Val), noDupK kvs = keysNodup kvs
  | [] => rfl
  | (k, _) :: rest => by rw [noDupK, keysNodup, noDupK_eq rest]

theorem noDupK_lookup (kvs : List (Str × Val)) (k : Str) (v : Val) (hn : noDupK kvs = true) (h : (k, v) ∈ kvs) :
    Val.lookup k kvs = some v :=
  lookup_of_mem kvs k v (noDupK_eq kvs ▸ hn) h

structure NoOpts (cfg : Cfg) : Prop where
  ck : cfg.ck = .many []
  only : cfg.only = .many []
  excl : cfg.excl = .many []
  tr : cfg.tr = []

/-- number of structured difference entries -/
def Res.count (r : Res) : Nat :=
  r.notEqual.length + r.selfUnique.length + r.otherUnique.length + r.diffTypes.length

@[simp] theorem append_count (a b : Res) : (a ++ b).count = a.count + b.count := by
  simp [Res.count]; omega

@[simp] theorem empty_count : Res.empty.count = 0 := rfl

theorem xpathMatch_nil (s : Str) : xpathMatch s (.many []) = 0 := rfl

/-- `compare_only`, `exclude_xpaths`, `transform` at their defaults; `composite_key` is arbitrary -/
structure NoPathOpts (cfg : Cfg) : Prop where
  only : cfg.only = .many []
  excl : cfg.excl = .many []
  tr : cfg.tr = []

theorem excluded_npo {cfg : Cfg} (h : NoPathOpts cfg) (p : Path) : excluded cfg p = false := by
  simp [excluded, h.excl, xpathMatch_nil]

theorem onlyOk_npo {cfg : Cfg} (h : NoPathOpts cfg) (p : Path) : onlyOk cfg p = true := by
  simp [onlyOk, h.only, PatArg.truthy]

theorem NoOpts.npo {cfg : Cfg} (h : NoOpts cfg) : NoPathOpts cfg := ⟨h.only, h.excl, h.tr⟩

theorem excluded_noOpts {cfg : Cfg} (h : NoOpts cfg) (p : Path) : excluded cfg p = false := excluded_npo h.npo p

theorem onlyOk_noOpts {cfg : Cfg} (h : NoOpts cfg) (p : Path) : onlyOk cfg p = true := onlyOk_npo h.npo p

theorem transformAt_noOpts {cfg : Cfg} (h : NoOpts cfg) (p : Path) : transformAt cfg p = id := transformAt_noTr h.tr p

theorem dictTail_diffs_npo {cfg : Cfg} (h : NoPathOpts cfg) (p : Path) (sa oa : Val)
    (skvs okvs : List (Str × Val)) (still : Bool) :
    (dictTail cfg p sa oa skvs okvs still).diffs =
      (skvs.filter (fun kv => !hasKey kv.1 okvs)).length + (okvs.filter (fun kv => !hasKey kv.1 skvs)).length := by
  have hl : ∀ kv, leftover cfg p kv = some ⟨p ++ [.key kv.1], kv.2⟩ := by
    intro kv; simp [leftover, excluded_npo h, onlyOk_npo h]
  have hfm : ∀ l : List (Str × Val), (l.filterMap (leftover cfg p)).length = l.length := by
    intro l; induction l with
    | nil => rfl
    | cons a l ih => simp [hl, ih]
  simp only [dictTail, hfm]

theorem noOpts_default (fl : Flags) (d : Bool) : NoOpts (Cfg.default fl d) := ⟨rfl, rfl, rfl, rfl⟩

theorem deq_leaf {x y : Val} (h : isPyScalar x = true ∨ x = .none) : deq x y = true ↔ x = y := by
  cases x with
  | list c xs => rcases h with h | h <;> cases h
  | dict c kvs => rcases h with h | h <;> cases h
  | none => cases y <;> simp [deq]
  | bool _ => cases y <;> simp [deq]
  | int _ => cases y <;> simp [deq]
  | flt _ => cases y <;> simp [deq]
  | str _ => cases y <;> simp [deq]

theorem deq_tyOf {x y : Val} (h : deq x y = true) : tyOf x = tyOf y := by
  cases x with
  | list c xs =>
    cases y with
    | list c' ys => rw [deq, Bool.and_eq_true, beq_iff_eq] at h; rw [h.1]; rfl
    | _ => cases h
  | dict c kvs =>
    cases y with
    | dict c' kvs' => rw [deq, Bool.and_eq_true, Bool.and_eq_true, beq_iff_eq] at h; rw [h.1.1]; rfl
    | _ => cases h
  | none => cases y with | none => rfl | _ => cases h
  | bool _ => cases y with | bool _ => rfl | _ => cases h
  | int _ => cases y with | int _ => rfl | _ => cases h
  | flt _ => cases y with | flt _ => rfl | _ => cases h
  | str _ => cases y with | str _ => rfl | _ => cases h

theorem tyOf_list_eq {c : Cls} {w : Val} (h : Ty.list c = tyOf w) : ∃ ys, w = .list c ys := by
  cases w with
  | list c' ys => cases h; exact ⟨ys, rfl⟩
  | _ => cases h

theorem tyOf_dict_eq {c : Cls} {w : Val} (h : Ty.dict c = tyOf w) : ∃ kvs, w = .dict c kvs := by
  cases w with
  | dict c' kvs => cases h; exact ⟨kvs, rfl⟩
  | _ => cases h

theorem tyOf_none_eq {w : Val} (h : Ty.none = tyOf w) : w = .none := by
  cases w with
  | none => rfl
  | _ => cases h

theorem isN0_list {c : Cls} {xs : List Val} : isN0 (.list c xs) = true ↔ c = .n0 ∧ isN0L xs = true := by
  rw [isN0, Bool.and_eq_true, beq_iff_eq]

theorem isN0_dict {c : Cls} {kvs : List (Str × Val)} : isN0 (.dict c kvs) = true ↔ c = .n0 ∧ isN0K kvs = true := by
  rw [isN0, Bool.and_eq_true, beq_iff_eq]

theorem isN0L_cons {x : Val} {xs : List Val} : isN0L (x :: xs) = true ↔ isN0 x = true ∧ isN0L xs = true := by
  rw [isN0L, Bool.and_eq_true]

theorem isN0K_cons {k : Str} {x : Val} {kvs : List (Str × Val)} :
    isN0K ((k, x) :: kvs) = true ↔ isN0 x = true ∧ isN0K kvs = true := by
  rw [isN0K, Bool.and_eq_true]

theorem classifyItem_noOpts {cfg : Cfg} (h : NoOpts cfg) (p pne pdt : Path) (sa oa x y : Val) :
    classifyItem cfg p pne pdt sa oa x y = itemCore cfg.fl x y pne pdt sa oa x y := by
  rw [classifyItem_core, transformAt_noOpts h]; rfl

theorem classifyEntry_noOpts {cfg : Cfg} (h : NoOpts cfg) (full : Path) (x y : Val) :
    classifyEntry cfg full x y = entryCore cfg.fl false true x y full x y := by
  rw [classifyEntry_core, transformAt_noOpts h, excluded_noOpts h, onlyOk_noOpts h]; rfl

/-- what a leaf decision says about the verdict, for a notion `E` of equality of trees: an emitted result has no line iff
the pair is equal; a pair that is descended into is a pair of containers of one type -/
def ActExact (E : Val → Val → Prop) (x y : Val) : Act → Prop
  | .emit r _ => (r.diffs = 0 ↔ E x y)
  | .descend => tyOf x = tyOf y ∧ isPyScalar x = false

/-- all that the leaf decisions need of `E`: on scalars it is equality, and it relates values of one type only -/
structure LeafEq (E : Val → Val → Prop) : Prop where
  scalar : ∀ {x y}, isPyScalar x = true → (E x y ↔ x = y)
  ty : ∀ {x y}, E x y → tyOf x = tyOf y

theorem ActExact.one {E : Val → Val → Prop} {x y : Val} {r : Res} {s : Bool} (h1 : r.diffs = 1) (hn : ¬ E x y) :
    ActExact E x y (.emit r s) :=
  ⟨fun h0 => absurd (h1 ▸ h0) (by decide), fun h => absurd h hn⟩

theorem itemCore_exact {E : Val → Val → Prop} (hE : LeafEq E) (fl : Flags) (pne pdt : Path) (sa oa x y : Val) :
    ActExact E x y (itemCore fl x y pne pdt sa oa x y) := by
  unfold itemCore
  refine iteInduction (fun ht => ?_) (fun ht => ?_)
  · refine iteInduction (fun hs => ?_) (fun hs => ⟨ht, Bool.eq_false_iff.2 hs⟩)
    refine iteInduction (fun hne => .one rfl fun h => hne ((hE.scalar hs).1 h)) (fun hne => ?_)
    have hxy : E x y := (hE.scalar hs).2 (Decidable.of_not_not hne)
    exact iteInduction (fun _ => ⟨fun _ => hxy, fun _ => rfl⟩) (fun _ => ⟨fun _ => hxy, fun _ => rfl⟩)
  · exact iteInduction (fun _ => .one rfl fun h => ht (hE.ty h)) (fun _ => .one rfl fun h => ht (hE.ty h))

theorem entryCore_exact {E : Val → Val → Prop} (hE : LeafEq E) (fl : Flags) (full : Path) (x y : Val) :
    ActExact E x y (entryCore fl false true x y full x y) := by
  unfold entryCore
  refine iteInduction (fun h => by cases h) (fun _ => ?_)
  refine iteInduction (fun ht => ?_) (fun ht => ?_)
  · refine iteInduction (fun hs => ?_) (fun hs => ⟨ht, Bool.eq_false_iff.2 hs⟩)
    refine iteInduction (fun hne => .one rfl fun h => hne.1 ((hE.scalar hs).1 h)) (fun hne => ?_)
    exact ⟨fun _ => (hE.scalar hs).2 (Decidable.of_not_not fun h => hne ⟨h, rfl⟩), fun _ => rfl⟩
  · refine iteInduction (fun _ => ?_) (fun h => absurd rfl h)
    exact iteInduction (fun _ => .one rfl fun h => ht (hE.ty h)) (fun _ => .one rfl fun h => ht (hE.ty h))

theorem actRes_exact {E : Val → Val → Prop} {x y : Val} {a : Act} {n : Except PyErr Res} (ha : ActExact E x y a)
    (hn : tyOf x = tyOf y → isPyScalar x = false → ∃ r, n = .ok r ∧ (r.diffs = 0 ↔ E x y)) :
    ∃ r, actRes a n = .ok r ∧ (r.diffs = 0 ↔ E x y) := by
  cases a with
  | emit r s => exact ⟨r, rfl, ha⟩
  | descend => exact hn ha.1 ha.2

theorem itemOf_exact {cfg : Cfg} (h : NoOpts cfg) {E : Val → Val → Prop} (hE : LeafEq E) (p : Path) (sa oa : Val) (a : AP)
    (hn : tyOf a.2.1 = tyOf a.2.2 → isPyScalar a.2.1 = false →
      ∃ r, sub cfg .item (p ++ [a.1]) a.2.1 a.2.2 = .ok r ∧ (r.diffs = 0 ↔ E a.2.1 a.2.2)) :
    ∃ r, itemOf cfg p sa oa a = .ok r ∧ (r.diffs = 0 ↔ E a.2.1 a.2.2) := by
  rw [itemOf_eq, classifyItem_noOpts h]
  exact actRes_exact (itemCore_exact hE cfg.fl _ _ sa oa a.2.1 a.2.2) hn

theorem entryOf_exact {cfg : Cfg} (h : NoOpts cfg) {E : Val → Val → Prop} (hE : LeafEq E) (p : Path) (a : AP)
    (hn : tyOf a.2.1 = tyOf a.2.2 → isPyScalar a.2.1 = false →
      ∃ r, sub cfg .entry (p ++ [a.1]) a.2.1 a.2.2 = .ok r ∧ (r.diffs = 0 ↔ E a.2.1 a.2.2)) :
    ∃ r, entryOf cfg p a = .ok r ∧ (r.diffs = 0 ↔ E a.2.1 a.2.2) := by
  rw [entryOf_eq, classifyEntry_noOpts h]
  exact actRes_exact (entryCore_exact hE cfg.fl _ a.2.1 a.2.2) hn

theorem leafEq_deq : LeafEq (fun x y => deq x y = true) := ⟨fun hs => deq_leaf (.inl hs), deq_tyOf⟩

theorem isN0K_lookup (kvs : List (Str × Val)) (k : Str) (w : Val) (hn : isN0K kvs = true)
    (h : Val.lookup k kvs = some w) : isN0 w = true :=
  Py.allRec_mem (f := fun kv => isN0 kv.2) (fun ⟨_, _⟩ _ => rfl) hn (Val.lookup_mem h)

theorem otherTail_length (p : Path) : ∀ (ys : List Val) (i : Nat), (otherTail p i ys).length = ys.length
  | [], _ => rfl
  | _ :: ys, i => by simp [otherTail, otherTail_length p ys (i + 1)]

theorem deqK_hasKey : ∀ (kvs o : List (Str × Val)), deqK kvs o = true →
    ∀ kv ∈ kvs, hasKey kv.1 o = true
  | [], _, _, kv, hm => by cases hm
  | (k, v) :: rest, o, h, kv, hm => by
    simp only [deqK, Bool.and_eq_true] at h
    cases hm with
    | head =>
      simp only [hasKey]
      cases hl : Val.lookup k o with
      | none => rw [hl] at h; simp at h
      | some w => rfl
    | tail _ hm' => exact deqK_hasKey rest o h.2 kv hm'

theorem dictTail_diffs_noOpts {cfg : Cfg} (h : NoOpts cfg) (p : Path) (sa oa : Val)
    (skvs okvs : List (Str × Val)) (still : Bool) :
    (dictTail cfg p sa oa skvs okvs still).diffs = 0 ↔
      (skvs.all (fun kv => hasKey kv.1 okvs) = true ∧ okvs.all (fun kv => hasKey kv.1 skvs) = true) := by
  rw [dictTail_diffs_npo h.npo]
  rw [Nat.add_eq_zero_iff, List.length_eq_zero_iff, List.length_eq_zero_iff,
    List.filter_eq_nil_iff, List.filter_eq_nil_iff]
  simp [List.all_eq_true]

/-- What exactness needs of a notion of equality `E` on the trees `G`: on scalars it is equality, and of a pair of
containers it says that the aligned children are `E` and nothing is left over.  How lists are aligned is the business of
the instance (`al`, leftovers `rest`); dictionaries are aligned by key.  Both container fields also return that the class
is `n0` (what `sub_lists_n0` and the class test of `sub_dicts` ask for). -/
structure Exact (cfg : Cfg) (G : Val → Prop) (E : Val → Val → Prop) : Prop where
  leaf : LeafEq E
  none : E .none .none
  list : ∀ p {c xs c' ys}, G (.list c xs) → G (.list c' ys) → c = c' → c = .n0 ∧
    ∃ (al : List AP) (rest : Res),
      listWalk cfg p xs ys = seqAll (al.map (itemOf cfg p (.list .n0 xs) (.list .n0 ys))) (.ok rest) ∧
      (∀ a ∈ al, a.2.1 ∈ xs ∧ G a.2.1 ∧ G a.2.2) ∧
      (E (.list c xs) (.list c' ys) ↔ (∀ a ∈ al, E a.2.1 a.2.2) ∧ rest.diffs = 0)
  dict : ∀ {c kvs c' kvs'}, G (.dict c kvs) → G (.dict c' kvs') → c = c' → c = .n0 ∧
    (∀ a ∈ dictPairs kvs' kvs, G a.2.1 ∧ G a.2.2) ∧
    (E (.dict c kvs) (.dict c' kvs') ↔ (∀ a ∈ dictPairs kvs' kvs, E a.2.1 a.2.2) ∧
      (kvs.all (fun kv => hasKey kv.1 kvs') = true ∧ kvs'.all (fun kv => hasKey kv.1 kvs) = true))

/-- under default options a comparison of two trees of one type succeeds, and it reports no difference iff they are `E` -/
theorem sub_exact {cfg : Cfg} (h : NoOpts cfg) {G : Val → Prop} {E : Val → Val → Prop} (ex : Exact cfg G E) (v : Val) :
    ∀ (site : Site) (p : Path) (w : Val), G v → G w → tyOf v = tyOf w → isPyScalar v = false →
      ∃ r, sub cfg site p v w = .ok r ∧ (r.diffs = 0 ↔ E v w) := by
  induction v using Val.memInduct with
  | none => intro site p w _ _ ht _; rw [tyOf_none_eq ht]; exact ⟨_, sub_none_left, by simp [ex.none]⟩
  | bool b => intro _ _ _ _ _ _ hs; cases hs
  | int b => intro _ _ _ _ _ _ hs; cases hs
  | flt b => intro _ _ _ _ _ _ hs; cases hs
  | str b => intro _ _ _ _ _ _ hs; cases hs
  | list c xs ih =>
    intro site p w hv hw ht _
    obtain ⟨ys, rfl⟩ := tyOf_list_eq ht
    obtain ⟨rfl, al, rest, hwalk, hal, hE⟩ := ex.list p hv hw rfl
    rw [sub_lists_n0 site (excluded_noOpts h p), hwalk, hE]
    exact seqAll_exact (E := fun a : AP => E a.2.1 a.2.2) fun a ha =>
      itemOf_exact h ex.leaf p _ _ a (ih _ (hal a ha).1 Site.item _ _ (hal a ha).2.1 (hal a ha).2.2)
  | dict c kvs ih =>
    intro site p w hv hw ht _
    obtain ⟨kvs', rfl⟩ := tyOf_dict_eq ht
    obtain ⟨rfl, hal, hE⟩ := ex.dict hv hw rfl
    rw [sub_dicts, if_neg (fun hg => nomatch hg.2.2), dictWalk_pairs, hE, ← dictTail_diffs_noOpts h p]
    refine seqAll_exact (E := fun a : AP => E a.2.1 a.2.2) fun a ha => ?_
    obtain ⟨k, _, hm, _⟩ := dictPairs_mem ha
    exact entryOf_exact h ex.leaf p a (ih (k, a.2.1) hm Site.entry _ _ (hal _ ha).1 (hal _ ha).2)

/-! `direct_compare` is exact for structural equality `deq`: positional alignment -/

theorem deqL_pairs (p : Path) : ∀ (xs ys : List Val) (i : Nat),
    deqL xs ys = true ↔ (∀ a ∈ directPairs i xs ys, deq a.2.1 a.2.2 = true) ∧ (directRest p i xs ys).diffs = 0
  | [], ys, i => by cases ys <;> simp [deqL, directPairs, directRest, otherTail_length]
  | x :: xs, [], i => by simp [deqL, directPairs, directRest]
  | x :: xs, y :: ys, i => by
    rw [deqL, Bool.and_eq_true, deqL_pairs p xs ys (i + 1), directPairs, List.forall_mem_cons, directRest, and_assoc]

theorem deqK_pairs (okvs : List (Str × Val)) : ∀ kvs : List (Str × Val),
    deqK kvs okvs = true ↔
      (∀ a ∈ dictPairs okvs kvs, deq a.2.1 a.2.2 = true) ∧ kvs.all (fun kv => hasKey kv.1 okvs) = true
  | [] => ⟨fun _ => ⟨(fun _ h => nomatch h), rfl⟩, fun _ => rfl⟩
  | (k, v) :: rest => by
    rw [deqK, dictPairs, Bool.and_eq_true, deqK_pairs okvs rest, List.all_cons, Bool.and_eq_true, hasKey]
    cases Val.lookup k okvs with
    | none => exact ⟨fun h => Bool.noConfusion h.1, fun h => Bool.noConfusion h.2.1⟩
    | some w =>
      rw [List.forall_mem_cons]
      exact ⟨fun h => ⟨⟨h.1, h.2.1⟩, rfl, h.2.2⟩, fun h => ⟨h.1.1, h.1.2, h.2.2⟩⟩

theorem isN0L_mem (ys : List Val) (y : Val) (hn : isN0L ys = true) (h : y ∈ ys) : isN0 y = true :=
  Py.allRec_mem (fun _ _ => rfl) hn h

theorem isN0K_mem (kvs : List (Str × Val)) (kv : Str × Val) (hn : isN0K kvs = true) (h : kv ∈ kvs) : isN0 kv.2 = true :=
  Py.allRec_mem (f := fun kv => isN0 kv.2) (fun ⟨_, _⟩ _ => rfl) hn h

theorem exact_direct {cfg : Cfg} (hd : cfg.direct = true) :
    Exact cfg (fun v => isN0 v = true) (fun x y => deq x y = true) where
  leaf := leafEq_deq
  none := rfl
  list p c xs c' ys hv hw hc := by
    subst hc
    obtain ⟨rfl, hxs⟩ := isN0_list.1 hv
    refine ⟨rfl, directPairs 0 xs ys, directRest p 0 xs ys, by rw [listWalk_direct hd, directWalk_pairs], ?_, ?_⟩
    · intro a ha
      obtain ⟨_, hx, hy⟩ := directPairs_mem ha
      exact ⟨hx, isN0L_mem xs _ hxs hx, isN0L_mem ys _ (isN0_list.1 hw).2 hy⟩
    · rw [deq, beq_self_eq_true, Bool.true_and, deqL_pairs p xs ys 0]
  dict {c kvs c' kvs'} hv hw hc := by
    subst hc
    obtain ⟨rfl, hk⟩ := isN0_dict.1 hv
    refine ⟨rfl, ?_, ?_⟩
    · intro a ha
      obtain ⟨k, _, hm, hl⟩ := dictPairs_mem ha
      exact ⟨isN0K_mem kvs _ hk hm, isN0K_lookup kvs' k _ (isN0_dict.1 hw).2 hl⟩
    · rw [deq, beq_self_eq_true, Bool.true_and, Bool.and_eq_true, deqK_pairs, and_assoc]

theorem sub_direct_exact (cfg : Cfg) (h : NoOpts cfg) (hd : cfg.direct = true) (site : Site) (p : Path)
    (v w : Val) (hv : isN0 v = true) (hw : isN0 w = true) (ht : tyOf v = tyOf w) (hs : isPyScalar v = false) :
      ∃ r, sub cfg site p v w = .ok r ∧ (r.diffs = 0 ↔ deq v w = true) :=
  sub_exact h (exact_direct hd) v site p w hv hw ht hs

theorem directWalk_direct_exact (cfg : Cfg) (h : NoOpts cfg) (hd : cfg.direct = true) (p : Path)
    (sa oa : Val) (xs ys : List Val) (i : Nat) (hx : isN0L xs = true) (hy : isN0L ys = true) :
      ∃ r, directWalk cfg p sa oa i xs ys = .ok r ∧ (r.diffs = 0 ↔ deqL xs ys = true) := by
  rw [directWalk_pairs, deqL_pairs p xs ys i]
  exact seqAll_exact (E := fun a : AP => deq a.2.1 a.2.2 = true) fun a ha =>
    itemOf_exact h leafEq_deq p sa oa a (sub_direct_exact cfg h hd Site.item _ _ _
      (isN0L_mem xs _ hx (directPairs_mem ha).2.1) (isN0L_mem ys _ hy (directPairs_mem ha).2.2))

/-- a result whose line count equals its entry count -/
def Res.Balanced (r : Res) : Prop := r.diffs = r.count

theorem balanced_append {a b : Res} (ha : a.Balanced) (hb : b.Balanced) : (a ++ b).Balanced := by
  simp only [Res.Balanced, append_diffs, append_count] at *
  omega

theorem balanced_empty : Res.empty.Balanced := rfl

theorem emitShape_balanced {pne pdt : Path} {x y : Val} {r : Res} (h : EmitShape pne pdt x y r) : r.Balanced := by
  rcases h with ⟨k, d, rfl⟩ | rfl | ⟨se, oe, rfl⟩ <;> rfl

theorem dictTail_balanced (cfg : Cfg) (p : Path) (sa oa : Val) (skvs okvs : List (Str × Val)) (still : Bool) :
    (dictTail cfg p sa oa skvs okvs still).Balanced := by
  simp only [Res.Balanced, Res.count, dictTail, List.length_nil, Nat.zero_add, Nat.add_zero]

theorem keyedTail_balanced (p : Path) (sr orr : List KE) : (keyedTail p sr orr).Balanced := by
  simp [keyedTail, Res.Balanced, Res.count]

theorem balanced_walkInv (cfg : Cfg) :
    WalkInv cfg (fun _ => Res.Balanced) (fun _ => Res.Balanced) (fun _ => Res.Balanced) where
  appendD := balanced_append
  appendL := balanced_append
  empty _ := balanced_empty
  ofD h := h
  ofL h := h
  nestD h := h
  nestL _ h := h
  entry h := emitShape_balanced (classifyEntry_emitShape h)
  item _ h := emitShape_balanced (classifyItem_emitShape h)
  dictTail := dictTail_balanced cfg
  keyedTail := keyedTail_balanced
  otherTail p i ys := by simp [Res.Balanced, Res.count]
  selfItem _ _ _ := rfl

theorem directWalk_balanced (cfg : Cfg) (p : Path) (sa oa : Val) (i : Nat) (xs ys : List Val) (r : Res)
    (h : directWalk cfg p sa oa i xs ys = .ok r) : r.Balanced :=
  (balanced_walkInv cfg).of_directWalk p sa oa i xs ys r h

theorem keyedWalk_balanced (cfg : Cfg) (p : Path) (sa oa : Val) (i : Nat) (xs : List Val) (ks : List Str)
    (sr orr : List KE) (r : Res)
    (h : keyedWalk cfg p sa oa i xs ks sr orr = .ok r) : r.Balanced :=
  (balanced_walkInv cfg).of_keyedWalk p sa oa i xs ks sr orr r h

theorem compareTop_balanced (cfg : Cfg) (a b : Val) (r : Res) (h : compareTop cfg a b = .ok r) :
    r.diffs = r.count :=
  (balanced_walkInv cfg).of_compareTop a b r h

theorem flagInv_set (f : Flags) (s : Setter) (v : Bool) (h : FlagInv f) : FlagInv (f.set s v) := by
  obtain ⟨t, d, e, r, el, pl⟩ := f
  cases s with
  | types | delta | place => exact h
  | equal | records | elements => cases v <;> cases r <;> cases el <;> simp_all [FlagInv, Flags.set]

theorem flagInv_run : ∀ (seq : List (Setter × Bool)) (f : Flags), FlagInv f → FlagInv (f.run seq)
  | [], _, h => h
  | (s, v) :: rest, f, h => flagInv_run rest (f.set s v) (flagInv_set f s v h)

/-- a history that reaches a given configuration -/
def historyFor (f : Flags) : List (Setter × Bool) :=
  [(.types, f.types), (.delta, f.delta), (.place, f.place)] ++
    (if f.records then [(.records, true)] else if f.elements then [(.elements, true)] else [])

theorem historyFor_run (f : Flags) (h : FlagInv f) : Flags.init.run (historyFor f) = f := by
  obtain ⟨t, d, e, r, el, pl⟩ := f
  cases r <;> cases el <;> simp_all [FlagInv, historyFor, Flags.run, Flags.set, Flags.init]

/-- what a `transform` may do: every function of `cfg.tr` is a `TrLeafFn` -/
def LeafTransform (cfg : Cfg) : Prop := ∀ t ∈ cfg.tr,
  (∀ c xs, t.f (.list c xs) = .list c xs) ∧ (∀ c kvs, t.f (.dict c kvs) = .dict c kvs) ∧
  (∀ v, isPyScalar v = true → isPyScalar (t.f v) = true) ∧ (isPyScalar (t.f .none) = true ∨ t.f .none = .none)

/-- what `LeafTransform` asks of one function: the identity on containers, scalars to scalars, `None` to a scalar or
`None` -/
structure TrLeafFn (f : Val → Val) : Prop where
  list : ∀ c xs, f (.list c xs) = .list c xs
  dict : ∀ c kvs, f (.dict c kvs) = .dict c kvs
  scalar : ∀ v, isPyScalar v = true → isPyScalar (f v) = true
  none : isPyScalar (f .none) = true ∨ f .none = .none

theorem tr_leafFn_id : TrLeafFn id := ⟨fun _ _ => rfl, fun _ _ => rfl, fun _ h => h, .inr rfl⟩

theorem tr_leafFn_of_mem {cfg : Cfg} (hl : LeafTransform cfg) {t : Tr} (ht : t ∈ cfg.tr) : TrLeafFn t.f :=
  have ⟨h1, h2, h3, h4⟩ := hl t ht
  ⟨h1, h2, h3, h4⟩

theorem tr_leafFn_transformAt {cfg : Cfg} (hl : LeafTransform cfg) (p : Path) : TrLeafFn (transformAt cfg p) := by
  rcases transformAt_cases cfg p with h | ⟨t, ht, h⟩ <;> rw [h]
  · exact tr_leafFn_id
  · exact tr_leafFn_of_mem hl ht

theorem tr_leafTransform_of {cfg : Cfg} (h : ∀ t ∈ cfg.tr, TrLeafFn t.f) : LeafTransform cfg :=
  fun t ht => ⟨(h t ht).list, (h t ht).dict, (h t ht).scalar, (h t ht).none⟩

end N0.Compare
