import N0Verif.Proofs.ComparePairs
/-!
The alignments of `ComparePairs` as lists: what the pairs of a level are when the operands are exchanged (the same
pairs, flipped: in the same order for positions, in the order of the other operand for keys), what the keyed alignment
is when the keys are unique (a lookup), and that the entries it leaves on the two sides share no key.  Nothing here
speaks of results or exceptions.
-/
namespace N0.Compare
open N0

/-- a reported place seen from the other operand: `[i]<>[j]` becomes `[j]<>[i]` -/
def mirrorSeg : PSeg → PSeg
  | .idx2 i j => .idx2 j i
  | s => s

def mirrorPath (p : Path) : Path := p.map mirrorSeg

theorem mirrorPath_snoc (p : Path) (s : PSeg) : mirrorPath (p ++ [s]) = mirrorPath p ++ [mirrorSeg s] := by
  simp [mirrorPath]

theorem mirrorSeg_pairSeg (i j : Nat) : mirrorSeg (pairSeg i j) = pairSeg j i := by
  unfold pairSeg
  by_cases h : i = j
  · rw [if_pos h, if_pos h.symm, h]
    rfl
  · rw [if_neg h, if_neg (fun e => h e.symm)]
    rfl

def AP.flip (a : AP) : AP := (mirrorSeg a.1, a.2.2, a.2.1)

theorem directPairs_swap : ∀ (xs ys : List Val) (i : Nat), directPairs i ys xs = (directPairs i xs ys).map AP.flip
  | [], ys, _ => by cases ys <;> rfl
  | _ :: _, [], _ => rfl
  | x :: xs, y :: ys, i => by
    rw [directPairs, directPairs, List.map_cons, directPairs_swap xs ys (i + 1)]
    rfl

theorem dictPairs_nil_table : ∀ kvs : List (Str × Val), dictPairs [] kvs = []
  | [] => rfl
  | (k, v) :: rest => by rw [dictPairs, Val.lookup]; exact dictPairs_nil_table rest

theorem dictPairs_skip (k : Str) (w : Val) (T : List (Str × Val)) :
    ∀ kvs : List (Str × Val), Val.lookup k kvs = none → dictPairs ((k, w) :: T) kvs = dictPairs T kvs
  | [], _ => rfl
  | (k', v) :: rest, h => by
    rw [Val.lookup] at h
    by_cases hk : k = k'
    · rw [if_pos hk] at h; cases h
    · rw [if_neg hk] at h
      rw [dictPairs, dictPairs, Val.lookup, if_neg (fun e => hk e.symm), dictPairs_skip k w T rest h]

theorem dictPairs_insert (k : Str) (v w : Val) (T : List (Str × Val)) (hT : Val.lookup k T = none) :
    ∀ kvs : List (Str × Val), keysNodup kvs = true → Val.lookup k kvs = some v →
      (dictPairs ((k, w) :: T) kvs).Perm ((.key k, v, w) :: dictPairs T kvs)
  | [], _, h => nomatch h
  | (k', v') :: rest, hn, h => by
    simp only [keysNodup, Bool.and_eq_true, Bool.not_eq_true'] at hn
    rw [Val.lookup] at h
    rw [dictPairs, dictPairs, Val.lookup]
    by_cases hk : k = k'
    · subst hk
      rw [if_pos rfl] at h; cases h
      rw [if_pos rfl, hT, dictPairs_skip k w T rest (by simpa [hasKey] using hn.1)]
    · rw [if_neg hk] at h
      rw [if_neg (fun e => hk e.symm)]
      have ih := dictPairs_insert k v w T hT rest hn.2 h
      cases Val.lookup k' T with
      | none => exact ih
      | some u => exact (ih.cons _).trans (.swap _ _ _)

/-- the common keys with both values, whichever dictionary drives the loop; each loop goes in its own order -/
theorem dictPairs_swap : ∀ (kvs okvs : List (Str × Val)), keysNodup kvs = true → keysNodup okvs = true →
    (dictPairs kvs okvs).Perm ((dictPairs okvs kvs).map AP.flip)
  | [], okvs, _, _ => by rw [dictPairs_nil_table]; exact .refl _
  | (k, v) :: rest, okvs, hn, hno => by
    simp only [keysNodup, Bool.and_eq_true, Bool.not_eq_true'] at hn
    have ih := dictPairs_swap rest okvs hn.2 hno
    rw [dictPairs]
    cases hl : Val.lookup k okvs with
    | none => rw [dictPairs_skip k v rest okvs hl]; exact ih
    | some w => exact (dictPairs_insert k w v rest (by simpa [hasKey] using hn.1) okvs hno hl).trans (ih.cons _)

/-! `keyedPairs` is driven by the items with their keys and positions; exchanging the operands needs both sides as entry
lists. -/

/-- the pairs formed when the entries `L` drive and `T` is searched: the n-th entry with key `K` of `L` meets the n-th
entry with key `K` of `T` -/
def matchedK : List KE → List KE → List AP
  | [], _ => []
  | (k, i, x) :: L, T =>
    match findKey k T with
    | none => matchedK L T
    | some jy => (pairSeg i jy.1, x, jy.2) :: matchedK L (eraseKey k T)

/-- the driving entries that find no partner -/
def lonelyK : List KE → List KE → List KE
  | [], _ => []
  | (k, i, x) :: L, T =>
    match findKey k T with
    | none => (k, i, x) :: lonelyK L T
    | some _ => lonelyK L (eraseKey k T)

/-- the searched entries that are left at the end -/
def restK : List KE → List KE → List KE
  | [], T => T
  | (k, _, _) :: L, T =>
    match findKey k T with
    | none => restK L T
    | some _ => restK L (eraseKey k T)

theorem keyedPairs_eq_matchedK : ∀ (xs : List Val) (ks : List Str) (i : Nat) (orr : List KE),
    keyedPairs i xs ks orr = matchedK (mkEntries i ks xs) orr
  | [], ks, _, _ => by cases ks <;> rfl
  | _ :: _, [], _, _ => rfl
  | x :: xs, k :: ks, i, orr => by
    rw [keyedPairs, mkEntries, matchedK]
    cases findKey k orr with
    | none => exact keyedPairs_eq_matchedK xs ks (i + 1) orr
    | some jy => dsimp only; rw [keyedPairs_eq_matchedK xs ks (i + 1)]

/-- `U`: the left entries passed without partner; their keys are not in the table, so a later hit erases none of them -/
theorem keyedLeft_eq : ∀ (xs : List Val) (ks : List Str) (i : Nat) (U orr : List KE), ks.length = xs.length →
    (∀ e ∈ U, findKey e.1 orr = none) →
    keyedLeft ks (U ++ mkEntries i ks xs) orr =
      (U ++ lonelyK (mkEntries i ks xs) orr, restK (mkEntries i ks xs) orr)
  | [], [], _, U, orr, _, _ => by simp only [keyedLeft, mkEntries, lonelyK, restK]
  | [], _ :: _, _, _, _, h, _ => nomatch h
  | _ :: _, [], _, _, _, h, _ => nomatch h
  | x :: xs, k :: ks, i, U, orr, hl, hU => by
    have hl' : ks.length = xs.length := Nat.succ.inj hl
    rw [keyedLeft, mkEntries, lonelyK, restK]
    cases hf : findKey k orr with
    | none =>
      have hU' : ∀ e ∈ U ++ [(k, i, x)], findKey e.1 orr = none := by
        intro e he
        rcases List.mem_append.1 he with he | he
        · exact hU e he
        · cases List.mem_singleton.1 he; exact hf
      have ih := keyedLeft_eq xs ks (i + 1) (U ++ [(k, i, x)]) orr hl' hU'
      rw [List.append_assoc, List.append_assoc, List.singleton_append] at ih
      exact ih
    | some jy =>
      have hUk : ∀ e ∈ U, e.1 ≠ k := fun e he hh => by
        have := hU e he
        rw [hh, hf] at this
        cases this
      have hU' : ∀ e ∈ U, findKey e.1 (eraseKey k orr) = none := fun e he => by
        rw [findKey_eraseKey_ne (hUk e he)]
        exact hU e he
      dsimp only
      rw [eraseKey_append_hit i x _ U hUk]
      exact keyedLeft_eq xs ks (i + 1) U (eraseKey k orr) hl' hU'

theorem findKey_cons_ne {k k' : Str} (i : Nat) (x : Val) (L : List KE) (h : k' ≠ k) :
    findKey k' ((k, i, x) :: L) = findKey k' L := by
  rw [findKey, if_neg h]

theorem eraseKey_cons_ne {k k' : Str} (i : Nat) (x : Val) (L : List KE) (h : k' ≠ k) :
    eraseKey k' ((k, i, x) :: L) = (k, i, x) :: eraseKey k' L := by
  rw [eraseKey, if_neg h]

theorem alignK_nil : ∀ T : List KE, matchedK T [] = [] ∧ lonelyK T [] = T ∧ restK T [] = []
  | [] => ⟨rfl, rfl, rfl⟩
  | (k, j, y) :: T => by
    obtain ⟨h1, h2, h3⟩ := alignK_nil T
    simp only [matchedK, lonelyK, restK, findKey, h1, h2, h3, and_self]

theorem alignK_miss (k : Str) (i : Nat) (x : Val) : ∀ (T L : List KE), (∀ e ∈ T, e.1 ≠ k) →
    matchedK T ((k, i, x) :: L) = matchedK T L ∧ lonelyK T ((k, i, x) :: L) = lonelyK T L ∧
      restK T ((k, i, x) :: L) = (k, i, x) :: restK T L
  | [], _, _ => ⟨rfl, rfl, rfl⟩
  | (k', j, y) :: T, L, hT => by
    have hne : k' ≠ k := hT (k', j, y) List.mem_cons_self
    have hT' : ∀ e ∈ T, e.1 ≠ k := fun e he => hT e (List.mem_cons_of_mem _ he)
    simp only [matchedK, lonelyK, restK]
    rw [findKey_cons_ne i x L hne]
    cases findKey k' L with
    | none =>
      obtain ⟨h1, h2, h3⟩ := alignK_miss k i x T L hT'
      simp only [h1, h2, h3, and_self]
    | some iy =>
      rw [eraseKey_cons_ne i x L hne]
      obtain ⟨h1, h2, h3⟩ := alignK_miss k i x T (eraseKey k' L) hT'
      simp only [h1, h2, h3, and_self]

theorem alignK_hit (k : Str) (i : Nat) (x : Val) (j : Nat) (y : Val) : ∀ (T L : List KE),
    findKey k T = some (j, y) →
    (matchedK T ((k, i, x) :: L)).Perm ((pairSeg j i, y, x) :: matchedK (eraseKey k T) L) ∧
      lonelyK T ((k, i, x) :: L) = lonelyK (eraseKey k T) L ∧ restK T ((k, i, x) :: L) = restK (eraseKey k T) L
  | [], _, h => nomatch h
  | (k', j', y') :: T, L, h => by
    by_cases hk : k = k'
    · subst hk
      rw [findKey, if_pos rfl] at h
      cases h
      simp only [matchedK, lonelyK, restK, findKey, eraseKey, if_true, and_self, and_true]
      exact .refl _
    · have hne : k' ≠ k := fun e => hk e.symm
      rw [findKey, if_neg hk] at h
      rw [eraseKey, if_neg hk]
      simp only [matchedK, lonelyK, restK]
      rw [findKey_cons_ne i x L hne]
      cases findKey k' L with
      | none =>
        obtain ⟨h1, h2, h3⟩ := alignK_hit k i x j y T L h
        exact ⟨h1, by rw [h2], h3⟩
      | some iy =>
        rw [eraseKey_cons_ne i x L hne]
        obtain ⟨h1, h2, h3⟩ := alignK_hit k i x j y T (eraseKey k' L) h
        exact ⟨(h1.cons _).trans (.swap _ _ _), h2, h3⟩

/-- driven from the other side, the same pairs are formed (in the order of the other list) and the same entries stay
alone -/
theorem alignK_swap : ∀ (L T : List KE),
    (matchedK T L).Perm ((matchedK L T).map AP.flip) ∧ lonelyK T L = restK L T ∧ restK T L = lonelyK L T
  | [], T => by
    obtain ⟨h1, h2, h3⟩ := alignK_nil T
    rw [h1, h2, h3]
    exact ⟨.refl _, rfl, rfl⟩
  | (k, i, x) :: L, T => by
    simp only [matchedK, lonelyK, restK]
    cases hf : findKey k T with
    | none =>
      obtain ⟨h1, h2, h3⟩ := alignK_miss k i x T L (findKey_none_ne hf)
      obtain ⟨g1, g2, g3⟩ := alignK_swap L T
      rw [h1, h2, h3, g3]
      exact ⟨g1, g2, rfl⟩
    | some jy =>
      obtain ⟨j, y⟩ := jy
      obtain ⟨h1, h2, h3⟩ := alignK_hit k i x j y T L hf
      obtain ⟨g1, g2, g3⟩ := alignK_swap L (eraseKey k T)
      rw [h2, h3]
      refine ⟨h1.trans ?_, g2, g3⟩
      rw [List.map_cons, AP.flip, mirrorSeg_pairSeg]
      exact g1.cons _

theorem keyed_swap (xs ys : List Val) (ks ko : List Str) (hl : ks.length = xs.length) (hlo : ko.length = ys.length) :
    (keyedPairs 0 ys ko (mkEntries 0 ks xs)).Perm ((keyedPairs 0 xs ks (mkEntries 0 ko ys)).map AP.flip) ∧
    (keyedLeft ko (mkEntries 0 ko ys) (mkEntries 0 ks xs)).1 = (keyedLeft ks (mkEntries 0 ks xs) (mkEntries 0 ko ys)).2 ∧
    (keyedLeft ko (mkEntries 0 ko ys) (mkEntries 0 ks xs)).2 = (keyedLeft ks (mkEntries 0 ks xs) (mkEntries 0 ko ys)).1 := by
  have h1 := keyedLeft_eq xs ks 0 [] (mkEntries 0 ko ys) hl (fun _ he => nomatch he)
  have h2 := keyedLeft_eq ys ko 0 [] (mkEntries 0 ks xs) hlo (fun _ he => nomatch he)
  rw [List.nil_append, List.nil_append] at h1 h2
  obtain ⟨g1, g2, g3⟩ := alignK_swap (mkEntries 0 ks xs) (mkEntries 0 ko ys)
  rw [h1, h2, keyedPairs_eq_matchedK, keyedPairs_eq_matchedK]
  exact ⟨g1, g2, g3⟩

theorem restK_sub : ∀ (L T : List KE), ∀ e ∈ restK L T, e ∈ T
  | [], _, _, h => h
  | (k, i, x) :: L, T, e, h => by
    simp only [restK] at h
    cases hf : findKey k T with
    | none => rw [hf] at h; exact restK_sub L T e h
    | some jy => rw [hf] at h; exact eraseKey_sub T k e (restK_sub L _ e h)

/-- a driving entry stays alone because no entry of the table has its key; what is left of the table at the end was
there then -/
theorem lonely_rest_disjoint : ∀ (L T : List KE), ∀ e ∈ lonelyK L T, ∀ e' ∈ restK L T, e.1 ≠ e'.1
  | [], _, _, h, _, _ => nomatch h
  | (k, i, x) :: L, T, e, h, e', h' => by
    simp only [lonelyK] at h
    simp only [restK] at h'
    cases hf : findKey k T with
    | none =>
      rw [hf] at h h'
      rcases List.mem_cons.1 h with rfl | h
      · exact fun hh => findKey_none_ne hf e' (restK_sub L T e' h') hh.symm
      · exact lonely_rest_disjoint L T e h e' h'
    | some jy => rw [hf] at h h'; exact lonely_rest_disjoint L _ e h e' h'

theorem keyedLeft_disjoint (xs ys : List Val) (ks ko : List Str) (hl : ks.length = xs.length) :
    ∀ e ∈ (keyedLeft ks (mkEntries 0 ks xs) (mkEntries 0 ko ys)).1,
      ∀ e' ∈ (keyedLeft ks (mkEntries 0 ks xs) (mkEntries 0 ko ys)).2, e.1 ≠ e'.1 := by
  have h1 := keyedLeft_eq xs ks 0 [] (mkEntries 0 ko ys) hl (fun _ he => nomatch he)
  rw [List.nil_append, List.nil_append] at h1
  rw [h1]
  exact lonely_rest_disjoint _ _

/-! ### unique keys: the alignment is a lookup -/

theorem filter_notin_cons_of_ne {k : Str} (ks : List Str) {l : List KE} (h : ∀ e ∈ l, e.1 ≠ k) :
    l.filter (fun e => decide (e.1 ∉ k :: ks)) = l.filter (fun e => decide (e.1 ∉ ks)) := by
  apply List.filter_congr
  intro e he
  simp [h e he]

theorem eraseKey_filter {k : Str} (ks : List Str) :
    ∀ l : List KE, (l.map (·.1)).Nodup →
      (eraseKey k l).filter (fun e => decide (e.1 ∉ ks)) = l.filter (fun e => decide (e.1 ∉ k :: ks))
  | [], _ => by simp [eraseKey]
  | (k0, i, v) :: rest, hn => by
    simp only [List.map_cons, List.nodup_cons] at hn
    simp only [eraseKey]
    by_cases h0 : k = k0
    · subst h0
      have hne : ∀ e ∈ rest, e.1 ≠ k := by
        intro e he hh
        exact hn.1 (hh ▸ List.mem_map_of_mem he)
      simp only [↓reduceIte]
      rw [List.filter_cons_of_neg (by simp), filter_notin_cons_of_ne ks hne]
    · simp only [h0, ↓reduceIte]
      rw [List.filter_cons, List.filter_cons, eraseKey_filter ks rest hn.2]
      have : (decide (k0 ∉ k :: ks)) = decide (k0 ∉ ks) := by
        simp [Ne.symm h0]
      simp only [this]

theorem lonelyK_nodup : ∀ (L T : List KE), (L.map (·.1)).Nodup →
    lonelyK L T = L.filter (fun e => (findKey e.1 T).isNone)
  | [], _, _ => rfl
  | (k, i, x) :: L, T, hn => by
    rw [List.map_cons, List.nodup_cons] at hn
    simp only [lonelyK]
    cases hf : findKey k T with
    | none => rw [List.filter_cons_of_pos (by simp [hf]), lonelyK_nodup L T hn.2]
    | some jy =>
      simp only
      rw [List.filter_cons_of_neg (by simp [hf]), lonelyK_nodup L _ hn.2]
      refine List.filter_congr fun e he => ?_
      have hne : e.1 ≠ k := fun hh => hn.1 (hh ▸ List.mem_map_of_mem (f := (·.1)) he)
      rw [findKey_eraseKey_ne hne]

theorem restK_nodup : ∀ (L T : List KE), (T.map (·.1)).Nodup →
    restK L T = T.filter (fun e => decide (e.1 ∉ L.map (·.1)))
  | [], T, _ => (List.filter_eq_self.2 (fun _ _ => by simp)).symm
  | (k, i, x) :: L, T, hn => by
    simp only [restK, List.map_cons]
    cases hf : findKey k T with
    | none => rw [restK_nodup L T hn, filter_notin_cons_of_ne _ (findKey_none_ne hf)]
    | some jy =>
      simp only
      rw [restK_nodup L _ ((eraseKey_keys_sublist k T).nodup hn), eraseKey_filter _ T hn]

end N0.Compare
