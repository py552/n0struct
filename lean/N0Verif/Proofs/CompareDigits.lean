import N0Verif.Model.Compare
import N0Verif.Proofs.Digits
/-!
  `Compare.natStr`, the compare model's own `str(n)` (written with an accumulator so that it reduces in the kernel),
  is `Py.natDigits`; what is known about the digits of `Py.natDigits` holds for it.
-/
namespace N0.Compare
open N0 N0.Py

theorem natDigitsAux_eq (f : Nat) : ∀ (n : Nat) (acc : List Char), n < f →
    natDigitsAux f n acc = Py.natDigitsAux f n ++ acc :=
  Py.accDigits_eq natDigitsAux (fun _ _ _ => rfl) f

theorem natStr_eq_natDigits (n : Nat) : natStr n = Py.natDigits n := by
  rw [natStr, natDigitsAux_eq (n + 1) n [] (Nat.lt_succ_self n), List.append_nil]
  rfl

theorem natStr_all_digit (n : Nat) : ∀ c ∈ natStr n, isAsciiDigit c = true := by
  rw [natStr_eq_natDigits]
  exact natDigits_all_digit n

theorem natStr_ne_nil (n : Nat) : natStr n ≠ [] := by
  rw [natStr_eq_natDigits]
  exact natDigits_ne_nil n

end N0.Compare
