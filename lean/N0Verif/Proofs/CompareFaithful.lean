import N0Verif.Proofs.CompareWalk
import N0Verif.Py.ListLemmas
/-!
The reports of the compare engine are FAITHFUL to the operands (`Faith`): every reported path resolves in the operands
(`getAt`) to the reported values, for every option record and both entry points, given unique dictionary keys (`wf`).
`Located` is the interface for such value-indexed properties, with two instances: `Faith`, and at the end of the file
`Absent` (every unique entry names a node that is absent at that place on the other side).  The part in between needs no
`wf`: a property of results alone (`all_inv`), and with it that reported pairs do differ (`Differ`).
-/
namespace N0.Compare
open N0

inductive Side | left | right
  deriving DecidableEq

/-- one step of a reported path: `[i]<>[j]` means index `i` in the left operand and `j` in the right one -/
def segGet (s : Side) : PSeg → Val → Option Val
  | .key k, .dict _ kvs => Val.lookup k kvs
  | .idx i, .list _ xs => xs[i]?
  | .idx2 i j, .list _ xs => xs[if s = .left then i else j]?
  | _, _ => none

/-- the node a reported path names in the operand of side `s`.  Not `N0.getAt` (`Model/Tree`): a compare `Path` has the segment
`[i]<>[j]`, resolved per side; on keys and plain indexes `segGet` is `N0.child`, and the recursion is the same. -/
def getAt (s : Side) : Path → Val → Option Val
  | [], v => some v
  | seg :: rest, v => (segGet s seg v).bind (getAt s rest)

theorem getAt_append (s : Side) : ∀ (p q : Path) (v : Val),
    getAt s (p ++ q) v = (getAt s p v).bind (getAt s q)
  | [], q, v => by simp [getAt]
  | seg :: p, q, v => by
    simp only [List.cons_append, getAt]
    cases segGet s seg v with
    | none => rfl
    | some u => simp [getAt_append s p q u]

mutual
/-- dictionary keys are unique everywhere (what Python guarantees), by `keysNodup` of `CompareWalkEq`.  Not `N0.Json.wf`
(Proofs/JsonReader.lean: JSON-representable trees, which also asks float lexemes to be JSON's): a different function under
the same name; C07 states the same as this one as `uniqKeys` (`Compare`). -/
def wf : Val → Bool
  | .list _ xs => wfL xs
  | .dict _ kvs => wfK kvs && keysNodup kvs
  | _ => true
def wfL : List Val → Bool
  | [] => true
  | x :: xs => wf x && wfL xs
def wfK : List (Str × Val) → Bool
  | [] => true
  | (_, x) :: xs => wf x && wfK xs
end

theorem wfL_mem (xs : List Val) (x : Val) (hw : wfL xs = true) (h : x ∈ xs) : wf x = true :=
  Py.allRec_mem (fun _ _ => rfl) hw h

theorem wfK_mem (kvs : List (Str × Val)) (k : Str) (v : Val) (hw : wfK kvs = true) (h : (k, v) ∈ kvs) : wf v = true :=
  Py.allRec_mem (f := fun kv => wf kv.2) (fun ⟨_, _⟩ _ => rfl) hw h

theorem wfK_lookup (kvs : List (Str × Val)) (k : Str) (w : Val) (hw : wfK kvs = true)
    (h : Val.lookup k kvs = some w) : wf w = true :=
  wfK_mem kvs k w hw (Val.lookup_mem h)

theorem wfL_get (xs : List Val) (n : Nat) (x : Val) (hw : wfL xs = true) (h : xs[n]? = some x) : wf x = true :=
  wfL_mem xs x hw (List.mem_of_getElem? h)

@[simp] theorem segGet_key (s : Side) (k : Str) (c : Cls) (kvs : List (Str × Val)) :
    segGet s (.key k) (.dict c kvs) = Val.lookup k kvs := rfl
@[simp] theorem segGet_idx (s : Side) (i : Nat) (c : Cls) (xs : List Val) :
    segGet s (.idx i) (.list c xs) = xs[i]? := rfl
@[simp] theorem segGet_idx2_left (i j : Nat) (c : Cls) (xs : List Val) :
    segGet .left (.idx2 i j) (.list c xs) = xs[i]? := rfl
@[simp] theorem segGet_idx2_right (i j : Nat) (c : Cls) (xs : List Val) :
    segGet .right (.idx2 i j) (.list c xs) = xs[j]? := rfl

theorem segGet_keyed_left (i j : Nat) (c : Cls) (xs : List Val) :
    segGet .left (pairSeg i j) (.list c xs) = xs[i]? := by
  unfold pairSeg
  split <;> rfl

theorem segGet_keyed_right (i j : Nat) (c : Cls) (xs : List Val) :
    segGet .right (pairSeg i j) (.list c xs) = xs[j]? := by
  unfold pairSeg
  by_cases h : i = j
  · rw [if_pos h, h]
    rfl
  · rw [if_neg h]
    rfl

theorem getAt_cons {s : Side} {seg : PSeg} {q : Path} {A v u : Val} (h : segGet s seg A = some v)
    (hq : getAt s q v = some u) : getAt s (seg :: q) A = some u := by
  rw [getAt, h]
  exact hq

theorem getAt_single (s : Side) (seg : PSeg) (A x : Val) (h : segGet s seg A = some x) :
    getAt s [seg] A = some x :=
  getAt_cons h rfl

structure Faith (cfg : Cfg) (p : Path) (A B : Val) (r : Res) : Prop where
  ne : ∀ e ∈ r.notEqual, ∃ q, e.path = p ++ q ∧ getAt .left q A = some e.l ∧ getAt .right q B = some e.r
  su : ∀ e ∈ r.selfUnique, ∃ q, e.path = p ++ q ∧ getAt .left q A = some e.v
  ou : ∀ e ∈ r.otherUnique, ∃ q, e.path = p ++ q ∧ getAt .right q B = some e.v
  dt : ∀ e ∈ r.diffTypes, ∃ q, e.path = p ++ q ∧ getAt .left q A = some e.l ∧ getAt .right q B = some e.r

theorem faith_append {cfg : Cfg} {p : Path} {A B : Val} {a b : Res}
    (ha : Faith cfg p A B a) (hb : Faith cfg p A B b) : Faith cfg p A B (a ++ b) :=
  ⟨List.forall_mem_append.2 ⟨ha.ne, hb.ne⟩, List.forall_mem_append.2 ⟨ha.su, hb.su⟩,
    List.forall_mem_append.2 ⟨ha.ou, hb.ou⟩, List.forall_mem_append.2 ⟨ha.dt, hb.dt⟩⟩

theorem faith_empty (cfg : Cfg) (p : Path) (A B : Val) : Faith cfg p A B Res.empty :=
  ⟨(fun _ h => nomatch h), (fun _ h => nomatch h), (fun _ h => nomatch h), (fun _ h => nomatch h)⟩

theorem Faith.lift {cfg : Cfg} {p : Path} {seg : PSeg} {A B v w : Val} {r : Res}
    (hl : segGet .left seg A = some v) (hr : segGet .right seg B = some w)
    (h : Faith cfg (p ++ [seg]) v w r) : Faith cfg p A B r := by
  have hp : ∀ {path q}, path = p ++ [seg] ++ q → path = p ++ seg :: q := fun h => by
    rw [h, List.append_assoc]
    rfl
  refine ⟨fun e he => ?_, fun e he => ?_, fun e he => ?_, fun e he => ?_⟩
  · obtain ⟨q, hq, h1, h2⟩ := h.ne e he
    exact ⟨seg :: q, hp hq, getAt_cons hl h1, getAt_cons hr h2⟩
  · obtain ⟨q, hq, h1⟩ := h.su e he
    exact ⟨seg :: q, hp hq, getAt_cons hl h1⟩
  · obtain ⟨q, hq, h1⟩ := h.ou e he
    exact ⟨seg :: q, hp hq, getAt_cons hr h1⟩
  · obtain ⟨q, hq, h1, h2⟩ := h.dt e he
    exact ⟨seg :: q, hp hq, getAt_cons hl h1, getAt_cons hr h2⟩

theorem faith_of_shape {cfg : Cfg} {p : Path} {seg : PSeg} {A B x y : Val} {r : Res}
    (hs : EmitShape (p ++ [seg]) (p ++ [seg]) x y r)
    (hl : segGet .left seg A = some x) (hr : segGet .right seg B = some y) : Faith cfg p A B r := by
  rcases hs with ⟨k, d, rfl⟩ | rfl | ⟨se, oe, rfl⟩
  · exact ⟨fun _ he => by cases List.mem_singleton.1 he; exact ⟨[seg], rfl, getAt_single _ _ _ _ hl, getAt_single _ _ _ _ hr⟩,
      (fun _ h => nomatch h), (fun _ h => nomatch h), (fun _ h => nomatch h)⟩
  · exact ⟨(fun _ h => nomatch h), (fun _ h => nomatch h), (fun _ h => nomatch h),
      fun _ he => by cases List.mem_singleton.1 he; exact ⟨[seg], rfl, getAt_single _ _ _ _ hl, getAt_single _ _ _ _ hr⟩⟩
  · exact ⟨(fun _ h => nomatch h), (fun _ h => nomatch h), (fun _ h => nomatch h), (fun _ h => nomatch h)⟩

theorem leftover_eq {cfg : Cfg} {p : Path} {kv : Str × Val} {e : UE} (h : leftover cfg p kv = some e) :
    e = ⟨p ++ [.key kv.1], kv.2⟩ := by
  simp only [leftover] at h
  split at h
  · cases h; rfl
  · cases h

theorem dictTail_faith (cfg : Cfg) (p : Path) (sa oa : Val) (c c' : Cls) (skvs okvs : List (Str × Val))
    (still : Bool) (hs : keysNodup skvs = true) (ho : keysNodup okvs = true) :
    Faith cfg p (.dict c skvs) (.dict c' okvs) (dictTail cfg p sa oa skvs okvs still) := by
  have key : ∀ (s : Side) (c : Cls) (kvs : List (Str × Val)) (f : Str × Val → Bool), keysNodup kvs = true →
      ∀ e ∈ (kvs.filter f).filterMap (leftover cfg p),
        ∃ q, e.path = p ++ q ∧ getAt s q (.dict c kvs) = some e.v := by
    intro s c kvs f hn e he
    obtain ⟨kv, hm, hlo⟩ := List.mem_filterMap.1 he
    cases leftover_eq hlo
    exact ⟨[.key kv.1], rfl, getAt_single _ _ _ _ (lookup_of_mem kvs kv.1 kv.2 hn (List.mem_filter.1 hm).1)⟩
  exact ⟨(fun _ h => nomatch h), key .left c skvs _ hs, key .right c' okvs _ ho, (fun _ h => nomatch h)⟩

theorem keyedTail_faith (cfg : Cfg) (p : Path) (c c' : Cls) (sl ol : List Val) (sr orr : List KE)
    (hsr : ∀ e ∈ sr, sl[e.2.1]? = some e.2.2) (horr : ∀ e ∈ orr, ol[e.2.1]? = some e.2.2) :
    Faith cfg p (.list c sl) (.list c' ol) (keyedTail p sr orr) := by
  have key : ∀ (s : Side) (c : Cls) (l : List Val) (rem : List KE), (∀ e ∈ rem, l[e.2.1]? = some e.2.2) →
      ∀ e ∈ rem.map (fun e => (⟨p ++ [.idx e.2.1], e.2.2⟩ : UE)),
        ∃ q, e.path = p ++ q ∧ getAt s q (.list c l) = some e.v := by
    intro s c l rem h e he
    obtain ⟨ke, hm, rfl⟩ := List.mem_map.1 he
    exact ⟨[.idx ke.2.1], rfl, getAt_single _ _ _ _ (h ke hm)⟩
  exact ⟨(fun _ h => nomatch h), key .left c sl sr hsr, key .right c' ol orr horr, (fun _ h => nomatch h)⟩

theorem getElem?_shift {x : Val} {xs sl : List Val} {i : Nat} (h : ∀ n, (x :: xs)[n]? = sl[i + n]?) :
    sl[i]? = some x ∧ ∀ n, xs[n]? = sl[i + 1 + n]? := by
  refine ⟨(h 0).symm, fun n => ?_⟩
  have := h (n + 1)
  rw [List.getElem?_cons_succ] at this
  rw [this, Nat.add_assoc, Nat.add_comm 1 n]

theorem mkEntries_get (sl : List Val) : ∀ (ks : List Str) (xs : List Val) (i : Nat),
    (∀ n, xs[n]? = sl[i + n]?) → ∀ e ∈ mkEntries i ks xs, sl[e.2.1]? = some e.2.2
  | [], _, _, _, e, h => by simp [mkEntries] at h
  | _ :: _, [], _, _, e, h => by simp [mkEntries] at h
  | k :: ks, x :: xs, i, hx, e, h => by
    rw [mkEntries] at h
    rcases List.mem_cons.1 h with rfl | h
    · exact (getElem?_shift hx).1
    · exact mkEntries_get sl ks xs (i + 1) (getElem?_shift hx).2 e h

/-! `Q p A B r`: the result `r`, reported under the prefix `p`, is right about the operands `A`, `B`.  Such a property
holds of every result as soon as it holds of the leaves, is kept by `++`, and can be carried out of a container
along the segment that leads into it. -/

structure Located (cfg : Cfg) (Q : Path → Val → Val → Res → Prop) : Prop where
  append : ∀ {p A B a b}, Q p A B a → Q p A B b → Q p A B (a ++ b)
  lift : ∀ {p seg A B v w r}, segGet Side.left seg A = some v → segGet Side.right seg B = some w →
    Q (p ++ [seg]) v w r → Q p A B r
  empty : ∀ p A B, Q p A B Res.empty
  item : ∀ {p seg sa oa A B x y r s}, classifyItem cfg p (p ++ [seg]) (p ++ [seg]) sa oa x y = Act.emit r s →
    segGet Side.left seg A = some x → segGet Side.right seg B = some y → Q p A B r
  entry : ∀ {p k A B x y r s}, classifyEntry cfg (p ++ [PSeg.key k]) x y = Act.emit r s →
    segGet Side.left (PSeg.key k) A = some x → segGet Side.right (PSeg.key k) B = some y → Q p A B r
  dictTail : ∀ p sa oa c c' skvs okvs still, keysNodup skvs = true → keysNodup okvs = true →
    Q p (Val.dict c skvs) (Val.dict c' okvs) (dictTail cfg p sa oa skvs okvs still)
  keyedTail : ∀ p c c' sl ol sr orr, cfg.direct = false →
    (∀ e ∈ sr, sl[e.2.1]? = some e.2.2) → (∀ e ∈ orr, ol[e.2.1]? = some e.2.2) →
    Q p (Val.list c sl) (Val.list c' ol) (keyedTail p sr orr)
  otherTail : ∀ p c c' sl ol i ys, sl.length ≤ i → (∀ n, ys[n]? = ol[i + n]?) →
    Q p (Val.list c sl) (Val.list c' ol) { diffs := (otherTail p i ys).length, otherUnique := otherTail p i ys }
  selfOnly : ∀ p c c' sl ol i x, sl[i]? = some x → ol.length ≤ i →
    Q p (Val.list c sl) (Val.list c' ol) { diffs := 1, selfUnique := [⟨p ++ [PSeg.idx i], x⟩] }

theorem length_le_of_shift {sl : List Val} {i : Nat} (h : ∀ n, ([] : List Val)[n]? = sl[i + n]?) : sl.length ≤ i :=
  List.getElem?_eq_none_iff.1 (h 0).symm

theorem wfL_cons {x : Val} {xs : List Val} (h : wfL (x :: xs) = true) : wf x = true ∧ wfL xs = true := by
  simpa only [wfL, Bool.and_eq_true] using h

theorem wfK_cons {k : Str} {x : Val} {xs : List (Str × Val)} (h : wfK ((k, x) :: xs) = true) :
    wf x = true ∧ wfK xs = true := by
  simpa only [wfK, Bool.and_eq_true] using h

theorem directPairs_sits {a : AP} {c c' : Cls} {sl ol xs ys : List Val} {i : Nat} (hx : ∀ n, xs[n]? = sl[i + n]?)
    (hy : ∀ n, ys[n]? = ol[i + n]?) (h : a ∈ directPairs i xs ys) :
    segGet .left a.1 (.list c sl) = some a.2.1 ∧ segGet .right a.1 (.list c' ol) = some a.2.2 := by
  obtain ⟨n, h1, h2, h3⟩ := directPairs_get h
  rw [h1]
  exact ⟨(hx n).symm.trans h2, (hy n).symm.trans h3⟩

theorem keyedPairs_sits {a : AP} {c c' : Cls} {sl ol xs : List Val} {ks : List Str} {i : Nat} {orr : List KE}
    (hx : ∀ n, xs[n]? = sl[i + n]?) (ho : ∀ e ∈ orr, ol[e.2.1]? = some e.2.2) (h : a ∈ keyedPairs i xs ks orr) :
    segGet .left a.1 (.list c sl) = some a.2.1 ∧ segGet .right a.1 (.list c' ol) = some a.2.2 := by
  obtain ⟨n, j, k, h1, h2, h3⟩ := keyedPairs_get h
  rw [h1]
  exact ⟨(segGet_keyed_left _ j c sl).trans ((hx n).symm.trans h2), (segGet_keyed_right _ j c' ol).trans (ho _ h3)⟩

theorem Aligned.sits {A B : Val} {a : AP} (h : Aligned A B a) (hA : wf A = true) (hB : wf B = true) :
    (segGet .left a.1 A = some a.2.1 ∧ segGet .right a.1 B = some a.2.2) ∧ wf a.2.1 = true ∧ wf a.2.2 = true := by
  have z0 : ∀ (l : List Val) (n : Nat), l[n]? = l[0 + n]? := fun _ _ => by rw [Nat.zero_add]
  cases A with
  | dict c kvs =>
    cases B with
    | dict c' kvs' =>
      simp only [wf, Bool.and_eq_true] at hA hB
      obtain ⟨k, hk, hm, hl⟩ := dictPairs_mem h
      obtain ⟨s, x, y⟩ := a
      cases hk
      exact ⟨⟨lookup_of_mem kvs k x hA.2 hm, hl⟩, wfK_mem kvs k x hA.1 hm, wfK_lookup kvs' k y hB.1 hl⟩
    | _ => exact h.elim
  | list c xs =>
    cases B with
    | list c' ys =>
      rw [wf] at hA hB
      rcases h with h | ⟨ks, ko, h⟩
      · exact ⟨directPairs_sits (z0 xs) (z0 ys) h, wfL_mem xs _ hA (directPairs_mem h).2.1,
          wfL_mem ys _ hB (directPairs_mem h).2.2⟩
      · obtain ⟨_, hx, k, j, hy⟩ := keyedPairs_mem h
        exact ⟨keyedPairs_sits (z0 xs) (mkEntries_get ys ko ys 0 (z0 ys)) h, wfL_mem xs _ hA hx,
          wfL_mem ys _ hB (mkEntries_mem_val ko ys 0 _ hy)⟩
    | _ => exact h.elim
  | _ => exact h.elim

namespace Located
variable {cfg : Cfg} {Q : Path → Val → Val → Res → Prop} (H : Located cfg Q)
include H

theorem item_loc {p : Path} {sa oa A B : Val} {a : AP} (hl : segGet .left a.1 A = some a.2.1)
    (hr : segGet .right a.1 B = some a.2.2)
    (hS : ∀ r, Compare.sub cfg .item (p ++ [a.1]) a.2.1 a.2.2 = .ok r → Q (p ++ [a.1]) a.2.1 a.2.2 r) {r : Res}
    (h : itemOf cfg p sa oa a = .ok r) : Q p A B r := by
  rcases actRes_ok (itemOf_eq .. ▸ h) with ⟨s, hc⟩ | ⟨_, hn⟩
  · exact H.item hc hl hr
  · exact H.lift hl hr (hS r hn)

theorem directRest_loc (p : Path) (c c' : Cls) (sl ol : List Val) : ∀ (xs ys : List Val) (i : Nat),
    (∀ n, xs[n]? = sl[i + n]?) → (∀ n, ys[n]? = ol[i + n]?) → Q p (.list c sl) (.list c' ol) (directRest p i xs ys)
  | [], ys, i, hx, hy => H.otherTail p c c' sl ol i ys (length_le_of_shift hx) hy
  | x :: xs, [], i, hx, hy =>
    H.append (H.selfOnly p c c' sl ol i x (getElem?_shift hx).1 (length_le_of_shift hy))
      (directRest_loc p c c' sl ol xs [] (i + 1) (getElem?_shift hx).2
        (fun n => by rw [Nat.add_assoc, ← hy (1 + n)]; rfl))
  | _ :: xs, _ :: ys, i, hx, hy =>
    directRest_loc p c c' sl ol xs ys (i + 1) (getElem?_shift hx).2 (getElem?_shift hy).2

theorem pairInv : PairInv cfg (fun p A B r => wf A = true → wf B = true → Q p A B r) where
  append ha hb hA hB := H.append (ha hA hB) (hb hA hB)
  none p B _ _ := H.empty ..
  excl p c xs c' ys _ _ _ := H.empty ..
  entry h hc hA hB := H.entry hc (h.sits hA hB).1.1 (h.sits hA hB).1.2
  item h _ hc hA hB := H.item hc (h.sits hA hB).1.1 (h.sits hA hB).1.2
  lift h hr hA hB := H.lift (h.sits hA hB).1.1 (h.sits hA hB).1.2 (hr (h.sits hA hB).2.1 (h.sits hA hB).2.2)
  dictTail p sa oa c c' kvs kvs' still hA hB := by
    simp only [wf, Bool.and_eq_true] at hA hB
    exact H.dictTail p sa oa c c' kvs kvs' still hA.2 hB.2
  directRest p c c' xs ys _ _ :=
    H.directRest_loc p c c' xs ys xs ys 0 (fun _ => by rw [Nat.zero_add]) (fun _ => by rw [Nat.zero_add])
  keyedTail p c c' xs ys ks ko hd _ _ :=
    H.keyedTail p c c' xs ys _ _ hd
      (fun e he => mkEntries_get xs ks xs 0 (fun _ => by rw [Nat.zero_add]) e ((keyedLeft_sub ks _ _).1 e he))
      (fun e he => mkEntries_get ys ko ys 0 (fun _ => by rw [Nat.zero_add]) e ((keyedLeft_sub ks _ _).2 e he))

theorem sub {site : Site} {p : Path} {v w : Val} {r : Res} (hv : wf v = true) (hw : wf w = true)
    (h : Compare.sub cfg site p v w = .ok r) : Q p v w r :=
  H.pairInv.of_sub v site p w r h hv hw

/-- the positional walk from any state of its loop: the items still to come are the items from position `i` on -/
theorem directWalk (p : Path) (sa oa : Val) (c c' : Cls) (sl ol : List Val) (i : Nat) (xs ys : List Val) (r : Res)
    (hx : ∀ n, xs[n]? = sl[i + n]?) (hy : ∀ n, ys[n]? = ol[i + n]?) (hwx : wfL xs = true) (hwy : wfL ys = true)
    (h : directWalk cfg p sa oa i xs ys = .ok r) : Q p (.list c sl) (.list c' ol) r := by
  rw [directWalk_pairs] at h
  refine seqAll_inv H.append (fun e he r0 h0 => ?_)
    (fun r0 h0 => by cases h0; exact H.directRest_loc p c c' sl ol xs ys i hx hy) r h
  obtain ⟨a, ha, rfl⟩ := List.mem_map.1 he
  obtain ⟨hl, hr⟩ := directPairs_sits (c := c) (c' := c') hx hy ha
  exact H.item_loc hl hr
    (fun _ => H.sub (wfL_mem xs _ hwx (directPairs_mem ha).2.1) (wfL_mem ys _ hwy (directPairs_mem ha).2.2)) h0

/-- the keyed walk from any state of its loop: the remaining entries of both sides sit at their recorded index -/
theorem keyedWalk (p : Path) (sa oa : Val) (c c' : Cls) (sl ol : List Val) (i : Nat) (xs : List Val) (ks : List Str)
    (sr orr : List KE) (r : Res) (hd : cfg.direct = false) (hx : ∀ n, xs[n]? = sl[i + n]?) (hwx : wfL xs = true)
    (hwo : wfL ol = true) (hsr : ∀ e ∈ sr, sl[e.2.1]? = some e.2.2) (horr : ∀ e ∈ orr, ol[e.2.1]? = some e.2.2)
    (h : keyedWalk cfg p sa oa i xs ks sr orr = .ok r) : Q p (.list c sl) (.list c' ol) r := by
  rw [keyedWalk_seqAll] at h
  refine seqAll_inv H.append (fun e he r0 h0 => ?_) (fun r0 h0 => ?_) r h
  · obtain ⟨a, ha, rfl⟩ := List.mem_map.1 he
    obtain ⟨hl, hr⟩ := keyedPairs_sits (c := c) (c' := c') hx horr ha
    obtain ⟨_, hxm, k, j, hy⟩ := keyedPairs_mem ha
    exact H.item_loc hl hr (fun _ => H.sub (wfL_mem xs _ hwx hxm) (wfL_get ol j _ hwo (horr _ hy))) h0
  · obtain ⟨sr', orr', rfl, h1, h2⟩ := keyedEnd_ok p h0
    exact H.keyedTail p c c' sl ol _ _ hd (fun e he => hsr e (h1 e he)) (fun e he => horr e (h2 e he))

end Located

theorem faith_located (cfg : Cfg) : Located cfg (Faith cfg) where
  append := faith_append
  lift := Faith.lift
  empty := faith_empty cfg
  item := fun hc hl hr => faith_of_shape (classifyItem_emitShape hc) hl hr
  entry := fun hc hl hr => faith_of_shape (classifyEntry_emitShape hc) hl hr
  dictTail := fun p sa oa c c' skvs okvs still hs ho => dictTail_faith cfg p sa oa c c' skvs okvs still hs ho
  keyedTail := fun p c c' sl ol sr orr _ hsr horr => keyedTail_faith cfg p c c' sl ol sr orr hsr horr
  otherTail := fun p c c' sl ol i ys _ hy =>
    ⟨(fun _ h => nomatch h), (fun _ h => nomatch h), fun e he => by
      obtain ⟨n, hp, hg⟩ := otherTail_mem p ys i e he
      exact ⟨[.idx (i + n)], hp, getAt_single _ _ _ _ ((hy n).symm.trans hg)⟩, (fun _ h => nomatch h)⟩
  selfOnly := fun p c c' sl ol i x hx _ =>
    ⟨(fun _ h => nomatch h), fun e he => by
      cases List.mem_singleton.1 he
      exact ⟨[.idx i], rfl, getAt_single _ _ _ _ hx⟩, (fun _ h => nomatch h), (fun _ h => nomatch h)⟩

theorem directWalk_faith (cfg : Cfg) (p : Path) (sa oa : Val) (c c' : Cls) (sl ol : List Val) (i : Nat)
    (xs ys : List Val) (r : Res)
    (hx : ∀ n, xs[n]? = sl[i + n]?) (hy : ∀ n, ys[n]? = ol[i + n]?)
    (hwx : wfL xs = true) (hwy : wfL ys = true)
    (h : directWalk cfg p sa oa i xs ys = .ok r) : Faith cfg p (.list c sl) (.list c' ol) r :=
  (faith_located cfg).directWalk p sa oa c c' sl ol i xs ys r hx hy hwx hwy h

theorem keyedWalk_faith (cfg : Cfg) (p : Path) (sa oa : Val) (c c' : Cls) (sl ol : List Val) (i : Nat)
    (xs : List Val) (ks : List Str) (sr orr : List KE) (r : Res)
    (hd : cfg.direct = false)
    (hx : ∀ n, xs[n]? = sl[i + n]?) (hwx : wfL xs = true) (hwo : wfL ol = true)
    (hsr : ∀ e ∈ sr, sl[e.2.1]? = some e.2.2) (horr : ∀ e ∈ orr, ol[e.2.1]? = some e.2.2)
    (h : keyedWalk cfg p sa oa i xs ks sr orr = .ok r) : Faith cfg p (.list c sl) (.list c' ol) r :=
  (faith_located cfg).keyedWalk p sa oa c c' sl ol i xs ks sr orr r hd hx hwx hwo hsr horr h

theorem compareTop_faith (cfg : Cfg) (a b : Val) (r : Res) (hw : wf a = true) (hw' : wf b = true)
    (h : compareTop cfg a b = .ok r) : Faith cfg [] a b r :=
  (faith_located cfg).sub hw hw' (compareTop_ok h)

section generic
variable (P : Res → Prop) (cfg : Cfg)
  (happ : ∀ a b, P a → P b → P (a ++ b))
  (hU : ∀ r : Res, r.notEqual = [] → r.diffTypes = [] → P r)
  (hItem : ∀ p pne pdt sa oa x y, ActP P (classifyItem cfg p pne pdt sa oa x y))
  (hEntry : ∀ full x y, ActP P (classifyEntry cfg full x y))
include happ hU hItem hEntry

theorem all_inv : WalkInv cfg (fun _ => P) (fun _ => P) (fun _ => P) where
  appendD := happ _ _
  appendL := happ _ _
  empty := fun _ => hU _ rfl rfl
  ofD := id
  ofL := id
  nestD := id
  nestL := fun _ h => h
  entry := fun hc => (hEntry _ _ _).of_emit hc
  item := fun _ hc => (hItem _ _ _ _ _ _ _).of_emit hc
  dictTail := fun _ _ _ _ _ _ => hU _ rfl rfl
  keyedTail := fun _ _ _ => hU _ rfl rfl
  otherTail := fun _ _ _ => hU _ rfl rfl
  selfItem := fun _ _ _ => hU _ rfl rfl

theorem directWalk_all (p : Path) (sa oa : Val) (i : Nat) (xs ys : List Val) (r : Res)
    (h : directWalk cfg p sa oa i xs ys = .ok r) : P r :=
  (all_inv P cfg happ hU hItem hEntry).of_directWalk p sa oa i xs ys r h

theorem keyedWalk_all (p : Path) (sa oa : Val) (i : Nat) (xs : List Val) (ks : List Str)
    (sr orr : List KE) (r : Res)
    (h : keyedWalk cfg p sa oa i xs ks sr orr = .ok r) : P r :=
  (all_inv P cfg happ hU hItem hEntry).of_keyedWalk p sa oa i xs ks sr orr r h

theorem compareTop_all (a b : Val) (r : Res) (h : compareTop cfg a b = .ok r) : P r :=
  (all_inv P cfg happ hU hItem hEntry).of_compareTop a b r h

end generic

def Differ (r : Res) : Prop :=
  (∀ e ∈ r.notEqual, e.l ≠ e.r) ∧ (∀ e ∈ r.diffTypes, tyOf e.l ≠ tyOf e.r)

theorem differ_append (a b : Res) (ha : Differ a) (hb : Differ b) : Differ (a ++ b) :=
  ⟨List.forall_mem_append.2 ⟨ha.1, hb.1⟩, List.forall_mem_append.2 ⟨ha.2, hb.2⟩⟩

theorem differ_nil (r : Res) (h1 : r.notEqual = []) (h2 : r.diffTypes = []) : Differ r := by
  constructor
  · intro e he
    rw [h1] at he
    cases he
  · intro e he
    rw [h2] at he
    cases he

theorem ne_of_tyOf_ne {x y : Val} (h : ¬ tyOf x = tyOf y) : x ≠ y := by
  intro he
  subst he
  exact h rfl

theorem classifyItem_differ {cfg : Cfg} (htr : cfg.tr = []) (p pne pdt : Path) (sa oa x y : Val) :
    ActP Differ (classifyItem cfg p pne pdt sa oa x y) := by
  cases hc : classifyItem cfg p pne pdt sa oa x y with
  | descend => trivial
  | emit r s =>
    have h := classifyItem_emit hc
    rw [transformAt_noTr htr p] at h
    rcases h with ⟨rfl, hne⟩ | (rfl | rfl) | ⟨rfl, _, hty⟩ | ⟨rfl, _, hty⟩
    · exact ⟨fun _ he => by cases List.mem_singleton.1 he; exact hne, (fun _ h => nomatch h)⟩
    · exact differ_nil _ rfl rfl
    · exact differ_nil _ rfl rfl
    · exact ⟨(fun _ h => nomatch h), fun _ he => by cases List.mem_singleton.1 he; exact hty⟩
    · exact ⟨fun _ he => by cases List.mem_singleton.1 he; exact ne_of_tyOf_ne hty, (fun _ h => nomatch h)⟩

theorem classifyEntry_differ {cfg : Cfg} (htr : cfg.tr = []) (full : Path) (x y : Val) :
    ActP Differ (classifyEntry cfg full x y) := by
  cases hc : classifyEntry cfg full x y with
  | descend => trivial
  | emit r s =>
    have h := classifyEntry_emit hc
    rw [transformAt_noTr htr full] at h
    rcases h with ⟨rfl, hne⟩ | rfl | ⟨rfl, _, hty⟩ | ⟨rfl, _, hty⟩
    · exact ⟨fun _ he => by cases List.mem_singleton.1 he; exact hne, (fun _ h => nomatch h)⟩
    · exact differ_nil _ rfl rfl
    · exact ⟨(fun _ h => nomatch h), fun _ he => by cases List.mem_singleton.1 he; exact hty⟩
    · exact ⟨fun _ he => by cases List.mem_singleton.1 he; exact ne_of_tyOf_ne hty, (fun _ h => nomatch h)⟩

theorem compareTop_differ (cfg : Cfg) (a b : Val) (r : Res) (htr : cfg.tr = [])
    (h : compareTop cfg a b = .ok r) : Differ r :=
  compareTop_all Differ cfg differ_append differ_nil
    (fun p pne pdt sa oa x y => classifyItem_differ htr p pne pdt sa oa x y)
    (fun full x y => classifyEntry_differ htr full x y) a b r h

/-- the hypothesis `wf` (unique dictionary keys) is needed: on an association list with a repeated
key the second occurrence is reported although the path resolves to the first one.  (A Python `dict`
cannot contain a repeated key, so this is a property of the model's value type only.) -/
theorem notEqual_faithful_dupKey_cex :
    compareTop (Cfg.default Flags.init true)
        (.dict .n0 [(['k'], .int 1), (['k'], .int 2)]) (.dict .n0 [(['k'], .int 1)])
      = .ok { diffs := 1, notEqual := [⟨[.key ['k']], .int 2, .int 1, .lst, false⟩] }
    ∧ getAt .left [.key ['k']] (.dict .n0 [(['k'], .int 1), (['k'], .int 2)]) = some (.int 1) := by
  decide +kernel

/-! `Absent`, the second instance of `Located`.  (That in keyed mode the items left over on the two sides share no key is
`keyedLeft_disjoint` of `CompareAlign`.) -/

/-- the node `q ++ [seg]` is absent in `B` (operand side `s`): its parent `q` resolves, and for a dictionary the
key is missing, for a list (direct mode) the index is beyond the end -/
def AbsentAt (cfg : Cfg) (s : Side) (q : Path) (seg : PSeg) (B : Val) : Prop :=
  (∃ k c kvs, seg = .key k ∧ getAt s q B = some (.dict c kvs) ∧ Val.lookup k kvs = none) ∨
  (∃ i c ys, seg = .idx i ∧ getAt s q B = some (.list c ys) ∧ (cfg.direct = true → ys.length ≤ i))

structure Absent (cfg : Cfg) (p : Path) (A B : Val) (r : Res) : Prop where
  su : ∀ e ∈ r.selfUnique, ∃ q s, e.path = p ++ q ++ [s] ∧ AbsentAt cfg .right q s B
  ou : ∀ e ∈ r.otherUnique, ∃ q s, e.path = p ++ q ++ [s] ∧ AbsentAt cfg .left q s A

theorem AbsentAt.lift {cfg : Cfg} {s : Side} {q : Path} {seg seg0 : PSeg} {B w : Val}
    (hw : segGet s seg0 B = some w) (h : AbsentAt cfg s q seg w) : AbsentAt cfg s (seg0 :: q) seg B := by
  rcases h with ⟨k, c, kvs, h1, h2, h3⟩ | ⟨i, c, ys, h1, h2, h3⟩
  · exact Or.inl ⟨k, c, kvs, h1, getAt_cons hw h2, h3⟩
  · exact Or.inr ⟨i, c, ys, h1, getAt_cons hw h2, h3⟩

theorem absent_append {cfg : Cfg} {p : Path} {A B : Val} {a b : Res}
    (ha : Absent cfg p A B a) (hb : Absent cfg p A B b) : Absent cfg p A B (a ++ b) :=
  ⟨List.forall_mem_append.2 ⟨ha.su, hb.su⟩, List.forall_mem_append.2 ⟨ha.ou, hb.ou⟩⟩

theorem absent_empty (cfg : Cfg) (p : Path) (A B : Val) : Absent cfg p A B Res.empty :=
  ⟨(fun _ h => nomatch h), (fun _ h => nomatch h)⟩

theorem Absent.lift {cfg : Cfg} {p : Path} {seg : PSeg} {A B v w : Val} {r : Res}
    (hl : segGet .left seg A = some v) (hr : segGet .right seg B = some w)
    (h : Absent cfg (p ++ [seg]) v w r) : Absent cfg p A B r := by
  refine ⟨?_, ?_⟩
  · intro e he
    obtain ⟨q, s, hp, ha⟩ := h.su e he
    exact ⟨seg :: q, s, by simp [hp], ha.lift hr⟩
  · intro e he
    obtain ⟨q, s, hp, ha⟩ := h.ou e he
    exact ⟨seg :: q, s, by simp [hp], ha.lift hl⟩

theorem absent_of_shape {cfg : Cfg} {p pne pdt : Path} {A B x y : Val} {r : Res}
    (hs : EmitShape pne pdt x y r) : Absent cfg p A B r := by
  rcases hs with ⟨k, d, rfl⟩ | rfl | ⟨se, oe, rfl⟩ <;> exact ⟨(fun _ h => nomatch h), (fun _ h => nomatch h)⟩

theorem lookup_none_of_not_hasKey {k : Str} {kvs : List (Str × Val)} (h : (!hasKey k kvs) = true) :
    Val.lookup k kvs = none := by
  simp only [hasKey, Bool.not_eq_true', Option.isSome_eq_false_iff, Option.isNone_iff_eq_none] at h
  exact h

theorem dictTail_absent (cfg : Cfg) (p : Path) (sa oa : Val) (c c' : Cls) (skvs okvs : List (Str × Val))
    (still : Bool) :
    Absent cfg p (.dict c skvs) (.dict c' okvs) (dictTail cfg p sa oa skvs okvs still) := by
  refine ⟨?_, ?_⟩
  · intro e he
    simp only [dictTail, List.mem_filterMap, List.mem_filter] at he
    obtain ⟨kv, ⟨_, hnk⟩, hlo⟩ := he
    have := leftover_eq hlo
    subst this
    exact ⟨[], .key kv.1, by simp, Or.inl ⟨kv.1, c', okvs, rfl, rfl, lookup_none_of_not_hasKey hnk⟩⟩
  · intro e he
    simp only [dictTail, List.mem_filterMap, List.mem_filter] at he
    obtain ⟨kv, ⟨_, hnk⟩, hlo⟩ := he
    have := leftover_eq hlo
    subst this
    exact ⟨[], .key kv.1, by simp, Or.inl ⟨kv.1, c, skvs, rfl, rfl, lookup_none_of_not_hasKey hnk⟩⟩

theorem keyedTail_absent (cfg : Cfg) (p : Path) (c c' : Cls) (sl ol : List Val) (sr orr : List KE)
    (hd : cfg.direct = false) :
    Absent cfg p (.list c sl) (.list c' ol) (keyedTail p sr orr) := by
  refine ⟨?_, ?_⟩
  · intro e he
    simp only [keyedTail, List.mem_map] at he
    obtain ⟨ke, _, rfl⟩ := he
    exact ⟨[], .idx ke.2.1, by simp, Or.inr ⟨_, c', ol, rfl, rfl, fun h => by rw [hd] at h; cases h⟩⟩
  · intro e he
    simp only [keyedTail, List.mem_map] at he
    obtain ⟨ke, _, rfl⟩ := he
    exact ⟨[], .idx ke.2.1, by simp, Or.inr ⟨_, c, sl, rfl, rfl, fun h => by rw [hd] at h; cases h⟩⟩

theorem absent_located (cfg : Cfg) : Located cfg (Absent cfg) where
  append := absent_append
  lift := Absent.lift
  empty := absent_empty cfg
  item := fun hc _ _ => absent_of_shape (classifyItem_emitShape hc)
  entry := fun hc _ _ => absent_of_shape (classifyEntry_emitShape hc)
  dictTail := fun p sa oa c c' skvs okvs still _ _ => dictTail_absent cfg p sa oa c c' skvs okvs still
  keyedTail := fun p c c' sl ol sr orr hd _ _ => keyedTail_absent cfg p c c' sl ol sr orr hd
  otherTail := fun p c _ sl _ i ys hx _ =>
    ⟨(fun _ h => nomatch h), fun e he => by
      obtain ⟨n, hp, _⟩ := otherTail_mem p ys i e he
      refine ⟨[], .idx (i + n), by rw [List.append_nil]; exact hp, Or.inr ⟨i + n, c, sl, rfl, rfl, fun _ => ?_⟩⟩
      exact Nat.le_trans hx (Nat.le_add_right i n)⟩
  selfOnly := fun p _ c' _ ol i _ _ hy =>
    ⟨fun e he => by
      cases List.mem_singleton.1 he
      exact ⟨[], .idx i, by rw [List.append_nil], Or.inr ⟨i, c', ol, rfl, rfl, fun _ => hy⟩⟩, (fun _ h => nomatch h)⟩

theorem directWalk_absent (cfg : Cfg) (p : Path) (sa oa : Val) (c c' : Cls) (sl ol : List Val) (i : Nat)
    (xs ys : List Val) (r : Res)
    (hx : ∀ n, xs[n]? = sl[i + n]?) (hy : ∀ n, ys[n]? = ol[i + n]?)
    (hwx : wfL xs = true) (hwy : wfL ys = true)
    (h : directWalk cfg p sa oa i xs ys = .ok r) : Absent cfg p (.list c sl) (.list c' ol) r :=
  (absent_located cfg).directWalk p sa oa c c' sl ol i xs ys r hx hy hwx hwy h

theorem keyedWalk_absent (cfg : Cfg) (p : Path) (sa oa : Val) (c c' : Cls) (sl ol : List Val) (i : Nat)
    (xs : List Val) (ks : List Str) (sr orr : List KE) (r : Res)
    (hd : cfg.direct = false)
    (hx : ∀ n, xs[n]? = sl[i + n]?) (hwx : wfL xs = true) (hwo : wfL ol = true)
    (hsr : ∀ e ∈ sr, sl[e.2.1]? = some e.2.2) (horr : ∀ e ∈ orr, ol[e.2.1]? = some e.2.2)
    (h : keyedWalk cfg p sa oa i xs ks sr orr = .ok r) : Absent cfg p (.list c sl) (.list c' ol) r :=
  (absent_located cfg).keyedWalk p sa oa c c' sl ol i xs ks sr orr r hd hx hwx hwo hsr horr h

theorem compareTop_absent (cfg : Cfg) (a b : Val) (r : Res) (hw : wf a = true) (hw' : wf b = true)
    (h : compareTop cfg a b = .ok r) : Absent cfg [] a b r :=
  (absent_located cfg).sub hw hw' (compareTop_ok h)

end N0.Compare
