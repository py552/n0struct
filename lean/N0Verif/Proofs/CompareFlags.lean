import N0Verif.Proofs.CompareWalk
/-!
The global compare flags only add detail: under two flag records the two runs fail alike or
both succeed with the same number of lines and the same *core* entries.
-/
namespace N0.Compare
open N0

/-- pairs of equal type that differ (the numeric delta is dropped) -/
def Res.same (r : Res) : List (Path × Val × Val) :=
  (r.notEqual.filter (fun e => e.kind = .lst)).map (fun e => (e.path, e.l, e.r))

/-- pairs of different type, wherever the types flag sends them -/
def Res.clash (types : Bool) (r : Res) : List (Path × Val × Val) :=
  if types then r.diffTypes.map (fun e => (e.path, e.l, e.r))
  else (r.notEqual.filter (fun e => e.kind = .tup)).map (fun e => (e.path, e.l, e.r))

/-- same verdict, same core: number of lines, differing pairs, type clashes, unique items (with their
places; the place flag only decides whether the place is shown) -/
structure CoreEq (t t' : Bool) (r r' : Res) : Prop where
  diffs : r.diffs = r'.diffs
  same : r.same = r'.same
  clash : r.clash t = r'.clash t'
  su : r.selfUnique = r'.selfUnique
  ou : r.otherUnique = r'.otherUnique

theorem same_append (a b : Res) : (a ++ b).same = a.same ++ b.same := by
  simp [Res.same]

theorem clash_append (t : Bool) (a b : Res) : (a ++ b).clash t = a.clash t ++ b.clash t := by
  cases t <;> simp [Res.clash]

theorem coreEq_append {t t' : Bool} {a a' b b' : Res} (h1 : CoreEq t t' a a') (h2 : CoreEq t t' b b') :
    CoreEq t t' (a ++ b) (a' ++ b') :=
  ⟨by simp [h1.diffs, h2.diffs], by simp [same_append, h1.same, h2.same],
   by simp [clash_append, h1.clash, h2.clash], by simp [h1.su, h2.su], by simp [h1.ou, h2.ou]⟩

/-- two runs fail alike or agree on the core -/
def RelE (t t' : Bool) : Except PyErr Res → Except PyErr Res → Prop
  | .ok r, .ok r' => CoreEq t t' r r'
  | .error e, .error e' => e = e'
  | _, _ => False

abbrev FlagActRel (t t' : Bool) : Act → Act → Prop := Act.Rel (CoreEq t t') True

def Cfg.withFlags (cfg : Cfg) (fl : Flags) : Cfg := { cfg with fl := fl }

theorem coreEq_lists_only {t t' : Bool} {r r' : Res} (h0 : r.diffs = r'.diffs)
    (h1 : r.notEqual = []) (h1' : r'.notEqual = []) (h2 : r.diffTypes = []) (h2' : r'.diffTypes = [])
    (h4 : r.selfUnique = r'.selfUnique) (h5 : r.otherUnique = r'.otherUnique) : CoreEq t t' r r' := by
  refine ⟨h0, ?_, ?_, h4, h5⟩
  · simp [Res.same, h1, h1']
  · cases t <;> cases t' <;> simp [Res.clash, h1, h1', h2, h2']

/-- a type clash is filed at `pdt` or at `pne` depending on the flag: the statement needs them to be the same path -/
theorem itemCore_flags (fl fl' : Flags) (sv ov : Val) (q : Path) (sa oa x y : Val) :
    FlagActRel fl.types fl'.types (itemCore fl sv ov q q sa oa x y) (itemCore fl' sv ov q q sa oa x y) := by
  unfold itemCore
  refine ite_rel (fun _ => ?_) (fun _ => ?_)
  · refine ite_rel (fun _ => ?_) (fun _ => trivial)
    refine ite_rel (fun _ => ?_) (fun _ => ?_)
    · cases fl.types <;> cases fl'.types <;> exact ⟨rfl, rfl, rfl, rfl, rfl⟩
    · cases fl.equal <;> cases fl'.equal <;> exact coreEq_lists_only rfl rfl rfl rfl rfl rfl rfl
  · cases fl.types <;> cases fl'.types <;> exact ⟨rfl, rfl, rfl, rfl, rfl⟩

theorem entryCore_flags (fl fl' : Flags) (ex on : Bool) (sv ov : Val) (full : Path) (x y : Val) :
    FlagActRel fl.types fl'.types (entryCore fl ex on sv ov full x y) (entryCore fl' ex on sv ov full x y) := by
  unfold entryCore
  have hnone : FlagActRel fl.types fl'.types (.emit Res.empty true) (.emit Res.empty true) :=
    coreEq_lists_only rfl rfl rfl rfl rfl rfl rfl
  refine ite_rel (fun _ => hnone) (fun _ => ?_)
  refine ite_rel (fun _ => ?_) (fun _ => ?_)
  · refine ite_rel (fun _ => ?_) (fun _ => trivial)
    refine ite_rel (fun _ => ?_) (fun _ => hnone)
    cases fl.types <;> cases fl'.types <;> exact ⟨rfl, rfl, rfl, rfl, rfl⟩
  · refine ite_rel (fun _ => ?_) (fun _ => hnone)
    cases fl.types <;> cases fl'.types <;> exact ⟨rfl, rfl, rfl, rfl, rfl⟩

theorem relE_seq {t t' : Bool} {a a' b b' : Except PyErr Res} (h1 : RelE t t' a a') (h2 : RelE t t' b b') :
    RelE t t' (seqR a b) (seqR a' b') := by
  cases a <;> cases a' <;> try exact h1.elim
  · exact h1
  · cases b <;> cases b' <;> try exact h2.elim
    · exact h2
    · exact coreEq_append h1 h2

theorem relE_ok {t t' : Bool} {r r' : Res} (h : CoreEq t t' r r') : RelE t t' (.ok r) (.ok r') := h

theorem coreEq_self (t t' : Bool) {r : Res} (h1 : r.notEqual = []) (h2 : r.diffTypes = []) : CoreEq t t' r r :=
  coreEq_lists_only rfl h1 h1 h2 h2 rfl rfl

theorem relE_verdict {t t' : Bool} {A A' : Except PyErr Res} (h : RelE t t' A A') : verdict A = verdict A' := by
  cases A with
  | error e => cases A' with
    | error e' => rfl
    | ok r' => exact h.elim
  | ok r => cases A' with
    | error e' => exact h.elim
    | ok r' => exact congrArg (fun n => some (n == 0)) (CoreEq.diffs h)

theorem excluded_flags (cfg : Cfg) (fl' : Flags) (p : Path) : excluded (cfg.withFlags fl') p = excluded cfg p := rfl

/-- another flag record changes the leaf decisions only, and those up to the core -/
theorem flags_walkSim (cfg : Cfg) (fl' : Flags) :
    WalkSim cfg (cfg.withFlags fl') (fun _ => True) (fun _ => True) (fun _ => RelE cfg.fl.types fl'.types) where
  direct := rfl
  keys := keysOf_congr (cfg.withFlags fl') cfg rfl rfl
  error _ _ := rfl
  empty _ := coreEq_self _ _ rfl rfl
  seq := relE_seq
  lists _ _ _ := fun _ h => ite_rel (fun _ => coreEq_self _ _ rfl rfl) (fun _ => h trivial)
  dictTail _ _ _ _ _ _ _ := fun _ => coreEq_lists_only rfl rfl rfl rfl rfl rfl rfl
  keyedTail _ _ _ := fun _ => coreEq_self _ _ rfl rfl
  otherTail _ _ _ := fun _ => coreEq_self _ _ rfl rfl
  selfItem _ _ _ := fun _ => coreEq_self _ _ rfl rfl
  entry p k x y := fun _ hn => by
    rw [entryOf_eq, entryOf_eq]
    exact (entryCore_flags cfg.fl fl' _ _ _ _ _ x y).actRes id hn
  item p seg sa oa x y := fun _ _ hn => by
    rw [itemOf_eq, itemOf_eq]
    exact (itemCore_flags cfg.fl fl' _ _ _ sa oa x y).actRes id hn

theorem directWalk_flags (cfg : Cfg) (fl' : Flags) (p : Path) (sa oa : Val) (i : Nat) (xs ys : List Val) :
    RelE cfg.fl.types fl'.types (directWalk cfg p sa oa i xs ys)
      (directWalk (cfg.withFlags fl') p sa oa i xs ys) :=
  (flags_walkSim cfg fl').of_directWalk p sa oa i xs ys trivial

theorem keyedWalk_flags (cfg : Cfg) (fl' : Flags) (p : Path) (sa oa : Val) (i : Nat) (xs : List Val)
    (ks : List Str) (sr orr : List KE) :
    RelE cfg.fl.types fl'.types (keyedWalk cfg p sa oa i xs ks sr orr)
      (keyedWalk (cfg.withFlags fl') p sa oa i xs ks sr orr) :=
  (flags_walkSim cfg fl').of_keyedWalk p sa oa i xs ks sr orr trivial

theorem compareTop_flags (cfg : Cfg) (fl' : Flags) (a b : Val) :
    RelE cfg.fl.types fl'.types (compareTop cfg a b) (compareTop (cfg.withFlags fl') a b) :=
  (flags_walkSim cfg fl').of_compareTop a b trivial

end N0.Compare
