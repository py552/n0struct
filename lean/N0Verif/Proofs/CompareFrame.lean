import N0Verif.Proofs.Compare
/-!
What the class tags (`n0dict`/`n0list` against plain `dict`/`list`) of the nodes BELOW the roots contribute.  They matter
in three places (`frame_clash_cex`: `type(x) == type(y)` tells an `n0dict` from a `dict`; `frame_attr_cex`,
`frame_type_cex`: the two `isinstance` checks on a nested list / record).  `frame_compareTop`: with one tag for all
dictionaries and one for all lists below the roots (what the loaders produce) the run agrees with the run on the
converted trees (`toN0`) unless it stops with one of those exceptions (`frame_exact`: it IS that run when the mode never
meets a plain container it checks).  The composition with C07's exactness on `n0` trees is not stated.
-/
namespace N0.Compare
open N0


mutual
/-- `n0dict.convert_recursively`: every container becomes an `n0dict`/`n0list` -/
def toN0 : Val → Val
  | .list _ xs => .list .n0 (toN0L xs)
  | .dict _ kvs => .dict .n0 (toN0K kvs)
  | v => v
def toN0L : List Val → List Val
  | [] => []
  | x :: xs => toN0 x :: toN0L xs
def toN0K : List (Str × Val) → List (Str × Val)
  | [] => []
  | (k, v) :: rest => (k, toN0 v) :: toN0K rest
end

mutual
def tagsBy (cd cl : Cls) : Val → Bool
  | .list c xs => c == cl && tagsByL cd cl xs
  | .dict c kvs => c == cd && tagsByK cd cl kvs
  | _ => true
def tagsByL (cd cl : Cls) : List Val → Bool
  | [] => true
  | x :: xs => tagsBy cd cl x && tagsByL cd cl xs
def tagsByK (cd cl : Cls) : List (Str × Val) → Bool
  | [] => true
  | (_, v) :: rest => tagsBy cd cl v && tagsByK cd cl rest
end

/-- `tagsBy` below the node; the tag of the node itself is free (the roots are always `n0`) -/
def tagsKids (cd cl : Cls) : Val → Bool
  | .list _ xs => tagsByL cd cl xs
  | .dict _ kvs => tagsByK cd cl kvs
  | _ => true

theorem tagsKids_of_tagsBy {cd cl : Cls} {v : Val} (h : tagsBy cd cl v = true) : tagsKids cd cl v = true := by
  cases v <;> simp_all [tagsBy, tagsKids]

def Res.mapV (g : Val → Val) (r : Res) : Res :=
  { diffs := r.diffs
    notEqual := r.notEqual.map (fun e => ⟨e.path, g e.l, g e.r, e.kind, e.delta⟩)
    selfUnique := r.selfUnique.map (fun e => ⟨e.path, g e.v⟩)
    otherUnique := r.otherUnique.map (fun e => ⟨e.path, g e.v⟩)
    diffTypes := r.diffTypes.map (fun e => ⟨e.path, g e.l, g e.r⟩)
    selfEqual := r.selfEqual.map g
    otherEqual := r.otherEqual.map g }

theorem mapV_append (g : Val → Val) (a b : Res) : (a ++ b).mapV g = a.mapV g ++ b.mapV g := by
  show Res.mapV g (Res.append a b) = Res.append (Res.mapV g a) (Res.mapV g b)
  simp [Res.mapV, Res.append]

theorem mapV_empty (g : Val → Val) : Res.empty.mapV g = Res.empty := rfl

def Act.mapV (g : Val → Val) : Act → Act
  | .emit r s => .emit (r.mapV g) s
  | .descend => .descend

/-- a mode meets a plain container of the kind it checks with `isinstance` -/
def TagErr (cfg : Cfg) (cd cl : Cls) : Prop :=
  (cfg.direct = true ∧ cl = .plain) ∨ (cfg.direct = false ∧ cd = .plain)

/-- the run on the tagged trees against the run on the converted trees -/
def FrameRel (T : Prop) (x y : Except PyErr Res) : Prop :=
  match x with
  | .ok r => y = .ok (r.mapV toN0)
  | .error e => y = .error e ∨ (T ∧ (e = .AttributeError ∨ e = .TypeError))

theorem frame_ok (T : Prop) (r : Res) : FrameRel T (.ok r) (.ok (r.mapV toN0)) := rfl
theorem frame_err (T : Prop) (e : PyErr) : FrameRel T (.error e) (.error e) := Or.inl rfl

theorem frame_seqR {T : Prop} {A A' B B' : Except PyErr Res} (hA : FrameRel T A A') (hB : FrameRel T B B') :
    FrameRel T (seqR A B) (seqR A' B') := by
  cases A with
  | error e =>
    simp only [FrameRel] at hA
    rcases hA with hA | hA
    · subst hA; exact Or.inl rfl
    · exact Or.inr hA
  | ok a =>
    simp only [FrameRel] at hA
    subst hA
    cases B with
    | error e =>
      simp only [FrameRel] at hB
      rcases hB with hB | hB
      · subst hB; exact Or.inl rfl
      · exact Or.inr hB
    | ok b =>
      simp only [FrameRel] at hB
      subst hB
      simp only [seqR, FrameRel, mapV_append]

theorem frame_toN0_scalar {x : Val} (h : isPyScalar x = true) : toN0 x = x := by
  cases x <;> simp_all [isPyScalar, toN0]

theorem frame_isPyScalar (x : Val) : isPyScalar (toN0 x) = isPyScalar x := by
  cases x <;> simp [isPyScalar, toN0]

theorem tagsBy_list {cd cl c : Cls} {xs : List Val} (h : tagsBy cd cl (.list c xs) = true) : c = cl := by
  simp only [tagsBy, Bool.and_eq_true, beq_iff_eq] at h
  exact h.1

theorem tagsBy_dict {cd cl c : Cls} {kvs : List (Str × Val)} (h : tagsBy cd cl (.dict c kvs) = true) : c = cd := by
  simp only [tagsBy, Bool.and_eq_true, beq_iff_eq] at h
  exact h.1

theorem tyOf_toN0 (x : Val) :
    tyOf (toN0 x) = (match tyOf x with
      | .list _ => .list .n0
      | .dict _ => .dict .n0
      | t => t) := by
  cases x <;> rfl

theorem tyOf_of_toN0 {cd cl : Cls} {x : Val} (hx : tagsBy cd cl x = true) :
    tyOf x = (match tyOf (toN0 x) with
      | .list _ => .list cl
      | .dict _ => .dict cd
      | t => t) := by
  cases x with
  | list c xs =>
    cases tagsBy_list hx
    rfl
  | dict c kvs =>
    cases tagsBy_dict hx
    rfl
  | _ => rfl

theorem frame_tyOf_iff {cd cl : Cls} {x y : Val} (hx : tagsBy cd cl x = true) (hy : tagsBy cd cl y = true) :
    tyOf (toN0 x) = tyOf (toN0 y) ↔ tyOf x = tyOf y :=
  ⟨fun h => by rw [tyOf_of_toN0 hx, tyOf_of_toN0 hy, h], fun h => by rw [tyOf_toN0, tyOf_toN0, h]⟩

theorem frame_leafOf {cd cl : Cls} {x y : Val} (hx : tagsBy cd cl x = true) (hy : tagsBy cd cl y = true) :
    leafOf (toN0 x) (toN0 y) = leafOf x y := by
  unfold leafOf
  by_cases ht : tyOf x = tyOf y
  · rw [if_pos ht, if_pos ((frame_tyOf_iff hx hy).2 ht), frame_isPyScalar]
    by_cases hs : isPyScalar x = true
    · rw [frame_toN0_scalar hs, frame_toN0_scalar ((tyOf_scalar_eq ht) ▸ hs)]
    · rw [if_neg hs, if_neg hs]
  · rw [if_neg ht, if_neg (fun h => ht ((frame_tyOf_iff hx hy).1 h))]

mutual
theorem frame_reprVal : ∀ v : Val, reprVal (toN0 v) = reprVal v
  | .list c xs => by simp only [toN0, reprVal, frame_reprList xs]
  | .dict c kvs => by simp only [toN0, reprVal, frame_reprKvs kvs]
  | .none => rfl
  | .bool _ => rfl
  | .int _ => rfl
  | .flt _ => rfl
  | .str _ => rfl
theorem frame_reprList : ∀ xs : List Val, reprList (toN0L xs) = reprList xs
  | [] => rfl
  | [x] => by simp only [toN0L, reprList, frame_reprVal x]
  | x :: y :: xs => by
    have ih := frame_reprList (y :: xs)
    simp only [toN0L] at ih ⊢
    simp only [reprList, frame_reprVal x, ih]
theorem frame_reprKvs : ∀ kvs : List (Str × Val), reprKvs (toN0K kvs) = reprKvs kvs
  | [] => rfl
  | [(k, x)] => by simp only [toN0K, reprKvs, frame_reprVal x]
  | (k, x) :: y :: xs => by
    have ih := frame_reprKvs (y :: xs)
    obtain ⟨k', y⟩ := y
    simp only [toN0K] at ih ⊢
    simp only [reprKvs, frame_reprVal x, ih]
end

mutual
/-- the JSON text (the key of a non-record item) does not show the class tags -/
theorem frame_jsonVal : ∀ v : Val, jsonVal (toN0 v) = jsonVal v
  | .list c xs => by simp only [toN0, jsonVal, frame_jsonList xs]
  | .dict c kvs => by simp only [toN0, jsonVal, frame_jsonKvs kvs]
  | .none => rfl
  | .bool _ => rfl
  | .int _ => rfl
  | .flt _ => rfl
  | .str _ => rfl
theorem frame_jsonList : ∀ xs : List Val, jsonList (toN0L xs) = jsonList xs
  | [] => rfl
  | x :: xs => by simp only [toN0L, jsonList, frame_jsonVal x, frame_jsonList xs]
theorem frame_jsonKvs : ∀ kvs : List (Str × Val), jsonKvs (toN0K kvs) = jsonKvs kvs
  | [] => rfl
  | (k, x) :: rest => by simp only [toN0K, jsonKvs, frame_jsonVal x, frame_jsonKvs rest]
end

theorem frame_pyStr (v : Val) : pyStr (toN0 v) = pyStr v := by
  cases v with
  | str s => rfl
  | list c xs => simp only [pyStr]; exact frame_reprVal _
  | dict c kvs => simp only [pyStr]; exact frame_reprVal _
  | none => rfl
  | bool b => rfl
  | int i => rfl
  | flt f => rfl

theorem frame_lookup (k : Str) : ∀ kvs : List (Str × Val),
    Val.lookup k (toN0K kvs) = (Val.lookup k kvs).map toN0
  | [] => by simp [toN0K, Val.lookup]
  | (k', v) :: rest => by
    simp only [toN0K, Val.lookup]
    by_cases hk : k = k'
    · simp [hk]
    · simp [hk, frame_lookup k rest]

theorem frame_hasKey (k : Str) (kvs : List (Str × Val)) : hasKey k (toN0K kvs) = hasKey k kvs := by
  simp [hasKey, frame_lookup]

theorem frame_commute {f : Val → Val} (hf : TrLeafFn f) (x : Val) : f (toN0 x) = toN0 (f x) := by
  cases x with
  | list c xs => simp only [toN0, hf.list]
  | dict c kvs => simp only [toN0, hf.dict]
  | none =>
    simp only [toN0]
    rcases hf.none with h | h
    · exact (frame_toN0_scalar h).symm
    · rw [h]; rfl
  | bool b => simp only [toN0]; exact (frame_toN0_scalar (hf.scalar _ rfl)).symm
  | int i => simp only [toN0]; exact (frame_toN0_scalar (hf.scalar _ rfl)).symm
  | flt r => simp only [toN0]; exact (frame_toN0_scalar (hf.scalar _ rfl)).symm
  | str s => simp only [toN0]; exact (frame_toN0_scalar (hf.scalar _ rfl)).symm

theorem frame_tags_leafFn {f : Val → Val} (hf : TrLeafFn f) {cd cl : Cls} {x : Val} (hx : tagsBy cd cl x = true) :
    tagsBy cd cl (f x) = true := by
  have hsc : ∀ z : Val, isPyScalar z = true → tagsBy cd cl z = true := by
    intro z hz
    cases z with
    | none => cases hz
    | list _ _ => cases hz
    | dict _ _ => cases hz
    | _ => rfl
  cases x with
  | list c xs => rw [hf.list]; exact hx
  | dict c kvs => rw [hf.dict]; exact hx
  | none =>
    rcases hf.none with h | h
    · exact hsc _ h
    · rw [h]; rfl
  | bool b => exact hsc _ (hf.scalar _ rfl)
  | int i => exact hsc _ (hf.scalar _ rfl)
  | flt r => exact hsc _ (hf.scalar _ rfl)
  | str s => exact hsc _ (hf.scalar _ rfl)

theorem frame_leafFn_of_mem {cfg : Cfg} (hl : LeafTransform cfg) {t : Tr} (ht : t ∈ cfg.tr) : TrLeafFn t.f :=
  tr_leafFn_of_mem hl ht

theorem frame_setField (k : Str) (v : Val) : ∀ acc : List (Str × Val),
    setField k (toN0 v) (toN0K acc) = toN0K (setField k v acc)
  | [] => rfl
  | (k', v') :: rest => by
    simp only [toN0K, setField]
    by_cases hk : k = k'
    · simp only [hk, ↓reduceIte, toN0K]
    · simp only [hk, ↓reduceIte, toN0K, frame_setField k v rest]

theorem frame_recordFields {cfg : Cfg} (hl : LeafTransform cfg) (q : Path) (kvs : List (Str × Val)) :
    ∀ (fs : List Str) (acc : List (Str × Val)),
      recordFields cfg q (toN0K kvs) fs (toN0K acc) = toN0K (recordFields cfg q kvs fs acc)
  | [], acc => by simp [recordFields]
  | f :: fs, acc => by
    simp only [recordFields, frame_lookup]
    cases Val.lookup f kvs with
    | none =>
      simp only [Option.map_none]
      exact frame_recordFields hl q kvs fs acc
    | some v =>
      simp only [Option.map_some]
      rw [frame_commute (tr_leafFn_transformAt hl (q ++ [PSeg.key f])) v, frame_setField]
      exact frame_recordFields hl q kvs fs _

theorem frame_fieldsKey : ∀ fs : List (Str × Val), fieldsKey (toN0K fs) = fieldsKey fs
  | [] => rfl
  | (k, v) :: rest => by
    have h := frame_jsonVal (.dict .plain ((k, v) :: rest))
    simp only [toN0, toN0K, jsonVal] at h
    simp only [toN0K, fieldsKey, jsonVal]
    exact h

theorem frame_keyOf {cfg : Cfg} (hl : LeafTransform cfg) (p : Path) (i : Nat) (x : Val) :
    keyOf cfg p i (toN0 x) = keyOf cfg p i x := by
  have hk : ∀ v : Val, jsonVal (transformAt cfg p (toN0 v)) = jsonVal (transformAt cfg p v) := fun v => by
    rw [frame_commute (tr_leafFn_transformAt hl p) v, frame_jsonVal]
  cases x with
  | dict c kvs =>
    have := frame_recordFields hl (p ++ [PSeg.idx i]) kvs cfg.ck.pats []
    simp only [toN0K] at this
    simp only [toN0, keyOf, this, frame_fieldsKey]
  | list c xs =>
    have := hk (.list c xs)
    simp only [toN0] at this ⊢
    simp only [keyOf, this]
  | none => rfl
  | bool b => rfl
  | int i => rfl
  | flt f => rfl
  | str s => rfl

theorem frame_keysOf {cfg : Cfg} (hl : LeafTransform cfg) (p : Path) : ∀ (i : Nat) (xs : List Val),
    keysOf cfg p i (toN0L xs) = keysOf cfg p i xs
  | _, [] => rfl
  | i, x :: xs => by simp only [toN0L, keysOf, frame_keyOf hl p i x, frame_keysOf hl p (i + 1) xs]

def keMap (l : List KE) : List KE := l.map (fun e => (e.1, e.2.1, toN0 e.2.2))

theorem frame_mkEntries : ∀ (ks : List Str) (xs : List Val) (i : Nat),
    mkEntries i ks (toN0L xs) = keMap (mkEntries i ks xs)
  | [], xs, _ => by cases xs <;> simp [mkEntries, keMap]
  | _ :: _, [], _ => by simp [mkEntries, keMap, toN0L]
  | k :: ks, x :: xs, i => by
    simp only [toN0L, mkEntries, keMap, List.map_cons]
    rw [frame_mkEntries ks xs (i + 1)]
    rfl

theorem frame_findKey (k : Str) : ∀ l : List KE,
    findKey k (keMap l) = (findKey k l).map (fun jy => (jy.1, toN0 jy.2))
  | [] => rfl
  | (k', i, v) :: rest => by
    simp only [keMap, List.map_cons, findKey]
    by_cases hk : k = k'
    · simp [hk]
    · simp only [hk, if_false]
      exact frame_findKey k rest

theorem frame_eraseKey (k : Str) : ∀ l : List KE, eraseKey k (keMap l) = keMap (eraseKey k l)
  | [] => rfl
  | (k', i, v) :: rest => by
    simp only [keMap, List.map_cons, eraseKey]
    by_cases hk : k = k'
    · simp [hk]
    · simp only [hk, if_false, List.map_cons]
      have := frame_eraseKey k rest
      simp only [keMap] at this
      rw [this]

theorem frame_keyedTail (p : Path) (sr orr : List KE) :
    keyedTail p (keMap sr) (keMap orr) = (keyedTail p sr orr).mapV toN0 := by
  simp [keyedTail, keMap, Res.mapV, List.map_map, Function.comp_def]

theorem frame_otherTail (p : Path) : ∀ (ys : List Val) (i : Nat),
    otherTail p i (toN0L ys) = (otherTail p i ys).map (fun e => (⟨e.path, toN0 e.v⟩ : UE))
  | [], _ => rfl
  | y :: ys, i => by simp only [toN0L, otherTail, List.map_cons, frame_otherTail p ys (i + 1)]

theorem frame_leftovers (cfg : Cfg) (p : Path) (g : Str → Bool) : ∀ l : List (Str × Val),
    ((toN0K l).filter (fun kv => g kv.1)).filterMap (leftover cfg p) =
      ((l.filter (fun kv => g kv.1)).filterMap (leftover cfg p)).map (fun e => (⟨e.path, toN0 e.v⟩ : UE))
  | [] => rfl
  | (k, v) :: rest => by
    have ih := frame_leftovers cfg p g rest
    simp only [toN0K, List.filter_cons]
    cases hg : g k
    · simpa using ih
    · simp only [if_true, List.filterMap_cons, leftover_val cfg p k v toN0, ih]
      cases leftover cfg p (k, v) <;> rfl

theorem frame_dictTail (cfg : Cfg) (p : Path) (sa oa : Val) (skvs okvs : List (Str × Val)) (still : Bool) :
    dictTail cfg p (toN0 sa) (toN0 oa) (toN0K skvs) (toN0K okvs) still =
      (dictTail cfg p sa oa skvs okvs still).mapV toN0 := by
  have e1 := frame_leftovers cfg p (fun k => !hasKey k okvs) skvs
  have e2 := frame_leftovers cfg p (fun k => !hasKey k skvs) okvs
  simp only [dictTail, frame_hasKey, e1, e2, Res.mapV, List.length_map, List.isEmpty_map, List.map_nil]
  congr 1
  · split <;> simp
  · split <;> simp

theorem frame_classifyItem {cfg : Cfg} (hl : LeafTransform cfg) {cd cl : Cls} (p pne pdt : Path) (sa oa : Val)
    {x y : Val} (hx : tagsBy cd cl x = true) (hy : tagsBy cd cl y = true) :
    classifyItem cfg p pne pdt (toN0 sa) (toN0 oa) (toN0 x) (toN0 y) =
      (classifyItem cfg p pne pdt sa oa x y).mapV toN0 := by
  have hf := tr_leafFn_transformAt hl p
  rw [classifyItem_eq, classifyItem_eq, frame_commute hf x, frame_commute hf y,
    frame_leafOf (frame_tags_leafFn hf hx) (frame_tags_leafFn hf hy)]
  cases leafOf (transformAt cfg p x) (transformAt cfg p y) with
  | differ => rfl
  | same =>
    by_cases he : cfg.fl.equal = true
    · rw [if_pos he, if_pos he]
      rfl
    · rw [if_neg he, if_neg he]
      rfl
  | enter => rfl
  | clash =>
    by_cases ht : cfg.fl.types = true
    · rw [if_pos ht, if_pos ht]
      rfl
    · rw [if_neg ht, if_neg ht]
      rfl

theorem frame_classifyEntry {cfg : Cfg} (hl : LeafTransform cfg) {cd cl : Cls} (full : Path)
    {x y : Val} (hx : tagsBy cd cl x = true) (hy : tagsBy cd cl y = true) :
    classifyEntry cfg full (toN0 x) (toN0 y) = (classifyEntry cfg full x y).mapV toN0 := by
  have hf := tr_leafFn_transformAt hl full
  rw [classifyEntry_eq, classifyEntry_eq, frame_commute hf x, frame_commute hf y,
    frame_leafOf (frame_tags_leafFn hf hx) (frame_tags_leafFn hf hy)]
  by_cases hex : excluded cfg full = true
  · rw [if_pos hex, if_pos hex]
    rfl
  rw [if_neg hex, if_neg hex]
  cases leafOf (transformAt cfg full x) (transformAt cfg full y) with
  | differ =>
    simp only
    by_cases ho : onlyOk cfg full = true
    · rw [if_pos ho, if_pos ho]
      rfl
    · rw [if_neg ho, if_neg ho]
      rfl
  | same => rfl
  | enter => rfl
  | clash =>
    simp only
    by_cases ho : onlyOk cfg full = true
    · rw [if_pos ho, if_pos ho]
      by_cases ht : cfg.fl.types = true
      · rw [if_pos ht, if_pos ht]
        rfl
      · rw [if_neg ht, if_neg ht]
        rfl
    · rw [if_neg ho, if_neg ho]
      rfl

theorem frame_itemRes {cfg : Cfg} (hl : LeafTransform cfg) {cd cl : Cls} {T : Prop} (p pne pdt : Path) (sa oa : Val)
    {x y : Val} (hx : tagsBy cd cl x = true) (hy : tagsBy cd cl y = true)
    (hsub : FrameRel T (sub cfg Site.item pne x y) (sub cfg Site.item pne (toN0 x) (toN0 y))) :
    FrameRel T (itemRes cfg p pne pdt sa oa x y) (itemRes cfg p pne pdt (toN0 sa) (toN0 oa) (toN0 x) (toN0 y)) := by
  simp only [itemRes, frame_classifyItem hl p pne pdt sa oa hx hy]
  cases classifyItem cfg p pne pdt sa oa x y with
  | emit r s => exact frame_ok T r
  | descend => exact hsub

theorem tagsByL_mem {cd cl : Cls} (xs : List Val) (x : Val) (ht : tagsByL cd cl xs = true) (h : x ∈ xs) :
    tagsBy cd cl x = true :=
  Py.allRec_mem (fun _ _ => rfl) ht h

theorem tagsByK_lookup {cd cl : Cls} (kvs : List (Str × Val)) (k : Str) (w : Val) (ht : tagsByK cd cl kvs = true)
    (h : Val.lookup k kvs = some w) : tagsBy cd cl w = true :=
  Py.allRec_mem (f := fun kv => tagsBy cd cl kv.2) (fun ⟨_, _⟩ _ => rfl) ht (Val.lookup_mem h)

theorem frame_sub_scalar {T : Prop} (cfg : Cfg) (site : Site) (p : Path) {v : Val} (h : isPyScalar v = true)
    (w : Val) : FrameRel T (sub cfg site p v w) (sub cfg site p (toN0 v) (toN0 w)) := by
  rw [frame_toN0_scalar h, sub_scalar_left h, sub_scalar_left h]
  exact frame_err _ _

mutual
theorem frame_sub (cfg : Cfg) (hl : LeafTransform cfg) (cd cl : Cls) (site : Site) (p : Path) (v w : Val)
    (hv : tagsKids cd cl v = true) (hw : tagsKids cd cl w = true)
    (hs : site = Site.item → tagsBy cd cl v = true ∧ tagsBy cd cl w = true) :
    FrameRel (TagErr cfg cd cl) (sub cfg site p v w) (sub cfg site p (toN0 v) (toN0 w)) :=
  match v, hv, hs with
  | .list c xs, hv, hs => by
    cases w with
    | list c' ys =>
      rw [tagsKids] at hv hw
      rw [toN0, toN0, sub_lists, sub_lists]
      have hn0 : ¬(site = Site.item ∧ cfg.direct = true ∧ Cls.n0 = Cls.plain) := fun h => Cls.noConfusion h.2.2
      rw [if_neg hn0, if_neg hn0]
      -- the two `isinstance` checks of `direct_compare`
      by_cases hA : site = Site.item ∧ cfg.direct = true ∧ c = Cls.plain
      · rw [if_pos hA]
        exact Or.inr ⟨Or.inl ⟨hA.2.1, tagsBy_list (hs hA.1).1 ▸ hA.2.2⟩, Or.inl rfl⟩
      rw [if_neg hA]
      by_cases hB : site = Site.item ∧ cfg.direct = true ∧ c' = Cls.plain
      · rw [if_pos hB]
        exact Or.inr ⟨Or.inl ⟨hB.2.1, tagsBy_list (hs hB.1).2 ▸ hB.2.2⟩, Or.inr rfl⟩
      rw [if_neg hB]
      refine ite_rel (fun _ => frame_ok _ _) (fun _ => ?_)
      unfold listWalk
      refine ite_rel (fun _ => frame_directWalk cfg hl cd cl p (.list .n0 xs) (.list .n0 ys) 0 xs ys hv hw) (fun _ => ?_)
      rw [frame_keysOf hl, frame_keysOf hl]
      cases keysOf cfg p 0 xs with
      | error e => exact frame_err _ e
      | ok ks =>
        cases keysOf cfg p 0 ys with
        | error e => exact frame_err _ e
        | ok ko =>
          simp only [frame_mkEntries]
          exact frame_keyedWalk cfg hl cd cl p (.list .n0 xs) (.list .n0 ys) 0 xs ks (mkEntries 0 ks xs)
            (mkEntries 0 ko ys) hv (fun e he => tagsByL_mem ys _ hw (mkEntries_mem_val ko ys 0 e he))
    | _ => exact frame_err _ PyErr.Unsupported
  | .dict c kvs, hv, hs => by
    cases w with
    | dict c' kvs' =>
      rw [tagsKids] at hv hw
      rw [toN0, toN0, sub_dicts, sub_dicts]
      have hn0 : ¬(site = Site.item ∧ cfg.direct = false ∧ Cls.n0 = Cls.plain) := fun h => Cls.noConfusion h.2.2
      rw [if_neg hn0]
      -- `n0dict.compare` insists on an `n0dict`
      by_cases hA : site = Site.item ∧ cfg.direct = false ∧ c' = Cls.plain
      · rw [if_pos hA]
        exact Or.inr ⟨Or.inr ⟨hA.2.1, tagsBy_dict (hs hA.1).2 ▸ hA.2.2⟩, Or.inr rfl⟩
      rw [if_neg hA]
      exact frame_dictWalk cfg hl cd cl p (.dict .n0 kvs) (.dict .n0 kvs') kvs kvs' true kvs hv hw
    | _ => exact frame_err _ PyErr.Unsupported
  | .none, _, _ => by
    show FrameRel _ (sub cfg site p .none w) (sub cfg site p .none (toN0 w))
    rw [sub_none_left, sub_none_left]
    exact frame_ok _ _
  | .bool _, _, _ => frame_sub_scalar cfg site p rfl w
  | .int _, _, _ => frame_sub_scalar cfg site p rfl w
  | .flt _, _, _ => frame_sub_scalar cfg site p rfl w
  | .str _, _, _ => frame_sub_scalar cfg site p rfl w
termination_by structural v

theorem frame_dictWalk (cfg : Cfg) (hl : LeafTransform cfg) (cd cl : Cls) (p : Path) (sa oa : Val)
    (skvs okvs : List (Str × Val)) (still : Bool) (kvs : List (Str × Val))
    (hk : tagsByK cd cl kvs = true) (ho : tagsByK cd cl okvs = true) :
    FrameRel (TagErr cfg cd cl) (dictWalk cfg p sa oa skvs okvs still kvs)
      (dictWalk cfg p (toN0 sa) (toN0 oa) (toN0K skvs) (toN0K okvs) still (toN0K kvs)) :=
  match kvs, still, hk with
  | [], still, _ => by
    simp only [toN0K, dictWalk, frame_dictTail]
    exact frame_ok _ _
  | (k, v) :: rest, still, hk => by
    simp only [tagsByK, Bool.and_eq_true] at hk
    simp only [toN0K]
    rw [dictWalk_cons, dictWalk_cons, frame_lookup]
    cases hlk : Val.lookup k okvs with
    | none =>
      simp only [Option.map_none]
      exact frame_dictWalk cfg hl cd cl p sa oa skvs okvs still rest hk.2 ho
    | some w =>
      have hw := tagsByK_lookup okvs k w ho hlk
      simp only [Option.map_some, frame_classifyEntry hl (p ++ [PSeg.key k]) hk.1 hw]
      cases classifyEntry cfg (p ++ [PSeg.key k]) v w with
      | emit r s =>
        simp only [Act.mapV]
        exact frame_seqR (frame_ok _ r) (frame_dictWalk cfg hl cd cl p sa oa skvs okvs (still && s) rest hk.2 ho)
      | descend =>
        simp only [Act.mapV]
        exact frame_seqR
          (frame_sub cfg hl cd cl Site.entry (p ++ [PSeg.key k]) v w (tagsKids_of_tagsBy hk.1) (tagsKids_of_tagsBy hw)
            (fun h => by cases h))
          (frame_dictWalk cfg hl cd cl p sa oa skvs okvs still rest hk.2 ho)
termination_by structural kvs

theorem frame_directWalk (cfg : Cfg) (hl : LeafTransform cfg) (cd cl : Cls) (p : Path) (sa oa : Val) (i : Nat)
    (xs ys : List Val) (hx : tagsByL cd cl xs = true) (hy : tagsByL cd cl ys = true) :
    FrameRel (TagErr cfg cd cl) (directWalk cfg p sa oa i xs ys)
      (directWalk cfg p (toN0 sa) (toN0 oa) i (toN0L xs) (toN0L ys)) :=
  match xs, ys, i, hx, hy with
  | [], ys, i, _, _ => by
    simp only [toN0L, directWalk, frame_otherTail, FrameRel, Res.mapV, List.length_map, List.map_nil]
  | x :: xs, [], i, hx, _ => by
    simp only [tagsByL, Bool.and_eq_true] at hx
    simp only [toN0L]
    rw [directWalk_right_done, directWalk_right_done]
    exact frame_seqR (frame_ok _ _) (frame_directWalk cfg hl cd cl p sa oa (i + 1) xs [] hx.2 rfl)
  | x :: xs, y :: ys, i, hx, hy => by
    simp only [tagsByL, Bool.and_eq_true] at hx hy
    simp only [toN0L]
    rw [directWalk_cons, directWalk_cons]
    exact frame_seqR
      (frame_itemRes hl p _ _ sa oa hx.1 hy.1
        (frame_sub cfg hl cd cl Site.item (p ++ [PSeg.idx i]) x y (tagsKids_of_tagsBy hx.1) (tagsKids_of_tagsBy hy.1)
          (fun _ => ⟨hx.1, hy.1⟩)))
      (frame_directWalk cfg hl cd cl p sa oa (i + 1) xs ys hx.2 hy.2)
termination_by structural xs

theorem frame_keyedWalk (cfg : Cfg) (hl : LeafTransform cfg) (cd cl : Cls) (p : Path) (sa oa : Val) (i : Nat)
    (xs : List Val) (ks : List Str) (sr orr : List KE)
    (hx : tagsByL cd cl xs = true) (ho : ∀ e ∈ orr, tagsBy cd cl e.2.2 = true) :
    FrameRel (TagErr cfg cd cl) (keyedWalk cfg p sa oa i xs ks sr orr)
      (keyedWalk cfg p (toN0 sa) (toN0 oa) i (toN0L xs) ks (keMap sr) (keMap orr)) :=
  match xs, ks, sr, orr, i, hx, ho with
  | [], _, sr, orr, i, _, _ => by
    simp only [toN0L, keyedWalk, frame_keyedTail]
    exact frame_ok _ _
  | _ :: _, [], _, _, i, _, _ => by
    simp only [toN0L, keyedWalk]
    exact frame_err _ _
  | x :: xs, k :: ks, sr, orr, i, hx, ho => by
    simp only [tagsByL, Bool.and_eq_true] at hx
    simp only [toN0L]
    rw [keyedWalk_cons, keyedWalk_cons, frame_findKey]
    cases hf : findKey k orr with
    | none =>
      simp only [Option.map_none]
      exact frame_keyedWalk cfg hl cd cl p sa oa (i + 1) xs ks sr orr hx.2 ho
    | some jy =>
      obtain ⟨j, y⟩ := jy
      obtain ⟨k', hmem⟩ := findKey_mem orr k j y hf
      have hy := ho _ hmem
      simp only [Option.map_some, frame_eraseKey]
      exact frame_seqR
        (frame_itemRes hl p _ _ sa oa hx.1 hy
          (frame_sub cfg hl cd cl Site.item _ x y (tagsKids_of_tagsBy hx.1) (tagsKids_of_tagsBy hy)
            (fun _ => ⟨hx.1, hy⟩)))
        (frame_keyedWalk cfg hl cd cl p sa oa (i + 1) xs ks (eraseKey k sr) (eraseKey k orr) hx.2
          (fun e he => ho e (eraseKey_sub orr k e he)))
termination_by structural xs
end

theorem leafTransform_nil {cfg : Cfg} (h : cfg.tr = []) : LeafTransform cfg := by
  intro t ht; rw [h] at ht; cases ht

theorem frame_rootPair_toN0 {a b : Val} (h : RootPair a b) : RootPair (toN0 a) (toN0 b) := by
  unfold RootPair at h
  split at h
  · trivial
  · trivial
  · exact h.elim

/-- **Frame.**  `LeafTransform cfg` (in particular no transform: `leafTransform_nil`); roots `n0dict`/`n0dict` or `n0list`/`n0list`; below the roots every dictionary carries
the tag `cd` and every list the tag `cl`.  Then the run on `(a, b)` and the run on the recursively converted trees
agree (same exception, or the same result with the shown values converted), unless the run on `(a, b)` stops with
`AttributeError`/`TypeError` — possible only if `TagErr cfg cd cl`. -/
theorem frame_compareTop (cfg : Cfg) (hl : LeafTransform cfg) (cd cl : Cls) (a b : Val) (hr : RootPair a b)
    (ha : tagsKids cd cl a = true) (hb : tagsKids cd cl b = true) :
    FrameRel (TagErr cfg cd cl) (compareTop cfg a b) (compareTop cfg (toN0 a) (toN0 b)) := by
  rw [compareTop_eq_sub cfg a b hr, compareTop_eq_sub cfg _ _ (frame_rootPair_toN0 hr)]
  exact frame_sub cfg hl cd cl Site.entry [] a b ha hb (fun h => by cases h)

/-- when the walked mode never meets a plain container of the kind it checks, the run IS the run on the converted
trees -/
theorem frame_exact (cfg : Cfg) (hl : LeafTransform cfg) (cd cl : Cls) (hT : ¬ TagErr cfg cd cl) (a b : Val)
    (hr : RootPair a b) (ha : tagsKids cd cl a = true) (hb : tagsKids cd cl b = true) :
    compareTop cfg (toN0 a) (toN0 b) = (compareTop cfg a b).map (Res.mapV toN0) := by
  have h := frame_compareTop cfg hl cd cl a b hr ha hb
  cases hc : compareTop cfg a b with
  | ok r =>
    rw [hc] at h
    simp only [FrameRel] at h
    rw [h]; rfl
  | error e =>
    rw [hc] at h
    simp only [FrameRel] at h
    rcases h with h | h
    · rw [h]; rfl
    · exact absurd h.1 hT

/-- `compare()` on trees loaded by `n0dict(json_text)`: `n0dict`s everywhere, plain lists -/
theorem frame_keyed_loaded (cfg : Cfg) (hl : LeafTransform cfg) (hd : cfg.direct = false) (a b : Val)
    (hr : RootPair a b) (ha : tagsKids .n0 .plain a = true) (hb : tagsKids .n0 .plain b = true) :
    compareTop cfg (toN0 a) (toN0 b) = (compareTop cfg a b).map (Res.mapV toN0) :=
  frame_exact cfg hl .n0 .plain (by simp [TagErr, hd]) a b hr ha hb

/-- `direct_compare` on trees with `n0list`s and plain dictionaries -/
theorem frame_direct_plainDicts (cfg : Cfg) (hl : LeafTransform cfg) (hd : cfg.direct = true) (a b : Val)
    (hr : RootPair a b) (ha : tagsKids .plain .n0 a = true) (hb : tagsKids .plain .n0 b = true) :
    compareTop cfg (toN0 a) (toN0 b) = (compareTop cfg a b).map (Res.mapV toN0) :=
  frame_exact cfg hl .plain .n0 (by simp [TagErr, hd]) a b hr ha hb

theorem frame_verdict (cfg : Cfg) (hl : LeafTransform cfg) (cd cl : Cls) (hT : ¬ TagErr cfg cd cl) (a b : Val)
    (hr : RootPair a b) (ha : tagsKids cd cl a = true) (hb : tagsKids cd cl b = true) :
    verdict (compareTop cfg (toN0 a) (toN0 b)) = verdict (compareTop cfg a b) := by
  rw [frame_exact cfg hl cd cl hT a b hr ha hb]
  cases compareTop cfg a b <;> rfl

/-- the result does not depend on the class tags below the roots — FALSE -/
def frame_stmt : Prop :=
  ∀ (cfg : Cfg) (a b : Val), cfg.tr = [] → RootPair a b →
    compareTop cfg (toN0 a) (toN0 b) = (compareTop cfg a b).map (Res.mapV toN0)

/-- mixed tags: `{'a': n0dict()}` against `{'a': {}}` (a plain `dict`) is a type clash, one line; converted: nothing -/
theorem frame_clash_cex :
    (compareTop (Cfg.default Flags.init false) (.dict .n0 [(['a'], .dict .n0 [])]) (.dict .n0 [(['a'], .dict .plain [])])).map
        (·.diffs) = .ok 1 ∧
    (compareTop (Cfg.default Flags.init false) (toN0 (.dict .n0 [(['a'], .dict .n0 [])]))
        (toN0 (.dict .n0 [(['a'], .dict .plain [])]))).map (·.diffs) = .ok 0 := by
  decide +kernel

/-- `direct_compare`, a plain list nested in a list: `AttributeError`; converted: nothing to report -/
theorem frame_attr_cex :
    compareTop (Cfg.default Flags.init true) (.list .n0 [.list .plain [.int 1]]) (.list .n0 [.list .plain [.int 1]])
      = .error .AttributeError ∧
    (compareTop (Cfg.default Flags.init true) (toN0 (.list .n0 [.list .plain [.int 1]]))
        (toN0 (.list .n0 [.list .plain [.int 1]]))).map (·.diffs) = .ok 0 := by
  decide +kernel

/-- `compare`, a plain `dict` as a list item: `TypeError` (other must be `n0dict`); converted: nothing to report -/
theorem frame_type_cex :
    compareTop (Cfg.default Flags.init false) (.list .n0 [.dict .plain [(['k'], .int 1)]])
        (.list .n0 [.dict .plain [(['k'], .int 1)]]) = .error .TypeError ∧
    (compareTop (Cfg.default Flags.init false) (toN0 (.list .n0 [.dict .plain [(['k'], .int 1)]]))
        (toN0 (.list .n0 [.dict .plain [(['k'], .int 1)]]))).map (·.diffs) = .ok 0 := by
  decide +kernel

theorem frame_stmt_false : ¬ frame_stmt := by
  intro h
  have h1 := h (Cfg.default Flags.init true) (.list .n0 [.list .plain [.int 1]]) (.list .n0 [.list .plain [.int 1]]) rfl
    (by simp [RootPair])
  rw [frame_attr_cex.1] at h1
  have h2 := frame_attr_cex.2
  rw [h1] at h2
  cases h2

/-- non-vacuity of `frame_keyed_loaded`: `{'r': [1, {'k': [2]}]}` against `{'r': [{'k': [3]}, 1]}` with plain lists -/
def frLoadedA : Val := .dict .n0 [(['r'], .list .plain [.int 1, .dict .n0 [(['k'], .list .plain [.int 2])]])]
def frLoadedB : Val := .dict .n0 [(['r'], .list .plain [.dict .n0 [(['k'], .list .plain [.int 3])], .int 1])]

theorem frLoaded_example :
    tagsKids .n0 .plain frLoadedA = true ∧ tagsKids .n0 .plain frLoadedB = true ∧
    (compareTop (Cfg.default Flags.init false) frLoadedA frLoadedB).map (fun r => (r.diffs, r.selfUnique.map (·.path)))
      = .ok (2, [[.key ['r'], .idx2 1 0, .key ['k'], .idx 0]]) ∧
    (compareTop (Cfg.default Flags.init false) (toN0 frLoadedA) (toN0 frLoadedB)).map
        (fun r => (r.diffs, r.selfUnique.map (·.path)))
      = .ok (2, [[.key ['r'], .idx2 1 0, .key ['k'], .idx 0]]) := by
  decide +kernel

end N0.Compare
