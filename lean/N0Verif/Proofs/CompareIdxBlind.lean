import N0Verif.Proofs.CompareWalkEq
import N0Verif.Py.Lemmas
import N0Verif.Proofs.CompareDigits
/-!
`TrIdxBlind`: the transform lookup does not tell the index segments `[i]`, `[j]` and `[i]<>[j]` apart — the hypothesis
under which `transform` commutes with the keyed compare WITH a composite key (`Proofs/CompareTransformCk.lean`) — and a
syntactic criterion for it: no transform pattern contains the character `]` (`trck_idxBlind_of_noBracket`).
-/
namespace N0.Compare
open N0

/-- the transform lookup does not tell `[i]`, `[j]` and `[i]<>[j]` apart (no pattern names an index of a keyed list) -/
def TrIdxBlind (cfg : Cfg) : Prop :=
  ∀ (p : Path) (i j : Nat) (q : Path),
    transformAt cfg (p ++ .idx2 i j :: q) = transformAt cfg (p ++ .idx i :: q) ∧
    transformAt cfg (p ++ .idx2 i j :: q) = transformAt cfg (p ++ .idx j :: q)

theorem trck_lower_bracket (c : Char) (h : Py.toLowerAscii c = ']') : c = ']' := by
  unfold Py.toLowerAscii at h
  split at h
  · rename_i hc
    simp only [Bool.and_eq_true, decide_eq_true_eq] at hc
    have h1 : 65 ≤ c.toNat := hc.1
    have h2 : c.toNat ≤ 90 := hc.2
    have upper : ∀ n < 91, 65 ≤ n → Char.ofNat (n + 32) ≠ ']' := by decide
    exact absurd h (upper c.toNat (by omega) h1)
  · exact h

theorem trck_lower_ne {p a : Str} (hp : ']' ∉ p) (ha : ']' ∈ a) : Py.lower p ≠ Py.lower a := by
  intro he
  have h1 : ']' ∈ Py.lower a := by
    simp only [Py.lower, List.mem_map]
    exact ⟨']', ha, by decide⟩
  rw [← he] at h1
  simp only [Py.lower, List.mem_map] at h1
  obtain ⟨c, hc, hcl⟩ := h1
  exact hp (trck_lower_bracket c hcl ▸ hc)

/-- two lists of parts that differ in one part only, which contains `]` on both sides -/
def PartsBr (xs xs' : List Str) : Prop :=
  ∃ (L : List Str) (a a' : Str) (T : List Str), xs = L ++ a :: T ∧ xs' = L ++ a' :: T ∧ ']' ∈ a ∧ ']' ∈ a'

theorem trck_splitChar_prefix : ∀ (A X X' : Str), PartsBr (Py.splitChar '/' X) (Py.splitChar '/' X') →
    PartsBr (Py.splitChar '/' (A ++ X)) (Py.splitChar '/' (A ++ X'))
  | [], _, _, h => by simpa using h
  | a :: A, X, X', h => by
    obtain ⟨L, b, b', T, e1, e2, hb, hb'⟩ := trck_splitChar_prefix A X X' h
    simp only [List.cons_append, Py.splitChar, e1, e2]
    by_cases ha : a = '/'
    · simp only [ha, if_true]
      exact ⟨[] :: L, b, b', T, rfl, rfl, hb, hb'⟩
    · simp only [ha, if_false]
      cases L with
      | nil => exact ⟨[], a :: b, a :: b', T, rfl, rfl, List.mem_cons_of_mem _ hb, List.mem_cons_of_mem _ hb'⟩
      | cons l L' => exact ⟨(a :: l) :: L', b, b', T, rfl, rfl, hb, hb'⟩

theorem trck_natStr_noslash (n : Nat) : ∀ c ∈ natStr n, c ≠ '/' :=
  fun c hc => Py.digit_ne_char (natStr_all_digit n c hc) '/' (by decide)

theorem trck_idxSeg_noslash {s : PSeg} (hs : isIdx s = true) : ∀ c ∈ renderSeg s, c ≠ '/' := by
  intro c hc
  cases s with
  | key k => cases hs
  | idx i =>
    simp only [renderSeg, List.mem_cons, List.mem_append, List.not_mem_nil, or_false, or_assoc] at hc
    rcases hc with rfl | h | rfl
    · decide
    · exact trck_natStr_noslash i c h
    · decide
  | idx2 i j =>
    simp only [renderSeg, List.mem_cons, List.mem_append, List.not_mem_nil, or_false, or_assoc] at hc
    rcases hc with rfl | h | rfl | rfl | rfl | rfl | h | rfl
    · decide
    · exact trck_natStr_noslash i c h
    · decide
    · decide
    · decide
    · decide
    · exact trck_natStr_noslash j c h
    · decide

theorem trck_idxSeg_bracket {s : PSeg} (hs : isIdx s = true) : ']' ∈ renderSeg s := by
  cases s with
  | key k => cases hs
  | idx i => simp [renderSeg]
  | idx2 i j => simp [renderSeg]

theorem trck_render_parts (p : Path) (s s' : PSeg) (q : Path) (hs : isIdx s = true) (hs' : isIdx s' = true) :
    PartsBr (Py.splitChar '/' (render (p ++ s :: q))) (Py.splitChar '/' (render (p ++ s' :: q))) := by
  have e : ∀ z : PSeg, render (p ++ z :: q) = render p ++ (renderSeg z ++ render q) := by
    intro z; simp [render, List.flatMap_append, List.flatMap_cons]
  rw [e, e]
  apply trck_splitChar_prefix
  -- an index segment has no `/`: it goes in front of the first part of what follows
  rw [Py.splitChar_noSep_append '/' _ _ (trck_idxSeg_noslash hs), Py.splitChar_noSep_append '/' _ _ (trck_idxSeg_noslash hs')]
  cases hq : Py.splitChar '/' (render q) with
  | nil => exact absurd hq (Py.splitChar_ne_nil '/' _)
  | cons h t =>
    exact ⟨[], _, _, t, rfl, rfl, List.mem_append_left _ (trck_idxSeg_bracket hs),
      List.mem_append_left _ (trck_idxSeg_bracket hs')⟩

theorem trck_matchParts_br : ∀ (ps : List Str), (∀ p ∈ ps, ']' ∉ p) → ∀ (T : List Str) (a a' : Str) (L : List Str),
    ']' ∈ a → ']' ∈ a' → matchParts ps (T ++ a :: L) = matchParts ps (T ++ a' :: L)
  | [], _, _, _, _, _, _, _ => by simp [matchParts]
  | p :: ps, hps, T, a, a', L, ha, ha' => by
    have hp : ']' ∉ p := hps p List.mem_cons_self
    have hps' : ∀ z ∈ ps, ']' ∉ z := fun z hz => hps z (List.mem_cons_of_mem _ hz)
    cases T with
    | nil =>
      simp only [matchParts, List.nil_append, trck_lower_ne hp ha, trck_lower_ne hp ha', ne_eq, not_false_eq_true, and_true]
    | cons t T' =>
      simp only [matchParts, List.cons_append]
      rw [trck_matchParts_br ps hps' T' a a' L ha ha']

theorem trck_matchOne_br (pat : Str) (hpat : ']' ∉ pat) (x x' : Str)
    (h : PartsBr (Py.splitChar '/' x) (Py.splitChar '/' x')) : matchOne x pat = matchOne x' pat := by
  obtain ⟨L, a, a', T, e1, e2, ha, ha'⟩ := h
  unfold matchOne
  rw [e1, e2]
  simp only [List.reverse_append, List.reverse_cons, List.append_assoc, List.singleton_append]
  apply trck_matchParts_br _ _ _ _ _ _ ha ha'
  intro z hz
  have hz' : z ∈ Py.splitChar '/' pat := by simpa using hz
  exact fun hbr => hpat (Py.splitChar_mem '/' pat z hz' _ hbr)

theorem trck_xpathMatchFrom_br (x x' : Str) (h : PartsBr (Py.splitChar '/' x) (Py.splitChar '/' x')) :
    ∀ (pats : List Str) (n : Nat), (∀ p ∈ pats, ']' ∉ p) → xpathMatchFrom x n pats = xpathMatchFrom x' n pats
  | [], _, _ => rfl
  | p :: ps, n, hp => by
    simp only [xpathMatchFrom, trck_matchOne_br p (hp p List.mem_cons_self) x x' h,
      trck_xpathMatchFrom_br x x' h ps (n + 1) (fun z hz => hp z (List.mem_cons_of_mem _ hz))]

/-- no pattern contains `]` ⇒ `TrIdxBlind`: a transform whose patterns name no list index does not tell `[i]`, `[j]`
and `[i]<>[j]` apart, whatever the keys of the tree are.  The parts of a rendered path are `key[i][j]…`; replacing one
index segment `[i]<>[j]` by `[i]` or `[j]` changes one part only, which contains `]` before and after
(`trck_render_parts`); a pattern part without `]` is `*` (matches both) or a text that equals neither, since case
folding neither creates nor removes a `]` (`trck_matchParts_br`) -/
theorem trck_idxBlind_of_noBracket (cfg : Cfg) (h : ∀ t ∈ cfg.tr, ']' ∉ t.pat) : TrIdxBlind cfg := by
  have hp : ∀ z ∈ cfg.tr.map (·.pat), ']' ∉ z := by
    intro z hz
    obtain ⟨t, ht, rfl⟩ := List.mem_map.1 hz
    exact h t ht
  have key : ∀ (p : Path) (s s' : PSeg) (q : Path), isIdx s = true → isIdx s' = true →
      transformAt cfg (p ++ s :: q) = transformAt cfg (p ++ s' :: q) := by
    intro p s s' q hs hs'
    unfold transformAt transformAtStr
    rw [trck_xpathMatchFrom_br _ _ (trck_render_parts p s s' q hs hs') _ 0 hp]
  intro p i j q
  exact ⟨key p _ _ q rfl rfl, key p _ _ q rfl rfl⟩

end N0.Compare
