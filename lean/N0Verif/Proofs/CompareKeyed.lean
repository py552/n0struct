import N0Verif.Proofs.Compare
/-!
The default (keyed, unordered) comparison reports no difference iff the two trees are equal up to the order of the
non-record items of each list (`eqv`): the instance `exact_keyed` of `sub_exact`, lists aligned by key.  It needs
`KeyFaithful`: the key of a non-record list item (its JSON text with sorted keys, fixes C07-b, C07-c) identifies it up to
`deq`.  That is a statement about `json.dumps` and stays a hypothesis (proving it needs well-formed float lexemes and the
unambiguity of the JSON grammar); it cannot be dropped in the model (`dt_tight`: any two different leaves with one key are
reported; `float_lexeme_cex`: `.flt "1"` has the key of `.int 1`); on concrete trees it is discharged by evaluation.
-/
namespace N0.Compare
open N0

/-- a record = a dictionary item of a list -/
def isRec : Val → Bool
  | .dict _ _ => true
  | _ => false

/-- the same items up to `deq`, as multisets -/
def permD (xs ys : List Val) : Prop := ∀ z ∈ xs ++ ys, xs.countP (deq z) = ys.countP (deq z)

mutual
/-- equality up to the order of the non-record items of every list; non-record items are compared
with structural equality `deq` (as multisets), records are paired in order, dictionaries by key -/
def eqv : Val → Val → Prop
  | .list c xs, w =>
    match w with
    | .list c' ys => c = c' ∧ eqvRecs xs (ys.filter isRec) ∧
        permD (xs.filter (fun v => !isRec v)) (ys.filter (fun v => !isRec v))
    | _ => False
  | .dict c kvs, w =>
    match w with
    | .dict c' kvs' => c = c' ∧ eqvK kvs kvs' ∧ ∀ kv ∈ kvs', hasKey kv.1 kvs = true
    | _ => False
  | .none, w => Val.none = w
  | .bool b, w => Val.bool b = w
  | .int i, w => Val.int i = w
  | .flt r, w => Val.flt r = w
  | .str s, w => Val.str s = w
/-- the records of the left list, in order, are pairwise `eqv` to the given records -/
def eqvRecs : List Val → List Val → Prop
  | [], rs => rs = []
  | x :: xs, rs =>
    if isRec x then
      (match rs with
       | r :: rs' => eqv x r ∧ eqvRecs xs rs'
       | [] => False)
    else eqvRecs xs rs
/-- every entry of the left dictionary has an `eqv` partner under the same key -/
def eqvK : List (Str × Val) → List (Str × Val) → Prop
  | [], _ => True
  | (k, v) :: rest, o =>
    (match Val.lookup k o with
     | some w => eqv v w
     | none => False) ∧ eqvK rest o
end

mutual
/-- all non-record items of all lists of a tree, at any depth -/
def listItems : Val → List Val
  | .list _ xs => listItemsL xs
  | .dict _ kvs => listItemsK kvs
  | _ => []
def listItemsL : List Val → List Val
  | [] => []
  | x :: xs => (if isRec x then [] else [x]) ++ listItems x ++ listItemsL xs
def listItemsK : List (Str × Val) → List Val
  | [] => []
  | (_, v) :: rest => listItems v ++ listItemsK rest
end

/-- the key of the non-record list items — `json.dumps(item, sort_keys=True, default=repr)` — identifies them
exactly up to structural equality, and is never the empty string (the key of every record) -/
structure KeyFaithful (S : Val → Prop) : Prop where
  iff : ∀ x y, S x → S y → (jsonVal x = jsonVal y ↔ deq x y = true)
  ne : ∀ x, S x → jsonVal x ≠ []

/-- `KeyFaithful` on the non-record list items (at every depth) of the two trees -/
def KeyFaithfulOn (a b : Val) : Prop := KeyFaithful (fun z => z ∈ listItems a ++ listItems b)

/-- on concrete trees: the two conditions over the finite list of non-record items, which evaluation decides -/
theorem keyFaithfulOn_of_items {a b : Val}
    (h1 : ∀ x ∈ listItems a ++ listItems b, ∀ y ∈ listItems a ++ listItems b, (jsonVal x = jsonVal y ↔ deq x y = true))
    (h2 : ∀ x ∈ listItems a ++ listItems b, jsonVal x ≠ []) : KeyFaithfulOn a b :=
  ⟨fun x y hx hy => h1 x hx y hy, h2⟩

theorem eqv_list (c c' : Cls) (xs ys : List Val) :
    eqv (.list c xs) (.list c' ys) ↔ (c = c' ∧ eqvRecs xs (ys.filter isRec) ∧
      permD (xs.filter (fun v => !isRec v)) (ys.filter (fun v => !isRec v))) := by
  simp [eqv]

theorem eqv_dict (c c' : Cls) (kvs kvs' : List (Str × Val)) :
    eqv (.dict c kvs) (.dict c' kvs') ↔ (c = c' ∧ eqvK kvs kvs' ∧ ∀ kv ∈ kvs', hasKey kv.1 kvs = true) := by
  simp [eqv]

theorem eqv_leaf (a b : Val) (h : isPyScalar a = true ∨ a = .none) : eqv a b ↔ a = b := by
  cases a <;> simp_all [isPyScalar, eqv]

theorem eqv_tyOf {x y : Val} (h : eqv x y) : tyOf x = tyOf y := by
  cases x with
  | list c xs =>
    cases y with
    | list c' ys => rw [(eqv_list c c' xs ys).1 h |>.1]; rfl
    | _ => simp only [eqv] at h
  | dict c kvs =>
    cases y with
    | dict c' kvs' => rw [(eqv_dict c c' kvs kvs').1 h |>.1]; rfl
    | _ => simp only [eqv] at h
  | none => exact congrArg tyOf ((eqv_leaf _ y (.inr rfl)).1 h)
  | bool _ => exact congrArg tyOf ((eqv_leaf _ y (.inl rfl)).1 h)
  | int _ => exact congrArg tyOf ((eqv_leaf _ y (.inl rfl)).1 h)
  | flt _ => exact congrArg tyOf ((eqv_leaf _ y (.inl rfl)).1 h)
  | str _ => exact congrArg tyOf ((eqv_leaf _ y (.inl rfl)).1 h)

theorem eqv_kind (a b : Val) (h : tyOf a ≠ tyOf b) : ¬ eqv a b :=
  fun he => h (eqv_tyOf he)

theorem isRec_eq (x : Val) : isRec x = (match tyOf x with | .dict _ => true | _ => false) := by
  cases x <;> rfl

theorem isRec_congr {x y : Val} (h : tyOf x = tyOf y) : isRec x = isRec y := by
  rw [isRec_eq x, isRec_eq y, h]

theorem leafEq_eqv : LeafEq eqv := ⟨fun hs => eqv_leaf _ _ (.inl hs), eqv_tyOf⟩

/-- the key of a list item when there is no composite key -/
def key0 : Val → Str
  | .dict _ _ => []
  | v => jsonVal v

/-- … which is the pure key `keyP` -/
theorem keyP_noCk {cfg : Cfg} (h : cfg.ck = .many []) (v : Val) : keyP cfg v = key0 v := by
  cases v <;> simp [keyP, key0, h, PatArg.pats, recFields, fieldsKey]

theorem keysOf_noOpts {cfg : Cfg} (h : NoOpts cfg) (p : Path) (i : Nat) (xs : List Val) : keysOf cfg p i xs = .ok (xs.map key0) := by
  rw [keysOf_pure h.tr, funext (keyP_noCk h.ck)]

theorem key0_rec {v : Val} (h : isRec v = true) : key0 v = [] := by
  cases v <;> simp_all [isRec, key0]

theorem key0_nonrec {v : Val} (h : isRec v = false) : key0 v = jsonVal v := by
  cases v <;> simp_all [isRec, key0]

def vals (l : List KE) : List Val := l.map (fun e => e.2.2)

theorem mkEntries_vals0 : ∀ (ys : List Val) (i : Nat), vals (mkEntries i (ys.map key0) ys) = ys
  | [], _ => rfl
  | y :: ys, i => congrArg (y :: ·) (mkEntries_vals0 ys (i + 1))

theorem mkEntries_keys0 : ∀ (ys : List Val) (i : Nat),
    (mkEntries i (ys.map key0) ys).map (fun e => e.1) = ys.map key0
  | [], _ => rfl
  | y :: ys, i => congrArg (key0 y :: ·) (mkEntries_keys0 ys (i + 1))

theorem mkEntries_key0 : ∀ (ys : List Val) (i : Nat), ∀ e ∈ mkEntries i (ys.map key0) ys,
    e.1 = key0 e.2.2 ∧ e.2.2 ∈ ys
  | [], _, e, he => by simp [mkEntries] at he
  | y :: ys, i, e, he => by
    simp only [List.map_cons, mkEntries, List.mem_cons] at he
    cases he with
    | inl h => subst h; simp
    | inr h =>
      have := mkEntries_key0 ys (i + 1) e h
      exact ⟨this.1, List.mem_cons_of_mem _ this.2⟩

theorem kfind_some : ∀ (orr : List KE) (k : Str) (j : Nat) (y : Val), findKey k orr = some (j, y) →
    ∃ l1 l2, orr = l1 ++ (k, j, y) :: l2 ∧ (∀ e ∈ l1, e.1 ≠ k) ∧ eraseKey k orr = l1 ++ l2
  | [], _, _, _, h => by simp [findKey] at h
  | (k', i, v) :: rest, k, j, y, h => by
    simp only [findKey] at h
    split at h
    · rename_i hk
      cases h
      subst hk
      exact ⟨[], rest, rfl, by simp, by simp [eraseKey]⟩
    · rename_i hk
      obtain ⟨l1, l2, h1, h2, h3⟩ := kfind_some rest k j y h
      refine ⟨(k', i, v) :: l1, l2, by simp [h1], ?_, by simp [eraseKey, hk, h3]⟩
      intro e he
      cases he with
      | head => exact fun h' => hk h'.symm
      | tail _ he' => exact h2 e he'

theorem kerase_length (k : Str) : ∀ sr : List KE, sr.length ≤ (eraseKey k sr).length + 1
  | [] => by simp [eraseKey]
  | (k', i, v) :: rest => by
    simp only [eraseKey]
    split
    · simp
    · have := kerase_length k rest
      simp; omega

theorem kerase_keys {k : Str} {ks : List Str} : ∀ {sr : List KE}, sr.map (fun e => e.1) = k :: ks →
    (eraseKey k sr).map (fun e => e.1) = ks
  | [], h => by simp at h
  | (k', i, v) :: rest, h => by
    simp only [List.map_cons, List.cons.injEq] at h
    simp [eraseKey, h.1, h.2]

theorem keyedLeft_length_ge : ∀ (ks : List Str) (sr orr : List KE), sr.length ≤ (keyedLeft ks sr orr).1.length + ks.length
  | [], _, _ => Nat.le_refl _
  | k :: ks, sr, orr => by
    rw [keyedLeft]
    cases findKey k orr with
    | none => exact Nat.le_succ_of_le (keyedLeft_length_ge ks sr orr)
    | some jy =>
      have h1 := keyedLeft_length_ge ks (eraseKey k sr) (eraseKey k orr)
      have h2 := kerase_length k sr
      simp only [List.length_cons]; omega

theorem listItemsL_head {x : Val} {xs : List Val} {z : Val} (h : z ∈ listItems x) : z ∈ listItemsL (x :: xs) := by
  rw [listItemsL]; exact List.mem_append_left _ (List.mem_append_right _ h)

theorem listItemsL_tail {x : Val} {xs : List Val} {z : Val} (h : z ∈ listItemsL xs) : z ∈ listItemsL (x :: xs) := by
  rw [listItemsL]; exact List.mem_append_right _ h

theorem listItemsL_self {x : Val} {xs : List Val} (h : isRec x = false) : x ∈ listItemsL (x :: xs) := by
  rw [listItemsL, h]; exact List.mem_append_left _ (List.mem_append_left _ List.mem_cons_self)

theorem listItemsK_head {k : Str} {v : Val} {rest : List (Str × Val)} {z : Val} (h : z ∈ listItems v) :
    z ∈ listItemsK ((k, v) :: rest) := by
  rw [listItemsK]; exact List.mem_append_left _ h

theorem listItemsK_tail {k : Str} {v : Val} {rest : List (Str × Val)} {z : Val} (h : z ∈ listItemsK rest) :
    z ∈ listItemsK ((k, v) :: rest) := by
  rw [listItemsK]; exact List.mem_append_right _ h

theorem mem_listItemsL_cons {x : Val} {xs : List Val} {z : Val} (h : z ∈ listItemsL (x :: xs)) :
    (isRec x = false ∧ z = x) ∨ z ∈ listItems x ∨ z ∈ listItemsL xs := by
  rw [listItemsL, List.mem_append, List.mem_append] at h
  rcases h with (h | h) | h
  · cases hr : isRec x with
    | true => rw [hr] at h; cases h
    | false => rw [hr] at h; exact .inl ⟨rfl, List.mem_singleton.1 h⟩
  · exact .inr (.inl h)
  · exact .inr (.inr h)

theorem mem_listItemsK_cons {k : Str} {v : Val} {rest : List (Str × Val)} {z : Val}
    (h : z ∈ listItemsK ((k, v) :: rest)) : z ∈ listItems v ∨ z ∈ listItemsK rest := by
  rw [listItemsK, List.mem_append] at h; exact h

theorem listItemsL_mem : ∀ (ys : List Val) (y : Val), y ∈ ys →
    (∀ z ∈ listItems y, z ∈ listItemsL ys) ∧ (isRec y = false → y ∈ listItemsL ys)
  | [], _, h => by cases h
  | x :: xs, y, h => by
    cases h with
    | head => exact ⟨fun z hz => listItemsL_head hz, listItemsL_self⟩
    | tail _ h' =>
      have := listItemsL_mem xs y h'
      exact ⟨fun z hz => listItemsL_tail (this.1 z hz), fun hr => listItemsL_tail (this.2 hr)⟩

theorem listItemsK_lookup : ∀ (kvs : List (Str × Val)) (k : Str) (w : Val), Val.lookup k kvs = some w →
    ∀ z ∈ listItems w, z ∈ listItemsK kvs
  | [], _, _, h => by cases h
  | (k', v) :: rest, k, w, h => by
    rw [Val.lookup] at h
    intro z hz
    split at h
    · cases h; exact listItemsK_head hz
    · exact listItemsK_tail (listItemsK_lookup rest k w h z hz)

/-- what is known about a remaining item of the right list -/
def GoodV (S : Val → Prop) (y : Val) : Prop :=
  isN0 y = true ∧ (∀ z ∈ listItems y, S z) ∧ (isRec y = false → S y)

/-- the specification of one list level in terms of the keys: records pairwise in order, the keys of the
non-record items equal as multisets -/
def ListSpec (xs ys : List Val) : Prop :=
  eqvRecs xs (ys.filter isRec) ∧
    ((xs.filter (fun v => !isRec v)).map jsonVal).Perm ((ys.filter (fun v => !isRec v)).map jsonVal)

theorem filter_rec_keys (l : List KE) (hinv : ∀ e ∈ l, e.1 = key0 e.2.2) (hne : ∀ e ∈ l, e.1 ≠ []) :
    (vals l).filter isRec = [] := by
  rw [List.filter_eq_nil_iff]
  intro v hv
  simp only [vals, List.mem_map] at hv
  obtain ⟨e, he, rfl⟩ := hv
  intro hr
  exact hne e he ((hinv e he).trans (key0_rec hr))

theorem listSpec_nil (ys : List Val) : ListSpec [] ys ↔ ys = [] := by
  simp only [ListSpec, eqvRecs, List.filter_nil, List.map_nil, List.nil_perm, List.map_eq_nil_iff,
    List.filter_eq_nil_iff]
  constructor
  · intro ⟨h1, h2⟩
    cases ys with
    | nil => rfl
    | cons y ys =>
      have a := h1 y (by simp)
      have b := h2 y (by simp)
      simp at a b
      simp [a] at b
  · intro h; subst h; simp

theorem countP_deq_keys {S : Val → Prop} (hS : KeyFaithful S) {z : Val} (hz : S z) :
    ∀ l : List Val, (∀ w ∈ l, S w) → l.countP (deq z) = (l.map jsonVal).count (jsonVal z)
  | [], _ => rfl
  | w :: l, h => by
    have ih := countP_deq_keys hS hz l (fun v hv => h v (List.mem_cons_of_mem _ hv))
    have hw := hS.iff z w hz (h w List.mem_cons_self)
    simp only [List.countP_cons, List.map_cons, List.count_cons, ih]
    by_cases hd : deq z w = true
    · have := hw.2 hd
      simp [hd, this]
    · have hne : ¬ jsonVal z = jsonVal w := fun e => hd (hw.1 e)
      have hne' : ¬ jsonVal w = jsonVal z := fun e => hne e.symm
      simp [hd, hne']

/-- under `KeyFaithful`, "the same items up to `deq`" is "the same keys" -/
theorem permD_iff_keys {S : Val → Prop} (hS : KeyFaithful S) (A B : List Val) (hA : ∀ z ∈ A, S z) (hB : ∀ z ∈ B, S z) :
    permD A B ↔ (A.map jsonVal).Perm (B.map jsonVal) := by
  rw [List.perm_iff_count]
  constructor
  · intro h k
    by_cases hk : k ∈ (A ++ B).map jsonVal
    · simp only [List.mem_map] at hk
      obtain ⟨z, hz, rfl⟩ := hk
      have hSz : S z := by
        rcases List.mem_append.1 hz with h1 | h1
        · exact hA z h1
        · exact hB z h1
      rw [← countP_deq_keys hS hSz A hA, ← countP_deq_keys hS hSz B hB]
      exact h z hz
    · have h1 : k ∉ A.map jsonVal := fun hm => hk (by simp only [List.map_append, List.mem_append]; exact Or.inl hm)
      have h2 : k ∉ B.map jsonVal := fun hm => hk (by simp only [List.map_append, List.mem_append]; exact Or.inr hm)
      rw [List.count_eq_zero_of_not_mem h1, List.count_eq_zero_of_not_mem h2]
  · intro h z hz
    have hSz : S z := by
      rcases List.mem_append.1 hz with h1 | h1
      · exact hA z h1
      · exact hB z h1
    rw [countP_deq_keys hS hSz A hA, countP_deq_keys hS hSz B hB]
    exact h (jsonVal z)

theorem listItemsL_nonrec (xs : List Val) : ∀ z ∈ xs.filter (fun v => !isRec v), z ∈ listItemsL xs := by
  intro z hz
  simp only [List.mem_filter, Bool.not_eq_true'] at hz
  exact (listItemsL_mem xs z hz.1).2 hz.2

theorem eqv_list_keys {S : Val → Prop} (hS : KeyFaithful S) (c c' : Cls) (xs ys : List Val)
    (hx : ∀ z ∈ listItemsL xs, S z) (hy : ∀ z ∈ listItemsL ys, S z) :
    eqv (.list c xs) (.list c' ys) ↔ (c = c' ∧ ListSpec xs ys) := by
  rw [eqv_list, ListSpec, permD_iff_keys hS _ _ (fun z hz => hx z (listItemsL_nonrec xs z hz))
    (fun z hz => hy z (listItemsL_nonrec ys z hz))]

mutual
theorem deq_eqv {S : Val → Prop} (hS : KeyFaithful S) (x y : Val) (hx : ∀ z ∈ listItems x, S z)
    (hy : ∀ z ∈ listItems y, S z) (h : deq x y = true) : eqv x y :=
  match x, hx, h with
  | .list c xs, hx, h => by
    obtain ⟨ys, rfl⟩ := tyOf_list_eq (deq_tyOf h)
    rw [deq, Bool.and_eq_true] at h
    obtain ⟨h1, h2⟩ := deqL_spec hS xs ys hx hy h.2
    rw [eqv_list_keys hS c c xs ys hx hy]
    exact ⟨rfl, h1, by rw [h2]⟩
  | .dict c kvs, hx, h => by
    obtain ⟨kvs', rfl⟩ := tyOf_dict_eq (deq_tyOf h)
    rw [deq, Bool.and_eq_true, Bool.and_eq_true, List.all_eq_true] at h
    rw [eqv_dict]
    exact ⟨rfl, deqK_spec hS kvs kvs' hx hy h.1.2, h.2⟩
  | .none, _, h => (eqv_leaf _ y (.inr rfl)).2 ((deq_leaf (.inr rfl)).1 h)
  | .bool _, _, h => (eqv_leaf _ y (.inl rfl)).2 ((deq_leaf (.inl rfl)).1 h)
  | .int _, _, h => (eqv_leaf _ y (.inl rfl)).2 ((deq_leaf (.inl rfl)).1 h)
  | .flt _, _, h => (eqv_leaf _ y (.inl rfl)).2 ((deq_leaf (.inl rfl)).1 h)
  | .str _, _, h => (eqv_leaf _ y (.inl rfl)).2 ((deq_leaf (.inl rfl)).1 h)
termination_by structural x

theorem deqL_spec {S : Val → Prop} (hS : KeyFaithful S) (xs ys : List Val) (hx : ∀ z ∈ listItemsL xs, S z)
    (hy : ∀ z ∈ listItemsL ys, S z) (h : deqL xs ys = true) :
    eqvRecs xs (ys.filter isRec) ∧
      (xs.filter (fun v => !isRec v)).map jsonVal = (ys.filter (fun v => !isRec v)).map jsonVal :=
  match xs, ys, hx, hy, h with
  | [], [], _, _, _ => by simp [eqvRecs]
  | [], _ :: _, _, _, h => by simp [deqL] at h
  | _ :: _, [], _, _, h => by simp [deqL] at h
  | x :: xs, y :: ys, hx, hy, h => by
    simp only [deqL, Bool.and_eq_true] at h
    have hx1 : ∀ z ∈ listItems x, S z := fun z hz => hx z (listItemsL_head hz)
    have hx2 : ∀ z ∈ listItemsL xs, S z := fun z hz => hx z (listItemsL_tail hz)
    have hy1 : ∀ z ∈ listItems y, S z := fun z hz => hy z (listItemsL_head hz)
    have hy2 : ∀ z ∈ listItemsL ys, S z := fun z hz => hy z (listItemsL_tail hz)
    obtain ⟨ih1, ih2⟩ := deqL_spec hS xs ys hx2 hy2 h.2
    have hrr : isRec x = isRec y := isRec_congr (deq_tyOf h.1)
    cases hr : isRec x with
    | true =>
      have hry : isRec y = true := by rw [← hrr]; exact hr
      have := deq_eqv hS x y hx1 hy1 h.1
      simp [eqvRecs, hr, hry, this, ih1, ih2]
    | false =>
      have hry : isRec y = false := by rw [← hrr]; exact hr
      have hSx : S x := hx x (listItemsL_self hr)
      have hSy : S y := hy y (listItemsL_self hry)
      have hk : jsonVal x = jsonVal y := (hS.iff x y hSx hSy).2 h.1
      simp [eqvRecs, hr, hry, ih1, ih2, hk]
termination_by structural xs

theorem deqK_spec {S : Val → Prop} (hS : KeyFaithful S) (kvs o : List (Str × Val)) (hx : ∀ z ∈ listItemsK kvs, S z)
    (hy : ∀ z ∈ listItemsK o, S z) (h : deqK kvs o = true) : eqvK kvs o :=
  match kvs, hx, h with
  | [], _, _ => by simp [eqvK]
  | (k, v) :: rest, hx, h => by
    simp only [deqK, Bool.and_eq_true] at h
    have hx1 : ∀ z ∈ listItems v, S z := fun z hz => hx z (listItemsK_head hz)
    have hx2 : ∀ z ∈ listItemsK rest, S z := fun z hz => hx z (listItemsK_tail hz)
    have ih := deqK_spec hS rest o hx2 hy h.2
    cases hl : Val.lookup k o with
    | none => rw [hl] at h; simp at h
    | some w =>
      rw [hl] at h
      have := deq_eqv hS v w hx1 (fun z hz => hy z (listItemsK_lookup o k w hl z hz)) h.1
      simp [eqvK, hl, this, ih]
termination_by structural kvs
end

theorem listSpec_none {x : Val} {xs : List Val} {orr : List KE} (ho : ∀ e ∈ orr, e.1 = key0 e.2.2)
    (hf : findKey (key0 x) orr = none) : ¬ ListSpec (x :: xs) (vals orr) := by
  have hne := findKey_none_ne hf
  cases hrec : isRec x with
  | true =>
    -- a record needs a record on the right, and every record there has the empty key
    rw [key0_rec hrec] at hne
    simp [ListSpec, eqvRecs, hrec, filter_rec_keys orr ho hne]
  | false =>
    intro ⟨_, hp⟩
    have hm : jsonVal x ∈ ((x :: xs).filter (fun v => !isRec v)).map jsonVal := by simp [hrec]
    obtain ⟨y, hy, hk⟩ := List.mem_map.1 (hp.subset hm)
    obtain ⟨hy, hry⟩ := List.mem_filter.1 hy
    obtain ⟨e, he, rfl⟩ := List.mem_map.1 hy
    exact hne e he (by rw [ho e he, key0_nonrec (by simpa using hry), key0_nonrec hrec, hk])

/-- `y` is the first remaining item of the right list with the key of `x`: the specification holds iff `x` and `y` are
equivalent and it holds of the rest without `y`.  (For a non-record `x` the key identifies `y` up to `deq`, so the two
are equivalent anyway.) -/
theorem listSpec_some {S : Val → Prop} (hS : KeyFaithful S) {x y : Val} {xs : List Val} {orr : List KE} {j : Nat}
    (ho : ∀ e ∈ orr, e.1 = key0 e.2.2 ∧ GoodV S e.2.2) (hix : ∀ z ∈ listItems x, S z) (hxS : isRec x = false → S x)
    (hf : findKey (key0 x) orr = some (j, y)) :
    GoodV S y ∧ (∀ e ∈ eraseKey (key0 x) orr, e ∈ orr) ∧
      (ListSpec (x :: xs) (vals orr) ↔ (eqv x y ∧ ListSpec xs (vals (eraseKey (key0 x) orr)))) := by
  obtain ⟨l1, l2, horr, hl1, her⟩ := kfind_some orr _ j y hf
  have hmem : (key0 x, j, y) ∈ orr := by rw [horr]; exact List.mem_append_right _ List.mem_cons_self
  have hky : key0 x = key0 y := (ho _ hmem).1
  have hy : GoodV S y := (ho _ hmem).2
  refine ⟨hy, eraseKey_sub orr _, ?_⟩
  rw [her, horr]
  cases hrec : isRec x with
  | true =>
    have hry : isRec y = true := by
      cases hry : isRec y with
      | true => rfl
      | false => exact absurd ((key0_nonrec hry).symm.trans (hky.symm.trans (key0_rec hrec))) (hS.ne y (hy.2.2 hry))
    rw [key0_rec hrec] at hl1
    have hn : (vals l1).filter isRec = [] :=
      filter_rec_keys l1 (fun e he => (ho e (horr ▸ List.mem_append_left _ he)).1) hl1
    simp only [vals] at hn
    simp only [ListSpec, vals, List.map_append, List.map_cons, List.filter_append, List.filter_cons, hrec, hry, hn,
      eqvRecs, if_true, List.nil_append, Bool.not_true, Bool.false_eq_true, if_false]
    exact and_assoc
  | false =>
    have hry : isRec y = false := by
      cases hry : isRec y with
      | false => rfl
      | true => exact absurd ((key0_nonrec hrec).symm.trans (hky.trans (key0_rec hry))) (hS.ne x (hxS hrec))
    have hk : jsonVal x = jsonVal y := by rw [← key0_nonrec hrec, hky, key0_nonrec hry]
    have hxy : eqv x y := deq_eqv hS x y hix hy.2.1 ((hS.iff x y (hxS hrec) (hy.2.2 hry)).1 hk)
    simp only [ListSpec, vals, List.map_append, List.map_cons, List.filter_append, List.filter_cons, hrec, hry,
      eqvRecs, Bool.false_eq_true, if_false, Bool.not_false, if_true, hk, hxy, true_and]
    exact and_congr_right fun _ =>
      ⟨fun hp => (List.perm_cons (jsonVal y)).1 (hp.trans List.perm_middle),
       fun hp => ((List.perm_cons (jsonVal y)).2 hp).trans List.perm_middle.symm⟩

/-- the common keys carry equivalent values (keys missing on the right are skipped) -/
def commonP : List (Str × Val) → List (Str × Val) → Prop
  | [], _ => True
  | (k, v) :: rest, o =>
    (match Val.lookup k o with
     | some w => eqv v w
     | none => True) ∧ commonP rest o

theorem eqvK_eq_common : ∀ (kvs o : List (Str × Val)),
    eqvK kvs o ↔ (commonP kvs o ∧ kvs.all (fun kv => hasKey kv.1 o) = true)
  | [], _ => by simp [eqvK, commonP]
  | (k, v) :: rest, o => by
    simp only [eqvK, commonP, List.all_cons, hasKey, eqvK_eq_common rest o, Bool.and_eq_true]
    cases hl : Val.lookup k o with
    | none => simp
    | some w =>
      simp only [Option.isSome_some, true_and]
      exact and_assoc.symm

theorem commonP_pairs (okvs : List (Str × Val)) : ∀ kvs : List (Str × Val),
    commonP kvs okvs ↔ ∀ a ∈ dictPairs okvs kvs, eqv a.2.1 a.2.2
  | [] => ⟨(fun _ _ h => nomatch h), fun _ => trivial⟩
  | (k, v) :: rest => by
    rw [commonP, dictPairs, commonP_pairs okvs rest]
    cases Val.lookup k okvs with
    | none => exact and_iff_right trivial
    | some w =>
      exact (List.forall_mem_cons (p := fun a : AP => eqv a.2.1 a.2.2) (a := (PSeg.key k, v, w))
        (l := dictPairs okvs rest)).symm

/-- `ListSpec` along the keyed alignment: the aligned pairs are equivalent and nobody is left over -/
theorem listSpec_pairs {S : Val → Prop} (hS : KeyFaithful S) (p : Path) : ∀ (xs : List Val) (sr orr : List KE) (i : Nat),
    (∀ z ∈ listItemsL xs, S z) → (∀ e ∈ orr, e.1 = key0 e.2.2 ∧ GoodV S e.2.2) → sr.map (fun e => e.1) = xs.map key0 →
    (ListSpec xs (vals orr) ↔ (∀ a ∈ keyedPairs i xs (xs.map key0) orr, eqv a.2.1 a.2.2) ∧
      (keyedTail p (keyedLeft (xs.map key0) sr orr).1 (keyedLeft (xs.map key0) sr orr).2).diffs = 0)
  | [], sr, orr, i, _, _, hsr => by
    simp only [List.map_nil, List.map_eq_nil_iff] at hsr
    subst hsr
    rw [listSpec_nil]
    simp [keyedPairs, keyedLeft, keyedTail, vals]
  | x :: xs, sr, orr, i, hix, ho, hsr => by
    have hix1 : ∀ z ∈ listItems x, S z := fun z hz => hix z (listItemsL_head hz)
    have hix2 : ∀ z ∈ listItemsL xs, S z := fun z hz => hix z (listItemsL_tail hz)
    rw [List.map_cons, keyedPairs, keyedLeft]
    cases hf : findKey (key0 x) orr with
    | none =>
      -- the entry of `x` stays in `sr` to the end and is reported
      have hge := keyedLeft_length_ge (xs.map key0) sr orr
      have hlen : sr.length = xs.length + 1 := by simpa using congrArg List.length hsr
      refine ⟨fun hsp => absurd hsp (listSpec_none (fun e he => (ho e he).1) hf), fun h => ?_⟩
      have h0 := h.2
      simp only [keyedTail, List.length_map] at h0 hge
      omega
    | some jy =>
      obtain ⟨j, y⟩ := jy
      obtain ⟨_, hsub, hspec⟩ := listSpec_some (xs := xs) hS ho hix1 (fun hr => hix x (listItemsL_self hr)) hf
      rw [hspec, listSpec_pairs hS p xs (eraseKey (key0 x) sr) (eraseKey (key0 x) orr) (i + 1) hix2
        (fun e he => ho e (hsub e he)) (kerase_keys hsr), List.forall_mem_cons, and_assoc]

theorem listItemsK_of_mem {z : Val} : ∀ {kvs : List (Str × Val)} {kv : Str × Val}, kv ∈ kvs → z ∈ listItems kv.2 →
    z ∈ listItemsK kvs
  | (k, v) :: rest, kv, hm, hz => by
    rcases List.mem_cons.1 hm with rfl | hm
    · exact listItemsK_head hz
    · exact listItemsK_tail (listItemsK_of_mem hm hz)

/-- the default comparison is exact for `eqv` on converted trees whose non-record list items are identified by their
keys: lists are aligned by key -/
theorem exact_keyed {cfg : Cfg} (h : NoOpts cfg) (hd : cfg.direct = false) {S : Val → Prop} (hS : KeyFaithful S) :
    Exact cfg (fun v => isN0 v = true ∧ ∀ z ∈ listItems v, S z) eqv where
  leaf := leafEq_eqv
  none := rfl
  list p c xs c' ys hv hw hc := by
    subst hc
    obtain ⟨rfl, hxs⟩ := isN0_list.1 hv.1
    have hiv := hv.2
    have hys := (isN0_list.1 hw.1).2
    have ho : ∀ e ∈ mkEntries 0 (ys.map key0) ys, e.1 = key0 e.2.2 ∧ GoodV S e.2.2 := fun e he =>
      have hm := mkEntries_key0 ys 0 e he
      have hl := listItemsL_mem ys e.2.2 hm.2
      ⟨hm.1, isN0L_mem ys _ hys hm.2, fun z hz => hw.2 z (hl.1 z hz), fun hr => hw.2 _ (hl.2 hr)⟩
    refine ⟨rfl, keyedPairs 0 xs (xs.map key0) (mkEntries 0 (ys.map key0) ys),
      keyedTail p (keyedLeft (xs.map key0) (mkEntries 0 (xs.map key0) xs) (mkEntries 0 (ys.map key0) ys)).1
        (keyedLeft (xs.map key0) (mkEntries 0 (xs.map key0) xs) (mkEntries 0 (ys.map key0) ys)).2, ?_, ?_, ?_⟩
    · rw [listWalk_keyed hd, keysOf_noOpts h, keysOf_noOpts h]
      exact keyedWalk_pairs cfg p _ _ xs _ 0 _ _ (List.length_map _)
    · intro a ha
      obtain ⟨_, hx, k, j, hy⟩ := keyedPairs_mem ha
      have hl := listItemsL_mem xs a.2.1 hx
      exact ⟨hx, ⟨isN0L_mem xs _ hxs hx, fun z hz => hiv z (hl.1 z hz)⟩, (ho _ hy).2.1, (ho _ hy).2.2.1⟩
    · have := listSpec_pairs hS p xs _ _ 0 hiv ho (mkEntries_keys0 xs 0)
      rw [mkEntries_vals0] at this
      rw [eqv_list_keys hS _ _ xs ys hiv hw.2, and_iff_right rfl, this]
  dict {c kvs c' kvs'} hv hw hc := by
    subst hc
    obtain ⟨rfl, hk⟩ := isN0_dict.1 hv.1
    refine ⟨rfl, ?_, ?_⟩
    · intro a ha
      obtain ⟨k, _, hm, hl⟩ := dictPairs_mem ha
      exact ⟨⟨isN0K_mem kvs _ hk hm, fun z hz => hv.2 z (listItemsK_of_mem hm hz)⟩,
        isN0K_lookup kvs' k _ (isN0_dict.1 hw.1).2 hl, fun z hz => hw.2 z (listItemsK_lookup kvs' k _ hl z hz)⟩
    · rw [eqv_dict, eqvK_eq_common, commonP_pairs, and_iff_right rfl, and_assoc]
      simp only [List.all_eq_true]

theorem sub_keyed_exact (cfg : Cfg) (h : NoOpts cfg) (hd : cfg.direct = false) (S : Val → Prop) (hS : KeyFaithful S)
    (site : Site) (p : Path) (v w : Val) (hv : isN0 v = true) (hw : isN0 w = true)
    (hiv : ∀ z ∈ listItems v, S z) (hiw : ∀ z ∈ listItems w, S z)
    (ht : tyOf v = tyOf w) (hs : isPyScalar v = false) :
      ∃ r, sub cfg site p v w = .ok r ∧ (r.diffs = 0 ↔ eqv v w) :=
  sub_exact h (exact_keyed h hd hS) v site p w ⟨hv, hiv⟩ ⟨hw, hiw⟩ ht hs

theorem dictWalk_keyed_exact (cfg : Cfg) (h : NoOpts cfg) (hd : cfg.direct = false) (S : Val → Prop) (hS : KeyFaithful S)
    (p : Path) (sa oa : Val) (skvs okvs : List (Str × Val))
    (kvs : List (Str × Val)) (still : Bool) (hk : isN0K kvs = true) (ho : isN0K okvs = true)
    (hik : ∀ z ∈ listItemsK kvs, S z) (hio : ∀ z ∈ listItemsK okvs, S z) :
      ∃ r, dictWalk cfg p sa oa skvs okvs still kvs = .ok r ∧
        (r.diffs = 0 ↔ (commonP kvs okvs ∧ (dictTail cfg p sa oa skvs okvs true).diffs = 0)) := by
  rw [dictWalk_pairs, commonP_pairs]
  refine seqAll_exact (E := fun a : AP => eqv a.2.1 a.2.2) fun a ha => ?_
  obtain ⟨k, _, hm, hl⟩ := dictPairs_mem ha
  exact entryOf_exact h leafEq_eqv p a (sub_keyed_exact cfg h hd S hS Site.entry _ _ _ (isN0K_mem kvs _ hk hm)
    (isN0K_lookup okvs k _ ho hl) (fun z hz => hik z (listItemsK_of_mem hm hz))
    (fun z hz => hio z (listItemsK_lookup okvs k _ hl z hz)))

/-- the default comparison says "equal" exactly for trees that are equal up to the order of the
non-record items of each list -/
theorem default_exact (fl : Flags) (a b : Val) (ha : isN0 a = true) (hb : isN0 b = true) (hr : RootPair a b)
    (hc : KeyFaithfulOn a b) :
    ∃ r, compareTop (Cfg.default fl false) a b = .ok r ∧ (r.diffs = 0 ↔ eqv a b) := by
  rw [compareTop_eq_sub _ a b hr]
  exact sub_keyed_exact _ (noOpts_default fl false) rfl _ hc Site.entry [] a b ha hb
    (fun z hz => List.mem_append_left _ hz) (fun z hz => List.mem_append_right _ hz)
    (rootPair_ty hr).1 (rootPair_ty hr).2

mutual
theorem eqv_refl_uniq (v : Val) (hu : uniqKeys v = true) : eqv v v :=
  match v, hu with
  | .list c xs, hu => (eqv_list c c xs xs).2 ⟨rfl, eqvRecs_refl_uniq xs hu, fun _ _ => rfl⟩
  | .dict c kvs, hu => by
    rw [uniqKeys, Bool.and_eq_true] at hu
    exact (eqv_dict c c kvs kvs).2 ⟨rfl,
      eqvK_refl_uniq kvs kvs hu.2 (fun kv hkv => noDupK_lookup kvs kv.1 kv.2 hu.1 hkv),
      fun kv hkv => hasKey_of_mem kvs kv.1 kv.2 hkv⟩
  | .none, _ => (eqv_leaf _ _ (.inr rfl)).2 rfl
  | .bool _, _ => (eqv_leaf _ _ (.inl rfl)).2 rfl
  | .int _, _ => (eqv_leaf _ _ (.inl rfl)).2 rfl
  | .flt _, _ => (eqv_leaf _ _ (.inl rfl)).2 rfl
  | .str _, _ => (eqv_leaf _ _ (.inl rfl)).2 rfl
termination_by structural v

theorem eqvRecs_refl_uniq (xs : List Val) (hu : uniqKeysL xs = true) : eqvRecs xs (xs.filter isRec) :=
  match xs, hu with
  | [], _ => by simp [eqvRecs]
  | x :: xs, hu => by
    simp only [uniqKeysL, Bool.and_eq_true] at hu
    have ih := eqvRecs_refl_uniq xs hu.2
    cases hr : isRec x with
    | true =>
      have hx := eqv_refl_uniq x hu.1
      simp [eqvRecs, hr, hx, ih]
    | false => simp [eqvRecs, hr, ih]
termination_by structural xs

theorem eqvK_refl_uniq (kvs o : List (Str × Val)) (hu : uniqKeysK kvs = true)
    (hl : ∀ kv ∈ kvs, Val.lookup kv.1 o = some kv.2) : eqvK kvs o :=
  match kvs, hu, hl with
  | [], _, _ => by simp [eqvK]
  | (k, v) :: rest, hu, hl => by
    simp only [uniqKeysK, Bool.and_eq_true] at hu
    have h1 := hl (k, v) (by simp)
    simp only at h1
    have hx := eqv_refl_uniq v hu.1
    have ih := eqvK_refl_uniq rest o hu.2 (fun kv hkv => hl kv (List.mem_cons_of_mem _ hkv))
    simp [eqvK, h1, hx, ih]
termination_by structural kvs
end

mutual
theorem uniq_items (v : Val) (hu : uniqKeys v = true) : ∀ z ∈ listItems v, uniqKeys z = true :=
  match v, hu with
  | .list c xs, hu => uniq_itemsL xs hu
  | .dict c kvs, hu => by
    rw [uniqKeys, Bool.and_eq_true] at hu
    exact uniq_itemsK kvs hu.2
  | .none, _ => fun _ h => nomatch h
  | .bool _, _ => fun _ h => nomatch h
  | .int _, _ => fun _ h => nomatch h
  | .flt _, _ => fun _ h => nomatch h
  | .str _, _ => fun _ h => nomatch h
termination_by structural v

theorem uniq_itemsL (xs : List Val) (hu : uniqKeysL xs = true) : ∀ z ∈ listItemsL xs, uniqKeys z = true :=
  match xs, hu with
  | [], _ => fun _ h => nomatch h
  | x :: xs, hu => by
    rw [uniqKeysL, Bool.and_eq_true] at hu
    intro z hz
    rcases mem_listItemsL_cons hz with ⟨_, rfl⟩ | hz | hz
    · exact hu.1
    · exact uniq_items x hu.1 z hz
    · exact uniq_itemsL xs hu.2 z hz
termination_by structural xs

theorem uniq_itemsK (kvs : List (Str × Val)) (hu : uniqKeysK kvs = true) : ∀ z ∈ listItemsK kvs, uniqKeys z = true :=
  match kvs, hu with
  | [], _ => fun _ h => nomatch h
  | (k, v) :: rest, hu => by
    rw [uniqKeysK, Bool.and_eq_true] at hu
    intro z hz
    rcases mem_listItemsK_cons hz with hz | hz
    · exact uniq_items v hu.1 z hz
    · exact uniq_itemsK rest hu.2 z hz
termination_by structural kvs
end

/-- a leaf: a scalar or `None` -/
def DtLeaf (x : Val) : Prop := isPyScalar x = true ∨ x = .none

theorem dt_leaf_nonrec {x : Val} (h : DtLeaf x) : isRec x = false := by
  rcases h with h | h
  · cases x <;> simp_all [isPyScalar, isRec]
  · subst h; rfl

theorem dt_classify_ty_ne {cfg : Cfg} (h : NoOpts cfg) (p pne pdt : Path) (sa oa : Val) {x y : Val}
    (ht : tyOf x ≠ tyOf y) :
    ∃ r s, classifyItem cfg p pne pdt sa oa x y = .emit r s ∧ r.diffs = 1 := by
  rw [classifyItem_noOpts h, itemCore, if_neg ht]
  exact iteInduction (motive := fun a : Act => ∃ r s, a = Act.emit r s ∧ r.diffs = 1)
    (fun _ => ⟨_, _, rfl, rfl⟩) (fun _ => ⟨_, _, rfl, rfl⟩)

theorem dt_classify_leaf_ne {cfg : Cfg} (h : NoOpts cfg) (p pne pdt : Path) (sa oa : Val) {x y : Val}
    (hx : DtLeaf x) (hy : DtLeaf y) (hne : x ≠ y) :
    ∃ r s, classifyItem cfg p pne pdt sa oa x y = .emit r s ∧ r.diffs = 1 := by
  by_cases ht : tyOf x = tyOf y
  · -- two leaves of one type: scalars, since `None` is the only value of its type
    have hs : isPyScalar x = true := by
      rcases hx with hx | rfl
      · exact hx
      · rcases hy with hy | rfl
        · cases y with
          | none => exact hy
          | _ => cases ht
        · exact absurd rfl hne
    rw [classifyItem_noOpts h, itemCore, if_pos ht, if_pos hs, if_pos hne]
    exact ⟨_, _, rfl, rfl⟩
  · exact dt_classify_ty_ne h p pne pdt sa oa ht

/-- the default comparison of two two-item lists whose four keys coincide and whose crossed pairs are both
reported: two lines -/
theorem dt_two_by_two (fl : Flags) (x y : Val) (hk : key0 x = key0 y)
    (h1 : ∀ p pne pdt sa oa, ∃ r s, classifyItem (Cfg.default fl false) p pne pdt sa oa x y = .emit r s ∧ r.diffs = 1)
    (h2 : ∀ p pne pdt sa oa, ∃ r s, classifyItem (Cfg.default fl false) p pne pdt sa oa y x = .emit r s ∧ r.diffs = 1) :
    ∃ r, compareTop (Cfg.default fl false) (.list .n0 [x, y]) (.list .n0 [y, x]) = .ok r ∧ r.diffs = 2 := by
  have h := noOpts_default fl false
  obtain ⟨ra, sa, hca, hda⟩ := h1 [] ([] ++ [PSeg.idx 0]) ([] ++ [PSeg.idx 0]) (.list .n0 [x, y]) (.list .n0 [y, x])
  obtain ⟨rb, sb, hcb, hdb⟩ := h2 [] ([] ++ [PSeg.idx 1]) ([] ++ [PSeg.idx 1]) (.list .n0 [x, y]) (.list .n0 [y, x])
  refine ⟨ra ++ (rb ++ keyedTail [] [] []), ?_, ?_⟩
  · have hd : (Cfg.default fl false).direct = false := rfl
    simp only [compareTop, sub, hd, excluded_noOpts h, keysOf_noOpts h, List.map_cons, List.map_nil, mkEntries,
      Bool.false_eq_true, false_and, and_false, if_false]
    simp only [keyedWalk, findKey, eraseKey, hk, if_true, hca, hcb, Nat.zero_add]
  · simp only [append_diffs, hda, hdb, keyedTail, List.length_nil]

/-- **tightness.** Any two distinct leaves with the same key: `[x, y]` and `[y, x]` are equal up to
order, yet the default comparison reports two differences. -/
theorem dt_tight (fl : Flags) (x y : Val) (hx : DtLeaf x) (hy : DtLeaf y) (hne : x ≠ y) (hs : jsonVal x = jsonVal y) :
    (∃ r, compareTop (Cfg.default fl false) (.list .n0 [x, y]) (.list .n0 [y, x]) = .ok r ∧ r.diffs = 2) ∧
      eqv (.list .n0 [x, y]) (.list .n0 [y, x]) := by
  have hrx := dt_leaf_nonrec hx
  have hry := dt_leaf_nonrec hy
  have h := noOpts_default fl false
  constructor
  · apply dt_two_by_two fl x y (by rw [key0_nonrec hrx, key0_nonrec hry, hs])
    · intro p pne pdt sa oa; exact dt_classify_leaf_ne h p pne pdt sa oa hx hy hne
    · intro p pne pdt sa oa; exact dt_classify_leaf_ne h p pne pdt sa oa hy hx (fun e => hne e.symm)
  · simp only [eqv, List.filter, hrx, hry, eqvRecs, Bool.not_false, true_and, if_false, Bool.false_eq_true]
    intro z _
    simp only [List.countP_cons, List.countP_nil]
    omega

/-- `{'a': [1, '1']}` -/
def cexA : Val := .dict .n0 [(['a'], .list .n0 [.int 1, .str ['1']])]
/-- `{'a': ['1', 1]}` -/
def cexB : Val := .dict .n0 [(['a'], .list .n0 [.str ['1'], .int 1])]

/-- `['', {}]` -/
def cexE1 : Val := .list .n0 [.str [], .dict .n0 []]
/-- `[{}, '']` -/
def cexE2 : Val := .list .n0 [.dict .n0 [], .str []]

/-- `{'a': [[{'x': 1, 'y': 2}]]}` -/
def cexO1 : Val := .dict .n0 [(['a'], .list .n0 [.list .n0 [.dict .n0 [(['x'], .int 1), (['y'], .int 2)]]])]
/-- `{'a': [[{'y': 2, 'x': 1}]]}` -/
def cexO2 : Val := .dict .n0 [(['a'], .list .n0 [.list .n0 [.dict .n0 [(['y'], .int 2), (['x'], .int 1)]]])]

theorem keyFaithfulOn_cexO : KeyFaithfulOn cexO1 cexO2 :=
  keyFaithfulOn_of_items (by decide +kernel) (by decide +kernel)

/-- `[1.0-with-the-lexeme-"1", 1]` — not a Python value: the `repr` of a float is never `1` -/
def cexF1 : Val := .list .n0 [.flt ['1'], .int 1]
def cexF2 : Val := .list .n0 [.int 1, .flt ['1']]

/-- why `KeyFaithful` remains a hypothesis in the model: floats are opaque lexemes, and a lexeme that is not the
`repr` of a float (`1`) collides with an `int` -/
theorem float_lexeme_cex :
    (compareTop (Cfg.default Flags.init false) cexF1 cexF2).map Res.diffs = .ok 2 ∧
      isN0 cexF1 = true ∧ isN0 cexF2 = true ∧ RootPair cexF1 cexF2 ∧ uniqKeys cexF1 = true ∧ uniqKeys cexF2 = true ∧
      jsonVal (.flt ['1']) = jsonVal (.int 1) := by
  refine ⟨by decide +kernel, by decide +kernel, by decide +kernel, trivial, by decide +kernel, by decide +kernel, by decide +kernel⟩

theorem float_lexeme_eqv : eqv cexF1 cexF2 :=
  (dt_tight Flags.init (.flt ['1']) (.int 1) (.inl rfl) (.inl rfl) (by decide) (by decide +kernel)).2

end N0.Compare
