import N0Verif.Proofs.Compare
/-!
`compare_only` and `exclude_xpaths` are filters on the difference lists: the run under the option reports what the run
without it reports, filtered by a predicate on the path of the entry (`only_walkSim`, `excl_walkSim`: the relation `FiltOf`
at every level of the walk; `FiltOf.diffPart` reads it at the entry points).
-/
namespace N0.Compare
open N0

/-- the path ends at a dictionary key (the places `compare_only` is asked about) -/
def lastIsKey (q : Path) : Bool := match q.getLast? with | some (.key _) => true | _ => false

def Res.diffPart (r : Res) := (r.diffs, r.notEqual, r.selfUnique, r.otherUnique, r.diffTypes)

/-- the difference entries whose path passes `keep`, one line each; the equal-lists stay -/
def Res.filterPaths (keep : Path → Bool) (r : Res) : Res :=
  let ne := r.notEqual.filter (fun e => keep e.path); let su := r.selfUnique.filter (fun e => keep e.path)
  let ou := r.otherUnique.filter (fun e => keep e.path); let dt := r.diffTypes.filter (fun e => keep e.path)
  { diffs := ne.length + su.length + ou.length + dt.length, notEqual := ne, selfUnique := su, otherUnique := ou, diffTypes := dt,
    selfEqual := r.selfEqual, otherEqual := r.otherEqual }

@[simp] theorem lastIsKey_nil : lastIsKey [] = false := rfl
@[simp] theorem lastIsKey_key (p : Path) (k : Str) : lastIsKey (p ++ [.key k]) = true := by simp [lastIsKey]
@[simp] theorem lastIsKey_idx (p : Path) (i : Nat) : lastIsKey (p ++ [.idx i]) = false := by simp [lastIsKey]
@[simp] theorem lastIsKey_idx2 (p : Path) (i j : Nat) : lastIsKey (p ++ [.idx2 i j]) = false := by simp [lastIsKey]

def Res.paths (r : Res) : List Path :=
  r.notEqual.map (·.path) ++ r.selfUnique.map (·.path) ++ r.otherUnique.map (·.path) ++ r.diffTypes.map (·.path)

theorem mem_paths_append {a b : Res} {q : Path} : q ∈ (a ++ b).paths ↔ q ∈ a.paths ∨ q ∈ b.paths := by
  simp only [Res.paths, append_notEqual, append_selfUnique, append_otherUnique, append_diffTypes,
    List.map_append, List.mem_append]
  grind

@[simp] theorem paths_empty : Res.empty.paths = [] := rfl

structure FiltOf (keep : Path → Bool) (r r' : Res) : Prop where
  ne : r'.notEqual = r.notEqual.filter (fun e => keep e.path)
  su : r'.selfUnique = r.selfUnique.filter (fun e => keep e.path)
  ou : r'.otherUnique = r.otherUnique.filter (fun e => keep e.path)
  dt : r'.diffTypes = r.diffTypes.filter (fun e => keep e.path)

theorem FiltOf.append {k : Path → Bool} {a a' b b' : Res} (ha : FiltOf k a a') (hb : FiltOf k b b') :
    FiltOf k (a ++ b) (a' ++ b') := by
  constructor <;> simp [ha.ne, ha.su, ha.ou, ha.dt, hb.ne, hb.su, hb.ou, hb.dt]

theorem FiltOf.empty (k : Path → Bool) : FiltOf k Res.empty Res.empty := by
  constructor <;> rfl

theorem FiltOf.congr {k k' : Path → Bool} {r r' : Res} (h : ∀ q ∈ r.paths, k q = k' q) (hf : FiltOf k r r') :
    FiltOf k' r r' := by
  simp only [Res.paths, List.mem_append, List.mem_map] at h
  constructor
  · rw [hf.ne]; apply List.filter_congr; intro e he; exact h _ (.inl (.inl (.inl ⟨e, he, rfl⟩)))
  · rw [hf.su]; apply List.filter_congr; intro e he; exact h _ (.inl (.inl (.inr ⟨e, he, rfl⟩)))
  · rw [hf.ou]; apply List.filter_congr; intro e he; exact h _ (.inl (.inr ⟨e, he, rfl⟩))
  · rw [hf.dt]; apply List.filter_congr; intro e he; exact h _ (.inr ⟨e, he, rfl⟩)

theorem FiltOf.all {k : Path → Bool} {r : Res} (h : ∀ q ∈ r.paths, k q = true) : FiltOf k r r :=
  FiltOf.congr (k := fun _ => true) (fun q hq => (h q hq).symm) (by constructor <;> exact (List.filter_eq_self.2 fun _ _ => rfl).symm)

theorem FiltOf.none {k : Path → Bool} {r : Res} (h : ∀ q ∈ r.paths, k q = false) : FiltOf k r Res.empty :=
  FiltOf.congr (k := fun _ => false) (fun q hq => (h q hq).symm) (by constructor <;> exact (List.filter_eq_nil_iff.2 fun _ _ => Bool.false_ne_true).symm)

theorem FiltOf.diffPart {k : Path → Bool} {r r' : Res} (hf : FiltOf k r r') (hb : r'.diffs = r'.count) :
    r'.diffPart = (r.filterPaths k).diffPart := by
  simp only [Res.diffPart, Res.filterPaths, hb, Res.count, hf.ne, hf.su, hf.ou, hf.dt]

theorem emitShape_paths {pne pdt : Path} {x y : Val} {r : Res} (h : EmitShape pne pdt x y r) :
    ∀ q ∈ r.paths, q = pne ∨ q = pdt := by
  rcases h with ⟨k, d, rfl⟩ | rfl | ⟨se, oe, rfl⟩ <;> simp [Res.paths]

theorem classifyItem_paths {cfg : Cfg} {p pne pdt : Path} {sa oa x y : Val} {r : Res} {s : Bool}
    (h : classifyItem cfg p pne pdt sa oa x y = .emit r s) : ∀ q ∈ r.paths, q = pne ∨ q = pdt :=
  emitShape_paths (classifyItem_emitShape h)

theorem classifyEntry_paths {cfg : Cfg} {full : Path} {x y : Val} {r : Res} {s : Bool}
    (h : classifyEntry cfg full x y = .emit r s) : ∀ q ∈ r.paths, q = full :=
  fun q hq => (emitShape_paths (classifyEntry_emitShape h) q hq).elim id id

theorem otherTail_paths (p : Path) (ys : List Val) (i : Nat) : ∀ e ∈ otherTail p i ys, ∃ j, e.path = p ++ [.idx j] :=
  fun e h => let ⟨n, hp, _⟩ := otherTail_mem p ys i e h; ⟨i + n, hp⟩

theorem keyedTail_paths (p : Path) (sr orr : List KE) : ∀ q ∈ (keyedTail p sr orr).paths, ∃ j, q = p ++ [.idx j] := by
  intro q hq
  simp only [Res.paths, keyedTail, List.map_map, List.map_nil, List.append_nil, List.mem_append, List.mem_map,
    Function.comp] at hq
  rcases hq with (h | ⟨e, _, rfl⟩) | ⟨e, _, rfl⟩
  · cases h
  · exact ⟨_, rfl⟩
  · exact ⟨_, rfl⟩

/-- entries located at dictionary entries are kept iff their path matches; list items are untouched -/
def onlyKeep (cfg : Cfg) (p : Path) : Bool := !cfg.only.truthy || !lastIsKey p || xpathMatch (render p) cfg.only != 0

def noOnly (cfg : Cfg) : Cfg := { cfg with only := .many [] }

@[simp] theorem noOnly_direct (cfg : Cfg) : (noOnly cfg).direct = cfg.direct := rfl
@[simp] theorem noOnly_fl (cfg : Cfg) : (noOnly cfg).fl = cfg.fl := rfl
@[simp] theorem excluded_noOnly (cfg : Cfg) (p : Path) : excluded (noOnly cfg) p = excluded cfg p := rfl
@[simp] theorem transformAt_noOnly (cfg : Cfg) (p : Path) : transformAt (noOnly cfg) p = transformAt cfg p := rfl
@[simp] theorem onlyOk_noOnly (cfg : Cfg) (p : Path) : onlyOk (noOnly cfg) p = true := rfl
@[simp] theorem classifyItem_noOnly (cfg : Cfg) (p pne pdt : Path) (sa oa x y : Val) :
    classifyItem (noOnly cfg) p pne pdt sa oa x y = classifyItem cfg p pne pdt sa oa x y := rfl
@[simp] theorem keysOf_noOnly (cfg : Cfg) (p : Path) (i : Nat) (xs : List Val) : keysOf (noOnly cfg) p i xs = keysOf cfg p i xs :=
  keysOf_congr (noOnly cfg) cfg rfl rfl p i xs

@[simp] theorem onlyKeep_key (cfg : Cfg) (p : Path) (k : Str) : onlyKeep cfg (p ++ [.key k]) = onlyOk cfg (p ++ [.key k]) := by
  simp [onlyKeep, onlyOk]
@[simp] theorem onlyKeep_idx (cfg : Cfg) (p : Path) (i : Nat) : onlyKeep cfg (p ++ [.idx i]) = true := by
  simp [onlyKeep]
@[simp] theorem onlyKeep_idx2 (cfg : Cfg) (p : Path) (i j : Nat) : onlyKeep cfg (p ++ [.idx2 i j]) = true := by
  simp [onlyKeep]

abbrev ActRel (k : Path → Bool) : Act → Act → Prop := Act.Rel (FiltOf k) True

theorem ActRel.same {k : Path → Bool} {a : Act} (h : ∀ r s, a = .emit r s → FiltOf k r r) : ActRel k a a := by
  cases a with
  | emit r s => exact h r s rfl
  | descend => trivial

/-- a dictionary entry decided without and with the `compare_only` test: the same when the path passes it; when it
does not, nothing is reported and what the other run reports (at that path) is filtered out -/
theorem entryCore_only {keep : Path → Bool} (fl : Flags) (ex on : Bool) (sv ov : Val) (full : Path) (x y : Val)
    (hk : keep full = on) :
    ActRel keep (entryCore fl ex true sv ov full x y) (entryCore fl ex on sv ov full x y) := by
  cases on with
  | true =>
    refine ActRel.same fun r s h => FiltOf.all fun q hq => ?_
    have hs := entryCore_actEmit fl ex true sv ov full x y
    rw [h] at hs
    exact (emitShape_paths hs q hq).elim (fun e => e ▸ hk) (fun e => e ▸ hk)
  | false =>
    have drop : ∀ {r : Res} {s s' : Bool}, EmitShape full full x y r → ActRel keep (.emit r s) (.emit Res.empty s') :=
      fun hr => FiltOf.none fun q hq => (emitShape_paths hr q hq).elim (fun e => e ▸ hk) (fun e => e ▸ hk)
    unfold entryCore
    refine ite_rel (fun _ => FiltOf.empty _) (fun _ => ?_)
    refine ite_rel (fun _ => ?_) (fun _ => ?_)
    · refine ite_rel (fun _ => ?_) (fun _ => trivial)
      rw [if_neg (fun h : sv ≠ ov ∧ false = true => Bool.false_ne_true h.2)]
      exact iteInduction (motive := fun a => ActRel keep a (.emit Res.empty true))
        (fun _ => drop (.inl ⟨_, _, rfl⟩)) (fun _ => FiltOf.empty _)
    · rw [if_pos rfl, if_neg Bool.false_ne_true]
      exact iteInduction (motive := fun a => ActRel keep a (.emit Res.empty true))
        (fun _ => drop (.inr (.inl rfl))) (fun _ => drop (.inl ⟨_, _, rfl⟩))

theorem classifyEntry_only (cfg : Cfg) (p : Path) (k : Str) (x y : Val) :
    ActRel (onlyKeep cfg) (classifyEntry (noOnly cfg) (p ++ [.key k]) x y) (classifyEntry cfg (p ++ [.key k]) x y) :=
  entryCore_only cfg.fl _ _ _ _ _ x y (onlyKeep_key cfg p k)

theorem leftover_only (cfg : Cfg) (p : Path) (kv : Str × Val) :
    leftover cfg p kv = (leftover (noOnly cfg) p kv).filter (fun e => onlyKeep cfg e.path) := by
  simp only [leftover, excluded_noOnly, onlyOk_noOnly, Bool.and_true]
  by_cases he : excluded cfg (p ++ [PSeg.key kv.1]) = true
  · simp [he]
  · by_cases ho : onlyOk cfg (p ++ [PSeg.key kv.1]) = true <;> simp [he, ho, Option.filter]

theorem dictTail_filt {k : Path → Bool} {c c' : Cfg} {p : Path}
    (hl : ∀ kv, leftover c' p kv = (leftover c p kv).filter (fun e => k e.path))
    (sa oa : Val) (skvs okvs : List (Str × Val)) (s s' : Bool) :
    FiltOf k (dictTail c p sa oa skvs okvs s) (dictTail c' p sa oa skvs okvs s') :=
  have hf : ∀ l : List (Str × Val),
      l.filterMap (leftover c' p) = (l.filterMap (leftover c p)).filter (fun e => k e.path) := fun l => by
    rw [List.filter_filterMap]
    exact congrArg (List.filterMap · l) (funext hl)
  ⟨rfl, hf _, hf _, rfl⟩

theorem otherTail_filt (k : Path → Bool) (p : Path) (hk : ∀ j, k (p ++ [.idx j]) = true) (i : Nat) (ys : List Val) :
    (otherTail p i ys).filter (fun e => k e.path) = otherTail p i ys := by
  rw [List.filter_eq_self]
  intro e he
  obtain ⟨j, hj⟩ := otherTail_paths p ys i e he
  rw [hj]; exact hk j

theorem classifyItem_filt {k : Path → Bool} {cfg : Cfg} {p pne pdt : Path} {sa oa x y : Val} {r : Res} {s : Bool}
    (h : classifyItem cfg p pne pdt sa oa x y = .emit r s) (h1 : k pne = true) (h2 : k pdt = true) : FiltOf k r r := by
  apply FiltOf.all
  intro q hq
  rcases classifyItem_paths h q hq with rfl | rfl <;> assumption

theorem keyedTail_filt (k : Path → Bool) (p : Path) (hk : ∀ j, k (p ++ [.idx j]) = true) (sr orr : List KE) :
    FiltOf k (keyedTail p sr orr) (keyedTail p sr orr) := by
  apply FiltOf.all
  intro q hq
  obtain ⟨j, rfl⟩ := keyedTail_paths p sr orr q hq
  exact hk j

abbrev LiftF (k : Path → Bool) : Except PyErr Res → Except PyErr Res → Prop := LiftOk (FiltOf k)

theorem liftF_actRes_drop {k : Path → Bool} {a : Act} {n : Except PyErr Res}
    (ha : ∀ r s, a = .emit r s → FiltOf k r Res.empty) (hn : ∀ r, n = .ok r → FiltOf k r Res.empty) :
    LiftF k (actRes a n) (.ok Res.empty) := by
  intro r h
  cases a with
  | emit r0 s => cases h; exact ⟨_, rfl, ha r s rfl⟩
  | descend => exact ⟨_, rfl, hn r h⟩

theorem onlyKeep_idxSeg (cfg : Cfg) (p : Path) {seg : PSeg} (hs : isIdx seg = true) :
    onlyKeep cfg (p ++ [seg]) = true := by
  cases seg with
  | key k => cases hs
  | idx i => exact onlyKeep_idx cfg p i
  | idx2 i j => exact onlyKeep_idx2 cfg p i j

/-- `compare_only` acts through the decision on a dictionary entry and on the leftover keys only -/
theorem only_walkSim (cfg : Cfg) :
    WalkSim (noOnly cfg) cfg (fun _ => True) (fun _ => True) (fun _ => LiftF (onlyKeep cfg)) where
  direct := rfl
  keys p i xs := (keysOf_noOnly cfg p i xs).symm
  error _ e := LiftOk.error e _
  empty _ := LiftOk.ok (FiltOf.empty _)
  seq := LiftOk.seq FiltOf.append
  lists _ _ _ := fun _ h => ite_rel (fun _ => LiftOk.ok (FiltOf.empty _)) (fun _ => h trivial)
  dictTail p _ _ _ _ _ _ := fun _ => LiftOk.ok (dictTail_filt (leftover_only cfg p) ..)
  keyedTail p sr orr := fun _ => LiftOk.ok (keyedTail_filt _ p (onlyKeep_idx cfg p) sr orr)
  otherTail p i ys := fun _ => LiftOk.ok ⟨rfl, rfl, (otherTail_filt _ p (onlyKeep_idx cfg p) i ys).symm, rfl⟩
  selfItem p i _ := fun _ => LiftOk.ok ⟨rfl, by simp, rfl, rfl⟩
  entry p k x y := fun _ hn => by
    rw [entryOf_eq, entryOf_eq]
    exact (classifyEntry_only cfg p k x y).actRes LiftOk.ok hn
  item p _ _ _ _ _ := fun hs _ hn => by
    rw [itemOf_eq, itemOf_eq]
    exact (ActRel.same fun _ _ h => classifyItem_filt h (onlyKeep_idxSeg cfg p hs) (onlyKeep_idxSeg cfg p hs)).actRes LiftOk.ok hn

theorem directWalk_only (cfg : Cfg) (p : Path) (sa oa : Val) (i : Nat) (xs ys : List Val) (r : Res)
    (h : directWalk (noOnly cfg) p sa oa i xs ys = .ok r) :
    ∃ r', directWalk cfg p sa oa i xs ys = .ok r' ∧ FiltOf (onlyKeep cfg) r r' :=
  (only_walkSim cfg).of_directWalk p sa oa i xs ys trivial r h

theorem keyedWalk_only (cfg : Cfg) (p : Path) (sa oa : Val) (i : Nat) (xs : List Val) (ks : List Str)
    (sr orr : List KE) (r : Res)
    (h : keyedWalk (noOnly cfg) p sa oa i xs ks sr orr = .ok r) :
    ∃ r', keyedWalk cfg p sa oa i xs ks sr orr = .ok r' ∧ FiltOf (onlyKeep cfg) r r' :=
  (only_walkSim cfg).of_keyedWalk p sa oa i xs ks sr orr trivial r h

/-- some prefix `q` of the entry's path that the code tests against `exclude_xpaths` matches: the prefix ends at a
dictionary key, or it is the path of a list (the next segment is an index) -/
def exclHit (ex : PatArg) : Path → Path → Bool
  | q, [] => lastIsKey q && xpathMatch (render q) ex != 0
  | q, s :: r => ((lastIsKey q || isIdx s) && xpathMatch (render q) ex != 0) || exclHit ex (q ++ [s]) r

def noExcl (cfg : Cfg) : Cfg := { cfg with excl := .many [] }

@[simp] theorem noExcl_direct (cfg : Cfg) : (noExcl cfg).direct = cfg.direct := rfl
@[simp] theorem noExcl_fl (cfg : Cfg) : (noExcl cfg).fl = cfg.fl := rfl
@[simp] theorem excluded_noExcl (cfg : Cfg) (p : Path) : excluded (noExcl cfg) p = false := rfl
@[simp] theorem transformAt_noExcl (cfg : Cfg) (p : Path) : transformAt (noExcl cfg) p = transformAt cfg p := rfl
@[simp] theorem onlyOk_noExcl (cfg : Cfg) (p : Path) : onlyOk (noExcl cfg) p = onlyOk cfg p := rfl
@[simp] theorem classifyItem_noExcl (cfg : Cfg) (p pne pdt : Path) (sa oa x y : Val) :
    classifyItem (noExcl cfg) p pne pdt sa oa x y = classifyItem cfg p pne pdt sa oa x y := rfl
@[simp] theorem keysOf_noExcl (cfg : Cfg) (p : Path) (i : Nat) (xs : List Val) : keysOf (noExcl cfg) p i xs = keysOf cfg p i xs :=
  keysOf_congr (noExcl cfg) cfg rfl rfl p i xs

/-- the filter below prefix `p`: only the part of the path after `p` is walked -/
def exKeep (ex : PatArg) (p q : Path) : Bool := !exclHit ex p (q.drop p.length)

theorem exKeep_append (ex : PatArg) (p rest : Path) : exKeep ex p (p ++ rest) = !exclHit ex p rest := by
  simp [exKeep]

theorem exclHit_of_key (cfg : Cfg) (q : Path) (hk : lastIsKey q = true) (he : excluded cfg q = true) :
    ∀ rest, exclHit cfg.excl q rest = true
  | [] => by rw [exclHit, hk, ← excluded, he]; rfl
  | _ :: _ => by rw [exclHit, hk, ← excluded, he]; rfl

@[simp] theorem lastIsKey_idxSeg (p : Path) (s : PSeg) (hs : isIdx s = true) : lastIsKey (p ++ [s]) = false := by
  cases s <;> simp_all [isIdx]

theorem exKeep_key (cfg : Cfg) (p : Path) (k : Str) (hp : (lastIsKey p && excluded cfg p) = false) :
    exKeep cfg.excl p (p ++ [.key k]) = !excluded cfg (p ++ [.key k]) := by
  simp only [excluded] at hp
  simp [exKeep_append, exclHit, isIdx, hp, excluded]

theorem exKeep_idxSeg (cfg : Cfg) (p : Path) (s : PSeg) (hp : excluded cfg p = false) (hs : isIdx s = true) :
    exKeep cfg.excl p (p ++ [s]) = true := by
  simp only [excluded] at hp
  simp [exKeep_append, exclHit, hs, hp]

theorem exKeep_under_key (cfg : Cfg) (p : Path) (k : Str) (more : Path) (he : excluded cfg (p ++ [.key k]) = true) :
    exKeep cfg.excl p ((p ++ [.key k]) ++ more) = false := by
  rw [List.append_assoc, List.singleton_append, exKeep_append, exclHit,
    exclHit_of_key cfg (p ++ [PSeg.key k]) (lastIsKey_key p k) he more, Bool.or_true]
  rfl

theorem exKeep_under_list (cfg : Cfg) (p : Path) (s : PSeg) (more : Path) (he : excluded cfg p = true)
    (hs : isIdx s = true) : exKeep cfg.excl p (p ++ s :: more) = false := by
  simp only [excluded] at he
  simp [exKeep_append, exclHit, hs, he]

def Below (ok : PSeg → Bool) (p : Path) (r : Res) : Prop :=
  ∀ q ∈ r.paths, ∃ s more, q = p ++ s :: more ∧ ok s = true

theorem Below.append {ok : PSeg → Bool} {p : Path} {a b : Res} (ha : Below ok p a) (hb : Below ok p b) :
    Below ok p (a ++ b) := by
  intro q hq
  rcases mem_paths_append.1 hq with h | h
  · exact ha q h
  · exact hb q h

theorem Below.empty (ok : PSeg → Bool) (p : Path) : Below ok p Res.empty := by
  intro q hq; simp at hq

theorem Below.mono {ok : PSeg → Bool} {p : Path} {r : Res} (h : Below ok p r) : Below (fun _ => true) p r := by
  intro q hq
  obtain ⟨s, more, e, _⟩ := h q hq
  exact ⟨s, more, e, rfl⟩

theorem Below.nest {ok ok' : PSeg → Bool} {p : Path} {s : PSeg} {r : Res} (h : Below ok' (p ++ [s]) r)
    (hs : ok s = true) : Below ok p r := by
  intro q hq
  obtain ⟨s', more, e, _⟩ := h q hq
  exact ⟨s, s' :: more, by rw [e]; simp, hs⟩

theorem Below.single {ok : PSeg → Bool} {p : Path} {r : Res}
    (h : ∀ q ∈ r.paths, ∃ s, q = p ++ [s] ∧ ok s = true) : Below ok p r := by
  intro q hq
  obtain ⟨s, e, hs⟩ := h q hq
  exact ⟨s, [], e, hs⟩

theorem classifyItem_below {cfg : Cfg} {p : Path} {seg : PSeg} {sa oa x y : Val} {r : Res} {s : Bool}
    (hseg : isIdx seg = true)
    (h : classifyItem cfg p (p ++ [seg]) (p ++ [seg]) sa oa x y = .emit r s) : Below isIdx p r := by
  apply Below.single
  intro q hq
  rcases classifyItem_paths h q hq with rfl | rfl
  · exact ⟨seg, rfl, hseg⟩
  · exact ⟨seg, rfl, hseg⟩

theorem classifyEntry_below {cfg : Cfg} {p : Path} {k : Str} {x y : Val} {r : Res} {s : Bool}
    (h : classifyEntry cfg (p ++ [.key k]) x y = .emit r s) : Below (fun _ => true) p r := by
  apply Below.single
  intro q hq
  exact ⟨.key k, classifyEntry_paths h q hq, rfl⟩

theorem leftover_path {cfg : Cfg} {p : Path} {kv : Str × Val} {e : UE} (h : leftover cfg p kv = some e) :
    e.path = p ++ [.key kv.1] := by
  simp only [leftover] at h
  split at h
  · cases h; rfl
  · cases h

theorem dictTail_paths (cfg : Cfg) (p : Path) (sa oa : Val) (skvs okvs : List (Str × Val)) (st : Bool) :
    ∀ q ∈ (dictTail cfg p sa oa skvs okvs st).paths, ∃ k, q = p ++ [.key k] := by
  intro q hq
  simp only [Res.paths, dictTail, List.map_nil, List.append_nil, List.nil_append, List.mem_append, List.mem_map,
    List.mem_filterMap] at hq
  rcases hq with ⟨e, ⟨kv, _, hl⟩, rfl⟩ | ⟨e, ⟨kv, _, hl⟩, rfl⟩
  · exact ⟨_, leftover_path hl⟩
  · exact ⟨_, leftover_path hl⟩

theorem dictTail_below (cfg : Cfg) (p : Path) (sa oa : Val) (skvs okvs : List (Str × Val)) (st : Bool) :
    Below (fun _ => true) p (dictTail cfg p sa oa skvs okvs st) := by
  apply Below.single
  intro q hq
  obtain ⟨k, e⟩ := dictTail_paths cfg p sa oa skvs okvs st q hq
  exact ⟨_, e, rfl⟩

theorem keyedTail_below (p : Path) (sr orr : List KE) : Below isIdx p (keyedTail p sr orr) := by
  apply Below.single
  intro q hq
  obtain ⟨j, e⟩ := keyedTail_paths p sr orr q hq
  exact ⟨_, e, rfl⟩

theorem otherTail_below (p : Path) (i : Nat) (ys : List Val) :
    Below isIdx p { diffs := (otherTail p i ys).length, otherUnique := otherTail p i ys } := by
  apply Below.single
  intro q hq
  simp only [Res.paths, List.map_nil, List.append_nil, List.nil_append, List.mem_map] at hq
  obtain ⟨e, he, rfl⟩ := hq
  obtain ⟨j, hj⟩ := otherTail_paths p ys i e he
  exact ⟨_, hj, rfl⟩

theorem selfItem_below (p : Path) (i : Nat) (x : Val) :
    Below isIdx p { diffs := 1, selfUnique := [⟨p ++ [.idx i], x⟩] } := by
  apply Below.single
  intro q hq
  simp only [Res.paths, List.map_nil, List.append_nil, List.nil_append, List.map_cons, List.mem_singleton] at hq
  exact ⟨_, hq, rfl⟩

/-- the entries of a list walk at `p` lie below `p` at an index, those of a dictionary walk or a nested call at `p`
anywhere below `p` -/
theorem below_walkInv (cfg : Cfg) :
    WalkInv cfg (Below (fun _ => true)) (Below isIdx) (Below (fun _ => true)) where
  appendD := Below.append
  appendL := Below.append
  empty := Below.empty _
  ofD h := h
  ofL h := h.mono
  nestD h := h.nest rfl
  nestL hs h := h.nest hs
  entry h := classifyEntry_below h
  item hs h := classifyItem_below hs h
  dictTail := dictTail_below cfg
  keyedTail := keyedTail_below
  otherTail := otherTail_below
  selfItem := selfItem_below

theorem dictWalk_below (cfg : Cfg) (p : Path) (sa oa : Val) (skvs okvs : List (Str × Val))
    (still : Bool) (kvs : List (Str × Val)) (r : Res)
    (h : dictWalk cfg p sa oa skvs okvs still kvs = .ok r) : Below (fun _ => true) p r :=
  (below_walkInv cfg).of_dictWalk p sa oa skvs okvs still kvs r h

theorem FiltOf.lift {ex : PatArg} {p : Path} {s : PSeg} {r r' : Res}
    (ht : ((lastIsKey p || isIdx s) && xpathMatch (render p) ex != 0) = false)
    (hb : Below (fun _ => true) (p ++ [s]) r) (h : FiltOf (exKeep ex (p ++ [s])) r r') :
    FiltOf (exKeep ex p) r r' := by
  refine h.congr ?_
  intro q hq
  obtain ⟨s', more, rfl, _⟩ := hb q hq
  rw [exKeep_append]
  have e : (p ++ [s]) ++ s' :: more = p ++ s :: s' :: more := by simp
  rw [e, exKeep_append]
  simp only [exclHit, ht, Bool.false_or]

theorem classifyEntry_excl_false {cfg : Cfg} {full : Path} (x y : Val) (he : excluded cfg full = false) :
    classifyEntry (noExcl cfg) full x y = classifyEntry cfg full x y := by
  unfold classifyEntry
  rw [he]
  rfl

theorem classifyEntry_excl_true {cfg : Cfg} {full : Path} (x y : Val) (he : excluded cfg full = true) :
    classifyEntry cfg full x y = .emit Res.empty true := by
  simp [classifyEntry, he]

theorem leftover_excl (cfg : Cfg) (p : Path) (hp : (lastIsKey p && excluded cfg p) = false) (kv : Str × Val) :
    leftover cfg p kv = (leftover (noExcl cfg) p kv).filter (fun e => exKeep cfg.excl p e.path) := by
  simp only [leftover, excluded_noExcl, onlyOk_noExcl, Bool.not_false, Bool.true_and]
  cases he : excluded cfg (p ++ [PSeg.key kv.1]) <;> cases ho : onlyOk cfg (p ++ [PSeg.key kv.1]) <;>
    simp [Option.filter, exKeep_key cfg p kv.1 hp, he]

/- The side conditions of the walk below `p`, passed one level down: `prefixFree_*` is the hypothesis of the nested
call at `p ++ [s]`, `noHit_*` says that the test `exclHit` makes at `p` itself is negative. -/
theorem prefixFree_key (cfg : Cfg) (p : Path) (k : Str) (he : excluded cfg (p ++ [.key k]) = false) :
    (lastIsKey (p ++ [.key k]) && excluded cfg (p ++ [.key k])) = false := by simp [he]

theorem prefixFree_idxSeg (cfg : Cfg) (p : Path) (s : PSeg) (hs : isIdx s = true) :
    (lastIsKey (p ++ [s]) && excluded cfg (p ++ [s])) = false := by simp [hs]

theorem noHit_key (cfg : Cfg) (p : Path) (k : Str) (hp : (lastIsKey p && excluded cfg p) = false) :
    ((lastIsKey p || isIdx (.key k)) && xpathMatch (render p) cfg.excl != 0) = false := by
  simpa [isIdx, excluded] using hp

theorem noHit_idxSeg (cfg : Cfg) (p : Path) (s : PSeg) (hp : excluded cfg p = false) :
    ((lastIsKey p || isIdx s) && xpathMatch (render p) cfg.excl != 0) = false := by
  simp only [excluded] at hp
  simp [hp]

theorem listWalk_below {cfg : Cfg} {p : Path} {xs ys : List Val} {r : Res} (h : listWalk cfg p xs ys = .ok r) :
    Below isIdx p r := by
  rcases listWalk_ok h with ⟨_, hw⟩ | ⟨_, ks, ko, _, _, hw⟩
  · exact (below_walkInv cfg).of_directWalk p _ _ 0 xs ys r hw
  · exact (below_walkInv cfg).of_keyedWalk p _ _ 0 xs ks _ _ r hw

theorem liftF_nest {cfg : Cfg} {site : Site} {p : Path} {s : PSeg} {x y : Val} {B' : Except PyErr Res}
    (ht : ((lastIsKey p || isIdx s) && xpathMatch (render p) cfg.excl != 0) = false)
    (h : LiftF (exKeep cfg.excl (p ++ [s])) (sub (noExcl cfg) site (p ++ [s]) x y) B') :
    LiftF (exKeep cfg.excl p) (sub (noExcl cfg) site (p ++ [s]) x y) B' := by
  intro r hr
  obtain ⟨r', hr', hf⟩ := h r hr
  exact ⟨r', hr', hf.lift ht ((below_walkInv _).of_sub _ _ _ _ r hr)⟩

/-- `exclude_xpaths` acts through the test on the path of a pair of lists, of a dictionary entry and of a leftover key;
the side conditions say that the prefix walked so far is not excluded itself -/
theorem excl_walkSim (cfg : Cfg) : WalkSim (noExcl cfg) cfg (fun p => (lastIsKey p && excluded cfg p) = false)
    (fun p => excluded cfg p = false) (fun p => LiftF (exKeep cfg.excl p)) where
  direct := rfl
  keys p i xs := (keysOf_noExcl cfg p i xs).symm
  error _ e := LiftOk.error e _
  empty _ := LiftOk.ok (FiltOf.empty _)
  seq := LiftOk.seq FiltOf.append
  lists p xs ys := fun _ h => by
    cases h3 : excluded cfg p with
    | true =>
      intro r hb
      refine ⟨Res.empty, rfl, FiltOf.none fun q hq => ?_⟩
      obtain ⟨s, more, rfl, hs⟩ := listWalk_below hb q hq
      exact exKeep_under_list cfg p s more h3 hs
    | false => exact h h3
  dictTail p _ _ _ _ _ _ := fun hp => LiftOk.ok (dictTail_filt (leftover_excl cfg p hp) ..)
  keyedTail p sr orr := fun hp => LiftOk.ok (keyedTail_filt _ p (fun j => exKeep_idxSeg cfg p _ hp rfl) sr orr)
  otherTail p i ys := fun hp =>
    LiftOk.ok ⟨rfl, rfl, (otherTail_filt _ p (fun j => exKeep_idxSeg cfg p _ hp rfl) i ys).symm, rfl⟩
  selfItem p i _ := fun hp => by
    refine LiftOk.ok ⟨rfl, ?_, rfl, rfl⟩
    simp only [List.filter_cons, List.filter_nil, exKeep_idxSeg cfg p (.idx i) hp rfl, if_true]
  entry p k x y := fun hp hn => by
    rw [entryOf_eq, entryOf_eq]
    cases he : excluded cfg (p ++ [PSeg.key k]) with
    | true =>
      rw [classifyEntry_excl_true x y he]
      refine liftF_actRes_drop (fun r0 s h0 => FiltOf.none fun q hq => ?_) (fun r0 h0 => FiltOf.none fun q hq => ?_)
      · rw [classifyEntry_paths h0 q hq]
        exact List.append_nil (p ++ [PSeg.key k]) ▸ exKeep_under_key cfg p k [] he
      · obtain ⟨s, more, rfl, _⟩ := (below_walkInv _).of_sub _ _ _ _ r0 h0 q hq
        exact exKeep_under_key cfg p k (s :: more) he
    | false =>
      rw [classifyEntry_excl_false x y he]
      refine (ActRel.same fun r0 s h0 => FiltOf.all fun q hq => ?_).actRes LiftOk.ok
        fun _ => liftF_nest (noHit_key cfg p k hp) (hn (prefixFree_key cfg p k he))
      rw [classifyEntry_paths h0 q hq, exKeep_key cfg p k hp, he]; rfl
  item p seg sa oa x y := fun hs hp hn => by
    have hseg := exKeep_idxSeg cfg p seg hp hs
    rw [itemOf_eq, itemOf_eq]
    exact (ActRel.same fun _ _ h => classifyItem_filt h hseg hseg).actRes LiftOk.ok
      fun _ => liftF_nest (noHit_idxSeg cfg p _ hp) (hn (prefixFree_idxSeg cfg p _ hs))
theorem directWalk_excl (cfg : Cfg) (p : Path) (sa oa : Val) (i : Nat) (xs ys : List Val) (r : Res)
    (hp : excluded cfg p = false)
    (h : directWalk (noExcl cfg) p sa oa i xs ys = .ok r) :
    ∃ r', directWalk cfg p sa oa i xs ys = .ok r' ∧ FiltOf (exKeep cfg.excl p) r r' :=
  (excl_walkSim cfg).of_directWalk p sa oa i xs ys hp r h

theorem keyedWalk_excl (cfg : Cfg) (p : Path) (sa oa : Val) (i : Nat) (xs : List Val) (ks : List Str)
    (sr orr : List KE) (r : Res)
    (hp : excluded cfg p = false)
    (h : keyedWalk (noExcl cfg) p sa oa i xs ks sr orr = .ok r) :
    ∃ r', keyedWalk cfg p sa oa i xs ks sr orr = .ok r' ∧ FiltOf (exKeep cfg.excl p) r r' :=
  (excl_walkSim cfg).of_keyedWalk p sa oa i xs ks sr orr hp r h

end N0.Compare
