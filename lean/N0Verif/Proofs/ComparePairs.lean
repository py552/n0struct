import N0Verif.Proofs.CompareWalkEq
/-!
A container walk aligns the children of the two containers (by key, by position, by composite key), produces the result
of every aligned pair in order (a leaf decision or the nested call) and reports what found no partner: each walk is
`seqAll` over its alignment (`dictPairs`, `directPairs`, `keyedPairs`).  A property of the walks is then one induction over
the value and a fact about lists.
-/
namespace N0.Compare
open N0

/-- the results of a list of runs one after the other (`update_extend`), then `t`; the first failure wins -/
def seqAll (l : List (Except PyErr Res)) (t : Except PyErr Res) : Except PyErr Res := l.foldr seqR t

@[simp] theorem seqAll_nil (t : Except PyErr Res) : seqAll [] t = t := rfl

@[simp] theorem seqAll_cons (a : Except PyErr Res) (l : List (Except PyErr Res)) (t : Except PyErr Res) :
    seqAll (a :: l) t = seqR a (seqAll l t) := rfl

/-- an aligned pair of children: the segment it is reported under and the two values -/
abbrev AP := PSeg × Val × Val

/-- what a classified pair contributes: the emitted result, or the result `n` of the nested call -/
def actRes (a : Act) (n : Except PyErr Res) : Except PyErr Res :=
  match a with
  | .emit r _ => .ok r
  | .descend => n

theorem actRes_ok {a : Act} {n : Except PyErr Res} {r : Res} (h : actRes a n = .ok r) :
    (∃ s, a = .emit r s) ∨ (a = .descend ∧ n = .ok r) := by
  cases a with
  | emit r0 s => cases h; exact .inl ⟨s, rfl⟩
  | descend => exact .inr ⟨rfl, h⟩

/-- whether a classified pair counts as equal for the `still` flag of `n0dict.compare` -/
def actStill : Act → Bool
  | .emit _ s => s
  | .descend => true

/-- the leaf decisions of two runs agree; the flag `s` of `.emit r s` (whether the pair still counts as equal) is NOT
compared -/
def Act.Rel (R : Res → Res → Prop) (D : Prop) : Act → Act → Prop
  | .emit r _, .emit r' _ => R r r'
  | .descend, .descend => D
  | _, _ => False

theorem Act.Rel.actRes {R : Res → Res → Prop} {D : Prop} {L : Except PyErr Res → Except PyErr Res → Prop}
    (hok : ∀ {r r'}, R r r' → L (.ok r) (.ok r')) {a a' : Act} {n n' : Except PyErr Res} (ha : Act.Rel R D a a')
    (hn : D → L n n') : L (actRes a n) (actRes a' n') := by
  cases a <;> cases a' <;> try exact ha.elim
  · exact hok ha
  · exact hn ha

def itemOf (cfg : Cfg) (p : Path) (sa oa : Val) (a : AP) : Except PyErr Res :=
  itemRes cfg p (p ++ [a.1]) (p ++ [a.1]) sa oa a.2.1 a.2.2

def entryOf (cfg : Cfg) (p : Path) (a : AP) : Except PyErr Res :=
  match classifyEntry cfg (p ++ [a.1]) a.2.1 a.2.2 with
  | .emit r _ => .ok r
  | .descend => sub cfg .entry (p ++ [a.1]) a.2.1 a.2.2

theorem itemRes_eq (cfg : Cfg) (p pne pdt : Path) (sa oa x y : Val) :
    itemRes cfg p pne pdt sa oa x y = actRes (classifyItem cfg p pne pdt sa oa x y) (sub cfg .item pne x y) := by
  unfold itemRes actRes
  cases classifyItem cfg p pne pdt sa oa x y <;> rfl

theorem itemOf_eq (cfg : Cfg) (p : Path) (sa oa : Val) (a : AP) : itemOf cfg p sa oa a =
    actRes (classifyItem cfg p (p ++ [a.1]) (p ++ [a.1]) sa oa a.2.1 a.2.2) (sub cfg .item (p ++ [a.1]) a.2.1 a.2.2) :=
  itemRes_eq ..

theorem entryOf_eq (cfg : Cfg) (p : Path) (a : AP) : entryOf cfg p a =
    actRes (classifyEntry cfg (p ++ [a.1]) a.2.1 a.2.2) (sub cfg .entry (p ++ [a.1]) a.2.1 a.2.2) := by
  unfold entryOf actRes
  cases classifyEntry cfg (p ++ [a.1]) a.2.1 a.2.2 <;> rfl

/-- `n0dict.compare`: the keys of `kvs` that `okvs` has too, in the order of `kvs`, each with both values -/
def dictPairs (okvs : List (Str × Val)) : List (Str × Val) → List AP
  | [] => []
  | (k, v) :: rest =>
    match Val.lookup k okvs with
    | none => dictPairs okvs rest
    | some w => (.key k, v, w) :: dictPairs okvs rest

/-- `n0list.direct_compare`: the items at the same position, from position `i` on -/
def directPairs : Nat → List Val → List Val → List AP
  | i, x :: xs, y :: ys => (.idx i, x, y) :: directPairs (i + 1) xs ys
  | _, _, _ => []

/-- what `n0list.direct_compare` reports of the longer list -/
def directRest (p : Path) : Nat → List Val → List Val → Res
  | i, [], ys => { diffs := (otherTail p i ys).length, otherUnique := otherTail p i ys }
  | i, x :: xs, [] => { diffs := 1, selfUnique := [⟨p ++ [.idx i], x⟩] } ++ directRest p (i + 1) xs []
  | i, _ :: xs, _ :: ys => directRest p (i + 1) xs ys

/-- `n0list.compare`: each left item (keys `ks`, positions from `i` on) with the first remaining right entry of the
same key -/
def keyedPairs : Nat → List Val → List Str → List KE → List AP
  | i, x :: xs, k :: ks, orr =>
    match findKey k orr with
    | none => keyedPairs (i + 1) xs ks orr
    | some jy => (pairSeg i jy.1, x, jy.2) :: keyedPairs (i + 1) xs ks (eraseKey k orr)
  | _, _, _, _ => []

/-- the entries of both sides that are left when the loop of `n0list.compare` over the keys `ks` has ended -/
def keyedLeft : List Str → List KE → List KE → List KE × List KE
  | [], sr, orr => (sr, orr)
  | k :: ks, sr, orr =>
    match findKey k orr with
    | none => keyedLeft ks sr orr
    | some _ => keyedLeft ks (eraseKey k sr) (eraseKey k orr)

/-- how the loop of `n0list.compare` ends: with the leftovers, or (unreachable from `sub`, which passes one key per
item) out of keys -/
def keyedEnd (p : Path) : List Val → List Str → List KE → List KE → Except PyErr Res
  | [], _, sr, orr => .ok (keyedTail p sr orr)
  | _ :: _, [], _, _ => .error .OutOfFuel
  | _ :: xs, k :: ks, sr, orr =>
    match findKey k orr with
    | none => keyedEnd p xs ks sr orr
    | some _ => keyedEnd p xs ks (eraseKey k sr) (eraseKey k orr)

theorem directPairs_nil_right (i : Nat) (xs : List Val) : directPairs i xs [] = [] := by
  cases xs <;> rfl

theorem directWalk_pairs (cfg : Cfg) (p : Path) (sa oa : Val) : ∀ (xs ys : List Val) (i : Nat),
    directWalk cfg p sa oa i xs ys =
      seqAll ((directPairs i xs ys).map (itemOf cfg p sa oa)) (.ok (directRest p i xs ys))
  | [], ys, i => by rw [directWalk_left_done]; rfl
  | x :: xs, [], i => by
    rw [directWalk_right_done, directWalk_pairs cfg p sa oa xs [] (i + 1), directPairs_nil_right]; rfl
  | x :: xs, y :: ys, i => by
    rw [directWalk_cons, directWalk_pairs cfg p sa oa xs ys (i + 1)]; rfl

/-- the `still` flag at the end of the loop is the one at its start and every leaf decision on the way -/
theorem dictWalk_pairs (cfg : Cfg) (p : Path) (sa oa : Val) (skvs okvs : List (Str × Val)) :
    ∀ (kvs : List (Str × Val)) (still : Bool),
      dictWalk cfg p sa oa skvs okvs still kvs =
        seqAll ((dictPairs okvs kvs).map (entryOf cfg p))
          (.ok (dictTail cfg p sa oa skvs okvs
            (still && (dictPairs okvs kvs).all fun a => actStill (classifyEntry cfg (p ++ [a.1]) a.2.1 a.2.2))))
  | [], still => by rw [dictWalk_done]; simp [dictPairs]
  | (k, v) :: rest, still => by
    rw [dictWalk_cons, dictPairs]
    cases hl : Val.lookup k okvs with
    | none => exact dictWalk_pairs cfg p sa oa skvs okvs rest still
    | some w =>
      simp only [List.map_cons, seqAll_cons, List.all_cons, entryOf]
      cases hc : classifyEntry cfg (p ++ [PSeg.key k]) v w with
      | emit r s =>
        dsimp only
        rw [dictWalk_pairs cfg p sa oa skvs okvs rest (still && s), actStill, Bool.and_assoc]
      | descend =>
        dsimp only
        rw [dictWalk_pairs cfg p sa oa skvs okvs rest still, actStill, Bool.true_and]

/-- the keyed walk for ANY list of keys (no hypothesis on its length): the end `keyedEnd` is itself an outcome;
`keyedWalk_pairs` is the form with the leftovers `keyedTail …` when every item has its key -/
theorem keyedWalk_seqAll (cfg : Cfg) (p : Path) (sa oa : Val) : ∀ (xs : List Val) (ks : List Str) (i : Nat)
    (sr orr : List KE),
      keyedWalk cfg p sa oa i xs ks sr orr =
        seqAll ((keyedPairs i xs ks orr).map (itemOf cfg p sa oa)) (keyedEnd p xs ks sr orr)
  | [], _, i, sr, orr => by rw [keyedWalk_done]; rfl
  | _ :: _, [], _, _, _ => by rw [keyedWalk_noKey]; rfl
  | x :: xs, k :: ks, i, sr, orr => by
    rw [keyedWalk_cons, keyedPairs, keyedEnd]
    cases hf : findKey k orr with
    | none => exact keyedWalk_seqAll cfg p sa oa xs ks (i + 1) sr orr
    | some jy =>
      dsimp only
      rw [keyedWalk_seqAll cfg p sa oa xs ks (i + 1)]; rfl

/-- with one key per item (`keysOf_length` at the call in `sub`) the loop ends with the leftovers -/
theorem keyedEnd_eq (p : Path) : ∀ (xs : List Val) (ks : List Str) (sr orr : List KE), ks.length = xs.length →
    keyedEnd p xs ks sr orr = .ok (keyedTail p (keyedLeft ks sr orr).1 (keyedLeft ks sr orr).2)
  | [], [], _, _, _ => rfl
  | [], _ :: _, _, _, h => nomatch h
  | _ :: _, [], _, _, h => nomatch h
  | _ :: xs, k :: ks, sr, orr, h => by
    rw [keyedEnd, keyedLeft]
    cases findKey k orr with
    | none => exact keyedEnd_eq p xs ks sr orr (Nat.succ.inj h)
    | some _ => exact keyedEnd_eq p xs ks _ _ (Nat.succ.inj h)

theorem keyedWalk_pairs (cfg : Cfg) (p : Path) (sa oa : Val) (xs : List Val) (ks : List Str) (i : Nat)
    (sr orr : List KE) (h : ks.length = xs.length) :
    keyedWalk cfg p sa oa i xs ks sr orr =
      seqAll ((keyedPairs i xs ks orr).map (itemOf cfg p sa oa))
        (.ok (keyedTail p (keyedLeft ks sr orr).1 (keyedLeft ks sr orr).2)) := by
  rw [keyedWalk_seqAll, keyedEnd_eq p xs ks sr orr h]

theorem keyedEnd_ok (p : Path) : ∀ {xs : List Val} {ks : List Str} {sr orr : List KE} {r : Res},
    keyedEnd p xs ks sr orr = .ok r → ∃ sr' orr', r = keyedTail p sr' orr' ∧ (∀ e ∈ sr', e ∈ sr) ∧ (∀ e ∈ orr', e ∈ orr)
  | [], _, sr, orr, r, h => by cases h; exact ⟨sr, orr, rfl, fun _ he => he, fun _ he => he⟩
  | _ :: _, [], _, _, _, h => nomatch h
  | _ :: xs, k :: ks, sr, orr, r, h => by
    rw [keyedEnd] at h
    cases hf : findKey k orr with
    | none => rw [hf] at h; exact keyedEnd_ok p h
    | some _ =>
      rw [hf] at h
      obtain ⟨sr', orr', hr, h1, h2⟩ := keyedEnd_ok p h
      exact ⟨sr', orr', hr, fun e he => eraseKey_sub sr k e (h1 e he), fun e he => eraseKey_sub orr k e (h2 e he)⟩

theorem seqAll_ok_tail {t : Res} : ∀ {l : List (Except PyErr Res)} {r : Res}, seqAll l (.ok t) = .ok r → ∃ r0, r = r0 ++ t
  | [], r, h => ⟨Res.empty, by cases h; exact (res_empty_append _).symm⟩
  | a :: l, r, h => by
    obtain ⟨r1, r2, _, h2, rfl⟩ := seqR_ok h
    obtain ⟨r0, rfl⟩ := seqAll_ok_tail h2
    exact ⟨r1 ++ r0, (res_append_assoc _ _ _).symm⟩

theorem seqAll_inv {P : Res → Prop} (happ : ∀ {a b}, P a → P b → P (a ++ b)) {l : List (Except PyErr Res)}
    {t : Except PyErr Res} (hl : ∀ a ∈ l, ∀ r, a = .ok r → P r) (ht : ∀ r, t = .ok r → P r) :
    ∀ r, seqAll l t = .ok r → P r := by
  induction l with
  | nil => exact ht
  | cons a l ih =>
    intro r h
    obtain ⟨r1, r2, rfl, h2, rfl⟩ := seqR_ok h
    exact happ (hl _ List.mem_cons_self r1 rfl) (ih (fun a ha => hl a (List.mem_cons_of_mem _ ha)) r2 h2)

theorem seqAll_exact {α : Type} {f : α → Except PyErr Res} {E : α → Prop} {rt : Res} :
    ∀ {as : List α}, (∀ a ∈ as, ∃ r, f a = .ok r ∧ (r.diffs = 0 ↔ E a)) →
      ∃ r, seqAll (as.map f) (.ok rt) = .ok r ∧ (r.diffs = 0 ↔ (∀ a ∈ as, E a) ∧ rt.diffs = 0)
  | [], _ => ⟨rt, rfl, by simp⟩
  | a :: as, h => by
    obtain ⟨r1, h1, e1⟩ := h a List.mem_cons_self
    obtain ⟨r2, h2, e2⟩ := seqAll_exact (as := as) (fun b hb => h b (List.mem_cons_of_mem _ hb))
    refine ⟨r1 ++ r2, by rw [List.map_cons, seqAll_cons, h1, h2]; rfl, ?_⟩
    rw [append_diffs, Nat.add_eq_zero_iff, e1, e2, List.forall_mem_cons, and_assoc]

theorem seqAll_rel {α : Type} {f g : α → Except PyErr Res} {Q : Except PyErr Res → Except PyErr Res → Prop}
    (hseq : ∀ {a a' b b'}, Q a a' → Q b b' → Q (seqR a b) (seqR a' b')) {t t' : Except PyErr Res} (ht : Q t t') :
    ∀ {as : List α}, (∀ a ∈ as, Q (f a) (g a)) → Q (seqAll (as.map f) t) (seqAll (as.map g) t')
  | [], _ => ht
  | a :: as, h =>
    hseq (h a List.mem_cons_self) (seqAll_rel hseq ht (as := as) fun b hb => h b (List.mem_cons_of_mem _ hb))

theorem dictPairs_mem {okvs : List (Str × Val)} {a : AP} : ∀ {kvs : List (Str × Val)}, a ∈ dictPairs okvs kvs →
    ∃ k, a.1 = .key k ∧ (k, a.2.1) ∈ kvs ∧ Val.lookup k okvs = some a.2.2
  | (k, v) :: rest, h => by
    rw [dictPairs] at h
    cases hl : Val.lookup k okvs with
    | none =>
      rw [hl] at h
      obtain ⟨k', h1, h2, h3⟩ := dictPairs_mem (kvs := rest) h
      exact ⟨k', h1, List.mem_cons_of_mem _ h2, h3⟩
    | some w =>
      rw [hl] at h
      rcases List.mem_cons.1 h with rfl | h
      · exact ⟨k, rfl, List.mem_cons_self, hl⟩
      · obtain ⟨k', h1, h2, h3⟩ := dictPairs_mem (kvs := rest) h
        exact ⟨k', h1, List.mem_cons_of_mem _ h2, h3⟩

theorem directPairs_get {a : AP} : ∀ {xs ys : List Val} {i : Nat}, a ∈ directPairs i xs ys →
    ∃ n, a.1 = .idx (i + n) ∧ xs[n]? = some a.2.1 ∧ ys[n]? = some a.2.2
  | x :: xs, y :: ys, i, h => by
    rcases List.mem_cons.1 h with rfl | h
    · exact ⟨0, rfl, rfl, rfl⟩
    · obtain ⟨n, h1, h2, h3⟩ := directPairs_get (xs := xs) (ys := ys) h
      exact ⟨n + 1, by rw [h1, Nat.add_assoc, Nat.add_comm 1 n], h2, h3⟩

theorem directPairs_mem {a : AP} {xs ys : List Val} {i : Nat} (h : a ∈ directPairs i xs ys) :
    isIdx a.1 = true ∧ a.2.1 ∈ xs ∧ a.2.2 ∈ ys := by
  obtain ⟨n, h1, h2, h3⟩ := directPairs_get h
  exact ⟨by rw [h1]; rfl, List.mem_of_getElem? h2, List.mem_of_getElem? h3⟩

theorem keyedPairs_get {a : AP} : ∀ {xs : List Val} {ks : List Str} {i : Nat} {orr : List KE},
    a ∈ keyedPairs i xs ks orr → ∃ n j k, a.1 = pairSeg (i + n) j ∧ xs[n]? = some a.2.1 ∧ (k, j, a.2.2) ∈ orr
  | x :: xs, k :: ks, i, orr, h => by
    rw [keyedPairs] at h
    have step : ∀ {orr' : List KE}, (∀ e ∈ orr', e ∈ orr) → a ∈ keyedPairs (i + 1) xs ks orr' →
        ∃ n j k, a.1 = pairSeg (i + n) j ∧ (x :: xs)[n]? = some a.2.1 ∧ (k, j, a.2.2) ∈ orr := by
      intro orr' hsub h'
      obtain ⟨n, j, k', h1, h2, h3⟩ := keyedPairs_get (xs := xs) h'
      exact ⟨n + 1, j, k', by rw [h1, Nat.add_assoc, Nat.add_comm 1 n], h2, hsub _ h3⟩
    cases hf : findKey k orr with
    | none => rw [hf] at h; exact step (fun _ he => he) h
    | some jy =>
      rw [hf] at h
      rcases List.mem_cons.1 h with rfl | h
      · obtain ⟨k', hm⟩ := findKey_mem orr k jy.1 jy.2 hf
        exact ⟨0, jy.1, k', rfl, rfl, hm⟩
      · exact step (eraseKey_sub orr k) h

theorem keyedPairs_mem {a : AP} {xs : List Val} {ks : List Str} {i : Nat} {orr : List KE}
    (h : a ∈ keyedPairs i xs ks orr) : isIdx a.1 = true ∧ a.2.1 ∈ xs ∧ ∃ k j, (k, j, a.2.2) ∈ orr := by
  obtain ⟨n, j, k, h1, h2, h3⟩ := keyedPairs_get h
  exact ⟨by rw [h1]; exact isIdx_pairSeg _ _, List.mem_of_getElem? h2, k, j, h3⟩

theorem keyedLeft_sub : ∀ (ks : List Str) (sr orr : List KE),
    (∀ e ∈ (keyedLeft ks sr orr).1, e ∈ sr) ∧ (∀ e ∈ (keyedLeft ks sr orr).2, e ∈ orr)
  | [], _, _ => ⟨fun _ h => h, fun _ h => h⟩
  | k :: ks, sr, orr => by
    rw [keyedLeft]
    cases findKey k orr with
    | none => exact keyedLeft_sub ks sr orr
    | some jy =>
      obtain ⟨h1, h2⟩ := keyedLeft_sub ks (eraseKey k sr) (eraseKey k orr)
      exact ⟨fun e he => eraseKey_sub sr k e (h1 e he), fun e he => eraseKey_sub orr k e (h2 e he)⟩

end N0.Compare
