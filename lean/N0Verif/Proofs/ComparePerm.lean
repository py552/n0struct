import N0Verif.Proofs.Compare
import N0Verif.Proofs.CompareAlign
/-!
C08: the keyed comparison when the composite keys are unique within each list.  The point is `perm_invariant`: reordering
lists at any depth on either side (`PermTree`) changes neither the verdict nor whether an exception is raised.  The
results of two such runs are not comparable entry by entry (the paths carry the positions), so the proof forgets
everything but the NUMBER OF LINES (`dE`, added by `addE`, an exception forgotten by `okD`).  The count does not depend on
the prefix (`sub_pref`), so a pair of items has a count of its own (`pairD`); with unique keys a keyed level is a lookup
(`matchedRes`, `sub_keyed_char`) and its count a sum over the items (`levelD`), and a sum is invariant under permutation.
`UniqueKeys cfg v` (composite keys of list items, with `itemOk`: the key of the item is stable under `PermTree`) is not
`uniqKeys` of `Compare` (no dictionary repeats a key).
-/
namespace N0.Compare
open N0

/-- number of lines of a leaf decision on a pair: `none` = the pair is entered -/
def leafD (x y : Val) : Option Nat :=
  match leafOf x y with
  | .differ => some 1
  | .same => some 0
  | .enter => none
  | .clash => some 1

/-- the number of lines of a leaf decision: `none` = the pair is entered -/
def actD : Act → Option Nat
  | .emit r _ => some r.diffs
  | .descend => none

theorem classifyItem_actD {cfg : Cfg} (h : NoPathOpts cfg) (p pne pdt : Path) (sa oa x y : Val) :
    actD (classifyItem cfg p pne pdt sa oa x y) = leafD x y := by
  rw [classifyItem_eq, transformAt_noTr h.tr, leafD]
  simp only [id]
  cases leafOf x y with
  | differ => rfl
  | same =>
    simp only
    split <;> rfl
  | enter => rfl
  | clash =>
    simp only
    split <;> rfl

theorem classifyEntry_actD {cfg : Cfg} (h : NoPathOpts cfg) (full : Path) (x y : Val) :
    actD (classifyEntry cfg full x y) = leafD x y := by
  rw [classifyEntry_eq, transformAt_noTr h.tr, excluded_npo h, onlyOk_npo h, leafD]
  simp only [id, Bool.false_eq_true, if_false, if_true]
  cases leafOf x y with
  | differ => rfl
  | same => rfl
  | enter => rfl
  | clash =>
    simp only
    split <;> rfl

theorem actD_eq {a a' : Act} (h : actD a = actD a') :
    (∃ r s r' s', a = .emit r s ∧ a' = .emit r' s' ∧ r.diffs = r'.diffs) ∨ (a = .descend ∧ a' = .descend) := by
  cases a with
  | emit r s =>
    cases a' with
    | emit r' s' => exact .inl ⟨r, s, r', s', rfl, rfl, Option.some.inj h⟩
    | descend => cases h
  | descend =>
    cases a' with
    | emit r' s' => cases h
    | descend => exact .inr ⟨rfl, rfl⟩

/-- the number of lines of a run (the exception is kept) -/
def dE (r : Except PyErr Res) : Except PyErr Nat := r.map (·.diffs)

@[simp] theorem dE_ok (r : Res) : dE (.ok r) = .ok r.diffs := rfl
@[simp] theorem dE_error (e : PyErr) : dE (.error e) = .error e := rfl

/-- the lines of two runs one after the other; the first failure wins (`dE_seqR`) -/
def addE (a b : Except PyErr Nat) : Except PyErr Nat :=
  match a with
  | .error e => .error e
  | .ok m =>
    match b with
    | .error e => .error e
    | .ok n => .ok (m + n)

theorem dE_seqR (a b : Except PyErr Res) : dE (seqR a b) = addE (dE a) (dE b) := by
  cases a <;> cases b <;> rfl

theorem addE_assoc (a b c : Except PyErr Nat) : addE (addE a b) c = addE a (addE b c) := by
  cases a <;> cases b <;> cases c <;> simp [addE, Nat.add_assoc]

theorem itemRes_pref {cfg : Cfg} (h : NoPathOpts cfg) (p pne pdt p' pne' pdt' : Path) (sa oa sa' oa' x y : Val)
    (hsub : dE (sub cfg .item pne x y) = dE (sub cfg .item pne' x y)) :
    dE (itemRes cfg p pne pdt sa oa x y) = dE (itemRes cfg p' pne' pdt' sa' oa' x y) := by
  rw [itemRes, itemRes]
  rcases actD_eq ((classifyItem_actD h p pne pdt sa oa x y).trans (classifyItem_actD h p' pne' pdt' sa' oa' x y).symm)
    with ⟨r, s, r', s', hc, hc', hd⟩ | ⟨hc, hc'⟩
  · rw [hc, hc', dE_ok, dE_ok, hd]
  · rw [hc, hc']
    exact hsub

mutual
theorem sub_pref (cfg : Cfg) (h : NoPathOpts cfg) (site : Site) (p p' : Path) (v w : Val) :
    dE (sub cfg site p v w) = dE (sub cfg site p' v w) :=
  match v, w with
  | .list c xs, w => by
    cases w with
    | list c' ys =>
      have hw : dE (listWalk cfg p xs ys) = dE (listWalk cfg p' xs ys) := by
        by_cases hd : cfg.direct = true
        · rw [listWalk_direct hd, listWalk_direct hd]
          exact directWalk_pref cfg h p p' _ _ _ _ 0 0 xs ys
        · have hd' := Bool.eq_false_iff.2 hd
          rw [listWalk_keyed hd', listWalk_keyed hd']
          simp only [keysOf_noTr h.tr p [] 0 0, keysOf_noTr h.tr p' [] 0 0]
          cases keysOf cfg [] 0 xs with
          | error e => rfl
          | ok ks =>
            cases keysOf cfg [] 0 ys with
            | error e => rfl
            | ok ko => exact keyedWalk_pref cfg h p p' _ _ _ _ 0 0 xs ks _ _
      -- `dE` goes through the tests in front of the walk, which do not look at the prefix
      rw [sub_lists, sub_lists, excluded_npo h, excluded_npo h]
      simp only [apply_ite dE, hw]
    | _ => rfl
  | .dict c kvs, w => by
    cases w with
    | dict c' kvs' =>
      rw [sub_dicts, sub_dicts]
      simp only [apply_ite dE,
        dictWalk_pref cfg h p p' (.dict .n0 kvs) (.dict .n0 kvs') (.dict .n0 kvs) (.dict .n0 kvs') kvs kvs' true true kvs]
    | _ => rfl
  | .none, _ => rfl
  | .bool _, _ => rfl
  | .int _, _ => rfl
  | .flt _, _ => rfl
  | .str _, _ => rfl
termination_by structural v

theorem dictWalk_pref (cfg : Cfg) (h : NoPathOpts cfg) (p p' : Path) (sa oa sa' oa' : Val)
    (skvs okvs : List (Str × Val)) (still still' : Bool) (kvs : List (Str × Val)) :
    dE (dictWalk cfg p sa oa skvs okvs still kvs) = dE (dictWalk cfg p' sa' oa' skvs okvs still' kvs) :=
  match kvs, still, still' with
  | [], still, still' => by
    simp only [dictWalk, dE_ok, dictTail_diffs_npo h]
  | (k, v) :: rest, still, still' => by
    rw [dictWalk_cons, dictWalk_cons]
    cases Val.lookup k okvs with
    | none => exact dictWalk_pref cfg h p p' sa oa sa' oa' skvs okvs still still' rest
    | some w =>
      simp only
      rcases actD_eq ((classifyEntry_actD h (p ++ [PSeg.key k]) v w).trans
          (classifyEntry_actD h (p' ++ [PSeg.key k]) v w).symm) with ⟨r, s, r', s', hc, hc', hd⟩ | ⟨hc, hc'⟩
      · rw [hc, hc']
        simp only [dE_seqR, dE_ok, hd]
        rw [dictWalk_pref cfg h p p' sa oa sa' oa' skvs okvs (still && s) (still' && s') rest]
      · rw [hc, hc']
        simp only [dE_seqR]
        rw [sub_pref cfg h Site.entry (p ++ [PSeg.key k]) (p' ++ [PSeg.key k]) v w,
          dictWalk_pref cfg h p p' sa oa sa' oa' skvs okvs still still' rest]
termination_by structural kvs

theorem directWalk_pref (cfg : Cfg) (h : NoPathOpts cfg) (p p' : Path) (sa oa sa' oa' : Val) (i i' : Nat)
    (xs ys : List Val) :
    dE (directWalk cfg p sa oa i xs ys) = dE (directWalk cfg p' sa' oa' i' xs ys) :=
  match xs, ys, i, i' with
  | [], ys, i, i' => by
    simp only [directWalk, dE_ok, otherTail_length]
  | x :: xs, [], i, i' => by
    rw [directWalk_right_done, directWalk_right_done]
    simp only [dE_seqR, dE_ok]
    rw [directWalk_pref cfg h p p' sa oa sa' oa' (i + 1) (i' + 1) xs []]
  | x :: xs, y :: ys, i, i' => by
    rw [directWalk_cons, directWalk_cons]
    simp only [dE_seqR]
    rw [directWalk_pref cfg h p p' sa oa sa' oa' (i + 1) (i' + 1) xs ys,
      itemRes_pref h p (p ++ [PSeg.idx i]) (p ++ [PSeg.idx i]) p' (p' ++ [PSeg.idx i']) (p' ++ [PSeg.idx i'])
        sa oa sa' oa' x y (sub_pref cfg h .item _ _ x y)]
termination_by structural xs

theorem keyedWalk_pref (cfg : Cfg) (h : NoPathOpts cfg) (p p' : Path) (sa oa sa' oa' : Val) (i i' : Nat)
    (xs : List Val) (ks : List Str) (sr orr : List KE) :
    dE (keyedWalk cfg p sa oa i xs ks sr orr) = dE (keyedWalk cfg p' sa' oa' i' xs ks sr orr) :=
  match xs, ks, sr, orr, i, i' with
  | [], _, sr, orr, i, i' => by
    simp only [keyedWalk, dE_ok, keyedTail]
  | _ :: _, [], _, _, i, i' => by simp only [keyedWalk]
  | x :: xs, k :: ks, sr, orr, i, i' => by
    rw [keyedWalk_cons, keyedWalk_cons]
    cases findKey k orr with
    | none => exact keyedWalk_pref cfg h p p' sa oa sa' oa' (i + 1) (i' + 1) xs ks sr orr
    | some jy =>
      obtain ⟨j, y⟩ := jy
      simp only [dE_seqR]
      rw [keyedWalk_pref cfg h p p' sa oa sa' oa' (i + 1) (i' + 1) xs ks (eraseKey k sr) (eraseKey k orr),
        itemRes_pref h p (p ++ [if i = j then PSeg.idx i else PSeg.idx2 i j]) (p ++ [if i = j then PSeg.idx i else PSeg.idx2 i j]) p'
          (p' ++ [if i' = j then PSeg.idx i' else PSeg.idx2 i' j])
          (p' ++ [if i' = j then PSeg.idx i' else PSeg.idx2 i' j]) sa oa sa' oa' x y (sub_pref cfg h .item _ _ x y)]
termination_by structural xs
end

/-- the result of the pair formed by the left element `x` at index `i` and its partner `jy` -/
def pairRes (cfg : Cfg) (p : Path) (sa oa : Val) (i : Nat) (x : Val) (jy : Nat × Val) : Except PyErr Res :=
  itemRes cfg p (p ++ [if i = jy.1 then PSeg.idx i else PSeg.idx2 i jy.1])
    (p ++ [if i = jy.1 then PSeg.idx i else PSeg.idx2 i jy.1]) sa oa x jy.2

/-- the results of the matched pairs, in the order of the left list; `orr` is the complete right list -/
def matchedRes (cfg : Cfg) (p : Path) (sa oa : Val) (orr : List KE) : Nat → List Str → List Val → Except PyErr Res
  | i, k :: ks, x :: xs =>
    match findKey k orr with
    | none => matchedRes cfg p sa oa orr (i + 1) ks xs
    | some jy => seqR (pairRes cfg p sa oa i x jy) (matchedRes cfg p sa oa orr (i + 1) ks xs)
  | _, _, _ => .ok Res.empty

theorem matchedRes_erase (cfg : Cfg) (p : Path) (sa oa : Val) (k : Str) (orr : List KE) :
    ∀ (ks : List Str) (xs : List Val) (i : Nat), k ∉ ks →
      matchedRes cfg p sa oa (eraseKey k orr) i ks xs = matchedRes cfg p sa oa orr i ks xs
  | [], _, _, _ => by simp [matchedRes]
  | _ :: _, [], _, _ => by simp [matchedRes]
  | k' :: ks, x :: xs, i, h => by
    simp only [List.mem_cons, not_or] at h
    simp only [matchedRes, findKey_eraseKey_ne (Ne.symm h.1), matchedRes_erase cfg p sa oa k orr ks xs (i + 1) h.2]

/-- with unique keys on the left a partner is looked up in the complete right list: the runs of the aligned pairs are
`matchedRes` -/
theorem matchedRes_pairs (cfg : Cfg) (p : Path) (sa oa : Val) (t : Except PyErr Res) :
    ∀ (xs : List Val) (ks : List Str) (i : Nat) (orr : List KE), ks.Nodup →
      seqAll ((keyedPairs i xs ks orr).map (itemOf cfg p sa oa)) t = seqR (matchedRes cfg p sa oa orr i ks xs) t
  | [], ks, i, orr, _ => by
    cases ks <;> simp only [keyedPairs, List.map_nil, seqAll_nil, matchedRes, seqR_empty_left]
  | x :: xs, [], i, orr, _ => by simp only [keyedPairs, List.map_nil, seqAll_nil, matchedRes, seqR_empty_left]
  | x :: xs, k :: ks, i, orr, hn => by
    rw [List.nodup_cons] at hn
    rw [keyedPairs, matchedRes]
    cases hf : findKey k orr with
    | none => exact matchedRes_pairs cfg p sa oa t xs ks (i + 1) orr hn.2
    | some jy =>
      dsimp only
      rw [List.map_cons, seqAll_cons, matchedRes_pairs cfg p sa oa t xs ks (i + 1) _ hn.2,
        matchedRes_erase cfg p sa oa k orr ks xs (i + 1) hn.1, seqR_assoc]
      rfl

/-- **Every record is classified exactly once** (all entry lists).  The keyed comparison of two lists with
unique composite keys is: the results of the pairs with a common key, in the order of the left list; one
`selfUnique` entry (own index) per left element whose key is absent on the right; one `otherUnique` entry
(own index) per right element whose key is absent on the left.  No assumption on the other options except
that the list itself is not excluded. -/
theorem sub_keyed_char (cfg : Cfg) (hd : cfg.direct = false) (site : Site) (p : Path) (hx : excluded cfg p = false)
    (c c' : Cls) (xs ys : List Val) (ks ko : List Str)
    (hks : keysOf cfg p 0 xs = .ok ks) (hko : keysOf cfg p 0 ys = .ok ko) (hn : ks.Nodup) (hno : ko.Nodup) :
    sub cfg site p (.list c xs) (.list c' ys) =
      seqR (matchedRes cfg p (.list .n0 xs) (.list .n0 ys) (mkEntries 0 ko ys) 0 ks xs)
        (.ok (keyedTail p
          ((mkEntries 0 ks xs).filter (fun e => (findKey e.1 (mkEntries 0 ko ys)).isNone))
          ((mkEntries 0 ko ys).filter (fun e => decide (e.1 ∉ ks))))) := by
  have hl := keysOf_length cfg p 0 xs ks hks
  have hlo := keysOf_length cfg p 0 ys ko hko
  have hd' : ∀ c : Cls, ¬(site = Site.item ∧ cfg.direct = true ∧ c = Cls.plain) := fun _ hc => by
    rw [hd] at hc
    exact Bool.false_ne_true hc.2.1
  have hleft := keyedLeft_eq xs ks 0 [] (mkEntries 0 ko ys) hl (fun _ he => nomatch he)
  rw [List.nil_append, List.nil_append, lonelyK_nodup _ _ (by rw [mkEntries_keys ks xs 0 hl]; exact hn),
    restK_nodup _ _ (by rw [mkEntries_keys ko ys 0 hlo]; exact hno), mkEntries_keys ks xs 0 hl] at hleft
  rw [sub_lists, if_neg (hd' c), if_neg (hd' c'), hx, if_neg Bool.false_ne_true, listWalk_keyed hd, hks, hko]
  dsimp only
  rw [keyedWalk_pairs cfg p _ _ xs ks 0 _ _ hl, matchedRes_pairs cfg p _ _ _ xs ks 0 _ hn, hleft]

/-- the number of lines of a pair of list items (it does not depend on where the pair is) -/
def pairD (cfg : Cfg) (x y : Val) : Except PyErr Nat := dE (itemRes cfg [] [] [] .none .none x y)

theorem itemRes_dE {cfg : Cfg} (h : NoPathOpts cfg) (p pne pdt : Path) (sa oa x y : Val) :
    dE (itemRes cfg p pne pdt sa oa x y) = pairD cfg x y :=
  itemRes_pref h p pne pdt [] [] [] sa oa .none .none x y (sub_pref cfg h .item pne [] x y)

/-- the element of `ys` whose key is `k` -/
def partner (cfg : Cfg) (k : Str) (ys : List Val) : Option Val := ys.find? (fun y => decide (k = keyP cfg y))

def sumE : List (Except PyErr Nat) → Except PyErr Nat
  | [] => .ok 0
  | a :: l => addE a (sumE l)

/-- lines contributed by the left element `x`: one if its key is absent on the right, else those of the pair -/
def elemD (cfg : Cfg) (ys : List Val) (x : Val) : Except PyErr Nat :=
  match partner cfg (keyP cfg x) ys with
  | none => .ok 1
  | some y => pairD cfg x y

/-- the line count of one keyed level, as a sum over the records -/
def levelD (cfg : Cfg) (xs ys : List Val) : Except PyErr Nat :=
  addE (sumE (xs.map (elemD cfg ys)))
    (.ok (ys.filter (fun y => decide (keyP cfg y ∉ xs.map (keyP cfg)))).length)

theorem findKey_mkEntries (cfg : Cfg) (k : Str) : ∀ (ys : List Val) (j : Nat),
    (findKey k (mkEntries j (ys.map (keyP cfg)) ys)).map (·.2) = partner cfg k ys
  | [], _ => rfl
  | y :: ys, j => by
    simp only [List.map_cons, mkEntries, findKey, partner, List.find?_cons]
    by_cases hk : k = keyP cfg y
    · simp [hk]
    · simp only [hk, ↓reduceIte, decide_false]
      exact findKey_mkEntries cfg k ys (j + 1)

theorem mkEntries_filter_length (cfg : Cfg) (ks : List Str) : ∀ (ys : List Val) (j : Nat),
    ((mkEntries j (ys.map (keyP cfg)) ys).filter (fun e => decide (e.1 ∉ ks))).length =
      (ys.filter (fun y => decide (keyP cfg y ∉ ks))).length
  | [], _ => rfl
  | y :: ys, j => by
    simp only [List.map_cons, mkEntries, List.filter_cons]
    have ih := mkEntries_filter_length cfg ks ys (j + 1)
    by_cases hk : keyP cfg y ∈ ks
    · simp [hk]; simpa using ih
    · simp [hk]; simpa using ih

theorem matched_dE {cfg : Cfg} (h : NoPathOpts cfg) (p : Path) (sa oa : Val) (ys : List Val) :
    ∀ (xs : List Val) (i n : Nat),
      addE (dE (matchedRes cfg p sa oa (mkEntries 0 (ys.map (keyP cfg)) ys) i (xs.map (keyP cfg)) xs))
        (.ok (((mkEntries i (xs.map (keyP cfg)) xs).filter
          (fun e => (findKey e.1 (mkEntries 0 (ys.map (keyP cfg)) ys)).isNone)).length + n)) =
      addE (sumE (xs.map (elemD cfg ys))) (.ok n)
  | [], i, n => by
    show (Except.ok (0 + (0 + n)) : Except PyErr Nat) = .ok (0 + n)
    rw [Nat.zero_add]
  | x :: xs, i, n => by
    have hp := findKey_mkEntries cfg (keyP cfg x) ys 0
    simp only [List.map_cons, matchedRes, mkEntries, sumE, elemD]
    cases hf : findKey (keyP cfg x) (mkEntries 0 (ys.map (keyP cfg)) ys) with
    | none =>
      rw [hf] at hp
      simp only [Option.map_none] at hp
      rw [← hp, List.filter_cons_of_pos (by simp [hf])]
      have ih := matched_dE h p sa oa ys xs (i + 1) (n + 1)
      simp only [List.length_cons]
      rw [show ∀ a : Nat, a + 1 + n = a + (n + 1) from by omega, ih]
      cases sumE (xs.map (elemD cfg ys)) with
      | error e => rfl
      | ok m => simp only [addE]; congr 1; omega
    | some jy =>
      rw [hf] at hp
      simp only [Option.map_some] at hp
      rw [← hp, List.filter_cons_of_neg (by simp [hf])]
      have ih := matched_dE h p sa oa ys xs (i + 1) n
      simp only [dE_seqR, pairRes, itemRes_dE h, addE_assoc]
      rw [ih]

/-- **Every record is classified exactly once** (line count): with unique keys on both sides the number of
lines of a keyed list comparison is the sum over the left elements of (one line if the key is absent on the
right, else the lines of the pair with the right element of the same key) plus one line per right element
whose key is absent on the left. -/
theorem sub_keyed_diffs (cfg : Cfg) (h : NoPathOpts cfg) (hd : cfg.direct = false) (site : Site) (p : Path)
    (c c' : Cls) (xs ys : List Val)
    (hn : (xs.map (keyP cfg)).Nodup) (hno : (ys.map (keyP cfg)).Nodup) :
    dE (sub cfg site p (.list c xs) (.list c' ys)) = levelD cfg xs ys := by
  rw [sub_keyed_char cfg hd site p (excluded_npo h p) c c' xs ys _ _ (keysOf_pure h.tr p 0 xs) (keysOf_pure h.tr p 0 ys) hn hno]
  simp only [dE_seqR, dE_ok, keyedTail, levelD]
  rw [matched_dE h, mkEntries_filter_length]

/-- forget which exception was raised -/
def okD (r : Except PyErr Nat) : Option Nat :=
  match r with
  | .ok n => some n
  | .error _ => none

/-- the sum, `none` if either run failed: commutative, unlike `addE` -/
def oadd (a b : Option Nat) : Option Nat :=
  match a, b with
  | some m, some n => some (m + n)
  | _, _ => none

/-- `oadd` over a list (`osum_perm`: invariant under permutation) -/
def osum : List (Option Nat) → Option Nat
  | [] => some 0
  | a :: l => oadd a (osum l)

theorem okD_addE (a b : Except PyErr Nat) : okD (addE a b) = oadd (okD a) (okD b) := by
  cases a <;> cases b <;> rfl

theorem okD_sumE : ∀ l : List (Except PyErr Nat), okD (sumE l) = osum (l.map okD)
  | [] => rfl
  | a :: l => by simp only [sumE, okD_addE, okD_sumE l, List.map_cons, osum]

theorem oadd_left_comm (a b c : Option Nat) : oadd a (oadd b c) = oadd b (oadd a c) := by
  cases a <;> cases b <;> cases c <;> simp [oadd]; omega

theorem osum_perm {l l' : List (Option Nat)} (h : l.Perm l') : osum l = osum l' := by
  induction h with
  | nil => rfl
  | cons a _ ih => simp only [osum, ih]
  | swap a b l => simp only [osum, oadd_left_comm]
  | trans _ _ ih1 ih2 => exact ih1.trans ih2

theorem verdict_eq_okD (r : Except PyErr Res) : verdict r = (okD (dE r)).map (· == 0) := by
  cases r <;> rfl

theorem partner_of_mem (cfg : Cfg) : ∀ (ys : List Val), (ys.map (keyP cfg)).Nodup → ∀ y ∈ ys,
    partner cfg (keyP cfg y) ys = some y
  | [], _, y, hy => by cases hy
  | z :: ys, hn, y, hy => by
    simp only [List.map_cons, List.nodup_cons] at hn
    simp only [partner, List.find?_cons]
    cases hy with
    | head => simp
    | tail _ hy' =>
      have hne : keyP cfg y ≠ keyP cfg z := fun hh => hn.1 (hh ▸ List.mem_map_of_mem hy')
      simp only [hne, decide_false]
      exact partner_of_mem cfg ys hn.2 y hy'

theorem partner_perm (cfg : Cfg) {ys ys' : List Val} (hp : ys.Perm ys') (hn : (ys.map (keyP cfg)).Nodup)
    (k : Str) : partner cfg k ys = partner cfg k ys' := by
  have hn' : (ys'.map (keyP cfg)).Nodup := (hp.map (keyP cfg)).nodup_iff.1 hn
  cases h : partner cfg k ys with
  | none =>
    simp only [partner, List.find?_eq_none] at h
    symm
    simp only [partner, List.find?_eq_none]
    intro y hy
    exact h y (hp.mem_iff.2 hy)
  | some y =>
    have hm : y ∈ ys := List.mem_of_find?_eq_some h
    have hk : k = keyP cfg y := by simpa using List.find?_some h
    subst hk
    exact (partner_of_mem cfg ys' hn' y (hp.mem_iff.1 hm)).symm

theorem levelD_perm (cfg : Cfg) {xs xs' ys ys' : List Val} (hx : xs.Perm xs') (hy : ys.Perm ys')
    (hno : (ys.map (keyP cfg)).Nodup) :
    okD (levelD cfg xs ys) = okD (levelD cfg xs' ys') := by
  have he : elemD cfg ys = elemD cfg ys' := by
    funext x
    simp only [elemD, partner_perm cfg hy hno]
  have hf : ∀ y, decide (keyP cfg y ∉ xs.map (keyP cfg)) = decide (keyP cfg y ∉ xs'.map (keyP cfg)) := by
    intro y
    simp only [(hx.map (keyP cfg)).mem_iff]
  simp only [levelD, okD_addE, okD_sumE, hf, he]
  rw [osum_perm ((hx.map (elemD cfg ys')).map okD), (hy.filter _).length_eq]

/-- **Permutation invariance of the verdict at one keyed level**: with unique composite keys, permuting the
left list, the right list or both does not change the verdict (nor the number of lines, nor whether an
exception is raised) — at any prefix. -/
theorem sub_keyed_perm (cfg : Cfg) (h : NoPathOpts cfg) (hd : cfg.direct = false) (site : Site) (p p' : Path)
    (c c' c₁ c₁' : Cls) {xs xs' ys ys' : List Val} (hx : xs.Perm xs') (hy : ys.Perm ys')
    (hn : (xs.map (keyP cfg)).Nodup) (hno : (ys.map (keyP cfg)).Nodup) :
    verdict (sub cfg site p (.list c xs) (.list c' ys)) = verdict (sub cfg site p' (.list c₁ xs') (.list c₁' ys')) := by
  have hn' : (xs'.map (keyP cfg)).Nodup := (hx.map (keyP cfg)).nodup_iff.1 hn
  have hno' : (ys'.map (keyP cfg)).Nodup := (hy.map (keyP cfg)).nodup_iff.1 hno
  rw [verdict_eq_okD, verdict_eq_okD, sub_keyed_diffs cfg h hd site p c c' xs ys hn hno,
    sub_keyed_diffs cfg h hd site p' c₁ c₁' xs' ys' hn' hno', levelD_perm cfg hx hy hno]

mutual
/-- `v'` is `v` with the lists inside it permuted (at every depth) -/
inductive PermTree : Val → Val → Prop
  | none : PermTree .none .none
  | bool (b : Bool) : PermTree (.bool b) (.bool b)
  | int (i : Int) : PermTree (.int i) (.int i)
  | flt (r : Str) : PermTree (.flt r) (.flt r)
  | str (s : Str) : PermTree (.str s) (.str s)
  | list (c : Cls) {xs xs1 xs' : List Val} : xs.Perm xs1 → PermList xs1 xs' → PermTree (.list c xs) (.list c xs')
  | dict (c : Cls) {kvs kvs' : List (Str × Val)} : PermKvs kvs kvs' → PermTree (.dict c kvs) (.dict c kvs')
/-- element-wise `PermTree` -/
inductive PermList : List Val → List Val → Prop
  | nil : PermList [] []
  | cons {x x' : Val} {xs xs' : List Val} : PermTree x x' → PermList xs xs' → PermList (x :: xs) (x' :: xs')
/-- same keys in the same order, `PermTree` values -/
inductive PermKvs : List (Str × Val) → List (Str × Val) → Prop
  | nil : PermKvs [] []
  | cons (k : Str) {v v' : Val} {kvs kvs' : List (Str × Val)} :
      PermTree v v' → PermKvs kvs kvs' → PermKvs ((k, v) :: kvs) ((k, v') :: kvs')
end

/-- a list element whose key is stable under `PermTree`: not itself a list, and the key fields of a record
are scalars -/
def itemOk (cfg : Cfg) : Val → Prop
  | .list _ _ => False
  | .dict _ kvs => ∀ f ∈ cfg.ck.pats, ∀ v, Val.lookup f kvs = some v → v.isScalar = true
  | _ => True

mutual
/-- every list inside the value has pairwise different composite keys (and stable keys) -/
def UniqueKeys (cfg : Cfg) : Val → Prop
  | .list _ xs => (xs.map (keyP cfg)).Nodup ∧ UniqueKeysL cfg xs
  | .dict _ kvs => UniqueKeysK cfg kvs
  | _ => True
def UniqueKeysL (cfg : Cfg) : List Val → Prop
  | [] => True
  | x :: xs => (itemOk cfg x ∧ UniqueKeys cfg x) ∧ UniqueKeysL cfg xs
def UniqueKeysK (cfg : Cfg) : List (Str × Val) → Prop
  | [] => True
  | (_, v) :: kvs => UniqueKeys cfg v ∧ UniqueKeysK cfg kvs
end

theorem uniqueKeysL_mem (cfg : Cfg) (xs : List Val) (h : UniqueKeysL cfg xs) : ∀ x ∈ xs, itemOk cfg x ∧ UniqueKeys cfg x :=
  fun _ hx => Py.allRecP_mem (fL := UniqueKeysL cfg) (fun _ _ => Iff.rfl) h hx

theorem uniqueKeysK_lookup (cfg : Cfg) (k : Str) (kvs : List (Str × Val)) (v : Val) (h : UniqueKeysK cfg kvs)
    (hl : Val.lookup k kvs = some v) : UniqueKeys cfg v :=
  Py.allRecP_mem (f := fun kv => UniqueKeys cfg kv.2) (fL := UniqueKeysK cfg) (fun ⟨_, _⟩ _ => Iff.rfl) h (Val.lookup_mem hl)

theorem PermTree.tyOf_eq {v v' : Val} (h : PermTree v v') : tyOf v = tyOf v' := by
  cases h <;> rfl

theorem PermTree.eq_of_isScalar {v v' : Val} (h : PermTree v v') (hs : v.isScalar = true) : v = v' := by
  cases h <;> simp_all [Val.isScalar]

theorem isPyScalar_isScalar {v : Val} (h : isPyScalar v = true) : v.isScalar = true := by
  cases v <;> simp_all [isPyScalar, Val.isScalar]

theorem leafD_permTree {v v' w w' : Val} (hv : PermTree v v') (hw : PermTree w w') :
    leafD v w = leafD v' w' := by
  have h1 := hv.tyOf_eq
  have h2 := hw.tyOf_eq
  unfold leafD leafOf
  by_cases ht : tyOf v = tyOf w
  · have ht' : tyOf v' = tyOf w' := by rw [← h1, ← h2]; exact ht
    by_cases hs : isPyScalar v = true
    · have hsw : isPyScalar w = true := by rw [← tyOf_scalar_eq ht]; exact hs
      cases hv.eq_of_isScalar (isPyScalar_isScalar hs)
      cases hw.eq_of_isScalar (isPyScalar_isScalar hsw)
      rfl
    · have hs' : ¬ isPyScalar v' = true := by rw [← tyOf_scalar_eq h1]; exact hs
      rw [if_pos ht, if_pos ht', if_neg hs, if_neg hs']
  · have ht' : ¬ tyOf v' = tyOf w' := by rw [← h1, ← h2]; exact ht
    rw [if_neg ht, if_neg ht']

theorem permKvs_lookup_none (k : Str) : ∀ (kvs kvs' : List (Str × Val)), PermKvs kvs kvs' →
    Val.lookup k kvs = none → Val.lookup k kvs' = none
  | [], _, h, _ => by cases h; rfl
  | (k0, v) :: rest, _, h, hl => by
    cases h with
    | cons _ hv hr =>
      simp only [Val.lookup] at hl ⊢
      split at hl
      · cases hl
      · rename_i hne
        simp only [hne, ↓reduceIte]
        exact permKvs_lookup_none k rest _ hr hl

theorem permKvs_lookup_some (k : Str) : ∀ (kvs kvs' : List (Str × Val)) (v : Val), PermKvs kvs kvs' →
    Val.lookup k kvs = some v → ∃ v', Val.lookup k kvs' = some v' ∧ PermTree v v'
  | [], _, _, _, hl => by simp [Val.lookup] at hl
  | (k0, v0) :: rest, _, v, h, hl => by
    cases h with
    | cons _ hv hr =>
      simp only [Val.lookup] at hl ⊢
      split at hl
      · rename_i he
        cases hl
        exact ⟨_, by simp [he], hv⟩
      · rename_i hne
        simp only [hne, ↓reduceIte]
        exact permKvs_lookup_some k rest _ v hr hl

theorem permKvs_hasKey (k : Str) {kvs kvs' : List (Str × Val)} (h : PermKvs kvs kvs') :
    hasKey k kvs = hasKey k kvs' := by
  unfold hasKey
  cases hl : Val.lookup k kvs with
  | none => rw [permKvs_lookup_none k kvs kvs' h hl]
  | some v =>
    obtain ⟨v', hv', _⟩ := permKvs_lookup_some k kvs kvs' v h hl
    rw [hv']; rfl

theorem recFields_permKvs {kvs kvs' : List (Str × Val)} (hk : PermKvs kvs kvs') :
    ∀ (fs : List Str) (acc : List (Str × Val)), (∀ f ∈ fs, ∀ v, Val.lookup f kvs = some v → v.isScalar = true) →
      recFields kvs fs acc = recFields kvs' fs acc
  | [], _, _ => rfl
  | f :: fs, acc, hs => by
    have hs' : ∀ g ∈ fs, ∀ v, Val.lookup g kvs = some v → v.isScalar = true :=
      fun g hg => hs g (List.mem_cons_of_mem _ hg)
    simp only [recFields]
    cases hl : Val.lookup f kvs with
    | none =>
      rw [permKvs_lookup_none f kvs kvs' hk hl]
      exact recFields_permKvs hk fs acc hs'
    | some v =>
      obtain ⟨v', hv', hp⟩ := permKvs_lookup_some f kvs kvs' v hk hl
      have := hp.eq_of_isScalar (hs f List.mem_cons_self v hl)
      subst this
      rw [hv']
      exact recFields_permKvs hk fs _ hs'

theorem keyP_permTree (cfg : Cfg) {x x' : Val} (hp : PermTree x x') (hi : itemOk cfg x) :
    keyP cfg x = keyP cfg x' := by
  cases hp with
  | list c _ _ => simp [itemOk] at hi
  | dict c hk =>
    simp only [keyP]
    rw [recFields_permKvs hk _ _ hi]
  | _ => rfl

theorem permList_keys (cfg : Cfg) : ∀ (xs xs' : List Val), PermList xs xs' → (∀ x ∈ xs, itemOk cfg x) →
    xs.map (keyP cfg) = xs'.map (keyP cfg)
  | [], _, h, _ => by cases h; rfl
  | x :: xs, _, h, hi => by
    cases h with
    | cons hx hr =>
      simp only [List.map_cons]
      rw [keyP_permTree cfg hx (hi x List.mem_cons_self),
        permList_keys cfg xs _ hr (fun z hz => hi z (List.mem_cons_of_mem _ hz))]

/-- a leaf decision, or else the lines of the container step -/
def leafOr (l : Option Nat) (d : Except PyErr Nat) : Except PyErr Nat :=
  match l with
  | some n => .ok n
  | none => d

theorem itemRes_dE_leaf {cfg : Cfg} (h : NoPathOpts cfg) (p pne pdt : Path) (sa oa x y : Val) :
    dE (itemRes cfg p pne pdt sa oa x y) = leafOr (leafD x y) (dE (sub cfg .item pne x y)) := by
  rw [itemRes, ← classifyItem_actD h p pne pdt sa oa x y]
  cases classifyItem cfg p pne pdt sa oa x y <;> rfl

theorem pairD_leaf {cfg : Cfg} (h : NoPathOpts cfg) (x y : Val) :
    pairD cfg x y = leafOr (leafD x y) (dE (sub cfg .item [] x y)) :=
  itemRes_dE_leaf h [] [] [] .none .none x y

theorem dictWalk_cons_dE {cfg : Cfg} (h : NoPathOpts cfg) (p : Path) (sa oa : Val) (skvs okvs : List (Str × Val))
    (still : Bool) (k : Str) (v : Val) (rest : List (Str × Val)) :
    dE (dictWalk cfg p sa oa skvs okvs still ((k, v) :: rest)) =
      match Val.lookup k okvs with
      | none => dE (dictWalk cfg p sa oa skvs okvs still rest)
      | some w =>
        addE (leafOr (leafD v w) (dE (sub cfg .entry (p ++ [.key k]) v w)))
          (dE (dictWalk cfg p sa oa skvs okvs still rest)) := by
  rw [dictWalk_cons]
  cases Val.lookup k okvs with
  | none => rfl
  | some w =>
    simp only
    rw [← classifyEntry_actD h (p ++ [PSeg.key k]) v w]
    cases classifyEntry cfg (p ++ [PSeg.key k]) v w with
    | emit r s =>
      rw [dE_seqR, dictWalk_pref cfg h p p sa oa sa oa skvs okvs (still && s) still rest]
      rfl
    | descend =>
      rw [dE_seqR]
      rfl

def SubInv (cfg : Cfg) (v : Val) : Prop :=
  ∀ (site : Site) (p : Path) (w v' w' : Val), PermTree v v' → PermTree w w' →
    UniqueKeys cfg v → UniqueKeys cfg w →
    okD (dE (sub cfg site p v w)) = okD (dE (sub cfg site p v' w'))

theorem pairD_permTree {cfg : Cfg} (h : NoPathOpts cfg) {x x' y y' : Val} (hS : SubInv cfg x)
    (hx : PermTree x x') (hy : PermTree y y') (hux : UniqueKeys cfg x) (huy : UniqueKeys cfg y) :
    okD (pairD cfg x y) = okD (pairD cfg x' y') := by
  rw [pairD_leaf h, pairD_leaf h, leafD_permTree hx hy]
  cases leafD x' y' with
  | some n => rfl
  | none => exact hS .item [] y x' y' hx hy hux huy

theorem partner_permList (cfg : Cfg) (k : Str) : ∀ (ys ys' : List Val), PermList ys ys' →
    ys.map (keyP cfg) = ys'.map (keyP cfg) →
    (partner cfg k ys = none ∧ partner cfg k ys' = none) ∨
      (∃ y y', partner cfg k ys = some y ∧ partner cfg k ys' = some y' ∧ PermTree y y' ∧ y ∈ ys)
  | [], _, h, _ => by cases h; left; exact ⟨rfl, rfl⟩
  | y :: ys, _, h, hk => by
    cases h with
    | @cons _ y' _ ys' hy hr =>
      simp only [List.map_cons, List.cons.injEq] at hk
      by_cases hkk : k = keyP cfg y
      · right
        refine ⟨y, y', ?_, ?_, hy, List.mem_cons_self⟩
        · simp [partner, hkk]
        · simp [partner, hkk, hk.1]
      · have hkk' : ¬ k = keyP cfg y' := by rw [← hk.1]; exact hkk
        have e1 : partner cfg k (y :: ys) = partner cfg k ys := by simp [partner, hkk]
        have e2 : partner cfg k (y' :: ys') = partner cfg k ys' := by simp [partner, hkk']
        rw [e1, e2]
        rcases partner_permList cfg k ys ys' hr hk.2 with ⟨a, b⟩ | ⟨y1, y1', a, b, c, d⟩
        · left; exact ⟨a, b⟩
        · right; exact ⟨y1, y1', a, b, c, List.mem_cons_of_mem _ d⟩

theorem elemD_permTree {cfg : Cfg} (h : NoPathOpts cfg) {ys ys' : List Val} (hr : PermList ys ys')
    (hk : ys.map (keyP cfg) = ys'.map (keyP cfg)) (huy : ∀ y ∈ ys, UniqueKeys cfg y)
    {x x' : Val} (hx : PermTree x x') (hkx : keyP cfg x = keyP cfg x') (hS : SubInv cfg x)
    (hux : UniqueKeys cfg x) :
    okD (elemD cfg ys x) = okD (elemD cfg ys' x') := by
  simp only [elemD]
  rw [← hkx]
  rcases partner_permList cfg (keyP cfg x) ys ys' hr hk with ⟨a, b⟩ | ⟨y, y', a, b, c, d⟩
  · rw [a, b]
  · rw [a, b]
    exact pairD_permTree h hS hx c hux (huy y d)

theorem elemD_list_permList {cfg : Cfg} (h : NoPathOpts cfg) {ys ys' : List Val} (hr : PermList ys ys')
    (hk : ys.map (keyP cfg) = ys'.map (keyP cfg)) (huy : ∀ y ∈ ys, UniqueKeys cfg y) :
    ∀ (xs xs' : List Val), PermList xs xs' →
      (∀ x ∈ xs, itemOk cfg x ∧ UniqueKeys cfg x ∧ SubInv cfg x) →
      (xs.map (elemD cfg ys)).map okD = (xs'.map (elemD cfg ys')).map okD
  | [], _, hl, _ => by cases hl; rfl
  | x :: xs, _, hl, hux => by
    cases hl with
    | cons hx hrest =>
      have hx0 := hux x List.mem_cons_self
      simp only [List.map_cons]
      rw [elemD_permTree h hr hk huy hx (keyP_permTree cfg hx hx0.1) hx0.2.2 hx0.2.1,
        elemD_list_permList h hr hk huy xs _ hrest (fun z hz => hux z (List.mem_cons_of_mem _ hz))]

theorem filter_key_length (cfg : Cfg) (ks : List Str) (ys : List Val) :
    (ys.filter (fun y => decide (keyP cfg y ∉ ks))).length =
      ((ys.map (keyP cfg)).filter (fun k => decide (k ∉ ks))).length := by
  rw [List.filter_map, List.length_map]
  rfl

theorem levelD_permList {cfg : Cfg} (h : NoPathOpts cfg) {xs xs' ys ys' : List Val}
    (hx : PermList xs xs') (hy : PermList ys ys')
    (hux : ∀ x ∈ xs, itemOk cfg x ∧ UniqueKeys cfg x ∧ SubInv cfg x)
    (huy : ∀ y ∈ ys, itemOk cfg y ∧ UniqueKeys cfg y) :
    okD (levelD cfg xs ys) = okD (levelD cfg xs' ys') := by
  have hkx := permList_keys cfg xs xs' hx (fun x hx => (hux x hx).1)
  have hky := permList_keys cfg ys ys' hy (fun y hy => (huy y hy).1)
  simp only [levelD, okD_addE, okD_sumE]
  rw [elemD_list_permList h hy hky (fun y hy => (huy y hy).2) xs xs' hx hux, ← hkx,
    filter_key_length, filter_key_length cfg _ ys', hky]

theorem sub_list_permTree (cfg : Cfg) (h : NoPathOpts cfg) (hd : cfg.direct = false) (site : Site) (p : Path)
    (c c' : Cls) {xs xs1 xs' ys ys1 ys' : List Val}
    (hpx : xs.Perm xs1) (hlx : PermList xs1 xs') (hpy : ys.Perm ys1) (hly : PermList ys1 ys')
    (hux : UniqueKeys cfg (.list c xs)) (huy : UniqueKeys cfg (.list c' ys))
    (hS : ∀ x ∈ xs, SubInv cfg x) :
    okD (dE (sub cfg site p (.list c xs) (.list c' ys))) =
      okD (dE (sub cfg site p (.list c xs') (.list c' ys'))) := by
  simp only [UniqueKeys] at hux huy
  have hix := uniqueKeysL_mem cfg xs hux.2
  have hiy := uniqueKeysL_mem cfg ys huy.2
  have hix1 : ∀ x ∈ xs1, itemOk cfg x ∧ UniqueKeys cfg x ∧ SubInv cfg x := by
    intro x hx
    have hm := hpx.mem_iff.2 hx
    exact ⟨(hix x hm).1, (hix x hm).2, hS x hm⟩
  have hiy1 : ∀ y ∈ ys1, itemOk cfg y ∧ UniqueKeys cfg y := fun y hy => hiy y (hpy.mem_iff.2 hy)
  have hkx := permList_keys cfg xs1 xs' hlx (fun x hx => (hix1 x hx).1)
  have hky := permList_keys cfg ys1 ys' hly (fun y hy => (hiy1 y hy).1)
  have hn1 : (xs1.map (keyP cfg)).Nodup := (hpx.map (keyP cfg)).nodup_iff.1 hux.1
  have hno1 : (ys1.map (keyP cfg)).Nodup := (hpy.map (keyP cfg)).nodup_iff.1 huy.1
  rw [sub_keyed_diffs cfg h hd site p c c' xs ys hux.1 huy.1,
    sub_keyed_diffs cfg h hd site p c c' xs' ys' (hkx ▸ hn1) (hky ▸ hno1),
    levelD_perm cfg hpx hpy huy.1, levelD_permList h hlx hly hix1 hiy1]

theorem permKvs_filter_length {b b' : List (Str × Val)} (hb : ∀ k, hasKey k b = hasKey k b') :
    ∀ (a a' : List (Str × Val)), PermKvs a a' →
      (a.filter (fun kv => !hasKey kv.1 b)).length = (a'.filter (fun kv => !hasKey kv.1 b')).length
  | [], _, h => by cases h; rfl
  | (k, v) :: a, _, h => by
    cases h with
    | cons _ hv hr =>
      have ih := permKvs_filter_length hb a _ hr
      simp only [List.filter_cons, hb k]
      split <;> simp [ih]

def DictInv (cfg : Cfg) (kvs : List (Str × Val)) : Prop :=
  ∀ (p : Path) (sa oa sa' oa' : Val) (skvs skvs' okvs okvs' kvs' : List (Str × Val)) (still still' : Bool),
    PermKvs skvs skvs' → PermKvs okvs okvs' → PermKvs kvs kvs' →
    UniqueKeysK cfg kvs → UniqueKeysK cfg okvs →
    okD (dE (dictWalk cfg p sa oa skvs okvs still kvs)) =
      okD (dE (dictWalk cfg p sa' oa' skvs' okvs' still' kvs'))

theorem dictWalk_permTree (cfg : Cfg) (h : NoPathOpts cfg) :
    ∀ kvs : List (Str × Val), (∀ kv ∈ kvs, SubInv cfg kv.2) → DictInv cfg kvs
  | [], _ => by
    intro p sa oa sa' oa' skvs skvs' okvs okvs' kvs' still still' hs ho hk hu huo
    cases hk
    simp only [dictWalk_done, dE_ok, dictTail_diffs_npo h]
    rw [permKvs_filter_length (fun k => permKvs_hasKey k ho) skvs skvs' hs,
      permKvs_filter_length (fun k => permKvs_hasKey k hs) okvs okvs' ho]
  | (k, v) :: rest, hS => by
    intro p sa oa sa' oa' skvs skvs' okvs okvs' kvs' still still' hs ho hk hu huo
    cases hk with
    | @cons _ _ v' _ rest' hv hr =>
      simp only [UniqueKeysK] at hu
      rw [dictWalk_cons_dE h, dictWalk_cons_dE h]
      have ih := dictWalk_permTree cfg h rest (fun kv hkv => hS kv (List.mem_cons_of_mem _ hkv))
        p sa oa sa' oa' skvs skvs' okvs okvs' rest' still still' hs ho hr hu.2 huo
      cases hl : Val.lookup k okvs with
      | none =>
        rw [permKvs_lookup_none k okvs okvs' ho hl]
        exact ih
      | some w =>
        obtain ⟨w', hw', hpw⟩ := permKvs_lookup_some k okvs okvs' w ho hl
        rw [hw']
        simp only [okD_addE, ih, leafD_permTree hv hpw]
        cases leafD v' w' with
        | some n => rfl
        | none =>
          simp only [leafOr]
          rw [hS (k, v) List.mem_cons_self Site.entry _ w v' w' hv hpw hu.1 (uniqueKeysK_lookup cfg k okvs w huo hl)]

theorem sub_permTree (cfg : Cfg) (h : NoPathOpts cfg) (hd : cfg.direct = false) (v : Val) : SubInv cfg v := by
  induction v using Val.memInduct with
  | list c xs hS =>
    intro site p w v' w' hv hw huv huw
    cases hv with
    | list _ hpx hlx =>
      cases hw with
      | list c' hpy hly => exact sub_list_permTree cfg h hd site p c c' hpx hlx hpy hly huv huw hS
      | _ => rfl
  | dict c kvs hS =>
    intro site p w v' w' hv hw huv huw
    cases hv with
    | dict _ hk =>
      cases hw with
      | dict c' hko =>
        rw [sub_dicts, sub_dicts]
        by_cases hc : site = Site.item ∧ cfg.direct = false ∧ c' = Cls.plain
        · rw [if_pos hc, if_pos hc]
        · rw [if_neg hc, if_neg hc]
          exact dictWalk_permTree cfg h kvs hS p _ _ _ _ kvs _ _ _ _ true true hk hko hk huv huw
      | _ => rfl
  | none => exact fun site p w v' w' hv hw _ _ => by cases hv; rfl
  | bool b => exact fun site p w v' w' hv hw _ _ => by cases hv; rfl
  | int i => exact fun site p w v' w' hv hw _ _ => by cases hv; rfl
  | flt r => exact fun site p w v' w' hv hw _ _ => by cases hv; rfl
  | str s => exact fun site p w v' w' hv hw _ _ => by cases hv; rfl

theorem list_permTree (cfg : Cfg) (h : NoPathOpts cfg) (hd : cfg.direct = false) (xs : List Val) :
    ∀ x ∈ xs, SubInv cfg x :=
  fun x _ => sub_permTree cfg h hd x

theorem kvs_permTree (cfg : Cfg) (h : NoPathOpts cfg) (hd : cfg.direct = false) (kvs : List (Str × Val)) :
    DictInv cfg kvs :=
  dictWalk_permTree cfg h kvs (fun kv _ => sub_permTree cfg h hd kv.2)

theorem PermTree.rootPair_iff {a a' b b' : Val} (ha : PermTree a a') (hb : PermTree b b') :
    RootPair a b ↔ RootPair a' b' := by
  constructor
  · intro h
    rcases rootPair_cases h with ⟨kvs, kvs', rfl, rfl⟩ | ⟨xs, ys, rfl, rfl⟩
    · cases ha
      cases hb
      trivial
    · cases ha
      cases hb
      trivial
  · intro h
    rcases rootPair_cases h with ⟨kvs, kvs', rfl, rfl⟩ | ⟨xs, ys, rfl, rfl⟩
    · cases ha
      cases hb
      trivial
    · cases ha
      cases hb
      trivial

/-- the number of lines (and whether an exception is raised) is invariant, not only the verdict -/
theorem perm_invariant_lines (cfg : Cfg) (h : NoPathOpts cfg) (hd : cfg.direct = false) {a a' b b' : Val}
    (ha : PermTree a a') (hb : PermTree b b') (hua : UniqueKeys cfg a) (hub : UniqueKeys cfg b) :
    okD (dE (compareTop cfg a b)) = okD (dE (compareTop cfg a' b')) := by
  by_cases hr : RootPair a b
  · rw [compareTop_eq_sub cfg a b hr, compareTop_eq_sub cfg a' b' ((ha.rootPair_iff hb).1 hr),
      sub_permTree cfg h hd a Site.entry [] b a' b' ha hb hua hub]
  · obtain ⟨e, he⟩ := compareTop_error cfg hr
    obtain ⟨e', he'⟩ := compareTop_error cfg (fun h' => hr ((ha.rootPair_iff hb).2 h'))
    rw [he, he']
    rfl

/-- **Permutation invariance of the verdict (whole tree).**  Keyed comparison with a composite key
(`cfg.direct = false`, `composite_key` arbitrary, the path options at their defaults): if the composite keys
are unique within every list of both documents, reordering the lists — at any depth, on either side — changes
neither the verdict nor whether an exception is raised. -/
theorem perm_invariant (cfg : Cfg) (h : NoPathOpts cfg) (hd : cfg.direct = false) {a a' b b' : Val}
    (ha : PermTree a a') (hb : PermTree b b') (hua : UniqueKeys cfg a) (hub : UniqueKeys cfg b) :
    verdict (compareTop cfg a b) = verdict (compareTop cfg a' b') := by
  rw [verdict_eq_okD, verdict_eq_okD, perm_invariant_lines cfg h hd ha hb hua hub]

/-- composite key `id` -/
def cexCfg : Cfg := { Cfg.default Flags.init false with ck := .many [['i', 'd']] }

def cexRec (i a : Int) : Val := .dict .n0 [(['i', 'd'], .int i), (['a'], .int a)]

end N0.Compare
