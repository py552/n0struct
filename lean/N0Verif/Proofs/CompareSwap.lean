import N0Verif.Proofs.CompareFaithful
import N0Verif.Proofs.CompareAlign
/-!
Swap symmetry of the reports (C09): `swap_sub`, both entry points, no `transform`: the run on the exchanged operands is the
mirror image `Sw` of the run (unique lists exchanged, pairs flipped, as multisets of entries), stated as `LiftOk Sw`,
because a level visits the flipped pairs of `CompareAlign` (`seqAll_swap`); with a `transform` it fails
(`swap_direct_stmt_false`).  The keyed statements are read off in `CompareSwapKeyed.lean`.
-/
namespace N0.Compare
open N0

theorem keysOf_length_sw (cfg : Cfg) (p : Path) : ∀ (i : Nat) (xs : List Val) (ks : List Str),
    keysOf cfg p i xs = .ok ks → ks.length = xs.length :=
  keysOf_length cfg p

/-- the result seen from the other operand: the unique lists and the equal lists change sides, every pair is flipped,
every path mirrored -/
def Res.mirror (r : Res) : Res :=
  { diffs := r.diffs,
    notEqual := r.notEqual.map (fun e => ⟨mirrorPath e.path, e.r, e.l, e.kind, e.delta⟩),
    selfUnique := r.otherUnique.map (fun e => ⟨mirrorPath e.path, e.v⟩),
    otherUnique := r.selfUnique.map (fun e => ⟨mirrorPath e.path, e.v⟩),
    diffTypes := r.diffTypes.map (fun e => ⟨mirrorPath e.path, e.r, e.l⟩),
    selfEqual := r.otherEqual, otherEqual := r.selfEqual }

theorem mirrorPath_snoc_key (p : Path) (k : Str) (hp : mirrorPath p = p) :
    mirrorPath (p ++ [PSeg.key k]) = p ++ [PSeg.key k] := by
  simp only [mirrorPath, List.map_append, List.map_cons, List.map_nil] at hp ⊢
  rw [hp]; rfl

theorem mirrorPath_snoc_idx (p : Path) (i : Nat) (hp : mirrorPath p = p) :
    mirrorPath (p ++ [PSeg.idx i]) = p ++ [PSeg.idx i] := by
  simp only [mirrorPath, List.map_append, List.map_cons, List.map_nil] at hp ⊢
  rw [hp]; rfl

/-- same entries as multisets, same number of prose lines (the equal-lists are not compared) -/
structure CorePerm (a b : Res) : Prop where
  ne : a.notEqual.Perm b.notEqual
  su : a.selfUnique.Perm b.selfUnique
  ou : a.otherUnique.Perm b.otherUnique
  dt : a.diffTypes.Perm b.diffTypes
  diffs : a.diffs = b.diffs

theorem CorePerm.refl (a : Res) : CorePerm a a := ⟨.refl _, .refl _, .refl _, .refl _, rfl⟩
theorem CorePerm.symm {a b : Res} (h : CorePerm a b) : CorePerm b a :=
  ⟨h.ne.symm, h.su.symm, h.ou.symm, h.dt.symm, h.diffs.symm⟩
theorem CorePerm.trans {a b c : Res} (h : CorePerm a b) (h' : CorePerm b c) : CorePerm a c :=
  ⟨h.ne.trans h'.ne, h.su.trans h'.su, h.ou.trans h'.ou, h.dt.trans h'.dt, h.diffs.trans h'.diffs⟩
theorem CorePerm.append {a a' b b' : Res} (h : CorePerm a a') (h' : CorePerm b b') :
    CorePerm (a ++ b) (a' ++ b') :=
  ⟨h.ne.append h'.ne, h.su.append h'.su, h.ou.append h'.ou, h.dt.append h'.dt, by
    simp only [append_diffs, h.diffs, h'.diffs]⟩
theorem corePerm_left_comm (a b c : Res) : CorePerm (a ++ (b ++ c)) (b ++ (a ++ c)) := by
  refine ⟨?_, ?_, ?_, ?_, ?_⟩
  · simp only [append_notEqual, ← List.append_assoc]; exact List.perm_append_comm.append_right _
  · simp only [append_selfUnique, ← List.append_assoc]; exact List.perm_append_comm.append_right _
  · simp only [append_otherUnique, ← List.append_assoc]; exact List.perm_append_comm.append_right _
  · simp only [append_diffTypes, ← List.append_assoc]; exact List.perm_append_comm.append_right _
  · simp only [append_diffs]; omega
theorem CorePerm.of_eq {a b : Res} (h : a = b) : CorePerm a b := h ▸ CorePerm.refl a

theorem CorePerm.mirror {a b : Res} (h : CorePerm a b) : CorePerm a.mirror b.mirror :=
  ⟨h.ne.map _, h.ou.map _, h.su.map _, h.dt.map _, h.diffs⟩

/-- `r'` is the mirror image of `r` -/
def Sw (r r' : Res) : Prop := CorePerm r' r.mirror

theorem mirror_append (a b : Res) : (a ++ b).mirror = a.mirror ++ b.mirror := by
  show Res.mirror (Res.append a b) = Res.append a.mirror b.mirror
  simp [Res.mirror, Res.append]

theorem sw_append {a a' b b' : Res} (h : Sw a a') (h' : Sw b b') : Sw (a ++ b) (a' ++ b') :=
  (CorePerm.append h h').trans (.of_eq (mirror_append a b).symm)

theorem Sw.congr_right {r r' r'' : Res} (h : Sw r r') (h' : CorePerm r'' r') : Sw r r'' := h'.trans h

theorem Sw.of_eq {r r' : Res}
    (h1 : r'.notEqual = r.notEqual.map (fun e => ⟨mirrorPath e.path, e.r, e.l, e.kind, e.delta⟩))
    (h2 : r'.selfUnique = r.otherUnique.map (fun e => ⟨mirrorPath e.path, e.v⟩))
    (h3 : r'.otherUnique = r.selfUnique.map (fun e => ⟨mirrorPath e.path, e.v⟩))
    (h4 : r'.diffTypes = r.diffTypes.map (fun e => ⟨mirrorPath e.path, e.r, e.l⟩))
    (h5 : r'.diffs = r.diffs) : Sw r r' :=
  ⟨h1 ▸ .refl _, h2 ▸ .refl _, h3 ▸ .refl _, h4 ▸ .refl _, h5⟩

theorem sw_empty : Sw Res.empty Res.empty := Sw.of_eq rfl rfl rfl rfl rfl

abbrev ActSw (x y : Val) : Act → Act → Prop := Act.Rel Sw (tyOf x = tyOf y)

theorem classifyItem_mirror {cfg : Cfg} (htr : cfg.tr = []) (p p' pne pdt : Path) (sa oa sa' oa' x y : Val) :
    ActSw x y (classifyItem cfg p pne pdt sa oa x y)
      (classifyItem cfg p' (mirrorPath pne) (mirrorPath pdt) sa' oa' y x) := by
  rw [classifyItem_eq, classifyItem_eq, transformAt_noTr htr, transformAt_noTr htr]
  simp only [id]
  rw [leafOf_comm x y]
  cases hl : leafOf x y with
  | differ =>
    simp only
    exact Sw.of_eq rfl rfl rfl rfl rfl
  | same =>
    simp only
    by_cases he : cfg.fl.equal = true
    · rw [if_pos he, if_pos he]; exact Sw.of_eq rfl rfl rfl rfl rfl
    · rw [if_neg he, if_neg he]; exact sw_empty
  | enter => exact (leafOf_enter hl).1
  | clash =>
    simp only
    by_cases hf : cfg.fl.types = true
    · rw [if_pos hf, if_pos hf]; exact Sw.of_eq rfl rfl rfl rfl rfl
    · rw [if_neg hf, if_neg hf]; exact Sw.of_eq rfl rfl rfl rfl rfl

/-- a common key and the swapped pair; the path filters are asked about the mirrored place -/
theorem classifyEntry_mirror {cfg : Cfg} (htr : cfg.tr = []) (full : Path)
    (hx : excluded cfg (mirrorPath full) = excluded cfg full) (ho : onlyOk cfg (mirrorPath full) = onlyOk cfg full)
    (x y : Val) :
    ActSw x y (classifyEntry cfg full x y) (classifyEntry cfg (mirrorPath full) y x) := by
  rw [classifyEntry_eq, classifyEntry_eq, hx, ho, transformAt_noTr htr, transformAt_noTr htr]
  simp only [id]
  by_cases hex : excluded cfg full = true
  · rw [if_pos hex, if_pos hex]; exact sw_empty
  rw [if_neg hex, if_neg hex, leafOf_comm x y]
  cases hl : leafOf x y with
  | differ =>
    simp only
    by_cases hon : onlyOk cfg full = true
    · rw [if_pos hon, if_pos hon]; exact Sw.of_eq rfl rfl rfl rfl rfl
    · rw [if_neg hon, if_neg hon]; exact sw_empty
  | same =>
    simp only
    exact sw_empty
  | enter => exact (leafOf_enter hl).1
  | clash =>
    simp only
    by_cases hon : onlyOk cfg full = true
    · rw [if_pos hon, if_pos hon]
      by_cases hf : cfg.fl.types = true
      · rw [if_pos hf, if_pos hf]; exact Sw.of_eq rfl rfl rfl rfl rfl
      · rw [if_neg hf, if_neg hf]; exact Sw.of_eq rfl rfl rfl rfl rfl
    · rw [if_neg hon, if_neg hon]; exact sw_empty

/-- the leftover keys of a dictionary at `p` and at the mirror image of `p`, when the path filters answer alike for
the entries at the two places (they do if `p` is its own mirror image, and if the filters are mirror-invariant) -/
theorem leftover_mirror {cfg : Cfg} {p : Path}
    (hx : ∀ k, excluded cfg (mirrorPath (p ++ [PSeg.key k])) = excluded cfg (p ++ [PSeg.key k]))
    (ho : ∀ k, onlyOk cfg (mirrorPath (p ++ [PSeg.key k])) = onlyOk cfg (p ++ [PSeg.key k])) :
    ∀ l : List (Str × Val), (l.filterMap (leftover cfg p)).map (fun e => (⟨mirrorPath e.path, e.v⟩ : UE)) =
      l.filterMap (leftover cfg (mirrorPath p))
  | [] => rfl
  | kv :: l => by
    have e1 : mirrorPath p ++ [PSeg.key kv.1] = mirrorPath (p ++ [PSeg.key kv.1]) := by
      simp [mirrorPath, mirrorSeg]
    have ih := leftover_mirror hx ho l
    by_cases hc : (!excluded cfg (p ++ [PSeg.key kv.1]) && onlyOk cfg (p ++ [PSeg.key kv.1])) = true
    · have hl : leftover cfg p kv = some ⟨p ++ [PSeg.key kv.1], kv.2⟩ := by simp only [leftover, hc, if_true]
      have hl' : leftover cfg (mirrorPath p) kv = some ⟨mirrorPath (p ++ [PSeg.key kv.1]), kv.2⟩ := by
        simp only [leftover, e1, hx, ho, hc, if_true]
      rw [List.filterMap_cons_some hl, List.filterMap_cons_some hl', List.map_cons, ih]
    · have hl : leftover cfg p kv = none := by simp only [leftover, hc]; rfl
      have hl' : leftover cfg (mirrorPath p) kv = none := by
        simp only [leftover, e1, hx, ho, hc]; rfl
      rw [List.filterMap_cons_none hl, List.filterMap_cons_none hl', ih]

theorem dictTail_mirror {cfg : Cfg} {p : Path}
    (hx : ∀ k, excluded cfg (mirrorPath (p ++ [PSeg.key k])) = excluded cfg (p ++ [PSeg.key k]))
    (ho : ∀ k, onlyOk cfg (mirrorPath (p ++ [PSeg.key k])) = onlyOk cfg (p ++ [PSeg.key k]))
    (sa oa sa' oa' : Val) (skvs okvs : List (Str × Val)) (s s' : Bool) :
    Sw (dictTail cfg p sa oa skvs okvs s) (dictTail cfg (mirrorPath p) sa' oa' okvs skvs s') := by
  refine Sw.of_eq rfl ?_ ?_ rfl ?_
  · simp only [dictTail]; rw [leftover_mirror hx ho]
  · simp only [dictTail]; rw [leftover_mirror hx ho]
  · simp only [dictTail]
    rw [← leftover_mirror hx ho, ← leftover_mirror hx ho, List.length_map, List.length_map]
    omega

theorem seqAll_perm {t : Except PyErr Res} {l l' : List (Except PyErr Res)} (h : l.Perm l') :
    LiftOk (fun r r' => CorePerm r' r) (seqAll l t) (seqAll l' t) := by
  induction h with
  | nil => exact fun r h => ⟨r, h, .refl r⟩
  | cons a _ ih =>
    intro r h
    obtain ⟨r1, r2, rfl, h2, rfl⟩ := seqR_ok h
    obtain ⟨r2', h2', hc⟩ := ih _ h2
    exact ⟨r1 ++ r2', by rw [seqAll_cons, h2']; rfl, (CorePerm.refl r1).append hc⟩
  | swap a b l =>
    intro r h
    obtain ⟨rb, r2, rfl, h2, rfl⟩ := seqR_ok h
    obtain ⟨ra, rr, rfl, h3, rfl⟩ := seqR_ok h2
    have h3 : seqAll l t = .ok rr := h3
    exact ⟨ra ++ (rb ++ rr), by rw [seqAll_cons, seqAll_cons, h3]; rfl, corePerm_left_comm ra rb rr⟩
  | trans _ _ ih1 ih2 =>
    intro r h
    obtain ⟨r1, h1, hc1⟩ := ih1 _ h
    obtain ⟨r2, h2, hc2⟩ := ih2 _ h1
    exact ⟨r2, h2, hc2.trans hc1⟩

/-- the other run visits the mirrored pairs in an order of its own -/
theorem seqAll_swap {α β : Type} (f : α → Except PyErr Res) (f' : β → Except PyErr Res) (φ : α → β)
    {t t' : Res} (ht : Sw t t') {L : List α} {L' : List β} (hp : L'.Perm (L.map φ))
    (hf : ∀ a ∈ L, LiftOk Sw (f a) (f' (φ a))) :
    LiftOk Sw (seqAll (L.map f) (.ok t)) (seqAll (L'.map f') (.ok t')) := by
  intro r h
  obtain ⟨r1, h1, hs1⟩ := seqAll_rel (g := fun a => f' (φ a)) (LiftOk.seq sw_append) (LiftOk.ok ht) hf r h
  obtain ⟨r', h', hc⟩ := seqAll_perm (hp.symm.map f') r1 (by rw [List.map_map]; exact h1)
  exact ⟨r', h', hs1.congr_right hc⟩

theorem keyedTail_mirror (p : Path) (A B : List KE) : Sw (keyedTail p A B) (keyedTail (mirrorPath p) B A) :=
  Sw.of_eq rfl (by simp [keyedTail, mirrorPath_snoc, mirrorSeg]) (by simp [keyedTail, mirrorPath_snoc, mirrorSeg]) rfl
    (Nat.add_comm _ _)

theorem directRest_nil_cons (p : Path) (i : Nat) (y : Val) (ys : List Val) :
    directRest p i [] (y :: ys) =
      { diffs := 1, otherUnique := [⟨p ++ [PSeg.idx i], y⟩] } ++ directRest p (i + 1) [] ys := by
  show _ = Res.append _ _
  simp only [Res.append, directRest, otherTail, List.length_cons, List.nil_append, List.cons_append, Nat.add_comm]

theorem sw_single (p : Path) (hp : mirrorPath p = p) (i : Nat) (x : Val) :
    Sw { diffs := 1, selfUnique := [⟨p ++ [PSeg.idx i], x⟩] } { diffs := 1, otherUnique := [⟨p ++ [PSeg.idx i], x⟩] } ∧
    Sw { diffs := 1, otherUnique := [⟨p ++ [PSeg.idx i], x⟩] } { diffs := 1, selfUnique := [⟨p ++ [PSeg.idx i], x⟩] } :=
  ⟨Sw.of_eq rfl rfl (by simp [mirrorPath_snoc_idx p i hp]) rfl rfl,
    Sw.of_eq rfl (by simp [mirrorPath_snoc_idx p i hp]) rfl rfl rfl⟩

theorem directRest_mirror (p : Path) (hp : mirrorPath p = p) : ∀ (xs ys : List Val) (i : Nat),
    Sw (directRest p i xs ys) (directRest p i ys xs)
  | [], [], i => Sw.of_eq rfl rfl rfl rfl rfl
  | [], y :: ys, i => by
    rw [directRest_nil_cons]
    exact sw_append (sw_single p hp i y).2 (directRest_mirror p hp [] ys (i + 1))
  | x :: xs, [], i => by
    rw [directRest_nil_cons]
    exact sw_append (sw_single p hp i x).1 (directRest_mirror p hp xs [] (i + 1))
  | _ :: xs, _ :: ys, i => directRest_mirror p hp xs ys (i + 1)
-- no single argument gets smaller in all three calls: the measure is written out
termination_by xs ys => xs.length + ys.length
decreasing_by all_goals simp only [List.length_cons, List.length_nil] <;> omega

theorem directWalk_swap_level (cfg : Cfg) (p : Path) (hp : mirrorPath p = p) (sa oa sa' oa' : Val)
    (xs ys : List Val) (i : Nat)
    (hitem : ∀ a ∈ directPairs i xs ys, LiftOk Sw (itemOf cfg p sa oa a) (itemOf cfg p sa' oa' a.flip)) :
    LiftOk Sw (directWalk cfg p sa oa i xs ys) (directWalk cfg p sa' oa' i ys xs) := by
  rw [directWalk_pairs, directWalk_pairs]
  exact seqAll_swap (itemOf cfg p sa oa) (itemOf cfg p sa' oa') AP.flip (directRest_mirror p hp xs ys i)
    (by rw [directPairs_swap xs ys i]) hitem

theorem dictWalk_swap_level (cfg : Cfg) {p : Path}
    (hx : ∀ k, excluded cfg (mirrorPath (p ++ [PSeg.key k])) = excluded cfg (p ++ [PSeg.key k]))
    (ho : ∀ k, onlyOk cfg (mirrorPath (p ++ [PSeg.key k])) = onlyOk cfg (p ++ [PSeg.key k]))
    (sa oa sa' oa' : Val) (kvs kvs' : List (Str × Val)) (hn : keysNodup kvs = true) (hn' : keysNodup kvs' = true)
    (hentry : ∀ a ∈ dictPairs kvs' kvs, LiftOk Sw (entryOf cfg p a) (entryOf cfg (mirrorPath p) a.flip)) :
    LiftOk Sw (dictWalk cfg p sa oa kvs kvs' true kvs) (dictWalk cfg (mirrorPath p) sa' oa' kvs' kvs true kvs') := by
  rw [dictWalk_pairs, dictWalk_pairs]
  exact seqAll_swap (entryOf cfg p) (entryOf cfg (mirrorPath p)) AP.flip
    (dictTail_mirror hx ho sa oa sa' oa' kvs kvs' _ _) (dictPairs_swap kvs kvs' hn hn') hentry

theorem keyedWalk_swap_level (cfg : Cfg) (p : Path) (sa oa sa' oa' : Val) (xs ys : List Val) (ks ko : List Str)
    (hl : ks.length = xs.length) (hlo : ko.length = ys.length)
    (hitem : ∀ a ∈ keyedPairs 0 xs ks (mkEntries 0 ko ys),
      LiftOk Sw (itemOf cfg p sa oa a) (itemOf cfg (mirrorPath p) sa' oa' a.flip)) :
    LiftOk Sw (keyedWalk cfg p sa oa 0 xs ks (mkEntries 0 ks xs) (mkEntries 0 ko ys))
      (keyedWalk cfg (mirrorPath p) sa' oa' 0 ys ko (mkEntries 0 ko ys) (mkEntries 0 ks xs)) := by
  rw [keyedWalk_pairs cfg p sa oa xs ks 0 _ _ hl, keyedWalk_pairs cfg (mirrorPath p) sa' oa' ys ko 0 _ _ hlo]
  obtain ⟨g1, g2, g3⟩ := keyed_swap xs ys ks ko hl hlo
  rw [g2, g3]
  exact seqAll_swap (itemOf cfg p sa oa) (itemOf cfg (mirrorPath p) sa' oa') AP.flip (keyedTail_mirror p _ _) g1 hitem

/-- the path filters do not distinguish `[i]<>[j]` from `[j]<>[i]` -/
structure MirrorInv (cfg : Cfg) : Prop where
  excl : ∀ p, excluded cfg (mirrorPath p) = excluded cfg p
  only : ∀ p, onlyOk cfg (mirrorPath p) = onlyOk cfg p

/-- What is proved for one left value (the induction is over `v`).  In direct mode every path reached is its own
mirror image; in keyed mode the filters are assumed mirror-invariant. -/
def SwInv (cfg : Cfg) (v : Val) : Prop :=
  ∀ (site : Site) (p : Path) (w : Val), (cfg.direct = true → mirrorPath p = p) → wf v = true → wf w = true →
    tyOf v = tyOf w → LiftOk Sw (sub cfg site p v w) (sub cfg site (mirrorPath p) w v)

theorem mirOk {cfg : Cfg} (hm : cfg.direct = false → MirrorInv cfg) {q : Path} (hq : cfg.direct = true → mirrorPath q = q) :
    excluded cfg (mirrorPath q) = excluded cfg q ∧ onlyOk cfg (mirrorPath q) = onlyOk cfg q := by
  cases hd : cfg.direct with
  | false => exact ⟨(hm hd).excl q, (hm hd).only q⟩
  | true => rw [hq hd]; exact ⟨rfl, rfl⟩

theorem sw_item {cfg : Cfg} (htr : cfg.tr = []) (p : Path) (a : AP)
    (hq : cfg.direct = true → mirrorPath (p ++ [a.1]) = p ++ [a.1]) (sa oa sa' oa' : Val)
    (hS : SwInv cfg a.2.1) (hwx : wf a.2.1 = true) (hwy : wf a.2.2 = true) :
    LiftOk Sw (itemOf cfg p sa oa a) (itemOf cfg (mirrorPath p) sa' oa' a.flip) := by
  have hcs := classifyItem_mirror htr p (mirrorPath p) (p ++ [a.1]) (p ++ [a.1]) sa oa sa' oa' a.2.1 a.2.2
  rw [mirrorPath_snoc] at hcs
  rw [itemOf_eq, itemOf_eq]
  refine hcs.actRes LiftOk.ok fun hty => ?_
  have := hS Site.item _ a.2.2 hq hwx hwy hty
  rwa [mirrorPath_snoc] at this

theorem sw_entry {cfg : Cfg} (htr : cfg.tr = []) (hm : cfg.direct = false → MirrorInv cfg) (p : Path) (a : AP)
    (hq : cfg.direct = true → mirrorPath (p ++ [a.1]) = p ++ [a.1])
    (hS : SwInv cfg a.2.1) (hwv : wf a.2.1 = true) (hww : wf a.2.2 = true) :
    LiftOk Sw (entryOf cfg p a) (entryOf cfg (mirrorPath p) a.flip) := by
  have hcs := classifyEntry_mirror htr (p ++ [a.1]) (mirOk hm hq).1 (mirOk hm hq).2 a.2.1 a.2.2
  rw [mirrorPath_snoc] at hcs
  rw [entryOf_eq, entryOf_eq]
  refine hcs.actRes LiftOk.ok fun hty => ?_
  have := hS Site.entry _ a.2.2 hq hwv hww hty
  rwa [mirrorPath_snoc] at this

/-- **Swap symmetry, both entry points** (no transform; in keyed mode mirror-invariant path filters; unique dictionary
keys): the run on the exchanged operands, reported under the mirror image of the path, is the mirror image of the
run: unique lists exchanged, pairs flipped, `[i]<>[j]` turned into `[j]<>[i]`, as multisets of entries.  Each run
visits the common keys in the order of its own left operand; no uniqueness of the item keys is needed, since the n-th
item with key `K` on the left meets the n-th item with key `K` on the right whichever side drives the loop. -/
theorem swap_sub (cfg : Cfg) (htr : cfg.tr = []) (hm : cfg.direct = false → MirrorInv cfg) (v : Val) : SwInv cfg v := by
  induction v using Val.memInduct with
  | list c xs hS =>
    intro site p w hp hv hw ht
    cases w with
    | list c' ys =>
      cases ht
      rw [wf] at hv hw
      rw [sub_lists, sub_lists, (mirOk hm hp).1]
      refine ite_rel (fun _ => .error _ _) fun _ => ite_rel (fun _ => .error _ _) fun _ =>
        ite_rel (fun _ => .ok sw_empty) fun _ => ?_
      cases hd : cfg.direct with
      | true =>
        rw [listWalk_direct hd, listWalk_direct hd, hp hd]
        refine directWalk_swap_level cfg p (hp hd) _ _ _ _ xs ys 0 fun a ha => ?_
        obtain ⟨n, hseg, hx, hy⟩ := directPairs_get ha
        have hx := List.mem_of_getElem? hx
        have hy := List.mem_of_getElem? hy
        have := sw_item htr p a (fun _ => by rw [hseg]; exact mirrorPath_snoc_idx p _ (hp hd))
          (.list .n0 xs) (.list .n0 ys) (.list .n0 ys) (.list .n0 xs) (hS _ hx) (wfL_mem xs _ hv hx) (wfL_mem ys _ hw hy)
        rwa [hp hd] at this
      | false =>
        rw [listWalk_keyed hd, listWalk_keyed hd, keysOf_noTr htr (mirrorPath p) p 0 0 ys,
          keysOf_noTr htr (mirrorPath p) p 0 0 xs]
        cases hks : keysOf cfg p 0 xs with
        | error e => exact .error _ _
        | ok ks =>
          cases hko : keysOf cfg p 0 ys with
          | error e => exact .error _ _
          | ok ko =>
            refine keyedWalk_swap_level cfg p _ _ _ _ xs ys ks ko (keysOf_length cfg p 0 xs ks hks)
              (keysOf_length cfg p 0 ys ko hko) fun a ha => ?_
            obtain ⟨_, hx, k', j, hy⟩ := keyedPairs_mem ha
            have hy := mkEntries_mem_val ko ys 0 _ hy
            exact sw_item htr p a (fun hd' => absurd (hd.symm.trans hd') Bool.false_ne_true) _ _ _ _ (hS _ hx)
              (wfL_mem xs _ hv hx) (wfL_mem ys _ hw hy)
    | _ => cases ht
  | dict c kvs hS =>
    intro site p w hp hv hw ht
    cases w with
    | dict c' kvs' =>
      cases ht
      simp only [wf, Bool.and_eq_true] at hv hw
      rw [sub_dicts, sub_dicts]
      refine ite_rel (fun _ => .error _ _) fun _ => ?_
      have hq : ∀ k, cfg.direct = true → mirrorPath (p ++ [PSeg.key k]) = p ++ [PSeg.key k] :=
        fun k hd => mirrorPath_snoc_key p k (hp hd)
      refine dictWalk_swap_level cfg (fun k => (mirOk hm (hq k)).1) (fun k => (mirOk hm (hq k)).2) _ _ _ _ kvs kvs'
        hv.2 hw.2 fun a ha => ?_
      obtain ⟨k, hseg, hkv, hl⟩ := dictPairs_mem ha
      exact sw_entry htr hm p a (by rw [hseg]; exact hq k) (hS (k, a.2.1) hkv) (wfK_mem kvs k a.2.1 hv.1 hkv)
        (wfK_lookup kvs' k a.2.2 hw.1 hl)
    | _ => cases ht
  | none =>
    intro site p w _ _ _ ht
    cases w with
    | none => rw [sub_none_left, sub_none_left]; exact .ok sw_empty
    | _ => cases ht
  | bool b => exact fun site p w _ _ _ _ => by rw [sub_scalar_left rfl]; exact .error _ _
  | int i => exact fun site p w _ _ _ _ => by rw [sub_scalar_left rfl]; exact .error _ _
  | flt x => exact fun site p w _ _ _ _ => by rw [sub_scalar_left rfl]; exact .error _ _
  | str s => exact fun site p w _ _ _ _ => by rw [sub_scalar_left rfl]; exact .error _ _

theorem compareTop_swap (cfg : Cfg) (a b : Val) (r : Res) (htr : cfg.tr = []) (hm : cfg.direct = false → MirrorInv cfg)
    (hw : wf a = true) (hw' : wf b = true) (h : compareTop cfg a b = .ok r) :
    ∃ r', compareTop cfg b a = .ok r' ∧ Sw r r' := by
  have hr := rootPair_of_ok h
  rw [compareTop_eq_sub cfg b a hr.symm]
  exact swap_sub cfg htr hm a .entry [] b (fun _ => rfl) hw hw' (rootPair_ty hr).1 r (compareTop_ok h)

theorem directWalk_swap (cfg : Cfg) (htr : cfg.tr = []) (hd : cfg.direct = true) (p : Path)
    (hp : mirrorPath p = p) (sa oa sa' oa' : Val) (i : Nat) (xs ys : List Val) (r : Res)
    (hwx : wfL xs = true) (hwy : wfL ys = true)
    (h : directWalk cfg p sa oa i xs ys = .ok r) :
    ∃ r', directWalk cfg p sa' oa' i ys xs = .ok r' ∧ Sw r r' := by
  have hm : cfg.direct = false → MirrorInv cfg := fun hd' => absurd (hd'.symm.trans hd) Bool.false_ne_true
  refine directWalk_swap_level cfg p hp sa oa sa' oa' xs ys i (fun a ha => ?_) r h
  obtain ⟨n, hseg, hx, hy⟩ := directPairs_get ha
  have := sw_item htr p a (fun _ => by rw [hseg]; exact mirrorPath_snoc_idx p _ hp) sa oa sa' oa'
    (swap_sub cfg htr hm _) (wfL_mem xs _ hwx (List.mem_of_getElem? hx)) (wfL_mem ys _ hwy (List.mem_of_getElem? hy))
  rwa [hp] at this

theorem compareTop_swap_direct (cfg : Cfg) (a b : Val) (r : Res) (htr : cfg.tr = []) (hd : cfg.direct = true)
    (hw : wf a = true) (hw' : wf b = true) (h : compareTop cfg a b = .ok r) :
    ∃ r', compareTop cfg b a = .ok r' ∧ Sw r r' :=
  compareTop_swap cfg a b r htr (fun hd' => absurd (hd'.symm.trans hd) Bool.false_ne_true) hw hw' h

/-- swap symmetry of the DIRECT entry point (no transform), the five parts of `Sw` written out -/
theorem swap_direct (cfg : Cfg) (a b : Val) (r : Res) (htr : cfg.tr = []) (hd : cfg.direct = true)
    (hw : wf a = true) (hw' : wf b = true) (h : compareTop cfg a b = .ok r) :
    ∃ r', compareTop cfg b a = .ok r' ∧
      (r'.notEqual.Perm r.mirror.notEqual ∧ r'.selfUnique.Perm r.mirror.selfUnique ∧
       r'.otherUnique.Perm r.mirror.otherUnique ∧ r'.diffTypes.Perm r.mirror.diffTypes ∧ r'.diffs = r.diffs) := by
  obtain ⟨r', hr', hsw⟩ := compareTop_swap_direct cfg a b r htr hd hw hw' h
  exact ⟨r', hr', hsw.ne, hsw.su, hsw.ou, hsw.dt, hsw.diffs⟩

theorem verdict_swap_direct (cfg : Cfg) (a b : Val) (r : Res) (htr : cfg.tr = []) (hd : cfg.direct = true)
    (hw : wf a = true) (hw' : wf b = true) (h : compareTop cfg a b = .ok r) :
    verdict (compareTop cfg b a) = verdict (compareTop cfg a b) := by
  obtain ⟨r', hr', hsw⟩ := compareTop_swap_direct cfg a b r htr hd hw hw' h
  have hdf : r'.diffs = r.diffs := hsw.diffs
  simp [verdict, h, hr', hdf]

/-- the statement for every option record (transforms included) is FALSE for the model -/
def swap_direct_stmt : Prop :=
  ∀ (cfg : Cfg) (a b : Val) (r : Res), cfg.direct = true → wf a = true → wf b = true →
    compareTop cfg a b = .ok r →
    ∃ r', compareTop cfg b a = .ok r' ∧
      (r'.notEqual.Perm r.mirror.notEqual ∧ r'.selfUnique.Perm r.mirror.selfUnique ∧
       r'.otherUnique.Perm r.mirror.otherUnique ∧ r'.diffTypes.Perm r.mirror.diffTypes ∧ r'.diffs = r.diffs)

/-- a transform that maps both values under `/k` to a list: `None` against `3` is then "same type, not scalar",
the `elif` chain on the ORIGINAL left value does nothing for `None` but raises `TypeError` for `3` -/
def swapCexCfg : Cfg := ⟨Flags.init, true, .many [], .many [], .many [], [⟨['k'], fun _ => .list .n0 []⟩]⟩

theorem swap_transform_cex :
    compareTop swapCexCfg (.dict .n0 [(['k'], .none)]) (.dict .n0 [(['k'], .int 3)]) = .ok {} ∧
    compareTop swapCexCfg (.dict .n0 [(['k'], .int 3)]) (.dict .n0 [(['k'], .none)]) = .error .TypeError := by
  decide +kernel

theorem swap_direct_stmt_false : ¬ swap_direct_stmt := by
  intro h
  obtain ⟨r', hr', _⟩ := h swapCexCfg (.dict .n0 [(['k'], .none)]) (.dict .n0 [(['k'], .int 3)]) {} rfl
    (by decide) (by decide) swap_transform_cex.1
  rw [swap_transform_cex.2] at hr'
  cases hr'

mutual
/-- every list (at every depth) has pairwise different item keys -/
def keysOK (cfg : Cfg) : Val → Bool
  | .list _ xs => keysOKL cfg xs &&
      (match keysOf cfg [] 0 xs with
       | .ok ks => decide ks.Nodup
       | .error _ => false)
  | .dict _ kvs => keysOKK cfg kvs
  | _ => true
def keysOKL (cfg : Cfg) : List Val → Bool
  | [] => true
  | x :: xs => keysOK cfg x && keysOKL cfg xs
def keysOKK (cfg : Cfg) : List (Str × Val) → Bool
  | [] => true
  | (_, x) :: xs => keysOK cfg x && keysOKK cfg xs
end

/-- swap symmetry of the KEYED entry point (proved as `swap_keyed_stmt_holds`).  Hypotheses: no transform; the path
filters do not distinguish `[i]<>[j]` from `[j]<>[i]` (see `C09_swap_keyed_exclude_cex`); unique dictionary keys.  The
hypotheses on the types flag and on the item keys (`keysOK`) are not used by the proof: since fix C09-b a clash inside
a keyed list carries both indices (`C09_clash_keyed_example`). -/
def swap_keyed_stmt : Prop :=
  ∀ (cfg : Cfg) (a b : Val) (r : Res), cfg.tr = [] → cfg.direct = false → cfg.fl.types = false →
    (∀ p, excluded cfg (mirrorPath p) = excluded cfg p) → (∀ p, onlyOk cfg (mirrorPath p) = onlyOk cfg p) →
    wf a = true → wf b = true → keysOK cfg a = true → keysOK cfg b = true →
    compareTop cfg a b = .ok r →
    ∃ r', compareTop cfg b a = .ok r' ∧
      (r'.notEqual.Perm r.mirror.notEqual ∧ r'.selfUnique.Perm r.mirror.selfUnique ∧
       r'.otherUnique.Perm r.mirror.otherUnique ∧ r'.diffTypes.Perm r.mirror.diffTypes ∧ r'.diffs = r.diffs)

/-- an `exclude_xpaths` pattern that names a paired index `[0]<>[1]` is not mirror-invariant: the record `id=a`
sits at index 0 on the left and 1 on the right, its field `v` differs; `a.compare(b)` excludes `[0]<>[1]/v`
(one line: the unmatched `id=z`), `b.compare(a)` sees `[1]<>[0]/v` and reports it (two lines) -/
def swapKeyedCexCfg : Cfg :=
  ⟨Flags.init, false, .many [['i', 'd']], .many [], .many [['[', '0', ']', '<', '>', '[', '1', ']', '/', 'v']], []⟩

end N0.Compare
