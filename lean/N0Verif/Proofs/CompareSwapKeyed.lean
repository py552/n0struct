import N0Verif.Proofs.CompareSwap
import N0Verif.Proofs.Compare
/-!
Swap symmetry of the KEYED entry point (`n0list.compare` / `n0dict.compare`), no `transform`: `b.compare(a)` is the
mirror image of `a.compare(b)` — unique lists exchanged, pairs flipped, `[i]<>[j]` turned into `[j]<>[i]` — as
multisets of entries, for every flag record and without uniqueness of the item keys.  Nothing is proved here that
`CompareSwap.lean` does not prove: the statements are `swap_sub` / `compareTop_swap` read at `cfg.direct = false`, in the
vocabulary Props/C09 states them in — `SwV` is `Sw` with its five parts named (`swV_iff`), `SwkInv` is `SwInv` without the
side condition of direct mode.
-/
namespace N0.Compare
open N0

/-- `r'` is the mirror image of `r`, as multisets of entries -/
structure SwV (r r' : Res) : Prop where
  ne : r'.notEqual.Perm r.mirror.notEqual
  su : r'.selfUnique.Perm r.mirror.selfUnique
  ou : r'.otherUnique.Perm r.mirror.otherUnique
  dt : r'.diffTypes.Perm r.mirror.diffTypes
  diffs : r'.diffs = r.diffs

theorem swV_iff {r r' : Res} : SwV r r' ↔ Sw r r' :=
  ⟨fun h => ⟨h.ne, h.su, h.ou, h.dt, h.diffs⟩, fun h => ⟨h.ne, h.su, h.ou, h.dt, h.diffs⟩⟩

theorem swk_mirror_nil : mirrorPath [] = [] := rfl

def SwkInv (cfg : Cfg) (v : Val) : Prop :=
  ∀ (site : Site) (p : Path) (w : Val) (r : Res), wf v = true → wf w = true → tyOf v = tyOf w →
    sub cfg site p v w = .ok r → ∃ r', sub cfg site (mirrorPath p) w v = .ok r' ∧ SwV r r'

theorem swk_sub (cfg : Cfg) (htr : cfg.tr = []) (hd : cfg.direct = false) (hm : MirrorInv cfg) (v : Val) :
    SwkInv cfg v := fun site p w r hv hw ht h =>
  (swap_sub cfg htr (fun _ => hm) v site p w (fun hd' => absurd (hd.symm.trans hd') Bool.false_ne_true) hv hw ht r h).imp
    fun _ hr => ⟨hr.1, swV_iff.2 hr.2⟩

theorem swk_subL (cfg : Cfg) (htr : cfg.tr = []) (hd : cfg.direct = false) (hm : MirrorInv cfg) (xs : List Val) :
    ∀ x ∈ xs, SwkInv cfg x :=
  fun x _ => swk_sub cfg htr hd hm x

theorem swk_subK (cfg : Cfg) (htr : cfg.tr = []) (hd : cfg.direct = false) (hm : MirrorInv cfg)
    (kvs : List (Str × Val)) : ∀ kv ∈ kvs, SwkInv cfg kv.2 :=
  fun kv _ => swk_sub cfg htr hd hm kv.2

/-- **swap symmetry of the keyed entry point, every flag record** (no transform, mirror-invariant path filters,
unique dictionary keys — no assumption on the item keys) -/
theorem compareTop_swap_keyed (cfg : Cfg) (a b : Val) (r : Res) (htr : cfg.tr = []) (hd : cfg.direct = false)
    (hm : MirrorInv cfg) (hw : wf a = true) (hw' : wf b = true) (h : compareTop cfg a b = .ok r) :
    ∃ r', compareTop cfg b a = .ok r' ∧ SwV r r' :=
  (compareTop_swap cfg a b r htr (fun _ => hm) hw hw' h).imp fun _ hr => ⟨hr.1, swV_iff.2 hr.2⟩

theorem swk_noDiffTypes (cfg : Cfg) (ht : cfg.fl.types = false) (a b : Val) (r : Res)
    (h : compareTop cfg a b = .ok r) : r.diffTypes = [] := by
  have hf : ¬ cfg.fl.types = true := by rw [ht]; exact Bool.false_ne_true
  refine compareTop_all (fun r => r.diffTypes = []) cfg ?_ (fun r _ h2 => h2) ?_ ?_ a b r h
  · intro a b ha hb
    simp only [append_diffTypes, ha, hb, List.append_nil]
  · intro p pne pdt sa oa x y
    cases hc : classifyItem cfg p pne pdt sa oa x y with
    | descend => trivial
    | emit r s =>
      rcases classifyItem_emit hc with ⟨rfl, _⟩ | (rfl | rfl) | ⟨_, hty, _⟩ | ⟨rfl, _⟩
      · rfl
      · rfl
      · rfl
      · exact absurd hty hf
      · rfl
  · intro full x y
    cases hc : classifyEntry cfg full x y with
    | descend => trivial
    | emit r s =>
      rcases classifyEntry_emit hc with ⟨rfl, _⟩ | rfl | ⟨_, hty, _⟩ | ⟨rfl, _⟩
      · rfl
      · rfl
      · exact absurd hty hf
      · rfl

/-- **swap symmetry of the keyed entry point, every flag record** (`C09_swap_stmt` without its hypotheses on the
item keys and on the types flag): `b.compare(a)` is the mirror image of `a.compare(b)` as multisets of entries -/
theorem swap_keyed (cfg : Cfg) (a b : Val) (r : Res) (htr : cfg.tr = []) (hd : cfg.direct = false)
    (hex : ∀ p, excluded cfg (mirrorPath p) = excluded cfg p) (hon : ∀ p, onlyOk cfg (mirrorPath p) = onlyOk cfg p)
    (hw : wf a = true) (hw' : wf b = true) (h : compareTop cfg a b = .ok r) :
    ∃ r', compareTop cfg b a = .ok r' ∧
      (r'.notEqual.Perm r.mirror.notEqual ∧ r'.selfUnique.Perm r.mirror.selfUnique ∧
       r'.otherUnique.Perm r.mirror.otherUnique ∧ r'.diffTypes.Perm r.mirror.diffTypes ∧ r'.diffs = r.diffs) := by
  obtain ⟨r', hr', hsw⟩ := compareTop_swap_keyed cfg a b r htr hd ⟨hex, hon⟩ hw hw' h
  exact ⟨r', hr', hsw.ne, hsw.su, hsw.ou, hsw.dt, hsw.diffs⟩

/-- the statement of `CompareSwap.lean` holds; its hypotheses on the types flag and on the item keys are not used -/
theorem swap_keyed_stmt_holds : swap_keyed_stmt := by
  intro cfg a b r htr hd _ hex hon hw hw' _ _ h
  exact swap_keyed cfg a b r htr hd hex hon hw hw' h

theorem swk_mirrorInv_noPathOpts {cfg : Cfg} (h : NoPathOpts cfg) : MirrorInv cfg :=
  ⟨fun p => by rw [excluded_npo h, excluded_npo h], fun p => by rw [onlyOk_npo h, onlyOk_npo h]⟩

theorem verdict_swap_keyed (cfg : Cfg) (a b : Val) (r : Res) (htr : cfg.tr = []) (hd : cfg.direct = false)
    (hm : MirrorInv cfg) (hw : wf a = true) (hw' : wf b = true) (h : compareTop cfg a b = .ok r) :
    verdict (compareTop cfg b a) = verdict (compareTop cfg a b) := by
  obtain ⟨r', hr', hsw⟩ := compareTop_swap_keyed cfg a b r htr hd hm hw hw' h
  have hdf : r'.diffs = r.diffs := hsw.diffs
  simp [verdict, h, hr', hdf]

/-- with the types flag ON the place of a clash found inside a keyed list is mirrored too (fix C09-b): the
record `{i: '1'}` against `[{}, dict(i='1')]` with `composite_key='i'` reports the clash at `[0]<>[1]`, the swapped
run at `[1]<>[0]` -/
theorem swap_keyed_types_example :
    (compareTop { Cfg.default ⟨true, false, false, false, false, true⟩ false with ck := .one ['i'] }
        (.list .n0 [.dict .n0 [(['i'], .str ['1'])]])
        (.list .n0 [.dict .n0 [], .dict .plain [(['i'], .str ['1'])]])).map (fun r => r.diffTypes.map (·.path))
      = .ok [[.idx2 0 1]] ∧
    (compareTop { Cfg.default ⟨true, false, false, false, false, true⟩ false with ck := .one ['i'] }
        (.list .n0 [.dict .n0 [], .dict .plain [(['i'], .str ['1'])]])
        (.list .n0 [.dict .n0 [(['i'], .str ['1'])]])).map (fun r => r.diffTypes.map (·.path))
      = .ok [[.idx2 1 0]] := by
  decide +kernel

end N0.Compare
