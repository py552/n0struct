import N0Verif.Proofs.Compare
/-!
`transform`: two leaves count as equal iff their transformed values are equal.  Formally (`TrERel`): the run with `transform`
on the original trees and the run without it on the trees whose leaves have been mapped (`mapT`) end in the same error or in
results of the same shape (`Res.shape`: the number of lines and the paths of the entries; the values shown are not compared
— that they are the ORIGINAL values found at those paths is `compareTop_faith`, `CompareFaithful`, for every option record).
`tr_sub_of_lists` is the statement about `sub` for any hereditary property of trees and any way of walking a pair of lists; it
is instantiated here for the direct entry point, in `CompareTransformKeyed.lean` and `CompareTransformCk.lean` for the keyed one.
-/
namespace N0.Compare
open N0

/-- not a container (`Val.isScalar` under the name the transform modules use: `None` counts as a leaf, unlike `isPyScalar`) -/
def isLeaf : Val → Bool | .list .. => false | .dict .. => false | _ => true

mutual
/-- apply the first matching function to every leaf sitting at a dictionary entry whose path matches and to every
leaf element of a list whose own path matches -/
def mapT (cfg : Cfg) (p : Path) : Val → Val
  | .dict c kvs => .dict c (mapTK cfg p kvs)
  | .list c xs => .list c (mapTL cfg p (transformAt cfg p) 0 xs)
  | v => v            -- a bare leaf is transformed by its parent
def mapTK (cfg : Cfg) (p : Path) : List (Str × Val) → List (Str × Val)
  | [] => []
  | (k, v) :: rest => (k, if isLeaf v then transformAt cfg (p ++ [.key k]) v else mapT cfg (p ++ [.key k]) v) :: mapTK cfg p rest
def mapTL (cfg : Cfg) (p : Path) (f : Val → Val) : Nat → List Val → List Val
  | _, [] => []
  | i, x :: xs => (if isLeaf x then f x else mapT cfg (p ++ [.idx i]) x) :: mapTL cfg p f (i + 1) xs
end

/-- the shape of a result: the number of lines and, for each of the four difference lists, the paths of its entries (for a
not-equal entry also its kind).  Not in the shape: the values shown (the originals in one run, the mapped ones in the other),
`NE.delta`, and the two equal-lists `selfEqual`/`otherEqual` — so a relation between shapes (`TrERel`) cannot be raised to
equality of results. -/
def Res.shape (r : Res) := (r.diffs, r.notEqual.map (fun e => (e.path, e.kind)), r.selfUnique.map (·.path), r.otherUnique.map (·.path), r.diffTypes.map (·.path))

/-- what `mapTK` / `mapTL` put in place of a child `v` located at `q`, `f` being the function of the place -/
abbrev mapTChild (cfg : Cfg) (q : Path) (f : Val → Val) (v : Val) : Val :=
  if isLeaf v then f v else mapT cfg q v

theorem mapTK_cons (cfg : Cfg) (p : Path) (k : Str) (v : Val) (rest : List (Str × Val)) :
    mapTK cfg p ((k, v) :: rest) =
      (k, mapTChild cfg (p ++ [.key k]) (transformAt cfg (p ++ [.key k])) v) :: mapTK cfg p rest := by
  simp [mapTK]

theorem mapTL_cons (cfg : Cfg) (p : Path) (f : Val → Val) (i : Nat) (x : Val) (xs : List Val) :
    mapTL cfg p f i (x :: xs) = mapTChild cfg (p ++ [.idx i]) f x :: mapTL cfg p f (i + 1) xs := by
  simp [mapTL]

theorem mapT_tyOf (cfg : Cfg) (p : Path) (v : Val) : tyOf (mapT cfg p v) = tyOf v := by
  cases v <;> simp [mapT, tyOf]

theorem mapT_child_tyOf {f : Val → Val} (hf : TrLeafFn f) (cfg : Cfg) (q : Path) (v : Val) :
    tyOf (mapTChild cfg q f v) = tyOf (f v) := by
  cases v <;> simp [mapTChild, isLeaf, hf.list, hf.dict, mapT_tyOf]

theorem mapT_child_scalar {f : Val → Val} (hf : TrLeafFn f) (cfg : Cfg) (q : Path) (v : Val)
    (h : isPyScalar (f v) = true) : mapTChild cfg q f v = f v := by
  cases v <;> simp_all [mapTChild, isLeaf, hf.list, hf.dict, isPyScalar]

theorem tr_leafFn_leaf {f : Val → Val} (hf : TrLeafFn f) {v : Val} (h : isLeaf v = true) :
    isPyScalar (f v) = true ∨ (v = .none ∧ f .none = .none) := by
  cases v with
  | none => exact hf.none.imp id (fun h' => ⟨rfl, h'⟩)
  | list c xs => cases h
  | dict c kvs => cases h
  | _ => exact .inl (hf.scalar _ rfl)

theorem mapT_child_nonscalar {f : Val → Val} (hf : TrLeafFn f) (cfg : Cfg) (q : Path) (v : Val)
    (h : isPyScalar (f v) = false) : mapTChild cfg q f v = mapT cfg q v := by
  by_cases hl : isLeaf v = true
  · rcases tr_leafFn_leaf hf hl with h' | ⟨rfl, h'⟩
    · rw [h'] at h; cases h
    · rw [mapTChild, if_pos hl, h']; rfl
  · rw [mapTChild, if_neg hl]

def noTransf (cfg : Cfg) : Cfg := { cfg with tr := [] }

@[simp] theorem noTransf_direct (cfg : Cfg) : (noTransf cfg).direct = cfg.direct := rfl
@[simp] theorem noTransf_fl (cfg : Cfg) : (noTransf cfg).fl = cfg.fl := rfl
@[simp] theorem excluded_noTransf (cfg : Cfg) (p : Path) : excluded (noTransf cfg) p = excluded cfg p := rfl
@[simp] theorem onlyOk_noTransf (cfg : Cfg) (p : Path) : onlyOk (noTransf cfg) p = onlyOk cfg p := rfl
@[simp] theorem transformAt_noTransf (cfg : Cfg) (p : Path) : transformAt (noTransf cfg) p = id := rfl

theorem tr_shape_append {a a' b b' : Res} (ha : a'.shape = a.shape) (hb : b'.shape = b.shape) :
    (a' ++ b').shape = (a ++ b).shape := by
  simp only [Res.shape, Prod.mk.injEq] at ha hb ⊢
  obtain ⟨a1, a2, a3, a4, a5⟩ := ha
  obtain ⟨b1, b2, b3, b4, b5⟩ := hb
  simp [*]

def TrERel : Except PyErr Res → Except PyErr Res → Prop
  | .ok r, .ok r' => r'.shape = r.shape
  | .error e, .error e' => e' = e
  | _, _ => False

@[simp] theorem tr_erel_ok_ok (r r' : Res) : TrERel (.ok r) (.ok r') ↔ r'.shape = r.shape := Iff.rfl
@[simp] theorem tr_erel_err_err (e e' : PyErr) : TrERel (.error e) (.error e') ↔ e' = e := Iff.rfl
@[simp] theorem tr_erel_ok_err (r : Res) (e : PyErr) : TrERel (.ok r) (.error e) ↔ False := Iff.rfl
@[simp] theorem tr_erel_err_ok (r : Res) (e : PyErr) : TrERel (.error e) (.ok r) ↔ False := Iff.rfl

theorem tr_erel_refl (A : Except PyErr Res) : TrERel A A := by
  cases A <;> exact rfl

theorem tr_erel_seq {a a' b b' : Except PyErr Res} (h1 : TrERel a a') (h2 : TrERel b b') :
    TrERel (seqR a b) (seqR a' b') := by
  cases a <;> cases a' <;> try exact h1.elim
  · exact h1
  · cases b <;> cases b' <;> try exact h2.elim
    · exact h2
    · exact tr_shape_append h1 h2

theorem tr_erel_ite (c : Prop) [Decidable c] {A A' B B' : Except PyErr Res} (hA : TrERel A A') (hB : TrERel B B') :
    TrERel (if c then A else B) (if c then A' else B') :=
  ite_rel (R := TrERel) (fun _ => hA) (fun _ => hB)

abbrev TrActShape (D : Prop) : Act → Act → Prop := Act.Rel (fun r r' => r'.shape = r.shape) D

/-- the mapped children are judged as the transformed values are -/
theorem tr_leafOf_child {f : Val → Val} (hf : TrLeafFn f) (cfg : Cfg) (q q' : Path) (x y : Val) :
    leafOf (mapTChild cfg q f x) (mapTChild cfg q' f y) = leafOf (f x) (f y) := by
  have h1 := mapT_child_tyOf hf cfg q x
  have h2 := mapT_child_tyOf hf cfg q' y
  unfold leafOf
  rw [h1, h2, tyOf_scalar_eq h1]
  by_cases ht : tyOf (f x) = tyOf (f y)
  · rw [if_pos ht, if_pos ht]
    by_cases hs : isPyScalar (f x) = true
    · rw [mapT_child_scalar hf cfg q x hs, mapT_child_scalar hf cfg q' y (by rw [← tyOf_scalar_eq ht]; exact hs)]
    · rw [if_neg hs, if_neg hs]
  · rw [if_neg ht, if_neg ht]

theorem tr_actShape_ite {D : Prop} (c : Prop) [Decidable c] {a a' b b' : Act} (ha : TrActShape D a a')
    (hb : TrActShape D b b') : TrActShape D (if c then a else b) (if c then a' else b') :=
  ite_rel (R := TrActShape D) (fun _ => ha) (fun _ => hb)

theorem tr_classifyItem_child {cfg : Cfg} {p : Path} (hf : TrLeafFn (transformAt cfg p)) (pne pdt q q' : Path)
    (sa oa sa' oa' x y : Val) :
    TrActShape (tyOf (transformAt cfg p x) = tyOf (transformAt cfg p y) ∧ isPyScalar (transformAt cfg p x) = false)
      (classifyItem cfg p pne pdt sa oa x y)
      (classifyItem (noTransf cfg) p pne pdt sa' oa' (mapTChild cfg q (transformAt cfg p) x)
        (mapTChild cfg q' (transformAt cfg p) y)) := by
  rw [classifyItem_eq, classifyItem_eq, transformAt_noTransf]
  simp only [id, tr_leafOf_child hf, noTransf_fl]
  cases h : leafOf (transformAt cfg p x) (transformAt cfg p y) with
  | differ => exact rfl
  | same => exact tr_actShape_ite _ rfl rfl
  | enter => exact leafOf_enter h
  | clash => exact tr_actShape_ite _ rfl rfl

theorem tr_classifyEntry_child {cfg : Cfg} {full : Path} (hf : TrLeafFn (transformAt cfg full)) (q q' : Path) (x y : Val) :
    TrActShape (tyOf (transformAt cfg full x) = tyOf (transformAt cfg full y) ∧ isPyScalar (transformAt cfg full x) = false)
      (classifyEntry cfg full x y)
      (classifyEntry (noTransf cfg) full (mapTChild cfg q (transformAt cfg full) x)
        (mapTChild cfg q' (transformAt cfg full) y)) := by
  rw [classifyEntry_eq, classifyEntry_eq, transformAt_noTransf]
  simp only [id, tr_leafOf_child hf, noTransf_fl, excluded_noTransf, onlyOk_noTransf]
  refine tr_actShape_ite _ rfl ?_
  cases h : leafOf (transformAt cfg full x) (transformAt cfg full y) with
  | differ => exact tr_actShape_ite _ rfl rfl
  | same => exact rfl
  | enter => exact leafOf_enter h
  | clash => exact tr_actShape_ite _ (tr_actShape_ite _ rfl rfl) rfl

theorem mapTK_lookup (cfg : Cfg) (p : Path) (k : Str) : ∀ (l : List (Str × Val)),
    Val.lookup k (mapTK cfg p l) =
      (Val.lookup k l).map (mapTChild cfg (p ++ [.key k]) (transformAt cfg (p ++ [.key k])))
  | [] => by simp [mapTK, Val.lookup]
  | (k', v) :: rest => by
    rw [mapTK_cons]
    simp only [Val.lookup]
    by_cases hk : k = k'
    · subst hk; simp
    · simp [hk, mapTK_lookup cfg p k rest]

theorem mapTK_hasKey (cfg : Cfg) (p : Path) (k : Str) (l : List (Str × Val)) :
    hasKey k (mapTK cfg p l) = hasKey k l := by
  simp [hasKey, mapTK_lookup]

theorem tr_leftover_path (cfg : Cfg) (p : Path) (k : Str) (v v' : Val) :
    (leftover (noTransf cfg) p (k, v')).map (·.path) = (leftover cfg p (k, v)).map (·.path) := by
  rw [show leftover (noTransf cfg) p (k, v') = leftover cfg p (k, v') from rfl, leftover_val cfg p k v fun _ => v']
  cases leftover cfg p (k, v) <;> rfl

theorem mapTK_leftover_paths (cfg : Cfg) (p : Path) (g : Str → Bool) : ∀ (l : List (Str × Val)),
    (((mapTK cfg p l).filter (fun kv => g kv.1)).filterMap (leftover (noTransf cfg) p)).map (·.path) =
      ((l.filter (fun kv => g kv.1)).filterMap (leftover cfg p)).map (·.path)
  | [] => rfl
  | (k, v) :: rest => by
    have ih := mapTK_leftover_paths cfg p g rest
    rw [List.map_filterMap] at ih ⊢
    rw [List.map_filterMap] at ih ⊢
    rw [mapTK_cons, List.filter_cons, List.filter_cons]
    cases g k with
    | false => exact ih
    | true => simp only [if_true, List.filterMap_cons, tr_leftover_path cfg p k v, ih]

theorem mapTK_dictTail_shape (cfg : Cfg) (p : Path) (sa oa sa' oa' : Val) (skvs okvs : List (Str × Val)) (s s' : Bool) :
    (dictTail (noTransf cfg) p sa' oa' (mapTK cfg p skvs) (mapTK cfg p okvs) s').shape =
      (dictTail cfg p sa oa skvs okvs s).shape := by
  have e1 := mapTK_leftover_paths cfg p (fun k => !hasKey k okvs) skvs
  have e2 := mapTK_leftover_paths cfg p (fun k => !hasKey k skvs) okvs
  have l1 := congrArg List.length e1
  have l2 := congrArg List.length e2
  simp only [List.length_map] at l1 l2
  simp only [Res.shape, dictTail, mapTK_hasKey, List.map_nil, Prod.mk.injEq, and_true, true_and]
  exact ⟨by rw [l1, l2], e1, e2⟩

theorem mapTL_length (cfg : Cfg) (p : Path) (f : Val → Val) : ∀ (xs : List Val) (i : Nat),
    (mapTL cfg p f i xs).length = xs.length
  | [], _ => by simp [mapTL]
  | x :: xs, i => by simp [mapTL, mapTL_length cfg p f xs (i + 1)]

theorem tr_otherTail_paths_len (p : Path) : ∀ (l l' : List Val) (i : Nat), l.length = l'.length →
    (otherTail p i l').map (·.path) = (otherTail p i l).map (·.path)
  | [], [], _, _ => rfl
  | [], _ :: _, _, h => by simp at h
  | _ :: _, [], _, h => by simp at h
  | _ :: l, _ :: l', i, h => by
    simp only [otherTail, List.map_cons]
    rw [tr_otherTail_paths_len p l l' (i + 1) (by simpa using h)]

/-- the two runs agree on the pair `(v, w)` compared at `p`, the mapped run holding `v` mapped with the prefix `q` and
`w` mapped with `q'` (the three paths are one, except for a pair the keyed walk meets across positions) -/
def TrSub (cfg : Cfg) (site : Site) (p q q' : Path) (v w : Val) : Prop :=
  TrERel (sub cfg site p v w) (sub (noTransf cfg) site p (mapT cfg q v) (mapT cfg q' w))

theorem mapT_leaf (cfg : Cfg) (p : Path) {v : Val} (h : isLeaf v = true) : mapT cfg p v = v := by
  cases v with
  | list c xs => cases h
  | dict c kvs => cases h
  | _ => rfl

theorem tr_sub_leaf (cfg : Cfg) (site : Site) (p q q' : Path) {v : Val} (h : isLeaf v = true) (w : Val) :
    TrSub cfg site p q q' v w := by
  unfold TrSub
  rw [mapT_leaf cfg q h]
  cases v with
  | list c xs => cases h
  | dict c kvs => cases h
  | none => rw [sub_none_left, sub_none_left]; exact rfl
  | _ => rw [sub_scalar_left rfl, sub_scalar_left rfl]; exact rfl

theorem tr_sub_leaf_right (cfg : Cfg) (site : Site) (p q q' : Path) (v : Val) {w : Val} (h : isLeaf w = true) :
    TrSub cfg site p q q' v w := by
  have hl : ∀ c ys, w ≠ .list c ys := fun c ys e => by rw [e] at h; cases h
  have hd : ∀ c kvs, w ≠ .dict c kvs := fun c kvs e => by rw [e] at h; cases h
  cases v with
  | list c xs =>
    unfold TrSub
    rw [mapT_leaf cfg q' h, mapT, sub_list_other hl, sub_list_other hl]
    exact rfl
  | dict c kvs =>
    unfold TrSub
    rw [mapT_leaf cfg q' h, mapT, sub_dict_other hd, sub_dict_other hd]
    exact rfl
  | _ => exact tr_sub_leaf cfg site p q q' rfl w

theorem tr_sub_list (cfg : Cfg) (site : Site) (p : Path) (c : Cls) (xs : List Val) (w : Val)
    (h : ∀ c' ys, w = .list c' ys →
      TrERel (listWalk cfg p xs ys)
        (listWalk (noTransf cfg) p (mapTL cfg p (transformAt cfg p) 0 xs) (mapTL cfg p (transformAt cfg p) 0 ys))) :
    TrSub cfg site p p p (.list c xs) w := by
  cases w with
  | list c' ys =>
    unfold TrSub
    rw [mapT, mapT, sub_lists, sub_lists]
    exact tr_erel_ite _ (tr_erel_refl _) (tr_erel_ite _ (tr_erel_refl _) (tr_erel_ite _ (tr_erel_refl _) (h c' ys rfl)))
  | dict c' kvs' =>
    unfold TrSub
    rw [mapT, mapT, sub_list_other (fun _ _ => Val.noConfusion), sub_list_other (fun _ _ => Val.noConfusion)]
    exact rfl
  | _ => exact tr_sub_leaf_right cfg site p p p _ rfl

/-- a classified child pair: on a descent neither transformed value is a scalar, so the mapped children are the
mapped subtrees -/
theorem tr_actRes_child {cfg : Cfg} {f : Val → Val} (hf : TrLeafFn f) {site : Site} {p : Path} (q q' : Path) (x y : Val)
    {a a' : Act} (ha : TrActShape (tyOf (f x) = tyOf (f y) ∧ isPyScalar (f x) = false) a a')
    (hS : TrSub cfg site p q q' x y) :
    TrERel (actRes a (sub cfg site p x y))
      (actRes a' (sub (noTransf cfg) site p (mapTChild cfg q f x) (mapTChild cfg q' f y))) := by
  refine ha.actRes id (fun ⟨ht, hns⟩ => ?_)
  rw [mapT_child_nonscalar hf cfg q x hns, mapT_child_nonscalar hf cfg q' y (by rw [← tyOf_scalar_eq ht]; exact hns)]
  exact hS

theorem tr_dictWalk {cfg : Cfg} (hl : LeafTransform cfg) (p : Path) (sa oa sa' oa' : Val) (skvs okvs : List (Str × Val)) :
    ∀ (kvs : List (Str × Val)) (still still' : Bool),
      (∀ kv ∈ kvs, ∀ w, Val.lookup kv.1 okvs = some w →
        TrSub cfg .entry (p ++ [.key kv.1]) (p ++ [.key kv.1]) (p ++ [.key kv.1]) kv.2 w) →
      TrERel (dictWalk cfg p sa oa skvs okvs still kvs)
        (dictWalk (noTransf cfg) p sa' oa' (mapTK cfg p skvs) (mapTK cfg p okvs) still' (mapTK cfg p kvs))
  | [], still, still', _ => by
    rw [mapTK, dictWalk_done, dictWalk_done]
    exact mapTK_dictTail_shape cfg p sa oa sa' oa' skvs okvs still still'
  | (k, v) :: rest, still, still', hsub => by
    have ih := fun s s' => tr_dictWalk hl p sa oa sa' oa' skvs okvs rest s s'
      (fun kv hkv => hsub kv (List.mem_cons_of_mem _ hkv))
    rw [mapTK_cons, dictWalk_cons, dictWalk_cons, mapTK_lookup]
    cases hlk : Val.lookup k okvs with
    | none => exact ih still still'
    | some w =>
      have hf := tr_leafFn_transformAt hl (p ++ [.key k])
      have ha := tr_classifyEntry_child hf (p ++ [.key k]) (p ++ [.key k]) v w
      have hS := tr_actRes_child hf _ _ v w ha (hsub (k, v) List.mem_cons_self w hlk)
      simp only [Option.map_some]
      -- both runs decide alike (`ha`), so the two steps are `seqR` of what the pair contributes (`hS`) and the rest
      cases hc : classifyEntry cfg (p ++ [.key k]) v w <;>
        cases hc' : classifyEntry (noTransf cfg) (p ++ [.key k])
          (mapTChild cfg (p ++ [.key k]) (transformAt cfg (p ++ [.key k])) v)
          (mapTChild cfg (p ++ [.key k]) (transformAt cfg (p ++ [.key k])) w) <;>
        rw [hc, hc'] at ha hS
      · exact tr_erel_seq hS (ih _ _)
      · exact ha.elim
      · exact ha.elim
      · exact tr_erel_seq hS (ih _ _)

theorem tr_sub_dict {cfg : Cfg} (hl : LeafTransform cfg) (site : Site) (p : Path) (c : Cls) (kvs : List (Str × Val))
    (w : Val)
    (h : ∀ c' kvs', w = .dict c' kvs' → ∀ kv ∈ kvs, ∀ w', Val.lookup kv.1 kvs' = some w' →
      TrSub cfg .entry (p ++ [.key kv.1]) (p ++ [.key kv.1]) (p ++ [.key kv.1]) kv.2 w') :
    TrSub cfg site p p p (.dict c kvs) w := by
  cases w with
  | dict c' kvs' =>
    unfold TrSub
    rw [mapT, mapT, sub_dicts, sub_dicts]
    exact tr_erel_ite _ (tr_erel_refl _) (tr_dictWalk hl p _ _ _ _ kvs kvs' kvs true true (h c' kvs' rfl))
  | list c' ys =>
    unfold TrSub
    rw [mapT, mapT, sub_dict_other (fun _ _ => Val.noConfusion), sub_dict_other (fun _ _ => Val.noConfusion)]
    exact rfl
  | _ => exact tr_sub_leaf_right cfg site p p p _ rfl

theorem tr_directWalk {cfg : Cfg} (hl : LeafTransform cfg) (p : Path) (sa oa sa' oa' : Val) :
    ∀ (xs ys : List Val) (i : Nat), (∀ x ∈ xs, ∀ y ∈ ys, ∀ q, TrSub cfg .item q q q x y) →
      TrERel (directWalk cfg p sa oa i xs ys)
        (directWalk (noTransf cfg) p sa' oa' i (mapTL cfg p (transformAt cfg p) i xs) (mapTL cfg p (transformAt cfg p) i ys))
  | [], ys, i, _ => by
    rw [mapTL, directWalk_left_done, directWalk_left_done]
    have e := tr_otherTail_paths_len p ys (mapTL cfg p (transformAt cfg p) i ys) i (mapTL_length cfg p _ ys i).symm
    have l := congrArg List.length e
    simp only [List.length_map] at l
    show Res.shape _ = Res.shape _
    simp only [Res.shape, List.map_nil, e, l]
  | x :: xs, [], i, _ => by
    rw [mapTL_cons, mapTL, directWalk_right_done, directWalk_right_done]
    exact tr_erel_seq rfl (tr_directWalk hl p sa oa sa' oa' xs [] (i + 1) (fun _ _ _ h => nomatch h))
  | x :: xs, y :: ys, i, hsub => by
    have hf := tr_leafFn_transformAt hl p
    rw [mapTL_cons, mapTL_cons, directWalk_cons, directWalk_cons, itemRes_eq, itemRes_eq]
    exact tr_erel_seq
      (tr_actRes_child hf _ _ x y (tr_classifyItem_child hf _ _ _ _ sa oa sa' oa' x y)
        (hsub x List.mem_cons_self y List.mem_cons_self _))
      (tr_directWalk hl p sa oa sa' oa' xs ys (i + 1)
        (fun x' hx y' hy => hsub x' (List.mem_cons_of_mem _ hx) y' (List.mem_cons_of_mem _ hy)))

theorem tr_compareTop {cfg : Cfg} {a b : Val} (h : RootPair a b → TrSub cfg .entry [] [] [] a b) :
    TrERel (compareTop cfg a b) (compareTop (noTransf cfg) (mapT cfg [] a) (mapT cfg [] b)) := by
  cases a with
  | dict c kvs =>
    cases c with
    | plain => exact rfl
    | n0 =>
      cases b with
      | dict c' kvs' =>
        cases c' with
        | plain => exact rfl
        | n0 =>
          rw [compareTop_eq_sub cfg (.dict .n0 kvs) (.dict .n0 kvs') trivial, mapT, mapT,
            compareTop_eq_sub (noTransf cfg) (.dict .n0 _) (.dict .n0 _) trivial, ← mapT, ← mapT]
          exact h trivial
      | _ => exact rfl
  | list c xs =>
    cases c with
    | plain => exact rfl
    | n0 =>
      cases b with
      | list c' ys =>
        cases c' with
        | plain => exact rfl
        | n0 => exact h trivial
      | _ => exact rfl
  | _ => exact rfl

/-- `P` is any property of trees that passes to the items of a list and to the entries of
a dictionary.  If the two runs walk alike every pair of lists of `P`-trees on whose pairs of items they agree, then they
agree on every pair of `P`-trees.  The three entry points differ in `P` and in how a pair of lists is walked. -/
theorem tr_sub_of_lists {cfg : Cfg} (hl : LeafTransform cfg) (P : Val → Prop)
    (hitem : ∀ c xs, P (.list c xs) → ∀ x ∈ xs, P x) (hentry : ∀ c kvs, P (.dict c kvs) → ∀ kv ∈ kvs, P kv.2)
    (hlist : ∀ p c xs c' ys, P (.list c xs) → P (.list c' ys) → (∀ x ∈ xs, ∀ y ∈ ys, ∀ q, TrSub cfg .item q q q x y) →
      TrERel (listWalk cfg p xs ys)
        (listWalk (noTransf cfg) p (mapTL cfg p (transformAt cfg p) 0 xs) (mapTL cfg p (transformAt cfg p) 0 ys)))
    (v : Val) : P v → ∀ (site : Site) (p : Path) (w : Val), P w → TrSub cfg site p p p v w := by
  induction v using Val.memInduct with
  | list c xs ih =>
    intro hv site p w hw
    refine tr_sub_list cfg site p c xs w (fun c' ys e => ?_)
    subst e
    exact hlist p c xs c' ys hv hw (fun x hx y hy q => ih x hx (hitem c xs hv x hx) .item q y (hitem c' ys hw y hy))
  | dict c kvs ih =>
    intro hv site p w hw
    exact tr_sub_dict hl site p c kvs w (fun c' kvs' e kv hkv w' hlk =>
      ih kv hkv (hentry c kvs hv kv hkv) .entry _ w' (hentry c' kvs' (e ▸ hw) (kv.1, w') (Val.lookup_mem hlk)))
  | _ => exact fun _ site p w _ => tr_sub_leaf cfg site p p p rfl w

theorem sub_tr (cfg : Cfg) (hd : cfg.direct = true) (hl : LeafTransform cfg) (v : Val) (site : Site) (p : Path) (w : Val) :
    TrSub cfg site p p p v w :=
  tr_sub_of_lists hl (fun _ => True) (fun _ _ _ _ _ => trivial) (fun _ _ _ _ _ => trivial)
    (fun p _ xs _ ys _ _ hsub => by
      rw [listWalk_direct hd, listWalk_direct (cfg := noTransf cfg) hd]
      exact tr_directWalk hl p _ _ _ _ xs ys 0 hsub)
    v trivial site p w trivial

theorem directWalk_tr (cfg : Cfg) (hd : cfg.direct = true) (hl : LeafTransform cfg) (p : Path)
    (sa oa sa' oa' : Val) (i : Nat) (xs ys : List Val) :
    TrERel (directWalk cfg p sa oa i xs ys)
      (directWalk (noTransf cfg) p sa' oa' i (mapTL cfg p (transformAt cfg p) i xs) (mapTL cfg p (transformAt cfg p) i ys)) :=
  tr_directWalk hl p sa oa sa' oa' xs ys i (fun x _ y _ q => sub_tr cfg hd hl x .item q y)

theorem compareTop_tr (cfg : Cfg) (hd : cfg.direct = true) (hl : LeafTransform cfg) (a b : Val) :
    TrERel (compareTop cfg a b) (compareTop (noTransf cfg) (mapT cfg [] a) (mapT cfg [] b)) :=
  tr_compareTop (fun _ => sub_tr cfg hd hl a .entry [] b)

theorem tr_erel_ok {A B : Except PyErr Res} (h : TrERel A B) {r : Res} (hA : A = .ok r) :
    ∃ r', B = .ok r' ∧ r'.shape = r.shape := by
  subst hA
  cases B with
  | error e => exact h.elim
  | ok r' => exact ⟨r', rfl, h⟩

theorem tr_erel_verdict {A B : Except PyErr Res} (h : TrERel A B) : verdict A = verdict B := by
  cases A <;> cases B
  · rfl
  · exact h.elim
  · exact h.elim
  · simp only [tr_erel_ok_ok, Res.shape, Prod.mk.injEq] at h
    simp only [verdict, h.1]

/-- with `transform`, two leaves count as equal iff their transformed values are equal: the result has the shape of the
result of the plain run on the mapped trees (the values it shows are the original ones: `compareTop_faith`) -/
theorem transform_direct (cfg : Cfg) (hd : cfg.direct = true) (hl : LeafTransform cfg) (a b : Val) (r : Res)
    (h : compareTop cfg a b = .ok r) :
    ∃ r', compareTop { cfg with tr := [] } (mapT cfg [] a) (mapT cfg [] b) = .ok r' ∧ r'.shape = r.shape :=
  tr_erel_ok (compareTop_tr cfg hd hl a b) h

theorem transform_direct_conv (cfg : Cfg) (hd : cfg.direct = true) (hl : LeafTransform cfg) (a b : Val) (r' : Res)
    (h : compareTop { cfg with tr := [] } (mapT cfg [] a) (mapT cfg [] b) = .ok r') :
    ∃ r, compareTop cfg a b = .ok r ∧ r'.shape = r.shape := by
  have hrel := compareTop_tr cfg hd hl a b
  change compareTop (noTransf cfg) (mapT cfg [] a) (mapT cfg [] b) = .ok r' at h
  rw [h] at hrel
  cases hc : compareTop cfg a b with
  | error e => rw [hc] at hrel; exact hrel.elim
  | ok r => rw [hc] at hrel; exact ⟨r, rfl, hrel⟩

theorem transform_direct_error (cfg : Cfg) (hd : cfg.direct = true) (hl : LeafTransform cfg) (a b : Val) (e : PyErr) :
    compareTop cfg a b = .error e ↔
      compareTop { cfg with tr := [] } (mapT cfg [] a) (mapT cfg [] b) = .error e := by
  have hrel := compareTop_tr cfg hd hl a b
  change _ ↔ compareTop (noTransf cfg) (mapT cfg [] a) (mapT cfg [] b) = .error e
  cases hc : compareTop cfg a b <;> cases hc' : compareTop (noTransf cfg) (mapT cfg [] a) (mapT cfg [] b) <;>
    rw [hc, hc'] at hrel
  · simp only [tr_erel_err_err] at hrel; subst hrel; simp
  · exact hrel.elim
  · exact hrel.elim
  · simp

end N0.Compare
