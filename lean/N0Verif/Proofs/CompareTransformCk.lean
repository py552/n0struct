import N0Verif.Proofs.CompareTransformKeyed
import N0Verif.Proofs.CompareIdxBlind
/-!
`transform` for the KEYED/default entry point (`compare`, `cfg.direct = false`) with any composite key, on operands that are
`CkOk` (every list holds records only or leaves only, `recOnly`, and the key fields of the records are leaves, `keyFieldsLeaf`),
under `TrIdxBlind`: no transform pattern tells `[i]`, `[j]` and `[i]<>[j]` apart (`Props/C10.lean` states the same condition as
`C10.IdxBlind`).  Records are paired across positions; `trck_pair` brings the three paths involved back to one, which is what
the walk with general keys asks of a pair (`tr_keyedWalk`).  `mapT` reads `cfg` only through `transformAt`: `trck_mapT_congr` is
congruence in the PATH for one `cfg` (`TrSame`), not in `cfg`.
-/
namespace N0.Compare
open N0

def TrSame (cfg : Cfg) (p p' : Path) : Prop := ∀ q : Path, transformAt cfg (p ++ q) = transformAt cfg (p' ++ q)

theorem trck_same_refl (cfg : Cfg) (p : Path) : TrSame cfg p p := fun _ => rfl

theorem trck_same_ext {cfg : Cfg} {p p' : Path} (h : TrSame cfg p p') (s : PSeg) :
    TrSame cfg (p ++ [s]) (p' ++ [s]) := by
  intro q
  have := h (s :: q)
  simpa [List.append_assoc] using this

theorem trck_same_nil {cfg : Cfg} {p p' : Path} (h : TrSame cfg p p') : transformAt cfg p = transformAt cfg p' := by
  simpa using h []

mutual
/-- congruence of `mapT` in the prefix, for one `cfg`: prefixes with the same transform functions below them map alike -/
theorem trck_mapT_congr (cfg : Cfg) : ∀ (v : Val) (p p' : Path), TrSame cfg p p' → mapT cfg p v = mapT cfg p' v
  | .dict c kvs, p, p', h => by
    simp only [mapT]
    rw [trck_mapTK_congr cfg kvs p p' h]
  | .list c xs, p, p', h => by
    simp only [mapT]
    rw [trck_same_nil h, trck_mapTL_congr cfg xs p p' h (transformAt cfg p') 0]
  | .none, _, _, _ => rfl
  | .bool _, _, _, _ => rfl
  | .int _, _, _, _ => rfl
  | .flt _, _, _, _ => rfl
  | .str _, _, _, _ => rfl
theorem trck_mapTK_congr (cfg : Cfg) : ∀ (kvs : List (Str × Val)) (p p' : Path), TrSame cfg p p' →
    mapTK cfg p kvs = mapTK cfg p' kvs
  | [], _, _, _ => by simp [mapTK]
  | (k, v) :: rest, p, p', h => by
    rw [mapTK_cons, mapTK_cons, trck_mapTK_congr cfg rest p p' h, trck_same_nil (trck_same_ext h (.key k))]
    simp only [mapTChild]
    rw [trck_mapT_congr cfg v _ _ (trck_same_ext h (.key k))]
theorem trck_mapTL_congr (cfg : Cfg) : ∀ (xs : List Val) (p p' : Path), TrSame cfg p p' → ∀ (f : Val → Val) (i : Nat),
    mapTL cfg p f i xs = mapTL cfg p' f i xs
  | [], _, _, _, _, _ => by simp [mapTL]
  | x :: xs, p, p', h, f, i => by
    rw [mapTL_cons, mapTL_cons, trck_mapTL_congr cfg xs p p' h f (i + 1)]
    simp only [mapTChild]
    rw [trck_mapT_congr cfg x _ _ (trck_same_ext h (.idx i))]
end

theorem trck_same_left {cfg : Cfg} (hb : TrIdxBlind cfg) (p : Path) (i j : Nat) :
    TrSame cfg (p ++ [.idx i]) (p ++ [pairSeg i j]) := by
  intro q
  by_cases hij : i = j
  · simp [pairSeg, hij]
  · simp only [pairSeg, hij, if_false, List.append_assoc, List.cons_append, List.nil_append]
    exact ((hb p i j q).1).symm

theorem trck_same_right {cfg : Cfg} (hb : TrIdxBlind cfg) (p : Path) (i j : Nat) :
    TrSame cfg (p ++ [.idx j]) (p ++ [pairSeg i j]) := by
  intro q
  by_cases hij : i = j
  · simp [pairSeg, hij]
  · simp only [pairSeg, hij, if_false, List.append_assoc, List.cons_append, List.nil_append]
    exact ((hb p i j q).2).symm

mutual
/-- all items of all lists of a tree, at any depth (records included) -/
def allItems : Val → List Val
  | .list _ xs => xs ++ allItemsL xs
  | .dict _ kvs => allItemsK kvs
  | _ => []
def allItemsL : List Val → List Val
  | [] => []
  | x :: xs => allItems x ++ allItemsL xs
def allItemsK : List (Str × Val) → List Val
  | [] => []
  | (_, v) :: rest => allItems v ++ allItemsK rest
end

theorem trck_allItemsL_mem : ∀ (xs : List Val) (x : Val), x ∈ xs → ∀ z ∈ allItems x, z ∈ allItemsL xs
  | [], _, h, _, _ => by cases h
  | y :: ys, x, h, z, hz => by
    simp only [allItemsL, List.mem_append]
    rcases List.mem_cons.1 h with rfl | h'
    · exact .inl hz
    · exact .inr (trck_allItemsL_mem ys x h' z hz)

theorem trck_allItemsK_mem : ∀ (kvs : List (Str × Val)) (kv : Str × Val), kv ∈ kvs →
    ∀ z ∈ allItems kv.2, z ∈ allItemsK kvs
  | [], _, h, _, _ => by cases h
  | (k', v) :: rest, kv, h, z, hz => by
    simp only [allItemsK, List.mem_append]
    rcases List.mem_cons.1 h with rfl | h'
    · exact .inl hz
    · exact .inr (trck_allItemsK_mem rest kv h' z hz)

/-- what the induction needs to know of a subtree: lists of records or of leaves, key fields of records are leaves -/
def CkOk (cfg : Cfg) (v : Val) : Prop := recOnly v = true ∧ ∀ z ∈ allItems v, keyFieldsLeaf cfg z

theorem trck_ckOk_leaf (cfg : Cfg) {v : Val} (h : isLeaf v = true) : CkOk cfg v := by
  cases v <;> simp_all [isLeaf, CkOk, recOnly, allItems]

theorem trck_ckOk_keys {cfg : Cfg} {c : Cls} {xs : List Val} (h : CkOk cfg (.list c xs)) :
    ∀ x ∈ xs, keyFieldsLeaf cfg x :=
  fun x hx => h.2 x (by rw [allItems]; exact List.mem_append_left _ hx)

theorem trck_ckOk_item {cfg : Cfg} {c : Cls} {xs : List Val} (h : CkOk cfg (.list c xs)) {x : Val} (hx : x ∈ xs) :
    CkOk cfg x := by
  obtain ⟨h1, h2⟩ := h
  simp only [recOnly, Bool.and_eq_true] at h1
  exact ⟨trk_recOnlyL_mem xs h1.2 x hx,
    fun z hz => h2 z (by rw [allItems]; exact List.mem_append_right _ (trck_allItemsL_mem xs x hx z hz))⟩

theorem trck_ckOk_entry {cfg : Cfg} {c : Cls} {kvs : List (Str × Val)} (h : CkOk cfg (.dict c kvs))
    {kv : Str × Val} (hkv : kv ∈ kvs) : CkOk cfg kv.2 := by
  obtain ⟨h1, h2⟩ := h
  rw [recOnly] at h1
  exact ⟨trk_recOnlyK_mem kvs h1 kv hkv, fun z hz => h2 z (by rw [allItems]; exact trck_allItemsK_mem kvs kv hkv z hz)⟩

/-- the run with `transform` walks a pair formed across positions under `prefix[i]<>[j]`, while the mapped trees were built with
`x` below `prefix[i]` and `y` below `prefix[j]`; `TrIdxBlind` identifies the transform lookups below the three prefixes
(`trck_same_left`, `trck_same_right`), so the pair the mapped run holds is the pair mapped below the walk's own path -/
theorem trck_pair {cfg : Cfg} (hb : TrIdxBlind cfg) (p : Path) (i j : Nat) {x y : Val}
    (h : TrSub cfg .item (p ++ [pairSeg i j]) (p ++ [pairSeg i j]) (p ++ [pairSeg i j]) x y) :
    TrSub cfg .item (p ++ [pairSeg i j]) (p ++ [.idx i]) (p ++ [.idx j]) x y := by
  unfold TrSub
  rw [trck_mapT_congr cfg x _ _ (trck_same_left hb p i j), trck_mapT_congr cfg y _ _ (trck_same_right hb p i j)]
  exact h

theorem trck_sub (cfg : Cfg) (hd : cfg.direct = false) (hl : LeafTransform cfg) (hb : TrIdxBlind cfg) (v : Val) :
    CkOk cfg v → ∀ (site : Site) (p : Path) (w : Val), CkOk cfg w → TrSub cfg site p p p v w :=
  tr_sub_of_lists hl (CkOk cfg) (fun _ _ h _ hx => trck_ckOk_item h hx) (fun _ _ h _ hkv => trck_ckOk_entry h hkv)
    (fun p _ xs _ ys hv hw hsub => tr_listWalk_keyed hd hl p xs ys (trck_ckOk_keys hv) (trck_ckOk_keys hw)
      (fun x hx y hy i j => trck_pair hb p i j (hsub x hx y hy _)))
    v

theorem trck_keyedWalk (cfg : Cfg) (hd : cfg.direct = false) (hl : LeafTransform cfg) (hb : TrIdxBlind cfg)
    (p : Path) (sa oa sa' oa' : Val) (i : Nat) (xs : List Val) (ks : List Str) (sr orr : List KE)
    (hx : recOnlyL xs = true) (hkx : ∀ z ∈ allItemsL xs, keyFieldsLeaf cfg z)
    (ho : ∀ e ∈ orr, CkOk cfg e.2.2) :
    TrERel (keyedWalk cfg p sa oa i xs ks sr orr)
      (keyedWalk (noTransf cfg) p sa' oa' i (mapTL cfg p (transformAt cfg p) i xs) ks
        (sr.map (mapE cfg p)) (orr.map (mapE cfg p))) :=
  tr_keyedWalk hl p sa oa sa' oa' xs ks i sr orr (fun x hx' e he i' => trck_pair hb p i' e.2.1
    (trck_sub cfg hd hl hb x ⟨trk_recOnlyL_mem xs hx x hx', fun z hz => hkx z (trck_allItemsL_mem xs x hx' z hz)⟩
      .item _ e.2.2 (ho e he)))

theorem compareTop_tr_ck (cfg : Cfg) (hd : cfg.direct = false) (hl : LeafTransform cfg) (hb : TrIdxBlind cfg)
    (a b : Val) (ha : CkOk cfg a) (hb' : CkOk cfg b) :
    TrERel (compareTop cfg a b) (compareTop (noTransf cfg) (mapT cfg [] a) (mapT cfg [] b)) :=
  tr_compareTop (fun _ => trck_sub cfg hd hl hb a ha .entry [] b hb')

end N0.Compare
