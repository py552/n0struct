import N0Verif.Proofs.CompareTransform
/-!
`transform` for the KEYED/default entry point (`cfg.direct = false`) without a composite key, on trees every list of
which holds records only or leaves only (`recOnly`).  Records all have the key `''`, so the keyed walk is the
positional one (`trk_keyedWalk_ents`); a leaf is keyed by the JSON text of its TRANSFORMED value, its key in the mapped tree
(`ckv_keysOf_mapped`), so both runs pair the same positions (`tr_keyedWalk`).  The part on keys (`keyFieldsLeaf`, `ckv_*`,
`tr_keyedWalk`, `tr_listWalk_keyed`) holds for any composite key and is what `CompareTransformCk.lean` uses.  Outside: a list
nested in a list (`C10_transform_keyed_nested_cex`, finding C10-b), mixed lists.
-/
namespace N0.Compare
open N0

mutual
/-- every list (at every depth) holds dictionaries only, or leaves only -/
def recOnly : Val → Bool
  | .list _ xs => (xs.all isRecV || xs.all isLeaf) && recOnlyL xs
  | .dict _ kvs => recOnlyK kvs
  | _ => true
def recOnlyL : List Val → Bool
  | [] => true
  | x :: xs => recOnly x && recOnlyL xs
def recOnlyK : List (Str × Val) → Bool
  | [] => true
  | (_, v) :: rest => recOnly v && recOnlyK rest
/-- `isinstance(v, dict)` -/
def isRecV : Val → Bool
  | .dict _ _ => true
  | _ => false
end

theorem trk_recOnlyK_mem (kvs : List (Str × Val)) (hr : recOnlyK kvs = true) : ∀ kv ∈ kvs, recOnly kv.2 = true :=
  fun _ h => Py.allRec_mem (f := fun kv => recOnly kv.2) (fun ⟨_, _⟩ _ => rfl) hr h

theorem trk_recOnlyK_lookup : ∀ (kvs : List (Str × Val)) (k : Str) (w : Val), recOnlyK kvs = true →
    Val.lookup k kvs = some w → recOnly w = true :=
  fun kvs _ _ hr h => trk_recOnlyK_mem kvs hr _ (Val.lookup_mem h)

theorem trk_recOnlyL_mem (xs : List Val) (hr : recOnlyL xs = true) : ∀ x ∈ xs, recOnly x = true :=
  fun _ h => Py.allRec_mem (fun _ _ => rfl) hr h

/-- the entries of a list all of whose keys are `''` -/
def ents (i : Nat) (xs : List Val) : List KE := mkEntries i (List.replicate xs.length []) xs

theorem trk_ents_cons (i : Nat) (x : Val) (xs : List Val) : ents i (x :: xs) = ([], i, x) :: ents (i + 1) xs := by
  simp [ents, List.replicate_succ, mkEntries]

theorem trk_ents_nil (i : Nat) : ents i [] = [] := by simp [ents, mkEntries]

theorem trk_keyOf_rec (cfg : Cfg) (hck : cfg.ck.pats.isEmpty = true) (p : Path) (i : Nat) {x : Val} (hx : isRecV x = true) :
    keyOf cfg p i x = .ok [] := by
  have hck' : cfg.ck.pats = [] := by simpa using hck
  cases x <;> simp_all [isRecV, keyOf, recordFields, fieldsKey]

theorem trk_keysOf (cfg : Cfg) (hck : cfg.ck.pats.isEmpty = true) (p : Path) : ∀ (i : Nat) (xs : List Val),
    (∀ x ∈ xs, isRecV x = true) → keysOf cfg p i xs = .ok (List.replicate xs.length [])
  | _, [], _ => rfl
  | i, x :: xs, h => by
    simp only [keysOf, trk_keyOf_rec cfg hck p i (h x (List.mem_cons_self ..)),
      trk_keysOf cfg hck p (i + 1) xs (fun z hz => h z (List.mem_cons_of_mem _ hz)), List.length_cons, List.replicate_succ]

/-- the entry of the mapped run that corresponds to an entry of the run with `transform` -/
def mapE (cfg : Cfg) (p : Path) (e : KE) : KE :=
  (e.1, e.2.1, mapTChild cfg (p ++ [.idx e.2.1]) (transformAt cfg p) e.2.2)

theorem trk_mkEntries_map (cfg : Cfg) (p : Path) : ∀ (ks : List Str) (xs : List Val) (i : Nat),
    mkEntries i ks (mapTL cfg p (transformAt cfg p) i xs) = (mkEntries i ks xs).map (mapE cfg p)
  | [], xs, i => by cases xs <;> simp [mkEntries]
  | _ :: _, [], i => by simp [mkEntries, mapTL]
  | k :: ks, x :: xs, i => by
    rw [mapTL_cons]
    simp only [mkEntries, List.map_cons, mapE, trk_mkEntries_map cfg p ks xs (i + 1)]

theorem trk_findKey_map (cfg : Cfg) (p : Path) (k : Str) : ∀ l : List KE,
    findKey k (l.map (mapE cfg p)) =
      (findKey k l).map (fun jy => (jy.1, mapTChild cfg (p ++ [.idx jy.1]) (transformAt cfg p) jy.2))
  | [] => rfl
  | (k', i, v) :: rest => by
    simp only [List.map_cons, mapE, findKey]
    by_cases hk : k = k'
    · simp [hk]
    · simp only [hk, if_false]; exact trk_findKey_map cfg p k rest

theorem trk_eraseKey_map (cfg : Cfg) (p : Path) (k : Str) : ∀ l : List KE,
    eraseKey k (l.map (mapE cfg p)) = (eraseKey k l).map (mapE cfg p)
  | [] => rfl
  | (k', i, v) :: rest => by
    simp only [List.map_cons, mapE, eraseKey]
    by_cases hk : k = k'
    · simp [hk]
    · simp only [hk, if_false, List.map_cons, mapE, trk_eraseKey_map cfg p k rest]

theorem trk_mapE_idx (cfg : Cfg) (p : Path) (l : List KE) :
    (l.map (mapE cfg p)).map (fun e => e.2.1) = l.map (fun e => e.2.1) := by
  simp [List.map_map, Function.comp_def, mapE]

theorem trk_keyedTail_shape_idx (p : Path) (sr orr : List KE) :
    (keyedTail p sr orr).shape =
      ((sr.map (fun e => e.2.1)).length + (orr.map (fun e => e.2.1)).length, [],
        (sr.map (fun e => e.2.1)).map (fun n => p ++ [PSeg.idx n]),
        (orr.map (fun e => e.2.1)).map (fun n => p ++ [PSeg.idx n]), []) := by
  simp [Res.shape, keyedTail, List.map_map, Function.comp_def]

theorem trk_keyedTail_shape (p : Path) (sr sr' orr orr' : List KE)
    (h1 : sr'.map (fun e => e.2.1) = sr.map (fun e => e.2.1))
    (h2 : orr'.map (fun e => e.2.1) = orr.map (fun e => e.2.1)) :
    (keyedTail p sr' orr').shape = (keyedTail p sr orr).shape := by
  rw [trk_keyedTail_shape_idx, trk_keyedTail_shape_idx, h1, h2]

theorem trk_leaf_image {f : Val → Val} (hf : TrLeafFn f) {y : Val} (hy : isLeaf y = true) : isLeaf (f y) = true := by
  rcases tr_leafFn_leaf hf hy with h | ⟨rfl, h⟩
  · generalize f y = z at h
    cases z <;> first | rfl | cases h
  · rw [h]; rfl

theorem ckv_recordFields_mapped (cfg : Cfg) (q : Path) (kvs : List (Str × Val)) :
    ∀ (fs : List Str) (acc : List (Str × Val)),
      (∀ f ∈ fs, ∀ v, Val.lookup f kvs = some v → isLeaf v = true) →
      recordFields cfg q kvs fs acc = recordFields (noTransf cfg) q (mapTK cfg q kvs) fs acc
  | [], acc, _ => by simp [recordFields]
  | f :: fs, acc, h => by
    have h' : ∀ g ∈ fs, ∀ v, Val.lookup g kvs = some v → isLeaf v = true :=
      fun g hg => h g (List.mem_cons_of_mem _ hg)
    simp only [recordFields, mapTK_lookup]
    cases hl : Val.lookup f kvs with
    | none => simp only [Option.map_none]; exact ckv_recordFields_mapped cfg q kvs fs acc h'
    | some v =>
      have hv := h f List.mem_cons_self v hl
      simp only [Option.map_some, mapTChild, hv, ↓reduceIte, transformAt_noTransf, id]
      exact ckv_recordFields_mapped cfg q kvs fs _ h'

/-- a list item the keying of which commutes with the mapping: a leaf, or a record whose key fields are leaves -/
def keyFieldsLeaf (cfg : Cfg) : Val → Prop
  | .dict _ kvs => ∀ f ∈ cfg.ck.pats, ∀ v, Val.lookup f kvs = some v → isLeaf v = true
  | .list _ _ => False
  | _ => True

/-- `keyFieldsLeaf` as a test, for concrete trees -/
def keyFieldsLeafB (cfg : Cfg) : Val → Bool
  | .dict _ kvs => cfg.ck.pats.all fun f => (Val.lookup f kvs).all isLeaf
  | .list _ _ => false
  | _ => true

theorem ckv_keyFieldsLeaf_of_test {cfg : Cfg} {l : List Val} (h : l.all (keyFieldsLeafB cfg) = true) :
    ∀ x ∈ l, keyFieldsLeaf cfg x := by
  intro x hx
  have hx' := List.all_eq_true.1 h x hx
  cases x with
  | dict c kvs =>
    intro f hf v hv
    have := List.all_eq_true.1 hx' f hf
    rw [hv] at this
    exact this
  | list c xs => cases hx'
  | _ => trivial

theorem ckv_keyOf_leaf (cfg : Cfg) (p : Path) (i : Nat) {v : Val} (h : isLeaf v = true) :
    keyOf cfg p i v = .ok (jsonVal (transformAt cfg p v)) := by
  cases v <;> simp_all [keyOf, isLeaf]

theorem ckv_keyOf_leaf_mapped (cfg : Cfg) (hl : LeafTransform cfg) (p : Path) (i : Nat) {x : Val} (h : isLeaf x = true) :
    keyOf cfg p i x = keyOf (noTransf cfg) p i (mapTChild cfg (p ++ [.idx i]) (transformAt cfg p) x) := by
  have him := trk_leaf_image (tr_leafFn_transformAt hl p) h
  rw [ckv_keyOf_leaf cfg p i h]
  simp only [mapTChild, h, ↓reduceIte]
  rw [ckv_keyOf_leaf (noTransf cfg) p i him]
  rfl

/-- for EVERY composite key and every pattern, patterns naming an index included: item by item, the key built by the run with
`transform` is the key the same item has in the mapped list in the run without `transform` -/
theorem ckv_keysOf_mapped (cfg : Cfg) (hl : LeafTransform cfg) (p : Path) :
    ∀ (xs : List Val) (i : Nat), (∀ x ∈ xs, keyFieldsLeaf cfg x) →
      keysOf cfg p i xs = keysOf (noTransf cfg) p i (mapTL cfg p (transformAt cfg p) i xs)
  | [], _, _ => by simp [mapTL, keysOf]
  | x :: xs, i, h => by
    have ih := ckv_keysOf_mapped cfg hl p xs (i + 1) (fun z hz => h z (List.mem_cons_of_mem _ hz))
    have hx := h x List.mem_cons_self
    rw [mapTL_cons]
    have hk : keyOf cfg p i x = keyOf (noTransf cfg) p i (mapTChild cfg (p ++ [.idx i]) (transformAt cfg p) x) := by
      cases x with
      | dict c kvs =>
        simp only [keyFieldsLeaf] at hx
        simp only [mapTChild, isLeaf, Bool.false_eq_true, ↓reduceIte, mapT, keyOf]
        rw [ckv_recordFields_mapped cfg (p ++ [PSeg.idx i]) kvs cfg.ck.pats [] hx]
        rfl
      | list c ys => simp [keyFieldsLeaf] at hx
      | _ => exact ckv_keyOf_leaf_mapped cfg hl p i rfl
    simp only [keysOf, hk, ih]

/-- Both runs hold the same keys (`mapE` keeps key and position), so they pair the
same positions `(i, j)`; what is asked of a pair is that the runs agree on it, the mapped run holding the left item
mapped below `prefix[i]` and the right one below `prefix[j]` -/
theorem tr_keyedWalk {cfg : Cfg} (hl : LeafTransform cfg) (p : Path) (sa oa sa' oa' : Val) :
    ∀ (xs : List Val) (ks : List Str) (i : Nat) (sr orr : List KE),
      (∀ x ∈ xs, ∀ e ∈ orr, ∀ i,
        TrSub cfg .item (p ++ [pairSeg i e.2.1]) (p ++ [.idx i]) (p ++ [.idx e.2.1]) x e.2.2) →
      TrERel (keyedWalk cfg p sa oa i xs ks sr orr)
        (keyedWalk (noTransf cfg) p sa' oa' i (mapTL cfg p (transformAt cfg p) i xs) ks
          (sr.map (mapE cfg p)) (orr.map (mapE cfg p)))
  | [], ks, i, sr, orr, _ => by
    rw [mapTL, keyedWalk_done, keyedWalk_done]
    exact trk_keyedTail_shape p _ _ _ _ (trk_mapE_idx cfg p sr) (trk_mapE_idx cfg p orr)
  | x :: xs, [], i, sr, orr, _ => by
    rw [mapTL_cons, keyedWalk_noKey, keyedWalk_noKey]
    exact rfl
  | x :: xs, k :: ks, i, sr, orr, hsub => by
    have hf := tr_leafFn_transformAt hl p
    have ih := fun sr' orr' (ho : ∀ e ∈ orr', e ∈ orr) => tr_keyedWalk hl p sa oa sa' oa' xs ks (i + 1) sr' orr'
      (fun x' hx e he => hsub x' (List.mem_cons_of_mem _ hx) e (ho e he))
    rw [mapTL_cons, keyedWalk_cons, keyedWalk_cons, trk_findKey_map]
    cases hfk : findKey k orr with
    | none => exact ih sr orr (fun _ he => he)
    | some jy =>
      obtain ⟨j, y⟩ := jy
      obtain ⟨k', hmem⟩ := findKey_mem orr k j y hfk
      simp only [Option.map_some]
      rw [trk_eraseKey_map, trk_eraseKey_map, itemRes_eq, itemRes_eq]
      exact tr_erel_seq
        (tr_actRes_child hf _ _ x y (tr_classifyItem_child hf _ _ _ _ sa oa sa' oa' x y) (hsub x List.mem_cons_self _ hmem i))
        (ih _ _ (eraseKey_sub orr k))

theorem tr_listWalk_keyed {cfg : Cfg} (hd : cfg.direct = false) (hl : LeafTransform cfg) (p : Path) (xs ys : List Val)
    (hkx : ∀ x ∈ xs, keyFieldsLeaf cfg x) (hky : ∀ y ∈ ys, keyFieldsLeaf cfg y)
    (hsub : ∀ x ∈ xs, ∀ y ∈ ys, ∀ i j, TrSub cfg .item (p ++ [pairSeg i j]) (p ++ [.idx i]) (p ++ [.idx j]) x y) :
    TrERel (listWalk cfg p xs ys)
      (listWalk (noTransf cfg) p (mapTL cfg p (transformAt cfg p) 0 xs) (mapTL cfg p (transformAt cfg p) 0 ys)) := by
  rw [listWalk_keyed hd, listWalk_keyed (cfg := noTransf cfg) hd, ← ckv_keysOf_mapped cfg hl p xs 0 hkx,
    ← ckv_keysOf_mapped cfg hl p ys 0 hky]
  cases keysOf cfg p 0 xs with
  | error e => exact rfl
  | ok ks =>
    cases keysOf cfg p 0 ys with
    | error e => exact rfl
    | ok ko =>
      simp only
      rw [trk_mkEntries_map, trk_mkEntries_map]
      exact tr_keyedWalk hl p _ _ _ _ xs ks 0 _ _
        (fun x hx e he i => hsub x hx e.2.2 (mkEntries_mem_val ko ys 0 e he) i e.2.1)

theorem trk_walk_right_nil (cfg : Cfg) (p : Path) (sa oa : Val) : ∀ (xs : List Val) (ks : List Str) (i : Nat)
    (sr : List KE), ks.length = xs.length → keyedWalk cfg p sa oa i xs ks sr [] = .ok (keyedTail p sr [])
  | [], _, _, _, _ => keyedWalk_done
  | _ :: _, [], _, _, h => by simp at h
  | x :: xs, k :: ks, i, sr, h => by
    rw [keyedWalk_skip rfl]
    exact trk_walk_right_nil cfg p sa oa xs ks (i + 1) sr (by simpa using h)

theorem trk_ents_tail (p : Path) : ∀ (ys : List Val) (i : Nat),
    (ents i ys).map (fun e => (⟨p ++ [.idx e.2.1], e.2.2⟩ : UE)) = otherTail p i ys
  | [], _ => rfl
  | y :: ys, i => by rw [trk_ents_cons, List.map_cons, otherTail, trk_ents_tail p ys (i + 1)]

/-- with the key `''` on every item of both lists, the keyed walk is the positional walk -/
theorem trk_keyedWalk_ents (cfg : Cfg) (p : Path) (sa oa : Val) : ∀ (xs ys : List Val) (i : Nat),
    keyedWalk cfg p sa oa i xs (List.replicate xs.length []) (ents i xs) (ents i ys) = directWalk cfg p sa oa i xs ys
  | [], ys, i => by
    rw [keyedWalk_done, directWalk_left_done, ← trk_ents_tail p ys i]
    simp [keyedTail, trk_ents_nil]
  | x :: xs, [], i => by
    have ih := trk_keyedWalk_ents cfg p sa oa xs [] (i + 1)
    rw [trk_ents_nil, trk_walk_right_nil cfg p sa oa _ _ _ _ (by simp)] at ih ⊢
    rw [directWalk_right_done, ← ih, trk_ents_cons]
    show Except.ok _ = Except.ok (Res.append _ _)
    simp [Res.append, keyedTail, Nat.add_comm]
  | x :: xs, y :: ys, i => by
    have hfk : findKey [] (ents i (y :: ys)) = some (i, y) := by rw [trk_ents_cons]; rfl
    rw [List.length_cons, List.replicate_succ, keyedWalk_cons, hfk, directWalk_cons,
      trk_ents_cons, trk_ents_cons]
    simp only [pairSeg, eraseKey, if_true, trk_keyedWalk_ents cfg p sa oa xs ys (i + 1)]

theorem trk_listWalk_ents (cfg : Cfg) (p : Path) {xs ys : List Val}
    (hx : keysOf cfg p 0 xs = .ok (List.replicate xs.length [])) (hy : keysOf cfg p 0 ys = .ok (List.replicate ys.length [])) :
    listWalk cfg p xs ys = directWalk cfg p (.list .n0 xs) (.list .n0 ys) 0 xs ys := by
  cases hd : cfg.direct with
  | true => exact listWalk_direct hd
  | false =>
    rw [listWalk_keyed hd, hx, hy]
    exact trk_keyedWalk_ents cfg p _ _ xs ys 0

theorem trk_keyFieldsLeaf (cfg : Cfg) (hck : cfg.ck.pats.isEmpty = true) {x : Val}
    (h : isRecV x = true ∨ isLeaf x = true) : keyFieldsLeaf cfg x := by
  have hck' : cfg.ck.pats = [] := by simpa using hck
  cases x with
  | dict c kvs => intro f hf; rw [hck'] at hf; cases hf
  | list c xs => rcases h with h | h <;> cases h
  | _ => trivial

theorem trk_sub (cfg : Cfg) (hd : cfg.direct = false) (hck : cfg.ck.pats.isEmpty = true) (hl : LeafTransform cfg)
    (v : Val) : recOnly v = true → ∀ (site : Site) (p : Path) (w : Val), recOnly w = true → TrSub cfg site p p p v w := by
  refine tr_sub_of_lists hl (fun v => recOnly v = true) (fun c xs h => ?_) (fun c kvs h => trk_recOnlyK_mem kvs h)
    (fun p c xs c' ys hv hw hsub => ?_) v
  · simp only [recOnly, Bool.and_eq_true] at h
    exact trk_recOnlyL_mem xs h.2
  · simp only [recOnly, Bool.and_eq_true, Bool.or_eq_true, List.all_eq_true] at hv hw
    have hkx : ∀ x ∈ xs, keyFieldsLeaf cfg x := fun x hx =>
      trk_keyFieldsLeaf cfg hck (hv.1.imp (fun h => h x hx) (fun h => h x hx))
    have hky : ∀ y ∈ ys, keyFieldsLeaf cfg y := fun y hy =>
      trk_keyFieldsLeaf cfg hck (hw.1.imp (fun h => h y hy) (fun h => h y hy))
    rcases hv.1 with hxr | hxl
    · rcases hw.1 with hyr | hyl
      · -- records against records: all keys are `''` in both runs, which therefore walk by position
        have kx := trk_keysOf cfg hck p 0 xs hxr
        have ky := trk_keysOf cfg hck p 0 ys hyr
        rw [trk_listWalk_ents cfg p kx ky, trk_listWalk_ents (noTransf cfg) p
          (by rw [← ckv_keysOf_mapped cfg hl p xs 0 hkx, kx, mapTL_length])
          (by rw [← ckv_keysOf_mapped cfg hl p ys 0 hky, ky, mapTL_length])]
        exact tr_directWalk hl p _ _ _ _ xs ys 0 hsub
      · exact tr_listWalk_keyed hd hl p xs ys hkx hky
          (fun x _ y hy _ _ => tr_sub_leaf_right cfg .item _ _ _ x (hyl y hy))
    · exact tr_listWalk_keyed hd hl p xs ys hkx hky (fun x hx y _ _ _ => tr_sub_leaf cfg .item _ _ _ (hxl x hx) y)

theorem trk_keyedWalk (cfg : Cfg) (hd : cfg.direct = false) (hck : cfg.ck.pats.isEmpty = true) (hl : LeafTransform cfg)
    (p : Path) (sa oa sa' oa' : Val) (i : Nat) (xs ys : List Val)
    (hx : recOnlyL xs = true) (hy : recOnlyL ys = true) :
    TrERel (keyedWalk cfg p sa oa i xs (List.replicate xs.length []) (ents i xs) (ents i ys))
      (keyedWalk (noTransf cfg) p sa' oa' i (mapTL cfg p (transformAt cfg p) i xs)
        (List.replicate (mapTL cfg p (transformAt cfg p) i xs).length [])
        (ents i (mapTL cfg p (transformAt cfg p) i xs)) (ents i (mapTL cfg p (transformAt cfg p) i ys))) := by
  rw [trk_keyedWalk_ents, trk_keyedWalk_ents]
  exact tr_directWalk hl p sa oa sa' oa' xs ys i (fun x hx' y hy' q =>
    trk_sub cfg hd hck hl x (trk_recOnlyL_mem xs hx x hx') .item q y (trk_recOnlyL_mem ys hy y hy'))

theorem compareTop_tr_keyed (cfg : Cfg) (hd : cfg.direct = false) (hck : cfg.ck.pats.isEmpty = true)
    (hl : LeafTransform cfg) (a b : Val) (ha : recOnly a = true) (hb : recOnly b = true) :
    TrERel (compareTop cfg a b) (compareTop (noTransf cfg) (mapT cfg [] a) (mapT cfg [] b)) :=
  tr_compareTop (fun _ => trk_sub cfg hd hck hl a ha .entry [] b hb)

theorem transform_keyed_verdict (cfg : Cfg) (hd : cfg.direct = false) (hck : cfg.ck.pats.isEmpty = true)
    (hl : LeafTransform cfg) (a b : Val) (ha : recOnly a = true) (hb : recOnly b = true) :
    verdict (compareTop cfg a b) = verdict (compareTop { cfg with tr := [] } (mapT cfg [] a) (mapT cfg [] b)) :=
  tr_erel_verdict (compareTop_tr_keyed cfg hd hck hl a b ha hb)

def lowerFn : Val → Val
  | .str s => .str (Py.lower s)
  | v => v

theorem tr_leafFn_lower : TrLeafFn lowerFn :=
  ⟨fun _ _ => rfl, fun _ _ => rfl, fun v hv => by cases v <;> exact hv, .inr rfl⟩

def trCexCfg : Cfg := { Cfg.default Flags.init false with tr := [⟨['/', '/', 'a'], lowerFn⟩] }
def trCexA : Val := .dict .n0 [(['a'], .list .n0 [.str ['A']])]
def trCexB : Val := .dict .n0 [(['a'], .list .n0 [.str ['a']])]

theorem trCexCfg_leaf : LeafTransform trCexCfg :=
  tr_leafTransform_of (fun t ht => by rw [List.mem_singleton.1 ht]; exact tr_leafFn_lower)

/-- in keyed mode (`n0list.compare`) the items `'A'` and `'a'` meet (both have the key `"a"`) and nothing is
reported, as on the mapped trees -/
theorem transform_keyed_example :
    (match compareTop trCexCfg trCexA trCexB with | .ok r => r.diffs | .error _ => 1) = 0 ∧
      mapT trCexCfg [] trCexA = mapT trCexCfg [] trCexB ∧
      (match compareTop { trCexCfg with tr := [] } (mapT trCexCfg [] trCexA) (mapT trCexCfg [] trCexB) with
        | .ok r => r.diffs | .error _ => 1) = 0 := by
  decide +kernel

/-- `transform=(('//a[0]', lower),)` -/
def trNestCfg : Cfg := { Cfg.default Flags.init false with tr := [⟨['/', '/', 'a', '[', '0', ']'], lowerFn⟩] }
def trNestA : Val := .dict .n0 [(['a'], .list .n0 [.list .n0 [.str ['A']]])]
def trNestB : Val := .dict .n0 [(['a'], .list .n0 [.list .n0 [.str ['a']]])]

theorem trNestCfg_leaf : LeafTransform trNestCfg :=
  tr_leafTransform_of (fun t ht => by rw [List.mem_singleton.1 ht]; exact tr_leafFn_lower)

/-- the same pair through the direct entry point: no difference is reported -/
theorem transform_direct_example :
    (match compareTop { trCexCfg with direct := true } trCexA trCexB with | .ok r => r.diffs | .error _ => 1) = 0 := by
  decide +kernel

/-- `{'r': [{'n': 'A', 'v': 1}, {'n': 'b', 'v': 2}]}` against `{'r': [{'n': 'a', 'v': 1}, {'n': 'B', 'v': 3}, {'n': 'c'}]}`
with `('//n', lower)`: record-only lists, the names agree after the transform, one changed value, one extra record -/
def trkCfg : Cfg := { Cfg.default Flags.init false with tr := [⟨['/', '/', 'n'], lowerFn⟩] }
def trkA : Val := .dict .n0 [(['r'], .list .n0 [.dict .n0 [(['n'], .str ['A']), (['v'], .int 1)],
  .dict .n0 [(['n'], .str ['b']), (['v'], .int 2)]])]
def trkB : Val := .dict .n0 [(['r'], .list .n0 [.dict .n0 [(['n'], .str ['a']), (['v'], .int 1)],
  .dict .n0 [(['n'], .str ['B']), (['v'], .int 3)], .dict .n0 [(['n'], .str ['c'])]])]

theorem trkCfg_leaf : LeafTransform trkCfg :=
  tr_leafTransform_of (fun t ht => by rw [List.mem_singleton.1 ht]; exact tr_leafFn_lower)

theorem trk_example :
    recOnly trkA = true ∧ recOnly trkB = true ∧ trkCfg.direct = false ∧ trkCfg.ck.pats.isEmpty = true ∧
    (compareTop trkCfg trkA trkB).map (fun r => (r.diffs, r.notEqual.map (·.path), r.otherUnique.map (·.path)))
      = .ok (2, [[.key ['r'], .idx 1, .key ['v']]], [[.key ['r'], .idx 2]]) ∧
    (compareTop { trkCfg with tr := [] } trkA trkB).map (·.diffs) = .ok 4 := by
  decide +kernel

/-- `composite_key='id'`, `transform=(('//id', identity),)` -/
def trkCkCfg : Cfg := { Cfg.default Flags.init false with ck := .one ['i', 'd'], tr := [⟨['/', '/', 'i', 'd'], id⟩] }
def trkCkA : Val := .list .n0 [.dict .n0 [(['i', 'd'], .int 1)]]

theorem trkCkCfg_leaf : LeafTransform trkCkCfg :=
  tr_leafTransform_of (fun t ht => by rw [List.mem_singleton.1 ht]; exact tr_leafFn_id)

/-- a transform that returns a non-`str` for a key field (the identity on the `int` key field `id`): the transformed field goes
through the JSON text like every other value, and the run returns as the plain run on the (identical) mapped trees does -/
theorem trk_ck_fixed :
    recOnly trkCkA = true ∧ (compareTop trkCkCfg trkCkA trkCkA).map (·.diffs) = .ok 0 ∧
      mapT trkCkCfg [] trkCkA = trkCkA ∧
      (compareTop { trkCkCfg with tr := [] } (mapT trkCkCfg [] trkCkA) (mapT trkCkCfg [] trkCkA)).map (·.diffs) = .ok 0 := by
  decide +kernel

end N0.Compare
