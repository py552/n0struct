import N0Verif.Proofs.ComparePairs
/-!
Induction over the walks, through their aligned pairs: `PairInv` for a property of the result of one run that `++` keeps
(`WalkInv`: predicates on path and result only), `WalkSim` for a relation between the outcomes of two runs on the same
operands under option records that the walks read alike.  Properties located in the operands take `Located`
(`CompareFaithful`); two runs on different operands are inductions over the `_cons` equations of `CompareWalkEq`.
-/
namespace N0.Compare
open N0

/-- `a` is one of the pairs that a walk of the containers `A`, `B` aligns (under some option record) -/
def Aligned : Val → Val → AP → Prop
  | .dict _ kvs, .dict _ kvs', a => a ∈ dictPairs kvs' kvs
  | .list _ xs, .list _ ys, a => a ∈ directPairs 0 xs ys ∨ ∃ ks ko, a ∈ keyedPairs 0 xs ks (mkEntries 0 ko ys)
  | _, _, _ => False

/-- A property `Q p A B r` of the result of `sub` on the containers `A`, `B` at `p`: `++` keeps it, it holds of what a leaf
decision on an aligned pair emits and of the leftovers, and it is carried out of a pair that is entered.  The fields know a
pair only through `Aligned A B a`. -/
structure PairInv (cfg : Cfg) (Q : Path → Val → Val → Res → Prop) : Prop where
  append : ∀ {p A B a b}, Q p A B a → Q p A B b → Q p A B (a ++ b)
  none : ∀ p B, Q p .none B Res.empty
  excl : ∀ p c xs c' ys, excluded cfg p = true → Q p (.list c xs) (.list c' ys) Res.empty
  entry : ∀ {p c kvs c' kvs' k x y r s}, Aligned (.dict c kvs) (.dict c' kvs') (.key k, x, y) →
    classifyEntry cfg (p ++ [PSeg.key k]) x y = .emit r s → Q p (.dict c kvs) (.dict c' kvs') r
  item : ∀ {p c xs c' ys a sa oa r s}, Aligned (.list c xs) (.list c' ys) a → isIdx a.1 = true →
    classifyItem cfg p (p ++ [a.1]) (p ++ [a.1]) sa oa a.2.1 a.2.2 = .emit r s → Q p (.list c xs) (.list c' ys) r
  lift : ∀ {p A B a r}, Aligned A B a → Q (p ++ [a.1]) a.2.1 a.2.2 r → Q p A B r
  dictTail : ∀ p sa oa c c' kvs kvs' still, Q p (.dict c kvs) (.dict c' kvs') (dictTail cfg p sa oa kvs kvs' still)
  directRest : ∀ p c c' xs ys, Q p (.list c xs) (.list c' ys) (directRest p 0 xs ys)
  keyedTail : ∀ p c c' xs ys ks ko, cfg.direct = false →
    Q p (.list c xs) (.list c' ys) (keyedTail p (keyedLeft ks (mkEntries 0 ks xs) (mkEntries 0 ko ys)).1
      (keyedLeft ks (mkEntries 0 ks xs) (mkEntries 0 ko ys)).2)

theorem PairInv.of_sub {cfg : Cfg} {Q : Path → Val → Val → Res → Prop} (H : PairInv cfg Q) (v : Val) :
    ∀ (site : Site) (p : Path) (w : Val) (r : Res), sub cfg site p v w = .ok r → Q p v w r := by
  induction v using Val.memInduct with
  | none => intro site p w r h; rw [sub_none_left] at h; cases h; exact H.none p w
  | bool b => intro site p w r h; rw [sub_scalar_left rfl] at h; cases h
  | int b => intro site p w r h; rw [sub_scalar_left rfl] at h; cases h
  | flt b => intro site p w r h; rw [sub_scalar_left rfl] at h; cases h
  | str b => intro site p w r h; rw [sub_scalar_left rfl] at h; cases h
  | list c xs ih =>
    intro site p w r h
    by_cases hw : ∃ c' ys, w = .list c' ys
    · obtain ⟨c', ys, rfl⟩ := hw
      rw [sub_lists] at h
      by_cases h1 : site = Site.item ∧ cfg.direct = true ∧ c = Cls.plain
      · rw [if_pos h1] at h; cases h
      by_cases h2 : site = Site.item ∧ cfg.direct = true ∧ c' = Cls.plain
      · rw [if_neg h1, if_pos h2] at h; cases h
      by_cases hx : excluded cfg p = true
      · rw [if_neg h1, if_neg h2, if_pos hx] at h; cases h; exact H.excl p c xs c' ys hx
      rw [if_neg h1, if_neg h2, if_neg hx] at h
      have item : ∀ {al : List AP}, (∀ a ∈ al, Aligned (.list c xs) (.list c' ys) a ∧ isIdx a.1 = true ∧ a.2.1 ∈ xs) →
          ∀ a ∈ al.map (itemOf cfg p (.list .n0 xs) (.list .n0 ys)), ∀ r, a = .ok r → Q p (.list c xs) (.list c' ys) r := by
        intro al hal a ha r0 h0
        obtain ⟨b, hb, rfl⟩ := List.mem_map.1 ha
        obtain ⟨hA, hi, hx⟩ := hal b hb
        rcases actRes_ok (itemOf_eq .. ▸ h0) with ⟨s, hc⟩ | ⟨_, hn⟩
        · exact H.item hA hi hc
        · exact H.lift hA (ih _ hx Site.item _ _ _ hn)
      rcases listWalk_ok h with ⟨_, hr⟩ | ⟨hd, ks, ko, hks, _, hr⟩
      · rw [directWalk_pairs] at hr
        exact seqAll_inv H.append (item fun a ha => ⟨.inl ha, (directPairs_mem ha).1, (directPairs_mem ha).2.1⟩)
          (fun r0 h0 => by cases h0; exact H.directRest p c c' xs ys) r hr
      · rw [keyedWalk_pairs cfg p _ _ xs ks 0 _ _ (keysOf_length cfg p 0 xs ks hks)] at hr
        exact seqAll_inv H.append (item fun a ha => ⟨.inr ⟨ks, ko, ha⟩, (keyedPairs_mem ha).1, (keyedPairs_mem ha).2.1⟩)
          (fun r0 h0 => by cases h0; exact H.keyedTail p c c' xs ys ks ko hd) r hr
    · rw [sub_list_other fun c' ys e => hw ⟨c', ys, e⟩] at h; cases h
  | dict c kvs ih =>
    intro site p w r h
    by_cases hw : ∃ c' kvs', w = .dict c' kvs'
    · obtain ⟨c', kvs', rfl⟩ := hw
      rw [sub_dicts] at h
      by_cases h1 : site = Site.item ∧ cfg.direct = false ∧ c' = Cls.plain
      · rw [if_pos h1] at h; cases h
      rw [if_neg h1, dictWalk_pairs] at h
      refine seqAll_inv H.append ?_ (fun r0 h0 => by cases h0; exact H.dictTail ..) r h
      intro a ha r0 h0
      obtain ⟨⟨s, x, y⟩, hb, rfl⟩ := List.mem_map.1 ha
      obtain ⟨k, hk, hm, _⟩ := dictPairs_mem hb
      cases hk
      rcases actRes_ok (entryOf_eq .. ▸ h0) with ⟨s, hc⟩ | ⟨_, hn⟩
      · exact H.entry (c := c) (c' := c') hb hc
      · exact H.lift (A := .dict c kvs) (B := .dict c' kvs') hb (ih _ hm Site.entry _ _ _ hn)
    · rw [sub_dict_other fun c' kvs' e => hw ⟨c', kvs', e⟩] at h; cases h

/-- predicates on results indexed by the path of the container: `D p` of the loop over the dictionary at `p`, `L p` of a
loop over the list at `p`, `S p` of the call for the pair of containers at `p` -/
structure WalkInv (cfg : Cfg) (D L S : Path → Res → Prop) : Prop where
  appendD : ∀ {p a b}, D p a → D p b → D p (a ++ b)
  appendL : ∀ {p a b}, L p a → L p b → L p (a ++ b)
  empty : ∀ p, S p Res.empty
  ofD : ∀ {p r}, D p r → S p r
  ofL : ∀ {p r}, L p r → S p r
  nestD : ∀ {p k r}, S (p ++ [.key k]) r → D p r
  nestL : ∀ {p seg r}, isIdx seg = true → S (p ++ [seg]) r → L p r
  entry : ∀ {p k x y r s}, classifyEntry cfg (p ++ [.key k]) x y = .emit r s → D p r
  item : ∀ {p seg sa oa x y r s}, isIdx seg = true →
    classifyItem cfg p (p ++ [seg]) (p ++ [seg]) sa oa x y = .emit r s → L p r
  dictTail : ∀ p sa oa skvs okvs still, D p (dictTail cfg p sa oa skvs okvs still)
  keyedTail : ∀ p sr orr, L p (keyedTail p sr orr)
  otherTail : ∀ p i ys, L p { diffs := (otherTail p i ys).length, otherUnique := otherTail p i ys }
  selfItem : ∀ p i x, L p { diffs := 1, selfUnique := [⟨p ++ [PSeg.idx i], x⟩] }

namespace WalkInv
variable {cfg : Cfg} {D L S : Path → Res → Prop} (inv : WalkInv cfg D L S)

/-- the predicate that speaks of the result of the container `A` (`None` and an excluded list give the empty result) -/
def byKind (D L : Path → Res → Prop) (p : Path) (A : Val) (r : Res) : Prop :=
  match A with
  | .dict _ _ => D p r
  | .list _ _ => L p r ∨ r = Res.empty
  | _ => r = Res.empty

include inv

theorem of_byKind {p : Path} {A : Val} {r : Res} (h : byKind D L p A r) : S p r := by
  cases A with
  | dict _ _ => exact inv.ofD h
  | list _ _ => exact h.elim inv.ofL (fun e => e ▸ inv.empty p)
  | _ => exact h ▸ inv.empty p

theorem directRest (p : Path) : ∀ (xs ys : List Val) (i : Nat), L p (directRest p i xs ys)
  | [], ys, i => inv.otherTail p i ys
  | x :: xs, [], i => inv.appendL (inv.selfItem p i x) (directRest p xs [] (i + 1))
  | _ :: xs, _ :: ys, i => directRest p xs ys (i + 1)

theorem pairInv : PairInv cfg (fun p A _ r => byKind D L p A r) where
  append {p A B a b} ha hb := by
    cases A with
    | dict _ _ => exact inv.appendD ha hb
    | list _ _ =>
      rcases ha with ha | rfl
      · rcases hb with hb | rfl
        · exact .inl (inv.appendL ha hb)
        · rw [res_append_empty]; exact .inl ha
      · rw [res_empty_append]; exact hb
    | _ => cases ha; cases hb; exact res_empty_append _
  none _ _ := rfl
  excl _ _ _ _ _ _ := .inr rfl
  entry _ hc := inv.entry hc
  item _ hi hc := .inl (inv.item hi hc)
  lift {p A B a r} h hr := by
    have hs := inv.of_byKind hr
    cases A with
    | dict c kvs =>
      cases B with
      | dict c' kvs' => obtain ⟨k, hk, _⟩ := dictPairs_mem h; rw [hk] at hs; exact inv.nestD hs
      | _ => exact h.elim
    | list c xs =>
      cases B with
      | list c' ys =>
        refine .inl (inv.nestL ?_ hs)
        rcases h with h | ⟨ks, ko, h⟩
        · exact (directPairs_mem h).1
        · exact (keyedPairs_mem h).1
      | _ => exact h.elim
    | _ => exact h.elim
  dictTail p sa oa c c' kvs kvs' still := inv.dictTail ..
  directRest p c c' xs ys := .inl (inv.directRest p xs ys 0)
  keyedTail p c c' xs ys ks ko _ := .inl (inv.keyedTail ..)

theorem of_sub (site : Site) (p : Path) (v w : Val) (r : Res) (h : sub cfg site p v w = .ok r) : S p r :=
  inv.of_byKind (inv.pairInv.of_sub v site p w r h)

theorem of_item {p : Path} {sa oa : Val} {a : AP} {r : Res} (hi : isIdx a.1 = true)
    (h : itemOf cfg p sa oa a = .ok r) : L p r := by
  rcases actRes_ok (itemOf_eq .. ▸ h) with ⟨s, hc⟩ | ⟨_, hn⟩
  · exact inv.item hi hc
  · exact inv.nestL hi (inv.of_sub _ _ _ _ _ hn)

theorem of_dictWalk (p : Path) (sa oa : Val) (skvs okvs : List (Str × Val)) (still : Bool) (kvs : List (Str × Val))
    (r : Res) (h : dictWalk cfg p sa oa skvs okvs still kvs = .ok r) : D p r := by
  rw [dictWalk_pairs] at h
  refine seqAll_inv inv.appendD ?_ (fun r0 h0 => by cases h0; exact inv.dictTail ..) r h
  intro a ha r0 h0
  obtain ⟨⟨s, x, y⟩, hb, rfl⟩ := List.mem_map.1 ha
  obtain ⟨k, hk, _⟩ := dictPairs_mem hb
  cases hk
  rcases actRes_ok (entryOf_eq .. ▸ h0) with ⟨s, hc⟩ | ⟨_, hn⟩
  · exact inv.entry hc
  · exact inv.nestD (inv.of_sub _ _ _ _ _ hn)

theorem of_directWalk (p : Path) (sa oa : Val) (i : Nat) (xs ys : List Val) (r : Res)
    (h : directWalk cfg p sa oa i xs ys = .ok r) : L p r := by
  rw [directWalk_pairs] at h
  refine seqAll_inv inv.appendL ?_ (fun r0 h0 => by cases h0; exact inv.directRest p xs ys i) r h
  intro a ha r0 h0
  obtain ⟨b, hb, rfl⟩ := List.mem_map.1 ha
  exact inv.of_item (directPairs_mem hb).1 h0

theorem of_keyedWalk (p : Path) (sa oa : Val) (i : Nat) (xs : List Val) (ks : List Str) (sr orr : List KE) (r : Res)
    (h : keyedWalk cfg p sa oa i xs ks sr orr = .ok r) : L p r := by
  rw [keyedWalk_seqAll] at h
  refine seqAll_inv inv.appendL (fun a ha r0 h0 => ?_) (fun r0 h0 => ?_) r h
  · obtain ⟨b, hb, rfl⟩ := List.mem_map.1 ha
    exact inv.of_item (keyedPairs_mem hb).1 h0
  · obtain ⟨sr', orr', rfl, _⟩ := keyedEnd_ok p h0
    exact inv.keyedTail ..

theorem of_compareTop (a b : Val) (r : Res) (h : compareTop cfg a b = .ok r) : S [] r :=
  inv.of_sub Site.entry [] a b r (compareTop_ok h)

end WalkInv

/-- Two option records that agree on what the walks read themselves (`direct`, the keys), and a relation `Q p` between
the outcomes of the two runs at `p`; the options act through the leaf decisions and the tests on paths only.  `Pd p` / `Pl p`
are what may be assumed of the path of a dictionary (or of a pair that is entered) / of a list that is walked: `True` for
the flags and `compare_only`; for `exclude_xpaths`: `p` is not itself an excluded key path / the list at `p` is not excluded.
`Q` cannot see the `still` flag of `n0dict.compare` (`dictTail` is asked for two unrelated flags, `Act.Rel` drops the flag
of a leaf decision), which goes into the equal-lists: `WalkSim` yields statements about the difference part of the results,
never equality of outcomes; for that rewrite both runs with `dictWalk_pairs`, `directWalk_pairs`, `keyedWalk_seqAll` under
`Val.memInduct`, with `WalkSim.of_sub` as the skeleton. -/
structure WalkSim (cfg cfg' : Cfg) (Pd Pl : Path → Prop) (Q : Path → Except PyErr Res → Except PyErr Res → Prop) : Prop where
  direct : cfg'.direct = cfg.direct
  keys : ∀ p i xs, keysOf cfg' p i xs = keysOf cfg p i xs
  error : ∀ p e, Q p (.error e) (.error e)
  empty : ∀ p, Q p (.ok Res.empty) (.ok Res.empty)
  seq : ∀ {p a a' b b'}, Q p a a' → Q p b b' → Q p (seqR a b) (seqR a' b')
  lists : ∀ p xs ys, Pd p → (Pl p → Q p (listWalk cfg p xs ys) (listWalk cfg' p xs ys)) →
    Q p (if excluded cfg p then .ok Res.empty else listWalk cfg p xs ys)
      (if excluded cfg' p then .ok Res.empty else listWalk cfg' p xs ys)
  dictTail : ∀ p sa oa skvs okvs s s', Pd p →
    Q p (.ok (dictTail cfg p sa oa skvs okvs s)) (.ok (dictTail cfg' p sa oa skvs okvs s'))
  keyedTail : ∀ p sr orr, Pl p → Q p (.ok (keyedTail p sr orr)) (.ok (keyedTail p sr orr))
  otherTail : ∀ p i ys, Pl p → Q p (.ok { diffs := (otherTail p i ys).length, otherUnique := otherTail p i ys })
    (.ok { diffs := (otherTail p i ys).length, otherUnique := otherTail p i ys })
  selfItem : ∀ p i x, Pl p → Q p (.ok { diffs := 1, selfUnique := [⟨p ++ [PSeg.idx i], x⟩] })
    (.ok { diffs := 1, selfUnique := [⟨p ++ [PSeg.idx i], x⟩] })
  entry : ∀ p k x y, Pd p →
    (Pd (p ++ [PSeg.key k]) → Q (p ++ [PSeg.key k]) (sub cfg .entry (p ++ [PSeg.key k]) x y)
      (sub cfg' .entry (p ++ [PSeg.key k]) x y)) →
    Q p (entryOf cfg p (.key k, x, y)) (entryOf cfg' p (.key k, x, y))
  item : ∀ p seg sa oa x y, isIdx seg = true → Pl p →
    (Pd (p ++ [seg]) → Q (p ++ [seg]) (sub cfg .item (p ++ [seg]) x y) (sub cfg' .item (p ++ [seg]) x y)) →
    Q p (itemOf cfg p sa oa (seg, x, y)) (itemOf cfg' p sa oa (seg, x, y))

namespace WalkSim
variable {cfg cfg' : Cfg} {Pd Pl : Path → Prop} {Q : Path → Except PyErr Res → Except PyErr Res → Prop}
  (sim : WalkSim cfg cfg' Pd Pl Q)
include sim

abbrev Sub (_ : WalkSim cfg cfg' Pd Pl Q) (x : Val) : Prop :=
  ∀ (site : Site) (p : Path) (w : Val), Pd p → Q p (sub cfg site p x w) (sub cfg' site p x w)

theorem directRest (p : Path) (hp : Pl p) : ∀ (xs ys : List Val) (i : Nat),
    Q p (.ok (directRest p i xs ys)) (.ok (directRest p i xs ys))
  | [], ys, i => sim.otherTail p i ys hp
  | x :: xs, [], i => sim.seq (sim.selfItem p i x hp) (directRest p hp xs [] (i + 1))
  | _ :: xs, _ :: ys, i => directRest p hp xs ys (i + 1)

theorem dictWalk_of {kvs : List (Str × Val)} (hk : ∀ kv ∈ kvs, sim.Sub kv.2) (p : Path) (sa oa : Val)
    (skvs okvs : List (Str × Val)) (still still' : Bool) (hp : Pd p) :
    Q p (dictWalk cfg p sa oa skvs okvs still kvs) (dictWalk cfg' p sa oa skvs okvs still' kvs) := by
  rw [dictWalk_pairs, dictWalk_pairs]
  refine seqAll_rel sim.seq (sim.dictTail _ _ _ _ _ _ _ hp) fun a ha => ?_
  obtain ⟨k, hk', hm, _⟩ := dictPairs_mem ha
  obtain ⟨s, x, y⟩ := a
  cases hk'
  exact sim.entry p k x y hp (hk _ hm Site.entry _ _)

theorem items_of {xs : List Val} (hx : ∀ x ∈ xs, sim.Sub x) (p : Path) (sa oa : Val) (hp : Pl p) {al : List AP}
    (hal : ∀ a ∈ al, isIdx a.1 = true ∧ a.2.1 ∈ xs) {t : Except PyErr Res} (ht : Q p t t) :
    Q p (seqAll (al.map (itemOf cfg p sa oa)) t) (seqAll (al.map (itemOf cfg' p sa oa)) t) :=
  seqAll_rel sim.seq ht fun a ha => sim.item p a.1 sa oa a.2.1 a.2.2 (hal a ha).1 hp (hx _ (hal a ha).2 Site.item _ _)

theorem directWalk_of {xs : List Val} (hx : ∀ x ∈ xs, sim.Sub x) (p : Path) (sa oa : Val) (i : Nat) (ys : List Val)
    (hp : Pl p) : Q p (directWalk cfg p sa oa i xs ys) (directWalk cfg' p sa oa i xs ys) := by
  rw [directWalk_pairs, directWalk_pairs]
  exact sim.items_of hx p sa oa hp (fun a ha => ⟨(directPairs_mem ha).1, (directPairs_mem ha).2.1⟩)
    (sim.directRest p hp xs ys i)

theorem keyedWalk_of {xs : List Val} (hx : ∀ x ∈ xs, sim.Sub x) (p : Path) (sa oa : Val) (i : Nat) (ks : List Str)
    (sr orr : List KE) (hp : Pl p) :
    Q p (keyedWalk cfg p sa oa i xs ks sr orr) (keyedWalk cfg' p sa oa i xs ks sr orr) := by
  rw [keyedWalk_seqAll, keyedWalk_seqAll]
  refine sim.items_of hx p sa oa hp (fun a ha => ⟨(keyedPairs_mem ha).1, (keyedPairs_mem ha).2.1⟩) ?_
  cases he : keyedEnd p xs ks sr orr with
  | error e => exact sim.error p e
  | ok r => obtain ⟨sr', orr', rfl, _⟩ := keyedEnd_ok p he; exact sim.keyedTail p sr' orr' hp

theorem of_sub (v : Val) : sim.Sub v := by
  induction v using Val.memInduct with
  | none => intro _ p _ _; rw [sub_none_left, sub_none_left]; exact sim.empty p
  | bool _ => intro _ _ _ _; rw [sub_scalar_left rfl, sub_scalar_left rfl]; exact sim.error _ _
  | int _ => intro _ _ _ _; rw [sub_scalar_left rfl, sub_scalar_left rfl]; exact sim.error _ _
  | flt _ => intro _ _ _ _; rw [sub_scalar_left rfl, sub_scalar_left rfl]; exact sim.error _ _
  | str _ => intro _ _ _ _; rw [sub_scalar_left rfl, sub_scalar_left rfl]; exact sim.error _ _
  | list c xs ih =>
    intro site p w hp
    by_cases hw : ∃ c' ys, w = .list c' ys
    · obtain ⟨c', ys, rfl⟩ := hw
      rw [sub_lists, sub_lists, sim.direct]
      refine ite_rel (fun _ => sim.error _ _) (fun _ => ite_rel (fun _ => sim.error _ _) (fun _ => ?_))
      refine sim.lists p xs ys hp (fun hl => ?_)
      unfold listWalk
      rw [sim.direct, sim.keys, sim.keys]
      refine ite_rel (fun _ => sim.directWalk_of ih p _ _ 0 ys hl) (fun _ => ?_)
      cases keysOf cfg p 0 xs with
      | error e => exact sim.error _ e
      | ok ks =>
        cases keysOf cfg p 0 ys with
        | error e => exact sim.error _ e
        | ok ko => exact sim.keyedWalk_of ih p _ _ 0 ks _ _ hl
    · have hn : ∀ c' ys, w ≠ .list c' ys := fun c' ys e => hw ⟨c', ys, e⟩
      rw [sub_list_other hn, sub_list_other hn]; exact sim.error _ _
  | dict c kvs ih =>
    intro site p w hp
    by_cases hw : ∃ c' kvs', w = .dict c' kvs'
    · obtain ⟨c', kvs', rfl⟩ := hw
      rw [sub_dicts, sub_dicts, sim.direct]
      exact ite_rel (fun _ => sim.error _ _) (fun _ => sim.dictWalk_of ih p _ _ kvs kvs' true true hp)
    · have hn : ∀ c' kvs', w ≠ .dict c' kvs' := fun c' kvs' e => hw ⟨c', kvs', e⟩
      rw [sub_dict_other hn, sub_dict_other hn]; exact sim.error _ _

theorem of_dictWalk (p : Path) (sa oa : Val) (skvs okvs : List (Str × Val)) (still still' : Bool)
    (kvs : List (Str × Val)) (hp : Pd p) :
    Q p (dictWalk cfg p sa oa skvs okvs still kvs) (dictWalk cfg' p sa oa skvs okvs still' kvs) :=
  sim.dictWalk_of (fun kv _ => sim.of_sub kv.2) p sa oa skvs okvs still still' hp

theorem of_directWalk (p : Path) (sa oa : Val) (i : Nat) (xs ys : List Val) (hp : Pl p) :
    Q p (directWalk cfg p sa oa i xs ys) (directWalk cfg' p sa oa i xs ys) :=
  sim.directWalk_of (fun x _ => sim.of_sub x) p sa oa i ys hp

theorem of_keyedWalk (p : Path) (sa oa : Val) (i : Nat) (xs : List Val) (ks : List Str) (sr orr : List KE)
    (hp : Pl p) : Q p (keyedWalk cfg p sa oa i xs ks sr orr) (keyedWalk cfg' p sa oa i xs ks sr orr) :=
  sim.keyedWalk_of (fun x _ => sim.of_sub x) p sa oa i ks sr orr hp

theorem of_compareTop (a b : Val) (hp : Pd []) : Q [] (compareTop cfg a b) (compareTop cfg' a b) := by
  unfold compareTop
  split
  · split
    · exact sim.of_dictWalk [] _ _ _ _ true true _ hp
    · exact sim.error _ _
  · split
    · exact sim.of_sub _ Site.entry [] _ hp
    · exact sim.error _ _
  · exact sim.error _ _

end WalkSim

end N0.Compare
