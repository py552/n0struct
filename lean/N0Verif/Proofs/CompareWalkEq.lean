import N0Verif.Model.Compare
/-!
The compare engine of `Model/Compare.lean` without unfolding its four walks (one mutual structural recursion over `Val`):
every branch of `sub`, `dictWalk`, `directWalk`, `keyedWalk` as a rewrite rule on `seqR` (`update_extend` of two outcomes);
later proofs unfold a walk only at `[]` (the mutual blocks of `CompareFrame`, `ComparePerm`) and in `dt_two_by_two`.
-/
namespace N0.Compare
open N0

/-- `update_extend` of two results, propagating exceptions (left first) -/
def seqR (a b : Except PyErr Res) : Except PyErr Res :=
  match a with
  | .error e => .error e
  | .ok r =>
    match b with
    | .error e => .error e
    | .ok r' => .ok (r ++ r')

@[simp] theorem append_diffs (a b : Res) : (a ++ b).diffs = a.diffs + b.diffs := rfl
@[simp] theorem append_notEqual (a b : Res) : (a ++ b).notEqual = a.notEqual ++ b.notEqual := rfl
@[simp] theorem append_selfUnique (a b : Res) : (a ++ b).selfUnique = a.selfUnique ++ b.selfUnique := rfl
@[simp] theorem append_otherUnique (a b : Res) : (a ++ b).otherUnique = a.otherUnique ++ b.otherUnique := rfl
@[simp] theorem append_diffTypes (a b : Res) : (a ++ b).diffTypes = a.diffTypes ++ b.diffTypes := rfl
@[simp] theorem append_selfEqual (a b : Res) : (a ++ b).selfEqual = a.selfEqual ++ b.selfEqual := rfl
@[simp] theorem append_otherEqual (a b : Res) : (a ++ b).otherEqual = a.otherEqual ++ b.otherEqual := rfl

@[simp] theorem empty_diffs : Res.empty.diffs = 0 := rfl

theorem res_empty_append (r : Res) : Res.empty ++ r = r := by
  show Res.append Res.empty r = r
  cases r
  simp [Res.append, Res.empty]

theorem res_append_empty (r : Res) : r ++ Res.empty = r := by
  show Res.append r Res.empty = r
  cases r
  simp [Res.append, Res.empty]

theorem res_append_assoc (a b c : Res) : (a ++ b) ++ c = a ++ (b ++ c) := by
  show Res.append (Res.append a b) c = Res.append a (Res.append b c)
  simp [Res.append, Nat.add_assoc, List.append_assoc]

theorem seqR_ok {a b : Except PyErr Res} {r : Res} (h : seqR a b = .ok r) :
    ∃ r1 r2, a = .ok r1 ∧ b = .ok r2 ∧ r = r1 ++ r2 := by
  cases a with
  | error e => cases h
  | ok r1 =>
    cases b with
    | error e => cases h
    | ok r2 => cases h; exact ⟨r1, r2, rfl, rfl, rfl⟩

theorem seqR_assoc (a b c : Except PyErr Res) : seqR (seqR a b) c = seqR a (seqR b c) := by
  cases a <;> cases b <;> cases c <;> simp [seqR, res_append_assoc]

theorem seqR_empty_left (b : Except PyErr Res) : seqR (.ok Res.empty) b = b := by
  cases b <;> simp [seqR, res_empty_append]

/-- for the guards of `sub` in two runs and the tests of a leaf decision under two flag records -/
theorem ite_rel {α β : Sort _} {R : α → β → Prop} {c : Prop} [Decidable c] {a b : α} {a' b' : β}
    (ht : c → R a a') (he : ¬c → R b b') : R (if c then a else b) (if c then a' else b') := by
  by_cases h : c
  · rw [if_pos h, if_pos h]; exact ht h
  · rw [if_neg h, if_neg h]; exact he h

/-- one-directional: an exception of the first run says nothing about the second -/
def LiftOk (R : Res → Res → Prop) (A A' : Except PyErr Res) : Prop :=
  ∀ r, A = .ok r → ∃ r', A' = .ok r' ∧ R r r'

theorem LiftOk.ok {R : Res → Res → Prop} {r r' : Res} (h : R r r') : LiftOk R (.ok r) (.ok r') :=
  fun _ hr => by cases hr; exact ⟨r', rfl, h⟩

theorem LiftOk.error {R : Res → Res → Prop} (e : PyErr) (A' : Except PyErr Res) : LiftOk R (.error e) A' :=
  fun _ hr => by cases hr

theorem LiftOk.seq {R : Res → Res → Prop} (hR : ∀ {a a' b b'}, R a a' → R b b' → R (a ++ b) (a' ++ b'))
    {a a' b b' : Except PyErr Res} (h1 : LiftOk R a a') (h2 : LiftOk R b b') : LiftOk R (seqR a b) (seqR a' b') := by
  intro r hr
  obtain ⟨r1, r2, rfl, rfl, rfl⟩ := seqR_ok hr
  obtain ⟨r1', rfl, hf1⟩ := h1 r1 rfl
  obtain ⟨r2', rfl, hf2⟩ := h2 r2 rfl
  exact ⟨r1' ++ r2', rfl, hR hf1 hf2⟩

/-- the segment the keyed walk appends for the pair of positions `(i, j)` -/
abbrev pairSeg (i j : Nat) : PSeg := if i = j then .idx i else .idx2 i j

/-- a pair of lists that passed the class tests and is not excluded: positional or keyed walk -/
def listWalk (cfg : Cfg) (p : Path) (xs ys : List Val) : Except PyErr Res :=
  if cfg.direct then directWalk cfg p (.list .n0 xs) (.list .n0 ys) 0 xs ys
  else
    match keysOf cfg p 0 xs with
    | .error e => .error e
    | .ok ks =>
      match keysOf cfg p 0 ys with
      | .error e => .error e
      | .ok ko => keyedWalk cfg p (.list .n0 xs) (.list .n0 ys) 0 xs ks (mkEntries 0 ks xs) (mkEntries 0 ko ys)

/-- what one pair of list items contributes: `actRes` of the leaf decision and the nested call (`itemRes_eq`); `itemOf` /
`entryOf` (`ComparePairs`) are this at an aligned pair -/
def itemRes (cfg : Cfg) (p pne pdt : Path) (sa oa x y : Val) : Except PyErr Res :=
  match classifyItem cfg p pne pdt sa oa x y with
  | .emit r _ => .ok r
  | .descend => sub cfg .item pne x y

section equations
/-! Every argument of an equation occurs on its left side: all are implicit, `rw` finds them. -/
variable {cfg : Cfg} {site : Site} {p : Path} {sa oa : Val} {skvs okvs : List (Str × Val)} {still : Bool} {i : Nat}
  {sr orr : List KE}

theorem sub_lists {c c' : Cls} {xs ys : List Val} :
    sub cfg site p (.list c xs) (.list c' ys) =
      if site = .item ∧ cfg.direct = true ∧ c = .plain then .error .AttributeError
      else if site = .item ∧ cfg.direct = true ∧ c' = .plain then .error .TypeError
      else if excluded cfg p then .ok Res.empty
      else listWalk cfg p xs ys := by
  rw [sub]; rfl

theorem sub_dicts {c c' : Cls} {kvs kvs' : List (Str × Val)} :
    sub cfg site p (.dict c kvs) (.dict c' kvs') =
      if site = .item ∧ cfg.direct = false ∧ c' = .plain then .error .TypeError
      else dictWalk cfg p (.dict .n0 kvs) (.dict .n0 kvs') kvs kvs' true kvs := by
  rw [sub]

theorem sub_none_left {w : Val} : sub cfg site p .none w = .ok Res.empty := by
  rw [sub]

theorem sub_scalar_left {v w : Val} (h : isPyScalar v = true) :
    sub cfg site p v w = .error .TypeError := by
  cases v with
  | none => cases h
  | list c xs => cases h
  | dict c kvs => cases h
  | _ => rfl

theorem sub_list_other {c : Cls} {xs : List Val} {w : Val} (h : ∀ c' ys, w ≠ .list c' ys) : sub cfg site p (.list c xs) w = .error .Unsupported := by
  cases w with
  | list c' ys => exact absurd rfl (h c' ys)
  | _ => rfl

theorem sub_dict_other {c : Cls} {kvs : List (Str × Val)} {w : Val} (h : ∀ c' kvs', w ≠ .dict c' kvs') : sub cfg site p (.dict c kvs) w = .error .Unsupported := by
  cases w with
  | dict c' kvs' => exact absurd rfl (h c' kvs')
  | _ => rfl

theorem listWalk_direct (hd : cfg.direct = true) {xs ys : List Val} :
    listWalk cfg p xs ys = directWalk cfg p (.list .n0 xs) (.list .n0 ys) 0 xs ys := by
  rw [listWalk, if_pos hd]

theorem listWalk_keyed (hd : cfg.direct = false) {xs ys : List Val} :
    listWalk cfg p xs ys =
      match keysOf cfg p 0 xs with
      | .error e => .error e
      | .ok ks =>
        match keysOf cfg p 0 ys with
        | .error e => .error e
        | .ok ko => keyedWalk cfg p (.list .n0 xs) (.list .n0 ys) 0 xs ks (mkEntries 0 ks xs) (mkEntries 0 ko ys) := by
  rw [listWalk, if_neg (by rw [hd]; exact Bool.false_ne_true)]

theorem dictWalk_done :
    dictWalk cfg p sa oa skvs okvs still [] = .ok (dictTail cfg p sa oa skvs okvs still) := by
  rw [dictWalk]

theorem dictWalk_skip {k : Str} {v : Val} {rest : List (Str × Val)} (h : Val.lookup k okvs = none) :
    dictWalk cfg p sa oa skvs okvs still ((k, v) :: rest) = dictWalk cfg p sa oa skvs okvs still rest := by
  rw [dictWalk, h]

theorem directWalk_left_done {ys : List Val} :
    directWalk cfg p sa oa i [] ys =
      .ok { diffs := (otherTail p i ys).length, otherUnique := otherTail p i ys } := by
  rw [directWalk]

theorem directWalk_right_done {x : Val} {xs : List Val} :
    directWalk cfg p sa oa i (x :: xs) [] =
      seqR (.ok { diffs := 1, selfUnique := [⟨p ++ [.idx i], x⟩] }) (directWalk cfg p sa oa (i + 1) xs []) := by
  rw [directWalk]; rfl

theorem keyedWalk_done {ks : List Str} :
    keyedWalk cfg p sa oa i [] ks sr orr = .ok (keyedTail p sr orr) := by
  rw [keyedWalk]

theorem keyedWalk_noKey {x : Val} {xs : List Val} :
    keyedWalk cfg p sa oa i (x :: xs) [] sr orr = .error .OutOfFuel := by
  rw [keyedWalk]

theorem keyedWalk_skip {x : Val} {xs : List Val} {k : Str} {ks : List Str} (h : findKey k orr = none) :
    keyedWalk cfg p sa oa i (x :: xs) (k :: ks) sr orr = keyedWalk cfg p sa oa (i + 1) xs ks sr orr := by
  rw [keyedWalk, h]

end equations

/-- shows the leaf decision, unlike the two list rules: what is emitted also updates `still` (`still && s`);
`dictWalk_pairs` is the form without -/
theorem dictWalk_cons (cfg : Cfg) (p : Path) (sa oa : Val) (skvs okvs : List (Str × Val)) (still : Bool)
    (k : Str) (v : Val) (rest : List (Str × Val)) :
    dictWalk cfg p sa oa skvs okvs still ((k, v) :: rest) =
      match Val.lookup k okvs with
      | none => dictWalk cfg p sa oa skvs okvs still rest
      | some w =>
        match classifyEntry cfg (p ++ [.key k]) v w with
        | .emit r s => seqR (.ok r) (dictWalk cfg p sa oa skvs okvs (still && s) rest)
        | .descend => seqR (sub cfg .entry (p ++ [.key k]) v w) (dictWalk cfg p sa oa skvs okvs still rest) := by
  rw [dictWalk]
  cases Val.lookup k okvs with
  | none => rfl
  | some w =>
    simp only
    cases classifyEntry cfg (p ++ [.key k]) v w <;> rfl

theorem directWalk_cons (cfg : Cfg) (p : Path) (sa oa : Val) (i : Nat) (x y : Val) (xs ys : List Val) :
    directWalk cfg p sa oa i (x :: xs) (y :: ys) =
      seqR (itemRes cfg p (p ++ [.idx i]) (p ++ [.idx i]) sa oa x y)
        (directWalk cfg p sa oa (i + 1) xs ys) := by
  rw [directWalk, itemRes]
  cases classifyItem cfg p (p ++ [.idx i]) (p ++ [.idx i]) sa oa x y <;> rfl

theorem keyedWalk_cons (cfg : Cfg) (p : Path) (sa oa : Val) (i : Nat) (x : Val) (xs : List Val)
    (k : Str) (ks : List Str) (sr orr : List KE) :
    keyedWalk cfg p sa oa i (x :: xs) (k :: ks) sr orr =
      match findKey k orr with
      | none => keyedWalk cfg p sa oa (i + 1) xs ks sr orr
      | some (j, y) =>
        seqR (itemRes cfg p (p ++ [pairSeg i j]) (p ++ [pairSeg i j]) sa oa x y)
          (keyedWalk cfg p sa oa (i + 1) xs ks (eraseKey k sr) (eraseKey k orr)) := by
  rw [keyedWalk]
  cases findKey k orr with
  | none => rfl
  | some jy =>
    simp only [itemRes]
    cases classifyItem cfg p (p ++ [pairSeg i jy.1]) (p ++ [pairSeg i jy.1]) sa oa x jy.2 <;> rfl

theorem sub_lists_n0 {cfg : Cfg} (site : Site) {p : Path} (he : excluded cfg p = false) (xs ys : List Val) :
    sub cfg site p (.list .n0 xs) (.list .n0 ys) = listWalk cfg p xs ys := by
  rw [sub_lists, if_neg (fun h => nomatch h.2.2), if_neg (fun h => nomatch h.2.2), he]; rfl

theorem listWalk_ok {cfg : Cfg} {p : Path} {xs ys : List Val} {r : Res} (h : listWalk cfg p xs ys = .ok r) :
    (cfg.direct = true ∧ directWalk cfg p (.list .n0 xs) (.list .n0 ys) 0 xs ys = .ok r) ∨
    (cfg.direct = false ∧ ∃ ks ko, keysOf cfg p 0 xs = .ok ks ∧ keysOf cfg p 0 ys = .ok ko ∧
      keyedWalk cfg p (.list .n0 xs) (.list .n0 ys) 0 xs ks (mkEntries 0 ks xs) (mkEntries 0 ko ys) = .ok r) := by
  cases hd : cfg.direct with
  | true => rw [listWalk_direct hd] at h; exact .inl ⟨rfl, h⟩
  | false =>
    rw [listWalk_keyed hd] at h
    cases hk : keysOf cfg p 0 xs with
    | error e => rw [hk] at h; cases h
    | ok ks =>
      cases hk' : keysOf cfg p 0 ys with
      | error e => rw [hk, hk'] at h; cases h
      | ok ko => rw [hk, hk'] at h; exact .inr ⟨rfl, ks, ko, rfl, rfl, h⟩

/-- both roots are `n0dict`s, or both are `n0list`s (else `compareTop` gives `TypeError`, or `Unsupported` for a left root that
is neither) -/
def RootPair : Val → Val → Prop
  | .dict .n0 _, .dict .n0 _ => True
  | .list .n0 _, .list .n0 _ => True
  | _, _ => False

theorem rootPair_cases {a b : Val} (h : RootPair a b) :
    (∃ kvs kvs', a = .dict .n0 kvs ∧ b = .dict .n0 kvs') ∨ (∃ xs ys, a = .list .n0 xs ∧ b = .list .n0 ys) := by
  unfold RootPair at h
  split at h
  · exact .inl ⟨_, _, rfl, rfl⟩
  · exact .inr ⟨_, _, rfl, rfl⟩
  · cases h

theorem compareTop_eq_sub (cfg : Cfg) (a b : Val) (h : RootPair a b) :
    compareTop cfg a b = sub cfg .entry [] a b := by
  rcases rootPair_cases h with ⟨kvs, kvs', rfl, rfl⟩ | ⟨xs, ys, rfl, rfl⟩
  · rw [sub_dicts, if_neg (fun hg => nomatch hg.1)]; rfl
  · rfl

theorem rootPair_ty {a b : Val} (h : RootPair a b) : tyOf a = tyOf b ∧ isPyScalar a = false := by
  rcases rootPair_cases h with ⟨kvs, kvs', rfl, rfl⟩ | ⟨xs, ys, rfl, rfl⟩ <;> exact ⟨rfl, rfl⟩

theorem rootPair_of_ok {cfg : Cfg} {a b : Val} {r : Res} (h : compareTop cfg a b = .ok r) : RootPair a b := by
  unfold compareTop at h
  split at h
  · split at h
    · trivial
    · cases h
  · split at h
    · trivial
    · cases h
  · cases h

theorem compareTop_error (cfg : Cfg) {a b : Val} (h : ¬ RootPair a b) : ∃ e, compareTop cfg a b = .error e := by
  cases hc : compareTop cfg a b with
  | error e => exact ⟨e, rfl⟩
  | ok r => exact absurd (rootPair_of_ok hc) h

theorem compareTop_ok {cfg : Cfg} {a b : Val} {r : Res} (h : compareTop cfg a b = .ok r) :
    sub cfg .entry [] a b = .ok r := by
  rw [← compareTop_eq_sub cfg a b (rootPair_of_ok h)]
  exact h

theorem RootPair.symm {a b : Val} (h : RootPair a b) : RootPair b a := by
  unfold RootPair at h ⊢
  split at h
  · trivial
  · trivial
  · exact h.elim

/-! ### leaf decisions

`itemCore` / `entryCore` are the classifiers with the transformed values and the option tests as arguments (`_core`: `rfl`).
Three descriptions, each proved along the `if`s of the core: `_emitShape` says WHAT an emitted result looks like (paths,
filters, counts); `_emit` what is emitted and WHY (statements about the values shown); `_eq` gives the decision as a
function of the judgement `leafOf` — for two runs on different operands: show that `leafOf` agrees, then rewrite. -/

theorem isPyScalar_eq (x : Val) :
    isPyScalar x = (match tyOf x with | .bool | .int | .flt | .str => true | _ => false) := by
  cases x <;> rfl

theorem tyOf_scalar_eq {x y : Val} (h : tyOf x = tyOf y) : isPyScalar x = isPyScalar y := by
  rw [isPyScalar_eq x, isPyScalar_eq y, h]

def itemCore (fl : Flags) (sv ov : Val) (pne pdt : Path) (sa oa x y : Val) : Act :=
  if tyOf sv = tyOf ov then
    if isPyScalar sv then
      if sv ≠ ov then .emit { diffs := 1, notEqual := [⟨pne, x, y, .lst, fl.delta⟩] } false
      else if fl.equal then .emit { selfEqual := [sa], otherEqual := [oa] } true
      else .emit Res.empty true
    else .descend
  else if fl.types then .emit { diffs := 1, diffTypes := [⟨pdt, x, y⟩] } false
  else .emit { diffs := 1, notEqual := [⟨pne, x, y, .tup, false⟩] } false

theorem classifyItem_core (cfg : Cfg) (p pne pdt : Path) (sa oa x y : Val) :
    classifyItem cfg p pne pdt sa oa x y =
      itemCore cfg.fl (transformAt cfg p x) (transformAt cfg p y) pne pdt sa oa x y := rfl

def entryCore (fl : Flags) (ex on : Bool) (sv ov : Val) (full : Path) (x y : Val) : Act :=
  if ex then .emit Res.empty true
  else
    if tyOf sv = tyOf ov then
      if isPyScalar sv then
        if sv ≠ ov ∧ on then .emit { diffs := 1, notEqual := [⟨full, x, y, .lst, fl.delta⟩] } false
        else .emit Res.empty true
      else .descend
    else if on then
      if fl.types then .emit { diffs := 1, diffTypes := [⟨full, x, y⟩] } false
      else .emit { diffs := 1, notEqual := [⟨full, x, y, .tup, false⟩] } false
    else .emit Res.empty true

theorem classifyEntry_core (cfg : Cfg) (full : Path) (x y : Val) :
    classifyEntry cfg full x y =
      entryCore cfg.fl (excluded cfg full) (onlyOk cfg full) (transformAt cfg full x) (transformAt cfg full y) full x y := rfl

/-- one line with one entry (a not-equal pair at `pne` or a type clash at `pdt`), or no line and no entry -/
def EmitShape (pne pdt : Path) (x y : Val) (r : Res) : Prop :=
  (∃ k d, r = { diffs := 1, notEqual := [⟨pne, x, y, k, d⟩] }) ∨ r = { diffs := 1, diffTypes := [⟨pdt, x, y⟩] } ∨
    ∃ se oe, r = { selfEqual := se, otherEqual := oe }

def ActP (P : Res → Prop) : Act → Prop
  | .emit r _ => P r
  | .descend => True

theorem ActP.of_emit {P : Res → Prop} {a : Act} {r : Res} {s : Bool} (h : ActP P a) (ha : a = .emit r s) : P r := by
  subst ha
  exact h

abbrev ActEmit (pne pdt : Path) (x y : Val) : Act → Prop := ActP (EmitShape pne pdt x y)

/- `iteInduction`: what holds of both branches holds of the `if`; the proofs follow the `if`s of the definition. -/
theorem itemCore_actEmit (fl : Flags) (sv ov : Val) (pne pdt : Path) (sa oa x y : Val) :
    ActEmit pne pdt x y (itemCore fl sv ov pne pdt sa oa x y) := by
  unfold itemCore
  refine iteInduction (fun _ => ?_) (fun _ => ?_)
  · refine iteInduction (fun _ => ?_) (fun _ => trivial)
    refine iteInduction (fun _ => .inl ⟨_, _, rfl⟩) (fun _ => ?_)
    exact iteInduction (fun _ => .inr (.inr ⟨_, _, rfl⟩)) (fun _ => .inr (.inr ⟨_, _, rfl⟩))
  · exact iteInduction (fun _ => .inr (.inl rfl)) (fun _ => .inl ⟨_, _, rfl⟩)

theorem entryCore_actEmit (fl : Flags) (ex on : Bool) (sv ov : Val) (full : Path) (x y : Val) :
    ActEmit full full x y (entryCore fl ex on sv ov full x y) := by
  unfold entryCore
  refine iteInduction (fun _ => .inr (.inr ⟨_, _, rfl⟩)) (fun _ => ?_)
  refine iteInduction (fun _ => ?_) (fun _ => ?_)
  · refine iteInduction (fun _ => ?_) (fun _ => trivial)
    exact iteInduction (fun _ => .inl ⟨_, _, rfl⟩) (fun _ => .inr (.inr ⟨_, _, rfl⟩))
  · refine iteInduction (fun _ => ?_) (fun _ => .inr (.inr ⟨_, _, rfl⟩))
    exact iteInduction (fun _ => .inr (.inl rfl)) (fun _ => .inl ⟨_, _, rfl⟩)

theorem classifyItem_emitShape {cfg : Cfg} {p pne pdt : Path} {sa oa x y : Val} {r : Res} {s : Bool}
    (h : classifyItem cfg p pne pdt sa oa x y = .emit r s) : EmitShape pne pdt x y r :=
  (itemCore_actEmit cfg.fl _ _ pne pdt sa oa x y).of_emit h

theorem classifyEntry_emitShape {cfg : Cfg} {full : Path} {x y : Val} {r : Res} {s : Bool}
    (h : classifyEntry cfg full x y = .emit r s) : EmitShape full full x y r :=
  (entryCore_actEmit cfg.fl _ _ _ _ full x y).of_emit h

/-! Both classifiers judge the pair of transformed values in the same way (`leafOf`) and differ only in what they emit. -/

/-- how a pair of (transformed) values is judged: scalars of one type that differ / that are equal, containers of
one type (the pair is entered), values of different types -/
inductive Leaf | differ | same | enter | clash

def leafOf (sv ov : Val) : Leaf :=
  if tyOf sv = tyOf ov then
    if isPyScalar sv then (if sv ≠ ov then .differ else .same) else .enter
  else .clash

theorem leafOf_comm (x y : Val) : leafOf y x = leafOf x y := by
  unfold leafOf
  by_cases ht : tyOf x = tyOf y
  · rw [if_pos ht, if_pos ht.symm, ← tyOf_scalar_eq ht]
    by_cases hs : isPyScalar x = true
    · rw [if_pos hs, if_pos hs]
      by_cases hxy : x = y
      · rw [if_neg (not_not_intro hxy), if_neg (not_not_intro hxy.symm)]
      · rw [if_pos hxy, if_pos (fun h => hxy h.symm)]
    · rw [if_neg hs, if_neg hs]
  · rw [if_neg ht, if_neg (fun h => ht h.symm)]

theorem leafOf_enter {x y : Val} (h : leafOf x y = .enter) : tyOf x = tyOf y ∧ isPyScalar x = false := by
  unfold leafOf at h
  by_cases ht : tyOf x = tyOf y
  · rw [if_pos ht] at h
    by_cases hs : isPyScalar x = true
    · rw [if_pos hs] at h
      by_cases hxy : x ≠ y
      · rw [if_pos hxy] at h; cases h
      · rw [if_neg hxy] at h; cases h
    · exact ⟨ht, Bool.eq_false_iff.2 hs⟩
  · rw [if_neg ht] at h; cases h

theorem itemCore_leaf (fl : Flags) (sv ov : Val) (pne pdt : Path) (sa oa x y : Val) :
    itemCore fl sv ov pne pdt sa oa x y =
      match leafOf sv ov with
      | .differ => .emit { diffs := 1, notEqual := [⟨pne, x, y, .lst, fl.delta⟩] } false
      | .same => if fl.equal then .emit { selfEqual := [sa], otherEqual := [oa] } true else .emit Res.empty true
      | .enter => .descend
      | .clash =>
        if fl.types then .emit { diffs := 1, diffTypes := [⟨pdt, x, y⟩] } false
        else .emit { diffs := 1, notEqual := [⟨pne, x, y, .tup, false⟩] } false := by
  unfold itemCore leafOf
  by_cases ht : tyOf sv = tyOf ov
  · rw [if_pos ht, if_pos ht]
    by_cases hs : isPyScalar sv = true
    · rw [if_pos hs, if_pos hs]
      by_cases hne : sv ≠ ov
      · rw [if_pos hne, if_pos hne]
      · rw [if_neg hne, if_neg hne]
    · rw [if_neg hs, if_neg hs]
  · rw [if_neg ht, if_neg ht]

theorem classifyItem_eq (cfg : Cfg) (p pne pdt : Path) (sa oa x y : Val) :
    classifyItem cfg p pne pdt sa oa x y =
      match leafOf (transformAt cfg p x) (transformAt cfg p y) with
      | .differ => .emit { diffs := 1, notEqual := [⟨pne, x, y, .lst, cfg.fl.delta⟩] } false
      | .same => if cfg.fl.equal then .emit { selfEqual := [sa], otherEqual := [oa] } true else .emit Res.empty true
      | .enter => .descend
      | .clash =>
        if cfg.fl.types then .emit { diffs := 1, diffTypes := [⟨pdt, x, y⟩] } false
        else .emit { diffs := 1, notEqual := [⟨pne, x, y, .tup, false⟩] } false :=
  itemCore_leaf cfg.fl _ _ pne pdt sa oa x y

theorem entryCore_leaf (fl : Flags) (ex on : Bool) (sv ov : Val) (full : Path) (x y : Val) :
    entryCore fl ex on sv ov full x y =
      if ex then .emit Res.empty true
      else
        match leafOf sv ov with
        | .differ =>
          if on then .emit { diffs := 1, notEqual := [⟨full, x, y, .lst, fl.delta⟩] } false
          else .emit Res.empty true
        | .same => .emit Res.empty true
        | .enter => .descend
        | .clash =>
          if on then
            if fl.types then .emit { diffs := 1, diffTypes := [⟨full, x, y⟩] } false
            else .emit { diffs := 1, notEqual := [⟨full, x, y, .tup, false⟩] } false
          else .emit Res.empty true := by
  unfold entryCore leafOf
  by_cases hx : ex = true
  · rw [if_pos hx, if_pos hx]
  rw [if_neg hx, if_neg hx]
  by_cases ht : tyOf sv = tyOf ov
  · rw [if_pos ht, if_pos ht]
    by_cases hs : isPyScalar sv = true
    · rw [if_pos hs, if_pos hs]
      by_cases hne : sv ≠ ov
      · rw [if_pos hne]
        by_cases ho : on = true
        · rw [if_pos ⟨hne, ho⟩]
          exact (if_pos ho).symm
        · rw [if_neg (fun h => ho h.2)]
          exact (if_neg ho).symm
      · rw [if_neg hne, if_neg (fun h => hne h.1)]
    · rw [if_neg hs, if_neg hs]
  · rw [if_neg ht, if_neg ht]

theorem classifyEntry_eq (cfg : Cfg) (full : Path) (x y : Val) :
    classifyEntry cfg full x y =
      if excluded cfg full then .emit Res.empty true
      else
        match leafOf (transformAt cfg full x) (transformAt cfg full y) with
        | .differ =>
          if onlyOk cfg full then .emit { diffs := 1, notEqual := [⟨full, x, y, .lst, cfg.fl.delta⟩] } false
          else .emit Res.empty true
        | .same => .emit Res.empty true
        | .enter => .descend
        | .clash =>
          if onlyOk cfg full then
            if cfg.fl.types then .emit { diffs := 1, diffTypes := [⟨full, x, y⟩] } false
            else .emit { diffs := 1, notEqual := [⟨full, x, y, .tup, false⟩] } false
          else .emit Res.empty true :=
  entryCore_leaf cfg.fl _ _ _ _ full x y

theorem itemCore_emit (fl : Flags) (sv ov : Val) (pne pdt : Path) (sa oa x y : Val) :
    ActP (fun r =>
        (r = { diffs := 1, notEqual := [⟨pne, x, y, .lst, fl.delta⟩] } ∧ sv ≠ ov) ∨
        (r = { selfEqual := [sa], otherEqual := [oa] } ∨ r = Res.empty) ∨
        (r = { diffs := 1, diffTypes := [⟨pdt, x, y⟩] } ∧ fl.types = true ∧ tyOf sv ≠ tyOf ov) ∨
        (r = { diffs := 1, notEqual := [⟨pne, x, y, .tup, false⟩] } ∧ fl.types = false ∧ tyOf sv ≠ tyOf ov))
      (itemCore fl sv ov pne pdt sa oa x y) := by
  unfold itemCore
  refine iteInduction (fun _ => ?_) (fun ht => ?_)
  · refine iteInduction (fun _ => ?_) (fun _ => trivial)
    refine iteInduction (fun hne => .inl ⟨rfl, hne⟩) (fun _ => ?_)
    exact iteInduction (fun _ => .inr (.inl (.inl rfl))) (fun _ => .inr (.inl (.inr rfl)))
  · exact iteInduction (fun hf => .inr (.inr (.inl ⟨rfl, hf, ht⟩)))
      (fun hf => .inr (.inr (.inr ⟨rfl, Bool.eq_false_iff.2 hf, ht⟩)))

theorem entryCore_emit (fl : Flags) (ex on : Bool) (sv ov : Val) (full : Path) (x y : Val) :
    ActP (fun r =>
        (r = { diffs := 1, notEqual := [⟨full, x, y, .lst, fl.delta⟩] } ∧ sv ≠ ov) ∨
        r = Res.empty ∨
        (r = { diffs := 1, diffTypes := [⟨full, x, y⟩] } ∧ fl.types = true ∧ tyOf sv ≠ tyOf ov) ∨
        (r = { diffs := 1, notEqual := [⟨full, x, y, .tup, false⟩] } ∧ fl.types = false ∧ tyOf sv ≠ tyOf ov))
      (entryCore fl ex on sv ov full x y) := by
  unfold entryCore
  refine iteInduction (fun _ => .inr (.inl rfl)) (fun _ => ?_)
  refine iteInduction (fun _ => ?_) (fun ht => ?_)
  · refine iteInduction (fun _ => ?_) (fun _ => trivial)
    exact iteInduction (fun hne => .inl ⟨rfl, hne.1⟩) (fun _ => .inr (.inl rfl))
  · refine iteInduction (fun _ => ?_) (fun _ => .inr (.inl rfl))
    exact iteInduction (fun hf => .inr (.inr (.inl ⟨rfl, hf, ht⟩)))
      (fun hf => .inr (.inr (.inr ⟨rfl, Bool.eq_false_iff.2 hf, ht⟩)))

theorem classifyItem_emit {cfg : Cfg} {p pne pdt : Path} {sa oa x y : Val} {r : Res} {s : Bool}
    (h : classifyItem cfg p pne pdt sa oa x y = .emit r s) :
    (r = { diffs := 1, notEqual := [⟨pne, x, y, .lst, cfg.fl.delta⟩] } ∧
      transformAt cfg p x ≠ transformAt cfg p y) ∨
    (r = { selfEqual := [sa], otherEqual := [oa] } ∨ r = Res.empty) ∨
    (r = { diffs := 1, diffTypes := [⟨pdt, x, y⟩] } ∧ cfg.fl.types = true ∧
      tyOf (transformAt cfg p x) ≠ tyOf (transformAt cfg p y)) ∨
    (r = { diffs := 1, notEqual := [⟨pne, x, y, .tup, false⟩] } ∧ cfg.fl.types = false ∧
      tyOf (transformAt cfg p x) ≠ tyOf (transformAt cfg p y)) :=
  (itemCore_emit cfg.fl _ _ pne pdt sa oa x y).of_emit h

theorem classifyEntry_emit {cfg : Cfg} {full : Path} {x y : Val} {r : Res} {s : Bool}
    (h : classifyEntry cfg full x y = .emit r s) :
    (r = { diffs := 1, notEqual := [⟨full, x, y, .lst, cfg.fl.delta⟩] } ∧
      transformAt cfg full x ≠ transformAt cfg full y) ∨
    r = Res.empty ∨
    (r = { diffs := 1, diffTypes := [⟨full, x, y⟩] } ∧ cfg.fl.types = true ∧
      tyOf (transformAt cfg full x) ≠ tyOf (transformAt cfg full y)) ∨
    (r = { diffs := 1, notEqual := [⟨full, x, y, .tup, false⟩] } ∧ cfg.fl.types = false ∧
      tyOf (transformAt cfg full x) ≠ tyOf (transformAt cfg full y)) :=
  (entryCore_emit cfg.fl _ _ _ _ full x y).of_emit h

theorem leftover_val (cfg : Cfg) (p : Path) (k : Str) (v : Val) (g : Val → Val) :
    leftover cfg p (k, g v) = (leftover cfg p (k, v)).map (fun e => ⟨e.path, g e.v⟩) := by
  simp only [leftover]; split <;> rfl

theorem transformAt_cases (cfg : Cfg) (p : Path) : transformAt cfg p = id ∨ ∃ t ∈ cfg.tr, transformAt cfg p = t.f := by
  unfold transformAt transformAtStr
  split
  · exact .inl rfl
  · split
    · rename_i i t ht
      exact .inr ⟨t, List.mem_of_getElem? ht, rfl⟩
    · exact .inl rfl

theorem transformAt_noTr {cfg : Cfg} (h : cfg.tr = []) (p : Path) : transformAt cfg p = id :=
  (transformAt_cases cfg p).resolve_right fun ⟨_, ht, _⟩ => by simp [h] at ht

/-- the key fields of a record when `transform` is empty -/
def recFields (kvs : List (Str × Val)) : List Str → List (Str × Val) → List (Str × Val)
  | [], acc => acc
  | key :: rest, acc =>
    match Val.lookup key kvs with
    | none => recFields kvs rest acc
    | some v => recFields kvs rest (setField key v acc)

/-- the composite key of a list element when `transform` is empty: the pure key, a function of the item alone -/
def keyP (cfg : Cfg) : Val → Str
  | .dict _ kvs => fieldsKey (recFields kvs cfg.ck.pats [])
  | v => jsonVal v

theorem recordFields_pure {cfg : Cfg} (htr : cfg.tr = []) (q : Path) (kvs : List (Str × Val)) :
    ∀ (fs : List Str) (acc : List (Str × Val)), recordFields cfg q kvs fs acc = recFields kvs fs acc
  | [], acc => by simp [recordFields, recFields]
  | f :: fs, acc => by
    simp only [recordFields, recFields, transformAt_noTr htr, id]
    cases Val.lookup f kvs with
    | none => exact recordFields_pure htr q kvs fs acc
    | some v => exact recordFields_pure htr q kvs fs _

theorem keyOf_pure {cfg : Cfg} (htr : cfg.tr = []) (p : Path) (i : Nat) (x : Val) :
    keyOf cfg p i x = .ok (keyP cfg x) := by
  cases x <;> simp only [keyOf, keyP, transformAt_noTr htr, id]
  rw [recordFields_pure htr]

theorem keysOf_pure {cfg : Cfg} (htr : cfg.tr = []) (p : Path) :
    ∀ (i : Nat) (xs : List Val), keysOf cfg p i xs = .ok (xs.map (keyP cfg))
  | _, [] => rfl
  | i, x :: xs => by simp only [keysOf, keyOf_pure htr p i x, keysOf_pure htr p (i + 1) xs, List.map_cons]

theorem keysOf_noTr {cfg : Cfg} (htr : cfg.tr = []) (p q : Path) (i j : Nat) (xs : List Val) :
    keysOf cfg p i xs = keysOf cfg q j xs := by
  rw [keysOf_pure htr, keysOf_pure htr]

/-! the keys read only `transform` and `composite_key` of the option record (`keysOf_congr`) -/

theorem transformAt_congr {c c' : Cfg} (htr : c.tr = c'.tr) (p : Path) : transformAt c p = transformAt c' p := by
  unfold transformAt transformAtStr
  rw [htr]

theorem recordFields_congr (c c' : Cfg) (htr : c.tr = c'.tr) (q : Path) (kvs : List (Str × Val)) :
    ∀ (ks : List Str) (acc : List (Str × Val)), recordFields c q kvs ks acc = recordFields c' q kvs ks acc
  | [], acc => rfl
  | key :: rest, acc => by
    rw [recordFields, recordFields, transformAt_congr htr]
    cases Val.lookup key kvs with
    | none => exact recordFields_congr c c' htr q kvs rest acc
    | some v => exact recordFields_congr c c' htr q kvs rest _

theorem keyOf_congr (c c' : Cfg) (htr : c.tr = c'.tr) (hck : c.ck = c'.ck) (p : Path) (i : Nat) (x : Val) :
    keyOf c p i x = keyOf c' p i x := by
  cases x with
  | dict _ kvs => rw [keyOf, keyOf, hck, recordFields_congr c c' htr]
  | _ => simp only [keyOf, transformAt_congr htr]

/-- (as a rewrite rule it fires for ONE list: a goal with the keys of both operands takes it twice) -/
theorem keysOf_congr (c c' : Cfg) (htr : c.tr = c'.tr) (hck : c.ck = c'.ck) (p : Path) :
    ∀ (i : Nat) (xs : List Val), keysOf c p i xs = keysOf c' p i xs
  | _, [] => rfl
  | i, x :: xs => by
    rw [keysOf, keysOf, keyOf_congr c c' htr hck, keysOf_congr c c' htr hck p (i + 1) xs]

theorem keysOf_length (cfg : Cfg) (p : Path) : ∀ (i : Nat) (xs : List Val) (ks : List Str),
    keysOf cfg p i xs = .ok ks → ks.length = xs.length
  | _, [], ks, h => by simp only [keysOf] at h; cases h; rfl
  | i, x :: xs, ks, h => by
    simp only [keysOf] at h
    cases hk : keyOf cfg p i x with
    | error e => rw [hk] at h; cases h
    | ok k =>
      rw [hk] at h
      simp only at h
      cases hr : keysOf cfg p (i + 1) xs with
      | error e => rw [hr] at h; cases h
      | ok ks' =>
        rw [hr] at h; cases h
        simp [keysOf_length cfg p (i + 1) xs ks' hr]

theorem mkEntries_keys : ∀ (ks : List Str) (xs : List Val) (i : Nat), ks.length = xs.length →
    (mkEntries i ks xs).map (·.1) = ks
  | [], [], _, _ => rfl
  | [], _ :: _, _, h => by simp at h
  | _ :: _, [], _, h => by simp at h
  | k :: ks, x :: xs, i, h => by
    simp only [mkEntries, List.map_cons]
    rw [mkEntries_keys ks xs (i + 1) (Nat.succ.inj h)]

theorem otherTail_mem (p : Path) : ∀ (ys : List Val) (i : Nat) (e : UE), e ∈ otherTail p i ys →
    ∃ n, e.path = p ++ [.idx (i + n)] ∧ ys[n]? = some e.v
  | [], _, _, h => nomatch h
  | y :: ys, i, e, h => by
    rw [otherTail] at h
    rcases List.mem_cons.1 h with rfl | h
    · exact ⟨0, rfl, rfl⟩
    · obtain ⟨n, hp, hg⟩ := otherTail_mem p ys (i + 1) e h
      exact ⟨n + 1, by rw [hp, Nat.add_assoc, Nat.add_comm 1 n], hg⟩

theorem hasKey_of_mem (kvs : List (Str × Val)) (k : Str) (v : Val) (h : (k, v) ∈ kvs) : hasKey k kvs = true :=
  Val.lookup_isSome_of_mem h

/-- no key occurs twice (true of every Python `dict`), stated with `hasKey` as the walks test it; `N0.Xml.keysNodup` is
another function under the same name -/
def keysNodup : List (Str × Val) → Bool
  | [] => true
  | (k, _) :: rest => !hasKey k rest && keysNodup rest

theorem lookup_of_mem (kvs : List (Str × Val)) (k : Str) (v : Val) (hn : keysNodup kvs = true) (h : (k, v) ∈ kvs) :
    Val.lookup k kvs = some v :=
  Val.lookup_of_mem (U := fun l => keysNodup l = true) (fun k v rest hu => by simpa [keysNodup, hasKey] using hu) hn h

theorem findKey_mem : ∀ (orr : List KE) (k : Str) (j : Nat) (y : Val), findKey k orr = some (j, y) →
    ∃ k', (k', j, y) ∈ orr
  | [], _, _, _, h => by simp [findKey] at h
  | (k', i, v) :: rest, k, j, y, h => by
    simp only [findKey] at h
    split at h
    · cases h; exact ⟨k', List.mem_cons_self ..⟩
    · obtain ⟨k'', hm⟩ := findKey_mem rest k j y h
      exact ⟨k'', List.mem_cons_of_mem _ hm⟩

theorem eraseKey_sub : ∀ (l : List KE) (k : Str) (e : KE), e ∈ eraseKey k l → e ∈ l
  | [], _, _, h => by simp [eraseKey] at h
  | (k', i, v) :: rest, k, e, h => by
    simp only [eraseKey] at h
    split at h
    · exact List.mem_cons_of_mem _ h
    · cases h with
      | head => exact List.mem_cons_self ..
      | tail _ h' => exact List.mem_cons_of_mem _ (eraseKey_sub rest k e h')

theorem findKey_eraseKey_ne {k k' : Str} (hne : k' ≠ k) :
    ∀ l : List KE, findKey k' (eraseKey k l) = findKey k' l
  | [] => rfl
  | (k0, i, v) :: rest => by
    simp only [eraseKey]
    by_cases h0 : k = k0
    · subst h0
      simp [findKey, hne]
    · simp only [h0, ↓reduceIte, findKey, findKey_eraseKey_ne hne rest]

theorem findKey_none_ne {k : Str} : ∀ {l : List KE}, findKey k l = none → ∀ e ∈ l, e.1 ≠ k
  | [], _, e, he => by cases he
  | (k0, i, v) :: rest, h, e, he => by
    simp only [findKey] at h
    split at h
    · cases h
    · cases he with
      | head => intro hh; simp_all
      | tail _ he' => exact findKey_none_ne h e he'

theorem eraseKey_append_hit {k : Str} (i : Nat) (x : Val) (rest : List KE) :
    ∀ U : List KE, (∀ e ∈ U, e.1 ≠ k) → eraseKey k (U ++ (k, i, x) :: rest) = U ++ rest
  | [], _ => by simp [eraseKey]
  | (k0, j, v) :: U, h => by
    have h0 : k ≠ k0 := fun hh => h (k0, j, v) (List.mem_cons_self) hh.symm
    simp only [List.cons_append, eraseKey, h0, ↓reduceIte]
    rw [eraseKey_append_hit i x rest U (fun e he => h e (List.mem_cons_of_mem _ he))]

theorem eraseKey_keys (k : Str) : ∀ l : List KE, (eraseKey k l).map (·.1) = (l.map (·.1)).erase k
  | [] => rfl
  | (k', i, v) :: rest => by
    simp only [eraseKey, List.map_cons]
    by_cases h : k = k'
    · subst h; simp
    · have h' : ¬ k' = k := fun e => h e.symm
      simp only [h, if_false, List.map_cons, eraseKey_keys k rest]
      rw [List.erase_cons_tail (by simpa using h')]

theorem eraseKey_keys_sublist (k : Str) (l : List KE) : ((eraseKey k l).map (·.1)).Sublist (l.map (·.1)) := by
  rw [eraseKey_keys]
  exact List.erase_sublist

theorem mkEntries_mem_val : ∀ (ks : List Str) (xs : List Val) (i : Nat), ∀ e ∈ mkEntries i ks xs, e.2.2 ∈ xs
  | [], _, _, e, he => by simp [mkEntries] at he
  | _ :: _, [], _, e, he => by simp [mkEntries] at he
  | k :: ks, x :: xs, i, e, he => by
    simp only [mkEntries, List.mem_cons] at he
    rcases he with rfl | he
    · exact List.mem_cons_self ..
    · exact List.mem_cons_of_mem _ (mkEntries_mem_val ks xs (i + 1) e he)

/-- a position in a list (`[i]` or `[i]<>[j]`), not a dictionary key -/
def isIdx : PSeg → Bool | .key _ => false | _ => true

theorem isIdx_pairSeg (i j : Nat) : isIdx (pairSeg i j) = true := by
  unfold pairSeg; split <;> rfl

end N0.Compare
