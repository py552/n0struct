import N0Verif.Gen.CompositeKeysPy
/-!
`Gen/CompositeKeysPy.lean`, the record branch of `generate_composite_keys`, is regenerated from the Python text by
`harness/translate_py_keys.py`; it is equal to `Compare.recordFields` / `fieldsKey` for every option record, path and record,
hence to `keyOf` on dictionaries and to `keysOf` on lists of records (the other branches are not translated).
-/
namespace N0.Gen.CompositeKeysPy
open N0 N0.Compare

theorem ckList_eq (ck : PatArg) : ckList ck = ck.pats := by
  cases ck <;> rfl

theorem attrs_eq (tr : List Tr) : attrs tr = tr.map (·.pat) := by
  unfold attrs
  cases tr <;> simp

/-- the lookup-and-apply of the translated code is the model's `transformAtStr` -/
theorem applyTr_eq (cfg : Cfg) (s : Str) (v : Val) :
    (if xpathMatchFrom s 0 (cfg.tr.map (·.pat)) != 0
      then callTr cfg.tr (xpathMatchFrom s 0 (cfg.tr.map (·.pat)) - 1) v else v) = transformAtStr cfg s v := by
  unfold transformAtStr callTr
  cases h : xpathMatchFrom s 0 (cfg.tr.map (·.pat)) with
  | zero => simp
  | succ n =>
    simp only [Nat.add_sub_cancel]
    cases cfg.tr[n]? <;> simp

theorem step_eq (cfg : Cfg) (q : Path) (kvs acc : List (Str × Val)) (key : Str) :
    RecordKey.step cfg.tr (cfg.tr.map (·.pat)) q kvs acc key =
      (match Val.lookup key kvs with
       | none => acc
       | some v => setField key (transformAt cfg (q ++ [.key key]) v) acc) := by
  unfold RecordKey.step hasKey getItem itemFieldPath
  cases h : Val.lookup key kvs with
  | none => simp
  | some v =>
    simp only [Option.isSome_some, if_true, Option.getD_some, transformAt]
    rw [← applyTr_eq cfg (render (q ++ [PSeg.key key])) v]
    split <;> rfl

theorem foldl_eq (cfg : Cfg) (q : Path) (kvs : List (Str × Val)) (keys : List Str) (acc : List (Str × Val)) :
    List.foldl (RecordKey.step cfg.tr (cfg.tr.map (·.pat)) q kvs) acc keys = recordFields cfg q kvs keys acc := by
  induction keys generalizing acc with
  | nil => rfl
  | cons k ks ih =>
    rw [List.foldl_cons, ih, step_eq]
    conv => rhs; unfold recordFields
    cases Val.lookup k kvs <;> rfl

theorem fieldsKey_eq (fs : List (Str × Val)) :
    (if (!(List.isEmpty fs)) then jsonVal (.dict .plain fs) else ([] : Str)) = fieldsKey fs := by
  cases fs <;> rfl

/-- **the translated record branch computes the model's record key**, for every option record, path and record -/
theorem recordKey_eq (cfg : Cfg) (q : Path) (kvs : List (Str × Val)) :
    recordKey cfg.ck cfg.tr q kvs = fieldsKey (recordFields cfg q kvs cfg.ck.pats []) := by
  unfold recordKey recordKeyOf
  simp only [ckList_eq, attrs_eq, foldl_eq, fieldsKey_eq]
  cases cfg.ck.pats <;> rfl

theorem keyOf_dict_eq (cfg : Cfg) (p : Path) (i : Nat) (o : Cls) (kvs : List (Str × Val)) :
    keyOf cfg p i (.dict o kvs) = .ok (recordKey cfg.ck cfg.tr (p ++ [.idx i]) kvs) := by
  rw [recordKey_eq]; rfl

/-- the records of a list (`enumerate(input_list)`, all items dictionaries), keyed by the translated code -/
def recordKeys (cfg : Cfg) (p : Path) : Nat → List (Cls × List (Str × Val)) → List Str
  | _, [] => []
  | i, r :: rs => recordKey cfg.ck cfg.tr (p ++ [.idx i]) r.2 :: recordKeys cfg p (i + 1) rs

theorem keysOf_records_eq (cfg : Cfg) (p : Path) (i : Nat) (rs : List (Cls × List (Str × Val))) :
    keysOf cfg p i (rs.map (fun r => Val.dict r.1 r.2)) = .ok (recordKeys cfg p i rs) := by
  induction rs generalizing i with
  | nil => rfl
  | cons r rs ih =>
    simp only [List.map_cons, keysOf, keyOf_dict_eq, ih, recordKeys]

end N0.Gen.CompositeKeysPy
