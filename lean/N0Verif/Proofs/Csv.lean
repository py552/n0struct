import N0Verif.Model.Csv
import N0Verif.Py.Lemmas
/-!
  `parse_complex_csv_line` on generated lines.  `rowStr d q f fs` is a row written under ANY quoting decision `q` that quotes
  at least what must be quoted (`Adequate`): one induction (`run_row`) carries the parser over it and gives `parse_rowStr`,
  which C13 instantiates at the library's generator and at `csv.writer`.
  The vocabulary of the statements of `Props/C13.lean` (`GoodDelim`, `IsEol`, `parse_rowStr`, the adequacy lemmas) is in its
  namespace `N0.C13`; lemmas about the model's parser are in the model's `N0.Csv`.
-/
namespace N0.C13
open N0 N0.Py

def GoodDelim (d : Char) : Prop := d ≠ '"' ∧ d ≠ '\r' ∧ d ≠ '\n'

/-- the property's line endings (none, LF, CRLF) and every other string of CR/LF characters -/
def IsEol (e : Str) : Prop := ∀ c ∈ e, c = '\r' ∨ c = '\n'

end N0.C13

namespace N0.Csv
open N0 N0.Py N0.C13

def NoBreak (f : Str) : Prop := '\r' ∉ f ∧ '\n' ∉ f

theorem rstrip_crlf_append (body t : Str) (hb : NoBreak body) (ht : IsEol t) :
    rstrip crlf (body ++ t) = body := by
  apply rstrip_append_of_all
  · intro c hc
    rcases ht c hc with h | h <;> simp [crlf, h]
  · intro c hc
    have hmem : c ∈ body := List.mem_of_getLast? hc
    have h1 : c ≠ '\r' := fun h => hb.1 (h ▸ hmem)
    have h2 : c ≠ '\n' := fun h => hb.2 (h ▸ hmem)
    simp [crlf, h1, h2]

/-! ### `step` on the states a run can reach -/

theorem step_delim (d : Char) (st : St) (h : st.qb = false ∨ st.ex = true) :
    step d st d = .ok { field := [], out := st.out ++ [st.field], qb := false, ex := false } := by
  simp [step, h]

theorem step_open (d : Char) (hd : d ≠ '"') (o : List Str) :
    step d { field := [], out := o, qb := false, ex := false } '"'
      = .ok { field := [], out := o, qb := true, ex := false } := by
  simp [step, hd.symm]

/-- outside quotes a quote that is not the first character of the field is an ordinary character -/
theorem step_plain {d c : Char} (hcd : c ≠ d) (f : Str) (o : List Str) (h : c ≠ '"' ∨ f ≠ []) :
    step d { field := f, out := o, qb := false, ex := false } c
      = .ok { field := f ++ [c], out := o, qb := false, ex := false } := by
  rcases h with h | h
  · simp [step, hcd, h]
  · simp [step, hcd, h]

theorem step_inQuoted (d : Char) {c : Char} (hc : c ≠ '"') (f : Str) (o : List Str) :
    step d { field := f, out := o, qb := true, ex := false } c
      = .ok { field := f ++ [c], out := o, qb := true, ex := false } := by
  simp [step, hc]

theorem step_quote_inQuoted (d : Char) (hd : d ≠ '"') (f : Str) (o : List Str) :
    step d { field := f, out := o, qb := true, ex := false } '"'
      = .ok { field := f, out := o, qb := true, ex := true } := by
  simp [step, hd.symm]

theorem step_quote_afterQuote (d : Char) (hd : d ≠ '"') (f : Str) (o : List Str) :
    step d { field := f, out := o, qb := true, ex := true } '"'
      = .ok { field := f ++ ['"'], out := o, qb := true, ex := false } := by
  simp [step, hd.symm]

theorem step_afterQuote_error {d c : Char} (hcd : c ≠ d) (hc : c ≠ '"') (f : Str) (o : List Str) :
    step d { field := f, out := o, qb := true, ex := true } c = .error .ValueError := by
  simp [step, hcd, hc]

/-- the one `raise` of the loop body is the `ValueError` after a closing quote -/
theorem step_error {d : Char} {st : St} {c : Char} {e : PyErr} (h : step d st c = .error e) :
    e = .ValueError := by
  unfold step at h
  by_cases h1 : c = d ∧ (st.qb = false ∨ st.ex = true)
  · rw [if_pos h1] at h
    cases h
  · rw [if_neg h1] at h
    by_cases h2 : c = '"'
    · rw [if_pos h2] at h
      by_cases h3 : st.field.isEmpty ∧ st.qb = false
      · rw [if_pos h3] at h
        cases h
      · rw [if_neg h3] at h
        cases hq : st.qb <;> cases hx : st.ex <;> rw [hq, hx] at h <;> cases h
    · rw [if_neg h2] at h
      cases hx : st.ex <;> rw [hx] at h <;> cases h
      rfl

theorem run_cons_ok {d : Char} {st st' : St} {c : Char} (h : step d st c = .ok st') (s : Str) :
    run d st (c :: s) = run d st' s := by
  simp [run, h, bind, Except.bind]

theorem run_cons_error {d : Char} {st : St} {c : Char} {e : PyErr} (h : step d st c = .error e)
    (s : Str) : run d st (c :: s) = .error e := by
  simp [run, h, bind, Except.bind]

theorem run_error {d : Char} {st : St} {s : Str} {e : PyErr} (h : run d st s = .error e) :
    e = .ValueError := by
  induction s generalizing st with
  | nil => cases h
  | cons c s ih =>
    cases hs : step d st c with
    | error e' =>
      rw [run_cons_error hs] at h
      cases h
      exact step_error hs
    | ok st' =>
      rw [run_cons_ok hs] at h
      exact ih h

theorem run_eq_foldlM (d : Char) (st : St) (s : Str) : run d st s = s.foldlM (step d) st := by
  induction s generalizing st <;> simp only [run, List.foldlM_cons, *] <;> rfl

theorem run_append (d : Char) (st : St) (a b : Str) :
    run d st (a ++ b) = (run d st a) >>= (fun st' => run d st' b) := by
  simp only [run_eq_foldlM, List.foldlM_append]

/-- what `quoted` (Model/Csv, written inline there) puts between the outer quotes -/
def body (f : Str) : Str := f.flatMap (fun c => if c = '"' then ['"', '"'] else [c])

theorem quoted_eq (f : Str) : quoted f = '"' :: (body f ++ ['"']) := rfl

theorem body_cons (c : Char) (f : Str) :
    body (c :: f) = (if c = '"' then ['"', '"'] else [c]) ++ body f := rfl

theorem run_body (d : Char) (hd : d ≠ '"') (pre : Str) (o : List Str) (f rest : Str) :
    run d { field := pre, out := o, qb := true, ex := false } (body f ++ rest)
      = run d { field := pre ++ f, out := o, qb := true, ex := false } rest := by
  induction f generalizing pre with
  | nil => simp [body]
  | cons c f ih =>
    rw [body_cons]
    by_cases hc : c = '"'
    · subst hc
      -- a doubled quote: the first sets the flag, the second is kept
      simp only [↓reduceIte, List.cons_append, List.nil_append]
      rw [run_cons_ok (step_quote_inQuoted d hd pre o), run_cons_ok (step_quote_afterQuote d hd pre o),
        ih, List.append_assoc]
      rfl
    · simp only [hc, ↓reduceIte, List.cons_append, List.nil_append]
      rw [run_cons_ok (step_inQuoted d hc pre o), ih, List.append_assoc]
      rfl

theorem run_quoted (d : Char) (hd : d ≠ '"') (o : List Str) (f rest : Str) :
    run d { field := [], out := o, qb := false, ex := false } (quoted f ++ rest)
      = run d { field := f, out := o, qb := true, ex := true } rest := by
  rw [quoted_eq]
  simp only [List.cons_append, List.append_assoc]
  rw [run_cons_ok (step_open d hd o), run_body d hd]
  simp only [List.nil_append]
  rw [run_cons_ok (step_quote_inQuoted d hd f o)]

theorem run_plain_aux (d : Char) (o : List Str) (pre f rest : Str)
    (hnd : d ∉ f) (hq : pre = [] → f.head? ≠ some '"') :
    run d { field := pre, out := o, qb := false, ex := false } (f ++ rest)
      = run d { field := pre ++ f, out := o, qb := false, ex := false } rest := by
  induction f generalizing pre with
  | nil => simp
  | cons c f ih =>
    have hcd : c ≠ d := fun h => hnd (by simp [h])
    have hnd' : d ∉ f := fun h => hnd (by simp [h])
    have hc : c ≠ '"' ∨ pre ≠ [] := by
      by_cases h : pre = []
      · exact .inl (fun hc => hq h (by simp [hc]))
      · exact .inr h
    rw [List.cons_append, run_cons_ok (step_plain hcd pre o hc), ih (pre ++ [c]) hnd' (by simp),
      List.append_assoc]
    rfl

theorem run_plain (d : Char) (o : List Str) (f rest : Str)
    (hnd : d ∉ f) (hq : f.head? ≠ some '"') :
    run d { field := [], out := o, qb := false, ex := false } (f ++ rest)
      = run d { field := f, out := o, qb := false, ex := false } rest := by
  simpa using run_plain_aux d o [] f rest hnd (fun _ => hq)

/-- the decision quotes at least what must be quoted; `needsQuote_adequate` / `writer_adequate` applied to a cell say
that this cell IS quoted -/
def Adequate (d : Char) (q : Str → Bool) : Prop :=
  ∀ f, (d ∈ f ∨ f.head? = some '"') → q f = true

theorem run_field_delim (d : Char) (hd : d ≠ '"') (q : Str → Bool) (hq : Adequate d q)
    (o : List Str) (f rest : Str) :
    run d { field := [], out := o, qb := false, ex := false } (encWith q f ++ d :: rest)
      = run d { field := [], out := o ++ [f], qb := false, ex := false } rest := by
  unfold encWith
  by_cases h : q f = true
  · rw [if_pos h, run_quoted d hd, run_cons_ok (step_delim d _ (.inr rfl))]
  · have h1 : d ∉ f := fun hm => h (hq f (Or.inl hm))
    have h2 : f.head? ≠ some '"' := fun hm => h (hq f (Or.inr hm))
    rw [if_neg h, run_plain d o f _ h1 h2, run_cons_ok (step_delim d _ (.inl rfl))]

/-- the last field: the run stops outside quotes (`b = false`) or after the closing quote (`b = true`) -/
theorem run_field_end (d : Char) (hd : d ≠ '"') (q : Str → Bool) (hq : Adequate d q)
    (o : List Str) (f : Str) :
    ∃ b, run d { field := [], out := o, qb := false, ex := false } (encWith q f)
      = .ok { field := f, out := o, qb := b, ex := b } := by
  unfold encWith
  by_cases h : q f = true
  · refine ⟨true, ?_⟩
    have := run_quoted d hd o f []
    rw [List.append_nil] at this
    rw [if_pos h, this]
    rfl
  · have h1 : d ∉ f := fun hm => h (hq f (Or.inl hm))
    have h2 : f.head? ≠ some '"' := fun hm => h (hq f (Or.inr hm))
    refine ⟨false, ?_⟩
    have := run_plain d o f [] h1 h2
    rw [List.append_nil] at this
    rw [if_neg h, this]
    rfl

def rowStr (d : Char) (q : Str → Bool) : Str → List Str → Str
  | f, [] => encWith q f
  | f, g :: gs => encWith q f ++ d :: rowStr d q g gs

theorem run_row (d : Char) (hd : d ≠ '"') (q : Str → Bool) (hq : Adequate d q)
    (o : List Str) (f : Str) (fs : List Str) :
    ∃ st, run d { field := [], out := o, qb := false, ex := false } (rowStr d q f fs) = .ok st
      ∧ st.out ++ [st.field] = o ++ f :: fs ∧ st.qb = st.ex := by
  induction fs generalizing o f with
  | nil =>
    obtain ⟨b, h⟩ := run_field_end d hd q hq o f
    exact ⟨_, h, rfl, rfl⟩
  | cons g gs ih =>
    simp only [rowStr]
    rw [run_field_delim d hd q hq]
    obtain ⟨st, h1, h2, h3⟩ := ih (o ++ [f]) g
    exact ⟨st, h1, by simp [h2], h3⟩

theorem join_eq_rowStr (d : Char) (q : Str → Bool) (f : Str) (fs : List Str) :
    join [d] ((f :: fs).map (encWith q)) = rowStr d q f fs := by
  induction fs generalizing f with
  | nil => simp [join, rowStr]
  | cons g gs ih =>
    simp only [List.map, join, rowStr]
    have := ih g
    simp only [List.map] at this
    rw [this]; simp

theorem gen_acc_dropLast (d : Char) (q : Str → Bool) (f : Str) (fs : List Str) :
    ((f :: fs).flatMap (fun f => encWith q f ++ [d])).dropLast = rowStr d q f fs := by
  induction fs generalizing f with
  | nil => simp [rowStr]
  | cons g gs ih =>
    have h := ih g
    simp only [List.flatMap_cons] at h ⊢
    simp only [rowStr]
    rw [List.dropLast_append_of_ne_nil (by simp)]
    rw [h]; simp

theorem getLast_quoted (f : Str) : (quoted f).getLast? = some '"' := by
  rw [quoted_eq, ← List.cons_append, List.getLast?_append]; simp

theorem body_mem (f : Str) (c : Char) (h : c ∈ body f) : c ∈ f ∨ c = '"' := by
  obtain ⟨x, hx, hc⟩ := List.mem_flatMap.1 h
  by_cases hq : x = '"'
  · rw [if_pos hq] at hc
    exact .inr (by simpa using hc)
  · rw [if_neg hq] at hc
    exact .inl (List.mem_singleton.1 hc ▸ hx)

theorem enc_mem (q : Str → Bool) (f : Str) (c : Char) (h : c ∈ encWith q f) : c ∈ f ∨ c = '"' := by
  unfold encWith at h
  split at h
  · rw [quoted_eq] at h
    simp only [List.mem_cons, List.mem_append, List.not_mem_nil, or_false] at h
    rcases h with h | h | h
    · exact .inr h
    · exact body_mem f c h
    · exact .inr h
  · exact .inl h

theorem join_enc_mem (d : Char) (q : Str → Bool) (l : List Str) (c : Char)
    (h : c ∈ join [d] (l.map (encWith q))) : c = d ∨ c = '"' ∨ ∃ g ∈ l, c ∈ g := by
  rcases join_mem _ _ _ h with h | ⟨e, he, hce⟩
  · exact .inl (List.mem_singleton.1 h)
  · obtain ⟨g, hg, rfl⟩ := List.mem_map.1 he
    rcases enc_mem q g c hce with h | h
    · exact .inr (.inr ⟨g, hg, h⟩)
    · exact .inr (.inl h)

theorem rowStr_mem (d : Char) (q : Str → Bool) (f : Str) (fs : List Str) (c : Char)
    (h : c ∈ rowStr d q f fs) : c = d ∨ c = '"' ∨ ∃ g ∈ f :: fs, c ∈ g := by
  rw [← join_eq_rowStr] at h
  exact join_enc_mem d q _ c h

theorem encWith_head (q : Str → Bool) (f : Str) (x : Char) (h : (encWith q f).head? = some x) :
    x = '"' ∨ f.head? = some x := by
  unfold encWith at h
  split at h
  · simp [quoted] at h
    exact .inl h.symm
  · exact .inr h

theorem encWith_last (q : Str → Bool) (f : Str) (x : Char) (h : (encWith q f).getLast? = some x) :
    x = '"' ∨ f.getLast? = some x := by
  unfold encWith at h
  split at h
  · rw [getLast_quoted] at h
    exact .inl (Option.some.inj h).symm
  · exact .inr h

theorem rowStr_head (d : Char) (q : Str → Bool) (f : Str) (fs : List Str) (x : Char)
    (h : (rowStr d q f fs).head? = some x) : x = '"' ∨ x = d ∨ f.head? = some x := by
  cases fs with
  | nil =>
    rcases encWith_head q f x h with h | h
    · exact Or.inl h
    · exact Or.inr (Or.inr h)
  | cons g gs =>
    simp only [rowStr] at h
    cases he : encWith q f with
    | nil =>
      rw [he] at h
      exact Or.inr (Or.inl (Option.some.inj h).symm)
    | cons y ys =>
      rw [he] at h
      simp at h
      subst h
      rcases encWith_head q f y (by rw [he]; rfl) with h | h
      · exact Or.inl h
      · exact Or.inr (Or.inr h)

theorem rowStr_last (d : Char) (q : Str → Bool) (f : Str) (fs : List Str) (x : Char)
    (h : (rowStr d q f fs).getLast? = some x) :
    x = '"' ∨ x = d ∨ ∃ g ∈ f :: fs, g.getLast? = some x := by
  induction fs generalizing f with
  | nil =>
    rcases encWith_last q f x h with h | h
    · exact Or.inl h
    · exact Or.inr (Or.inr ⟨f, by simp, h⟩)
  | cons g gs ih =>
    simp only [rowStr] at h
    rw [List.getLast?_append] at h
    cases hr : rowStr d q g gs with
    | nil =>
      rw [hr] at h
      exact Or.inr (Or.inl (Option.some.inj h).symm)
    | cons y ys =>
      have : (d :: rowStr d q g gs).getLast? = (rowStr d q g gs).getLast? := by
        rw [hr]; simp [List.getLast?_cons_cons]
      rw [this] at h
      have hsome : ∃ z, (rowStr d q g gs).getLast? = some z := by
        rw [hr]; exact ⟨_, List.getLast?_eq_some_getLast (l := y :: ys) (by simp)⟩
      obtain ⟨z, hz⟩ := hsome
      rw [hz] at h
      simp at h
      subst h
      rcases ih g hz with h | h | ⟨k, hk, hx⟩
      · exact Or.inl h
      · exact Or.inr (Or.inl h)
      · exact Or.inr (Or.inr ⟨k, List.mem_cons_of_mem _ hk, hx⟩)

theorem rowStr_noBreak (d : Char) (hd : GoodDelim d) (q : Str → Bool) (f : Str)
    (fs : List Str) (hf : ∀ g ∈ f :: fs, NoBreak g) : NoBreak (rowStr d q f fs) := by
  constructor
  · intro h
    rcases rowStr_mem d q f fs _ h with h | h | ⟨g, hg, hc⟩
    · exact hd.2.1 h.symm
    · exact absurd h (by decide)
    · exact (hf g hg).1 hc
  · intro h
    rcases rowStr_mem d q f fs _ h with h | h | ⟨g, hg, hc⟩
    · exact hd.2.2 h.symm
    · exact absurd h (by decide)
    · exact (hf g hg).2 hc

theorem encWith_ne_nil_of (q : Str → Bool) (f : Str) (h : f = [] → q f = true) :
    encWith q f ≠ [] := by
  unfold encWith
  by_cases hq : q f = true
  · simp [hq, quoted]
  · simp only [hq]
    intro hf
    simp at hf
    exact hq (h hf)

theorem rowStr_ne_nil (d : Char) (q : Str → Bool) (f : Str) (fs : List Str)
    (h : fs = [] → f = [] → q [] = true) : rowStr d q f fs ≠ [] := by
  cases fs with
  | nil =>
    apply encWith_ne_nil_of
    intro hf
    subst hf
    exact h rfl rfl
  | cons g gs =>
    intro hc
    have : d ∈ rowStr d q f (g :: gs) := by simp [rowStr]
    rw [hc] at this
    cases this

theorem parse_line (d : Char) (body eol : Str) (hb : NoBreak body) (he : IsEol eol) :
    parse d (body ++ eol) = (run d St.init body >>= fun st => pure (st.out ++ [st.field])) := by
  unfold parse
  rw [rstrip_crlf_append body eol hb he]

end N0.Csv

namespace N0.C13
open N0 N0.Py N0.Csv

/-- the general form behind `C13_roundtrip` / `C13_roundtrip_writer`: any adequate quoting decision -/
theorem parse_rowStr (d : Char) (hd : GoodDelim d) (q : Str → Bool) (hq : Adequate d q)
    (f : Str) (fs : List Str) (hf : ∀ g ∈ f :: fs, NoBreak g) (eol : Str) (he : IsEol eol) :
    parse d (rowStr d q f fs ++ eol) = .ok (f :: fs) := by
  rw [parse_line d _ eol (rowStr_noBreak d hd q f fs hf) he]
  obtain ⟨st, h1, h2, -⟩ := run_row d hd.1 q hq [] f fs
  have h1' : run d St.init (rowStr d q f fs) = .ok st := h1
  rw [h1']
  simp [bind, Except.bind, pure, Except.pure] at h2 ⊢
  exact h2

theorem needsQuote_adequate (d : Char) : Adequate d (needsQuote d) := by
  intro f h
  unfold needsQuote
  rcases h with h | h
  · simp [h]
  · simp [h]

/-- `csv.writer`'s decision (`QUOTE_MINIMAL`) -/
theorem writer_adequate (d : Char) (term : Str) (single : Bool) :
    Adequate d (writerNeedsQuote d term single) := by
  intro f h
  unfold writerNeedsQuote
  rcases h with h | h
  · have : f.any (fun c => c = d || c = '"' || term.contains c) = true := by
      rw [List.any_eq_true]; exact ⟨d, h, by simp⟩
    rw [this]; rfl
  · cases f with
    | nil => simp at h
    | cons c f =>
      simp at h; subst h
      simp

end N0.C13
