import N0Verif.Proofs.CsvOptions
/-!
  Binary read mode.  Encoding a written CSV file byte-wise equals writing the table of encoded cells, for every TOTAL
  per-character encoder `e : Char → Str` that is the identity on ASCII and maps every other character to a non-empty string
  of bytes `0x80 … 0xFF` (`AsciiTransparent e`, the text encoded by `encS e`): an arbitrary function, so no codec is in the
  trusted base of `C14_binary_encoded`.  It is instantiated at toy encoders only (`enc1`, `encN` of Props/C14, `revEnc`):
  `utf8EncChar` lacks only a proof of the field `byte`; a partial codec of `Model/Files.lean` (latin-1, cp1252) needs a
  non-ASCII one-byte filler (`fun ch => (c.enc [ch]).getD filler`, never used on encodable text) and `byte` per codec, which
  `Codec.Good` does not give.
  In binary mode `strip_field` / `strip_line` call `bytes.strip()`, which removes ASCII blanks only (finding C14-g):
  they are blanks of `str.strip()`, and stripping them commutes with every such encoder (`stripWith_encS`).
  Namespace `N0.CsvFile`, then `N0.CsvReader` for the stripping options (that half continues `CsvOptions.lean`).
-/
namespace N0.CsvFile
open N0 N0.Py N0.Csv N0.C13

def encS (e : Char → Str) (s : Str) : Str := s.flatMap e

/-- a TOTAL per-character encoder; the header says what a real codec needs to be an instance -/
structure AsciiTransparent (e : Char → Str) : Prop where
  ascii : ∀ c : Char, c.toNat < 128 → e c = [c]
  high : ∀ c : Char, 128 ≤ c.toNat → ∀ b ∈ e c, 128 ≤ b.toNat
  nonempty : ∀ c : Char, e c ≠ []
  byte : ∀ c : Char, ∀ b ∈ e c, b.toNat < 256

def AsciiPred (p : Char → Bool) : Prop := ∀ c : Char, 128 ≤ c.toNat → p c = false

theorem encS_append (e : Char → Str) (a b : Str) : encS e (a ++ b) = encS e a ++ encS e b := by
  simp [encS]

theorem encS_cons (e : Char → Str) (c : Char) (s : Str) : encS e (c :: s) = e c ++ encS e s := by
  simp [encS]

theorem encS_ascii (e : Char → Str) (he : AsciiTransparent e) (c : Char) (hc : c.toNat < 128)
    (s : Str) : encS e (c :: s) = c :: encS e s := by
  rw [encS_cons, he.ascii c hc]; rfl

theorem any_enc_char (e : Char → Str) (he : AsciiTransparent e) (p : Char → Bool) (hp : AsciiPred p)
    (c : Char) : (e c).any p = p c := by
  by_cases hc : c.toNat < 128
  · rw [he.ascii c hc]; simp
  · have hc' : 128 ≤ c.toNat := Nat.not_lt.1 hc
    rw [hp c hc', List.any_eq_false]
    intro b hb
    simp [hp b (he.high c hc' b hb)]

theorem any_encS (e : Char → Str) (he : AsciiTransparent e) (p : Char → Bool) (hp : AsciiPred p)
    (f : Str) : (encS e f).any p = f.any p := by
  induction f with
  | nil => rfl
  | cons c f ih => rw [encS_cons, List.any_append, ih, any_enc_char e he p hp c]; simp

theorem isEmpty_encS (e : Char → Str) (he : AsciiTransparent e) (f : Str) :
    (encS e f).isEmpty = f.isEmpty := by
  cases f with
  | nil => rfl
  | cons c f =>
    rw [encS_cons]
    have := he.nonempty c
    cases hx : e c with
    | nil => exact absurd hx this
    | cons _ _ => rfl

structure AsciiDialect (d : Char) (term : Str) : Prop where
  delim : d.toNat < 128
  term : ∀ c ∈ term, c.toNat < 128

theorem quotePred_ascii (d : Char) (term : Str) (ha : AsciiDialect d term) :
    AsciiPred (fun c => c = d || c = '"' || term.contains c) := by
  intro c hc
  have h1 : c ≠ d := fun h => Nat.not_lt.2 hc (h ▸ ha.delim)
  have h2 : c ≠ '"' := fun h => absurd (h ▸ hc) (by decide)
  have h3 : c ∉ term := fun hm => Nat.not_lt.2 hc (ha.term c hm)
  simp [h1, h2, h3]

theorem writerNeedsQuote_enc (e : Char → Str) (he : AsciiTransparent e) (d : Char) (term : Str)
    (ha : AsciiDialect d term) (single : Bool) (f : Str) :
    writerNeedsQuote d term single (encS e f) = writerNeedsQuote d term single f := by
  unfold writerNeedsQuote
  rw [any_encS e he _ (quotePred_ascii d term ha), isEmpty_encS e he]

def dq (c : Char) : Str := if c = '"' then ['"', '"'] else [c]

theorem body_eq_flatMap (f : Str) : body f = f.flatMap dq := rfl

theorem dq_enc_char (e : Char → Str) (he : AsciiTransparent e) (c : Char) :
    (e c).flatMap dq = encS e (dq c) := by
  by_cases hc : c.toNat < 128
  · rw [he.ascii c hc]
    simp only [List.flatMap_cons, List.flatMap_nil, List.append_nil]
    unfold dq
    by_cases hq : c = '"'
    · subst hq
      simp only [↓reduceIte]
      rw [encS_ascii e he _ (by decide), encS_ascii e he _ (by decide)]; rfl
    · simp only [hq, ↓reduceIte]
      rw [encS_ascii e he _ hc]; rfl
  · have hc' : 128 ≤ c.toNat := Nat.not_lt.1 hc
    have hq : c ≠ '"' := fun h => by rw [h] at hc'; revert hc'; decide
    have : dq c = [c] := by simp [dq, hq]
    rw [this, encS_cons]
    simp only [encS, List.flatMap_nil, List.append_nil]
    apply flatMap_id_of
    intro b hb
    have hb' := he.high c hc' b hb
    have : b ≠ '"' := fun h => by rw [h] at hb'; revert hb'; decide
    simp [dq, this]

theorem body_enc (e : Char → Str) (he : AsciiTransparent e) (f : Str) :
    body (encS e f) = encS e (body f) := by
  induction f with
  | nil => rfl
  | cons c f ih =>
    have h1 : body (e c ++ encS e f) = (e c).flatMap dq ++ body (encS e f) := by
      simp [body_eq_flatMap]
    have h2 : body (c :: f) = dq c ++ body f := by simp [body_eq_flatMap]
    rw [encS_cons, h1, h2, ih, dq_enc_char e he c, encS_append]

theorem quoted_enc (e : Char → Str) (he : AsciiTransparent e) (f : Str) :
    quoted (encS e f) = encS e (quoted f) := by
  rw [quoted_eq, quoted_eq, encS_ascii e he _ (by decide), encS_append, body_enc e he]
  congr 2
  rw [encS_ascii e he _ (by decide)]; rfl

theorem encWith_enc (e : Char → Str) (he : AsciiTransparent e) (d : Char) (term : Str)
    (ha : AsciiDialect d term) (single : Bool) (f : Str) :
    encWith (writerNeedsQuote d term single) (encS e f)
      = encS e (encWith (writerNeedsQuote d term single) f) := by
  unfold encWith
  rw [writerNeedsQuote_enc e he d term ha]
  split
  · exact quoted_enc e he f
  · rfl

theorem join_enc (e : Char → Str) (he : AsciiTransparent e) (d : Char) (hd : d.toNat < 128)
    (xs : List Str) : join [d] (xs.map (encS e)) = encS e (join [d] xs) := by
  induction xs with
  | nil => rfl
  | cons x xs ih =>
    cases xs with
    | nil => rfl
    | cons y ys =>
      simp only [List.map_cons, join] at ih ⊢
      rw [ih, encS_append, encS_append, encS_ascii e he d hd]
      rfl

theorem bodyOf_enc (e : Char → Str) (he : AsciiTransparent e) (d : Char) (term : Str)
    (ha : AsciiDialect d term) (row : List Str) :
    bodyOf d term (row.map (encS e)) = encS e (bodyOf d term row) := by
  unfold bodyOf
  rw [← join_enc e he d ha.delim, List.map_map, List.map_map, List.length_map]
  congr 1
  apply List.map_congr_left
  intro f _
  exact encWith_enc e he d term ha _ f

theorem encS_term (e : Char → Str) (he : AsciiTransparent e) (term : Str)
    (h : ∀ c ∈ term, c.toNat < 128) : encS e term = term := by
  induction term with
  | nil => rfl
  | cons c t ih =>
    rw [encS_ascii e he c (h c (by simp)), ih (fun x hx => h x (by simp [hx]))]

theorem written_enc (e : Char → Str) (he : AsciiTransparent e) (d : Char) (term : Str)
    (ha : AsciiDialect d term) (rows : List (List Str)) :
    written d term (rows.map (fun r => r.map (encS e))) = encS e (written d term rows) := by
  induction rows with
  | nil => rfl
  | cons r rows ih =>
    simp only [written, List.map_cons, List.flatMap_cons] at ih ⊢
    rw [ih, encS_append, writerLine_eq, writerLine_eq, bodyOf_enc e he d term ha, encS_append,
      encS_term e he term ha.term]

theorem saveCsv_enc (e : Char → Str) (he : AsciiTransparent e) (d : Char) (term : Str)
    (ha : AsciiDialect d term) (header : Option (List Str)) (rows : List (List Str)) :
    saveCsv d term (header.map (fun h => h.map (encS e))) (rows.map (fun r => r.map (encS e)))
      = encS e (saveCsv d term header rows) := by
  cases header with
  | none =>
    simp only [Option.map_none, saveCsv_none]
    exact written_enc e he d term ha rows
  | some h =>
    cases h with
    | nil =>
      have h1 : saveCsv d term (some []) rows = written d term rows := by simp [saveCsv, written]
      have h2 : ∀ rs, saveCsv d term (some []) rs = written d term rs := by
        intro rs; simp [saveCsv, written]
      simp only [Option.map_some, List.map_nil, h1, h2]
      exact written_enc e he d term ha rows
    | cons x xs =>
      simp only [Option.map_some]
      rw [saveCsv_header _ _ _ _ (by simp), saveCsv_header _ _ _ _ (by simp)]
      exact written_enc e he d term ha ((x :: xs) :: rows)

theorem mem_enc_ascii (e : Char → Str) (he : AsciiTransparent e) (x : Char) (hx : x.toNat < 128)
    (c : Char) : x ∈ e c ↔ x = c := by
  by_cases hc : c.toNat < 128
  · rw [he.ascii c hc, List.mem_singleton]
  · constructor
    · intro h
      exact absurd hx (Nat.not_lt.2 (he.high c (Nat.not_lt.1 hc) x h))
    · intro h
      subst h
      exact absurd hx hc

theorem mem_encS_ascii (e : Char → Str) (he : AsciiTransparent e) (x : Char) (hx : x.toNat < 128)
    (f : Str) : x ∈ encS e f ↔ x ∈ f := by
  unfold encS
  rw [List.mem_flatMap]
  constructor
  · rintro ⟨c, hc, hxc⟩
    exact (mem_enc_ascii e he x hx c).1 hxc ▸ hc
  · intro h
    exact ⟨x, h, (mem_enc_ascii e he x hx x).2 rfl⟩

theorem noBreak_enc (e : Char → Str) (he : AsciiTransparent e) (f : Str) (h : NoBreak f) :
    NoBreak (encS e f) :=
  ⟨fun hm => h.1 ((mem_encS_ascii e he '\r' (by decide) f).1 hm),
   fun hm => h.2 ((mem_encS_ascii e he '\n' (by decide) f).1 hm)⟩

theorem bom_not_mem_enc (e : Char → Str) (he : AsciiTransparent e) (f : Str) :
    bomChar ∉ encS e f := by
  intro hm
  unfold encS at hm
  rw [List.mem_flatMap] at hm
  obtain ⟨c, _, hb⟩ := hm
  have := he.byte c _ hb
  revert this
  decide

def encRows (e : Char → Str) (rows : List (List Str)) : List (List Str) :=
  rows.map (fun r => r.map (encS e))

theorem noBreakRows_enc (e : Char → Str) (he : AsciiTransparent e) (rows : List (List Str))
    (h : NoBreakRows rows) : NoBreakRows (encRows e rows) := by
  intro r hr f hf
  unfold encRows at hr
  rw [List.mem_map] at hr
  obtain ⟨r0, hr0, rfl⟩ := hr
  rw [List.mem_map] at hf
  obtain ⟨f0, hf0, rfl⟩ := hf
  exact noBreak_enc e he f0 (h r0 hr0 f0 hf0)

theorem noBomRows_enc (e : Char → Str) (he : AsciiTransparent e) (rows : List (List Str)) :
    NoBomRows (encRows e rows) := by
  intro r hr f hf
  unfold encRows at hr
  rw [List.mem_map] at hr
  obtain ⟨r0, _, rfl⟩ := hr
  rw [List.mem_map] at hf
  obtain ⟨f0, _, rfl⟩ := hf
  exact bom_not_mem_enc e he f0

end N0.CsvFile

namespace N0.CsvReader
open N0 N0.Py N0.Csv N0.CsvFile N0.C13

/-- `bytes.strip()` -/
def asciiStrip (s : Str) : Str := stripWith isAsciiWsByte s

theorem wsFor_true : wsFor true = isAsciiWsByte := by
  funext c; simp [wsFor]

theorem stripWith_wsFor_true : stripWith (wsFor true) = asciiStrip := by
  funext s
  rw [wsFor_true]
  rfl

theorem ascii_ws_is_space (c : Char) (h : isAsciiWsByte c = true) : isPySpace c = true := by
  unfold isAsciiWsByte at h
  unfold isPySpace
  simp only [Bool.or_eq_true, Bool.and_eq_true, decide_eq_true_eq] at h
  -- 9..13 is the first range of `isPySpace`, 32 lies in its second
  rcases h with ⟨h1, h2⟩ | h
  · simp [h1, h2]
  · simp [h]

theorem ascii_ws_asciiPred : AsciiPred isAsciiWsByte := by
  intro c hc
  have h1 : ¬ c.toNat ≤ 13 := fun h => absurd (Nat.le_trans hc h) (by decide)
  have h2 : c.toNat ≠ 32 := fun h => absurd (h ▸ hc) (by decide)
  simp [isAsciiWsByte, h1, h2]

theorem outerClean_mono (p q : Char → Bool) (h : ∀ c, q c = true → p c = true) (s : Str)
    (hc : OuterClean p s) : OuterClean q s := by
  constructor
  · intro x hx
    cases hq : q x with
    | false => rfl
    | true => have := hc.1 x hx; rw [h x hq] at this; exact absurd this (by simp)
  · intro x hx
    cases hq : q x with
    | false => rfl
    | true => have := hc.2 x hx; rw [h x hq] at this; exact absurd this (by simp)

/-- `strip_field=True`, `read_mode='b'` -/
structure StripFieldBin (o : Opts) (d : Char) : Prop where
  delim : o.delim = d
  skip : o.skipEmpty = true
  sl : o.stripLine = false
  sf : o.stripField = true
  bin : o.binary = true

theorem dropWhile_encS (e : Char → Str) (he : AsciiTransparent e) (p : Char → Bool)
    (hp : AsciiPred p) (s : Str) : (encS e s).dropWhile p = encS e (s.dropWhile p) := by
  induction s with
  | nil => rfl
  | cons c s ih =>
    by_cases hc : c.toNat < 128
    · rw [encS_ascii e he c hc]
      cases hpc : p c with
      | true => simp only [List.dropWhile_cons, hpc, ↓reduceIte]; exact ih
      | false =>
        simp only [List.dropWhile_cons, hpc, Bool.false_eq_true, ↓reduceIte]
        rw [encS_ascii e he c hc]
    · have hc' : 128 ≤ c.toNat := Nat.not_lt.1 hc
      have hpc : p c = false := hp c hc'
      rw [encS_cons]
      simp only [List.dropWhile_cons, hpc, Bool.false_eq_true, ↓reduceIte]
      rw [encS_cons]
      cases hx : e c with
      | nil => exact absurd hx (he.nonempty c)
      | cons b bs =>
        have hb : p b = false := hp b (he.high c hc' b (by rw [hx]; simp))
        simp [hb]

/-- every code written backwards: it turns stripping at the right end into stripping at the left end (`stripWith_encS`) -/
def revEnc (e : Char → Str) (c : Char) : Str := (e c).reverse

theorem revEnc_transparent (e : Char → Str) (he : AsciiTransparent e) :
    AsciiTransparent (revEnc e) := by
  refine ⟨?_, ?_, ?_, ?_⟩
  · intro c hc; simp [revEnc, he.ascii c hc]
  · intro c hc b hb; exact he.high c hc b (by simpa [revEnc] using hb)
  · intro c; simp [revEnc, he.nonempty c]
  · intro c b hb; exact he.byte c b (by simpa [revEnc] using hb)

theorem encS_reverse (e : Char → Str) (s : Str) :
    (encS e s).reverse = encS (revEnc e) s.reverse := by
  induction s with
  | nil => rfl
  | cons c s ih =>
    rw [encS_cons, List.reverse_append, ih, List.reverse_cons, encS_append]
    simp [encS, revEnc]

theorem revEnc_revEnc (e : Char → Str) : revEnc (revEnc e) = e := by
  funext c; simp [revEnc]

theorem stripWith_encS (e : Char → Str) (he : AsciiTransparent e) (p : Char → Bool)
    (hp : AsciiPred p) (s : Str) : stripWith p (encS e s) = encS e (stripWith p s) := by
  unfold stripWith
  rw [dropWhile_encS e he p hp, encS_reverse,
    dropWhile_encS (revEnc e) (revEnc_transparent e he) p hp, encS_reverse,
    revEnc_revEnc]

theorem asciiStrip_encS (e : Char → Str) (he : AsciiTransparent e) (s : Str) :
    asciiStrip (encS e s) = encS e (asciiStrip s) :=
  stripWith_encS e he isAsciiWsByte ascii_ws_asciiPred s

/-- the cells of a row, `str.strip()`-ed and encoded, are the encoded cells `bytes.strip()`-ed,
when `str.strip()` removes from each cell only what `bytes.strip()` removes -/
theorem strip_cells (e : Char → Str) (he : AsciiTransparent e) (r : List Str)
    (hedge : ∀ f ∈ r, pyStrip f = asciiStrip f) :
    r.map (fun f => encS e (pyStrip f)) = (r.map (encS e)).map asciiStrip := by
  rw [List.map_map]
  apply List.map_congr_left
  intro f hf
  simp only [Function.comp]
  rw [asciiStrip_encS e he f, ← hedge f hf]

theorem dataRows_encRows (e : Char → Str) (rows : List (List Str)) :
    dataRows (encRows e rows) = encRows e (dataRows rows) := by
  unfold dataRows encRows
  induction rows with
  | nil => rfl
  | cons r rows ih =>
    cases r with
    | nil => simpa using ih
    | cons f fs =>
      simp at ih ⊢
      exact ih

end N0.CsvReader
