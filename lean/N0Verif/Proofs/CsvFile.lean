import N0Verif.Proofs.CsvRecord
import N0Verif.Proofs.Csv
/-!
  `load_csv` on a file written by the `csv.writer` model.  The file layer turns the file into lines that end in a
  known terminator (`SavedAs`); the line layer turns lines that carry rows (`Lines`) into the decision table applied
  to those rows (`tableResult`, `loadLines_table`); `loadCsv_written` joins the two for any reading of a line.  A
  written line parses back to its row by C13's `parse_rowStr`.
-/
namespace N0.CsvFile
open N0 N0.Py N0.Csv N0.C13

def LF : Str := ['\n']
/-- `Csv.crlf` has the value of `CRLF` and another role: the SET of characters `rstrip` takes off a line (`rstrip_crlf_append`) -/
def CRLF : Str := ['\r', '\n']

/-- the two line endings of the property; each is an `IsEol` (`Eol.isEol`) -/
def Eol (e : Str) : Prop := e = LF ∨ e = CRLF

theorem Eol.isEol {e : Str} (h : Eol e) : IsEol e := by
  rcases h with h | h <;> subst h <;> intro c hc <;> simp [LF, CRLF] at hc
  · exact Or.inr hc
  · exact hc

theorem Eol.ne_nil {e : Str} (h : Eol e) : e ≠ [] := by
  rcases h with h | h <;> subst h <;> simp [LF, CRLF]

/-- the line without its terminator, as `csv.writer` writes it -/
def bodyOf (d : Char) (term : Str) (row : List Str) : Str :=
  join [d] (row.map (encWith (writerNeedsQuote d term (row.length == 1))))

theorem writerLine_eq (d : Char) (term : Str) (row : List Str) :
    writerLine d term row = bodyOf d term row ++ term := rfl

theorem bodyOf_nil (d : Char) (term : Str) : bodyOf d term [] = [] := rfl

theorem bodyOf_cons (d : Char) (term : Str) (f : Str) (fs : List Str) :
    bodyOf d term (f :: fs)
      = rowStr d (writerNeedsQuote d term ((f :: fs).length == 1)) f fs := by
  unfold bodyOf
  exact join_eq_rowStr d _ f fs

theorem bodyOf_mem (d : Char) (term : Str) (row : List Str) (c : Char)
    (h : c ∈ bodyOf d term row) : c = d ∨ c = '"' ∨ ∃ g ∈ row, c ∈ g :=
  join_enc_mem d _ row c h

theorem bodyOf_noBreak (d : Char) (hd : GoodDelim d) (term : Str) (row : List Str)
    (hf : ∀ g ∈ row, NoBreak g) : NoBreak (bodyOf d term row) := by
  cases row with
  | nil => exact ⟨by simp [bodyOf_nil], by simp [bodyOf_nil]⟩
  | cons f fs =>
    rw [bodyOf_cons]
    exact rowStr_noBreak d hd _ f fs hf

/-- a non-empty row never produces an empty line (a single empty field is written as `""`) -/
theorem bodyOf_ne_nil (d : Char) (term : Str) (row : List Str) (hr : row ≠ []) :
    bodyOf d term row ≠ [] := by
  cases row with
  | nil => exact absurd rfl hr
  | cons f fs =>
    rw [bodyOf_cons]
    apply rowStr_ne_nil
    intro h1 h2
    subst h1 h2
    simp [writerNeedsQuote]

theorem eol_contains_false (t : Str) (ht : IsEol t) (c : Char) (h1 : c ≠ '\r') (h2 : c ≠ '\n') :
    t.contains c = false := by
  cases hc : t.contains c with
  | false => rfl
  | true =>
    have : c ∈ t := by simpa using hc
    rcases ht c this with h | h
    · exact absurd h h1
    · exact absurd h h2

theorem writerNeedsQuote_term (d : Char) (t t' : Str) (ht : IsEol t) (ht' : IsEol t') (single : Bool)
    (f : Str) (hf : NoBreak f) :
    writerNeedsQuote d t single f = writerNeedsQuote d t' single f := by
  unfold writerNeedsQuote
  congr 1
  apply any_congr_mem
  intro c hc
  have h1 : c ≠ '\r' := fun h => hf.1 (h ▸ hc)
  have h2 : c ≠ '\n' := fun h => hf.2 (h ▸ hc)
  rw [eol_contains_false t ht c h1 h2, eol_contains_false t' ht' c h1 h2]

theorem bodyOf_term (d : Char) (t t' : Str) (ht : IsEol t) (ht' : IsEol t') (row : List Str)
    (hf : ∀ g ∈ row, NoBreak g) : bodyOf d t row = bodyOf d t' row := by
  unfold bodyOf
  congr 1
  apply List.map_congr_left
  intro f hfm
  unfold encWith
  rw [writerNeedsQuote_term d t t' ht ht' _ f (hf f hfm)]

theorem textLines_body_eol (body rest e : Str) (he : Eol e) (hb : NoBreak body) :
    textLines (body ++ e ++ rest) = (body ++ ['\n']) :: textLines rest := by
  unfold textLines
  induction body with
  | nil => rcases he with rfl | rfl <;> simp [textLinesAux, LF, CRLF]
  | cons c body ih =>
    have h1 : c ≠ '\r' := fun h => hb.1 (by simp [h])
    have h2 : c ≠ '\n' := fun h => hb.2 (by simp [h])
    have hb' : NoBreak body := ⟨fun h => hb.1 (by simp [h]), fun h => hb.2 (by simp [h])⟩
    simp only [List.cons_append, textLinesAux, h1, h2, ↓reduceIte]
    rw [ih hb']

theorem binLines_body (body rest : Str) (hb : '\n' ∉ body) :
    binLines (body ++ '\n' :: rest) = (body ++ ['\n']) :: binLines rest := by
  induction body with
  | nil => simp [binLines]
  | cons c body ih =>
    have h2 : c ≠ '\n' := fun h => hb (by simp [h])
    have hb' : '\n' ∉ body := fun h => hb (by simp [h])
    simp only [List.cons_append, binLines, h2, ↓reduceIte]
    rw [ih hb']

theorem binLines_body_eol (body rest e : Str) (he : Eol e) (hb : NoBreak body) :
    binLines (body ++ e ++ rest) = (body ++ e) :: binLines rest := by
  rcases he with h | h <;> subst h
  · simpa [LF] using binLines_body body rest hb.2
  · have := binLines_body (body ++ ['\r']) rest (by
      intro h
      simp at h
      exact hb.2 h)
    simpa [CRLF] using this

def NoBreakRows (rows : List (List Str)) : Prop := ∀ r ∈ rows, ∀ f ∈ r, NoBreak f

theorem NoBreakRows.tail {r : List Str} {rows : List (List Str)} (h : NoBreakRows (r :: rows)) :
    NoBreakRows rows := fun r' hr' => h r' (by simp [hr'])

theorem NoBreakRows.head {r : List Str} {rows : List (List Str)} (h : NoBreakRows (r :: rows)) :
    ∀ f ∈ r, NoBreak f := h r (by simp)

def written (d : Char) (eol : Str) (rows : List (List Str)) : Str :=
  rows.flatMap (writerLine d eol)

/-- A line splitter `L` that cuts `body ++ eol ++ rest` behind the body and delivers the terminator
as `t` splits a written file into its rows.  (The quoting decision, hence the body, does not depend
on the terminator: `bodyOf_term`.) -/
theorem lines_of_written (L : Str → List Str) (hnil : L [] = []) (d : Char) (hd : GoodDelim d)
    (eol t : Str) (he : Eol eol)
    (hL : ∀ body rest, NoBreak body → L (body ++ eol ++ rest) = (body ++ t) :: L rest)
    (rows : List (List Str)) (hc : NoBreakRows rows) :
    L (written d eol rows) = rows.map (fun r => bodyOf d LF r ++ t) := by
  induction rows with
  | nil => exact hnil
  | cons r rows ih =>
    have hr := hc.head
    simp only [written, List.flatMap_cons, List.map_cons, writerLine_eq]
    rw [hL _ _ (bodyOf_noBreak d hd eol r hr),
      bodyOf_term d eol LF he.isEol (Eol.isEol (Or.inl rfl)) r hr]
    congr 1
    exact ih hc.tail

theorem written_mem (d : Char) (eol : Str) (rows : List (List Str)) (c : Char)
    (h : c ∈ written d eol rows) :
    c = d ∨ c = '"' ∨ c ∈ eol ∨ ∃ r ∈ rows, ∃ g ∈ r, c ∈ g := by
  unfold written at h
  rw [List.mem_flatMap] at h
  obtain ⟨r, hr, hc⟩ := h
  rw [writerLine_eq, List.mem_append] at hc
  rcases hc with hc | hc
  · rcases bodyOf_mem d eol r c hc with h | h | ⟨g, hg, hcg⟩
    · exact Or.inl h
    · exact Or.inr (Or.inl h)
    · exact Or.inr (Or.inr (Or.inr ⟨r, hr, g, hg, hcg⟩))
  · exact Or.inr (Or.inr (Or.inl hc))

theorem decodeSig_bom (s : Str) : decodeSig (bomChar :: s) = s := by
  simp [decodeSig]

theorem decodeSig_of_not_mem (s : Str) (h : bomChar ∉ s) : decodeSig s = s := by
  cases s with
  | nil => rfl
  | cons c r =>
    have : c ≠ bomChar := fun hc => h (by simp [hc])
    simp [decodeSig, this]

def NoBomRows (rows : List (List Str)) : Prop := ∀ r ∈ rows, ∀ f ∈ r, bomChar ∉ f

theorem bom_not_mem_written (d : Char) (hdb : d ≠ bomChar) (eol : Str) (he : Eol eol)
    (rows : List (List Str)) (hb : NoBomRows rows) : bomChar ∉ written d eol rows := by
  intro h
  rcases written_mem d eol rows _ h with h | h | h | ⟨r, hr, g, hg, hc⟩
  · exact hdb h.symm
  · exact absurd h (by decide)
  · rcases he.isEol _ h with h | h <;> exact absurd h (by decide)
  · exact hb r hr g hg hc

def withBom (bom : Bool) (s : Str) : Str := if bom then bomChar :: s else s

/-- `utf-8-sig` delivers the text with or without the BOM the file starts with -/
theorem decodeSig_withBom (bom : Bool) (s : Str) (h : bomChar ∉ s) :
    decodeSig (withBom bom s) = s := by
  cases bom with
  | true => exact decodeSig_bom s
  | false => exact decodeSig_of_not_mem s h

theorem physLines_text (d : Char) (hd : GoodDelim d) (hdb : d ≠ bomChar) (eol : Str) (he : Eol eol)
    (bom : Bool) (rows : List (List Str)) (hc : NoBreakRows rows) (hb : NoBomRows rows) :
    physLines false (withBom bom (written d eol rows))
      = rows.map (fun r => bodyOf d LF r ++ ['\n']) := by
  unfold physLines
  rw [if_neg (by simp), decodeSig_withBom _ _ (bom_not_mem_written d hdb eol he rows hb)]
  exact lines_of_written textLines rfl d hd eol ['\n'] he
    (fun body rest hb => textLines_body_eol body rest eol he hb) rows hc

theorem physLines_bin (d : Char) (hd : GoodDelim d) (eol : Str) (he : Eol eol)
    (rows : List (List Str)) (hc : NoBreakRows rows) :
    physLines true (written d eol rows) = rows.map (fun r => bodyOf d LF r ++ eol) := by
  unfold physLines
  rw [if_pos rfl]
  exact lines_of_written binLines rfl d hd eol eol he
    (fun body rest hb => binLines_body_eol body rest eol he hb) rows hc


theorem textLinesAux_mem (b : Bool) (s : Str) :
    ∀ l ∈ textLinesAux b s, ∀ c ∈ l, c ∈ s ∨ c = '\n' := by
  induction s generalizing b with
  | nil => intro l hl; cases hl
  | cons x s ih =>
    intro l hl c hc
    -- a character of a line of the rest is a character of the text; a delivered terminator is `\n`
    have rest : ∀ b', l ∈ textLinesAux b' s → c ∈ x :: s ∨ c = '\n' :=
      fun b' h => (ih b' l h c hc).imp (List.mem_cons_of_mem x) id
    have nl : l = ['\n'] → c ∈ x :: s ∨ c = '\n' := fun h => .inr (List.mem_singleton.1 (h ▸ hc))
    rw [textLinesAux] at hl
    by_cases h1 : x = '\n'
    · rw [if_pos h1] at hl
      cases b with
      | true => exact rest false hl
      | false =>
        rcases List.mem_cons.1 hl with h | h
        · exact nl h
        · exact rest false h
    · rw [if_neg h1] at hl
      by_cases h2 : x = '\r'
      · rw [if_pos h2] at hl
        rcases List.mem_cons.1 hl with h | h
        · exact nl h
        · exact rest true h
      · rw [if_neg h2] at hl
        cases htl : textLinesAux false s with
        | nil =>
          rw [htl] at hl
          have : l = [x] := List.mem_singleton.1 hl
          exact .inl (List.mem_cons.2 (.inl (List.mem_singleton.1 (this ▸ hc))))
        | cons l0 ls0 =>
          rw [htl] at hl
          rcases List.mem_cons.1 hl with h | h
          · subst h
            rcases List.mem_cons.1 hc with h | h
            · exact .inl (List.mem_cons.2 (.inl h))
            · exact (ih false l0 (htl ▸ List.mem_cons_self ..) c h).imp (List.mem_cons_of_mem x) id
          · exact rest false (htl ▸ List.mem_cons_of_mem _ h)

theorem mem_of_mem_decodeSig (s : Str) (c : Char) (h : c ∈ decodeSig s) : c ∈ s := by
  cases s with
  | nil => simp [decodeSig] at h
  | cons x s =>
    simp only [decodeSig] at h
    split at h
    · simp [h]
    · exact h

theorem mem_of_mem_stripWith (p : Char → Bool) (s : Str) (c : Char) (h : c ∈ stripWith p s) :
    c ∈ s :=
  (stripBy_infix p s).subset h

theorem mem_of_mem_procLine (o : Opts) (l : Str) (c : Char) (h : c ∈ procLine o l) : c ∈ l := by
  unfold procLine at h
  simp only at h
  split at h
  · exact mem_of_mem_rstrip _ _ _ (mem_of_mem_stripWith _ _ _ h)
  · exact mem_of_mem_rstrip _ _ _ h

/-- `Lines o ls rows`: the physical lines `ls` carry exactly the rows `rows`, in order.  A blank
line (empty after `process_line(line.rstrip(CRLF))`) carries no row when blank lines are skipped;
with `skip_empty_lines=False` every line is parsed. -/
inductive Lines (o : Opts) : List Str → List (List Str) → Prop
  | nil : Lines o [] []
  | blank (l : Str) (ls : List Str) (rows : List (List Str)) :
      l ≠ [] → o.skipEmpty = true → procLine o l = [] → Lines o ls rows → Lines o (l :: ls) rows
  | row (l : Str) (ls : List Str) (r : List Str) (rows : List (List Str)) :
      l ≠ [] → (o.skipEmpty = true → procLine o l ≠ []) → parseLine o (procLine o l) = .ok r →
      Lines o ls rows → Lines o (l :: ls) (r :: rows)

/-- the records of a result, without the optional original lines -/
def records (r : PyM (List Item)) : PyM (List Record) :=
  match r with
  | .ok items => .ok (items.map Item.row)
  | .error e => .error e

theorem records_eq_error {r : PyM (List Item)} {e : PyErr} (h : records r = .error e) :
    r = .error e := by
  cases r with
  | ok _ => cases h
  | error _ => simpa [records] using h

theorem readRows_lines (o : Opts) (names cn : List Key)
    (ls : List Str) (rows : List (List Str)) (h : Lines o ls rows) :
    records (readRows o names cn ls) = .ok (rows.map (recOf o names cn)) := by
  induction h with
  | nil => rfl
  | blank l ls rows hl hse hb _ ih =>
    simp only [readRows, List.isEmpty_eq_false_iff.2 hl, hb, hse, Bool.false_eq_true, ↓reduceIte,
      List.isEmpty_nil, Bool.and_self]
    exact ih
  | row l ls r rows hl hb hp _ ih =>
    have hskip : (o.skipEmpty && (procLine o l).isEmpty) = false := by
      cases hse : o.skipEmpty with
      | false => rfl
      | true => rw [List.isEmpty_eq_false_iff.2 (hb hse)]; rfl
    simp only [readRows, List.isEmpty_eq_false_iff.2 hl, hskip, hp, Bool.false_eq_true, ↓reduceIte]
    cases hrr : readRows o names cn ls with
    | error e => rw [hrr] at ih; cases ih
    | ok tl =>
      rw [hrr] at ih
      simp only [records, Except.ok.injEq] at ih
      simp only [records, bind, Except.bind, pure, Except.pure, recOf, List.map_cons, ih]

theorem skipBlank_blank (o : Opts) (l : Str) (rest : List Str) (hl : l ≠ [])
    (hb : procLine o l = []) : skipBlank o (l :: rest) = skipBlank o rest := by
  simp [skipBlank, hl, hb]

theorem skipBlank_first (o : Opts) (l : Str) (rest : List Str) (hl : l ≠ [])
    (hb : procLine o l ≠ []) : skipBlank o (l :: rest) = some (l, procLine o l, rest) := by
  simp [skipBlank, hl, hb]

/-- The leading-blank loop does not consult `skip_empty_lines`; `hfirst`: when blank lines are kept,
the first line is not one. -/
theorem skipBlank_lines (o : Opts) (ls : List Str) (h : List Str) (rows : List (List Str))
    (hl : Lines o ls (h :: rows))
    (hfirst : o.skipEmpty = false → ∀ l ls', ls = l :: ls' → procLine o l ≠ []) :
    ∃ first rest, skipBlank o ls = some (first, procLine o first, rest)
      ∧ parseLine o (procLine o first) = .ok h ∧ Lines o rest rows
      ∧ Lines o (first :: rest) (h :: rows) := by
  generalize hr : h :: rows = all at hl
  induction hl with
  | nil => cases hr
  | blank l ls rows' hl hse hb _ ih =>
    obtain ⟨first, rest, h1, h2, h3, h4⟩ := ih (fun h => by rw [hse] at h; cases h) hr
    exact ⟨first, rest, by rw [skipBlank_blank o l ls hl hb, h1], h2, h3, h4⟩
  | row l ls r rows' hl hb hp hrest _ =>
    cases hr
    have hb' : procLine o l ≠ [] := by
      cases hse : o.skipEmpty with
      | true => exact hb hse
      | false => exact hfirst hse l ls rfl
    exact ⟨l, ls, skipBlank_first o l ls hl hb', hp, hrest, Lines.row l ls _ _ hl hb hp hrest⟩

theorem skipBlank_none (o : Opts) (ls : List Str) (hl : Lines o ls []) : skipBlank o ls = none := by
  generalize hr : ([] : List (List Str)) = all at hl
  induction hl with
  | nil => rfl
  | blank l ls rows' hl _ hb _ ih => rw [skipBlank_blank o l ls hl hb, ih hr]
  | row l ls r rows' hl hb hp hrest _ => cases hr

/-- the names used when the first line is data -/
def dataNames (n : Norm) (cells : List Str) : List Key :=
  match n.cn with
  | some c => c.map Key.name
  | none => positions cells.length

/-- the column selection when the first line is the header -/
def headerCn (n : Norm) (cells : List Str) : List Key :=
  match n.cn with
  | some c => c.map Key.name
  | none => cells.map Key.name

/-- the decision table applied to a table (`h` = first data row of the file, `rows` = the rest) -/
def outcome (o : Opts) (n : Norm) (h : List Str) (rows : List (List Str)) : PyM (List Record) :=
  match headerDecision n o h with
  | .error e => .error e
  | .ok none => .ok []
  | .ok (some false) => .ok ((h :: rows).map (recOf o (dataNames n h) (dataNames n h)))
  | .ok (some true) =>
    if n.mand && hasDup h then .error .KeyError
    else .ok (rows.map (recOf o (h.map Key.name) (headerCn n h)))

/-- what `load_csv` returns for a file whose lines carry the rows `rows` -/
def tableResult (o : Opts) (rows : List (List Str)) : PyM (List Record) :=
  match normalise o with
  | .error e => .error e
  | .ok n =>
    match rows with
    | [] => .error .EOFError
    | h :: rows => outcome o n h rows

theorem tableResult_ok {o : Opts} {n : Norm} (hn : normalise o = .ok n) (h : List Str)
    (rows : List (List Str)) : tableResult o (h :: rows) = outcome o n h rows := by
  simp only [tableResult, hn]

theorem tableResult_nil {o : Opts} {n : Norm} (hn : normalise o = .ok n) :
    tableResult o [] = .error .EOFError := by
  simp only [tableResult, hn]

theorem loadLines_norm_error (o : Opts) (e : PyErr) (h : normalise o = .error e) (ls : List Str) :
    loadLines o ls = .error e := by
  unfold loadLines
  simp [h, bind, Except.bind]

theorem loadLines_empty (o : Opts) (n : Norm) (hn : normalise o = .ok n)
    (ls : List Str) (hl : Lines o ls []) : loadLines o ls = .error .EOFError := by
  unfold loadLines
  simp [hn, bind, Except.bind, skipBlank_none o ls hl, throw, throwThe, MonadExceptOf.throw]

theorem loadLines_outcome (o : Opts) (n : Norm) (hn : normalise o = .ok n)
    (ls : List Str) (h : List Str) (rows : List (List Str)) (hl : Lines o ls (h :: rows))
    (hfirst : o.skipEmpty = false → ∀ l ls', ls = l :: ls' → procLine o l ≠ []) :
    records (loadLines o ls) = outcome o n h rows := by
  obtain ⟨first, rest, h1, h2, h3, h4⟩ := skipBlank_lines o ls h rows hl hfirst
  unfold loadLines outcome
  simp only [hn, bind, Except.bind, h1, h2]
  cases hd : headerDecision n o h with
  | error e => rfl
  | ok dec =>
    cases dec with
    | none => rfl
    | some b =>
      cases b with
      | false =>
        simp only []
        exact readRows_lines o _ _ _ _ h4
      | true =>
        simp only []
        by_cases hk : (n.mand && hasDup h) = true
        · simp only [hk, ↓reduceIte]
          rfl
        · simp only [hk, Bool.false_eq_true, ↓reduceIte]
          exact readRows_lines o _ _ _ _ h3

/-- Lines that carry rows give the decision table on those rows; the error of the option checks comes first, no row at
all is `EOFError`.  `hfirst`: the leading-blank loop (`skipBlank`) skips blank lines whatever `skip_empty_lines` says, so
with blank lines kept the first line must not be blank. -/
theorem loadLines_table (o : Opts) (ls : List Str) (rows : List (List Str)) (hl : Lines o ls rows)
    (hfirst : o.skipEmpty = false → ∀ l ls', ls = l :: ls' → procLine o l ≠ []) :
    records (loadLines o ls) = tableResult o rows := by
  unfold tableResult
  cases hn : normalise o with
  | error e => rw [loadLines_norm_error o e hn ls]; rfl
  | ok n =>
    cases rows with
    | nil => rw [loadLines_empty o n hn ls hl]; rfl
    | cons h rows => exact loadLines_outcome o n hn ls h rows hl hfirst

/-- options under which a line is read exactly as written (`CsvReader.KeepEmpty` is the same with `skip_empty_lines=False`) -/
structure Plain (o : Opts) (d : Char) : Prop where
  delim : o.delim = d
  skip : o.skipEmpty = true
  sl : o.stripLine = false
  sf : o.stripField = false

/-- the data rows of a table: `csv.writer` writes an empty row as a blank line -/
def dataRows (rows : List (List Str)) : List (List Str) := rows.filter (fun r => !r.isEmpty)

theorem dataRows_cons_ne (r : List Str) (rows : List (List Str)) (h : r ≠ []) :
    dataRows (r :: rows) = r :: dataRows rows := by
  cases r with
  | nil => exact absurd rfl h
  | cons _ _ => simp [dataRows]

/-- the rows whose lines `load_csv` parses: all of them with `skip_empty_lines=False` -/
def keptRows (o : Opts) (rows : List (List Str)) : List (List Str) :=
  if o.skipEmpty then dataRows rows else rows

theorem keptRows_skip (o : Opts) (rows : List (List Str)) (h : o.skipEmpty = true) :
    keptRows o rows = dataRows rows := by
  simp [keptRows, h]

theorem keptRows_nil (o : Opts) : keptRows o [] = [] := by
  cases h : o.skipEmpty <;> simp [keptRows, h, dataRows]

theorem keptRows_cons_blank (o : Opts) (rows : List (List Str)) (h : o.skipEmpty = true) :
    keptRows o ([] :: rows) = keptRows o rows := by
  simp [keptRows, h, dataRows]

theorem keptRows_cons_row (o : Opts) (r : List Str) (rows : List (List Str))
    (h : o.skipEmpty = true → r ≠ []) : keptRows o (r :: rows) = r :: keptRows o rows := by
  cases hse : o.skipEmpty with
  | false => simp [keptRows, hse]
  | true => simp [keptRows, hse, dataRows_cons_ne r rows (h hse)]

/-- the cells `load_csv` makes of the parsed fields (`process_field`) -/
def fieldsOf (o : Opts) (cells : List Str) : List Str :=
  if o.stripField then cells.map (stripWith (wsFor o.binary)) else cells

theorem procLine_body (o : Opts) (hsl : o.stripLine = false) (body t : Str) (hb : NoBreak body)
    (ht : IsEol t) : procLine o (body ++ t) = body := by
  unfold procLine
  simp only [hsl, Bool.false_eq_true, ↓reduceIte]
  exact rstrip_crlf_append body t hb ht

theorem parseLine_bodyOf (o : Opts) (d : Char) (hd : GoodDelim d) (hdel : o.delim = d) (t : Str)
    (f : Str) (fs : List Str) (hf : ∀ g ∈ f :: fs, NoBreak g) :
    parseLine o (bodyOf d t (f :: fs)) = .ok (fieldsOf o (f :: fs)) := by
  unfold parseLine
  have := parse_rowStr d hd _ (writer_adequate d t ((f :: fs).length == 1)) f fs hf []
    (by intro c hc; cases hc)
  rw [List.append_nil] at this
  rw [hdel, bodyOf_cons, this]
  rfl

/-- `hproc`: what `process_line` leaves of a written line; `hparse`: what the parser (with `process_field`) makes of it -/
theorem lines_written (o : Opts) (d : Char) (t : Str) (htn : t ≠ [])
    (g : List Str → List Str) (rows : List (List Str))
    (hproc : ∀ r ∈ rows, procLine o (bodyOf d LF r ++ t) = bodyOf d LF r)
    (hparse : ∀ r ∈ rows, (o.skipEmpty = true → r ≠ []) →
      parseLine o (bodyOf d LF r) = .ok (g r)) :
    Lines o (rows.map (fun r => bodyOf d LF r ++ t)) ((keptRows o rows).map g) := by
  induction rows with
  | nil => rw [keptRows_nil]; exact Lines.nil
  | cons r rows ih =>
    have ih' := ih (fun x hx => hproc x (by simp [hx])) (fun x hx => hparse x (by simp [hx]))
    have hne : bodyOf d LF r ++ t ≠ [] := by simp [htn]
    have hpl := hproc r (by simp)
    by_cases hk : o.skipEmpty = true ∧ r = []
    · obtain ⟨hse, rfl⟩ := hk
      rw [keptRows_cons_blank o rows hse]
      exact Lines.blank _ _ _ hne hse (by rw [hpl]; rfl) ih'
    · have hk' : o.skipEmpty = true → r ≠ [] := fun hse hr => hk ⟨hse, hr⟩
      rw [keptRows_cons_row o r rows hk']
      exact Lines.row _ _ _ _ hne (fun hse => by rw [hpl]; exact bodyOf_ne_nil d LF r (hk' hse))
        (by rw [hpl]; exact hparse r (by simp) hk') ih'

/-- `file` holds the table `all` as `save_csv` wrote it, seen through the file layer of read mode `bin`: its physical lines
are the written rows, each ending in `t`.  The body is `bodyOf d LF r` whatever EOL the file was written with (`bodyOf_term`). -/
def SavedAs (bin : Bool) (d : Char) (all : List (List Str)) (t file : Str) : Prop :=
  t ≠ [] ∧ IsEol t ∧ physLines bin file = all.map (fun r => bodyOf d LF r ++ t)

theorem savedAs_text (d : Char) (hd : GoodDelim d) (hdb : d ≠ bomChar) (eol : Str) (he : Eol eol)
    (bom : Bool) (all : List (List Str)) (hc : NoBreakRows all) (hbm : NoBomRows all) :
    SavedAs false d all ['\n'] (withBom bom (written d eol all)) :=
  ⟨by simp, Eol.isEol (Or.inl rfl), physLines_text d hd hdb eol he bom all hc hbm⟩

theorem savedAs_bin (d : Char) (hd : GoodDelim d) (eol : Str) (he : Eol eol)
    (all : List (List Str)) (hc : NoBreakRows all) :
    SavedAs true d all eol (written d eol all) :=
  ⟨he.ne_nil, he.isEol, physLines_bin d hd eol he all hc⟩

/-- **`load_csv` on a saved file is the decision table on the rows it carries**, for any reading `g` of a row's line;
`hfirst` as in `loadLines_table` -/
theorem loadCsv_written (o : Opts) (d : Char) (g : List Str → List Str) (all : List (List Str))
    (t file : Str) (hs : SavedAs o.binary d all t file)
    (hproc : ∀ r ∈ all, procLine o (bodyOf d LF r ++ t) = bodyOf d LF r)
    (hparse : ∀ r ∈ all, (o.skipEmpty = true → r ≠ []) →
      parseLine o (bodyOf d LF r) = .ok (g r))
    (hfirst : o.skipEmpty = false → ∀ r rest, all = r :: rest → r ≠ []) :
    records (loadCsv o file) = tableResult o ((keptRows o all).map g) := by
  unfold loadCsv
  rw [hs.2.2]
  apply loadLines_table o _ _ (lines_written o d t hs.1 g all hproc hparse)
  intro hse l ls' hls
  cases all with
  | nil => cases hls
  | cons r rest =>
    cases hls
    rw [hproc r (by simp)]
    exact bodyOf_ne_nil d LF r (hfirst hse r rest rfl)

theorem loadCsv_saved (o : Opts) (d : Char) (hd : GoodDelim d) (hdel : o.delim = d)
    (hse : o.skipEmpty = true) (all : List (List Str)) (hc : NoBreakRows all)
    (t file : Str) (hs : SavedAs o.binary d all t file)
    (hproc : ∀ r ∈ all, procLine o (bodyOf d LF r ++ t) = bodyOf d LF r) :
    records (loadCsv o file) = tableResult o ((dataRows all).map (fieldsOf o)) := by
  rw [← keptRows_skip o all hse]
  apply loadCsv_written o d (fieldsOf o) all t file hs hproc
  · intro r hr hne
    cases r with
    | nil => exact absurd rfl (hne hse)
    | cons f fs => exact parseLine_bodyOf o d hd hdel LF f fs (hc _ hr)
  · intro h
    rw [hse] at h
    cases h

theorem loadCsv_plain (o : Opts) (d : Char) (hd : GoodDelim d) (hp : Plain o d)
    (all : List (List Str)) (hc : NoBreakRows all) (bin : Bool) (hb : o.binary = bin) (t file : Str)
    (hs : SavedAs bin d all t file) :
    records (loadCsv o file) = tableResult o (dataRows all) := by
  subst hb
  have hf : fieldsOf o = id := by
    funext r
    simp [fieldsOf, hp.sf]
  rw [loadCsv_saved o d hd hp.delim hp.skip all hc t file hs
    (fun r hr => procLine_body o hp.sl _ t (bodyOf_noBreak d hd LF r (hc r hr)) hs.2.1), hf,
    List.map_id]

theorem saveCsv_header (d : Char) (eol : Str) (hdr : List Str) (rows : List (List Str))
    (h : hdr ≠ []) : saveCsv d eol (some hdr) rows = written d eol (hdr :: rows) := by
  cases hdr with
  | nil => exact absurd rfl h
  | cons _ _ => simp [saveCsv, written]

theorem saveCsv_none (d : Char) (eol : Str) (rows : List (List Str)) :
    saveCsv d eol none rows = written d eol rows := by
  simp [saveCsv, written]

end N0.CsvFile
