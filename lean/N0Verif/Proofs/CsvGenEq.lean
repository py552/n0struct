import N0Verif.Model.Csv
import N0Verif.Gen.CsvPy
import N0Verif.Py.Lemmas
/-!
  The definitions that `harness/translate_py_csv.py` regenerates from the Python source
  (`Gen/CsvPy.lean`) are equal to the hand-written model (`Model/Csv.lean`).

  The proofs do not depend on the names of Python locals (the translator normalises them) and are
  written to survive harmless refactorings of the Python code (`translate_py_csv.py --refactorings` tries some): the step
  lemmas are proved by case analysis on the flags / on the tests a field is put to and `simp`, not by following the
  syntactic shape of the generated text.  What they do depend on: the order of the fields of the generated state
  structures (field value, list of fields, flag "quote at the beginning", flag "expect delimiter or
  quote") and the order of the parameters of the specialisations.
-/
namespace N0.CsvGenEq
open N0 N0.Py N0.Csv N0.Gen.CsvPy

/-- (`Py.replace_single` says `replace [q] new` is this `flatMap`) -/
theorem csvgen_flatMap_id (q : Char) (new f : Str) (h : q ∉ f) :
    f.flatMap (fun c => if c = q then new else [c]) = f := by
  rw [← replace_single, replace_of_not_mem q [] new f h]

theorem csvgen_sliceTo_neg_one {α : Type} (s : List α) (d : Char) :
    sliceTo s (-(Int.ofNat (List.length [d]))) = s.dropLast := by
  simp [sliceTo, List.dropLast_eq_take]

theorem csvgen_map_ite {α β ε} (g : α → β) (p : Prop) [Decidable p] (a b : Except ε α) :
    (if p then a else b).map g = if p then a.map g else b.map g := by
  split <;> rfl

theorem csvgen_map_ok {α β ε} (g : α → β) (a : α) :
    (Except.ok a : Except ε α).map g = .ok (g a) := rfl

theorem csvgen_map_error {α β ε} (g : α → β) (e : ε) :
    (Except.error e : Except ε α).map g = .error e := rfl

theorem csvgen_foldE_sim {σ τ : Type} (f : σ → Char → Except PyErr σ) (g : τ → Char → Except PyErr τ) (r : τ → σ)
    (h : ∀ t c, f (r t) c = (g t c).map r) (run : τ → Str → Except PyErr τ)
    (hrun : ∀ t, run t [] = .ok t)
    (hrun' : ∀ t c s, run t (c :: s) = (g t c).bind (fun t' => run t' s)) :
    ∀ (s : Str) (t : τ), foldE f (r t) s = (run t s).map r := by
  intro s
  induction s with
  | nil => intro t; simp [foldE, hrun, Except.map]
  | cons c s ih =>
    intro t
    rw [foldE, h, hrun']
    cases g t c with
    | error e => simp [Except.map, Except.bind]
    | ok t' => simp only [Except.map, Except.bind]; exact ih t'

def ofStS (s : Csv.St) : ParseStr.State := ⟨s.field, s.out, s.qb, s.ex⟩

theorem parseStr_step_eq (d c : Char) (st : Csv.St) :
    ParseStr.step [d] (ofStS st) c = (Csv.step d st c).map ofStS := by
  rcases st with ⟨f, o, qb, ex⟩
  -- per value of the two flags both sides are the same cascade of tests on `c`, once `map` is pushed
  -- to the leaves
  cases qb <;> cases ex <;>
    simp [ParseStr.step, Csv.step, ofStS, csvgen_map_ite, csvgen_map_ok, csvgen_map_error]

theorem parseStr_fold_eq (d : Char) (s : Str) (st : Csv.St) :
    foldE (ParseStr.step [d]) (ofStS st) s = (Csv.run d st s).map ofStS :=
  csvgen_foldE_sim _ _ ofStS (fun t c => parseStr_step_eq d c t) (Csv.run d)
    (fun t => by simp [Csv.run]) (fun t c s => by simp [Csv.run, bind]) s st

theorem parseStr_eq (d : Char) (line : Str) : parseStr line [d] = Csv.parse d line := by
  have h := parseStr_fold_eq d (rstrip ['\r', '\n'] line) St.init
  have hi : ofStS St.init = (⟨([] : Str), [], false, false⟩ : ParseStr.State) := rfl
  rw [hi] at h
  -- `simp only` also unfolds the `let`s of the generated text, whatever locals it introduces
  simp only [parseStr, Csv.parse, crlf, h]
  cases Csv.run d St.init (rstrip ['\r', '\n'] line) with
  | error e => simp [Except.map, bind, Except.bind]
  | ok st => simp [Except.map, bind, Except.bind, ofStS, pure, Except.pure]

def ofStB (s : Csv.St) : ParseBytes.State := ⟨s.field, s.out, s.qb, s.ex⟩

theorem parseBytes_step_eq (d c : Char) (st : Csv.St) :
    ParseBytes.step [d] (ofStB st) c = (Csv.step d st c).map ofStB := by
  rcases st with ⟨f, o, qb, ex⟩
  cases qb <;> cases ex <;>
    simp [ParseBytes.step, Csv.step, ofStB, csvgen_map_ite, csvgen_map_ok, csvgen_map_error]

theorem parseBytes_fold_eq (d : Char) (s : Str) (st : Csv.St) :
    foldE (ParseBytes.step [d]) (ofStB st) s = (Csv.run d st s).map ofStB :=
  csvgen_foldE_sim _ _ ofStB (fun t c => parseBytes_step_eq d c t) (Csv.run d)
    (fun t => by simp [Csv.run]) (fun t c s => by simp [Csv.run, bind]) s st

theorem parseBytes_eq (d : Char) (line : Str) : parseBytes line [d] = Csv.parse d line := by
  have h := parseBytes_fold_eq d (rstrip ['\r', '\n'] line) St.init
  have hi : ofStB St.init = (⟨([] : Str), [], false, false⟩ : ParseBytes.State) := rfl
  rw [hi] at h
  simp only [parseBytes, Csv.parse, crlf, h]
  cases Csv.run d St.init (rstrip ['\r', '\n'] line) with
  | error e => simp [Except.map, bind, Except.bind]
  | ok st => simp [Except.map, bind, Except.bind, ofStB, pure, Except.pure]

theorem genRow_step_eq (d : Char) (acc f : Str) :
    GenRow.step [d] ⟨acc⟩ f = .ok ⟨acc ++ (encWith (needsQuote d) f ++ [d])⟩ := by
  simp only [GenRow.step, isInfix_single, startsWith_single, replace_single,
    encWith, needsQuote]
  -- the tests are handed to `simp` one by one, so that the order in which the code makes them is free
  by_cases hn : d ∈ f ∨ f.head? = some '"'
  · -- the code doubles the quotes only when there is one; without one the doubling is the identity
    by_cases hq : '"' ∈ f
    · rcases hn with h | h
      · simp [h, hq, quoted]
      · simp [h, hq, quoted]
    · rcases hn with h | h
      · simp [h, hq, quoted, csvgen_flatMap_id _ _ _ hq]
      · simp [h, hq, quoted, csvgen_flatMap_id _ _ _ hq]
  · obtain ⟨h1, h2⟩ := not_or.1 hn
    simp [h1, h2]

theorem genRow_fold_eq (d : Char) (row : List Str) : ∀ (acc : Str),
    foldE (GenRow.step [d]) ⟨acc⟩ row = .ok ⟨acc ++ row.flatMap (fun f => encWith (needsQuote d) f ++ [d])⟩ := by
  induction row with
  | nil => intro acc; simp [foldE]
  | cons f fs ih => intro acc; rw [foldE, genRow_step_eq]; simp only; rw [ih]; simp

theorem genRow_eq (d : Char) (row : List Str) (eol : Str) :
    genRow row [d] eol = .ok (Csv.gen d row eol) := by
  simp only [genRow, Csv.gen, genRow_fold_eq, List.nil_append]
  simp [sliceTo, List.dropLast_eq_take]

end N0.CsvGenEq
