import N0Verif.Proofs.CsvFile
/-!
  The documented ways of announcing (or not announcing) a header — `FromFile`, `Given`, `NoHeaderOpts`,
  `NamesOnly`; they are part of the statements of `Props/C14.lean` — and what the option checks and the
  header decision make of each, down to the decision table on the rows a file carries (`tableResult_*`).
-/
namespace N0.CsvFile
open N0 N0.Py N0.Csv N0.C13

/-- the documented ways of taking the header **from the file**.  `column_names` not given is NOT part of the predicate:
the theorems ask for it separately (`hcn` of `fromFile_norm`). -/
inductive FromFile (o : Opts) (hdr : List Str) : Prop
  /-- `header_is_mandatory=True` -/
  | mandatory : o.containsHeader = .none → o.mandatory = .bool true → FromFile o hdr
  /-- legacy `contains_header=True`, `header_is_mandatory` left at `None` (fix C14-a) or `True` -/
  | legacy : o.containsHeader = .bool true → (o.mandatory = .none ∨ o.mandatory = .bool true) →
      FromFile o hdr
  /-- `contains_header="<first column name>"` -/
  | first (s : Str) : o.containsHeader = .str s → s ≠ [] → hdr.head? = some s →
      o.mandatory ≠ .other → FromFile o hdr
  /-- `contains_header=[mandatory names]`, all of them in the header -/
  | names (l : List Str) : o.containsHeader = .list l → l ≠ [] → l.Nodup → (∀ m ∈ l, m ∈ hdr) →
      o.mandatory ≠ .other → FromFile o hdr

theorem fromFile_norm (o : Opts) (hdr : List Str) (hcn : o.columnNames = .none)
    (hm : FromFile o hdr) :
    ∃ n, normalise o = .ok n ∧ n.cn = none ∧ headerDecision n o hdr = .ok (some true) := by
  cases hm with
  | mandatory h1 h2 =>
    refine ⟨{ mand := true, cn := none, ch := .none }, ?_, rfl, ?_⟩
    · simp [normalise, hcn, h1, h2, bind, Except.bind, pure, Except.pure, mandDefault, cnAsCh]
    · simp [headerDecision, pure, Except.pure]
  | legacy h1 h2 =>
    refine ⟨{ mand := true, cn := none, ch := .none }, ?_, rfl, ?_⟩
    · rcases h2 with h2 | h2 <;>
        simp [normalise, hcn, h1, h2, bind, Except.bind, pure, Except.pure, cnAsCh]
    · simp [headerDecision, pure, Except.pure]
  | first s h1 h2 h3 h4 =>
    refine ⟨{ mand := mandDefault o.mandatory, cn := none, ch := .str s }, ?_, rfl, ?_⟩
    · cases s with
      | nil => exact absurd rfl h2
      | cons c cs =>
        simp [normalise, hcn, h1, h4, bind, Except.bind, pure, Except.pure]
    · cases hdr with
      | nil => simp at h3
      | cons x xs =>
        simp at h3
        subst h3
        cases x with
        | nil => exact absurd rfl h2
        | cons _ _ => simp [headerDecision, pure, Except.pure]
  | names l h1 h2 h3 h5 h4 =>
    refine ⟨{ mand := mandDefault o.mandatory, cn := none, ch := .list l }, ?_, rfl, ?_⟩
    · cases l with
      | nil => exact absurd rfl h2
      | cons c cs =>
        have hd : hasDup (c :: cs) = false := (hasDup_eq_false _).2 h3
        simp [normalise, hcn, h1, h4, hd, bind, Except.bind, pure, Except.pure]
    · cases l with
      | nil => exact absurd rfl h2
      | cons c cs =>
        have : (c :: cs).any (fun m => !hdr.contains m) = false := by
          rw [List.any_eq_false]
          intro m hm
          simp [h5 m hm]
        simp only [headerDecision, List.isEmpty_cons, Bool.false_eq_true, ↓reduceIte, this]
        rfl

/-- header given by the caller **and** present in the file.  That the names are unique and all in the file's header is NOT
part of the predicate (`hdr` does not occur in it): asked separately (`given_norm`, `tableResult_select`). -/
inductive Given (o : Opts) (sel hdr : List Str) : Prop
  /-- `column_names=sel` alone, or with a Boolean `contains_header` that agrees with `header_is_mandatory`: `True` with
  `True` or `None`, `False` with `False` or `None` (the header is still found in the file: `given_norm`) -/
  | plain : o.columnNames = .list sel →
      (o.containsHeader = .none ∨ o.containsHeader = .bool (mandDefault o.mandatory)
        ∨ (o.containsHeader = .bool true ∧ o.mandatory = .none)) →
      o.mandatory ≠ .other → Given o sel hdr

theorem given_norm (o : Opts) (sel hdr : List Str) (hs : sel ≠ []) (hnd : sel.Nodup)
    (hsub : ∀ m ∈ sel, m ∈ hdr) (hm : Given o sel hdr) :
    ∃ n, normalise o = .ok n ∧ n.cn = some sel ∧ headerDecision n o hdr = .ok (some true) := by
  cases hm with
  | plain h1 h2 h3 =>
    cases sel with
    | nil => exact absurd rfl hs
    | cons c cs =>
      have hd : hasDup (c :: cs) = false := (hasDup_eq_false _).2 hnd
      have hany : (c :: cs).any (fun m => !hdr.contains m) = false := by
        rw [List.any_eq_false]
        intro m hm
        simp [hsub m hm]
      have hdec : ∀ b, headerDecision { mand := b, cn := some (c :: cs), ch := .list (c :: cs) } o hdr
          = .ok (some true) := by
        intro b
        simp only [headerDecision, List.isEmpty_cons, Bool.false_eq_true, ↓reduceIte, hany]
        rfl
      rcases h2 with h2 | h2 | ⟨h2, h4⟩
      · refine ⟨{ mand := mandDefault o.mandatory, cn := some (c :: cs), ch := .list (c :: cs) }, ?_, rfl, hdec _⟩
        simp [normalise, h1, h2, h3, hd, bind, Except.bind, pure, Except.pure, cnAsCh]
      · refine ⟨{ mand := mandDefault o.mandatory, cn := some (c :: cs), ch := .list (c :: cs) }, ?_, rfl, hdec _⟩
        cases hmm : o.mandatory with
        | other => exact absurd hmm h3
        | none => simp [normalise, h1, h2, hmm, hd, bind, Except.bind, pure, Except.pure, cnAsCh, mandDefault]
        | bool b => simp [normalise, h1, h2, hmm, hd, bind, Except.bind, pure, Except.pure, cnAsCh, mandDefault]
      · refine ⟨{ mand := true, cn := some (c :: cs), ch := .list (c :: cs) }, ?_, rfl, hdec _⟩
        simp [normalise, h1, h2, h4, hd, bind, Except.bind, pure, Except.pure, cnAsCh]

/-- no header is announced: nothing given, or legacy `contains_header=False`, or
`header_is_mandatory=False` -/
def NoHeaderOpts (o : Opts) : Prop :=
  o.columnNames = .none ∧ (o.containsHeader = .none ∨ o.containsHeader = .bool false)
    ∧ (o.mandatory = .none ∨ o.mandatory = .bool false)

theorem noHeader_norm (o : Opts) (h : NoHeaderOpts o) (first : List Str) :
    ∃ n, normalise o = .ok n ∧ n.cn = none ∧ headerDecision n o first = .ok (some false) := by
  obtain ⟨h1, h2, h3⟩ := h
  refine ⟨{ mand := false, cn := none, ch := .none }, ?_, rfl, ?_⟩
  · rcases h2 with h2 | h2 <;> rcases h3 with h3 | h3 <;>
      simp [normalise, h1, h2, h3, bind, Except.bind, pure, Except.pure, cnAsCh, mandDefault]
  · simp [headerDecision, pure, Except.pure]

/-- names given by the caller (`column_names = names`; that they are unique is asked separately, `hnd` of `namesOnly_norm`),
with `mand` as the value of `header_is_mandatory` (`none` = left at its default) and nothing else about the header -/
def NamesOnly (o : Opts) (names : List Str) (mand : MandArg) : Prop :=
  o.columnNames = .list names ∧ o.containsHeader = .none ∧ o.mandatory = mand

theorem namesOnly_norm (o : Opts) (names : List Str) (mand : MandArg) (hm : mand ≠ .other)
    (hs : names ≠ []) (hnd : names.Nodup) (h : NamesOnly o names mand) :
    normalise o = .ok { mand := mandDefault mand, cn := some names, ch := .list names } := by
  obtain ⟨h1, h2, h3⟩ := h
  cases names with
  | nil => exact absurd rfl hs
  | cons c cs =>
    have hd : hasDup (c :: cs) = false := (hasDup_eq_false _).2 hnd
    subst h3
    simp [normalise, h1, h2, hm, hd, bind, Except.bind, pure, Except.pure, cnAsCh]

theorem headerDecision_missing (o : Opts) (b : Bool) (names first : List Str) (hs : names ≠ [])
    (hmiss : ∃ m ∈ names, m ∉ first) :
    headerDecision { mand := b, cn := some names, ch := .list names } o first
      = if b then (if o.raiseExc then .error .ReferenceError else .ok none) else .ok (some false) := by
  have hany : names.any (fun m => !first.contains m) = true := by
    rw [List.any_eq_true]
    obtain ⟨m, hm, hnm⟩ := hmiss
    exact ⟨m, hm, by simp [hnm]⟩
  cases names with
  | nil => exact absurd rfl hs
  | cons c cs =>
    simp only [headerDecision, List.isEmpty_cons, Bool.false_eq_true, ↓reduceIte, hany]
    cases b <;> cases o.raiseExc <;> rfl

theorem outcome_header (o : Opts) (n : Norm) (h : List Str) (rows : List (List Str))
    (hdec : headerDecision n o h = .ok (some true)) (hnd : h.Nodup) :
    outcome o n h rows = .ok (rows.map (recOf o (h.map Key.name) (headerCn n h))) := by
  unfold outcome
  simp only [hdec, (hasDup_eq_false h).2 hnd, Bool.and_false, Bool.false_eq_true, ↓reduceIte]

theorem outcome_data (o : Opts) (n : Norm) (h : List Str) (rows : List (List Str))
    (hdec : headerDecision n o h = .ok (some false)) (hnd : (dataNames n h).Nodup) :
    outcome o n h rows = .ok ((h :: rows).map (zipPad (dataNames n h))) := by
  unfold outcome
  simp only [hdec]
  congr 1
  apply List.map_congr_left
  intro r _
  rw [recOf_same o _ hnd]

theorem tableResult_header (o : Opts) (hcn : o.columnNames = .none) (h : List Str)
    (rows : List (List Str)) (hm : FromFile o h) (hnd : h.Nodup) :
    tableResult o (h :: rows) = .ok (rows.map (zipPad (h.map Key.name))) := by
  obtain ⟨n, hn, hcn', hdec⟩ := fromFile_norm o h hcn hm
  have hsel : headerCn n h = h.map Key.name := by simp [headerCn, hcn']
  rw [tableResult_ok hn, outcome_header o n h rows hdec hnd, hsel]
  congr 1
  apply List.map_congr_left
  intro r _
  exact recOf_same o _ (nodup_map_name h hnd) r

theorem tableResult_positional (o : Opts) (hm : NoHeaderOpts o) (first : List Str)
    (rest : List (List Str)) :
    tableResult o (first :: rest) = .ok ((first :: rest).map (zipPad (positions first.length))) := by
  obtain ⟨n, hn, hcn', hdec⟩ := noHeader_norm o hm first
  have hdn : dataNames n first = positions first.length := by simp [dataNames, hcn']
  rw [tableResult_ok hn, outcome_data o n first rest hdec (by rw [hdn]; exact nodup_positions _), hdn]

theorem tableResult_select (o : Opts) (hru : o.returnUnknown = false) (sel h : List Str)
    (rows : List (List Str)) (hs : sel ≠ []) (hsn : sel.Nodup) (hsub : ∀ m ∈ sel, m ∈ h)
    (hm : Given o sel h) (hnd : h.Nodup) :
    tableResult o (h :: rows)
      = .ok (rows.map (fun r => sel.map (fun c => (Key.name c, cellAt h r c)))) := by
  obtain ⟨n, hn, hcn', hdec⟩ := given_norm o sel h hs hsn hsub hm
  have hsel : headerCn n h = sel.map Key.name := by simp [headerCn, hcn']
  rw [tableResult_ok hn, outcome_header o n h rows hdec hnd, hsel]
  congr 1
  apply List.map_congr_left
  intro r _
  exact recOf_select o hru h sel hnd hsn r

/-- names given, header optional, and the first row lacks one of them: it is data -/
theorem tableResult_names_data (o : Opts) (names : List Str) (hs : names ≠ []) (hsn : names.Nodup)
    (mand : MandArg) (hmand : mand = .none ∨ mand = .bool false) (hm : NamesOnly o names mand)
    (first : List Str) (rest : List (List Str)) (hmiss : ∃ m ∈ names, m ∉ first) :
    tableResult o (first :: rest) = .ok ((first :: rest).map (zipPad (names.map Key.name))) := by
  have hmo : mand ≠ .other := by rcases hmand with h | h <;> simp [h]
  have hn := namesOnly_norm o names mand hmo hs hsn hm
  have hmd : mandDefault mand = false := by rcases hmand with h | h <;> simp [h, mandDefault]
  have hdec := headerDecision_missing o (mandDefault mand) names first hs hmiss
  rw [hmd] at hdec hn
  simp only [Bool.false_eq_true, ↓reduceIte] at hdec
  rw [tableResult_ok hn]
  exact outcome_data o _ first rest hdec (by simpa [dataNames] using nodup_map_name names hsn)

/-- the same with a mandatory header: refused, nothing is read -/
theorem tableResult_names_refused (o : Opts) (names : List Str) (hs : names ≠ [])
    (hsn : names.Nodup) (hm : NamesOnly o names (.bool true)) (first : List Str)
    (rest : List (List Str)) (hmiss : ∃ m ∈ names, m ∉ first) :
    tableResult o (first :: rest) = if o.raiseExc then .error .ReferenceError else .ok [] := by
  have hn := namesOnly_norm o names (.bool true) (by simp) hs hsn hm
  have hdec := headerDecision_missing o true names first hs hmiss
  simp only [mandDefault] at hn
  rw [tableResult_ok hn]
  unfold outcome
  rw [hdec]
  cases o.raiseExc <;> rfl

/-- neither the option checks nor the header decision read `read_mode` -/
theorem normalise_binary (o : Opts) (b : Bool) : normalise { o with binary := b } = normalise o := rfl

theorem headerDecision_binary (n : Norm) (o : Opts) (b : Bool) (h : List Str) :
    headerDecision n { o with binary := b } h = headerDecision n o h := rfl

end N0.CsvFile
