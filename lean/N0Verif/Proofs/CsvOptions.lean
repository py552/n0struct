import N0Verif.Proofs.CsvFile
/-!
  `load_csv` on saved files under `strip_field`, `strip_line` (on lines without outer blanks) and
  `skip_empty_lines=False`, in closed form and for either read mode: instances of `loadCsv_written`.
  Namespace `N0.CsvReader` (shared with the second half of `CsvBinary.lean`) although only `CsvFile.loadCsv` is spoken of:
  `Props/C14.lean` finds `pyStrip`, `OuterClean`, `cellsOfRow`, `StripField`, `KeepEmpty` there.  The bundles are for its
  statements; `loadCsv_strip_field` takes the option equations one by one, and every lemma here holds for either read mode.
-/
namespace N0.CsvReader
open N0 N0.Py N0.Csv N0.CsvFile N0.C13

/-- the cell-wise `str.strip()` of text mode -/
def pyStrip (s : Str) : Str := stripWith isPySpace s

theorem wsFor_false : wsFor false = isPySpace := by
  funext c; simp [wsFor]

theorem stripWith_wsFor_false : stripWith (wsFor false) = pyStrip := by
  funext s
  rw [wsFor_false]
  rfl

/-- options of `C14_strip_field` (text mode) -/
structure StripField (o : Opts) (d : Char) : Prop where
  delim : o.delim = d
  skip : o.skipEmpty = true
  sl : o.stripLine = false
  sf : o.stripField = true
  text : o.binary = false

/-- `strip_field=True`: the table of the stripped names and cells, `str.strip()` in text mode, `bytes.strip()` in binary mode -/
theorem loadCsv_strip_field (o : Opts) (d : Char) (hd : GoodDelim d) (hdel : o.delim = d)
    (hse : o.skipEmpty = true) (hsl : o.stripLine = false) (hsf : o.stripField = true)
    (all : List (List Str)) (hc : NoBreakRows all) (bin : Bool) (hb : o.binary = bin) (t file : Str)
    (hs : SavedAs bin d all t file) :
    records (loadCsv o file)
      = tableResult o ((dataRows all).map (List.map (stripWith (wsFor bin)))) := by
  subst hb
  have hf : fieldsOf o = List.map (stripWith (wsFor o.binary)) := by
    funext r
    simp [fieldsOf, hsf]
  rw [loadCsv_saved o d hd hdel hse all hc t file hs
    (fun r hr => procLine_body o hsl _ t (bodyOf_noBreak d hd LF r (hc r hr)) hs.2.1), hf]

def OuterClean (p : Char → Bool) (s : Str) : Prop :=
  (∀ x, s.head? = some x → p x = false) ∧ (∀ x, s.getLast? = some x → p x = false)

theorem stripWith_padded (p : Char → Bool) (l c r : Str) (hl : ∀ x ∈ l, p x = true)
    (hr : ∀ x ∈ r, p x = true) (hc : OuterClean p c) : stripWith p (l ++ c ++ r) = c :=
  stripBy_pad p l r c hl hr hc.1 hc.2

theorem stripWith_clean (p : Char → Bool) (s : Str) (hc : OuterClean p s) : stripWith p s = s :=
  stripBy_eq_self p s hc.1 hc.2

theorem procLine_clean (o : Opts) (body t : Str) (hb : NoBreak body) (ht : IsEol t)
    (hcl : OuterClean (wsFor o.binary) body) : procLine o (body ++ t) = body := by
  unfold procLine
  simp only [rstrip_crlf_append body t hb ht]
  split
  · exact stripWith_clean _ _ hcl
  · rfl

/-- `strip_line=True` changes nothing on a saved file none of whose lines has an outer blank:
neither `process_field` nor the decision table reads the option -/
theorem loadCsv_strip_line_clean (o : Opts) (d : Char) (hd : GoodDelim d) (hp : Plain o d)
    (all : List (List Str)) (hc : NoBreakRows all) (bin : Bool) (hb : o.binary = bin) (t file : Str)
    (hs : SavedAs bin d all t file)
    (hcl : ∀ r ∈ all, OuterClean (wsFor bin) (bodyOf d LF r)) :
    records (loadCsv { o with stripLine := true } file) = records (loadCsv o file) := by
  subst hb
  have hf : fieldsOf { o with stripLine := true } = id := by
    funext r
    simp [fieldsOf, hp.sf]
  rw [loadCsv_plain o d hd hp all hc _ rfl t file hs,
    loadCsv_saved { o with stripLine := true } d hd hp.delim hp.skip all hc t file hs
      (fun r hr => procLine_clean _ _ t (bodyOf_noBreak d hd LF r (hc r hr)) hs.2.1 (hcl r hr)),
    hf, List.map_id]
  rfl

/-- the cells `load_csv` reads from the line of a row: a blank line gives one empty cell -/
def cellsOfRow (r : List Str) : List Str := if r.isEmpty then [[]] else r

theorem cellsOfRow_of_ne_nil {r : List Str} (h : r ≠ []) : cellsOfRow r = r := by
  cases r with
  | nil => exact absurd rfl h
  | cons _ _ => rfl

/-- options of `C14_keep_empty_lines`: `Plain` (Proofs/CsvFile) with `skip_empty_lines=False` -/
structure KeepEmpty (o : Opts) (d : Char) : Prop where
  delim : o.delim = d
  skip : o.skipEmpty = false
  sl : o.stripLine = false
  sf : o.stripField = false

theorem parseLine_keep (o : Opts) (d : Char) (hd : GoodDelim d) (hp : KeepEmpty o d) (t : Str)
    (r : List Str) (hf : ∀ g ∈ r, NoBreak g) :
    parseLine o (bodyOf d t r) = .ok (cellsOfRow r) := by
  cases r with
  | nil => simp [parseLine, bodyOf_nil, parse, rstrip, run, St.init, hp.sf, bind, Except.bind,
      pure, Except.pure, cellsOfRow]
  | cons f fs =>
    rw [parseLine_bodyOf o d hd hp.delim t f fs hf]
    simp [fieldsOf, hp.sf, cellsOfRow]

theorem loadCsv_keep (o : Opts) (d : Char) (hd : GoodDelim d) (hp : KeepEmpty o d)
    (first : List Str) (hne : first ≠ []) (rows : List (List Str))
    (hc : NoBreakRows (first :: rows)) (bin : Bool) (hb : o.binary = bin) (t file : Str)
    (hs : SavedAs bin d (first :: rows) t file) :
    records (loadCsv o file) = tableResult o (first :: rows.map cellsOfRow) := by
  subst hb
  have := loadCsv_written o d cellsOfRow (first :: rows) t file hs
    (fun r hr => procLine_body o hp.sl _ t (bodyOf_noBreak d hd LF r (hc r hr)) hs.2.1)
    (fun r hr _ => parseLine_keep o d hd hp LF r (hc r hr))
    (fun _ r rest h => by cases h; exact hne)
  have hk : keptRows o (first :: rows) = first :: rows := by simp [keptRows, hp.skip]
  rw [hk, List.map_cons, cellsOfRow_of_ne_nil hne] at this
  exact this

/-- cell-level sufficient condition for `C14_strip_line_clean`: the delimiter is not a blank and
no cell begins or ends with one -/
theorem bodyOf_outerClean (p : Char → Bool) (d : Char) (t : Str) (hpd : p d = false)
    (hpq : p '"' = false) (r : List Str) (hr : ∀ f ∈ r, OuterClean p f) :
    OuterClean p (bodyOf d t r) := by
  cases r with
  | nil => constructor <;> intro x hx <;> simp [bodyOf_nil] at hx
  | cons f fs =>
    rw [bodyOf_cons]
    constructor
    · intro x hx
      rcases rowStr_head d _ f fs x hx with h | h | h
      · rw [h]; exact hpq
      · rw [h]; exact hpd
      · exact (hr f (by simp)).1 x h
    · intro x hx
      rcases rowStr_last d _ f fs x hx with h | h | ⟨g, hg, h⟩
      · rw [h]; exact hpq
      · rw [h]; exact hpd
      · exact (hr g hg).2 x h

end N0.CsvReader
