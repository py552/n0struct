import N0Verif.Model.CsvReader
import N0Verif.Proofs.CsvFile
/-!
  The other readers against `load_csv` (C14, "… and all agree with the standard csv reader").  The state machine of
  `csv.reader` simulates the one of `parse_complex_csv_line` character by character on a physical line (`feed_sim`): that
  gives the EXACT domain on which the two agree (`feedLine_body`, `reader_line`), not only agreement on written lines.
  `load_simple_csv` = `load_csv` on every file without a quote character (text mode, `return_unknown_fields=False`);
  `load_native_csv` on saved files (`native_*`).
-/
namespace N0.CsvReader
open N0 N0.Py N0.Csv N0.CsvFile N0.C13

/-- the reader state that corresponds to a parser state (after at least one character, or at
the start of a field) -/
def toR (st : St) : RSt :=
  { state := if st.qb then (if st.ex then .quoteInQuoted else .inQuoted)
             else (if st.field.isEmpty then .startField else .inField),
    field := st.field, fields := st.out }

/-- reachable parser states: the "expect delimiter or quote" flag is only set inside quotes -/
def Inv (st : St) : Prop := st.qb = false → st.ex = false

theorem isNL_false {c : Char} (h1 : c ≠ '\r') (h2 : c ≠ '\n') : isNL c = false := by
  simp [isNL, h1, h2]

def simOf (x : PyM St) : Except RErr RSt :=
  match x with
  | .ok st => .ok (toR st)
  | .error _ => .error .csv

theorem rstep_sim (d : Char) (hd : d ≠ '"') (st : St) (hinv : Inv st) (c : Char)
    (hc : isNL c = false) :
    rstep d (toR st) (some c) = simOf (step d st c) ∧ ∀ st', step d st c = .ok st' → Inv st' := by
  -- the invariant of the state a step ends in: it is outside quotes with the flag down, or inside
  have plain : ∀ (f : Str) (o : List Str) (st' : St),
      (Except.ok ⟨f, o, false, false⟩ : PyM St) = .ok st' → Inv st' :=
    fun f o st' h => Except.ok.inj h ▸ fun _ => rfl
  have quoted : ∀ (f : Str) (o : List Str) (ex : Bool) (st' : St),
      (Except.ok ⟨f, o, true, ex⟩ : PyM St) = .ok st' → Inv st' :=
    fun f o ex st' h => Except.ok.inj h ▸ fun hq => Bool.noConfusion hq
  obtain ⟨f, o, qb, ex⟩ := st
  cases qb <;> cases ex
  · -- outside quotes: `START_FIELD` while the field is empty, `IN_FIELD` afterwards
    by_cases hcd : c = d
    · subst hcd
      rw [step_delim c _ (.inl rfl)]
      refine ⟨?_, plain _ _⟩
      cases f <;> simp [rstep, toR, stepStartField, RSt.save, hc, hd, simOf]
    · by_cases hq : c = '"' ∧ f = []
      · obtain ⟨rfl, rfl⟩ := hq
        rw [step_open d hd o]
        exact ⟨by simp [rstep, toR, stepStartField, RSt.goto, hc, simOf], quoted _ _ _⟩
      · have hq' : c ≠ '"' ∨ f ≠ [] := by
          by_cases h : c = '"'
          · exact .inr (fun hf => hq ⟨h, hf⟩)
          · exact .inl h
        rw [step_plain hcd f o hq']
        refine ⟨?_, plain _ _⟩
        cases f with
        | nil =>
          have : c ≠ '"' := hq'.resolve_right (fun h => h rfl)
          simp [rstep, toR, stepStartField, RSt.add, hc, hcd, this, simOf]
        | cons x f => simp [rstep, toR, RSt.add, hc, hcd, simOf]
  · exact absurd (hinv rfl) (by simp)
  · -- inside quotes
    by_cases hq : c = '"'
    · subst hq
      rw [step_quote_inQuoted d hd f o]
      exact ⟨by simp [rstep, toR, RSt.goto, simOf], quoted _ _ _⟩
    · rw [step_inQuoted d hq f o]
      exact ⟨by simp [rstep, toR, RSt.add, hq, simOf], quoted _ _ _⟩
  · -- after a quote inside quotes
    by_cases hcd : c = d
    · subst hcd
      rw [step_delim c _ (.inr rfl)]
      exact ⟨by simp [rstep, toR, RSt.save, hd, simOf], plain _ _⟩
    · by_cases hq : c = '"'
      · subst hq
        rw [step_quote_afterQuote d hd f o]
        exact ⟨by simp [rstep, toR, RSt.add, simOf], quoted _ _ _⟩
      · rw [step_afterQuote_error hcd hq f o]
        exact ⟨by simp [rstep, toR, hcd, hq, hc, simOf], fun st' h => nomatch h⟩

theorem feed_sim (d : Char) (hd : d ≠ '"') (body : Str) (hb : NoBreak body) (st : St)
    (hinv : Inv st) :
    feed d (toR st) body = simOf (run d st body)
      ∧ ∀ st', run d st body = .ok st' → Inv st' := by
  induction body generalizing st with
  | nil => simp [feed, run, simOf, hinv]
  | cons c body ih =>
    have h1 : c ≠ '\r' := fun h => hb.1 (by simp [h])
    have h2 : c ≠ '\n' := fun h => hb.2 (by simp [h])
    have hb' : NoBreak body := ⟨fun h => hb.1 (by simp [h]), fun h => hb.2 (by simp [h])⟩
    obtain ⟨hstep, hinv'⟩ := rstep_sim d hd st hinv c (isNL_false h1 h2)
    simp only [feed, run, hstep]
    cases hs : step d st c with
    | error e => simp [simOf, bind, Except.bind]
    | ok st' =>
      simp only [simOf, bind, Except.bind]
      exact ih hb' st' (hinv' st' hs)

theorem feed_eq_foldlM (d : Char) (r : RSt) (s : Str) :
    feed d r s = s.foldlM (fun r c => rstep d r (some c)) r := by
  induction s generalizing r <;> simp only [feed, List.foldlM_cons, *] <;> rfl

theorem feed_append (d : Char) (r : RSt) (a b : Str) :
    feed d r (a ++ b) = (feed d r a) >>= (fun r' => feed d r' b) := by
  simp only [feed_eq_foldlM, List.foldlM_append]

theorem feedLine_append (d : Char) (r : RSt) (a b : Str) :
    feedLine d r (a ++ b) = (feed d r a) >>= (fun r' => feedLine d r' b) := by
  unfold feedLine
  rw [feed_append]
  cases feed d r a <;> rfl

theorem isNL_of_isEol {e : Str} (he : IsEol e) {c : Char} (hc : c ∈ e) : isNL c = true := by
  rcases he c hc with h | h <;> simp [isNL, h]

/-- in `EAT_CRNL` further CR/LF characters are swallowed -/
theorem feed_eat (d : Char) (r : RSt) (hs : r.state = .eatCRNL) (e : Str) (he : IsEol e) :
    feed d r e = .ok r := by
  induction e with
  | nil => rfl
  | cons c e ih =>
    simp only [feed, rstep, hs, isNL_of_isEol he (List.mem_cons_self ..), ↓reduceIte, bind,
      Except.bind]
    exact ih (fun x hx => he x (by simp [hx]))

/-- the end of a line after a complete field: the field is saved and the record ends -/
theorem feedLine_end (d : Char) (hdn : isNL d = false) (r : RSt)
    (hs : r.state = .startField ∨ r.state = .inField ∨ r.state = .quoteInQuoted)
    (e : Str) (he : IsEol e) :
    feedLine d r e = .ok { state := .startRecord, field := [], fields := r.fields ++ [r.field] } := by
  cases e with
  | nil => rcases hs with h | h | h <;> simp [feedLine, feed, bind, Except.bind, rstep, h, stepStartField, RSt.save]
  | cons c e =>
    have hc : isNL c = true := isNL_of_isEol he (List.mem_cons_self ..)
    have hne : c ≠ '"' := by
      intro h
      subst h
      simp [isNL] at hc
    have hcd : c ≠ d := by
      intro h
      subst h
      rw [hc] at hdn
      cases hdn
    -- the first CR/LF saves the field, the others are eaten, the sentinel ends the record
    have key : rstep d r (some c) = .ok (r.save .eatCRNL) := by
      rcases hs with h | h | h
      · simp [rstep, h, stepStartField, hc]
      · simp [rstep, h, hc]
      · simp [rstep, h, hne, hcd, hc]
    simp only [feedLine, feed, key, bind, Except.bind]
    rw [feed_eat d _ rfl e (fun x hx => he x (by simp [hx]))]
    simp [rstep, RSt.save, RSt.goto]

/-- inside an open quoted field the line ending is data and the record continues -/
theorem feedLine_open (d : Char) (r : RSt) (hs : r.state = .inQuoted) (e : Str) (he : IsEol e) :
    feedLine d r e = .ok { state := .inQuoted, field := r.field ++ e, fields := r.fields } := by
  induction e generalizing r with
  | nil =>
    obtain ⟨s, f, fs⟩ := r
    simp only at hs
    subst hs
    simp [feedLine, feed, bind, Except.bind, rstep]
  | cons c e ih =>
    have hne : c ≠ '"' := by
      intro h
      subst h
      have := isNL_of_isEol he (List.mem_cons_self ..)
      simp [isNL] at this
    have key : rstep d r (some c) = .ok (r.add c .inQuoted) := by simp [rstep, hs, hne]
    have := ih (r.add c .inQuoted) rfl (fun x hx => he x (by simp [hx]))
    simp only [feedLine, feed, key, bind, Except.bind] at this ⊢
    rw [this]
    simp [RSt.add]

/-- the first character of a record is handled as the first character of a field -/
theorem rstep_init (d : Char) (c : Char) (hc : isNL c = false) :
    rstep d RSt.init (some c) = rstep d (toR St.init) (some c) := by
  simp [rstep, RSt.init, toR, St.init, hc, stepStartField, RSt.save, RSt.add, RSt.goto]

/-- **one physical line**: what `csv.reader` makes of `body ++ eol` (no line break inside `body`,
`body` not empty), in terms of the library parser's run over `body`: the record, or a quoted
field that stays open into the next line, or an error -/
theorem feedLine_body (d : Char) (hd : GoodDelim d) (body : Str) (hb : NoBreak body)
    (hne : body ≠ []) (eol : Str) (he : IsEol eol) :
    feedLine d RSt.init (body ++ eol) =
      match run d St.init body with
      | .error _ => .error .csv
      | .ok st =>
        .ok (if st.qb && !st.ex then { state := .inQuoted, field := st.field ++ eol, fields := st.out }
          else { state := .startRecord, field := [], fields := st.out ++ [st.field] }) := by
  have hdn : isNL d = false := isNL_false hd.2.1 hd.2.2
  obtain ⟨hsim, hinv⟩ := feed_sim d hd.1 body hb St.init (fun _ => rfl)
  have hfirst : feedLine d RSt.init (body ++ eol) = feedLine d (toR St.init) (body ++ eol) := by
    cases body with
    | nil => exact absurd rfl hne
    | cons c rest =>
      have h1 : c ≠ '\r' := fun h => hb.1 (by simp [h])
      have h2 : c ≠ '\n' := fun h => hb.2 (by simp [h])
      simp only [List.cons_append, feedLine, feed, rstep_init d c (isNL_false h1 h2)]
  rw [hfirst, feedLine_append, hsim]
  cases hr : run d St.init body with
  | error e => rfl
  | ok st =>
    have hi := hinv st hr
    obtain ⟨field, out, qb, ex⟩ := st
    show feedLine d (toR _) eol = _
    cases qb <;> cases ex
    · exact feedLine_end d hdn _ (by cases field <;> simp [toR]) eol he
    · exact absurd (hi rfl) (by simp)
    · exact feedLine_open d _ rfl eol he
    · exact feedLine_end d hdn _ (by simp [toR]) eol he

theorem readerAux_cons (d : Char) (l : Str) (ls : List Str) (r' : RSt)
    (hf : feedLine d RSt.init l = .ok r') (hs : r'.state = .startRecord) :
    readerAux d RSt.init (l :: ls)
      = (r'.fields :: (readerAux d RSt.init ls).1, (readerAux d RSt.init ls).2) := by
  simp [readerAux, hf, hs]

/-- `feedLine_body` for a file of one line (`strict`: a field left open is an error) -/
theorem reader_line (d : Char) (hd : GoodDelim d) (body : Str) (hb : NoBreak body)
    (hne : body ≠ []) (eol : Str) (he : IsEol eol) :
    readerAux d RSt.init [body ++ eol] =
      match run d St.init body with
      | .error _ => ([], some .csv)
      | .ok st => if st.qb && !st.ex then ([], some .csv) else ([st.out ++ [st.field]], none) := by
  have hf := feedLine_body d hd body hb hne eol he
  cases hr : run d St.init body with
  | error e =>
    rw [hr] at hf
    simp [readerAux, hf]
  | ok st =>
    rw [hr] at hf
    simp only [] at hf ⊢
    cases hq : (st.qb && !st.ex) with
    | true =>
      simp only [hq, ↓reduceIte] at hf ⊢
      simp [readerAux, hf]
    | false =>
      simp only [hq, Bool.false_eq_true, ↓reduceIte] at hf ⊢
      rw [readerAux_cons d _ [] _ hf rfl]
      rfl

/-- a blank line is the empty record -/
theorem reader_blank (d : Char) (eol : Str) (he : IsEol eol) :
    feedLine d RSt.init eol = .ok RSt.init := by
  cases eol with
  | nil => simp [feedLine, feed, bind, Except.bind, rstep, RSt.init]
  | cons c e =>
    simp only [feedLine, feed, rstep, RSt.init, isNL_of_isEol he (List.mem_cons_self ..),
      ↓reduceIte, bind, Except.bind]
    rw [feed_eat d _ rfl e (fun x hx => he x (by simp [hx]))]
    simp [RSt.goto]

/-- **reader-side round trip**: every adequate quoting decision (that also quotes a lone empty
field) is read back by `csv.reader` -/
theorem feedLine_rowStr (d : Char) (hd : GoodDelim d) (q : Str → Bool) (hq : Adequate d q)
    (f : Str) (fs : List Str) (hf : ∀ g ∈ f :: fs, NoBreak g)
    (hlone : fs = [] → f = [] → q [] = true) (eol : Str) (he : IsEol eol) :
    feedLine d RSt.init (rowStr d q f fs ++ eol)
      = .ok { state := .startRecord, field := [], fields := f :: fs } := by
  rw [feedLine_body d hd _ (rowStr_noBreak d hd q f fs hf)
    (rowStr_ne_nil d q f fs hlone) eol he]
  obtain ⟨st, h1, h2, h3⟩ := run_row d hd.1 q hq [] f fs
  have h1' : run d St.init (rowStr d q f fs) = .ok st := h1
  have : (st.qb && !st.ex) = false := by rw [h3]; cases st.ex <;> rfl
  rw [h1']
  simp only [this]
  rw [h2]
  rfl

theorem reader_rowStr (d : Char) (hd : GoodDelim d) (q : Str → Bool) (hq : Adequate d q)
    (f : Str) (fs : List Str) (hf : ∀ g ∈ f :: fs, NoBreak g)
    (hlone : fs = [] → f = [] → q [] = true) (eol : Str) (he : IsEol eol) :
    readerAux d RSt.init [rowStr d q f fs ++ eol] = ([f :: fs], none) := by
  rw [readerAux_cons d _ [] _ (feedLine_rowStr d hd q hq f fs hf hlone eol he) rfl]
  rfl

/-- `csv.reader` reads the lines `csv.writer` wrote back as the rows (an empty row, written as
a blank line, comes back as the empty record) -/
theorem readerAux_written (d : Char) (hd : GoodDelim d) (eol : Str) (he : IsEol eol)
    (rows : List (List Str)) (hc : NoBreakRows rows) :
    readerAux d RSt.init (rows.map (fun r => bodyOf d LF r ++ eol)) = (rows, none) := by
  induction rows with
  | nil => rfl
  | cons r rows ih =>
    have hr := hc.head
    simp only [List.map_cons]
    cases r with
    | nil =>
      rw [bodyOf_nil, List.nil_append,
        readerAux_cons d eol _ RSt.init (reader_blank d eol he) rfl, ih hc.tail]
      rfl
    | cons f fs =>
      rw [bodyOf_cons, readerAux_cons d _ _ _
        (feedLine_rowStr d hd _ (writer_adequate d LF ((f :: fs).length == 1)) f fs hr
          (by intro h1 h2; subst h1 h2; simp [writerNeedsQuote]) eol he) rfl, ih hc.tail]

theorem nlLines_body_eol (body rest e : Str) (he : Eol e) (hb : NoBreak body) :
    nlLines (body ++ e ++ rest) = (body ++ e) :: nlLines rest := by
  induction body with
  | nil => rcases he with rfl | rfl <;> simp [nlLines, LF, CRLF]
  | cons c body ih =>
    have h1 : c ≠ '\r' := fun h => hb.1 (by simp [h])
    have h2 : c ≠ '\n' := fun h => hb.2 (by simp [h])
    have hb' : NoBreak body := ⟨fun h => hb.1 (by simp [h]), fun h => hb.2 (by simp [h])⟩
    simp only [List.cons_append, nlLines, h1, h2, ↓reduceIte]
    rw [ih hb']

/-- the lines `load_native_csv` / `csv.reader` see of a saved file (text mode, `newline=''`,
`utf-8-sig`) -/
theorem nlLines_file (d : Char) (hd : GoodDelim d) (hdb : d ≠ bomChar) (eol : Str) (he : Eol eol)
    (bom : Bool) (rows : List (List Str)) (hc : NoBreakRows rows) (hb : NoBomRows rows) :
    nlLines (decodeSig (withBom bom (written d eol rows)))
      = rows.map (fun r => bodyOf d LF r ++ eol) := by
  rw [decodeSig_withBom _ _ (bom_not_mem_written d hdb eol he rows hb)]
  exact lines_of_written nlLines rfl d hd eol eol he
    (fun body rest hb => nlLines_body_eol body rest eol he hb) rows hc


theorem readRowsWith_parseLine (o : Opts) : readRowsWith parseLine o = readRows o := by
  funext names cn ls
  induction ls with
  | nil => rfl
  | cons l ls ih => simp only [readRowsWith, readRows, ih]

/-- the parametrised loop is `load_csv`'s own loop when the parser is `parse_complex_csv_line` -/
theorem loadLinesWith_parseLine (o : Opts) (ls : List Str) :
    loadLinesWith parseLine o ls = loadLines o ls := by
  unfold loadLinesWith loadLines
  rw [readRowsWith_parseLine o]
  rfl

theorem readRowsWith_congr (P Q : Opts → Str → PyM (List Str)) (o : Opts) (names cn : List Key)
    (ls : List Str) (h : ∀ l ∈ ls, P o (procLine o l) = Q o (procLine o l)) :
    readRowsWith P o names cn ls = readRowsWith Q o names cn ls := by
  induction ls with
  | nil => rfl
  | cons l ls ih =>
    have h1 := h l (by simp)
    have h2 := ih (fun x hx => h x (by simp [hx]))
    simp only [readRowsWith, h1, h2]

theorem skipBlank_spec (o : Opts) (ls : List Str) (f hl : Str) (rest : List Str)
    (h : skipBlank o ls = some (f, hl, rest)) :
    f ∈ ls ∧ hl = procLine o f ∧ ∀ l ∈ rest, l ∈ ls := by
  induction ls with
  | nil => cases h
  | cons l ls ih =>
    by_cases hl0 : l = []
    · subst hl0
      cases h
    · by_cases hb : procLine o l = []
      · rw [skipBlank_blank o l ls hl0 hb] at h
        obtain ⟨h1, h2, h3⟩ := ih h
        exact ⟨List.mem_cons_of_mem _ h1, h2, fun x hx => List.mem_cons_of_mem _ (h3 x hx)⟩
      · rw [skipBlank_first o l ls hl0 hb] at h
        cases h
        exact ⟨List.mem_cons_self .., rfl, fun x hx => List.mem_cons_of_mem _ hx⟩

theorem loadLinesWith_congr (P Q : Opts → Str → PyM (List Str)) (o : Opts) (ls : List Str)
    (h : ∀ l ∈ ls, P o (procLine o l) = Q o (procLine o l)) :
    loadLinesWith P o ls = loadLinesWith Q o ls := by
  unfold loadLinesWith
  -- the parser is called inside the binds only: descend through them, then split on the decision
  apply bind_congr
  intro n
  cases hs : skipBlank o ls with
  | none => rfl
  | some t =>
    obtain ⟨f, hl, rest⟩ := t
    obtain ⟨h1, h2, h3⟩ := skipBlank_spec o ls f hl rest hs
    subst h2
    have e1 : ∀ names cn, readRowsWith P o names cn (f :: rest) = readRowsWith Q o names cn (f :: rest) :=
      fun names cn => readRowsWith_congr P Q o names cn _ (by
        intro l hl
        rcases List.mem_cons.1 hl with hl | hl
        · subst hl; exact h l h1
        · exact h l (h3 l hl))
    have e2 : ∀ names cn, readRowsWith P o names cn rest = readRowsWith Q o names cn rest :=
      fun names cn => readRowsWith_congr P Q o names cn _ (fun l hl => h l (h3 l hl))
    simp only [h f h1]
    apply bind_congr
    intro cells
    apply bind_congr
    intro dec
    cases dec with
    | none => rfl
    | some b =>
      cases b with
      | false => exact e1 _ _
      | true =>
        simp only []
        split
        · rfl
        · exact e2 _ _

/-- without a quote character the library parser is a plain split at the delimiter -/
theorem run_no_quote (d : Char) (s : Str) (hq : '"' ∉ s) (pre : Str) (o : List Str) :
    ∃ st, run d { field := pre, out := o, qb := false, ex := false } s = .ok st
      ∧ st.out ++ [st.field] = o ++ consHead pre (splitChar d s) := by
  induction s generalizing pre o with
  | nil => exact ⟨_, rfl, by simp [splitChar, consHead]⟩
  | cons c s ih =>
    have hc : c ≠ '"' := fun h => hq (by simp [h])
    have hq' : '"' ∉ s := fun h => hq (by simp [h])
    rw [splitChar_cons]
    by_cases hcd : c = d
    · subst hcd
      obtain ⟨st, h1, h2⟩ := ih hq' [] (o ++ [pre])
      refine ⟨st, by rw [run_cons_ok (step_delim c _ (.inl rfl))]; exact h1, ?_⟩
      rw [h2, consHead_nil _ (splitChar_ne_nil c s)]
      simp [consHead]
    · obtain ⟨st, h1, h2⟩ := ih hq' (pre ++ [c]) o
      refine ⟨st, by rw [run_cons_ok (step_plain hcd pre o (.inl hc))]; exact h1, ?_⟩
      rw [h2, if_neg hcd, consHead_consHead]

theorem parse_no_quote (d : Char) (line : Str) (hq : '"' ∉ line) :
    parse d line = .ok (splitChar d (rstrip crlf line)) := by
  unfold parse
  have hq' : '"' ∉ rstrip crlf line := fun h => hq (mem_of_mem_rstrip _ _ _ h)
  obtain ⟨st, h1, h2⟩ := run_no_quote d _ hq' [] []
  have h1' : run d St.init (rstrip crlf line) = .ok st := h1
  rw [h1']
  rw [consHead_nil _ (splitChar_ne_nil _ _)] at h2
  simp only [bind, Except.bind, pure, Except.pure]
  simpa using h2

theorem simpleParse_eq (o : Opts) (hb : o.binary = false) (l : Str) (hq : '"' ∉ l) :
    simpleParse o l = parseLine o l := by
  unfold simpleParse parseLine
  rw [parse_no_quote o.delim l hq]
  simp [hb, bind, Except.bind, pure, Except.pure]

theorem physLines_no_quote (file : Str) (hq : '"' ∉ file) :
    ∀ l ∈ physLines false file, '"' ∉ l := by
  intro l hl hc
  simp only [physLines, Bool.false_eq_true, ↓reduceIte, textLines] at hl
  rcases textLinesAux_mem false _ l hl _ hc with h | h
  · exact hq (mem_of_mem_decodeSig _ _ h)
  · exact absurd h (by decide)

/-- cells that `csv.writer` leaves unquoted -/
def PlainCell (d : Char) (f : Str) : Prop := d ∉ f ∧ '"' ∉ f ∧ NoBreak f

theorem writerNeedsQuote_plain (d : Char) (term : Str) (ht : IsEol term) (single : Bool) (f : Str)
    (hf : PlainCell d f) (hs : single = true → f ≠ []) :
    writerNeedsQuote d term single f = false := by
  unfold writerNeedsQuote
  have h1 : f.any (fun c => c = d || c = '"' || term.contains c) = false := by
    rw [List.any_eq_false]
    intro c hc
    have hcd : c ≠ d := fun h => hf.1 (h ▸ hc)
    have hcq : c ≠ '"' := fun h => hf.2.1 (h ▸ hc)
    have hcr : c ≠ '\r' := fun h => hf.2.2.1 (h ▸ hc)
    have hcn : c ≠ '\n' := fun h => hf.2.2.2 (h ▸ hc)
    have hct : c ∉ term := by
      have := eol_contains_false term ht c hcr hcn
      simpa using this
    simp [hcd, hcq, hct]
  rw [h1]
  cases single with
  | false => rfl
  | true =>
    have := hs rfl
    cases f with
    | nil => exact absurd rfl this
    | cons _ _ => rfl

theorem bodyOf_plain (d : Char) (term : Str) (ht : IsEol term) (r : List Str)
    (hr : ∀ f ∈ r, PlainCell d f) (hlone : r ≠ [[]]) : bodyOf d term r = join [d] r := by
  unfold bodyOf
  congr 1
  have : ∀ f ∈ r, encWith (writerNeedsQuote d term (r.length == 1)) f = f := by
    intro f hf
    unfold encWith
    rw [writerNeedsQuote_plain d term ht _ f (hr f hf) (by
      intro hl hfe
      subst hfe
      cases r with
      | nil => simp at hf
      | cons x xs =>
        cases xs with
        | nil => simp at hf; subst hf; exact hlone rfl
        | cons _ _ => simp at hl)]
    simp
  calc r.map (encWith (writerNeedsQuote d term (r.length == 1)))
      = r.map id := List.map_congr_left this
    _ = r := List.map_id r

theorem written_no_quote (d : Char) (hd : d ≠ '"') (eol : Str) (he : Eol eol)
    (rows : List (List Str)) (hr : ∀ r ∈ rows, (∀ f ∈ r, PlainCell d f) ∧ r ≠ [[]]) (bom : Bool) :
    '"' ∉ withBom bom (written d eol rows) := by
  have hw : '"' ∉ written d eol rows := by
    intro h
    unfold written at h
    rw [List.mem_flatMap] at h
    obtain ⟨r, hrm, hc⟩ := h
    rw [writerLine_eq, List.mem_append] at hc
    rcases hc with hc | hc
    · rw [bodyOf_plain d eol he.isEol r (hr r hrm).1 (hr r hrm).2] at hc
      rcases join_mem _ _ _ hc with h | ⟨g, hg, hcg⟩
      · simp at h; exact hd h.symm
      · exact ((hr r hrm).1 g hg).2.1 hcg
    · rcases he.isEol _ hc with h | h <;> exact absurd h (by decide)
  unfold withBom
  split
  · intro h
    rcases List.mem_cons.1 h with h | h
    · exact absurd h (by decide)
    · exact hw h
  · exact hw


theorem nativeRec_nodup (names : List Str) (hn : names.Nodup) (row : List Str) :
    nativeRec names row
      = { row := zipPad (names.map Key.name) row,
          rest := if names.length < row.length then some (row.drop names.length) else none } := by
  unfold nativeRec
  rw [dictOf_zipPad _ _ (nodup_map_name names hn)]

/-- the `key != value` test over the pairs of a row -/
def pairMismatch (kv : Key × Option Str) : Bool :=
  match kv with
  | (.name k, some v) => k != v
  | _ => true

theorem headerMismatch_eq (r : NRec) :
    headerMismatch r = (r.rest.isSome || r.row.any pairMismatch) := rfl

theorem zipPad_self_any (names : List Str) :
    (zipPad (names.map Key.name) names).any pairMismatch = false := by
  induction names with
  | nil => rfl
  | cons k ks ih => simp [zipPad, pairMismatch, ih]

theorem zipPad_any_false (names row : List Str) (hl : row.length ≤ names.length)
    (h : (zipPad (names.map Key.name) row).any pairMismatch = false) : row = names := by
  induction names generalizing row with
  | nil => cases row with
    | nil => rfl
    | cons _ _ => simp at hl
  | cons k ks ih =>
    cases row with
    | nil => simp [zipPad, pairMismatch] at h
    | cons v vs =>
      simp only [List.map_cons, zipPad, List.any_cons, Bool.or_eq_false_iff] at h
      have hkv : k = v := by
        have := h.1
        simpa [pairMismatch] using this
      rw [hkv, ih vs (by simpa using hl) h.2]

theorem headerMismatch_iff (names : List Str) (hn : names.Nodup) (row : List Str) :
    headerMismatch (nativeRec names row) = false ↔ row = names := by
  rw [nativeRec_nodup names hn, headerMismatch_eq]
  constructor
  · intro h
    simp only [Bool.or_eq_false_iff] at h
    obtain ⟨h1, h2⟩ := h
    have hl : row.length ≤ names.length := by
      by_cases hlt : names.length < row.length
      · simp [hlt] at h1
      · exact Nat.not_lt.1 hlt
    exact zipPad_any_false names row hl h2
  · intro h
    subst h
    simp [zipPad_self_any]

theorem dataRows_eq_filter (rows : List (List Str)) :
    rows.filter (fun r => !r.isEmpty) = dataRows rows := rfl

/-- `column_names = names`, `contains_header` true: the first non-blank row is checked against the
names; it is skipped when it equals them, otherwise the file is refused -/
theorem native_checked (o : NOpts) (names : List Str) (hn : names.Nodup)
    (hcn : o.columnNames = .list names) (hch : o.containsHeader = true)
    (lines : List Str) (rows : List (List Str)) (first : List Str) (rest : List (List Str))
    (hrows : dataRows rows = first :: rest)
    (h : readerAux o.delim RSt.init lines = (rows, none)) :
    nativeLines o lines =
      if first = names then .ok (rest.map (nativeRec names))
      else if o.raiseExc then .error (.py .ReferenceError) else .ok [] := by
  have hd : hasDup names = false := (hasDup_eq_false names).2 hn
  by_cases hf : first = names
  · subst hf
    have hm : headerMismatch (nativeRec first first) = false := (headerMismatch_iff first hn first).2 rfl
    simp [nativeLines, hcn, hd, h, hch, dataRows_eq_filter, hrows, hm, finish]
  · have hm : headerMismatch (nativeRec names first) = true := by
      cases hx : headerMismatch (nativeRec names first) with
      | true => rfl
      | false => exact absurd ((headerMismatch_iff names hn first).1 hx) hf
    simp [nativeLines, hcn, hd, h, hch, dataRows_eq_filter, hrows, hm, hf]

/-- `column_names = names`, `contains_header` false: every non-blank row is a record -/
theorem native_names_only (o : NOpts) (names : List Str) (hn : names.Nodup)
    (hcn : o.columnNames = .list names) (hch : o.containsHeader = false)
    (lines : List Str) (rows : List (List Str))
    (h : readerAux o.delim RSt.init lines = (rows, none)) :
    nativeLines o lines = .ok ((dataRows rows).map (nativeRec names)) := by
  have hd : hasDup names = false := (hasDup_eq_false names).2 hn
  simp only [nativeLines, hcn, hd, h, hch, dataRows_eq_filter, Bool.false_eq_true, ↓reduceIte,
    Bool.false_and]
  cases dataRows rows <;> simp [finish]

/-- `column_names` absent: the first row of the file gives the names (fix C14-f: whatever
`contains_header`) -/
theorem native_from_file (o : NOpts) (hdr : List Str)
    (hcn : o.columnNames = .none) (lines : List Str) (rows : List (List Str))
    (h : readerAux o.delim RSt.init lines = (hdr :: rows, none)) :
    nativeLines o lines = .ok ((dataRows rows).map (nativeRec hdr)) := by
  simp only [nativeLines, hcn, h, dataRows_eq_filter, Option.isSome_none, Bool.and_false,
    Bool.false_eq_true, ↓reduceIte]
  cases dataRows rows <;> simp [finish]

/-- `load_native_csv` on a saved file is `nativeLines` on lines over which `csv.reader` yields the
rows of the table -/
theorem native_file (o : NOpts) (d : Char) (hd : GoodDelim d) (hdb : d ≠ bomChar)
    (hod : o.delim = d) (eol : Str) (he : Eol eol) (bom : Bool) (all : List (List Str))
    (hc : NoBreakRows all) (hb : NoBomRows all) (res : Except RErr (List NRec))
    (h : ∀ lines, readerAux o.delim RSt.init lines = (all, none) → nativeLines o lines = res) :
    nativeCsv o (withBom bom (written d eol all)) = res := by
  unfold nativeCsv
  rw [nlLines_file d hd hdb eol he bom all hc hb]
  apply h
  rw [hod]
  exact readerAux_written d hd eol he.isEol all hc

/-- the named parts of `DictReader` rows over unique names are `load_csv`'s records -/
theorem map_nativeRec_row (names : List Str) (hn : names.Nodup) (rows : List (List Str)) :
    (rows.map (nativeRec names)).map NRec.row = rows.map (zipPad (names.map Key.name)) := by
  rw [List.map_map]
  apply List.map_congr_left
  intro r _
  simp only [Function.comp, nativeRec_nodup names hn]

end N0.CsvReader
