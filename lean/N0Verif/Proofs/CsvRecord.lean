import N0Verif.Model.CsvFile
import N0Verif.Py.AssocLemmas
/-!
  The records `load_csv` builds: insertion-ordered dicts over distinct keys; the padded zip of names and cells (`zipPad`)
  has a closed form by column (`cellAt`).
-/
namespace N0.CsvFile
open N0 N0.Py N0.Csv

/-- `d.keys()` -/
def keys (r : Record) : List Key := r.map Prod.fst

theorem dictSet_eq_assocSet (k : Key) (v : Option Str) (r : Record) : dictSet k v r = assocSet k v r := by
  induction r with
  | nil => rfl
  | cons kv r ih => rw [dictSet, assocSet, ih]

theorem dictOf_nodup (ps : Record) (h : (keys ps).Nodup) : dictOf ps = ps :=
  foldl_set_nodup dictSet_eq_assocSet ps h

theorem keys_zipPad (names : List Key) (cells : List Str) : keys (zipPad names cells) = names := by
  induction names generalizing cells with
  | nil => simp [zipPad, keys]
  | cons k ks ih =>
    cases cells with
    | nil =>
      have := ih []
      simp only [keys] at this ⊢
      simp [zipPad, this]
    | cons c cs =>
      have := ih cs
      simp only [keys] at this ⊢
      simp [zipPad, this]

theorem dictOf_zipPad (names : List Key) (cells : List Str) (h : names.Nodup) :
    dictOf (zipPad names cells) = zipPad names cells :=
  dictOf_nodup _ (by rw [keys_zipPad]; exact h)

theorem project_nodup (cn : List Key) (d : Record) (h : cn.Nodup) :
    project cn d = cn.map (fun k => (k, dictGet k d)) := by
  unfold project
  apply dictOf_nodup
  simp only [keys, List.map_map]
  have : (Prod.fst ∘ fun k => (k, dictGet k d)) = id := by funext k; rfl
  rw [this, List.map_id]
  exact h

theorem nodup_map_name (l : List Str) (h : l.Nodup) : (l.map Key.name).Nodup :=
  List.Pairwise.map Key.name (fun _ _ hne e => hne (Key.name.inj e)) h

theorem nodup_positions (n : Nat) : (positions n).Nodup :=
  List.Pairwise.map Key.pos (fun _ _ hne e => hne (Key.pos.inj e)) List.nodup_range

theorem hasDup_eq_false (l : List Str) : hasDup l = false ↔ l.Nodup := by
  induction l with
  | nil => simp [hasDup]
  | cons x xs ih =>
    simp only [hasDup, Bool.or_eq_false_iff, List.nodup_cons, ih]
    constructor
    · rintro ⟨h1, h2⟩
      exact ⟨by simpa using h1, h2⟩
    · rintro ⟨h1, h2⟩
      exact ⟨by simpa using h1, h2⟩

theorem map_name_injective (a b : List Str) (h : a.map Key.name = b.map Key.name) : a = b :=
  (List.map_inj_right fun _ _ e => Key.name.inj e).1 h

/-- the record `readRows` (Model/CsvFile, written inline there) builds from the cells of one line -/
def recOf (o : Opts) (names cn : List Key) (cells : List Str) : Record :=
  let d := dictOf (zipPad names cells)
  if !o.returnUnknown && cn != names then project cn d else d

/-- the cell of `row` in the column `c` of the header `hdr`; `none` when the row is too short or there is no such column -/
def cellAt : List Str → List Str → Str → Option Str
  | [], _, _ => none
  | _ :: _, [], _ => none
  | h :: hs, x :: xs, c => if h = c then some x else cellAt hs xs c

theorem dictGet_zipPad (h : List Str) (r : List Str) (c : Str) :
    dictGet (Key.name c) (zipPad (h.map Key.name) r) = cellAt h r c := by
  induction h generalizing r with
  | nil => simp [zipPad, dictGet, cellAt]
  | cons x xs ih =>
    cases r with
    | nil =>
      simp only [List.map_cons, zipPad, dictGet, cellAt, Key.name.injEq]
      have := ih []
      split
      · rfl
      · rw [this]; cases xs <;> simp [cellAt]
    | cons y ys =>
      simp only [List.map_cons, zipPad, dictGet, cellAt, Key.name.injEq]
      rw [ih ys]

theorem zipPad_eq_cellAt (h : List Str) (hn : h.Nodup) (r : List Str) :
    zipPad (h.map Key.name) r = h.map (fun c => (Key.name c, cellAt h r c)) := by
  induction h generalizing r with
  | nil => simp [zipPad]
  | cons x xs ih =>
    rw [List.nodup_cons] at hn
    have hne : ∀ c ∈ xs, x ≠ c := fun c hc e => hn.1 (e ▸ hc)
    cases r with
    | nil =>
      simp only [List.map_cons, zipPad, cellAt]
      rw [ih hn.2 []]
      congr 1
      apply List.map_congr_left
      intro c hc
      cases xs <;> simp [cellAt]
    | cons y ys =>
      simp only [List.map_cons, zipPad, cellAt, ↓reduceIte]
      rw [ih hn.2 ys]
      congr 1
      apply List.map_congr_left
      intro c hc
      simp [hne c hc]

theorem recOf_same (o : Opts) (names : List Key) (hn : names.Nodup) (cells : List Str) :
    recOf o names names cells = zipPad names cells := by
  unfold recOf
  simp [dictOf_zipPad names cells hn]

theorem recOf_select (o : Opts) (hru : o.returnUnknown = false) (h sel : List Str)
    (hh : h.Nodup) (hs : sel.Nodup) (cells : List Str) :
    recOf o (h.map Key.name) (sel.map Key.name) cells
      = sel.map (fun c => (Key.name c, cellAt h cells c)) := by
  by_cases e : sel = h
  · subst e
    rw [recOf_same o _ (nodup_map_name sel hs), zipPad_eq_cellAt sel hs]
  · have hne : (sel.map Key.name != h.map Key.name) = true := by
      simp only [bne_iff_ne, ne_eq]
      intro hm
      exact e (map_name_injective _ _ hm)
    unfold recOf
    simp only [hru, Bool.not_false, Bool.true_and, hne, ↓reduceIte]
    rw [dictOf_zipPad _ _ (nodup_map_name h hh), project_nodup _ _ (nodup_map_name sel hs)]
    rw [List.map_map]
    apply List.map_congr_left
    intro c _
    simp [dictGet_zipPad]

theorem zipPad_length (names : List Key) (row : List Str) :
    (zipPad names row).length = names.length := by
  induction names generalizing row with
  | nil => simp [zipPad]
  | cons k ks ih => cases row <;> simp [zipPad, ih]

theorem zipPad_getElem? (names : List Key) (row : List Str) (i : Nat) :
    (zipPad names row)[i]? = names[i]?.map (fun k => (k, row[i]?)) := by
  induction names generalizing row i with
  | nil => simp [zipPad]
  | cons k ks ih =>
    cases row with
    | nil =>
      cases i with
      | zero => rfl
      | succ i => simp only [zipPad, List.getElem?_cons_succ, ih, List.getElem?_nil]
    | cons c cs =>
      cases i with
      | zero => rfl
      | succ i => simp only [zipPad, List.getElem?_cons_succ, ih]

end N0.CsvFile
