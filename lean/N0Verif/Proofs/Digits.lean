import N0Verif.Py.Basic
/-! facts about characters given by their code and about the decimal rendering of naturals -/
namespace N0.Py

theorem toNat_ofNat (k : Nat) (h : k.isValidChar) : (Char.ofNat k).toNat = k := by
  unfold Char.ofNat
  rw [dif_pos h]
  rfl

theorem toNat_ofNat_byte (k : Nat) (h : k < 256) : (Char.ofNat k).toNat = k :=
  toNat_ofNat k (Or.inl (Nat.lt_trans h (by decide)))

theorem toNat_valid (ch : Char) : ch.toNat < 0xD800 ∨ (0xDFFF < ch.toNat ∧ ch.toNat < 0x110000) := ch.valid

theorem digitChar_isDigit (d : Nat) (h : d < 10) : isAsciiDigit (digitChar d) = true := by
  have : ∀ d : Fin 10, isAsciiDigit (digitChar d.val) = true := by decide
  exact this ⟨d, h⟩

theorem digitVal_digitChar (d : Nat) (h : d < 10) : digitVal (digitChar d) = d := by
  have : ∀ d : Fin 10, digitVal (digitChar d.val) = d.val := by decide
  exact this ⟨d, h⟩

theorem natDigitsAux_ne_nil (f n : Nat) (h : n < f) : natDigitsAux f n ≠ [] := by
  cases f with
  | zero => omega
  | succ f => rw [natDigitsAux]; split <;> simp

theorem natDigitsAux_head (f : Nat) : ∀ n, n < f → ∃ c r, natDigitsAux f n = c :: r ∧ (c = '0' → n = 0) := by
  induction f with
  | zero => intro n h; exact absurd h (Nat.not_lt_zero n)
  | succ f ih =>
    intro n h
    rw [natDigitsAux]
    split
    · next hlt =>
      have : ∀ m, m < 10 → digitChar m = '0' → m = 0 := by decide
      exact ⟨_, [], rfl, this n hlt⟩
    · obtain ⟨c, r, hcr, h0⟩ := ih (n / 10) (by omega)
      refine ⟨c, r ++ [digitChar (n % 10)], by rw [hcr]; rfl, fun hc => ?_⟩
      have := h0 hc
      omega

theorem natDigits_head (n : Nat) : ∃ c r, natDigits n = c :: r ∧ (c = '0' → n = 0) :=
  natDigitsAux_head (n + 1) n (Nat.lt_succ_self n)

theorem natDigits_ne_nil (n : Nat) : natDigits n ≠ [] := natDigitsAux_ne_nil (n + 1) n (by omega)

theorem natDigitsAux_all_digit (f : Nat) : ∀ n, n < f → ∀ c ∈ natDigitsAux f n, isAsciiDigit c = true := by
  induction f with
  | zero => intro n h; omega
  | succ f ih =>
    intro n h c hc
    rw [natDigitsAux] at hc
    split at hc
    · rw [List.mem_singleton.mp hc]
      exact digitChar_isDigit n ‹n < 10›
    · rcases List.mem_append.mp hc with hc | hc
      · exact ih (n / 10) (by omega) c hc
      · rw [List.mem_singleton.mp hc]
        exact digitChar_isDigit _ (Nat.mod_lt n (by decide))

theorem natDigits_all_digit (n : Nat) : ∀ c ∈ natDigits n, isAsciiDigit c = true :=
  natDigitsAux_all_digit (n + 1) n (by omega)

theorem natOfDigits_append (a : Str) (c : Char) :
    natOfDigits (a ++ [c]) = natOfDigits a * 10 + digitVal c := by
  simp [natOfDigits, List.foldl_append]

theorem natOfDigits_natDigitsAux (f : Nat) : ∀ n, n < f → natOfDigits (natDigitsAux f n) = n := by
  induction f with
  | zero => intro n h; omega
  | succ f ih =>
    intro n h
    rw [natDigitsAux]
    split
    · simp [natOfDigits, digitVal_digitChar n ‹n < 10›]
    · rw [natOfDigits_append, ih (n / 10) (by omega), digitVal_digitChar _ (Nat.mod_lt n (by decide))]
      exact Nat.div_add_mod' n 10

theorem natOfDigits_natDigits (n : Nat) : natOfDigits (natDigits n) = n :=
  natOfDigits_natDigitsAux (n + 1) n (by omega)

theorem natDigits_inj {n m : Nat} (h : natDigits n = natDigits m) : n = m := by
  rw [← natOfDigits_natDigits n, h, natOfDigits_natDigits]

/-- any function that pushes the last digit on an accumulator and goes on with `n / 10` writes `natDigitsAux` -/
theorem accDigits_eq (g : Nat → Nat → List Char → List Char)
    (hs : ∀ f n acc, g (f + 1) n acc =
      if n / 10 = 0 then digitChar (n % 10) :: acc else g f (n / 10) (digitChar (n % 10) :: acc)) :
    ∀ (f n : Nat) (acc : List Char), n < f → g f n acc = natDigitsAux f n ++ acc := by
  intro f
  induction f with
  | zero => intro n _ h; exact absurd h (Nat.not_lt_zero n)
  | succ f ih =>
    intro n acc h
    rw [hs, natDigitsAux]
    by_cases hn : n < 10
    · rw [if_pos hn, if_pos (Nat.div_eq_of_lt hn), Nat.mod_eq_of_lt hn]
      rfl
    · have hd : n / 10 ≠ 0 := fun e => hn ((Nat.div_eq_zero_iff.mp e).resolve_left (by decide))
      rw [if_neg hn, if_neg hd, ih (n / 10) _ (by omega), List.append_assoc]
      rfl

theorem digit_range {c : Char} (h : isAsciiDigit c = true) : 48 ≤ c.toNat ∧ c.toNat ≤ 57 := by
  simp only [isAsciiDigit, Bool.and_eq_true, decide_eq_true_eq] at h
  exact h

theorem digit_ne_char {c : Char} (h : isAsciiDigit c = true) (d : Char) (hd : d.toNat < 48 ∨ 57 < d.toNat) : c ≠ d := by
  obtain ⟨h1, h2⟩ := digit_range h
  intro heq
  subst heq
  omega

/-- a digit is none of the characters below (used to see through string tests) -/
theorem digit_ne {c : Char} (h : isAsciiDigit c = true) :
    c ≠ ' ' ∧ c ≠ '+' ∧ c ≠ '-' ∧ c ≠ '_' ∧ c ≠ '.' ∧ c ≠ '[' ∧ c ≠ ']' ∧ c ≠ '/' ∧ c ≠ '=' ∧ c ≠ '~'
      ∧ c ≠ '*' ∧ isPySpace c = false ∧ toLowerAscii c = c ∧ c.toNat < 128 := by
  obtain ⟨h1', h2'⟩ := digit_range h
  have ne := digit_ne_char h
  refine ⟨ne _ (by decide), ne _ (by decide), ne _ (by decide), ne _ (by decide), ne _ (by decide),
    ne _ (by decide), ne _ (by decide), ne _ (by decide), ne _ (by decide), ne _ (by decide), ne _ (by decide), ?_, ?_, by omega⟩
  · simp only [isPySpace, Bool.or_eq_false_iff, Bool.and_eq_false_iff, decide_eq_false_iff_not]
    omega
  · unfold toLowerAscii
    have : ¬ ('A' ≤ c ∧ c ≤ 'Z') := by
      intro ⟨_, hz⟩
      have : c.toNat ≤ 90 := hz
      have : 65 ≤ c.toNat := by assumption
      omega
    simp [this]

theorem digit_not_space {c : Char} (h : isAsciiDigit c = true) : isPySpace c = false := (digit_ne h).2.2.2.2.2.2.2.2.2.2.2.1

theorem digit_lower {c : Char} (h : isAsciiDigit c = true) : toLowerAscii c = c := (digit_ne h).2.2.2.2.2.2.2.2.2.2.2.2.1

theorem digit_ascii {c : Char} (h : isAsciiDigit c = true) : c.toNat < 128 := (digit_ne h).2.2.2.2.2.2.2.2.2.2.2.2.2

theorem digit_eq_ofNat {c : Char} (h : isAsciiDigit c = true) : ∃ d, d < 10 ∧ c = Char.ofNat (48 + d) := by
  obtain ⟨h1, h2⟩ := digit_range h
  refine ⟨c.toNat - 48, by omega, ?_⟩
  rw [Nat.add_sub_cancel' h1, Char.ofNat_toNat]

end N0.Py
