import N0Verif.Proofs.Split
/-!
  C17, `split_with_escape`: the loop of the code against the character-level reference `refAux` (real cuts are counted), the
  reference against the walks `specG` / `splitSpec` over the pieces of the plain split (`Proofs/Split.lean`), and, where the two
  files meet, a text without the escape character: the function is `str.split` there (`splitWithEscape_no_escape`).
  Which reference the code equals: `refAux` always (`splitWithEscape_ref`); the walk `specG` when no escaped delimiter is met while
  real cuts are limited and still allowed (`escWithin = false`, `refAux_eq_specG`; so always without maxsplit); `splitSpec` when
  moreover the delimiter does not end with the escape character (`d.getLast? ≠ some e`, `specG_eq_splitSpec`).
-/
namespace N0.Esc
open N0 N0.Py

theorem run_pos_iff (e : Char) (s : Str) : s.getLast? = some e ↔ 0 < run e s := by
  unfold run
  rw [List.getLast?_eq_head?_reverse]
  cases s.reverse with
  | nil => simp
  | cons c r =>
    by_cases h : c = e
    · subst h; simp [List.takeWhile]
    · have h' : (c == e) = false := by simpa using h
      simp [List.takeWhile, h', h]

theorem run_eq_zero (e : Char) (s : Str) (h : ¬ s.getLast? = some e) : run e s = 0 := by
  have := mt (run_pos_iff e s).2 h
  omega

theorem run_nil (e : Char) : run e [] = 0 := rfl

theorem halve_eq_self (e : Char) (s : Str) (h : run e s / 2 = 0) : halve e s = s := by
  unfold halve
  simp [h]

theorem halveIf_eq_self (tr : Bool) (e : Char) (s : Str) (h : run e s / 2 = 0) : halveIf tr e s = s := by
  unfold halveIf
  split
  · exact halve_eq_self e s h
  · rfl

/-- `items[-1:] = items[-1].split(d, 1)`, structurally -/
def resplitLast (d : Str) : List Str → List Str
  | [] => []
  | [z] => splitAux d (some 1) 0 z
  | a :: b :: r => a :: resplitLast d (b :: r)

theorem resplitLast_cons (d : Str) (a : Str) (L : List Str) (h : L ≠ []) :
    resplitLast d (a :: L) = a :: resplitLast d L := by
  cases L with
  | nil => exact absurd rfl h
  | cons b r => rfl

theorem resplitLast_append (d : Str) (A L : List Str) (h : L ≠ []) :
    resplitLast d (A ++ L) = A ++ resplitLast d L := by
  induction A with
  | nil => rfl
  | cons a A ih => rw [List.cons_append, resplitLast_cons _ _ _ (by simp [h]), ih]; rfl

theorem resplit_append (d : Str) (B L : List Str) (h : L ≠ []) :
    resplit d (B ++ L) = .ok (B ++ resplitLast d L) := by
  have hs : L = L.dropLast ++ [L.getLast h] := (List.dropLast_concat_getLast h).symm
  rw [hs, resplitLast_append d _ _ (by simp), ← List.append_assoc]
  simp [resplit, resplitLast]

theorem resplitLast_splitAux (d : Str) : ∀ (s : Str) (k sk : Nat),
    resplitLast d (splitAux d (some k) sk s) = splitAux d (some (k + 1)) sk s := by
  intro s k sk
  generalize hl : some k = lim
  fun_induction splitAux d lim sk s generalizing k with
  | case1 => rfl
  | case2 _ _ _ _ ih => exact ih k hl
  | case3 _ c s h ih =>
    subst hl
    cases k with
    | zero => simp [canSplit] at h
    | succ k' =>
      rw [resplitLast_cons _ _ _ (splitAux_ne_nil _ _ _ _), ih k' rfl, splitAux, if_pos (by simpa [canSplit] using h)]
      rfl
  | case4 _ c s h ih =>
    subst hl
    by_cases hsw : startsWith (c :: s) d = true
    · -- the delimiter is there and the budget is used up: the whole text is the last piece
      have hk : k = 0 := by simpa [canSplit, hsw] using h
      subst hk
      rw [splitAux_lim_zero]; rfl
    · rw [splitAux, if_neg (by simp [hsw]), ← ih k rfl]
      cases hL : splitAux d (some k) 0 s with
      | nil => exact absurd hL (splitAux_ne_nil _ _ _ _)
      | cons a L' =>
        cases L' with
        | cons b r => rfl
        | nil =>
          have ha := splitAux_single d s _ 0 a hL
          subst ha
          show splitAux d (some 1) 0 (c :: a) = consHead c (splitAux d (some 1) 0 a)
          rw [splitAux, if_neg (by simp [hsw])]

theorem refAux_other (e : Char) (d : Str) (tr : Bool) (lim : Option Nat) (cur : Str) {c : Char} {s : Str}
    (h : ¬ startsWith (c :: s) d = true) :
    refAux e d tr lim 0 cur (c :: s) = refAux e d tr lim 0 (cur ++ [c]) s := by
  rw [refAux, if_neg h]

/-- The reference over the first piece of the limited split.  Either the split makes no cut, and the reference returns
the text as its only item; or up to the first cut the reference collects the piece, and the delimiter after it is
escaped (odd run: it stays, the budget too) or a real cut. -/
theorem refAux_first (e : Char) (d : Str) (tr : Bool) (s : Str) (lim : Option Nat) (sk : Nat) :
    (∃ p, splitAux d lim sk s = [p] ∧ ∀ cur, refAux e d tr lim sk cur s = [halveIf tr e (cur ++ p)]) ∨
    (∃ p q rest s', splitAux d lim sk s = p :: q :: rest ∧ s'.length < s.length ∧ canSplit lim = true ∧
      splitAux d (decLim lim) (d.length - 1) s' = q :: rest ∧
      ∀ cur, refAux e d tr lim sk cur s =
        if run e (cur ++ p) % 2 = 1 then refAux e d tr lim (d.length - 1) ((cur ++ p).dropLast ++ d) s'
        else halveIf tr e (cur ++ p) :: refAux e d tr (decLim lim) (d.length - 1) [] s') := by
  fun_induction splitAux d lim sk s with
  | case1 lim sk => exact .inl ⟨[], rfl, fun cur => by cases sk <;> simp [refAux]⟩
  | case2 lim k c s ih =>
    rcases ih with ⟨p, h1, h2⟩ | ⟨p, q, rest, s', h1, hlen, hcs, hsp, h2⟩
    · exact .inl ⟨p, h1, h2⟩
    · exact .inr ⟨p, q, rest, s', h1, Nat.lt_succ_of_lt hlen, hcs, hsp, h2⟩
  | case3 lim c s h _ =>
    simp only [Bool.and_eq_true] at h
    cases hq : splitAux d (decLim lim) (d.length - 1) s with
    | nil => exact absurd hq (splitAux_ne_nil _ _ _ _)
    | cons q rest =>
      refine .inr ⟨[], q, rest, s, rfl, Nat.lt_succ_self _, h.1, hq, fun cur => ?_⟩
      rw [refAux]
      simp only [h.1, h.2, ↓reduceIte, Bool.not_true, Bool.false_eq_true, List.append_nil]
  | case4 lim c s h ih =>
    by_cases hsw : startsWith (c :: s) d = true
    · -- the delimiter is there, but no cut is allowed any more
      have hl := canSplit_eq_false (by simpa [hsw] using h)
      subst hl
      exact .inl ⟨c :: s, by rw [splitAux_lim_zero, consHead], fun cur => by rw [refAux, if_pos hsw]; rfl⟩
    · have rstep := fun cur => refAux_other e d tr lim cur hsw
      rcases ih with ⟨p, h1, h2⟩ | ⟨p, q, rest, s', h1, hlen, hcs, hsp, h2⟩
      · exact .inl ⟨c :: p, by rw [h1]; rfl,
          fun cur => by rw [rstep, h2, List.append_assoc, List.singleton_append]⟩
      · exact .inr ⟨c :: p, q, rest, s', by rw [h1]; rfl, Nat.lt_succ_of_lt hlen, hcs, hsp,
          fun cur => by rw [rstep, h2, List.append_assoc, List.singleton_append]⟩

/-- what `whileLoop` does with the outcome of the `for` -/
def cont (cfg : Cfg) (fuel : Nat) : PyM ForRes → PyM (List Str)
  | .error e => .error e
  | .ok (.broke it st) => whileLoop cfg fuel it st
  | .ok (.exhausted it) => finalTrim cfg it

theorem whileLoop_succ (cfg : Cfg) (fuel : Nat) (items : List Str) (start : Nat) :
    whileLoop cfg (fuel + 1) items start
      = cont cfg fuel (forScan cfg start (items.dropLast.drop start) 0 items) := by
  rw [whileLoop]
  cases forScan cfg start (items.dropLast.drop start) 0 items with
  | error e => rfl
  | ok r => cases r <;> rfl

theorem specG_glue (e : Char) (d : Str) (tr : Bool) (pre p : Str) (rest : List Str) :
    specG e d tr pre (p :: rest) = specG e d tr [] ((pre ++ p) :: rest) := by
  cases rest with
  | nil => simp [specG]
  | cons q rest => simp [specG]

theorem finalTrim_spec (cfg : Cfg) (A : List Str) (z : Str) :
    finalTrim cfg (A ++ [z]) = .ok (A ++ [halveIf cfg.tr cfg.e z]) := by
  unfold finalTrim halveIf
  cases htr : cfg.tr with
  | false => simp
  | true =>
    simp only [↓reduceIte, List.getLast?_append, List.getLast?_singleton, Option.some_or]
    by_cases hl : z.getLast? = some cfg.e
    · simp only [hl, ↓reduceIte]
      by_cases hd : run cfg.e z / 2 = 0
      · simp [hd, halve_eq_self _ _ hd]
      · have : (run cfg.e z / 2 != 0) = true := by simpa using hd
        simp [this, halve, List.dropLast_append_of_ne_nil]
    · simp only [hl, ↓reduceIte]
      rw [halve_eq_self _ _ (by rw [run_eq_zero _ _ hl])]

theorem trim_mid (cfg : Cfg) (A T : List Str) (x : Str) :
    (if (cfg.tr && run cfg.e x / 2 != 0) = true then
        (A ++ x :: T).set A.length (x.take (x.length - run cfg.e x / 2 * 2) ++ List.replicate (run cfg.e x / 2) cfg.e)
      else A ++ x :: T) = A ++ halveIf cfg.tr cfg.e x :: T := by
  split
  · rename_i h
    simp only [Bool.and_eq_true] at h
    rw [set_mid]; simp [halveIf, h.1, halve]
  · rename_i h
    cases htr : cfg.tr with
    | false => simp [halveIf]
    | true =>
      have : run cfg.e x / 2 = 0 := by simpa [htr] using h
      rw [halveIf_eq_self _ _ _ this]

theorem forScan_even (cfg : Cfg) (A T snap : List Str) (x : Str) (start i : Nat) (hk : start + i = A.length)
    (hev : run cfg.e x % 2 ≠ 1) :
    forScan cfg start (x :: snap) i (A ++ x :: T)
      = forScan cfg start snap (i + 1) (A ++ halveIf cfg.tr cfg.e x :: T) := by
  rw [forScan, hk]
  by_cases hl : x.getLast? = some cfg.e
  · simp only [if_pos hl, if_neg hev, trim_mid]
  · rw [if_neg hl, halveIf_eq_self _ _ _ (by rw [run_eq_zero _ _ hl])]

theorem forScan_odd (cfg : Cfg) (A T R snap : List Str) (x y q : Str) (start i : Nat) (hk : start + i = A.length)
    (hodd : run cfg.e x % 2 = 1)
    (hre : (if (cfg.m != 0) = true then resplit cfg.d (A ++ halveIf cfg.tr cfg.e x :: T)
            else .ok (A ++ halveIf cfg.tr cfg.e x :: T)) = .ok (A ++ y :: q :: R)) :
    forScan cfg start (x :: snap) i (A ++ x :: T) = .ok (.broke (A ++ (x.dropLast ++ cfg.d ++ q) :: R) A.length) := by
  have hl : x.getLast? = some cfg.e :=
    (run_pos_iff _ _).2 (Nat.pos_of_ne_zero (fun h0 => by rw [h0] at hodd; cases hodd))
  rw [forScan, hk]
  simp only [if_pos hl, if_pos hodd, trim_mid, hre]
  simp only [get_mid1, erase_mid1, set_mid]

/-- after a cut the list ends with the pieces of the rest of the text under the budget less one; split once more when
`maxsplit` is given (fix C17-j), it ends with the pieces under the budget itself -/
theorem resplit_pieces (cfg : Cfg) (B : List Str) (lim : Option Nat) (sk : Nat) (t : Str)
    (hlim : lim.isSome = (cfg.m != 0)) (hcs : canSplit lim = true) :
    (if (cfg.m != 0) = true then resplit cfg.d (B ++ splitAux cfg.d (decLim lim) sk t)
      else .ok (B ++ splitAux cfg.d (decLim lim) sk t)) = .ok (B ++ splitAux cfg.d lim sk t) := by
  cases lim with
  | none => rw [if_neg (by rw [← hlim]; decide)]; rfl
  | some k =>
    cases k with
    | zero => cases hcs
    | succ k' =>
      rw [if_pos (by rw [← hlim]; rfl), resplit_append _ _ _ (splitAux_ne_nil _ _ _ _)]
      exact congrArg (fun L => Except.ok (B ++ L)) (resplitLast_splitAux cfg.d t k' sk)

/-- The `for` loop.  State: `A` are the items closed so far, the item at `start + i` is `pre ++ p` where `p` and
the items after it are the pieces of the limited split of the text `t` that is still to be read
(`lim` = real cuts still allowed, the same number for the code and for the reference); the answer is what
the reference makes of `t` with `pre` already collected. -/
theorem scan_ref (cfg : Cfg) (fuel : Nat)
    (IH : ∀ (A : List Str) (pre p : Str) (rest : List Str) (t : Str) (lim : Option Nat) (sk : Nat),
        t.length < fuel → lim.isSome = (cfg.m != 0) → splitAux cfg.d lim sk t = p :: rest →
        whileLoop cfg fuel (A ++ (pre ++ p) :: rest) A.length
          = .ok (A ++ refAux cfg.e cfg.d cfg.tr lim sk pre t))
    (snap : List Str) : ∀ (A : List Str) (z : Str) (start i : Nat) (pre p : Str) (tail : List Str)
      (t : Str) (lim : Option Nat) (sk : Nat), start + i = A.length →
      t.length ≤ fuel → lim.isSome = (cfg.m != 0) → splitAux cfg.d lim sk t = p :: tail →
      (pre ++ p) :: tail = snap ++ [z] →
      cont cfg fuel (forScan cfg start snap i (A ++ (snap ++ [z])))
        = .ok (A ++ refAux cfg.e cfg.d cfg.tr lim sk pre t) := by
  induction snap with
  | nil =>
    intro A z start i pre p tail t lim sk _ _ _ hsp hz
    simp only [List.nil_append, List.cons.injEq] at hz
    obtain ⟨hz1, hz2⟩ := hz
    subst hz2
    rcases refAux_first cfg.e cfg.d cfg.tr t lim sk with ⟨p', h1, h2⟩ | ⟨p', q, rest, s', h1, _⟩
    case inr => rw [hsp] at h1; cases h1
    rw [hsp] at h1; cases h1
    rw [h2 pre, ← hz1]
    simp [forScan, cont, finalTrim_spec]
  | cons x snap ih =>
    intro A z start i pre p tail t lim sk hk hlen hlim hsp hz
    simp only [List.cons_append, List.cons.injEq] at hz
    obtain ⟨hx, htail⟩ := hz
    obtain ⟨nxt, rest', hT⟩ : ∃ nxt rest', snap ++ [z] = nxt :: rest' := by
      cases snap with
      | nil => exact ⟨z, [], rfl⟩
      | cons a r => exact ⟨a, r ++ [z], rfl⟩
    rw [htail, hT] at hsp
    rcases refAux_first cfg.e cfg.d cfg.tr t lim sk with ⟨p', h1, _⟩ | ⟨p', q, rest, t', h1, ht', hcs, hsp', href⟩
    case inl => rw [hsp] at h1; cases h1
    rw [hsp] at h1; cases h1
    rw [href pre, hx, List.cons_append]
    by_cases hodd : run cfg.e x % 2 = 1
    · -- odd run: glue with the next piece and start again from here;
      -- the list after the re-split holds the pieces of `t'` with the budget `lim` again
      have hre := resplit_pieces cfg (A ++ [halveIf cfg.tr cfg.e x]) lim (cfg.d.length - 1) t' hlim hcs
      cases hsp'' : splitAux cfg.d lim (cfg.d.length - 1) t' with
      | nil => exact absurd hsp'' (splitAux_ne_nil _ _ _ _)
      | cons q' rest'' =>
        simp only [hsp', hsp'', List.append_assoc, List.singleton_append] at hre
        rw [if_pos hodd, hT, forScan_odd cfg A _ rest'' snap x _ q' start i hk hodd hre, cont]
        exact IH A (x.dropLast ++ cfg.d) q' rest'' t' lim (cfg.d.length - 1) (Nat.lt_of_lt_of_le ht' hlen) hlim hsp''
    · rw [if_neg hodd, forScan_even cfg A _ snap x start i hk hodd]
      have h1 : A ++ halveIf cfg.tr cfg.e x :: (snap ++ [z]) = (A ++ [halveIf cfg.tr cfg.e x]) ++ (snap ++ [z]) := by
        simp
      rw [h1, ih (A ++ [halveIf cfg.tr cfg.e x]) z start (i + 1) [] nxt rest' t' (decLim lim) (cfg.d.length - 1)
        (by rw [List.length_append, ← hk]; rfl) (Nat.le_of_lt (Nat.lt_of_lt_of_le ht' hlen))
        (by rw [decLim_isSome]; exact hlim) hsp'
        (by rw [hT]; rfl)]
      simp

theorem whileLoop_ref (cfg : Cfg) :
    ∀ (fuel : Nat) (A : List Str) (pre p : Str) (rest : List Str) (t : Str) (lim : Option Nat) (sk : Nat),
      t.length < fuel → lim.isSome = (cfg.m != 0) → splitAux cfg.d lim sk t = p :: rest →
      whileLoop cfg fuel (A ++ (pre ++ p) :: rest) A.length
        = .ok (A ++ refAux cfg.e cfg.d cfg.tr lim sk pre t) := by
  intro fuel
  induction fuel with
  | zero => intro A pre p rest t lim sk h; exact absurd h (Nat.not_lt_zero _)
  | succ fuel ih =>
    intro A pre p rest t lim sk hlen hlim hsp
    rw [whileLoop_succ, dropLast_drop_mid]
    have hne : (pre ++ p) :: rest ≠ [] := by simp
    have hsplit : (pre ++ p) :: rest = ((pre ++ p) :: rest).dropLast ++ [((pre ++ p) :: rest).getLast hne] :=
      (List.dropLast_concat_getLast hne).symm
    have h := scan_ref cfg fuel ih ((pre ++ p) :: rest).dropLast A (((pre ++ p) :: rest).getLast hne) A.length 0
      pre p rest t lim sk rfl (by omega) hlim hsp hsplit
    rw [← hsplit] at h
    exact h

/-- **Fuel adequacy and the main fact in one statement**: with more fuel than the text has characters the
loop ends, and it computes the character-level reference (real cuts are counted; fix C17-j). -/
theorem splitWithEscapeD_ref (fuel : Nat) (s d : Str) (m : Nat) (e : Char) (tr : Bool)
    (hd : d ≠ []) (hf : s.length < fuel) :
    splitWithEscapeD fuel s d m (some e) tr = .ok (refAux e d tr (limOf m) 0 [] s) := by
  rw [splitWithEscapeD, if_neg hd]
  simp only
  cases hs : splitMax d m s with
  | nil => exact absurd hs (splitMax_ne_nil d m s)
  | cons c rest =>
    have := whileLoop_ref ⟨e, d, tr, m⟩ fuel [] [] c rest s (limOf m) 0 hf (limOf_isSome m) hs
    simpa using this

/-- the function with the fuel it is run with (`C17_split_is_reference` states this under the property's name) -/
theorem splitWithEscape_ref (s d : Str) (m : Nat) (e : Char) (tr : Bool) (hd : d ≠ []) :
    splitWithEscape s d m (some e) tr = .ok (refAux e d tr (limOf m) 0 [] s) :=
  splitWithEscapeD_ref (fuelFor s) s d m e tr hd (Nat.lt_succ_of_lt (Nat.lt_succ_self _))

theorem run_append (e : Char) (pre p : Str) (h : run e pre = 0) : run e (pre ++ p) = run e p := by
  unfold run at *
  rw [List.reverse_append]
  exact takeWhile_append_length _ _ _ (List.length_eq_zero_iff.1 h)

theorem run_le_length (e : Char) (s : Str) : run e s ≤ s.length := by
  unfold run
  have := List.Sublist.length_le (List.takeWhile_sublist (fun c => c == e) (l := s.reverse))
  simpa using this

theorem halve_append (e : Char) (pre p : Str) (h : run e pre = 0) :
    halve e (pre ++ p) = pre ++ halve e p := by
  unfold halve
  have hk : run e p / 2 * 2 ≤ p.length := Nat.le_trans (Nat.div_mul_le_self _ 2) (run_le_length e p)
  simp only [run_append e pre p h]
  rw [List.length_append, Nat.add_sub_assoc hk, List.take_length_add_append, List.append_assoc]

theorem halveIf_append (tr : Bool) (e : Char) (pre p : Str) (h : run e pre = 0) :
    halveIf tr e (pre ++ p) = pre ++ halveIf tr e p := by
  unfold halveIf
  split
  · exact halve_append e pre p h
  · rfl

theorem run_append_of_last_ne (e : Char) (x d : Str) (hd : d ≠ []) (hl : d.getLast? ≠ some e) :
    run e (x ++ d) = 0 := by
  apply run_eq_zero
  rw [List.getLast?_append]
  cases hdl : d.getLast? with
  | none => exact absurd (List.getLast?_eq_none_iff.1 hdl) hd
  | some c => rw [hdl] at hl; simpa using hl

theorem specG_eq_splitSpec (e : Char) (d : Str) (tr : Bool) (hd : d ≠ []) (hl : d.getLast? ≠ some e)
    (ps : List Str) (pre : Str) (hpre : run e pre = 0) :
    specG e d tr pre ps = splitSpec e d tr pre ps := by
  fun_induction specG e d tr pre ps with
  | case1 => rfl
  | case2 pre p => rw [splitSpec, halveIf_append _ _ _ _ hpre]
  | case3 pre p q rest hodd ih =>
    rw [run_append e pre p hpre] at hodd
    have hp : p ≠ [] := fun h => by subst h; cases hodd
    rw [splitSpec, if_pos hodd, ih (run_append_of_last_ne e _ d hd hl), List.dropLast_append_of_ne_nil hp,
      List.append_assoc]
  | case4 pre p q rest hodd ih =>
    rw [run_append e pre p hpre] at hodd
    rw [splitSpec, if_neg hodd, halveIf_append _ _ _ _ hpre, ih (run_nil e)]

theorem specG_no_escape (e : Char) (d : Str) (tr : Bool) (ps : List Str)
    (h : ∀ p ∈ ps, e ∉ p) : specG e d tr [] ps = ps := by
  have hr : ∀ p ∈ ps, run e p = 0 :=
    fun p hp => run_eq_zero _ _ (fun hl => h p hp (List.mem_of_getLast? hl))
  generalize hpre : ([] : Str) = pre
  fun_induction specG e d tr pre ps with
  | case1 => rfl
  | case2 pre p =>
    subst hpre
    rw [List.nil_append, halveIf_eq_self _ _ _ (by rw [hr p List.mem_cons_self])]
  | case3 pre p q rest hodd =>
    subst hpre
    rw [List.nil_append, hr p List.mem_cons_self] at hodd
    cases hodd
  | case4 pre p q rest _ ih =>
    subst hpre
    rw [List.nil_append, halveIf_eq_self _ _ _ (by rw [hr p List.mem_cons_self]),
      ih (fun p' hp' => h p' (List.mem_cons_of_mem _ hp')) (fun p' hp' => hr p' (List.mem_cons_of_mem _ hp')) rfl]

theorem splitSpec_append (e : Char) (d : Str) (tr : Bool) (p q : Str) (qs : List Str)
    (hev : run e p % 2 ≠ 1) (ps : List Str) : ∀ pre : Str,
    splitSpec e d tr pre (ps ++ p :: q :: qs)
      = splitSpec e d tr pre (ps ++ [p]) ++ splitSpec e d tr [] (q :: qs) := by
  induction ps with
  | nil => intro pre; simp [splitSpec, hev]
  | cons a ps ih =>
    intro pre
    cases ps with
    | nil =>
      simp only [List.cons_append, List.nil_append, splitSpec, hev, ↓reduceIte]
      split <;> simp
    | cons b ps =>
      simp only [List.cons_append, splitSpec]
      split
      · have := ih (pre ++ a.dropLast ++ d)
        simpa using this
      · have := ih []
        simp only [List.cons_append] at this
        rw [this]; simp

theorem specG_consHead (e : Char) (d : Str) (tr : Bool) (cur : Str) (c : Char) (L : List Str) (hL : L ≠ []) :
    specG e d tr cur (consHead c L) = specG e d tr (cur ++ [c]) L := by
  cases L with
  | nil => exact absurd rfl hL
  | cons p rest =>
    rw [consHead, specG_glue, specG_glue e d tr (cur ++ [c])]
    simp

theorem escWithin_none (e : Char) (d : Str) (s : Str) (skip : Nat) (cur : Str) :
    escWithin e d Option.none skip cur s = false := by
  generalize hl : Option.none = lim
  fun_induction escWithin e d lim skip cur s with
  | case1 => rfl
  | case2 _ _ _ _ _ ih => exact ih hl
  | case3 => rfl
  | case4 _ _ _ _ _ _ _ ih => subst hl; exact ih rfl
  | case5 _ _ _ _ _ _ _ ih => subst hl; exact ih rfl
  | case6 _ _ _ _ _ ih => exact ih hl

/-- **Outside the class of C17-j the character-level reference is the walk over the pieces of the
limited split** (any delimiter, any limit, any state of the scan). -/
theorem refAux_eq_specG (e : Char) (d : Str) (tr : Bool) (s : Str) (lim : Option Nat) (skip : Nat) (cur : Str) :
    escWithin e d lim skip cur s = false →
    refAux e d tr lim skip cur s = specG e d tr cur (splitAux d lim skip s) := by
  fun_induction escWithin e d lim skip cur s with
  | case1 lim skip cur => intro _; cases skip <;> simp [refAux, splitAux, specG]
  | case2 lim skip cur c s ih => intro h; rw [refAux, splitAux]; exact ih h
  | case3 lim cur c s hsw hcs =>
    intro _
    have hl := canSplit_eq_false (by simpa using hcs)
    subst hl
    rw [refAux, if_pos hsw, if_pos hcs, splitAux_lim_zero]
    rfl
  | case4 lim cur c s hsw hcs hodd ih =>
    intro h
    have hcs' : canSplit lim = true := by simpa using hcs
    simp only [Bool.or_eq_false_iff] at h
    rw [refAux, if_pos hsw, if_neg hcs, if_pos hodd, ih h.2, splitAux, hcs', hsw]
    cases lim with
    | some k => cases h.1
    | none =>
      cases hL : splitAux d (decLim none) (d.length - 1) s with
      | nil => exact absurd hL (splitAux_ne_nil _ _ _ _)
      | cons q rest => simp [specG, hodd, decLim] at hL ⊢; rw [hL]
  | case5 lim cur c s hsw hcs hodd ih =>
    intro h
    have hcs' : canSplit lim = true := by simpa using hcs
    rw [refAux, if_pos hsw, if_neg hcs, if_neg hodd, ih h, splitAux, hcs', hsw]
    cases hL : splitAux d (decLim lim) (d.length - 1) s with
    | nil => exact absurd hL (splitAux_ne_nil _ _ _ _)
    | cons q rest => simp [specG, hodd]
  | case6 lim cur c s hsw ih =>
    intro h
    have hsw' : startsWith (c :: s) d = false := by simpa using hsw
    rw [refAux_other e d tr lim cur hsw, ih h, splitAux, hsw', Bool.and_false, if_neg (by decide),
      specG_consHead _ _ _ _ _ _ (splitAux_ne_nil _ _ _ _)]

theorem escWithin_no_escape (e : Char) (d : Str) (s : Str) (lim : Option Nat) (sk : Nat) (cur : Str) :
    e ∉ cur → e ∉ s → escWithin e d lim sk cur s = false := by
  fun_induction escWithin e d lim sk cur s with
  | case1 => intro _ _; rfl
  | case2 _ _ _ _ _ ih => exact fun hc hs => ih hc (fun h => hs (List.mem_cons_of_mem _ h))
  | case3 => intro _ _; rfl
  | case4 _ cur _ _ _ _ hodd =>
    intro hc _
    rw [run_eq_zero _ _ (fun hl => hc (List.mem_of_getLast? hl))] at hodd
    cases hodd
  | case5 _ _ _ _ _ _ _ ih => exact fun _ hs => ih (List.not_mem_nil) (fun h => hs (List.mem_cons_of_mem _ h))
  | case6 _ _ c _ _ ih =>
    intro hc hs
    refine ih (fun h => ?_) (fun h => hs (List.mem_cons_of_mem _ h))
    rcases List.mem_append.1 h with h | h
    · exact hc h
    · exact hs (List.mem_singleton.1 h ▸ List.mem_cons_self)

theorem splitWithEscape_no_escape (s d : Str) (m : Nat) (esc : Option Char) (tr : Bool)
    (h : ∀ e, esc = some e → e ∉ s) : splitWithEscape s d m esc tr = pySplit d m s := by
  by_cases hd : d = []
  · simp [splitWithEscape, splitWithEscapeD, pySplit, hd]
  · cases esc with
    | none => exact splitWithEscape_none s d m tr
    | some e =>
      rw [splitWithEscape_ref s d m e tr hd,
        refAux_eq_specG e d tr s (limOf m) 0 [] (escWithin_no_escape e d s _ 0 [] (by simp) (h e rfl)),
        pySplit, if_neg hd]
      exact congrArg _ (specG_no_escape e d tr _ (fun p hp hc => h e rfl (splitAux_mem d (limOf m) 0 s p hp e hc)))

/-- the escape character is GIVEN but occurs nowhere: the plain split again.  No round trip through escape characters that occur is
stated: the library writes none, and the reader drops only the escape before a delimiter that stays and halves only trailing runs -/
theorem deserializeList_join (d : Str) (items : List Str) (pe : Bool) (esc : Option Char) (hd : d ≠ [])
    (hne : items ≠ []) (hc : ∀ it ∈ items, Clean d it) (he : ∀ e, esc = some e → e ∉ d ∧ ∀ it ∈ items, e ∉ it) :
    deserializeList (join d items) d pe esc = .ok (items.filter (fun it => !it.isEmpty || pe)) := by
  rw [deserializeList, splitWithEscape_no_escape _ _ _ _ _ (fun e hee hm =>
      (join_mem d items e hm).elim (he e hee).1 fun ⟨it, hit, hc⟩ => (he e hee).2 it hit hc),
    ← splitWithEscape_none _ _ _ true]
  exact deserializeList_join_none d items pe hd (fun h => absurd h hne) hc

end N0.Esc
