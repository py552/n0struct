import N0Verif.Proofs.EscSer
import N0Verif.Gen.EscPy
/-!
  The definitions regenerated from the Python source of `split_with_escape` (`Gen/EscPy.lean`) equal the hand-written
  model: the translated `for` is `Esc.forScan`, its `else` block `Esc.finalTrim`, `while True:` is `Esc.whileLoop`, the
  function `Esc.splitWithEscapeD`, for every fuel and input.  The translation repeats the join of an item with its
  successor on each of the three paths of the `for` body with an odd run; `glue` names that block and `forBody_step`
  states the body in the shape of `forScan`.
  A second part (namespace `N0.EscGenEq2`, its own header below) ties the escaping loop of `serialize_dict`.
-/
namespace N0.EscGenEq
open N0 N0.Py N0.Esc N0.Gen.EscPy

theorem sliceTo_neg_mul (s : Str) (k : Nat) (hk : k ≠ 0) :
    sliceTo s ((-(k : Int)) * (2 : Int)) = s.take (s.length - k * 2) := by
  have e : (-(k : Int)) * 2 = -((k * 2 : Nat) : Int) := by rw [Int.neg_mul, Int.natCast_mul]; rfl
  have h : -((k * 2 : Nat) : Int) < 0 :=
    Int.neg_neg_of_pos (Int.natCast_pos.2 (Nat.mul_pos (Nat.pos_of_ne_zero hk) (by decide)))
  rw [e, sliceTo, if_pos h, Int.neg_neg, Int.toNat_natCast]

theorem sliceTo_neg_one (s : Str) : sliceTo s (-(1 : Int)) = s.dropLast := by
  simp [sliceTo, List.dropLast_eq_take]

theorem run_eq (e : Char) (s : Str) : (List.takeWhile (fun ch => ch == e) (List.reverse s)).length = run e s := rfl

/-- the translated text of `separated_items[pos] = item[:-1] + delimiter + separated_items.pop(pos + 1)` and the `break`
with `start_from_item = pos` -/
def joinNext (d item : Str) (pos : Nat) (L : List Str) : PyM (Ctl State) :=
  match popE L (pos + 1) with
  | .error err => .error err
  | .ok (nxt, L') =>
    match setIdxE L' pos (((sliceTo item (-(1 : Int))) ++ d) ++ nxt) with
    | .error err => .error err
    | .ok L'' => .ok (.brk ⟨L'', pos⟩)

/-- the block that the translation of the `for` body writes out three times (once per path on which the run is odd): with
`maxsplit` the last item is split once more, then the item is joined with its successor -/
def glue (d : Str) (m : Nat) (item : Str) (pos : Nat) (L : List Str) : PyM (Ctl State) :=
  if (m != 0) then
    match getLastE L with
    | .error err => .error err
    | .ok last =>
      match pySplitE last d (1 : Int) with
      | .error err => .error err
      | .ok ps => joinNext d item pos (List.dropLast L ++ ps)
  else joinNext d item pos L

theorem forBody_eq (s d : Str) (m : Nat) (e : Char) (tr : Bool) (items : List Str) (start i : Nat) (item : Str) :
    forBody s d m e tr ⟨items, start⟩ i item =
      if endsWithCh item e then
        if tr then
          if (run e item / 2 != 0) then
            match setIdxE items (start + i)
                (sliceTo item (-((run e item / 2 : Nat) : Int) * 2) ++ List.replicate (run e item / 2) e) with
            | .error err => .error err
            | .ok L => if (run e item % 2 != 0) then glue d m item (start + i) L else .ok (.cont ⟨L, start⟩)
          else if (run e item % 2 != 0) then glue d m item (start + i) items else .ok (.cont ⟨items, start⟩)
        else if (run e item % 2 != 0) then glue d m item (start + i) items else .ok (.cont ⟨items, start⟩)
      else .ok (.cont ⟨items, start⟩) := by
  unfold forBody
  rfl

theorem ite_odd {α} (n : Nat) (a b : α) : (if (n % 2 != 0) = true then a else b) = if n % 2 = 1 then a else b := by
  simp only [bne_iff_ne, Nat.mod_two_ne_zero]

theorem endsWithCh_iff (s : Str) (e : Char) : endsWithCh s e = true ↔ s.getLast? = some e := by
  simp [endsWithCh]

theorem forBody_step (s d : Str) (m : Nat) (e : Char) (tr : Bool) (items : List Str) (start i : Nat) (item : Str)
    (hlt : start + i < items.length) :
    forBody s d m e tr ⟨items, start⟩ i item =
      if item.getLast? = some e then
        if run e item % 2 = 1 then
          glue d m item (start + i)
            (if (tr && run e item / 2 != 0) = true then
              items.set (start + i) (item.take (item.length - run e item / 2 * 2) ++ List.replicate (run e item / 2) e)
            else items)
        else
          .ok (.cont ⟨if (tr && run e item / 2 != 0) = true then
              items.set (start + i) (item.take (item.length - run e item / 2 * 2) ++ List.replicate (run e item / 2) e)
            else items, start⟩)
      else .ok (.cont ⟨items, start⟩) := by
  rw [forBody_eq]
  by_cases h1 : item.getLast? = some e
  · rw [if_pos ((endsWithCh_iff _ _).2 h1), if_pos h1]
    cases tr with
    | false => simp only [Bool.false_eq_true, ↓reduceIte, Bool.false_and, ite_odd]
    | true =>
      by_cases hdbl : run e item / 2 = 0
      · simp only [hdbl, ↓reduceIte, bne_self_eq_false, Bool.false_eq_true, Bool.and_false, ite_odd]
      · have hb : (run e item / 2 != 0) = true := by simpa using hdbl
        simp only [↓reduceIte, hb, Bool.and_self, setIdxE, if_pos hlt, sliceTo_neg_mul _ _ hdbl, ite_odd]
  · rw [if_neg (by rw [endsWithCh_iff]; exact h1), if_neg h1]

theorem joinNext_none (d item : Str) (pos : Nat) (L : List Str) (h : L[pos + 1]? = none) :
    joinNext d item pos L = .error .IndexError := by
  simp only [joinNext, popE, h]

theorem joinNext_some (d item : Str) (pos : Nat) (L : List Str) (nxt : Str) (h : L[pos + 1]? = some nxt) :
    joinNext d item pos L = .ok (.brk ⟨(L.eraseIdx (pos + 1)).set pos (item.dropLast ++ d ++ nxt), pos⟩) := by
  have hl : pos < (L.eraseIdx (pos + 1)).length := by
    have := (List.getElem?_eq_some_iff.1 h).1
    rw [List.length_eraseIdx, if_pos this]; exact Nat.lt_sub_of_add_lt this
  simp only [joinNext, popE, h, setIdxE, if_pos hl, sliceTo_neg_one]

theorem glue_eq (d : Str) (hd : d ≠ []) (m : Nat) (item : Str) (pos : Nat) (L : List Str) :
    glue d m item pos L = (if m != 0 then resplit d L else .ok L) >>= joinNext d item pos := by
  unfold glue
  by_cases hm : (m != 0) = true
  · rw [if_pos hm, if_pos hm]
    unfold getLastE resplit
    cases L.getLast? with
    | none => rfl
    | some last => simp only [pySplitE, if_neg hd]; rfl
  · rw [if_neg hm, if_neg hm]; rfl

/-- how the hand model's result of the `for` is seen by the translated code (`start_from_item` is loop-carried there) -/
def viewFor (start : Nat) : ForRes → Ctl State
  | .broke items s' => .brk ⟨items, s'⟩
  | .exhausted items => .cont ⟨items, start⟩

theorem forEnum_eq (s d : Str) (m : Nat) (e : Char) (tr : Bool) (hd : d ≠ []) (start : Nat) :
    ∀ (snap : List Str) (i : Nat) (items : List Str), (snap.length = 0 ∨ start + i + snap.length ≤ items.length) →
      forEnum (forBody s d m e tr) snap i ⟨items, start⟩ = (forScan ⟨e, d, tr, m⟩ start snap i items).map (viewFor start) := by
  intro snap i items
  have hlt : ∀ {item : Str} {snap : List Str} {i : Nat} {items : List Str},
      ((item :: snap).length = 0 ∨ start + i + (item :: snap).length ≤ items.length) → start + i < items.length :=
    fun h => Nat.lt_of_lt_of_le (Nat.lt_add_of_pos_right (Nat.succ_pos _)) (h.resolve_left (Nat.succ_ne_zero _))
  have hnext : ∀ {item : Str} {snap : List Str} {i : Nat} {items L : List Str}, L.length = items.length →
      ((item :: snap).length = 0 ∨ start + i + (item :: snap).length ≤ items.length) →
      (snap.length = 0 ∨ start + (i + 1) + snap.length ≤ L.length) := by
    intro item snap i items L hL h
    rw [hL, show start + (i + 1) + snap.length = start + i + (snap.length + 1) from
      Nat.succ_add_eq_add_succ (start + i) _]
    exact .inr (h.resolve_left (Nat.succ_ne_zero _))
  fun_induction forScan ⟨e, d, tr, m⟩ start snap i items with
  | case1 => intro _; rfl
  | case2 item snap i items h1 cnt dbl items1 hodd err hre =>
    intro hlen
    rw [forEnum, forBody_step s d m e tr items start i item (hlt hlen), if_pos h1, if_pos hodd, glue_eq d hd, hre]
    rfl
  | case3 item snap i items h1 cnt dbl items1 hodd L' hre hn =>
    intro hlen
    rw [forEnum, forBody_step s d m e tr items start i item (hlt hlen), if_pos h1, if_pos hodd, glue_eq d hd, hre]
    simp only [bind, Except.bind, joinNext_none _ _ _ _ hn]
    rfl
  | case4 item snap i items h1 cnt dbl items1 hodd L' hre nxt hn =>
    intro hlen
    rw [forEnum, forBody_step s d m e tr items start i item (hlt hlen), if_pos h1, if_pos hodd, glue_eq d hd, hre]
    simp only [bind, Except.bind, joinNext_some _ _ _ _ _ hn]
    rfl
  | case5 item snap i items h1 cnt dbl items1 hodd ih =>
    intro hlen
    rw [forEnum, forBody_step s d m e tr items start i item (hlt hlen), if_pos h1, if_neg hodd]
    -- the list after the trim of an even run has the length of `items`
    exact ih (hnext (by simp only [items1]; split <;> simp) hlen)
  | case6 item snap i items h1 ih =>
    intro hlen
    rw [forEnum, forBody_step s d m e tr items start i item (hlt hlen), if_neg h1]
    exact ih (hnext rfl hlen)

theorem forElse_eq (s d : Str) (m : Nat) (e : Char) (tr : Bool) (items : List Str) (start : Nat) :
    forElse s d m e tr ⟨items, start⟩ = (finalTrim ⟨e, d, tr, m⟩ items).map (fun l => Ctl.brk ⟨l, start⟩) := by
  cases tr
  · simp [forElse, finalTrim, Except.map]
  · cases h : items.getLast? with
    | none => simp [forElse, finalTrim, getLastE, h, Except.map]
    | some last =>
      have hne : items.isEmpty = false := by
        cases items with
        | nil => simp at h
        | cons a t => rfl
      by_cases h1 : last.getLast? = some e
      · have h1' : endsWithCh last e = true := (endsWithCh_iff _ _).2 h1
        by_cases hdbl : run e last / 2 = 0 <;>
          simp [forElse, finalTrim, getLastE, setLastE, h, h1, h1', run_eq, hdbl, hne, sliceTo_neg_mul, -Int.natCast_ediv,
            Except.map]
      · have h1' : endsWithCh last e = false := by simpa [endsWithCh] using h1
        simp [forElse, finalTrim, getLastE, h, h1, h1', Except.map]

theorem whileTrue_eq (s d : Str) (m : Nat) (e : Char) (tr : Bool) (hd : d ≠ []) :
    ∀ (fuel : Nat) (items : List Str) (start : Nat),
      (whileTrue (round s d m e tr) fuel ⟨items, start⟩).map (·.f0) = whileLoop ⟨e, d, tr, m⟩ fuel items start := by
  intro fuel
  induction fuel with
  | zero => intro items start; simp [whileTrue, whileLoop, Except.map]
  | succ k ih =>
    intro items start
    rw [whileTrue, whileLoop]
    rw [round]
    simp only [sliceFromToLast]
    rw [forEnum_eq s d m e tr hd start _ 0 items (by rw [List.length_drop, List.length_dropLast]; omega)]
    cases forScan ⟨e, d, tr, m⟩ start (items.dropLast.drop start) 0 items with
    | error err => simp [Except.map]
    | ok r =>
      cases r with
      | broke items' start' => simpa [Except.map, viewFor] using ih items' start'
      | exhausted items' =>
        simp only [Except.map, viewFor, forElse_eq]
        cases finalTrim ⟨e, d, tr, m⟩ items' <;> simp

theorem splitWithEscape_eq (s d : Str) (m : Nat) (esc : Option Char) (tr : Bool) (fuel : Nat) :
    Gen.EscPy.splitWithEscape s d m esc tr fuel = splitWithEscapeD fuel s d m esc tr := by
  by_cases hd : d = []
  · simp [Gen.EscPy.splitWithEscape, splitWithEscapeD, pySplitE, hd]
  · have hs : pySplitE s d (if (m != 0) = true then (m : Int) else -(1 : Int)) = .ok (splitMax d m s) := by
      by_cases hm : m = 0
      · simp [pySplitE, hd, hm, splitMax, limOf]
      · have : ¬ ((m : Int) < 0) := by omega
        simp [pySplitE, hd, hm, splitMax, limOf, this]
    simp only [Gen.EscPy.splitWithEscape, splitWithEscapeD, hs, hd, ↓reduceIte]
    cases esc with
    | none => rfl
    | some e =>
      have h := whileTrue_eq s d m e tr hd fuel (splitMax d m s) 0
      simp only [← h]
      cases whileTrue (round s d m e tr) fuel ⟨splitMax d m s, 0⟩ <;> simp [Except.map]
end N0.EscGenEq

/-!
  The second piece regenerated from the Python source (`translate_py_esc2.py`): the loop of `serialize_dict` that protects
  reserved characters (`Gen.EscPy.escBody` / `Gen.EscPy.escapeLoop`).  It is `Esc.escapeValue (Esc.dangerous d eq) s` for
  every text, delimiter and equal tag; the f-string formats `{code:02x}` / `{code:04x}` / `{code:08x}` (`fmtHex`) are
  `Esc.hex2` / `hex4` / `hex8` in their ranges.
-/
namespace N0.EscGenEq2
open N0 N0.Py N0.Esc N0.Gen.EscPy

theorem hexCh_eq (n : Nat) : hexCh n = hexDigit n := rfl

theorem fmtHexFix_eq : ∀ w n : Nat, fmtHexFix w n = hexN w n
  | 0, _ => rfl
  | w + 1, n => by rw [fmtHexFix, hexN, fmtHexFix_eq w, hexCh_eq]

theorem fmtHex_two (n : Nat) (h : n < 0x100) : fmtHex 2 n = hex2 n := by
  rw [fmtHex, if_pos h, fmtHexFix_eq, hex2_eq n h]

theorem fmtHex_four (n : Nat) (h : n < 0x10000) : fmtHex 4 n = hex4 n := by
  rw [fmtHex, if_pos h, fmtHexFix_eq, hex4_eq]

theorem fmtHex_eight (n : Nat) (h : n < 0x100000000) : fmtHex 8 n = hex8 n := by
  rw [fmtHex, if_pos h, fmtHexFix_eq, hex8_eq]

theorem char_lt (c : Char) : c.toNat < 0x100000000 := by
  have := c.val.toNat_lt
  show c.val.toNat < 4294967296
  omega

theorem escBody_eq (s d eq dang buf : Str) (c : Char) : escBody s d eq dang buf c = buf ++ escChar dang c := by
  unfold escBody escChar escNote
  by_cases hc : c ∈ dang
  · by_cases h1 : c.toNat < 0x100
    · simp [hc, h1, fmtHex_two]
    · by_cases h2 : c.toNat < 0x10000
      · simp [hc, h1, h2, fmtHex_four]
      · simp [hc, h1, h2, fmtHex_eight, char_lt]
  · simp [hc]

theorem foldl_escBody (s d eq dang : Str) : ∀ (xs buf : Str),
    List.foldl (escBody s d eq dang) buf xs = buf ++ escapeValue dang xs := by
  intro xs
  induction xs with
  | nil => intro buf; simp [escapeValue]
  | cons c cs ih =>
    intro buf
    rw [List.foldl_cons, ih, escBody_eq]
    simp [escapeValue, List.flatMap_cons]

theorem escapeLoop_eq (s d eq : Str) : escapeLoop s d eq = escapeValue (dangerous d eq) s := by
  simp [escapeLoop, foldl_escBody, dangerous]

end N0.EscGenEq2
