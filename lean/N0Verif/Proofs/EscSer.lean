import N0Verif.Proofs.Split
import N0Verif.Py.AssocLemmas
/-!
  C17, the dictionary codec: the escape notation `serialize_dict` writes and `unescape` reads back, `serialize_dict` on flat
  mappings (with the flags `generate_empty` / `generate_none`) and on nested values, `dict(pairs)`, `unescape` of a mapping.
-/
namespace N0.Esc
open N0 N0.Py

/-- a hexadecimal digit as `serialize_dict` writes it in `\xNN` (`f"\\x{code:02x}"`: lower case) -/
def isLowerHex (c : Char) : Bool := ('0' ≤ c && c ≤ '9') || ('a' ≤ c && c ≤ 'f')

/-- a separator that cannot be confused with the `\xNN` notation -/
def SafeSep (sep : Str) : Prop := ∀ c ∈ sep, c ≠ '\\' ∧ c ≠ 'x' ∧ isLowerHex c = false

/-- separators and the wide notation: either all their characters are below U+0100 (then no
`\uNNNN` / `\UNNNNNNNN` is ever written), or none of them is `u` or `U` -/
def WideOk (d eq : Str) : Prop :=
  (∀ c ∈ d ++ eq, c.toNat < 0x100) ∨ (∀ c ∈ d ++ eq, c ≠ 'u' ∧ c ≠ 'U')

instance (d eq : Str) : Decidable (WideOk d eq) := by unfold WideOk; infer_instance

instance (sep : Str) : Decidable (SafeSep sep) := by unfold SafeSep; infer_instance

theorem hexDigit_facts : ∀ k : Fin 16,
    hexVal (hexDigit k) = some k.val ∧ (hexDigit k).toNat < 128 ∧ isLowerHex (hexDigit k) = true
      ∧ hexDigit k ≠ '\\' ∧ hexDigit k ≠ 'x' := by decide +kernel

theorem hexDigit_val (k : Nat) (h : k < 16) : hexVal (hexDigit k) = some k := (hexDigit_facts ⟨k, h⟩).1
theorem hexDigit_ascii (k : Nat) (h : k < 16) : (hexDigit k).toNat < 128 := (hexDigit_facts ⟨k, h⟩).2.1
theorem hexDigit_lower (k : Nat) (h : k < 16) : isLowerHex (hexDigit k) = true := (hexDigit_facts ⟨k, h⟩).2.2.1

/-- the last `w` hexadecimal digits of `n`, most significant first: `f"{n:0wx}"` for `n < 16 ^ w` -/
def hexN : Nat → Nat → Str
  | 0, _ => []
  | w + 1, n => hexN w (n / 16) ++ [hexDigit (n % 16)]

theorem mem_hexN (c : Char) : ∀ (w n : Nat), c ∈ hexN w n → ∃ k, k < 16 ∧ c = hexDigit k
  | 0, _, h => by cases h
  | w + 1, n, h => by
    rcases List.mem_append.1 h with h | h
    · exact mem_hexN c w _ h
    · exact ⟨n % 16, Nat.mod_lt _ (by decide), List.mem_singleton.1 h⟩

theorem takeHex_add (b : Nat) : ∀ (a acc : Nat) (s : Str),
    takeHex (a + b) acc s = (takeHex a acc s).bind (fun p => takeHex b p.1 p.2)
  | 0, acc, s => by rw [Nat.zero_add]; rfl
  | a + 1, acc, [] => by rw [Nat.succ_add]; rfl
  | a + 1, acc, c :: s => by
    rw [Nat.succ_add]
    simp only [takeHex]
    cases hexVal c with
    | none => rfl
    | some v => exact takeHex_add b a _ s

theorem takeHex_hexN : ∀ (w n acc : Nat) (s : Str), n < 16 ^ w →
    takeHex w acc (hexN w n ++ s) = some (acc * 16 ^ w + n, s)
  | 0, n, acc, s, h => by
    have : n = 0 := Nat.lt_one_iff.1 h
    subst this; simp [takeHex, hexN]
  | w + 1, n, acc, s, h => by
    have hq : n / 16 < 16 ^ w := Nat.div_lt_of_lt_mul (by rw [Nat.mul_comm, ← Nat.pow_succ]; exact h)
    rw [hexN, List.append_assoc, takeHex_add 1 w, takeHex_hexN w _ _ _ hq]
    simp only [Option.bind, List.singleton_append, takeHex, hexDigit_val _ (Nat.mod_lt n (by decide))]
    rw [Nat.add_mul, Nat.add_assoc, Nat.div_add_mod', Nat.mul_assoc, ← Nat.pow_succ]

theorem hex2_eq (n : Nat) (h : n < 256) : hex2 n = hexN 2 n := by
  have : n / 16 % 16 = n / 16 := Nat.mod_eq_of_lt (Nat.div_lt_of_lt_mul h)
  simp only [hex2, hexN, this, List.nil_append, List.cons_append]

theorem hex4_eq (n : Nat) : hex4 n = hexN 4 n := by
  simp only [hex4, hexN, Nat.div_div_eq_div_mul, List.nil_append, List.cons_append, Nat.reduceMul]

theorem hex8_eq (n : Nat) : hex8 n = hexN 8 n := by
  simp only [hex8, hexN, Nat.div_div_eq_div_mul, List.nil_append, List.cons_append, Nat.reduceMul]

theorem escNote_shape (n : Nat) : ∃ k w, escNote n = '\\' :: k :: hexN w n ∧
    ((k = 'x' ∧ w = 2 ∧ n < 0x100) ∨ (k = 'u' ∧ w = 4 ∧ 0x100 ≤ n ∧ n < 0x10000) ∨
      (k = 'U' ∧ w = 8 ∧ 0x10000 ≤ n)) := by
  by_cases h1 : n < 0x100
  · exact ⟨'x', 2, by rw [escNote, if_pos h1, hex2_eq n h1], .inl ⟨rfl, rfl, h1⟩⟩
  · by_cases h2 : n < 0x10000
    · exact ⟨'u', 4, by rw [escNote, if_neg h1, if_pos h2, hex4_eq],
        .inr (.inl ⟨rfl, rfl, Nat.le_of_not_lt h1, h2⟩)⟩
    · exact ⟨'U', 8, by rw [escNote, if_neg h1, if_neg h2, hex8_eq], .inr (.inr ⟨rfl, rfl, Nat.le_of_not_lt h2⟩)⟩

theorem mem_escNote (n : Nat) (c : Char) (h : c ∈ escNote n) :
    c = '\\' ∨ c = 'x' ∨ (∃ k, k < 16 ∧ c = hexDigit k) ∨ ((c = 'u' ∨ c = 'U') ∧ 0x100 ≤ n) := by
  obtain ⟨k, w, he, hk⟩ := escNote_shape n
  rw [he] at h
  rcases List.mem_cons.1 h with rfl | h
  · exact .inl rfl
  · rcases List.mem_cons.1 h with rfl | h
    · rcases hk with ⟨rfl, _⟩ | ⟨rfl, _, h1, _⟩ | ⟨rfl, _, h2⟩
      · exact .inr (.inl rfl)
      · exact .inr (.inr (.inr ⟨.inl rfl, h1⟩))
      · exact .inr (.inr (.inr ⟨.inr rfl, Nat.le_trans (by decide) h2⟩))
    · exact .inr (.inr (.inl (mem_hexN c w n h)))

theorem escNote_latin1 (n : Nat) : ∀ c ∈ escNote n, c.toNat < 256 := by
  intro c hc
  rcases mem_escNote n c hc with rfl | rfl | ⟨k, hk, rfl⟩ | ⟨rfl | rfl, _⟩
  · decide
  · decide
  · have := hexDigit_ascii k hk; omega
  · decide
  · decide

theorem toBytes_cons (c : Char) (s : Str) :
    toBytes (c :: s) = (if c.toNat < 0x100 then [c] else escNote c.toNat) ++ toBytes s := by
  simp [toBytes]

theorem toBytes_append (a b : Str) : toBytes (a ++ b) = toBytes a ++ toBytes b := by
  simp [toBytes]

theorem toBytes_small (s : Str) (h : ∀ c ∈ s, c.toNat < 256) : toBytes s = s := by
  induction s with
  | nil => rfl
  | cons c s ih =>
    have hc : c.toNat < 256 := h c (by simp)
    rw [toBytes_cons, ih (fun c' hc' => h c' (by simp [hc'])), if_pos hc]
    rfl

theorem mem_escapeValue (dang v : Str) (c : Char) (h : c ∈ escapeValue dang v) :
    (c ∈ v ∧ dang.contains c = false) ∨ c = '\\' ∨ c = 'x' ∨ (∃ k, k < 16 ∧ c = hexDigit k)
      ∨ ((c = 'u' ∨ c = 'U') ∧ ∃ a ∈ dang, 0x100 ≤ a.toNat) := by
  unfold escapeValue at h
  rw [List.mem_flatMap] at h
  obtain ⟨a, ha, hc⟩ := h
  unfold escChar at hc
  split at hc
  · rename_i hd
    rcases mem_escNote a.toNat c hc with h | h | h | ⟨h, hn⟩
    · right; left; exact h
    · right; right; left; exact h
    · right; right; right; left; exact h
    · right; right; right; right; exact ⟨h, a, by simpa using hd, hn⟩
  · rename_i hnd
    simp only [List.mem_cons, List.not_mem_nil, or_false] at hc
    subst hc
    left; exact ⟨ha, by simpa using hnd⟩

theorem unescB_plain (f : Nat) (c : Char) (s : Str) (h : c ≠ '\\') :
    unescB (f + 1) (c :: s) = (unescB f s).map (c :: ·) := by
  show (if c ≠ '\\' then (unescB f s).map (c :: ·) else _) = _
  rw [if_pos h]

theorem mkChar_toNat (a : Char) : mkChar a.toNat = .ok a := by
  have hv : a.toNat < 0xD800 ∨ (0xDFFF < a.toNat ∧ a.toNat < 0x110000) := a.valid
  have h1 : ¬ (a.toNat > 0x10FFFF) :=
    Nat.not_lt.2 (Nat.le_of_lt_succ (hv.elim (fun h => Nat.lt_trans h (by decide)) (fun h => h.2)))
  have h2 : ¬ (0xD800 ≤ a.toNat ∧ a.toNat ≤ 0xDFFF) :=
    fun ⟨l, r⟩ => hv.elim (fun h => Nat.lt_irrefl _ (Nat.lt_of_lt_of_le h l))
      (fun h => Nat.lt_irrefl _ (Nat.lt_of_lt_of_le h.1 r))
  rw [mkChar, if_neg h1, if_neg h2, Char.ofNat_toNat]

theorem unescB_num (f : Nat) (k : Char) (hk : k = 'x' ∨ k = 'u' ∨ k = 'U') (s1 s2 : Str) (a : Char)
    (h : takeHex (if k = 'x' then 2 else if k = 'u' then 4 else 8) 0 s1 = some (a.toNat, s2)) :
    unescB (f + 1) ('\\' :: k :: s1) = (unescB f s2).map (a :: ·) := by
  have hk' : k ≠ '\n' ∧ simpleEsc k = none ∧ isOct k = false := by
    rcases hk with rfl | rfl | rfl <;> decide
  rw [unescB.eq_def]
  simp only [ne_eq, not_true_eq_false, ↓reduceIte, hk'.1, hk'.2.1, hk'.2.2, Bool.false_eq_true, hk, h, mkChar_toNat]

theorem takeHex_code (w : Nat) (a : Char) (s : Str) (h : a.toNat < 16 ^ w) :
    takeHex w 0 (hexN w a.toNat ++ s) = some (a.toNat, s) := by
  rw [takeHex_hexN w _ 0 s h, Nat.zero_mul, Nat.zero_add]

theorem unescB_note (f : Nat) (a : Char) (s : Str) :
    unescB (f + 1) (escNote a.toNat ++ s) = (unescB f s).map (a :: ·) := by
  obtain ⟨k, w, he, hk⟩ := escNote_shape a.toNat
  rw [he]
  rcases hk with ⟨rfl, rfl, h⟩ | ⟨rfl, rfl, _, h⟩ | ⟨rfl, rfl, _⟩
  · exact unescB_num f 'x' (.inl rfl) _ s a (takeHex_code 2 a s h)
  · exact unescB_num f 'u' (.inr (.inl rfl)) _ s a (takeHex_code 4 a s h)
  · have hv : a.toNat < 0xD800 ∨ (0xDFFF < a.toNat ∧ a.toNat < 0x110000) := a.valid
    exact unescB_num f 'U' (.inr (.inr rfl)) _ s a (takeHex_code 8 a s (by omega))

theorem escNote_length_pos (n : Nat) : 1 ≤ (escNote n).length := by
  obtain ⟨k, w, he, _⟩ := escNote_shape n
  rw [he]
  exact Nat.succ_le_succ (Nat.zero_le _)

theorem unescB_unit (dang : Str) (hb : '\\' ∈ dang) (a : Char) (f : Nat) (s : Str) :
    1 ≤ (toBytes (escChar dang a)).length ∧
      unescB (f + 1) (toBytes (escChar dang a) ++ s) = (unescB f s).map (a :: ·) := by
  unfold escChar
  by_cases hd : dang.contains a = true
  · rw [if_pos hd, toBytes_small _ (escNote_latin1 a.toNat)]
    exact ⟨escNote_length_pos _, unescB_note f a s⟩
  · rw [if_neg hd]
    have hne : a ≠ '\\' := by
      intro h; subst h
      exact hd (by simpa using hb)
    rw [toBytes_cons]
    simp only [toBytes, List.flatMap_nil, List.append_nil]
    by_cases hs : a.toNat < 0x100
    · rw [if_pos hs]
      exact ⟨by simp, unescB_plain f a s hne⟩
    · rw [if_neg hs]
      exact ⟨escNote_length_pos _, unescB_note f a s⟩

theorem unescB_escapeValue (dang v : Str) (hb : '\\' ∈ dang) :
    ∀ fuel, (toBytes (escapeValue dang v)).length ≤ fuel →
      unescB fuel (toBytes (escapeValue dang v)) = .ok v := by
  induction v with
  | nil => intro fuel _; cases fuel <;> rfl
  | cons a v ih =>
    intro fuel hf
    have hcons : escapeValue dang (a :: v) = escChar dang a ++ escapeValue dang v := by
      simp [escapeValue]
    rw [hcons, toBytes_append] at hf ⊢
    obtain ⟨hpos, hstep⟩ := unescB_unit dang hb a (fuel - 1) (toBytes (escapeValue dang v))
    rw [List.length_append] at hf
    cases fuel with
    | zero => omega
    | succ f =>
      rw [Nat.add_sub_cancel] at hstep
      rw [hstep, ih f (by omega)]
      rfl

/-- `unescape(escape(v)) = v` for every text when the backslash is reserved, as in `dangerous d eq` (fix C17-e) -/
theorem unescape_escapeValue (dang v : Str) (hb : '\\' ∈ dang) :
    unescape (escapeValue dang v) = .ok v := by
  unfold unescape
  exact unescB_escapeValue dang v hb _ (Nat.le_refl _)

/-- an escaped value contains no character of a safe separator that is reserved; when a reserved
character above U+00FF exists the notation `\uNNNN` / `\UNNNNNNNN` appears, so the separator must
then contain neither `u` nor `U` -/
theorem escapeValue_clean (dang sep v : Str) (hs : SafeSep sep) (hsub : ∀ c ∈ sep, c ∈ dang)
    (hu : (∀ a ∈ dang, a.toNat < 0x100) ∨ (∀ c ∈ sep, c ≠ 'u' ∧ c ≠ 'U')) :
    Clean sep (escapeValue dang v) := by
  intro c hc hcs
  obtain ⟨h1, h2, h3⟩ := hs c hcs
  rcases mem_escapeValue dang v c hc with h | h | h | ⟨k, hk, h⟩ | ⟨h, a, ha, hn⟩
  · have := hsub c hcs
    have h' : dang.contains c = true := by simpa using this
    rw [h.2] at h'; cases h'
  · exact h1 h
  · exact h2 h
  · subst h; rw [hexDigit_lower k hk] at h3; cases h3
  · rcases hu with hu | hu
    · have := hu a ha; omega
    · rcases h with h | h
      · exact (hu c hcs).1 h
      · exact (hu c hcs).2 h

theorem wideOk_dangerous (d eq sep : Str) (hw : WideOk d eq) (hsub : ∀ c ∈ sep, c ∈ d ++ eq) :
    (∀ a ∈ dangerous d eq, a.toNat < 0x100) ∨ (∀ c ∈ sep, c ≠ 'u' ∧ c ≠ 'U') := by
  rcases hw with hw | hw
  · left
    intro a ha
    simp only [dangerous, List.append_assoc, List.mem_append, List.mem_cons, List.not_mem_nil, or_false] at ha
    rcases ha with (rfl | rfl | rfl | rfl | rfl | rfl) | ha | ha
    all_goals first | decide | exact hw a (by simp [ha])
  · right
    intro c hc
    exact hw c (hsub c hc)

theorem mem_dangerous_of_sep (d eq : Str) (c : Char) (h : c ∈ d ++ eq) : c ∈ dangerous d eq := by
  rw [dangerous, List.append_assoc]; exact List.mem_append_right _ h

theorem backslash_mem_dangerous (d eq : Str) : '\\' ∈ dangerous d eq :=
  List.mem_append_left _ (List.mem_append_left _ (by decide))

theorem escapeValue_clean_sep (d eq sep v : Str) (hs : SafeSep sep) (hsub : ∀ c ∈ sep, c ∈ d ++ eq)
    (hw : WideOk d eq) : Clean sep (escapeValue (dangerous d eq) v) :=
  escapeValue_clean _ sep v hs (fun c h => mem_dangerous_of_sep d eq c (hsub c h)) (wideOk_dangerous d eq sep hw hsub)

def flatVal (c : Cls) (m : List (Str × Str)) : Val := .dict c (m.map (fun kv => (kv.1, Val.str kv.2)))

theorem join_cons_flatMap (d : Str) (x : Str) (xs : List Str) :
    join d (x :: xs) = x ++ xs.flatMap (fun y => d ++ y) := by
  induction xs generalizing x with
  | nil => simp [join]
  | cons y ys ih => simp only [join, List.flatMap_cons, ih y, List.append_assoc]

theorem dictSet_eq_assocSet {α} (k : Str) (v : α) (r : List (Str × α)) : dictSet k v r = assocSet k v r := by
  induction r with
  | nil => rfl
  | cons kv r ih => rw [dictSet, assocSet, ih]

theorem dictOfPairs_nodup {α} (ps : List (Str × α)) (h : (ps.map Prod.fst).Nodup) :
    dictOfPairs ps = ps :=
  foldl_set_nodup dictSet_eq_assocSet ps h

/-- `deserialize_dict` of a joined text of entries, whatever wrote them: the dictionary of what `deserialize_key_value`
makes of each entry (a repeated key keeps its first place and its last value) -/
theorem deserializeDict_join {α} (d eq : Str) (dk dv : Option Str) (m : List α) (item : α → Str)
    (f : α → Str × Option Str) (hd : d ≠ [])
    (hc : ∀ a ∈ m, Clean d (item a)) (hne : ∀ a ∈ m, item a ≠ [])
    (hkv : ∀ a ∈ m, keyValue eq dk dv (item a) = .ok (f a)) :
    deserializeDict (join d (m.map item)) d eq false dk dv = .ok (dictOfPairs (m.map f)) := by
  rw [deserializeDict, deserializeList_join_none d _ false hd (fun _ => rfl) (List.forall_mem_map.2 hc),
    List.filter_eq_self.2 (fun it hit => by obtain ⟨a, ha, rfl⟩ := List.mem_map.1 hit; simpa using hne a ha)]
  show (do let pairs ← (m.map item).mapM (keyValue eq dk dv); pure (dictOfPairs pairs)) = _
  rw [List.mapM_map, mapM_ok (keyValue eq dk dv ∘ item) f m hkv]
  rfl

theorem unescapeDict_map {α} (l : List α) (f g : α → Str × Option Str)
    (h : ∀ x ∈ l, (f x).1 = (g x).1 ∧ unescapeOpt (f x).2 = .ok (g x).2) :
    unescapeDict (l.map f) = .ok (l.map g) := by
  induction l with
  | nil => rfl
  | cons x l ih =>
    obtain ⟨h1, h2⟩ := h x (by simp)
    simp only [List.map_cons, unescapeDict, h2, Except.map, ih (fun y hy => h y (by simp [hy]))]
    rw [h1]

theorem unescapeDict_ok (ps : List (Str × Str)) (f : Str → Str)
    (h : ∀ kv ∈ ps, unescape (f kv.2) = .ok kv.2) :
    unescapeDict (ps.map (fun kv => (kv.1, some (f kv.2)))) = .ok (ps.map (fun kv => (kv.1, some kv.2))) :=
  unescapeDict_map ps _ _ (fun kv hkv => ⟨rfl, by rw [unescapeOpt, h kv hkv]; rfl⟩)

theorem unescapeOpt_error (v : Option Str) (e : UErr) (h : unescapeOpt v = .error e) :
    ∃ s, v = some s ∧ unescape s = .error e := by
  cases v with
  | none => cases h
  | some s =>
    refine ⟨s, rfl, ?_⟩
    rw [unescapeOpt] at h
    cases hu : unescape s with
    | error e' => rw [hu] at h; cases h; rfl
    | ok s' => rw [hu] at h; cases h

theorem unescapeOpt_none_iff (v v' : Option Str) (h : unescapeOpt v = .ok v') : v = none ↔ v' = none := by
  cases v with
  | none => cases h; exact Iff.rfl
  | some s =>
    rw [unescapeOpt] at h
    cases hu : unescape s with
    | error e => rw [hu] at h; cases h
    | ok s' => rw [hu] at h; cases h; exact ⟨nofun, nofun⟩

/-- fix C17-h: `unescape` of a mapping never fails because of a `None` value — it fails only
because one of the string values does -/
theorem unescapeDict_error (ps : List (Str × Option Str)) (e : UErr) (h : unescapeDict ps = .error e) :
    ∃ kv ∈ ps, ∃ s, kv.2 = some s ∧ unescape s = .error e := by
  induction ps with
  | nil => cases h
  | cons p ps ih =>
    obtain ⟨k, v⟩ := p
    rw [unescapeDict] at h
    cases hv : unescapeOpt v with
    | error e' =>
      rw [hv] at h; cases h
      exact ⟨(k, v), List.mem_cons_self, unescapeOpt_error v e hv⟩
    | ok v' =>
      rw [hv] at h
      cases hr : unescapeDict ps with
      | error e' =>
        rw [hr] at h; cases h
        obtain ⟨kv, hkv, hs⟩ := ih hr
        exact ⟨kv, List.mem_cons_of_mem _ hkv, hs⟩
      | ok r => rw [hr] at h; cases h

def optVal : Option Str → Val
  | some s => .str s
  | none => .none

def flatValO (c : Cls) (m : List (Str × Option Str)) : Val := .dict c (m.map (fun kv => (kv.1, optVal kv.2)))

/-- does `serialize_dict(…, generate_empty=ge, generate_none=gn)` write the equal tag after the key -/
def writesEq (ge gn : Bool) : Option Str → Bool
  | none => gn || ge
  | some [] => ge
  | some (_ :: _) => true

/-- the text of one entry under the flags: `k=v`, `k=` or the bare key -/
def itemOfF (d eq : Str) (ge gn : Bool) (kv : Str × Option Str) : Str :=
  if writesEq ge gn kv.2 then kv.1 ++ eq ++ escapeValue (dangerous d eq) (kv.2.getD []) else kv.1

/-- the arguments of `serialize_dict(v, d, eq, generate_empty=ge, generate_none=gn)`: no case conversion -/
def cF (d eq : Str) (ge gn : Bool) : SCfg := ⟨d, eq, ge, gn, 0, 0⟩

theorem escChar_ne_nil (dang : Str) (c : Char) : escChar dang c ≠ [] := by
  unfold escChar
  by_cases h : dang.contains c = true
  · rw [if_pos h]
    exact fun h0 => absurd (h0 ▸ escNote_length_pos c.toNat) (by decide)
  · rw [if_neg h]; exact List.cons_ne_nil _ _

theorem escapeValue_cons_ne_nil (dang : Str) (a : Char) (s : Str) : escapeValue dang (a :: s) ≠ [] := by
  unfold escapeValue
  simp only [List.flatMap_cons]
  intro h
  exact escChar_ne_nil dang a (List.append_eq_nil_iff.mp h).1

theorem ser_optVal (d eq : Str) (ge gn : Bool) (lvl : Nat) (v : Option Str) :
    ser (cF d eq ge gn) lvl (optVal v) = .ok (v.map (escapeValue (dangerous d eq))) := by
  cases v <;> simp [optVal, ser, cF, capStr, bind, Except.bind, pure, Except.pure]

theorem addValue_item (d eq : Str) (ge gn : Bool) (buf k : Str) (v : Option Str) :
    addValue (cF d eq ge gn) (buf ++ k) (v.map (escapeValue (dangerous d eq)))
      = buf ++ itemOfF d eq ge gn (k, v) := by
  cases v with
  | none => cases ge <;> cases gn <;> simp [addValue, cF, itemOfF, writesEq, escapeValue]
  | some s =>
    cases s with
    | nil => cases ge <;> simp [addValue, cF, itemOfF, writesEq, escapeValue]
    | cons a s =>
      have hne := escapeValue_cons_ne_nil (dangerous d eq) a s
      cases he : escapeValue (dangerous d eq) (a :: s) with
      | nil => exact absurd he hne
      | cons b t => simp [addValue, cF, itemOfF, writesEq, he]

theorem serKvs_step (d eq : Str) (ge gn : Bool) (buf : Str) (kv : Str × Option Str) (rest : List (Str × Val)) :
    serKvs (cF d eq ge gn) 0 buf ((kv.1, optVal kv.2) :: rest)
      = serKvs (cF d eq ge gn) 0 ((if buf.isEmpty then buf else buf ++ d) ++ itemOfF d eq ge gn kv) rest := by
  have hcap : capStr (cF d eq ge gn).capK kv.1 = .ok kv.1 := by simp [capStr, cF]
  simp only [serKvs, ser_optVal, bind, Except.bind, opener, hcap]
  rw [show (cF d eq ge gn).d = d from rfl, ← addValue_item]
  cases buf.isEmpty <;> rfl

theorem serKvs_flatF (d eq : Str) (ge gn : Bool) (m : List (Str × Option Str)) : ∀ buf : Str, buf ≠ [] →
    serKvs (cF d eq ge gn) 0 buf (m.map (fun kv => (kv.1, optVal kv.2)))
      = .ok (buf ++ m.flatMap (fun kv => d ++ itemOfF d eq ge gn kv)) := by
  induction m with
  | nil => intro buf _; simp [serKvs]
  | cons kv m ih =>
    intro buf hb
    rw [List.map_cons, serKvs_step, List.isEmpty_eq_false_iff.2 hb, if_neg (by decide), ih _ (by simp [hb])]
    simp [List.append_assoc]

theorem ser_flatF (d eq : Str) (ge gn : Bool) (c : Cls) (m : List (Str × Option Str))
    (hne : ∀ kv ∈ m, itemOfF d eq ge gn kv ≠ []) :
    ser (cF d eq ge gn) 0 (flatValO c m) = .ok (some (join d (m.map (itemOfF d eq ge gn)))) := by
  unfold flatValO
  cases m with
  | nil => simp [ser, serKvs, closer, join, bind, Except.bind, pure, Except.pure]
  | cons kv m =>
    simp only [ser, bind, Except.bind, pure, Except.pure]
    rw [List.map_cons, serKvs_step, List.isEmpty_nil, if_pos rfl, List.nil_append,
      serKvs_flatF d eq ge gn m _ (hne kv List.mem_cons_self)]
    simp [closer, join_cons_flatMap, List.flatMap_map]

theorem itemOfF_ne_nil (d eq : Str) (ge gn : Bool) (kv : Str × Option Str) (heq : eq ≠ [])
    (hbare : writesEq ge gn kv.2 = false → kv.1 ≠ []) : itemOfF d eq ge gn kv ≠ [] := by
  unfold itemOfF
  split
  · exact fun h => heq (List.append_eq_nil_iff.1 (List.append_eq_nil_iff.1 h).1).2
  · rename_i hw; exact hbare (by simpa using hw)

theorem itemOfF_clean (d eq : Str) (ge gn : Bool) (kv : Str × Option Str) (hsd : SafeSep d) (hw : WideOk d eq)
    (hdis : ∀ ch ∈ eq, ch ∉ d) (hk : Clean d kv.1) : Clean d (itemOfF d eq ge gn kv) := by
  intro ch hch
  unfold itemOfF at hch
  split at hch
  · rcases List.mem_append.1 hch with hch | hch
    · rcases List.mem_append.1 hch with hch | hch
      · exact hk ch hch
      · exact hdis ch hch
    · exact escapeValue_clean_sep d eq d _ hsd (fun _ h => List.mem_append_left _ h) hw ch hch
  · exact hk ch hch

theorem keyValue_itemOfF (d eq : Str) (ge gn : Bool) (dv : Option Str) (kv : Str × Option Str) (heq : eq ≠ [])
    (hk : Clean eq kv.1) :
    keyValue eq none dv (itemOfF d eq ge gn kv)
      = .ok (kv.1, if writesEq ge gn kv.2 then some (escapeValue (dangerous d eq) (kv.2.getD [])) else dv) := by
  unfold itemOfF
  cases writesEq ge gn kv.2 with
  | true => rw [if_pos rfl, if_pos rfl, keyValue, if_neg heq, splitAux_pair eq _ _ heq hk]
  | false => simp [keyValue, heq, splitAux_clean eq (some 1) kv.1 heq hk, truthyKey]

def itemOf (d eq : Str) (kv : Str × Str) : Str := kv.1 ++ eq ++ escapeValue (dangerous d eq) kv.2

theorem flatVal_eq_flatValO (c : Cls) (m : List (Str × Str)) :
    flatVal c m = flatValO c (m.map (fun kv => (kv.1, some kv.2))) := by
  simp only [flatVal, flatValO, List.map_map, Function.comp_def, optVal]

theorem writesEq_some (gn : Bool) (s : Str) : writesEq true gn (some s) = true := by
  cases s <;> rfl

theorem itemOfF_some (d eq : Str) (gn : Bool) (kv : Str × Str) :
    itemOfF d eq true gn (kv.1, some kv.2) = itemOf d eq kv := by
  simp only [itemOfF, writesEq_some, ↓reduceIte, Option.getD_some, itemOf]

theorem serializeDict_flat (d eq : Str) (heq : eq ≠ []) (c : Cls) (m : List (Str × Str)) :
    serializeDict d eq (flatVal c m) = .ok (some (join d (m.map (itemOf d eq)))) := by
  have h := ser_flatF d eq true true c (m.map (fun kv => (kv.1, some kv.2))) (by
    intro kv hkv
    obtain ⟨x, _, rfl⟩ := List.mem_map.1 hkv
    rw [itemOfF_some, itemOf]
    exact fun h => heq (List.append_eq_nil_iff.1 (List.append_eq_nil_iff.1 h).1).2)
  rw [serializeDict, flatVal_eq_flatValO, ← cF, h, List.map_map]
  simp only [Function.comp_def, itemOfF_some]

/-- `v is None` -/
def isNone : Val → Bool
  | .none => true
  | _ => false

mutual
/-- no list directly contains `None` (`str += None` is the only failing statement) -/
def noNone : Val → Bool
  | .list _ xs => noNoneItems xs
  | .dict _ kvs => noNoneKvs kvs
  | _ => true
def noNoneItems : List Val → Bool
  | [] => true
  | v :: r => !isNone v && noNone v && noNoneItems r
def noNoneKvs : List (Str × Val) → Bool
  | [] => true
  | (_, v) :: r => noNone v && noNoneKvs r
end

/-- the only way the model of `serialize_dict` does not return: a case conversion of text outside
the modelled (ASCII) tables -/
def Good {α} (c : SCfg) (r : PyM α) : Prop :=
  ∀ e, r = .error e → e = .Unsupported ∧ (c.capK ≠ 0 ∨ c.capV ≠ 0)

theorem capStr_err (cap : Int) (s : Str) (e : PyErr) (h : capStr cap s = .error e) :
    e = .Unsupported ∧ cap ≠ 0 := by
  unfold capStr at h
  by_cases h0 : cap = 0
  · rw [if_pos h0] at h; cases h
  · rw [if_neg h0] at h
    refine ⟨?_, h0⟩
    by_cases ha : (!isAscii s) = true
    · rw [if_pos ha] at h; cases h; rfl
    · rw [if_neg ha] at h
      by_cases hp : cap > 0
      · rw [if_pos hp] at h; cases h
      · rw [if_neg hp] at h; cases h

theorem good_ok {α} (c : SCfg) (a : α) : Good c (.ok a : PyM α) := fun _ h => nomatch h

theorem good_capV (c : SCfg) (s : Str) : Good c (capStr c.capV s) :=
  fun _ h => ⟨(capStr_err _ _ _ h).1, .inr (capStr_err _ _ _ h).2⟩

theorem good_capK (c : SCfg) (s : Str) : Good c (capStr c.capK s) :=
  fun _ h => ⟨(capStr_err _ _ _ h).1, .inl (capStr_err _ _ _ h).2⟩

theorem good_bind {α β} (c : SCfg) (x : PyM α) (f : α → PyM β) (hx : Good c x)
    (hf : ∀ a, x = .ok a → Good c (f a)) : Good c (x >>= f) := by
  cases x with
  | error e' =>
    intro e h
    have h' : Except.error e' = Except.error e := h
    cases h'; exact hx e' rfl
  | ok a => exact hf a rfl

theorem bind_some_ne_none {α β} (x : PyM α) (g : α → β) : (x >>= fun a => pure (some (g a))) ≠ .ok none := by
  cases x with
  | error e => exact fun h => nomatch h
  | ok a => exact fun h => nomatch h

theorem ser_not_none (c : SCfg) (lvl : Nat) (v : Val) (hv : isNone v = false) :
    ser c lvl v ≠ .ok none := by
  cases v with
  | none => cases hv
  | bool b => rw [ser]; exact bind_some_ne_none _ _
  | int i => rw [ser]; exact bind_some_ne_none _ _
  | flt r => rw [ser]; exact bind_some_ne_none _ _
  | str s => rw [ser]; exact bind_some_ne_none _ _
  | list cl xs => rw [ser]; exact bind_some_ne_none _ _
  | dict cl kvs => rw [ser]; exact bind_some_ne_none _ _

mutual
theorem ser_good (c : SCfg) : ∀ (v : Val) (lvl : Nat), noNone v = true → Good c (ser c lvl v)
  | .none, lvl, _ => by rw [ser]; exact good_ok c _
  | .bool b, lvl, _ => by rw [ser]; exact good_bind c _ _ (good_capV c _) (fun _ _ => good_ok c _)
  | .int i, lvl, _ => by rw [ser]; exact good_bind c _ _ (good_capV c _) (fun _ _ => good_ok c _)
  | .flt r, lvl, _ => by rw [ser]; exact good_bind c _ _ (good_capV c _) (fun _ _ => good_ok c _)
  | .str s, lvl, _ => by rw [ser]; exact good_bind c _ _ (good_capV c _) (fun _ _ => good_ok c _)
  | .list cl xs, lvl, h => by
      rw [ser]
      exact good_bind c _ _ (serItems_good c xs lvl [] (by simpa [noNone] using h)) (fun _ _ => good_ok c _)
  | .dict cl kvs, lvl, h => by
      rw [ser]
      exact good_bind c _ _ (serKvs_good c kvs lvl [] (by simpa [noNone] using h)) (fun _ _ => good_ok c _)
theorem serItems_good (c : SCfg) : ∀ (xs : List Val) (lvl : Nat) (buf : Str),
    noNoneItems xs = true → Good c (serItems c lvl buf xs)
  | [], lvl, buf, _ => by rw [serItems]; exact good_ok c _
  | v :: rest, lvl, buf, h => by
      simp only [noNoneItems, Bool.and_eq_true, Bool.not_eq_true'] at h
      rw [serItems]
      refine good_bind c _ _ (ser_good c v (lvl + 1) h.1.2) (fun sv hsv => ?_)
      cases sv with
      | none => exact absurd hsv (ser_not_none c (lvl + 1) v h.1.1)
      | some s => exact serItems_good c rest lvl _ h.2
theorem serKvs_good (c : SCfg) : ∀ (kvs : List (Str × Val)) (lvl : Nat) (buf : Str),
    noNoneKvs kvs = true → Good c (serKvs c lvl buf kvs)
  | [], lvl, buf, _ => by rw [serKvs]; exact good_ok c _
  | (k, v) :: rest, lvl, buf, h => by
      simp only [noNoneKvs, Bool.and_eq_true] at h
      rw [serKvs]
      exact good_bind c _ _ (ser_good c v (lvl + 1) h.1) (fun _ _ =>
        good_bind c _ _ (good_capK c k) (fun _ _ => serKvs_good c rest lvl _ h.2))
end

end N0.Esc
