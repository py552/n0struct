import N0Verif.Model.Files
import N0Verif.Py.Lemmas
/-!
  `save_file` / `load_file` / `load_lines` for ANY codec that meets `Codec.Good` (a parameter; the four codec models are
  instances, `FilesCodec.lean`).  The one non-routine fact: under `Codec.SyncOn E` a byte-level search for an encoded EOL
  whose characters are in `E` finds exactly the character-level occurrences (`startsWith_enc`, `replace_enc`, `lineOk_enc`),
  which gives what the loaders return on a file that holds an encoded text.
-/
namespace N0.Files
open N0 N0.Py

def IsAscii (s : Str) : Prop := ∀ ch ∈ s, ch.toNat < 128

/-- What the theorems assume about `encoding`: the body encoder is stateless and works
character by character, is ASCII-compatible (an ASCII character is its own byte, the bytes of
any other character and of the start-of-stream mark are ≥ 0x80), and decoding inverts
encoding on encodable text. -/
structure Codec.Good (c : Codec) : Prop where
  enc_nil : c.enc [] = some []
  enc_cons : ∀ ch s, c.enc (ch :: s) = (c.enc [ch]).bind (fun a => (c.enc s).map (fun b => a ++ b))
  ascii : ∀ ch, ch.toNat < 128 → c.enc [ch] = some [ch]
  high : ∀ ch b, 128 ≤ ch.toNat → c.enc [ch] = some b → ∀ x ∈ b, 128 ≤ x.toNat
  bom_high : ∀ x ∈ c.bom, 128 ≤ x.toNat
  dec_enc : ∀ s b, c.enc s = some b → c.dec b = some s

namespace Codec.Good
variable {c : Codec} (g : c.Good)
include g

theorem enc_append (s t : Str) :
    c.enc (s ++ t) = (c.enc s).bind (fun a => (c.enc t).map (fun b => a ++ b)) := by
  induction s with
  | nil =>
    rw [g.enc_nil, List.nil_append]
    cases c.enc t <;> rfl
  | cons ch s ih =>
    rw [List.cons_append, g.enc_cons, ih, g.enc_cons ch s]
    cases c.enc [ch] with
    | none => rfl
    | some a =>
      cases c.enc s with
      | none => rfl
      | some b =>
        cases c.enc t with
        | none => rfl
        | some d => exact congrArg some (List.append_assoc a b d).symm

theorem enc_append_some {s t : Str} {y : Bytes} (h : c.enc (s ++ t) = some y) :
    ∃ y1 y2, c.enc s = some y1 ∧ c.enc t = some y2 ∧ y = y1 ++ y2 := by
  rw [g.enc_append] at h
  cases h1 : c.enc s with
  | none => simp [h1] at h
  | some y1 =>
    cases h2 : c.enc t with
    | none => simp [h1, h2] at h
    | some y2 =>
      simp [h1, h2] at h
      exact ⟨y1, y2, rfl, rfl, h.symm⟩

theorem enc_append_of {s t : Str} {y1 y2 : Bytes} (h1 : c.enc s = some y1) (h2 : c.enc t = some y2) :
    c.enc (s ++ t) = some (y1 ++ y2) := by
  rw [g.enc_append, h1, h2]; rfl

theorem enc_cons_some {ch : Char} {s : Str} {y : Bytes} (h : c.enc (ch :: s) = some y) :
    ∃ b ys, c.enc [ch] = some b ∧ c.enc s = some ys ∧ y = b ++ ys :=
  g.enc_append_some (s := [ch]) h

theorem enc_ascii (s : Str) (h : IsAscii s) : c.enc s = some s := by
  induction s with
  | nil => exact g.enc_nil
  | cons ch s ih =>
    have h1 := g.ascii ch (h ch (List.mem_cons_self ..))
    have h2 := ih (fun x hx => h x (List.mem_cons_of_mem _ hx))
    have := g.enc_append_of h1 h2
    simpa using this

theorem decode_bom_enc {s : Str} {y : Bytes} (h : c.enc s = some y) : c.decode (c.bom ++ y) = some s := by
  unfold Codec.decode
  rw [startsWith_append, if_pos rfl, List.drop_left]
  exact g.dec_enc s y h

/-- no character has the empty code: the decoder could not tell it from the empty text -/
theorem enc_single_ne_nil {ch : Char} {b : Bytes} (hb : c.enc [ch] = some b) : b ≠ [] := fun hnil => by
  subst hnil
  have h1 := g.dec_enc _ _ hb
  rw [g.dec_enc _ _ g.enc_nil] at h1
  cases h1

end Codec.Good

theorem decodeStream_bom_append (c : Codec) (y : Bytes) : c.decodeStream (c.bom ++ y) = c.decode (c.bom ++ y) := by
  unfold Codec.decodeStream
  have h : decide ((c.bom ++ y).length < c.bom.length) = false := by simp
  rw [h]; rfl

theorem decode_nil (c : Codec) (g : c.Good) : c.decode [] = some [] := by
  unfold Codec.decode
  have : c.dec [] = some [] := g.dec_enc [] [] g.enc_nil
  cases hb : c.bom <;> simp [startsWith, this]

theorem decodeStream_nil (c : Codec) (g : c.Good) : c.decodeStream [] = some [] := by
  unfold Codec.decodeStream
  split
  · rfl
  · exact decode_nil c g

def NoCR (s : Str) : Prop := '\r' ∉ s
def NoLF (s : Str) : Prop := '\n' ∉ s

theorem univNL_cons_ne (c : Char) (s : Str) (h : c ≠ '\r') : univNL (c :: s) = c :: univNL s := by
  cases s with
  | nil => simp [univNL, h]
  | cons d s => simp [univNL, h]

theorem univNL_crlf (s : Str) : univNL ('\r' :: '\n' :: s) = '\n' :: univNL s := by
  simp [univNL]

theorem univNL_cr (s : Str) (h : s.head? ≠ some '\n') : univNL ('\r' :: s) = '\n' :: univNL s := by
  cases s with
  | nil => simp [univNL]
  | cons d s =>
    have hd : d ≠ '\n' := by simpa using h
    simp [univNL, hd]

theorem univNL_of_noCR (s : Str) (h : NoCR s) : univNL s = s := by
  induction s with
  | nil => rfl
  | cons c s ih =>
    have hc : c ≠ '\r' := fun e => h (e ▸ List.mem_cons_self ..)
    rw [univNL_cons_ne _ _ hc, ih (fun hm => h (List.mem_cons_of_mem _ hm))]

theorem lf_eq : lf = ['\n'] := rfl

theorem no_lf_replace_cr (t : Str) : '\n' ∉ replace lf cr t := by
  induction t with
  | nil => simp [replace_nil]
  | cons c t ih =>
    by_cases hc : c = '\n'
    · subst hc
      rw [lf_eq, replace_lf_cons_lf]
      simp only [cr, List.cons_append, List.nil_append, List.mem_cons, not_or]
      exact ⟨by decide, ih⟩
    · rw [lf_eq, replace_lf_cons_ne _ _ _ hc]
      simp only [List.mem_cons, not_or]
      exact ⟨fun e => hc e.symm, ih⟩

theorem isStdEol_cases {eol : Str} (he : isStdEol eol = true) : (eol = crlf ∨ eol = lf) ∨ eol = cr := by
  simpa [isStdEol, Bool.or_eq_true] using he

theorem std_chars {eol : Str} (he : isStdEol eol = true) : eol ≠ [] ∧ ∀ ch ∈ eol, ch = '\r' ∨ ch = '\n' := by
  rcases isStdEol_cases he with (rfl | rfl) | rfl <;> decide

theorem eolDisjoint_std (eol text : Str) (he : isStdEol eol = true) (h : NoCR text) : EolDisjoint eol text :=
  ⟨(std_chars he).1, fun _ hch hn => ((std_chars he).2 _ hch).elim (fun e => e ▸ h) (fun e => absurd e hn)⟩

theorem std_ascii (eol : Str) (he : isStdEol eol = true) : IsAscii eol := fun _ hch =>
  ((std_chars he).2 _ hch).elim (fun e => e ▸ by decide) (fun e => e ▸ by decide)

theorem univNL_replace (eol text : Str) (he : isStdEol eol = true) (h : NoCR text) :
    univNL (replace lf eol text) = text := by
  have he' := isStdEol_cases he
  induction text with
  | nil => rw [replace_nil]; rfl
  | cons c t ih =>
    have iht := ih (fun hm => h (List.mem_cons_of_mem _ hm))
    by_cases hc : c = '\n'
    · subst hc
      rw [lf_eq, replace_lf_cons_lf]
      rcases he' with (rfl | rfl) | rfl
      · exact (univNL_crlf _).trans (congrArg _ iht)
      · exact (univNL_cons_ne _ _ (by decide)).trans (congrArg _ iht)
      · -- a lone `'\r'`: what follows it does not begin with `'\n'`
        refine (univNL_cr _ fun hh => no_lf_replace_cr t ?_).trans (congrArg _ iht)
        exact List.mem_of_mem_head? hh
    · rw [lf_eq, replace_lf_cons_ne _ _ _ hc,
        univNL_cons_ne _ _ (fun e => h (e ▸ List.mem_cons_self ..))]
      exact congrArg _ iht

theorem noCR_append {s t : Str} (hs : NoCR s) (ht : NoCR t) : NoCR (s ++ t) :=
  fun h => (List.mem_append.mp h).elim hs ht

def unlines (ls : List Str) : Str := ls.flatMap (fun l => l ++ lf)

/-- it is the byte-level `unlinesB` (`Model/Files.lean`) with the EOL `'\n'` -/
theorem unlines_eq (ls : List Str) : unlines ls = unlinesB lf ls := rfl

theorem textLines_line (l rest : Str) (h : NoLF l) :
    textLines (l ++ '\n' :: rest) = (l ++ ['\n']) :: textLines rest := by
  induction l with
  | nil => simp [textLines]
  | cons c l ih =>
    have hc : c ≠ '\n' := fun e => h (e ▸ List.mem_cons_self ..)
    have := ih (fun hm => h (List.mem_cons_of_mem _ hm))
    simp only [List.cons_append, textLines, hc, ↓reduceIte, this]

theorem textLines_unlines (ls : List Str) (h : ∀ l ∈ ls, NoLF l) :
    textLines (unlines ls) = ls.map (fun l => l ++ lf) := by
  induction ls with
  | nil => rfl
  | cons l ls ih =>
    have := ih (fun x hx => h x (List.mem_cons_of_mem _ hx))
    unfold unlines at this ⊢
    simp only [List.flatMap_cons, List.map_cons, lf, List.append_assoc, List.cons_append, List.nil_append]
    rw [textLines_line _ _ (h l (List.mem_cons_self ..))]
    simp only [lf] at this
    rw [this]

theorem rstrip_line (l : Str) (h1 : NoCR l) (h2 : NoLF l) : rstrip crlf (l ++ lf) = l := by
  apply rstrip_append_of_all
  · intro ch hch; simp [lf] at hch; subst hch; decide
  · intro ch hch
    have hm : ch ∈ l := List.mem_of_getLast? hch
    have a : ch ≠ '\r' := fun e => h1 (e ▸ hm)
    have b : ch ≠ '\n' := fun e => h2 (e ▸ hm)
    simp [crlf, a, b]

theorem noCR_unlines (ls : List Str) (h : ∀ l ∈ ls, NoCR l) : NoCR (unlines ls) := by
  unfold NoCR unlines
  simp only [List.mem_flatMap, not_exists, not_and]
  intro l hl hm
  simp only [lf, List.mem_append, List.mem_singleton] at hm
  rcases hm with hm | hm
  · exact h l hl hm
  · exact absurd hm (by decide)

def mWT : Str := ['w', 't']
def mWB : Str := ['w', 'b']
def mAT : Str := ['a', 't']
def mAB : Str := ['a', 'b']

theorem parse_wt : parseMode ['w', 't'] = .ok ⟨.w, false, false⟩ := by decide +kernel
theorem parse_wb : parseMode ['w', 'b'] = .ok ⟨.w, false, true⟩ := by decide +kernel
theorem parse_at : parseMode ['a', 't'] = .ok ⟨.a, false, false⟩ := by decide +kernel
theorem parse_ab : parseMode ['a', 'b'] = .ok ⟨.a, false, true⟩ := by decide +kernel
theorem parse_rt : parseMode ['r', 't'] = .ok ⟨.r, false, false⟩ := by decide +kernel
theorem parse_rb : parseMode ['r', 'b'] = .ok ⟨.r, false, true⟩ := by decide +kernel

/-- the save modes the property quantifies over -/
def SaveMode (m : Str) : Prop :=
  m = ['t'] ∨ m = ['b'] ∨ m = ['w', 't'] ∨ m = ['w', 'b'] ∨ m = ['a', 't']

def startContent (fs : FS) (p m : Str) : Bytes := if m = ['a', 't'] then (fs p).getD [] else []

/-- the payload goes through Python's text layer: text mode and a standard EOL -/
def textLayer (m eol : Str) : Bool := (m == ['t'] || m == ['w', 't'] || m == ['a', 't']) && isStdEol eol

/-- the start-of-stream mark `save_file` puts in front of an encoded text payload: it is omitted
when the data is appended to a non-empty file — by Python's text layer, and (fix `C15-a`) by the
manual path as well -/
def mark (c : Codec) (fs : FS) (p m : Str) : Bytes :=
  if (startContent fs p m).isEmpty then c.bom else []

theorem FS.write_same (fs : FS) (p : Str) (b : Bytes) : (fs.write p b) p = some b := if_pos rfl

theorem FS.write_other (fs : FS) {p q : Str} (b : Bytes) (h : q ≠ p) : (fs.write p b) q = fs q := if_neg h

def Fresh (fs : FS) (p m : Str) : Prop := m = ['a', 't'] → fs p = none

theorem startContent_fresh {fs : FS} {p m : Str} (h : Fresh fs p m) : startContent fs p m = [] := by
  unfold startContent
  split
  · rename_i hm; rw [h hm]; rfl
  · rfl

theorem mark_fresh (c : Codec) {fs : FS} {p m : Str} (h : Fresh fs p m) : mark c fs p m = c.bom := by
  rw [mark, startContent_fresh h]
  rfl

theorem startContent_at {fs : FS} {p : Str} {old : Bytes} (h : fs p = some old) (hne : old ≠ []) (c : Codec) :
    startContent fs p ['a', 't'] = old ∧ mark c fs p ['a', 't'] = [] := by
  have hs : startContent fs p ['a', 't'] = old := by
    rw [startContent, if_pos rfl, h]
    rfl
  refine ⟨hs, ?_⟩
  rw [mark, hs]
  cases old with
  | nil => exact absurd rfl hne
  | cons _ _ => rfl

/-! Under the five modes the mode string decides two things only: whether the existing content is
kept (`at`) and whether the payload goes through Python's text layer.  `handleMode` is the mode of
the handle `save_file` then opens. -/

def handleMode (m : Str) (bin : Bool) : Str := [if m = ['a', 't'] then 'a' else 'w', if bin then 'b' else 't']

theorem normMode_save {m : Str} (hm : SaveMode m) (b : Bool) :
    normMode m b = .ok (handleMode m (b || m.contains 'b')) := by
  rcases hm with rfl | rfl | rfl | rfl | rfl <;> cases b <;> rfl

theorem textLayer_eq {m : Str} (hm : SaveMode m) (eol : Str) :
    textLayer m eol = (!m.contains 'b' && isStdEol eol) := by
  rcases hm with rfl | rfl | rfl | rfl | rfl <;> rfl

theorem handleMode_contains (m : Str) (bin : Bool) : (handleMode m bin).contains 'b' = bin := by
  unfold handleMode
  split <;> cases bin <;> rfl

theorem setB_handleMode (m : Str) (bin : Bool) : setB (handleMode m bin) = .ok (handleMode m true) := rfl

theorem parse_handleMode (m : Str) (bin : Bool) :
    parseMode (handleMode m bin) = .ok ⟨if m = ['a', 't'] then .a else .w, false, bin⟩ := by
  unfold handleMode
  split <;> cases bin
  · exact parse_at
  · exact parse_ab
  · exact parse_wt
  · exact parse_wb

theorem open_handleMode (fs : FS) (p m : Str) (bin : Bool) :
    parseMode (handleMode m bin) >>= openOut fs p = .ok (startContent fs p m) := by
  rw [parse_handleMode, startContent]
  split <;> rfl

/-- a bytes payload, binary mode or a non-standard EOL: the manual path -/
theorem saveFile_manual (c : Codec) (fs : FS) (p : Str) (buf : Payload) (m eol tag : Str) (hm : SaveMode m)
    (h : (buf.isBytes || !textLayer m eol) = true) :
    saveFile c fs p buf m eol tag
      = saveBinary c fs p (toBuf tag buf) (handleMode m (buf.isBytes || m.contains 'b')) eol := by
  have hb : ∀ b mb std : Bool, (b || !(!mb && std)) = true → ((b || mb) || !std) = true := by decide
  rw [textLayer_eq hm] at h
  unfold saveFile
  rw [normMode_save hm]
  dsimp only
  rw [handleMode_contains, if_pos (hb _ _ _ h)]

/-- otherwise Python's text layer -/
theorem saveFile_textLayer (c : Codec) (fs : FS) (p : Str) (buf : Payload) (m eol tag : Str) (hm : SaveMode m)
    (hbuf : buf.isBytes = false) (h : textLayer m eol = true) :
    saveFile c fs p buf m eol tag = saveText c fs p (toBuf tag buf) (handleMode m false) eol := by
  have hb : ∀ mb std : Bool, (!mb && std) = true → mb = false ∧ ((false || mb) || !std) = false := by decide
  rw [textLayer_eq hm] at h
  unfold saveFile
  rw [normMode_save hm, hbuf]
  dsimp only
  rw [handleMode_contains, (hb _ _ h).2, if_neg Bool.false_ne_true, Bool.false_or, (hb _ _ h).1]

theorem saveText_s (c : Codec) (fs : FS) (p x m eol : Str) (y : Bytes)
    (henc : c.enc (replace lf eol x) = some y) :
    saveText c fs p (.s x) (handleMode m false) eol
      = (fs.write p (startContent fs p m ++ mark c fs p m ++ y), .ok ()) := by
  simp only [saveText, open_handleMode, writeAll, Out.write, henc, finish, mark]

theorem saveBinary_s (c : Codec) (fs : FS) (p x m eol : Str) (bin : Bool) (y e : Bytes)
    (henc : c.enc (replace lf eol x) = some y) (heol : c.enc eol = some e) :
    saveBinary c fs p (.s x) (handleMode m bin) eol
      = (fs.write p (startContent fs p m ++ mark c fs p m ++ y), .ok ()) := by
  simp only [saveBinary, setB_handleMode, open_handleMode, henc, Option.map_some, Buf.isBytes, heol, writeAll,
    Out.write, finish, mark, Bool.not_false, Bool.true_and, Bool.false_eq_true, ↓reduceIte]

theorem saveBinary_b (c : Codec) (fs : FS) (p m eol : Str) (bin : Bool) (b e : Bytes) (heol : c.enc eol = some e) :
    saveBinary c fs p (.b b) (handleMode m bin) eol = (fs.write p (startContent fs p m ++ b), .ok ()) := by
  simp only [saveBinary, setB_handleMode, open_handleMode, Buf.isBytes, Codec.encode, heol, Option.map_some,
    writeAll, Out.write, finish, Bool.not_true, Bool.false_and, Bool.false_eq_true, ↓reduceIte,
    List.append_nil]

theorem saveFile_str (c : Codec) (fs : FS) (p x m eol tag : Str) (y e : Bytes) (hm : SaveMode m)
    (henc : c.enc (replace lf eol x) = some y) (heol : c.enc eol = some e) :
    saveFile c fs p (.str x) m eol tag
      = (fs.write p (startContent fs p m ++ mark c fs p m ++ y), .ok ()) := by
  cases ht : textLayer m eol with
  | true =>
    rw [saveFile_textLayer c fs p _ m eol tag hm rfl ht]
    exact saveText_s c fs p x m eol y henc
  | false =>
    rw [saveFile_manual c fs p _ m eol tag hm (by rw [ht]; rfl)]
    exact saveBinary_s c fs p x m eol _ y e henc heol

theorem saveFile_str_fresh (c : Codec) (fs : FS) (p x m eol tag : Str) (y e : Bytes) (hm : SaveMode m)
    (hf : Fresh fs p m) (henc : c.enc (replace lf eol x) = some y) (heol : c.enc eol = some e) :
    (saveFile c fs p (.str x) m eol tag).1 p = some (c.bom ++ y) := by
  rw [saveFile_str c fs p x m eol tag y e hm henc heol, startContent_fresh hf, mark_fresh c hf]
  exact FS.write_same _ _ _

/-- `at` on a file that holds the mark and some encoded text: the new text is added behind it, one
stream.  (The call finds content and writes no mark — or finds none, and then the file held nothing,
not even a mark.) -/
theorem saveFile_str_at_encoded (c : Codec) (fs : FS) (p s eol tag : Str) (y0 y e : Bytes)
    (hdisk : fs p = some (c.bom ++ y0)) (heol : c.enc eol = some e) (henc : c.enc (replace lf eol s) = some y) :
    (saveFile c fs p (.str s) ['a', 't'] eol tag).1 p = some (c.bom ++ (y0 ++ y)) := by
  have hx : ∀ b y : Bytes, (b ++ y) ++ (if (b ++ y).isEmpty then b else []) = b ++ y := by
    intro b y
    cases b <;> cases y <;> simp
  have hs : startContent fs p ['a', 't'] = c.bom ++ y0 := by
    rw [startContent, if_pos rfl, hdisk]
    rfl
  rw [saveFile_str c fs p s ['a', 't'] eol tag y e (Or.inr (Or.inr (Or.inr (Or.inr rfl)))) henc heol, mark, hs, hx,
    List.append_assoc]
  exact if_pos rfl

theorem saveFile_str_append (c : Codec) (g : c.Good) (fs : FS) (p s1 s2 m eol tag : Str) (y1 y2 e : Bytes)
    (hm : SaveMode m) (hf : Fresh fs p m) (heol : c.enc eol = some e)
    (e1 : c.enc (replace lf eol s1) = some y1) (e2 : c.enc (replace lf eol s2) = some y2) :
    c.enc (replace lf eol (s1 ++ s2)) = some (y1 ++ y2)
    ∧ (saveFile c (saveFile c fs p (.str s1) m eol tag).1 p (.str s2) ['a', 't'] eol tag).1 p
        = some (c.bom ++ (y1 ++ y2)) := by
  constructor
  · rw [lf_eq, replace_lf_append]
    exact g.enc_append_of e1 e2
  · exact saveFile_str_at_encoded c _ p s2 eol tag y1 y2 e (saveFile_str_fresh c fs p s1 m eol tag y1 e hm hf e1 heol)
      heol e2

theorem saveFile_bytes (c : Codec) (fs : FS) (p : Str) (b : Bytes) (m eol tag : Str) (e : Bytes) (hm : SaveMode m)
    (heol : c.enc eol = some e) :
    saveFile c fs p (.bytes b) m eol tag = (fs.write p (startContent fs p m ++ b), .ok ()) := by
  rw [saveFile_manual c fs p _ m eol tag hm rfl]
  exact saveBinary_b c fs p m eol _ b e heol

/-- a `dict` is saved as the text `key=value` lines joined by `'\n'` -/
theorem saveFile_dict (c : Codec) (fs : FS) (p : Str) (kvs : List (Str × Str)) (m eol tag : Str) :
    saveFile c fs p (.dict kvs) m eol tag
      = saveFile c fs p (.str (join lf (kvs.map (fun kv => kv.1 ++ tag ++ kv.2)))) m eol tag := rfl

theorem replace_lf_self (eol : Str) : replace lf eol lf = eol := by
  rw [lf_eq, replace_lf_cons_lf, replace_nil]; simp

theorem replace_lf_noLF (eol l : Str) (h : NoLF l) : replace lf eol l = l :=
  replace_of_not_mem '\n' [] eol l h

theorem replace_unlines_cons (eol l : Str) (ls : List Str) :
    replace lf eol (unlines (l :: ls)) = replace lf eol l ++ (replace lf eol lf ++ replace lf eol (unlines ls)) := by
  have : unlines (l :: ls) = l ++ (lf ++ unlines ls) := by simp [unlines]
  rw [this, lf_eq, replace_lf_append, replace_lf_append]

/-- the `for line in output_buffer` loop through the text layer -/
theorem writeLines_text (c : Codec) (g : c.Good) (eol : Str) (ls : List Str) :
    ∀ (content : Bytes) (fresh : Bool) (y : Bytes), c.enc (replace lf eol (unlines ls)) = some y →
    writeLines c false (.s lf) { content := content, binary := false, fresh := fresh, nl := eol } (ls.map Line.str)
      = ({ content := content ++ (if fresh && !ls.isEmpty then c.bom else []) ++ y, binary := false,
           fresh := fresh && ls.isEmpty, nl := eol }, .ok ()) := by
  induction ls with
  | nil =>
    intro content fresh y h
    rw [show replace lf eol (unlines []) = [] from replace_nil _ _, g.enc_nil] at h
    cases h
    simp [writeLines]
  | cons l ls ih =>
    intro content fresh y h
    rw [replace_unlines_cons] at h
    obtain ⟨y1, y23, h1, h23, rfl⟩ := g.enc_append_some h
    obtain ⟨y2, y3, h2, h3, rfl⟩ := g.enc_append_some h23
    simp only [List.map_cons, writeLines, convLine, Bool.false_eq_true, ↓reduceIte, Out.write, h1, h2]
    rw [ih _ false y3 h3]
    simp

theorem saveText_ls (c : Codec) (fs : FS) (p : Str) (xs : List Line) (m eol : Str) :
    saveText c fs p (.ls xs) (handleMode m false) eol
      = finish fs p (writeLines c false (.s lf)
          { content := startContent fs p m, binary := false, fresh := (startContent fs p m).isEmpty, nl := eol } xs) := by
  simp only [saveText, open_handleMode, writeAll, handleMode_contains]

theorem saveBinary_ls (c : Codec) (fs : FS) (p : Str) (xs : List Line) (m eol : Str) (bin : Bool) (e : Bytes)
    (heol : c.enc eol = some e) :
    saveBinary c fs p (.ls xs) (handleMode m bin) eol
      = finish fs p (writeLines c true (.b e)
          { content := startContent fs p m, binary := true, fresh := (startContent fs p m).isEmpty, nl := [] } xs) := by
  simp only [saveBinary, setB_handleMode, open_handleMode, Buf.isBytes, heol, writeAll, handleMode_contains,
    Bool.not_false, Bool.true_and, Bool.false_eq_true, ↓reduceIte]

def TextMode (m : Str) : Prop := m = ['t'] ∨ m = ['w', 't'] ∨ m = ['a', 't']

/-- `textLayer` is `TextMode` with a standard EOL -/
theorem textLayer_iff (m eol : Str) : textLayer m eol = true ↔ TextMode m ∧ isStdEol eol = true := by
  simp [textLayer, TextMode, or_assoc]

theorem TextMode.saveMode {m : Str} (hm : TextMode m) : SaveMode m :=
  hm.elim Or.inl (fun h => Or.inr (Or.inr (h.elim Or.inl (fun h => Or.inr (Or.inr h)))))

theorem unlinesB_cons (e l : Bytes) (ls : List Bytes) : unlinesB e (l :: ls) = l ++ e ++ unlinesB e ls :=
  List.flatMap_cons

theorem unlinesB_markFirst (bom e : Bytes) (ls : List Bytes) :
    unlinesB e (markFirst bom ls) = (if ls.isEmpty then [] else bom) ++ unlinesB e ls := by
  cases ls <;> simp [markFirst, unlinesB]

/-- `ys` are the byte forms of the lines `xs` on the binary handle (`bytes` as they are, `str` and
other objects encoded) -/
def LinesConv (c : Codec) : List Line → List Bytes → Prop
  | [], [] => True
  | x :: xs, y :: ys => convLine c true x = .ok (.b y) ∧ LinesConv c xs ys
  | _, _ => False

theorem linesConv_bytes (c : Codec) (ls : List Bytes) : LinesConv c (ls.map Line.bytes) ls := by
  induction ls with
  | nil => trivial
  | cons l ls ih => exact ⟨by simp [convLine], ih⟩

theorem linesConv_str (c : Codec) (ls : List Str) (f : Str → Bytes)
    (h : ∀ l ∈ ls, c.enc l = some (f l)) : LinesConv c (ls.map Line.str) (ls.map f) := by
  induction ls with
  | nil => trivial
  | cons l ls ih =>
    exact ⟨by simp [convLine, h l (List.mem_cons_self ..)], ih (fun x hx => h x (List.mem_cons_of_mem _ hx))⟩

/-- the `for line in output_buffer` loop on the binary handle -/
theorem writeLines_manual (c : Codec) (e : Bytes) (xs : List Line) (ys : List Bytes) (h : LinesConv c xs ys) :
    ∀ (content : Bytes) (fresh : Bool) (nl : Str),
    writeLines c true (.b e) { content := content, binary := true, fresh := fresh, nl := nl } xs
      = ({ content := content ++ (if fresh && !ys.isEmpty then c.bom else []) ++ unlinesB e ys, binary := true,
           fresh := fresh && ys.isEmpty, nl := nl }, .ok ()) := by
  induction xs generalizing ys with
  | nil =>
    cases ys with
    | nil => intro content fresh nl; simp [writeLines, unlinesB]
    | cons y ys => exact h.elim
  | cons x xs ih =>
    cases ys with
    | nil => exact h.elim
    | cons y ys =>
      intro content fresh nl
      obtain ⟨h1, h2⟩ := h
      simp only [writeLines, h1, Out.write]
      rw [ih ys h2 _ false nl]
      simp [unlinesB]

/-- the mark in front of a list of lines, as the write loop leaves it and as the statements say it -/
theorem mark_lines (c : Codec) (fs : FS) (p m : Str) (empty : Bool) :
    (if (startContent fs p m).isEmpty && !empty then c.bom else []) = if empty then [] else mark c fs p m := by
  rw [mark]
  cases (startContent fs p m).isEmpty <;> cases empty <;> rfl

theorem saveFile_lines_manual (c : Codec) (fs : FS) (p : Str) (xs : List Line) (ys : List Bytes)
    (m eol tag : Str) (e : Bytes) (hm : SaveMode m) (hpath : textLayer m eol = false)
    (hc : LinesConv c xs ys) (heol : c.enc eol = some e) :
    saveFile c fs p (.lines xs) m eol tag
      = (fs.write p (startContent fs p m ++ (if ys.isEmpty then [] else mark c fs p m) ++ unlinesB e ys), .ok ()) := by
  rw [saveFile_manual c fs p _ m eol tag hm (by rw [hpath]; rfl), toBuf, saveBinary_ls c fs p _ m eol _ e heol,
    writeLines_manual c e xs ys hc, mark_lines]
  rfl

/-- from the whole to the lines: if the text of the lines is encodable so is every line, and the codes of the lines, each
followed by the code of the EOL, are the code of the text (what the manual path writes) -/
theorem linesConv_of_enc_unlines (c : Codec) (g : c.Good) (eol : Str) (e : Bytes) (heol : c.enc eol = some e)
    (ls : List Str) (hl : ∀ l ∈ ls, NoLF l) :
    ∀ y, c.enc (replace lf eol (unlines ls)) = some y →
      ∃ ys, LinesConv c (ls.map Line.str) ys ∧ ys.isEmpty = ls.isEmpty ∧ unlinesB e ys = y := by
  induction ls with
  | nil =>
    intro y h
    rw [show replace lf eol (unlines []) = [] from replace_nil _ _, g.enc_nil] at h
    cases h
    exact ⟨[], trivial, rfl, rfl⟩
  | cons l ls ih =>
    intro y h
    rw [replace_unlines_cons, replace_lf_self, replace_lf_noLF _ _ (hl l (List.mem_cons_self ..))] at h
    obtain ⟨y1, y23, h1, h23, rfl⟩ := g.enc_append_some h
    obtain ⟨y2, y3, h2, h3, rfl⟩ := g.enc_append_some h23
    cases heol.symm.trans h2
    obtain ⟨ys, hc, _, rfl⟩ := ih (fun x hx => hl x (List.mem_cons_of_mem _ hx)) y3 h3
    exact ⟨y1 :: ys, ⟨by simp only [convLine, h1, ↓reduceIte], hc⟩, rfl, by rw [unlinesB_cons, List.append_assoc]⟩

theorem saveFile_lines_str (c : Codec) (g : c.Good) (fs : FS) (p : Str) (ls : List Str)
    (m eol tag : Str) (y e : Bytes) (hm : SaveMode m) (hl : ∀ l ∈ ls, NoLF l) (heol : c.enc eol = some e)
    (henc : c.enc (replace lf eol (unlines ls)) = some y) :
    saveFile c fs p (.lines (ls.map Line.str)) m eol tag
      = (fs.write p (startContent fs p m ++ (if ls.isEmpty then [] else mark c fs p m) ++ y), .ok ()) := by
  cases ht : textLayer m eol with
  | true =>
    rw [saveFile_textLayer c fs p _ m eol tag hm rfl ht, toBuf, saveText_ls, writeLines_text c g eol ls _ _ y henc,
      mark_lines]
    rfl
  | false =>
    obtain ⟨ys, hc, hem, rfl⟩ := linesConv_of_enc_unlines c g eol e heol ls hl y henc
    rw [saveFile_lines_manual c fs p _ ys m eol tag e hm ht hc heol, hem]

theorem openIn_rt (fs : FS) (p : Str) (data : Bytes) (h : fs p = some data) : openIn fs p ['r', 't'] = .ok data := by
  simp [openIn, parse_rt, bind, Except.bind, h]

theorem openIn_rb (fs : FS) (p : Str) (data : Bytes) (h : fs p = some data) : openIn fs p ['r', 'b'] = .ok data := by
  simp [openIn, parse_rb, bind, Except.bind, h]

theorem loadFile_text (c : Codec) (fs : FS) (p eol : Str) (data : Bytes) (s : Str) (hstd : isStdEol eol = true)
    (h : fs p = some data) (hd : c.decodeStream data = some s) :
    loadFile c fs p ['t'] eol = .ok (.str (univNL s)) := by
  unfold loadFile
  rw [show (['t'] : Str).contains 'b' = false by decide]
  simp [hstd, rdT, openIn_rt fs p data h, bind, Except.bind, hd]

theorem loadFile_custom (c : Codec) (fs : FS) (p eol : Str) (data : Bytes) (s : Str) (hstd : isStdEol eol = false)
    (e : Bytes) (heol : c.enc eol = some e)
    (hne : eol ≠ []) (h : fs p = some data) (hd : c.decode (replace e lf data) = some s) :
    loadFile c fs p ['t'] eol = .ok (.str s) := by
  unfold loadFile
  rw [show (['t'] : Str).contains 'b' = false by decide]
  simp [hstd, rdB, openIn_rb fs p data h, bind, Except.bind, hd, hne, heol]

theorem loadFile_b (c : Codec) (fs : FS) (p eol : Str) (data : Bytes) (h : fs p = some data) :
    loadFile c fs p ['b'] eol = .ok (.bytes data) := by
  unfold loadFile
  rw [show (['b'] : Str).contains 'b' = true by decide]
  simp [rdB, openIn_rb fs p data h, bind, Except.bind]

/-- any read mode without `'b'` (`'t'`, `'r'`, `'rt'` …) and a standard EOL: the text layer -/
theorem loadLines_text (c : Codec) (fs : FS) (p rm eol : Str) (data : Bytes) (s : Str) (hrm : rm.contains 'b' = false)
    (hstd : isStdEol eol = true) (h : fs p = some data) (hd : c.decodeStream data = some s) :
    loadLines c fs p rm eol = .ok ((textLines (univNL s)).map (fun l => Loaded.str (rstrip crlf l))) := by
  unfold loadLines
  rw [hrm]
  simp [hstd, rdT, openIn_rt fs p data h, bind, Except.bind, hd]

theorem lineOk_iff (e l : Bytes) :
    lineOk e l = true ↔ ∀ k, k < l.length → ¬ e <+: (l ++ e).drop k := by
  induction l with
  | nil => simp [lineOk]
  | cons c l ih =>
    simp only [lineOk, Bool.and_eq_true, Bool.not_eq_true', ih]
    constructor
    · rintro ⟨h0, h⟩ k hk
      cases k with
      | zero =>
        intro hp
        have := (startsWith_iff _ _).mpr hp
        simp only [List.drop_zero] at this
        rw [this] at h0; cases h0
      | succ k => exact h k (by simpa using hk)
    · intro h
      refine ⟨?_, fun k hk => h (k + 1) (by simpa using hk)⟩
      cases hsw : startsWith (c :: l ++ e) e with
      | false => rfl
      | true => exact absurd ((startsWith_iff _ _).mp hsw) (h 0 (by simp))

theorem lineOk_skip (hd : Char) (tl bs r : Bytes) (h : hd ∉ bs) :
    lineOk (hd :: tl) (bs ++ r) = lineOk (hd :: tl) r := by
  induction bs with
  | nil => rfl
  | cons c bs ih =>
    have hc : c ≠ hd := fun e => h (e ▸ List.mem_cons_self ..)
    simp only [List.cons_append, lineOk, startsWith_cons_ne c hd _ _ hc, Bool.not_false, Bool.true_and]
    exact ih (fun hm => h (List.mem_cons_of_mem _ hm))

theorem lineOk_of_head (hd : Char) (tl l : Bytes) (h : hd ∉ l) : lineOk (hd :: tl) l = true := by
  rw [← List.append_nil l, lineOk_skip hd tl l [] h]
  rfl

theorem files2_lineOk_single (b : Char) (l : Bytes) : lineOk [b] l = true ↔ b ∉ l := by
  induction l with
  | nil => simp [lineOk]
  | cons c l ih =>
    simp only [lineOk, List.cons_append, startsWith, Bool.and_eq_true, Bool.not_eq_true', ih, List.mem_cons, not_or]
    constructor
    · rintro ⟨h1, h2⟩
      refine ⟨fun e => ?_, h2⟩
      subst e
      cases l <;> simp at h1
    · rintro ⟨h1, h2⟩
      refine ⟨?_, h2⟩
      have : (c == b) = false := by simpa using fun e : c = b => h1 e.symm
      simp [this]

theorem split_line (e : Bytes) (he : e ≠ []) (l rest : Bytes) (h : lineOk e l = true) :
    split e (l ++ e ++ rest) = l :: split e rest := by
  induction l with
  | nil => simp [split_sep_append e he rest]
  | cons c l ih =>
    simp only [lineOk, Bool.and_eq_true, Bool.not_eq_true'] at h
    have hsw : startsWith (c :: (l ++ e ++ rest)) e = false := by
      have := startsWith_append_left (c :: l ++ e) rest e (List.length_append ▸ Nat.le_add_left _ _)
      simp only [List.cons_append, List.append_assoc] at this ⊢
      rw [this]; simpa using h.1
    simp only [List.cons_append]
    rw [split_nomatch e c _ hsw, ih h.2]
    rfl

theorem split_unlines (e : Bytes) (he : e ≠ []) (ls : List Bytes) (h : ∀ l ∈ ls, lineOk e l = true) :
    split e (unlinesB e ls) = ls ++ [[]] := by
  induction ls with
  | nil => simp [unlinesB, split_nil]
  | cons l ls ih =>
    rw [unlinesB_cons, split_line e he l (unlinesB e ls) (h l (List.mem_cons_self ..)),
      ih (fun x hx => h x (List.mem_cons_of_mem _ hx))]
    rfl

theorem dropLastEmpty_snoc (ls : List Bytes) : dropLastEmpty (ls ++ [[]]) = ls := by
  induction ls with
  | nil => rfl
  | cons l ls ih =>
    cases ls with
    | nil => rfl
    | cons l2 ls => simp only [List.cons_append, dropLastEmpty] at ih ⊢; rw [ih]

theorem files2_dropLastEmpty_snoc_ne (ls : List Bytes) (x : Bytes) (hx : x ≠ []) :
    dropLastEmpty (ls ++ [x]) = ls ++ [x] := by
  induction ls with
  | nil => cases x <;> simp_all [dropLastEmpty]
  | cons l ls ih =>
    cases ls with
    | nil => cases x <;> simp_all [dropLastEmpty]
    | cons l2 ls => simp only [List.cons_append, dropLastEmpty] at ih ⊢; rw [ih]

theorem lineOk_of_split_head (e : Bytes) (he : e ≠ []) (l rest : Bytes) (ps : List Bytes)
    (h : split e (l ++ e ++ rest) = l :: ps) : lineOk e l = true := by
  induction l generalizing ps with
  | nil => rfl
  | cons c l ih =>
    have hpre := startsWith_append_left (c :: l ++ e) rest e (List.length_append ▸ Nat.le_add_left _ _)
    simp only [List.cons_append, List.append_assoc] at hpre h
    cases hsw : startsWith (c :: (l ++ (e ++ rest))) e with
    | true =>
      rw [split_match e he c _ hsw] at h
      cases h
    | false =>
      rw [split_nomatch e c _ hsw] at h
      cases hsp : split e (l ++ (e ++ rest)) with
      | nil => exact absurd hsp (split_ne_nil _ _)
      | cons x xs =>
        rw [hsp] at h
        simp only [consHead, List.cons_append, List.nil_append, List.cons.injEq] at h
        obtain ⟨⟨_, hx⟩, _⟩ := h
        subst hx
        have := ih xs (by simpa using hsp)
        rw [hsw] at hpre
        simp only [lineOk, List.cons_append, ← hpre, Bool.not_false, Bool.true_and]
        exact this

theorem split_unlines_conv (e : Bytes) (he : e ≠ []) (ls : List Bytes) (t : List Bytes)
    (h : split e (unlinesB e ls) = ls ++ t) : (∀ l ∈ ls, lineOk e l = true) ∧ t = [[]] := by
  induction ls with
  | nil =>
    simp only [unlinesB, List.flatMap_nil, split_nil, List.nil_append] at h
    exact ⟨by simp, h.symm⟩
  | cons l ls ih =>
    rw [unlinesB_cons, List.cons_append] at h
    have hok := lineOk_of_split_head e he l _ _ h
    rw [split_line e he l _ hok] at h
    obtain ⟨h1, h2⟩ := ih (List.cons.inj h).2
    refine ⟨?_, h2⟩
    intro x hx
    rcases List.mem_cons.mp hx with rfl | hx
    · exact hok
    · exact h1 x hx

theorem dropLastEmpty_eq (xs ls : List Bytes) (hx : xs ≠ []) (h : dropLastEmpty xs = ls) :
    xs = ls ++ [[]] ∨ xs = ls := by
  induction xs generalizing ls with
  | nil => exact absurd rfl hx
  | cons x xs ih =>
    cases xs with
    | nil =>
      cases x with
      | nil => left; simp [dropLastEmpty] at h; simp [← h]
      | cons a x => right; simp [dropLastEmpty] at h; exact h
    | cons y xs =>
      simp only [dropLastEmpty] at h
      cases ls with
      | nil => cases h
      | cons l ls =>
        obtain ⟨rfl, h'⟩ := List.cons.inj h
        rcases ih ls (by simp) h' with h2 | h2
        · left; rw [h2]; rfl
        · right; rw [h2]

theorem dropLastEmpty_split_iff (e : Bytes) (he : e ≠ []) (ls : List Bytes) :
    dropLastEmpty (split e (unlinesB e ls)) = ls ↔ ∀ l ∈ ls, lineOk e l = true := by
  constructor
  · intro h
    rcases dropLastEmpty_eq _ _ (split_ne_nil _ _) h with h2 | h2
    · exact (split_unlines_conv e he ls [[]] h2).1
    · exact (split_unlines_conv e he ls [] (by simpa using h2)).1
  · intro h
    rw [split_unlines e he ls h, dropLastEmpty_snoc]

theorem loadLines_split (c : Codec) (fs : FS) (p rm eol : Str) (data e : Bytes)
    (hrm : (rm.contains 'b' || !isStdEol eol) = true) (heol : c.enc eol = some e) (he : e ≠ [])
    (h : fs p = some data) :
    loadLines c fs p rm eol = .ok ((dropLastEmpty (split e data)).map Loaded.bytes) := by
  unfold loadLines
  have he' : e.isEmpty = false := List.isEmpty_eq_false_iff.2 he
  rw [if_pos hrm]
  simp [heol, loadFile_b c fs p lf data h, bind, Except.bind, he']

theorem loadLines_unlinesB_iff (c : Codec) (fs : FS) (p rm eol : Str) (e : Bytes) (ls : List Bytes)
    (hrm : (rm.contains 'b' || !isStdEol eol) = true) (heol : c.enc eol = some e) (hne : e ≠ [])
    (hdisk : fs p = some (unlinesB e ls)) :
    loadLines c fs p rm eol = .ok (ls.map Loaded.bytes) ↔ ∀ l ∈ ls, lineOk e l = true := by
  rw [loadLines_split c fs p rm eol _ e hrm heol hne hdisk, ← dropLastEmpty_split_iff e hne ls]
  exact ⟨fun h => (List.map_inj_right (fun _ _ => Loaded.bytes.inj)).mp (Except.ok.inj h), fun h => by rw [h]⟩

/-- The codes of the characters in `E` are cut out of encoded text at character boundaries only.  A `Good` codec has this
for the ASCII characters (`Good.syncOn_ascii`), a self-synchronising one for all (`Sync.syncOn`); it makes a byte-level
search for an encoded string of `E`-characters find exactly the character-level occurrences (`startsWith_enc`,
`replace_enc`, `lineOk_enc`). -/
structure Codec.SyncOn (c : Codec) (E : Char → Prop) : Prop where
  /-- the first byte of an `E`-code is not a later byte of any code -/
  tail_free : ∀ ce be ch h t, E ce → c.enc [ce] = some be → c.enc [ch] = some (h :: t) → ∀ x ∈ t, be.head? ≠ some x
  /-- an `E`-code comparable with another code is that code -/
  prefix_free : ∀ ce be ch b, E ce → c.enc [ce] = some be → c.enc [ch] = some b → (be <+: b ∨ b <+: be) → ch = ce

theorem Codec.Good.ascii_mem {c : Codec} (g : c.Good) {ch x : Char} {b : Bytes} (hb : c.enc [ch] = some b)
    (hx : x ∈ b) (hx7 : x.toNat < 128) : b = [x] ∧ ch = x := by
  by_cases hch : ch.toNat < 128
  · rw [g.ascii ch hch] at hb
    cases hb
    cases List.mem_singleton.mp hx
    exact ⟨rfl, rfl⟩
  · exact absurd hx7 (Nat.not_lt.mpr (g.high ch b (Nat.not_lt.mp hch) hb x hx))

theorem Codec.Good.syncOn_ascii {c : Codec} (g : c.Good) : c.SyncOn (fun ch => ch.toNat < 128) where
  tail_free := fun ce be ch h t hE hbe hb x hx hhd => by
    rw [g.ascii ce hE] at hbe
    cases hbe
    cases hhd
    cases (g.ascii_mem hb (List.mem_cons_of_mem _ hx) hE).1
    cases hx
  prefix_free := fun ce be ch b hE hbe hb hp => by
    rw [g.ascii ce hE] at hbe
    cases hbe
    have hmem : ce ∈ b := by
      rcases hp with ⟨r, rfl⟩ | hp
      · exact List.mem_cons_self ..
      · obtain ⟨h, t, rfl⟩ := List.exists_cons_of_ne_nil (g.enc_single_ne_nil hb)
        obtain ⟨r, hr⟩ := hp
        rw [List.cons_append] at hr
        rw [← (List.cons.inj hr).1]
        exact List.mem_cons_self ..
    exact (g.ascii_mem hb hmem hE).2

section SyncOn
variable {c : Codec} {E : Char → Prop}

theorem startsWith_enc (g : c.Good) (sy : c.SyncOn E) (e : Str) (hE : ∀ ch ∈ e, E ch) :
    ∀ (s : Str) (ys ye : Bytes), c.enc s = some ys → c.enc e = some ye → startsWith ys ye = startsWith s e := by
  induction e with
  | nil =>
    intro s ys ye _ he
    rw [g.enc_nil] at he; cases he
    simp [startsWith_nil]
  | cons ce e ih =>
    intro s ys ye hs he
    obtain ⟨be, ye', hbe, hye', rfl⟩ := g.enc_cons_some he
    obtain ⟨h0, t0, rfl⟩ := List.exists_cons_of_ne_nil (g.enc_single_ne_nil hbe)
    cases s with
    | nil =>
      rw [g.enc_nil] at hs; cases hs
      simp [startsWith]
    | cons cs s =>
      obtain ⟨bs, ys', hbs, hys', rfl⟩ := g.enc_cons_some hs
      by_cases hc : cs = ce
      · subst hc
        rw [hbs] at hbe; cases hbe
        rw [startsWith_common, ih (fun x hx => hE x (List.mem_cons_of_mem _ hx)) s ys' ye' hys' hye']
        simp [startsWith]
      · rw [startsWith_cons_ne cs ce _ _ hc]
        cases hsw : startsWith (bs ++ ys') (h0 :: t0 ++ ye') with
        | false => rfl
        | true =>
          -- both codes are prefixes of the same bytes, hence comparable
          have hp1 : (h0 :: t0) <+: bs ++ ys' :=
            List.IsPrefix.trans (List.prefix_append _ _) ((startsWith_iff _ _).mp hsw)
          exact absurd (sy.prefix_free ce _ cs bs (hE ce (List.mem_cons_self ..)) hbe hbs
            (List.prefix_or_prefix_of_prefix hp1 (List.prefix_append _ _))) hc

/-- byte-level `replace` of encoded strings = encoding of the character-level `replace`, when the characters of the
string looked for are in `E` -/
theorem replace_enc (g : c.Good) (sy : c.SyncOn E) (e n : Str) (ye yn : Bytes) (hne : e ≠ [])
    (hE : ∀ ch ∈ e, E ch) (he : c.enc e = some ye) (hn : c.enc n = some yn) (s : Str) (ys : Bytes)
    (hs : c.enc s = some ys) : c.enc (replace e n s) = some (replace ye yn ys) := by
  obtain ⟨ce, e', rfl⟩ := List.exists_cons_of_ne_nil hne
  obtain ⟨be, ye', hbe, hye', rfl⟩ := g.enc_cons_some he
  obtain ⟨h0, t0, rfl⟩ := List.exists_cons_of_ne_nil (g.enc_single_ne_nil hbe)
  -- by induction on a bound `k` of the length of the text: a match skips several characters
  suffices ∀ (k : Nat) (s : Str) (ys : Bytes), s.length ≤ k → c.enc s = some ys →
      c.enc (replace (ce :: e') n s) = some (replace (h0 :: t0 ++ ye') yn ys) from this s.length s ys (Nat.le_refl _) hs
  intro k
  induction k with
  | zero =>
    intro s ys hk hs
    have : s = [] := List.eq_nil_of_length_eq_zero (Nat.le_zero.mp hk)
    subst this
    rw [g.enc_nil] at hs; cases hs
    rw [replace_nil, replace_nil]; exact g.enc_nil
  | succ k ih =>
    intro s ys hk hs
    cases s with
    | nil =>
      rw [g.enc_nil] at hs; cases hs
      rw [replace_nil, replace_nil]; exact g.enc_nil
    | cons cs s =>
      cases hsw : startsWith (cs :: s) (ce :: e') with
      | true =>
        have hsplit := eq_of_startsWith _ _ hsw
        generalize hr : (cs :: s).drop (ce :: e').length = r at hsplit
        have hrl : r.length ≤ k := by
          rw [← hr, List.length_drop, List.length_cons, List.length_cons, Nat.add_sub_add_right]
          exact Nat.le_trans (Nat.sub_le _ _) (Nat.le_of_succ_le_succ hk)
        rw [hsplit] at hs ⊢
        obtain ⟨y1, yr, h1, hyr, rfl⟩ := g.enc_append_some hs
        rw [he] at h1; cases h1
        rw [replace_append_old _ _ (List.cons_ne_nil _ _),
          replace_append_old _ _ (List.append_ne_nil_of_left_ne_nil (List.cons_ne_nil h0 t0) ye')]
        exact g.enc_append_of hn (ih r yr hrl hyr)
      | false =>
        obtain ⟨bs, ys', hbs, hys', rfl⟩ := g.enc_cons_some hs
        obtain ⟨h1, t1, rfl⟩ := List.exists_cons_of_ne_nil (g.enc_single_ne_nil hbs)
        have hb : startsWith (h1 :: (t1 ++ ys')) (h0 :: (t0 ++ ye')) = false := by
          have := startsWith_enc g sy (ce :: e') hE (cs :: s) _ _ hs he
          rw [hsw] at this
          exact this
        rw [replace_cons_nomatch _ _ _ _ hsw]
        have : replace (h0 :: t0 ++ ye') yn (h1 :: t1 ++ ys') = (h1 :: t1) ++ replace (h0 :: t0 ++ ye') yn ys' := by
          simp only [List.cons_append]
          rw [replace_cons_nomatch _ _ _ _ hb, replace_skip h0 (t0 ++ ye') yn t1 ys' (fun x hx hxe =>
            sy.tail_free ce _ cs h1 t1 (hE ce (List.mem_cons_self ..)) hbe hbs x hx (hxe ▸ rfl))]
        rw [this]
        exact g.enc_append_of hbs (ih s ys' (Nat.le_of_succ_le_succ hk) hys')

theorem enc_ne_nil (g : c.Good) (e : Str) (ye : Bytes) (hne : e ≠ [])
    (he : c.enc e = some ye) : ye ≠ [] := by
  obtain ⟨ce, e', rfl⟩ := List.exists_cons_of_ne_nil hne
  obtain ⟨be, ye', hbe, _, rfl⟩ := g.enc_cons_some he
  exact List.append_ne_nil_of_left_ne_nil (g.enc_single_ne_nil hbe) _

theorem lineOk_enc (g : c.Good) (sy : c.SyncOn E) (e : Str) (hE : ∀ ch ∈ e, E ch) (ye : Bytes)
    (he : c.enc e = some ye) :
    ∀ (l : Str) (yl : Bytes), c.enc l = some yl → lineOk e l = true → lineOk ye yl = true := by
  intro l
  induction l with
  | nil =>
    intro yl hl _
    rw [g.enc_nil] at hl; cases hl; rfl
  | cons ch l ih =>
    intro yl hl hok
    simp only [lineOk, Bool.and_eq_true, Bool.not_eq_true'] at hok
    obtain ⟨b, yl', hb, hyl', rfl⟩ := g.enc_cons_some hl
    have ihl := ih yl' hyl' hok.2
    cases e with
    | nil =>
      rw [g.enc_nil] at he; cases he
      simp [startsWith_nil] at hok
    | cons ce e' =>
      obtain ⟨be, ye', hbe, hye', rfl⟩ := g.enc_cons_some he
      obtain ⟨h0, t0, rfl⟩ := List.exists_cons_of_ne_nil (g.enc_single_ne_nil hbe)
      obtain ⟨h1, t1, rfl⟩ := List.exists_cons_of_ne_nil (g.enc_single_ne_nil hb)
      have h00 : startsWith ((h1 :: t1 ++ yl') ++ (h0 :: t0 ++ ye')) (h0 :: t0 ++ ye') = false := by
        rw [startsWith_enc g sy (ce :: e') hE _ _ _ (g.enc_append_of hl he) he]; exact hok.1
      simp only [List.cons_append, lineOk, Bool.and_eq_true, Bool.not_eq_true']
      refine ⟨by simpa using h00, ?_⟩
      rw [lineOk_skip h0 _ t1 yl' (fun hm =>
        sy.tail_free ce _ ch h1 t1 (hE ce (List.mem_cons_self ..)) hbe hb h0 hm rfl)]
      exact ihl

/-- **what `load_file` returns for a file holding an encoded text, custom EOL**: the byte-level
`replace(EOL.encode(enc), b'\n')` followed by `decode` is the character-level `replace(EOL, '\n')` -/
theorem loadFile_custom_encoded (g : c.Good) (sy : c.SyncOn E) (fs : FS)
    (p t eol : Str) (y ye : Bytes) (hstd : isStdEol eol = false) (hne : eol ≠ []) (hE : ∀ ch ∈ eol, E ch)
    (heol : c.enc eol = some ye) (hb : ∀ x ∈ c.bom, ye.head? ≠ some x)
    (henc : c.enc t = some y) (hdisk : fs p = some (c.bom ++ y)) :
    loadFile c fs p ['t'] eol = .ok (.str (replace eol lf t)) := by
  apply loadFile_custom c _ p eol _ _ hstd ye heol hne hdisk
  obtain ⟨hd, tl, rfl⟩ := List.exists_cons_of_ne_nil (enc_ne_nil g eol ye hne heol)
  rw [replace_skip hd tl lf c.bom y fun x hx hxe => hb x hx (hxe ▸ rfl)]
  have hlf : c.enc lf = some lf := g.ascii '\n' (by decide)
  exact g.decode_bom_enc (replace_enc g sy eol lf _ lf hne hE heol hlf t y henc)

/-- **reading back**: a file holding (mark ++) the encoding of `text.replace('\n', EOL)` is loaded by
`load_file(…, 't', encoding, EOL)` as `text`: standard EOLs through universal newlines, every other EOL (its
characters in `E`) through the byte-level replacement under the codec -/
theorem loadFile_encoded_eol (g : c.Good) (sy : c.SyncOn E) (fs : FS) (p text eol : Str) (y ye : Bytes)
    (hE : isStdEol eol = false → ∀ ch ∈ eol, E ch) (hd : EolDisjoint eol text) (hcr : NoCR text)
    (heol : c.enc eol = some ye) (hb : isStdEol eol = false → ∀ x ∈ c.bom, ye.head? ≠ some x)
    (henc : c.enc (replace lf eol text) = some y) (hdisk : fs p = some (c.bom ++ y)) :
    loadFile c fs p ['t'] eol = .ok (.str text) := by
  cases hstd : isStdEol eol with
  | true =>
    rw [loadFile_text c _ p eol _ _ hstd hdisk ((decodeStream_bom_append c y).trans (g.decode_bom_enc henc)),
      univNL_replace eol text hstd hcr]
  | false =>
    rw [loadFile_custom_encoded g sy fs p _ eol y ye hstd hd.1 (hE hstd) heol (hb hstd) henc hdisk,
      lf_eq, replace_roundtrip eol text hd]

end SyncOn

/-- the same for every `Good` codec and an ASCII EOL (LF, CRLF, CR, LFCR or custom): no byte of another
character or of the mark is an ASCII byte -/
theorem loadFile_encoded (c : Codec) (g : c.Good) (fs : FS) (p text eol : Str) (y : Bytes)
    (ha : IsAscii eol) (hd : EolDisjoint eol text) (hcr : NoCR text)
    (henc : c.enc (replace lf eol text) = some y) (hdisk : fs p = some (c.bom ++ y)) :
    loadFile c fs p ['t'] eol = .ok (.str text) :=
  loadFile_encoded_eol g g.syncOn_ascii fs p text eol y eol (fun _ => ha) hd hcr (g.enc_ascii eol ha)
    (fun _ x hx hhd => by
      obtain ⟨e0, es, rfl⟩ := List.exists_cons_of_ne_nil hd.1
      cases hhd
      exact absurd (ha _ (List.mem_cons_self ..)) (Nat.not_lt.mpr (g.bom_high _ hx)))
    henc hdisk

/-- the same for `load_lines` (any read mode without `'b'`) and a list of lines written through the text layer; an empty
list leaves an empty file (no mark), which the text layer reads as the empty text -/
theorem loadLines_encoded (c : Codec) (g : c.Good) (fs : FS) (p rm : Str) (ls : List Str) (eol : Str) (y : Bytes)
    (hrm : rm.contains 'b' = false) (hstd : isStdEol eol = true) (hl : ∀ l ∈ ls, NoCR l ∧ NoLF l)
    (henc : c.enc (replace lf eol (unlines ls)) = some y)
    (hdisk : fs p = some ((if ls.isEmpty then [] else c.bom) ++ y)) :
    loadLines c fs p rm eol = .ok (ls.map Loaded.str) := by
  have hdec : c.decodeStream ((if ls.isEmpty then [] else c.bom) ++ y) = some (replace lf eol (unlines ls)) := by
    cases ls with
    | nil =>
      rw [show replace lf eol (unlines []) = [] from replace_nil _ _] at henc ⊢
      rw [g.enc_nil] at henc
      cases henc
      exact decodeStream_nil c g
    | cons l ls => exact (decodeStream_bom_append c y).trans (g.decode_bom_enc henc)
  rw [loadLines_text c _ p rm eol _ _ hrm hstd hdisk hdec,
    univNL_replace eol _ hstd (noCR_unlines ls (fun l hl' => (hl l hl').1)),
    textLines_unlines ls (fun l hl' => (hl l hl').2), List.map_map]
  congr 1
  apply List.map_congr_left
  intro l hl'
  exact congrArg Loaded.str (rstrip_line l (hl l hl').1 (hl l hl').2)

end N0.Files
