import N0Verif.Proofs.Files
import N0Verif.Proofs.Digits
/-!
  C15, codec side: the assumptions `Codec.Good` discharged for the codec models (`utf8`, `utf8sig`,
  `latin1`, the table codec `cp1252` generated from the interpreter); the strict utf-8 decoder; the BOM
  corner cases of `utf-8-sig`; self-synchronising codecs (`Codec.Sync`), which have the boundary property
  `Codec.SyncOn` for every character and so carry `load_file` under a non-ASCII EOL.
-/
namespace N0.Files
open N0 N0.Py

/-- a codec that passes the characters satisfying `ok` through unchanged and rejects the others -/
theorem filterCodec_good (ok : Char → Bool) (bom : Bytes) (h7 : ∀ ch : Char, ch.toNat < 128 → ok ch = true)
    (hb : ∀ x ∈ bom, 128 ≤ x.toNat) :
    Codec.Good { bom := bom, enc := fun s => if s.all ok then some s else none,
                 dec := fun b => if b.all ok then some b else none } where
  enc_nil := rfl
  enc_cons := by
    intro ch s
    simp only [List.all_cons, List.all_nil, Bool.and_true]
    by_cases h1 : ok ch = true <;> by_cases h2 : s.all ok = true <;> simp [h1, h2]
  ascii := by
    intro ch h
    simp only [List.all_cons, List.all_nil, Bool.and_true, h7 ch h, ↓reduceIte]
  high := by
    intro ch b h hb x hx
    simp only [List.all_cons, List.all_nil, Bool.and_true] at hb
    split at hb
    · cases hb
      cases List.mem_singleton.mp hx
      exact h
    · cases hb
  bom_high := hb
  dec_enc := by
    intro s b h
    dsimp only at h ⊢
    split at h
    · rename_i hs
      cases h
      exact if_pos hs
    · cases h

theorem bomUtf8_high : ∀ x ∈ bomUtf8, 128 ≤ x.toNat := by decide

theorem latin1_good : latin1.Good :=
  filterCodec_good isByte [] (fun _ h => decide_eq_true (Nat.lt_trans h (by decide))) (fun _ hx => nomatch hx)

def is7 (ch : Char) : Bool := ch.toNat < 128

/-- 7-bit text behind the UTF-8 signature: the smallest codec with a start-of-stream mark
(what `utf-8-sig` is on ASCII text) -/
def asciiSig : Codec :=
  { bom := bomUtf8
    enc := fun s => if s.all is7 then some s else none
    dec := fun b => if b.all is7 then some b else none }

theorem asciiSig_good : asciiSig.Good := filterCodec_good is7 bomUtf8 (fun _ h => decide_eq_true h) bomUtf8_high

theorem isValidChar_of {n : Nat} (hsur : ¬ (0xD800 ≤ n ∧ n < 0xE000)) (hhi : n < 0x110000) : n.isValidChar :=
  (Nat.lt_or_ge n 0xD800).elim Or.inl fun h => Or.inr ⟨Nat.not_lt.mp fun h' => hsur ⟨h, h'⟩, hhi⟩

theorem toNat_cont (d : Nat) (h : d < 64) : (Char.ofNat (0x80 + d)).toNat = 0x80 + d :=
  toNat_ofNat_byte _ (Nat.add_lt_add_left (Nat.lt_trans h (by decide : 64 < 128)) 0x80)

theorem isCont_ofNat (d : Nat) (h : d < 64) : isCont (Char.ofNat (0x80 + d)) = true := by
  rw [isCont, toNat_cont d h, Bool.and_eq_true, decide_eq_true_eq, decide_eq_true_eq]
  exact ⟨Nat.le_add_right _ _, Nat.add_lt_add_left h 0x80⟩

/-! The model writes the multi-byte forms with the constants 4096 and 262144.  All division and
remainder facts about them are reduced here to the last digit of `q * 64 + d` by rewriting
(`omega` is slow to check on `/` and `%`). -/

theorem div64 (q d : Nat) (h : d < 64) : (q * 64 + d) / 64 = q := by
  rw [Nat.mul_comm, Nat.mul_add_div (by decide), Nat.div_eq_of_lt h, Nat.add_zero]

theorem mod64 (q d : Nat) (h : d < 64) : (q * 64 + d) % 64 = d := by
  rw [Nat.mul_comm, Nat.mul_add_mod, Nat.mod_eq_of_lt h]

theorem lt64 {q d k : Nat} (hq : q < k) (hd : d < 64) : q * 64 + d < k * 64 :=
  Nat.lt_of_lt_of_le (Nat.add_lt_add_left hd _) (Nat.succ_mul q 64 ▸ Nat.mul_le_mul_right 64 hq)

theorem cp3_eq (a d1 d2 : Nat) : a * 4096 + d1 * 64 + d2 = (a * 64 + d1) * 64 + d2 := by
  rw [Nat.add_mul, Nat.mul_assoc]

theorem cp4_eq (a d1 d2 d3 : Nat) :
    a * 262144 + d1 * 4096 + d2 * 64 + d3 = ((a * 64 + d1) * 64 + d2) * 64 + d3 := by
  rw [Nat.add_mul, Nat.add_mul, Nat.add_mul, Nat.mul_assoc, Nat.mul_assoc, Nat.mul_assoc]

theorem div4096 (n : Nat) : n / 4096 = n / 64 / 64 := (Nat.div_div_eq_div_mul n 64 64).symm

theorem div262144 (n : Nat) : n / 262144 = n / 64 / 64 / 64 := by
  rw [Nat.div_div_eq_div_mul, Nat.div_div_eq_div_mul]

/-! The three multi-byte forms: `a` is what the lead byte carries, the `d`s are the base-64 digits of the continuation
bytes; the bounds are those of the strict decoder: shortest form, no surrogate, at most U+10FFFF. -/

def Utf8Two (a d : Nat) : Prop := 2 ≤ a ∧ a < 32 ∧ d < 64

def Utf8Three (a d1 d2 : Nat) : Prop :=
  a < 16 ∧ d1 < 64 ∧ d2 < 64 ∧ 0x800 ≤ a * 4096 + d1 * 64 + d2
    ∧ ¬ (0xD800 ≤ a * 4096 + d1 * 64 + d2 ∧ a * 4096 + d1 * 64 + d2 < 0xE000)

def Utf8Four (a d1 d2 d3 : Nat) : Prop :=
  a < 5 ∧ d1 < 64 ∧ d2 < 64 ∧ d3 < 64
    ∧ 0x10000 ≤ a * 262144 + d1 * 4096 + d2 * 64 + d3 ∧ a * 262144 + d1 * 4096 + d2 * 64 + d3 < 0x110000

theorem utf8Char_forms (ch : Char) :
    ch.toNat < 0x80
    ∨ (∃ a d, Utf8Two a d ∧ ch = Char.ofNat (a * 64 + d))
    ∨ (∃ a d1 d2, Utf8Three a d1 d2 ∧ ch = Char.ofNat (a * 4096 + d1 * 64 + d2))
    ∨ (∃ a d1 d2 d3, Utf8Four a d1 d2 d3 ∧ ch = Char.ofNat (a * 262144 + d1 * 4096 + d2 * 64 + d3)) := by
  have hm : ∀ k : Nat, k % 64 < 64 := fun k => Nat.mod_lt k (by decide)
  by_cases h1 : ch.toNat < 0x80
  · exact Or.inl h1
  by_cases h2 : ch.toNat < 0x800
  · refine Or.inr (Or.inl ⟨ch.toNat / 64, ch.toNat % 64, ⟨?_, Nat.div_lt_of_lt_mul h2, hm _⟩, ?_⟩)
    · exact (Nat.le_div_iff_mul_le (by decide)).mpr (Nat.not_lt.mp h1)
    · rw [Nat.div_add_mod', Char.ofNat_toNat]
  by_cases h3 : ch.toNat < 0x10000
  · have e : ch.toNat / 4096 * 4096 + ch.toNat / 64 % 64 * 64 + ch.toNat % 64 = ch.toNat := by
      rw [div4096, cp3_eq, Nat.div_add_mod', Nat.div_add_mod']
    refine Or.inr (Or.inr (Or.inl ⟨ch.toNat / 4096, ch.toNat / 64 % 64, ch.toNat % 64,
      ⟨Nat.div_lt_of_lt_mul h3, hm _, hm _, ?_⟩, ?_⟩))
    · rw [e]
      exact ⟨Nat.not_lt.mp h2, fun hs =>
        (toNat_valid ch).elim (fun h => Nat.not_le.mpr h hs.1) (fun h => Nat.not_le.mpr hs.2 h.1)⟩
    · rw [e, Char.ofNat_toNat]
  · have e : ch.toNat / 262144 * 262144 + ch.toNat / 4096 % 64 * 4096 + ch.toNat / 64 % 64 * 64 + ch.toNat % 64
        = ch.toNat := by
      rw [div262144, div4096, cp4_eq, Nat.div_add_mod', Nat.div_add_mod', Nat.div_add_mod']
    have hhi : ch.toNat < 0x110000 := (toNat_valid ch).elim (fun h => Nat.lt_trans h (by decide)) (·.2)
    refine Or.inr (Or.inr (Or.inr ⟨ch.toNat / 262144, ch.toNat / 4096 % 64, ch.toNat / 64 % 64, ch.toNat % 64,
      ⟨Nat.div_lt_of_lt_mul (Nat.lt_trans hhi (by decide)), hm _, hm _, hm _, ?_⟩, ?_⟩))
    · rw [e]
      exact ⟨Nat.not_lt.mp h3, hhi⟩
    · rw [e, Char.ofNat_toNat]

theorem utf8EncChar_one (ch : Char) (h : ch.toNat < 0x80) : utf8EncChar ch = [ch] := by
  rw [utf8EncChar]
  exact if_pos h

theorem utf8EncChar_of2 {a d : Nat} (h : Utf8Two a d) :
    utf8EncChar (Char.ofNat (a * 64 + d)) = [Char.ofNat (0xC0 + a), Char.ofNat (0x80 + d)] := by
  obtain ⟨ha, ha', hd⟩ := h
  have hlo : 0x80 ≤ a * 64 + d := Nat.le_trans (Nat.mul_le_mul_right 64 ha) (Nat.le_add_right _ _)
  have hhi : a * 64 + d < 0x800 := lt64 ha' hd
  rw [utf8EncChar, toNat_ofNat _ (Or.inl (Nat.lt_trans hhi (by decide)))]
  simp only [Nat.not_lt.mpr hlo, hhi, ↓reduceIte, div64 a d hd, mod64 a d hd]

theorem utf8EncChar_of3 {a d1 d2 : Nat} (h : Utf8Three a d1 d2) :
    utf8EncChar (Char.ofNat (a * 4096 + d1 * 64 + d2))
      = [Char.ofNat (0xE0 + a), Char.ofNat (0x80 + d1), Char.ofNat (0x80 + d2)] := by
  obtain ⟨ha, h1, h2, hlo, hsur⟩ := h
  have hhi : a * 4096 + d1 * 64 + d2 < 0x10000 := cp3_eq a d1 d2 ▸ lt64 (lt64 ha h1) h2
  rw [utf8EncChar, toNat_ofNat _ (isValidChar_of hsur (Nat.lt_trans hhi (by decide)))]
  simp only [Nat.not_lt.mpr (Nat.le_trans (by decide : 0x80 ≤ 0x800) hlo), Nat.not_lt.mpr hlo, hhi, ↓reduceIte]
  -- the digits come off from the right
  rw [div4096, cp3_eq, div64 _ _ h2, mod64 _ _ h2, div64 _ _ h1, mod64 _ _ h1]

theorem utf8EncChar_of4 {a d1 d2 d3 : Nat} (h : Utf8Four a d1 d2 d3) :
    utf8EncChar (Char.ofNat (a * 262144 + d1 * 4096 + d2 * 64 + d3))
      = [Char.ofNat (0xF0 + a), Char.ofNat (0x80 + d1), Char.ofNat (0x80 + d2), Char.ofNat (0x80 + d3)] := by
  obtain ⟨_, h1, h2, h3, hlo, hhi⟩ := h
  rw [utf8EncChar, toNat_ofNat _ (Or.inr ⟨Nat.lt_of_lt_of_le (by decide) hlo, hhi⟩)]
  simp only [Nat.not_lt.mpr (Nat.le_trans (by decide : 0x80 ≤ 0x10000) hlo),
    Nat.not_lt.mpr (Nat.le_trans (by decide : 0x800 ≤ 0x10000) hlo), Nat.not_lt.mpr hlo, ↓reduceIte]
  rw [div262144, div4096, cp4_eq, div64 _ _ h3, mod64 _ _ h3, div64 _ _ h2, mod64 _ _ h2, div64 _ _ h1, mod64 _ _ h1]

theorem utf8Dec_ascii (b0 : Char) (rest : Bytes) (h : b0.toNat < 0x80) :
    utf8Dec (b0 :: rest) = (utf8Dec rest).map (b0 :: ·) := by
  rw [utf8Dec.eq_def]
  exact if_pos h

theorem utf8Dec_two {a d : Nat} (h : Utf8Two a d) (r : Bytes) :
    utf8Dec (Char.ofNat (0xC0 + a) :: Char.ofNat (0x80 + d) :: r)
      = (utf8Dec r).map (Char.ofNat (a * 64 + d) :: ·) := by
  obtain ⟨ha, ha', hd⟩ := h
  have c1 : ¬ 0xC0 + a < 0x80 := Nat.not_lt.mpr (Nat.le_trans (by decide) (Nat.le_add_right _ _))
  have c2 : 0xC2 ≤ 0xC0 + a := Nat.add_le_add_left ha 0xC0
  have c3 : 0xC0 + a < 0xE0 := Nat.add_lt_add_left ha' 0xC0
  rw [utf8Dec.eq_def]
  simp only [toNat_ofNat_byte (0xC0 + a) (Nat.lt_trans c3 (by decide)), toNat_cont d hd, isCont_ofNat d hd,
    c1, c2, c3, ↓reduceIte, decide_true, Bool.and_self, Nat.add_sub_cancel_left]

theorem utf8Dec_three {a d1 d2 : Nat} (h : Utf8Three a d1 d2) (r : Bytes) :
    utf8Dec (Char.ofNat (0xE0 + a) :: Char.ofNat (0x80 + d1) :: Char.ofNat (0x80 + d2) :: r)
      = (utf8Dec r).map (Char.ofNat (a * 4096 + d1 * 64 + d2) :: ·) := by
  obtain ⟨ha, h1, h2, hlo, hsur⟩ := h
  have c1 : ¬ 0xE0 + a < 0x80 := Nat.not_lt.mpr (Nat.le_trans (by decide) (Nat.le_add_right _ _))
  have c2 : ¬ 0xE0 + a < 0xE0 := Nat.not_lt.mpr (Nat.le_add_right _ _)
  have c3 : 0xE0 ≤ 0xE0 + a := Nat.le_add_right _ _
  have c4 : 0xE0 + a < 0xF0 := Nat.add_lt_add_left ha 0xE0
  have c5 : (decide (0xD800 ≤ a * 4096 + d1 * 64 + d2) && decide (a * 4096 + d1 * 64 + d2 < 0xE000)) = false :=
    Bool.eq_false_iff.mpr fun h =>
      hsur ⟨of_decide_eq_true (Bool.and_eq_true_iff.mp h).1, of_decide_eq_true (Bool.and_eq_true_iff.mp h).2⟩
  rw [utf8Dec.eq_def]
  simp only [toNat_ofNat_byte (0xE0 + a) (Nat.lt_trans c4 (by decide)), toNat_cont _ h1, toNat_cont _ h2,
    isCont_ofNat _ h1, isCont_ofNat _ h2, c1, c2, c3, c4, c5, hlo, ↓reduceIte, decide_true, decide_false,
    Bool.and_self, Bool.and_false, Bool.false_eq_true, Bool.not_false, Nat.add_sub_cancel_left]

theorem utf8Dec_four {a d1 d2 d3 : Nat} (h : Utf8Four a d1 d2 d3) (r : Bytes) :
    utf8Dec (Char.ofNat (0xF0 + a) :: Char.ofNat (0x80 + d1) :: Char.ofNat (0x80 + d2) :: Char.ofNat (0x80 + d3) :: r)
      = (utf8Dec r).map (Char.ofNat (a * 262144 + d1 * 4096 + d2 * 64 + d3) :: ·) := by
  obtain ⟨ha, h1, h2, h3, hlo, hhi⟩ := h
  have c1 : ¬ 0xF0 + a < 0x80 := Nat.not_lt.mpr (Nat.le_trans (by decide) (Nat.le_add_right _ _))
  have c2 : ¬ 0xF0 + a < 0xE0 := Nat.not_lt.mpr (Nat.le_trans (by decide) (Nat.le_add_right _ _))
  have c3 : ¬ 0xF0 + a < 0xF0 := Nat.not_lt.mpr (Nat.le_add_right _ _)
  have c4 : 0xF0 ≤ 0xF0 + a := Nat.le_add_right _ _
  have c5 : 0xF0 + a < 0xF5 := Nat.add_lt_add_left ha 0xF0
  rw [utf8Dec.eq_def]
  simp only [toNat_ofNat_byte (0xF0 + a) (Nat.lt_trans c5 (by decide)), toNat_cont _ h1, toNat_cont _ h2,
    toNat_cont _ h3, isCont_ofNat _ h1, isCont_ofNat _ h2, isCont_ofNat _ h3, c1, c2, c3, c4, c5, hlo, hhi,
    ↓reduceIte, decide_true, decide_false, Bool.and_self, Bool.and_false, Bool.false_eq_true,
    Nat.add_sub_cancel_left]

theorem utf8Dec_encChar (ch : Char) (rest : Bytes) :
    utf8Dec (utf8EncChar ch ++ rest) = (utf8Dec rest).map (ch :: ·) := by
  rcases utf8Char_forms ch with h | ⟨a, d, h, rfl⟩ | ⟨a, d1, d2, h, rfl⟩ | ⟨a, d1, d2, d3, h, rfl⟩
  · rw [utf8EncChar_one ch h]
    exact utf8Dec_ascii ch rest h
  · rw [utf8EncChar_of2 h]
    exact utf8Dec_two h rest
  · rw [utf8EncChar_of3 h]
    exact utf8Dec_three h rest
  · rw [utf8EncChar_of4 h]
    exact utf8Dec_four h rest

theorem utf8Enc_cons (ch : Char) (s : Str) : utf8Enc (ch :: s) = utf8EncChar ch ++ utf8Enc s :=
  List.flatMap_cons

theorem utf8Enc_single (ch : Char) : utf8Enc [ch] = utf8EncChar ch := by
  rw [utf8Enc_cons]
  exact List.append_nil _

theorem utf8Enc_ascii (s : Str) (h : IsAscii s) : utf8Enc s = s := by
  induction s with
  | nil => rfl
  | cons ch s ih =>
    rw [utf8Enc_cons, utf8EncChar_one ch (h ch (List.mem_cons_self ..)), ih (fun x hx => h x (List.mem_cons_of_mem _ hx))]
    rfl

theorem utf8Dec_enc (s : Str) : utf8Dec (utf8Enc s) = some s := by
  induction s with
  | nil => rfl
  | cons ch s ih => rw [utf8Enc_cons, utf8Dec_encChar, ih]; rfl


theorem lead_ge (k a m : Nat) (h0 : 0xC0 ≤ k) (ha : a < m) (hk : k + m ≤ 256) : 0xC0 ≤ (Char.ofNat (k + a)).toNat := by
  rw [toNat_ofNat_byte _ (Nat.lt_of_lt_of_le (Nat.add_lt_add_left ha k) hk)]
  exact Nat.le_trans h0 (Nat.le_add_right _ _)

theorem utf8EncChar_shape (ch : Char) (h : 0x80 ≤ ch.toNat) :
    ∃ l t, utf8EncChar ch = l :: t ∧ 0xC0 ≤ l.toNat ∧ t.all isCont = true := by
  rcases utf8Char_forms ch with h' | ⟨a, d, f, rfl⟩ | ⟨a, d1, d2, f, rfl⟩ | ⟨a, d1, d2, d3, f, rfl⟩
  · exact absurd h (Nat.not_le.mpr h')
  · refine ⟨_, _, utf8EncChar_of2 f, lead_ge 0xC0 a 32 (by decide) f.2.1 (by decide), ?_⟩
    simp only [List.all_cons, List.all_nil, isCont_ofNat _ f.2.2, Bool.and_self]
  · refine ⟨_, _, utf8EncChar_of3 f, lead_ge 0xE0 a 16 (by decide) f.1 (by decide), ?_⟩
    simp only [List.all_cons, List.all_nil, isCont_ofNat _ f.2.1, isCont_ofNat _ f.2.2.1, Bool.and_self]
  · refine ⟨_, _, utf8EncChar_of4 f, lead_ge 0xF0 a 5 (by decide) f.1 (by decide), ?_⟩
    simp only [List.all_cons, List.all_nil, isCont_ofNat _ f.2.1, isCont_ofNat _ f.2.2.1, isCont_ofNat _ f.2.2.2.1,
      Bool.and_self]

theorem utf8EncChar_high (ch : Char) (h : 128 ≤ ch.toNat) : ∀ x ∈ utf8EncChar ch, 128 ≤ x.toNat := by
  obtain ⟨l, t, e, hl, ht⟩ := utf8EncChar_shape ch h
  intro x hx
  rw [e] at hx
  rcases List.mem_cons.mp hx with rfl | hx
  · exact Nat.le_trans (by decide) hl
  · have := List.all_eq_true.mp ht x hx
    simp only [isCont, Bool.and_eq_true, decide_eq_true_eq] at this
    exact this.1

/-- the assumptions hold for every codec whose body is the utf-8 encoder / strict decoder and
whose mark consists of high bytes -/
theorem utf8Body_good (bom : Bytes) (hb : ∀ x ∈ bom, 128 ≤ x.toNat) :
    Codec.Good { bom := bom, enc := fun s => some (utf8Enc s), dec := utf8Dec } where
  enc_nil := rfl
  enc_cons := by intro ch s; simp [utf8Enc_cons, show utf8Enc [] = [] from rfl]
  ascii := by
    intro ch h
    simp [utf8Enc_single, utf8EncChar, h]
  high := by
    intro ch b h hb' x hx
    simp only [utf8Enc_single, Option.some.injEq] at hb'
    subst hb'
    exact utf8EncChar_high ch h x hx
  bom_high := hb
  dec_enc := by
    intro s b h
    simp only [Option.some.injEq] at h
    subst h
    exact utf8Dec_enc s

theorem utf8_good : utf8.Good := utf8Body_good [] (fun _ hx => nomatch hx)

theorem utf8sig_good : utf8sig.Good := utf8Body_good bomUtf8 bomUtf8_high


theorem map_cons_eq_some {α} {o : Option (List α)} {a : α} {s : List α} (h : o.map (a :: ·) = some s) :
    ∃ s', o = some s' ∧ s = a :: s' := by
  cases o with
  | none => cases h
  | some s' => exact ⟨s', rfl, (Option.some.inj h).symm⟩

theorem ite_map_cons_eq_some {α} {c : Prop} [Decidable c] {o : Option (List α)} {a : α} {s : List α}
    (h : (if c then o.map (a :: ·) else none) = some s) : c ∧ ∃ s', o = some s' ∧ s = a :: s' := by
  split at h
  · exact ⟨‹c›, map_cons_eq_some h⟩
  · cases h

theorem ofNat_add_sub (k : Nat) (b : Char) (h : k ≤ b.toNat) : Char.ofNat (k + (b.toNat - k)) = b := by
  rw [Nat.add_sub_cancel' h, Char.ofNat_toNat]

/-- one step of the decoder read backwards: what it accepts starts with the encoding of the
character it yields.  The digits of that character are `b0.toNat - lead`, `bi.toNat - 0x80`, so the
encoder equations give back the very bytes. -/
theorem utf8Dec_cons_some (b0 : Char) (rest : Bytes) (s : Str) (h : utf8Dec (b0 :: rest) = some s) :
    ∃ ch pre r s', utf8EncChar ch = b0 :: pre ∧ rest = pre ++ r ∧ utf8Dec r = some s' ∧ s = ch :: s' := by
  have cont : ∀ b : Char, isCont b = true → b.toNat - 0x80 < 64 ∧ 0x80 ≤ b.toNat := fun b hb => by
    simp only [isCont, Bool.and_eq_true, decide_eq_true_eq] at hb
    exact ⟨Nat.sub_lt_left_of_lt_add hb.1 hb.2, hb.1⟩
  rw [utf8Dec.eq_def] at h
  dsimp only at h
  by_cases c1 : b0.toNat < 0x80
  · rw [if_pos c1] at h
    obtain ⟨s', hs', rfl⟩ := map_cons_eq_some h
    exact ⟨b0, [], rest, s', utf8EncChar_one b0 c1, rfl, hs', rfl⟩
  rw [if_neg c1] at h
  by_cases c2 : (decide (0xC2 ≤ b0.toNat) && decide (b0.toNat < 0xE0)) = true
  · rw [if_pos c2] at h
    simp only [Bool.and_eq_true, decide_eq_true_eq] at c2
    obtain _ | ⟨b1, r⟩ := rest
    · cases h
    · obtain ⟨k1, s', hs', rfl⟩ := ite_map_cons_eq_some h
      have hb0 : 0xC0 ≤ b0.toNat := Nat.le_trans (by decide) c2.1
      refine ⟨_, [b1], r, s', ?_, rfl, hs', rfl⟩
      rw [utf8EncChar_of2 ⟨Nat.le_sub_of_add_le' c2.1, Nat.sub_lt_left_of_lt_add hb0 c2.2, (cont b1 k1).1⟩,
        ofNat_add_sub _ b0 hb0, ofNat_add_sub _ b1 (cont b1 k1).2]
  rw [if_neg c2] at h
  by_cases c3 : (decide (0xE0 ≤ b0.toNat) && decide (b0.toNat < 0xF0)) = true
  · rw [if_pos c3] at h
    simp only [Bool.and_eq_true, decide_eq_true_eq] at c3
    obtain _ | ⟨b1, _ | ⟨b2, r⟩⟩ := rest
    · cases h
    · cases h
    · obtain ⟨k, s', hs', rfl⟩ := ite_map_cons_eq_some h
      simp only [Bool.and_eq_true, decide_eq_true_eq, Bool.not_eq_true', Bool.and_eq_false_iff,
        decide_eq_false_iff_not] at k
      obtain ⟨⟨⟨k1, k2⟩, klo⟩, ksur⟩ := k
      refine ⟨_, [b1, b2], r, s', ?_, rfl, hs', rfl⟩
      rw [utf8EncChar_of3 ⟨Nat.sub_lt_left_of_lt_add c3.1 c3.2, (cont b1 k1).1, (cont b2 k2).1, klo,
          fun hs => ksur.elim (fun h => h hs.1) (fun h => h hs.2)⟩,
        ofNat_add_sub _ b0 c3.1, ofNat_add_sub _ b1 (cont b1 k1).2, ofNat_add_sub _ b2 (cont b2 k2).2]
  rw [if_neg c3] at h
  by_cases c4 : (decide (0xF0 ≤ b0.toNat) && decide (b0.toNat < 0xF5)) = true
  · rw [if_pos c4] at h
    simp only [Bool.and_eq_true, decide_eq_true_eq] at c4
    obtain _ | ⟨b1, _ | ⟨b2, _ | ⟨b3, r⟩⟩⟩ := rest
    · cases h
    · cases h
    · cases h
    · obtain ⟨k, s', hs', rfl⟩ := ite_map_cons_eq_some h
      simp only [Bool.and_eq_true, decide_eq_true_eq] at k
      obtain ⟨⟨⟨⟨k1, k2⟩, k3⟩, klo⟩, khi⟩ := k
      refine ⟨_, [b1, b2, b3], r, s', ?_, rfl, hs', rfl⟩
      rw [utf8EncChar_of4 ⟨Nat.sub_lt_left_of_lt_add c4.1 c4.2, (cont b1 k1).1, (cont b2 k2).1, (cont b3 k3).1, klo, khi⟩,
        ofNat_add_sub _ b0 c4.1, ofNat_add_sub _ b1 (cont b1 k1).2, ofNat_add_sub _ b2 (cont b2 k2).2,
        ofNat_add_sub _ b3 (cont b3 k3).2]
  · rw [if_neg c4] at h
    cases h

/-- **the strict decoder accepts canonical encodings only**: whatever it decodes re-encodes to the
same bytes, so overlong forms, encoded surrogates, values above U+10FFFF, stray continuation bytes
and truncated sequences are all rejected. -/
theorem utf8Dec_canonical : ∀ (n : Nat) (b : Bytes), b.length ≤ n → ∀ s, utf8Dec b = some s → utf8Enc s = b := by
  intro n
  induction n with
  | zero =>
    intro b hb s h
    cases List.eq_nil_of_length_eq_zero (Nat.le_zero.mp hb)
    cases h
    rfl
  | succ n ih =>
    intro b hb s h
    cases b with
    | nil => cases h; rfl
    | cons b0 rest =>
      obtain ⟨ch, pre, r, s', he, rfl, hs', rfl⟩ := utf8Dec_cons_some b0 _ s h
      have hr : r.length ≤ n :=
        Nat.le_trans (Nat.le_add_left _ _) (List.length_append ▸ Nat.le_of_succ_le_succ hb)
      rw [utf8Enc_cons, he, ih r hr s' hs']
      rfl


theorem utf8Dec_eq_some_iff (b : Bytes) (s : Str) : utf8Dec b = some s ↔ utf8Enc s = b :=
  ⟨utf8Dec_canonical b.length b (Nat.le_refl _) s, fun h => h ▸ utf8Dec_enc s⟩

/-- overlong forms (`C0 80`, `E0 80 80`, `F0 80 80 80`), an encoded surrogate (`ED A0 80`), a value
above U+10FFFF (`F4 90 80 80`), a stray continuation byte and a truncated sequence are rejected;
the shortest form of U+20AC is accepted -/
theorem utf8Dec_rejects :
    utf8Dec [Char.ofNat 0xC0, Char.ofNat 0x80] = none
    ∧ utf8Dec [Char.ofNat 0xE0, Char.ofNat 0x80, Char.ofNat 0x80] = none
    ∧ utf8Dec [Char.ofNat 0xF0, Char.ofNat 0x80, Char.ofNat 0x80, Char.ofNat 0x80] = none
    ∧ utf8Dec [Char.ofNat 0xED, Char.ofNat 0xA0, Char.ofNat 0x80] = none
    ∧ utf8Dec [Char.ofNat 0xF4, Char.ofNat 0x90, Char.ofNat 0x80, Char.ofNat 0x80] = none
    ∧ utf8Dec [Char.ofNat 0x80] = none ∧ utf8Dec [Char.ofNat 0xE2, Char.ofNat 0x82] = none
    ∧ utf8Dec [Char.ofNat 0xE2, Char.ofNat 0x82, Char.ofNat 0xAC] = some [Char.ofNat 0x20AC] := by decide +kernel

/-! Python strings may hold lone surrogates (`'\ud800'`), and `str.encode('utf-8')` raises
`UnicodeEncodeError` on them.  Lean's `Char` excludes them by construction, so the model's
encoder is total; the code-point level statement is kept here as a specification of which
numbers have a utf-8 form at all. -/

/-- the utf-8 form of a code point; `none` = not encodable (surrogate, or above U+10FFFF) -/
def utf8EncCp (n : Nat) : Option Bytes :=
  if (0xD800 ≤ n ∧ n < 0xE000) ∨ 0x110000 ≤ n then none else some (utf8EncChar (Char.ofNat n))

theorem utf8EncCp_surrogate (n : Nat) (h1 : 0xD800 ≤ n) (h2 : n < 0xE000) : utf8EncCp n = none := by
  simp [utf8EncCp, h1, h2]

theorem utf8EncCp_char (ch : Char) : utf8EncCp ch.toNat = some (utf8EncChar ch) := by
  have hv := toNat_valid ch
  have : ¬ ((0xD800 ≤ ch.toNat ∧ ch.toNat < 0xE000) ∨ 0x110000 ≤ ch.toNat) := by omega
  simp only [utf8EncCp, this, ↓reduceIte, Char.ofNat_toNat]

theorem utf8EncCp_isSome_iff (n : Nat) : (utf8EncCp n).isSome ↔ ∃ ch : Char, ch.toNat = n := by
  constructor
  · intro h
    unfold utf8EncCp at h
    split at h
    · cases h
    · rename_i hn
      exact ⟨Char.ofNat n, toNat_ofNat n (isValidChar_of (fun h => hn (Or.inl h)) (Nat.not_le.mp fun h => hn (Or.inr h)))⟩
  · rintro ⟨ch, rfl⟩; rw [utf8EncCp_char]; rfl

/-- `s.encode('utf-8-sig')`: a fresh encoder puts the mark at position 0, once -/
theorem utf8sig_encode (s : Str) : utf8sig.encode s = some (bomUtf8 ++ utf8Enc s) := rfl

theorem bomUtf8_eq : bomUtf8 = utf8EncChar (Char.ofNat 0xFEFF) := by decide +kernel

/-- the mark is skipped on read -/
theorem utf8sig_decode_bom (s : Str) : utf8sig.decode (bomUtf8 ++ utf8Enc s) = some s :=
  utf8sig_good.decode_bom_enc rfl

/-- … once only: a second mark is the character U+FEFF of the text (what the files of
findings C15-a / C15-b read back as) -/
theorem utf8sig_decode_bom_twice (s : Str) :
    utf8sig.decode (bomUtf8 ++ (bomUtf8 ++ utf8Enc s)) = some (Char.ofNat 0xFEFF :: s) := by
  have : bomUtf8 ++ utf8Enc s = utf8Enc (Char.ofNat 0xFEFF :: s) := by rw [utf8Enc_cons, ← bomUtf8_eq]
  rw [this]
  exact utf8sig_decode_bom _

/-- the incremental decoder of a text-mode `read()` on a file that is a strict prefix of the
mark (`EF`, `EF BB`): the bytes are buffered "waiting for more" and the text is empty, whereas
`bytes.decode('utf-8-sig')` raises (the corner recorded in the notes) -/
theorem utf8sig_decodeStream_prefix :
    utf8sig.decodeStream [Char.ofNat 0xEF] = some [] ∧ utf8sig.decodeStream [Char.ofNat 0xEF, Char.ofNat 0xBB] = some []
    ∧ utf8sig.decode [Char.ofNat 0xEF] = none ∧ utf8sig.decode [Char.ofNat 0xEF, Char.ofNat 0xBB] = none := by decide +kernel

/-- everywhere else a text-mode `read()` decodes like `bytes.decode('utf-8-sig')` -/
theorem utf8sig_decodeStream_eq (b : Bytes) (h1 : b ≠ [Char.ofNat 0xEF]) (h2 : b ≠ [Char.ofNat 0xEF, Char.ofNat 0xBB]) :
    utf8sig.decodeStream b = utf8sig.decode b := by
  unfold Codec.decodeStream
  match b, h1, h2 with
  | [], _, _ => decide
  | [x], h1, _ =>
    have hx : x ≠ Char.ofNat 0xEF := fun e => h1 (by rw [e])
    have : startsWith utf8sig.bom [x] = false := by
      simp [utf8sig, bomUtf8, startsWith, Ne.symm hx]
    rw [this]; simp
  | [x, y], _, h2 =>
    have : startsWith utf8sig.bom [x, y] = false := by
      simp only [utf8sig, bomUtf8, startsWith, Bool.and_true]
      by_cases hx : x = Char.ofNat 0xEF
      · by_cases hy : y = Char.ofNat 0xBB
        · exact absurd (by rw [hx, hy]) h2
        · simp [Ne.symm hy]
      · simp [Ne.symm hx]
    rw [this]; simp
  | _ :: _ :: _ :: _, _, _ =>
    have : utf8sig.bom.length = 3 := rfl
    simp only [this, List.length_cons]
    rw [if_neg]
    simp only [Bool.and_eq_true, decide_eq_true_eq, not_and]
    intro hlt; omega

theorem tableFind_spec (n : Nat) (t : List (Option Nat)) :
    ∀ (i k : Nat), tableFind n t i = some k → i ≤ k ∧ t[k - i]? = some (some n) := by
  induction t with
  | nil => intro i k h; cases h
  | cons e t ih =>
    intro i k h
    rw [tableFind] at h
    split at h
    · rename_i he
      cases h
      rw [Nat.sub_self, he]
      exact ⟨Nat.le_refl _, rfl⟩
    · obtain ⟨h1, h2⟩ := ih (i + 1) k h
      refine ⟨Nat.le_of_succ_le h1, ?_⟩
      rw [List.getElem?_cons, if_neg (Nat.sub_ne_zero_of_lt h1)]
      exact h2

theorem tableFind_some (n : Nat) (t : List (Option Nat)) :
    ∀ (i j : Nat), t[j]? = some (some n) → ∃ k, tableFind n t i = some k ∧ k ≤ i + j := by
  induction t with
  | nil => intro i j h; cases h
  | cons e t ih =>
    intro i j h
    unfold tableFind
    split
    · exact ⟨i, rfl, Nat.le_add_right i j⟩
    · cases j with
      | zero => exact absurd (Option.some.inj h) ‹_›
      | succ j =>
        rw [List.getElem?_cons_succ] at h
        obtain ⟨k, hk, hle⟩ := ih (i + 1) j h
        rw [Nat.add_assoc, Nat.add_comm 1 j] at hle
        exact ⟨k, hk, hle⟩

/-- what `decide` checks on a generated table: 256 entries, the first 128 are the identity -/
def tableOk (t : List (Option Nat)) : Bool :=
  t.length == 256 && t.take 128 == (List.range 128).map some

theorem tableOk_ascii {t : List (Option Nat)} (h : tableOk t = true) (i : Nat) (hi : i < 128) :
    t[i]? = some (some i) := by
  simp only [tableOk, Bool.and_eq_true, beq_iff_eq] at h
  have : (t.take 128)[i]? = some (some i) := by rw [h.2]; simp [hi]
  rw [List.getElem?_take] at this
  simpa [hi] using this

theorem tableEnc_spec {t : List (Option Nat)} (h : tableOk t = true) (ch b : Char) (he : tableEncChar t ch = some b) :
    b.toNat < 256 ∧ t[b.toNat]? = some (some ch.toNat) := by
  unfold tableEncChar at he
  cases hf : tableFind ch.toNat t 0 with
  | none => simp [hf] at he
  | some k =>
    simp [hf] at he
    obtain ⟨_, h2⟩ := tableFind_spec ch.toNat t 0 k hf
    simp only [Nat.sub_zero] at h2
    have hk : k < 256 := by
      simp only [tableOk, Bool.and_eq_true, beq_iff_eq] at h
      exact h.1 ▸ (List.getElem?_eq_some_iff.mp h2).1
    subst he
    rw [toNat_ofNat_byte k hk]
    exact ⟨hk, h2⟩

theorem mapM_cons_opt {α β} (f : α → Option β) (a : α) (l : List α) :
    (a :: l).mapM f = (f a).bind (fun x => (l.mapM f).map (fun r => x :: r)) := by
  rw [List.mapM_cons]
  cases f a <;> cases l.mapM f <;> rfl

theorem mapM_single {α β} {f : α → Option β} {a : α} {b : List β} (h : [a].mapM f = some b) :
    ∃ x, f a = some x ∧ b = [x] := by
  rw [mapM_cons_opt, List.mapM_nil] at h
  cases he : f a with
  | none => rw [he] at h; cases h
  | some x => rw [he] at h; exact ⟨x, rfl, (Option.some.inj h).symm⟩

/-- a codec that maps character by character, one byte each -/
theorem charCodec_good (f g : Char → Option Char) (hasc : ∀ ch : Char, ch.toNat < 128 → f ch = some ch)
    (hhigh : ∀ ch b : Char, 128 ≤ ch.toNat → f ch = some b → 128 ≤ b.toNat)
    (hinv : ∀ ch b : Char, f ch = some b → g b = some ch) :
    Codec.Good { bom := [], enc := fun s => s.mapM f, dec := fun b => b.mapM g } where
  enc_nil := rfl
  enc_cons := by
    intro ch s
    simp only [mapM_cons_opt, List.mapM_nil]
    cases f ch <;> cases List.mapM f s <;> rfl
  ascii := by
    intro ch h
    simp only [mapM_cons_opt, List.mapM_nil, hasc ch h]
    rfl
  high := by
    intro ch b h hb x hx
    obtain ⟨b0, he, rfl⟩ := mapM_single hb
    cases List.mem_singleton.mp hx
    exact hhigh ch _ h he
  bom_high := fun _ hx => nomatch hx
  dec_enc := by
    intro s
    induction s with
    | nil => intro b hb; cases hb; rfl
    | cons ch s ih =>
      intro b hb
      simp only [mapM_cons_opt] at hb ih ⊢
      cases he : f ch with
      | none => rw [he] at hb; cases hb
      | some b0 =>
        cases hs : List.mapM f s with
        | none => rw [he, hs] at hb; cases hb
        | some bs =>
          rw [he, hs] at hb
          cases hb
          rw [mapM_cons_opt, hinv ch b0 he, ih bs hs]
          rfl

theorem tableCodec_good (t : List (Option Nat)) (h : tableOk t = true) : (tableCodec t).Good := by
  refine charCodec_good (tableEncChar t) (tableDecByte t) ?_ ?_ ?_
  · intro ch hch
    -- the search stops at or before `ch.toNat`, where the table is the identity
    obtain ⟨k, hk, hle⟩ := tableFind_some ch.toNat t 0 ch.toNat (tableOk_ascii h _ hch)
    have h2 := (tableFind_spec ch.toNat t 0 k hk).2
    rw [Nat.zero_add] at hle
    rw [Nat.sub_zero, tableOk_ascii h k (Nat.lt_of_le_of_lt hle hch)] at h2
    cases h2
    rw [tableEncChar, hk]
    exact congrArg some (Char.ofNat_toNat ch)
  · intro ch b hch he
    have h2 := (tableEnc_spec h ch b he).2
    refine Nat.le_of_not_lt fun hlt => ?_
    rw [tableOk_ascii h _ hlt] at h2
    exact absurd hlt (Nat.not_lt.mpr (Option.some.inj (Option.some.inj h2) ▸ hch))
  · intro ch b he
    rw [tableDecByte, (tableEnc_spec h ch b he).2]
    exact congrArg some (Char.ofNat_toNat ch)

theorem cp1252_tableOk : tableOk Gen.Cp1252.table = true := by decide +kernel

theorem cp1252_good : cp1252.Good := tableCodec_good _ cp1252_tableOk

/-- The code of every character is a `lead` byte followed by non-`lead` bytes, and no code is a
proper prefix of another one.  (utf-8: `lead` = "not a continuation byte"; single-byte codecs:
every byte.)  Consequence: an encoded string occurs in an encoded text only at character
boundaries, as the encoding of an occurrence of the string. -/
structure Codec.Sync (c : Codec) (lead : Char → Bool) : Prop where
  shape : ∀ ch b, c.enc [ch] = some b → ∃ h t, b = h :: t ∧ lead h = true ∧ ∀ x ∈ t, lead x = false
  prefix_free : ∀ ch1 ch2 b1 b2, c.enc [ch1] = some b1 → c.enc [ch2] = some b2 → b1 <+: b2 → ch1 = ch2

theorem Codec.Sync.syncOn {c : Codec} {lead : Char → Bool} (sy : c.Sync lead) : c.SyncOn (fun _ => True) where
  tail_free := fun ce be ch h t _ hbe hb x hx hhd => by
    obtain ⟨h0, t0, rfl, hl0, _⟩ := sy.shape ce be hbe
    obtain ⟨h1, t1, e1, _, hnl⟩ := sy.shape ch _ hb
    cases e1
    cases hhd
    rw [hnl _ hx] at hl0
    cases hl0
  prefix_free := fun ce be ch b _ hbe hb hp =>
    hp.elim (fun h => (sy.prefix_free ce ch _ _ hbe hb h).symm) (fun h => sy.prefix_free ch ce _ _ hb hbe h)

def utf8Lead (b : Char) : Bool := !isCont b

theorem utf8EncChar_prefix (a b : Char) (h : utf8EncChar a <+: utf8EncChar b) : a = b := by
  obtain ⟨r, hr⟩ := h
  have h1 := utf8Dec_encChar a r
  have h2 := utf8Dec_encChar b []
  rw [hr] at h1
  simp only [List.append_nil] at h2
  rw [h2, show utf8Dec [] = some [] from rfl] at h1
  cases hd : utf8Dec r with
  | none => simp [hd] at h1
  | some s => simp [hd] at h1; exact h1.1.symm

theorem utf8Body_sync (bom : Bytes) :
    Codec.Sync { bom := bom, enc := fun s => some (utf8Enc s), dec := utf8Dec } utf8Lead where
  shape := by
    intro ch b hb
    simp only [utf8Enc_single, Option.some.injEq] at hb
    subst hb
    by_cases h1 : ch.toNat < 0x80
    · refine ⟨ch, [], utf8EncChar_one ch h1, ?_, fun _ hx => nomatch hx⟩
      simp only [utf8Lead, isCont, Nat.not_le.mpr h1, decide_false, Bool.false_and, Bool.not_false]
    · obtain ⟨l, t, e, hl, ht⟩ := utf8EncChar_shape ch (Nat.not_lt.mp h1)
      refine ⟨l, t, e, ?_, fun x hx => ?_⟩
      · simp only [utf8Lead, isCont, Nat.not_lt.mpr hl, decide_false, Bool.and_false, Bool.not_false]
      · rw [utf8Lead, List.all_eq_true.mp ht x hx]
        rfl
  prefix_free := by
    intro a b b1 b2 h1 h2 hp
    simp only [utf8Enc_single, Option.some.injEq] at h1 h2
    subst h1; subst h2
    exact utf8EncChar_prefix a b hp

theorem utf8_sync : utf8.Sync utf8Lead := utf8Body_sync []
theorem utf8sig_sync : utf8sig.Sync utf8Lead := utf8Body_sync bomUtf8

/-- a `Good` codec whose characters are single bytes is self-synchronising (every byte leads) -/
theorem singleByte_sync (c : Codec) (g : c.Good)
    (h1 : ∀ ch b, c.enc [ch] = some b → ∃ x, b = [x]) : c.Sync (fun _ => true) where
  shape := by
    intro ch b hb
    obtain ⟨x, rfl⟩ := h1 ch b hb
    exact ⟨x, [], rfl, rfl, by simp⟩
  prefix_free := by
    intro a b b1 b2 ha hb hp
    obtain ⟨x, rfl⟩ := h1 a b1 ha
    obtain ⟨y, rfl⟩ := h1 b b2 hb
    have : x = y := by
      obtain ⟨r, hr⟩ := hp
      simp at hr; exact hr.1
    subst this
    have d1 := g.dec_enc _ _ ha
    have d2 := g.dec_enc _ _ hb
    rw [d1] at d2
    simpa using d2

theorem latin1_sync : latin1.Sync (fun _ => true) :=
  singleByte_sync latin1 latin1_good (by
    intro ch b hb
    simp only [latin1, List.all_cons, List.all_nil, Bool.and_true] at hb
    split at hb
    · cases hb; exact ⟨ch, rfl⟩
    · cases hb)

theorem tableCodec_sync (t : List (Option Nat)) (h : tableOk t = true) : (tableCodec t).Sync (fun _ => true) :=
  singleByte_sync _ (tableCodec_good t h) fun _ _ hb => (mapM_single hb).imp fun _ hx => hx.2

theorem cp1252_sync : cp1252.Sync (fun _ => true) := tableCodec_sync _ cp1252_tableOk

/-- utf-8-sig: the signature is the encoding of U+FEFF, so the exact condition is on the first
*character* of the EOL -/
theorem loadFile_custom_utf8sig (fs : FS) (p t eol : Str) (hstd : isStdEol eol = false) (hne : eol ≠ [])
    (hb : eol.head? ≠ some (Char.ofNat 0xFEFF)) (hdisk : fs p = some (bomUtf8 ++ utf8Enc t)) :
    loadFile utf8sig fs p ['t'] eol = .ok (.str (replace eol lf t)) := by
  apply loadFile_custom utf8sig _ p eol _ _ hstd (utf8Enc eol) rfl hne hdisk
  have hcat : bomUtf8 ++ utf8Enc t = utf8Enc (Char.ofNat 0xFEFF :: t) := by
    rw [utf8Enc_cons, bomUtf8_eq]
  have hlf : utf8.enc lf = some lf := utf8_good.ascii '\n' (by decide)
  have hr := replace_enc utf8_good utf8_sync.syncOn eol lf (utf8Enc eol) lf hne (fun _ _ => trivial) rfl hlf
    (Char.ofNat 0xFEFF :: t) _ rfl
  have hr' : utf8Enc (replace eol lf (Char.ofNat 0xFEFF :: t)) = replace (utf8Enc eol) lf (utf8Enc (Char.ofNat 0xFEFF :: t)) :=
    Option.some.inj hr
  rw [hcat, ← hr']
  have hsw : startsWith (Char.ofNat 0xFEFF :: t) eol = false := by
    cases eol with
    | nil => exact absurd rfl hne
    | cons e0 es =>
      exact startsWith_cons_ne _ _ _ _ (fun e => hb (by simp [← e]))
  rw [replace_cons_nomatch _ _ _ _ hsw, utf8Enc_cons, ← bomUtf8_eq]
  exact utf8sig_decode_bom _

end N0.Files
