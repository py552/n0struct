import N0Verif.Model.FindAll
import N0Verif.Proofs.XPathTree
import N0Verif.Proofs.TreeLemmas
/-!
  `step` takes the recursive call as a parameter, so each fact about every call of `_findall` (`Model/FindAll.lean`) —
  what it may do to the two objects it received, which exceptions it can raise, what holds of every pair it reports —
  is one case analysis over the kinds of step (the `*_cases` rules), without fuel.

  Prefixes of lemma names in the findall modules: `fa_` the function `fa` (`_findall`) whatever the expression; `fad` the
  descendant search `'//*/name'` (`fadT` its tokens) from a dict root, `fal_` the list-root twin (also `…_list`); `fat`,
  `fatn`, `fatl` that search with a tail: one key (`tailOf`), n keys (`tailN`), one key with lists below `name` (`tailOfL`).
-/
namespace N0.FindAll
open N0 N0.Py N0.Val

/-- the exceptions of a token itself (`Unsupported` = outside the model's scope) -/
def FaTokErr (e : PyErr) : Prop := e = .TypeError ∨ e = .ValueError ∨ e = .SyntaxError ∨ e = .Unsupported

/-- **what `classify` can answer**: `'..'`, the token itself as a name, an index, `[*]`, a `text()` condition, or
one of the exceptions of a token: TypeError (malformed bracket, unknown condition), ValueError (`int()`, the
unpacking of the `split`), SyntaxError (`eval` of `last()…`) -/
theorem classify_cases (tok : Str) {Q : Step → Prop} (hup : Q .up) (hname : Q (.name tok))
    (hfail : ∀ e, FaTokErr e → Q (.fail e)) (hidx : ∀ i, Q (.idx i)) (hstar : Q .star)
    (htext : ∀ b v, Q (.text b v)) : Q (classify tok) := by
  have ite : ∀ (c : Prop) [Decidable c] (a b : Step), Q a → Q b → Q (if c then a else b) := by
    intro c _ a b ha hb
    split <;> assumption
  have hT : Q (.fail .TypeError) := hfail _ (Or.inl rfl)
  have hV : Q (.fail .ValueError) := hfail _ (Or.inr (Or.inl rfl))
  unfold classify
  refine ite _ _ _ hup ?_
  refine ite _ _ _ ?_ hname
  refine ite _ _ _ hT ?_
  refine ite _ _ _ (hfail _ (Or.inr (Or.inr (Or.inr rfl)))) ?_
  refine ite _ _ _ ?_ ?_
  · generalize XPath.pyInt _ = x
    cases x
    · exact hV
    · exact hidx _
  refine ite _ _ _ hstar ?_
  refine ite _ _ _ ?_ ?_
  · generalize evalLast _ = x
    cases x
    · exact hfail _ (Or.inr (Or.inr (Or.inl rfl)))
    · exact hidx _
  refine ite _ _ _ ?_ hT
  dsimp only
  generalize (if startsWith _ ['=', '='] = true then some (true, ['=', '=']) else _ : Option (Bool × Str)) = c
  cases c with
  | none => exact hT
  | some p =>
    obtain ⟨eq, delim⟩ := p
    dsimp only
    generalize XPath.splitOnce _ _ = y
    cases y with
    | none => exact hV
    | some q => exact htext _ _

theorem classify_fail_kind (tok : Str) (e : PyErr) (h : classify tok = .fail e) : FaTokErr e := by
  revert h
  refine classify_cases tok (Q := fun s => s = .fail e → FaTokErr e) ?_ ?_ ?_ ?_ ?_ ?_
  · intro h; cases h
  · intro h; cases h
  · intro e' he' h; cases h; exact he'
  · intro _ h; cases h
  · intro h; cases h
  · intro _ _ h; cases h

theorem classify_name {tok n : Str} (h : classify tok = .name n) : n = tok := by
  revert h
  refine classify_cases tok (Q := fun s => s = .name n → n = tok) ?_ ?_ ?_ ?_ ?_ ?_
  · intro h; cases h
  · intro h; cases h; rfl
  · intro _ _ h; cases h
  · intro _ h; cases h
  · intro h; cases h
  · intro _ _ h; cases h

theorem step_cases {rec : Val → List Str → FL → PS → Out} {re : Bool} {node : Val} {fl : FL} {ps : PS}
    {P : Out → Prop} (toks : List Str)
    (hnil : P ⟨.ok (some [(keyOf fl, node)]), fl, ps⟩)
    (hup : ∀ rest, P (stepUp rec re rest fl ps))
    (hfail : ∀ e, FaTokErr e → P ⟨.error e, fl, ps⟩)
    (htext : ∀ rest eq v, P (stepText rec node rest eq v fl ps))
    (hidx : ∀ rest i, P (stepIdx rec re node rest i fl ps))
    (hstar : ∀ rest, P (stepStar rec re node rest fl ps))
    (hname : ∀ tok rest, P (stepName rec re node tok rest fl ps)) :
    P (step rec re node toks fl ps) := by
  unfold step
  split
  · exact hnil
  · next tok rest =>
    split
    · exact hup _
    · next e he => exact hfail e (classify_fail_kind tok e he)
    · exact htext _ _ _
    · exact hidx _ _
    · exact hstar _
    · next n hn => rw [classify_name hn]; exact hname _ _

/-- the comparison of a `text()` condition raises nothing (fix C19-f); `Unsupported` is the model's scope marker (a
float node, `lower()` beyond ASCII) -/
theorem textEq_err {node : Val} {v : Str} {e : PyErr} (h : textEq node v = .error e) : e = .Unsupported := by
  unfold textEq at h
  split at h
  · split at h
    · cases h; rfl
    · cases h
  · split at h
    · split at h
      · cases h
      · cases h; rfl
    · split at h
      · cases h; rfl
      · cases h
  all_goals cases h

theorem stepText_cases (rec : Val → List Str → FL → PS → Out) (node : Val) (rest : List Str) (eq : Bool) (v : Str)
    (fl : FL) (ps : PS) :
    stepText rec node rest eq v fl ps = ⟨.error .Unsupported, fl, ps⟩ ∨
    stepText rec node rest eq v fl ps = ⟨.ok Option.none, fl, ps⟩ ∨
    (textEq node v = .ok eq ∧
      stepText rec node rest eq v fl ps =
        ⟨(rec node rest fl (push ps fl node)).res, (rec node rest fl (push ps fl node)).fl, ps⟩) := by
  unfold stepText
  split
  · rename_i e he
    cases textEq_err he
    exact Or.inl rfl
  · rename_i b hb
    split
    · exact Or.inr (Or.inl rfl)
    · rename_i hne
      refine Or.inr (Or.inr ⟨?_, rfl⟩)
      rw [hb]
      cases b <;> cases eq <;> simp_all

/-! ### the branches of each kind of step

Every branch ends with a `Miss` and both objects as they were, or hands on the outcome of recursive calls. -/

def Miss (re : Bool) (r : PyM (Option Found)) : Prop :=
  r = .ok Option.none ∨ r = .error .Unsupported ∨ r = raiseOr re .IndexError ∨ r = raiseOr re .KeyError

section cases
variable {P : Out → Prop} (rec : Val → List Str → FL → PS → Out) (re : Bool) (node : Val) (rest : List Str) (fl : FL) (ps : PS)
  (hmiss : ∀ r, Miss re r → P ⟨r, fl, ps⟩)
include hmiss

theorem stepUp_cases
    (hrec : ∀ target, fl.isEmpty = false → lookup (keyOf fl.dropLast) ps = some target →
      P ⟨(rec target rest fl.dropLast ps).res, fl, (rec target rest fl.dropLast ps).ps⟩) :
    P (stepUp rec re rest fl ps) := by
  unfold stepUp
  split
  · exact hmiss _ (Or.inr (Or.inr (Or.inr rfl)))
  · rename_i target hl
    split at hl
    · cases hl
    · rename_i hne
      exact hrec target (by simpa using hne) hl

/-- `found_xpath_list[-1] += s`, an empty list having been rebound to `[""]` first (the received object stays empty) -/
def addLast (fl : FL) (s : Str) : FL :=
  let cur : FL := if fl.isEmpty then [[]] else fl
  setLast cur (cur.getLast?.getD [] ++ s)

theorem stepIdx_cases (i : Int)
    (hrec : ∀ c xs n child, node = .list c xs → XPath.normIdx i xs.length = some n → xs[n]? = some child →
      ∀ fl1, fl1 = addLast fl (XPath.bracket (intRepr i)) →
      P ⟨(rec child rest fl1 (push ps fl1 node)).res,
        if fl.isEmpty then fl else (rec child rest fl1 (push ps fl1 node)).fl, ps⟩) :
    P (stepIdx rec re node rest i fl ps) := by
  unfold stepIdx
  split
  · next c xs =>
    split
    · exact hmiss _ (Or.inr (Or.inr (Or.inl rfl)))
    · next n hn =>
      split
      · exact hmiss _ (Or.inr (Or.inl rfl))
      · next child hx =>
        split
        · exact hrec c xs n child rfl hn hx _ rfl
        · exact hmiss _ (Or.inr (Or.inr (Or.inl rfl)))
  · split
    · exact hmiss _ (Or.inr (Or.inr (Or.inl rfl)))
    · exact hmiss _ (Or.inr (Or.inr (Or.inr rfl)))
  · exact hmiss _ (Or.inl rfl)

theorem stepStar_cases
    (hrec : ∀ c xs r, node = .list c xs →
      r = starLoop (fun x cur1 => rec x rest cur1 (push ps cur1 node)) re
        ((if fl.isEmpty then ([[]] : FL) else fl).getLast?.getD []) 0 xs (if fl.isEmpty then [[]] else fl) [] →
      P ⟨r.1, if fl.isEmpty then fl else r.2, ps⟩) :
    P (stepStar rec re node rest fl ps) := by
  unfold stepStar
  split
  · exact hrec _ _ _ rfl rfl
  · exact hmiss _ (Or.inr (Or.inr (Or.inl rfl)))
  · exact hmiss _ (Or.inl rfl)

theorem stepName_cases (tok : Str)
    (hlist : ∀ c xs, node = .list c xs → P (rec node (['[', '*', ']'] :: tok :: rest) fl ps))
    (hstarE : ∀ c kvs o e, node = .dict c kvs → o = rec node rest fl ps → o.res = .error e → P ⟨.error e, o.fl, o.ps⟩)
    (hstar : ∀ c kvs o f1, node = .dict c kvs → o = rec node rest fl ps → o.res = .ok f1 →
      P ⟨keysLoop (fun k x => rec x (tok :: rest) (o.fl ++ [k]) (push o.ps o.fl node)) kvs (upd [] f1), o.fl, o.ps⟩)
    (hkey : ∀ c kvs x, node = .dict c kvs → lookup tok kvs = some x →
      P ⟨(rec x rest (fl ++ [tok]) (push ps fl node)).res, fl, ps⟩) :
    P (stepName rec re node tok rest fl ps) := by
  unfold stepName
  split
  · exact hlist _ _ rfl
  · split
    · exact hmiss _ (Or.inr (Or.inr (Or.inr rfl)))
    · split
      · dsimp only
        split
        · next e he => exact hstarE _ _ _ e rfl rfl he
        · next f1 hf1 => exact hstar _ _ _ f1 rfl rfl hf1
      · split
        · next x hl => exact hkey _ _ x rfl hl
        · exact hmiss _ (Or.inl rfl)
  · exact hmiss _ (Or.inl rfl)

end cases

/-- what a call on `node` may do to the list object `fl` and the stack object `ps` it received: nothing to the
stack; of the list only the last element may change (the in-place updates `found_xpath_list[-1] += …` /
`found_xpath_list[-1] = …`), and nothing at all when the list is empty (those updates are only reached after
the local name was rebound to a fresh `[""]`) or the node is a dictionary (they happen on list nodes) -/
def Frame (node : Val) (fl : FL) (ps : PS) (o : Out) : Prop :=
  o.ps = ps ∧ o.fl.dropLast = fl.dropLast ∧ ((fl = [] ∨ ∃ c kvs, node = .dict c kvs) → o.fl = fl)

theorem Frame.same (node : Val) (r : PyM (Option Found)) (fl : FL) (ps : PS) : Frame node fl ps ⟨r, fl, ps⟩ :=
  ⟨rfl, rfl, fun _ => rfl⟩

theorem setLast_dropLast (fl : FL) (s : Str) : (setLast fl s).dropLast = fl.dropLast := by
  simp [setLast]

theorem addLast_dropLast (fl : FL) (s : Str) : (addLast fl s).dropLast = (if fl.isEmpty then [[]] else fl).dropLast :=
  setLast_dropLast _ _

theorem starLoop_dl (call : Val → FL → Out) (re : Bool) (last : Str)
    (hc : ∀ c cur, (call c cur).fl.dropLast = cur.dropLast) :
    ∀ (xs : List Val) (i : Nat) (cur : FL) (acc : Found),
      (starLoop call re last i xs cur acc).2.dropLast = cur.dropLast := by
  intro xs
  induction xs with
  | nil => intros; rfl
  | cons c cs ih =>
    intro i cur acc
    simp only [starLoop]
    split
    · split
      · simp only [hc, setLast_dropLast]
      · rw [ih, hc, setLast_dropLast]
    · rfl

/-- the local name after `if not len(found_xpath_list): found_xpath_list = [""]`: what is written into it
reaches the received object only when that was not empty -/
theorem frame_rebound (c : Cls) (xs : List Val) (fl : FL) (ps : PS) (r : PyM (Option Found)) (out : FL)
    (h : out.dropLast = (if fl.isEmpty then [[]] else fl).dropLast) :
    Frame (.list c xs) fl ps ⟨r, if fl.isEmpty then fl else out, ps⟩ := by
  cases fl with
  | nil => exact Frame.same _ r [] ps
  | cons a l => exact ⟨rfl, h, fun h' => by rcases h' with h' | ⟨_, _, h'⟩ <;> cases h'⟩

theorem step_frame {rec : Val → List Str → FL → PS → Out} (hr : ∀ n t f p, Frame n f p (rec n t f p)) (re : Bool)
    (node : Val) (toks : List Str) (fl : FL) (ps : PS) : Frame node fl ps (step rec re node toks fl ps) := by
  have hmiss : ∀ r, Miss re r → Frame node fl ps ⟨r, fl, ps⟩ := fun r _ => Frame.same _ _ _ _
  refine step_cases toks (Frame.same _ _ _ _) ?_ (fun e _ => Frame.same _ _ _ _) ?_ ?_ ?_ ?_
  · -- '..': a copy of the shorter path, the same stack object
    intro rest
    exact stepUp_cases rec re rest fl ps hmiss (fun target _ _ => ⟨(hr _ _ _ _).1, rfl, fun _ => rfl⟩)
  · -- text(): the same list object, a copy of the stack
    intro rest eq v
    rcases stepText_cases rec node rest eq v fl ps with h | h | ⟨_, h⟩ <;> rw [h]
    · exact Frame.same _ _ _ _
    · exact Frame.same _ _ _ _
    · exact ⟨rfl, (hr _ _ _ _).2⟩
  · -- index: `[-1] += "[i]"` on the (rebound) list, handed on to the child
    intro rest i
    refine stepIdx_cases rec re node rest fl ps hmiss i (fun c xs n child hnode _ _ fl1 hfl1 => ?_)
    subst hnode hfl1
    exact frame_rebound _ _ fl ps _ _ (by rw [(hr _ _ _ _).2.1, addLast_dropLast])
  · -- [*]: `[-1] = …` for every element
    intro rest
    refine stepStar_cases rec re node rest fl ps hmiss (fun c xs r hnode hr' => ?_)
    subst hnode hr'
    exact frame_rebound _ _ fl ps _ _ (starLoop_dl _ re _ (fun c cur => (hr _ _ _ _).2.1) _ _ _ _)
  · -- name: the same objects (on a list, and for the self check of `*`), copies otherwise
    intro tok rest
    exact stepName_cases rec re node rest fl ps hmiss tok (fun _ _ _ => hr _ _ _ _)
      (fun _ _ _ _ _ ho _ => by subst ho; exact hr _ _ _ _) (fun _ _ _ _ _ ho _ => by subst ho; exact hr _ _ _ _)
      (fun _ _ _ _ _ => Frame.same _ _ _ _)

theorem fa_frame (re : Bool) : ∀ (fuel : Nat) (node : Val) (toks : List Str) (fl : FL) (ps : PS),
    Frame node fl ps (fa re fuel node toks fl ps) := by
  intro fuel
  induction fuel with
  | zero => intro node toks fl ps; exact Frame.same _ _ _ _
  | succ f ih => intro node toks fl ps; exact step_frame ih re node toks fl ps

theorem fa_ps (re : Bool) (fuel : Nat) (node : Val) (toks : List Str) (fl : FL) (ps : PS) :
    (fa re fuel node toks fl ps).ps = ps := (fa_frame re fuel node toks fl ps).1

theorem fa_dl (re : Bool) (fuel : Nat) (node : Val) (toks : List Str) (fl : FL) (ps : PS) :
    (fa re fuel node toks fl ps).fl.dropLast = fl.dropLast := (fa_frame re fuel node toks fl ps).2.1

theorem fa_fl_nil (re : Bool) (fuel : Nat) (node : Val) (toks : List Str) (ps : PS) :
    (fa re fuel node toks [] ps).fl = [] := (fa_frame re fuel node toks [] ps).2.2 (Or.inl rfl)

theorem fa_fl_dict (re : Bool) (fuel : Nat) (c : Cls) (kvs : List (Str × Val)) (toks : List Str) (fl : FL) (ps : PS) :
    (fa re fuel (.dict c kvs) toks fl ps).fl = fl := (fa_frame re fuel _ toks fl ps).2.2 (Or.inr ⟨c, kvs, rfl⟩)

theorem findallTop_state (fuel : Nat) (t : Val) (e : Str) (re : Bool := true) :
    (findallTop fuel fresh t e re).state = fresh := by
  simp only [findallTop, fresh, Out.state, fa_ps, fa_fl_nil]

/-- a statement about `_findall` on the tokens of an expression is a statement about `findall` on the expression -/
theorem findallTop_of_tokens {e : Str} {T : List Str} (ht : tokens e = T) {re : Bool} {t : Val}
    {r : PyM (Option Found)} (h : ∃ N, ∀ fuel ≥ N, (fa re fuel t T [] []).res = r) :
    ∃ n, ∀ fuel ≥ n, (findallTop fuel fresh t e re).res = r := by
  obtain ⟨n, hN⟩ := h
  refine ⟨n, fun fuel hf => ?_⟩
  show (fa re fuel t (tokens e) [] []).res = r
  rw [ht]
  exact hN fuel hf

/-! ## which exceptions a search can raise at all

Those of a token itself (`classify`) or, only with `raise_exception=True`, the two signals for "not there" (IndexError,
KeyError).  The `text()` branch raises nothing: fix C19-f, `parent_node.lower()` on a node that is not a string is
no AttributeError. -/

def FaErrIn (Q : PyErr → Prop) (r : PyM (Option Found)) : Prop := ∀ e, r = .error e → Q e

theorem faErrIn_ok {Q : PyErr → Prop} (f : Option Found) : FaErrIn Q (.ok f) := by intro e h; cases h
theorem faErrIn_err {Q : PyErr → Prop} {e : PyErr} (h : Q e) : FaErrIn Q (.error e) := by
  intro e' h'; cases h'; exact h
theorem faErrIn_raiseOr {Q : PyErr → Prop} (re : Bool) (e : PyErr) (h : re = true → Q e) :
    FaErrIn Q (raiseOr re e) := by
  cases re
  · exact faErrIn_ok _
  · exact faErrIn_err (h rfl)

theorem starLoop_errIn {Q : PyErr → Prop} (call : Val → FL → Out) (re : Bool) (last : Str)
    (hI : re = true → Q .IndexError) (hc : ∀ c cur, FaErrIn Q (call c cur).res) :
    ∀ (xs : List Val) (i : Nat) (cur : FL) (acc : Found), FaErrIn Q (starLoop call re last i xs cur acc).1 := by
  intro xs
  induction xs with
  | nil => intro i cur acc; exact faErrIn_ok _
  | cons c cs ih =>
    intro i cur acc
    unfold starLoop
    split
    · have h := hc c (setLast cur (last ++ XPath.bracket (natRepr i)))
      dsimp only
      split
      · next e he => rw [he] at h; exact h
      · exact ih _ _ _
    · exact faErrIn_raiseOr _ _ hI

theorem keysLoop_errIn {Q : PyErr → Prop} (call : Str → Val → Out) (hc : ∀ k c, FaErrIn Q (call k c).res) :
    ∀ (kvs : List (Str × Val)) (acc : Found), FaErrIn Q (keysLoop call kvs acc) := by
  intro kvs
  induction kvs with
  | nil => intro acc; exact faErrIn_ok _
  | cons kc rest ih =>
    intro acc
    obtain ⟨k, c⟩ := kc
    unfold keysLoop
    split
    · have h := hc k c
      split
      · next e he => rw [he] at h; exact h
      · exact ih _
    · exact ih _

section
variable {rec : Val → List Str → FL → PS → Out} {Q : PyErr → Prop} (re : Bool)
  (hr : ∀ n t f p, FaErrIn Q (rec n t f p).res)
  (hT : ∀ e, FaTokErr e → Q e) (hI : re = true → Q .IndexError) (hK : re = true → Q .KeyError)
include hr hT hI hK

theorem step_errIn (node : Val) (toks : List Str) (fl : FL) (ps : PS) :
    FaErrIn Q (step rec re node toks fl ps).res := by
  have hU : Q .Unsupported := hT _ (by simp [FaTokErr])
  have hmiss : ∀ r, Miss re r → FaErrIn Q (Out.mk r fl ps).res := by
    rintro r (h | h | h | h) <;> rw [h]
    · exact faErrIn_ok _
    · exact faErrIn_err hU
    · exact faErrIn_raiseOr _ _ hI
    · exact faErrIn_raiseOr _ _ hK
  refine step_cases (P := fun o => FaErrIn Q o.res) toks (faErrIn_ok _) ?_ (fun e he => faErrIn_err (hT e he)) ?_ ?_ ?_ ?_
  · intro rest
    exact stepUp_cases (P := fun o => FaErrIn Q o.res) rec re rest fl ps hmiss (fun _ _ _ => hr _ _ _ _)
  · -- text(): raises nothing itself
    intro rest eq v
    rcases stepText_cases rec node rest eq v fl ps with h | h | ⟨_, h⟩ <;> rw [h]
    · exact faErrIn_err hU
    · exact faErrIn_ok _
    · exact hr _ _ _ _
  · intro rest i
    exact stepIdx_cases (P := fun o => FaErrIn Q o.res) rec re node rest fl ps hmiss i (fun _ _ _ _ _ _ _ _ _ => hr _ _ _ _)
  · intro rest
    exact stepStar_cases (P := fun o => FaErrIn Q o.res) rec re node rest fl ps hmiss
      (fun _ _ _ _ h => by subst h; exact starLoop_errIn _ _ _ hI (fun c cur => hr _ _ _ _) _ _ _ _)
  · intro tok rest
    exact stepName_cases (P := fun o => FaErrIn Q o.res) rec re node rest fl ps hmiss tok (fun _ _ _ => hr _ _ _ _)
      (fun _ _ _ e _ ho he => by rw [← he, ho]; exact hr _ _ _ _)
      (fun _ _ _ _ _ _ _ => keysLoop_errIn _ (fun k c => hr _ _ _ _) _ _) (fun _ _ _ _ _ => hr _ _ _ _)

end

theorem fa_errIn (re : Bool) {Q : PyErr → Prop} (hF : Q .OutOfFuel) (hT : ∀ e, FaTokErr e → Q e)
    (hI : re = true → Q .IndexError) (hK : re = true → Q .KeyError) :
    ∀ (fuel : Nat) (n : Val) (t : List Str) (f : FL) (p : PS), FaErrIn Q (fa re fuel n t f p).res := by
  intro fuel
  induction fuel with
  | zero => intro n t f p; exact faErrIn_err hF
  | succ k ih => intro n t f p; exact step_errIn re ih hT hI hK n t f p

theorem fa_no_attribute_error (re : Bool) (fuel : Nat) (n : Val) (t : List Str) (f : FL) (p : PS) :
    (fa re fuel n t f p).res ≠ .error .AttributeError := by
  intro h
  exact fa_errIn re (Q := fun e => e ≠ .AttributeError) (by decide)
    (by intro e he; rcases he with h | h | h | h <;> rw [h] <;> decide) (fun _ => by decide) (fun _ => by decide)
    fuel n t f p _ h rfl

/-! ## `raise_exception=False`: a miss is never signalled by an exception

Every `raise IndexError` / `raise KeyError` of `_findall` is `return None` then (`raiseOr`), and a step on a final
element is a miss too (fix C19-d); what can still be raised are the errors of the expression itself. -/

def OkStep (s : Step) : Prop := s ≠ .fail .IndexError ∧ s ≠ .fail .KeyError
theorem ok_of (s : Step) (h : ∀ e, s = .fail e → e ≠ .IndexError ∧ e ≠ .KeyError) : OkStep s :=
  ⟨fun he => (h _ he).1 rfl, fun he => (h _ he).2 rfl⟩

theorem faTokErr_noMiss {e : PyErr} (h : FaTokErr e) : e ≠ .IndexError ∧ e ≠ .KeyError := by
  rcases h with h | h | h | h <;> rw [h] <;> exact ⟨by decide, by decide⟩

theorem classify_ok (tok : Str) : OkStep (classify tok) :=
  ok_of _ (fun e he => faTokErr_noMiss (classify_fail_kind tok e he))

theorem fa_noMiss (fuel : Nat) (n : Val) (t : List Str) (f : FL) (p : PS) :
    (fa false fuel n t f p).res ≠ .error .IndexError ∧ (fa false fuel n t f p).res ≠ .error .KeyError := by
  have h := fa_errIn false (Q := fun e => e ≠ .IndexError ∧ e ≠ .KeyError) ⟨by decide, by decide⟩
    (fun _ => faTokErr_noMiss) (fun h => by cases h) (fun h => by cases h) fuel n t f p
  exact ⟨fun he => (h _ he).1 rfl, fun he => (h _ he).2 rfl⟩

open N0.XPath

/-! ## what holds of every pair of a result

The two loops put a result together from the results of the recursive calls by `dict.update` (`upd`). -/

section pairs
variable {P : Str × Val → Prop}

theorem upd_all {acc : Found} (h : ∀ kv ∈ acc, P kv) {f : Option Found}
    (hf : ∀ f', f = some f' → ∀ kv ∈ f', P kv) : ∀ kv ∈ upd acc f, P kv := by
  cases f with
  | none => exact h
  | some l =>
    have hl := hf l rfl
    simp only [FindAll.upd]
    clear hf
    induction l generalizing acc with
    | nil => exact h
    | cons e r ih =>
      simp only [List.foldl_cons]
      apply ih
      · intro kv hkv
        rcases mem_kvSet hkv with h' | h'
        · rw [h']; exact hl e (by simp)
        · exact h kv h'
      · intro kv hkv; exact hl kv (by simp [hkv])

theorem starLoop_all (call : Val → FL → Out) (re : Bool) (last : Str) (base : FL)
    (hcall : ∀ c cur, (call c cur).fl.dropLast = cur.dropLast) :
    ∀ (xs : List Val) (i : Nat) (cur : FL) (acc : Found), cur.dropLast = base → (∀ kv ∈ acc, P kv) →
      (∀ j c f, xs[j]? = some c → (call c (base ++ [last ++ XPath.bracket (natRepr (i + j))])).res = .ok (some f) →
        ∀ kv ∈ f, P kv) →
      ∀ f, (starLoop call re last i xs cur acc).1 = .ok (some f) → ∀ kv ∈ f, P kv := by
  intro xs
  induction xs with
  | nil => intro i cur acc _ ha _ f h; simp only [starLoop] at h; cases h; exact ha
  | cons c cs ih =>
    intro i cur acc hcur ha hc f h
    simp only [starLoop] at h
    split at h
    · have hcur1 : setLast cur (last ++ XPath.bracket (natRepr i)) = base ++ [last ++ XPath.bracket (natRepr (i + 0))] := by
        simp [setLast, hcur]
      rw [hcur1] at h
      split at h
      · cases h
      · rename_i f1 hres
        refine ih (i + 1) _ _ ?_ (upd_all ha (fun f' hf' => hc 0 c f' (by simp) (by rw [hres, hf']))) ?_ f h
        · rw [hcall]; simp
        · intro j c' f' hj hres'
          refine hc (j + 1) c' f' (by simpa using hj) ?_
          rw [show i + (j + 1) = i + 1 + j by omega]; exact hres'
    · cases re <;> simp [raiseOr] at h

theorem keysLoop_all (call : Str → Val → Out) :
    ∀ (kvs : List (Str × Val)) (acc : Found), (∀ kv ∈ acc, P kv) →
      (∀ kc ∈ kvs, ∀ f, (call kc.1 kc.2).res = .ok (some f) → ∀ kv ∈ f, P kv) →
      ∀ f, keysLoop call kvs acc = .ok (some f) → ∀ kv ∈ f, P kv := by
  intro kvs
  induction kvs with
  | nil => intro acc ha _ f h; simp only [keysLoop] at h; cases h; exact ha
  | cons e r ih =>
    obtain ⟨k, c⟩ := e
    intro acc ha hc f h
    simp only [keysLoop] at h
    split at h
    · split at h
      · cases h
      · rename_i f1 hres
        exact ih _ (upd_all ha (fun f' hf' => hc (k, c) (by simp) f' (by rw [hres, hf'])))
          (fun kc hkc => hc kc (by simp [hkc])) f h
    · exact ih _ ha (fun kc hkc => hc kc (by simp [hkc])) f h

end pairs

inductive Sub (t : Val) : Val → Prop
  | refl : Sub t t
  | elem {c : Cls} {xs : List Val} {x : Val} : Sub t (.list c xs) → x ∈ xs → Sub t x
  | entry {c : Cls} {kvs : List (Str × Val)} {k : Str} {x : Val} : Sub t (.dict c kvs) → (k, x) ∈ kvs → Sub t x

def AllSub (t : Val) (l : List (Str × Val)) : Prop := ∀ kv ∈ l, Sub t kv.2

theorem AllSub.push {t : Val} {ps : PS} (h : AllSub t ps) (fl : FL) {node : Val} (hn : Sub t node) :
    AllSub t (push ps fl node) := by
  intro kv hkv
  rcases mem_kvSet hkv with rfl | h'
  · exact hn
  · exact h kv h'

/-! ## what every branch hands on to its recursive calls

"Every pair of every result is …" (a node of the tree; a key that spells the position of its value, for either kind of
root): a condition `Inv node fl ps` on the arguments of a call that holds at the start, is handed on by every branch to
the calls it makes, and makes the pair a call reports for its own node good. -/

structure ResInv (Inv : Val → FL → PS → Prop) (P : Str × Val → Prop) : Prop where
  here : ∀ {node fl ps}, Inv node fl ps → P (keyOf fl, node)
  up : ∀ {node fl ps target}, Inv node fl ps → fl.isEmpty = false → lookup (keyOf fl.dropLast) ps = some target →
    Inv target fl.dropLast ps
  register : ∀ {node fl ps}, Inv node fl ps → Inv node fl (push ps fl node)
  idx : ∀ {c xs fl ps} {i : Int} {n : Nat} {child : Val}, Inv (.list c xs) fl ps → XPath.normIdx i xs.length = some n →
    xs[n]? = some child →
    Inv child (addLast fl (XPath.bracket (intRepr i))) (push ps (addLast fl (XPath.bracket (intRepr i))) (.list c xs))
  key : ∀ {c kvs fl ps k child}, Inv (.dict c kvs) fl ps → (k, child) ∈ kvs →
    Inv child (fl ++ [k]) (push ps fl (.dict c kvs))

section res
variable {Inv : Val → FL → PS → Prop} {P : Str × Val → Prop} (R : ResInv Inv P)
include R

theorem step_res {rec : Val → List Str → FL → PS → Out} (hfr : ∀ n t f p, Frame n f p (rec n t f p))
    (hr : ∀ node toks fl ps, Inv node fl ps → ∀ f, (rec node toks fl ps).res = .ok (some f) → ∀ kv ∈ f, P kv)
    (re : Bool) (node : Val) (toks : List Str) (fl : FL) (ps : PS) (hinv : Inv node fl ps)
    (f : Found) (h : (step rec re node toks fl ps).res = .ok (some f)) : ∀ kv ∈ f, P kv := by
  have hmiss : ∀ r, Miss re r → (Out.mk r fl ps).res = .ok (some f) → ∀ kv ∈ f, P kv := by
    rintro r (h | h | h | h) h' <;> rw [h] at h' <;> cases re <;> cases h'
  revert h
  refine step_cases (P := fun o => o.res = .ok (some f) → ∀ kv ∈ f, P kv) toks ?_ ?_ (fun e _ h => by cases h) ?_ ?_ ?_ ?_
  · intro h
    simp only [Except.ok.injEq, Option.some.injEq] at h
    subst h
    intro kv hkv
    rw [List.mem_singleton.1 hkv]
    exact R.here hinv
  · intro rest
    exact stepUp_cases (P := fun o => o.res = .ok (some f) → ∀ kv ∈ f, P kv) rec re rest fl ps hmiss
      (fun target he hl h => hr _ _ _ _ (R.up hinv he hl) f h)
  · -- text(): the condition only filters
    intro rest eq v h
    rcases stepText_cases rec node rest eq v fl ps with h' | h' | ⟨_, h'⟩ <;> rw [h'] at h
    · cases h
    · cases h
    · exact hr _ _ _ _ (R.register hinv) f h
  · intro rest i
    refine stepIdx_cases (P := fun o => o.res = .ok (some f) → ∀ kv ∈ f, P kv) rec re node rest fl ps hmiss i
      (fun c xs n child hnode hn hx fl1 hfl1 h => ?_)
    subst hnode hfl1
    exact hr _ _ _ _ (R.idx hinv hn hx) f h
  · -- [*]: element `j` is the index step `j`
    intro rest
    refine stepStar_cases (P := fun o => o.res = .ok (some f) → ∀ kv ∈ f, P kv) rec re node rest fl ps hmiss
      (fun c xs r hnode hr' h => ?_)
    subst hnode hr'
    refine starLoop_all _ re _ _ (fun c cur => (hfr _ _ _ _).2.1) xs 0 _ [] rfl (by intro kv hkv; cases hkv) ?_ f h
    intro j x f' hj hres
    have hjl : j < xs.length := by
      rcases Nat.lt_or_ge j xs.length with hlt | hge
      · exact hlt
      · rw [List.getElem?_eq_none hge] at hj; cases hj
    rw [Nat.zero_add] at hres
    exact hr _ _ _ _ (R.idx (i := (j : Int)) hinv (XPath.normIdx_nat hjl) hj) f' hres
  · -- name; for `*` the node itself is searched with the same objects, which it leaves as they are
    intro tok rest
    refine stepName_cases (P := fun o => o.res = .ok (some f) → ∀ kv ∈ f, P kv) rec re node rest fl ps hmiss tok
      (fun _ _ _ h => hr _ _ _ _ hinv f h) (fun _ _ _ _ _ _ _ h => by cases h) (fun c kvs o f1 hnode ho hres h => ?_)
      (fun c kvs x hnode hl h => ?_)
    · subst hnode ho
      simp only at h
      rw [(hfr _ _ _ _).2.2 (Or.inr ⟨c, kvs, rfl⟩), (hfr _ _ _ _).1] at h
      have h1 : ∀ kv ∈ upd [] f1, P kv :=
        upd_all (by intro kv hkv; cases hkv) (fun f' hf' => hr _ _ _ _ hinv f' (by rw [hres, hf']))
      refine keysLoop_all _ kvs _ h1 ?_ f h
      intro kc hkc f' hf'
      exact hr _ _ _ _ (R.key hinv (show (kc.1, kc.2) ∈ kvs from hkc)) f' hf'
    · subst hnode
      exact hr _ _ _ _ (R.key hinv (lookup_mem hl)) f h

theorem fa_res (re : Bool) : ∀ (fuel : Nat) (node : Val) (toks : List Str) (fl : FL) (ps : PS), Inv node fl ps →
    ∀ f, (fa re fuel node toks fl ps).res = .ok (some f) → ∀ kv ∈ f, P kv := by
  intro fuel
  induction fuel with
  | zero => intro node toks fl ps _ f h; cases h
  | succ k ih => exact step_res R (fa_frame re k) ih re

end res

theorem fa_sub (t : Val) (re : Bool) (fuel : Nat) (n : Val) (toks : List Str) (fl : FL) (ps : PS) (hn : Sub t n)
    (hps : AllSub t ps) (f : Found) (h : (fa re fuel n toks fl ps).res = .ok (some f)) : AllSub t f :=
  fa_res (Inv := fun node _ ps => Sub t node ∧ AllSub t ps) (P := fun kv => Sub t kv.2)
    { here := fun h => h.1
      up := fun h _ hl => ⟨h.2 _ (lookup_mem hl), h.2⟩
      register := fun h => ⟨h.1, h.2.push _ h.1⟩
      idx := fun h _ hx => ⟨h.1.elem (List.mem_of_getElem? hx), h.2.push _ h.1⟩
      key := fun h hm => ⟨h.1.entry hm, h.2.push _ h.1⟩ }
    re fuel n toks fl ps ⟨hn, hps⟩ f h

/-- merge the outcomes of the elements in order: the first exception wins -/
def mergeAll : List (PyM (Option Found)) → Found → PyM (Option Found)
  | [], acc => .ok (some acc)
  | .error e :: _, _ => .error e
  | .ok f :: rest, acc => mergeAll rest (upd acc f)

def fanCalls (call : Val → FL → Out) (base : FL) (last : Str) : Nat → List Val → List (PyM (Option Found))
  | _, [] => []
  | i, c :: cs => (call c (base ++ [last ++ bracket (natRepr i)])).res :: fanCalls call base last (i + 1) cs

theorem starLoop_fan (call : Val → FL → Out) (re : Bool) (last : Str)
    (hc : ∀ c cur, (call c cur).fl.dropLast = cur.dropLast) :
    ∀ (xs : List Val), (∀ c ∈ xs, isContainer c = true) → ∀ (i : Nat) (cur : FL) (acc : Found),
      (starLoop call re last i xs cur acc).1 = mergeAll (fanCalls call cur.dropLast last i xs) acc := by
  intro xs
  induction xs with
  | nil => intros; rfl
  | cons c cs ih =>
    intro hall i cur acc
    have hcc : isContainer c = true := hall c (by simp)
    simp only [starLoop, hcc, if_true, fanCalls, setLast]
    cases hres : (call c (cur.dropLast ++ [last ++ bracket (natRepr i)])).res with
    | error e => simp [mergeAll]
    | ok f =>
      simp only [mergeAll]
      rw [ih (fun c' hc' => hall c' (by simp [hc'])), hc]
      simp

/-- a name applied to a list is the `[*]` loop with the name kept; an empty path list (the root of an `n0list`) is
rebound to `[""]` first -/
theorem fa_name_list (re : Bool) (f : Nat) (c : Cls) (xs : List Val) {tok : Str} (ht : classify tok = .name tok)
    (rest : List Str) (fl : FL) (ps : PS) :
    (fa re (f + 2) (.list c xs) (tok :: rest) fl ps).res =
      (starLoop (fun x cur1 => fa re f x (tok :: rest) cur1 (push ps cur1 (.list c xs))) re
        (fl.getLast?.getD []) 0 xs (if fl.isEmpty then [[]] else fl) []).1 := by
  have hb : classify ['[', '*', ']'] = .star := by decide
  cases fl <;> simp only [fa, step, ht, stepName, hb, stepStar] <;> rfl

/-- **fan-out**: on a list whose elements are containers a name returns the merged outcomes of all elements in order,
element `i` searched with `[i]` appended to the last element of the path list -/
theorem fa_fanout (re : Bool) (fuel : Nat) (cls : Cls) (xs : List Val) {name : Str} (hn : classify name = .name name)
    (rest : List Str) (fl : FL) (ps : PS) (hall : ∀ x ∈ xs, isContainer x = true) :
    (fa re (fuel + 2) (.list cls xs) (name :: rest) fl ps).res =
      mergeAll (fanCalls (fun c cur => fa re fuel c (name :: rest) cur (push ps cur (.list cls xs)))
        fl.dropLast (fl.getLast?.getD []) 0 xs) [] := by
  rw [fa_name_list re fuel cls xs hn, starLoop_fan _ re _ (fun c cur => fa_dl re fuel c _ cur _) xs hall]
  cases fl <;> rfl

theorem fal_fanout_root (re : Bool) (fuel : Nat) (cls : Cls) (xs : List Val) (name : Str) (rest : List Str)
    (ps : PS) (hn : classify name = .name name) (hall : ∀ x ∈ xs, isContainer x = true) :
    (fa re (fuel + 2) (.list cls xs) (name :: rest) [] ps).res =
      mergeAll (fanCalls (fun c cur => fa re fuel c (name :: rest) cur (push ps cur (.list cls xs)))
        [] [] 0 xs) [] :=
  fa_fanout re fuel cls xs hn rest [] ps hall

end N0.FindAll
