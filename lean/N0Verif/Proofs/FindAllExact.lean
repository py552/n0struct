import N0Verif.Model.FindAll
import N0Verif.Proofs.XPathRender
/-!
  Exact paths: the canonical xpath of a position is turned by `findall` into one token per key and one per index
  (string layer), and that token list finds exactly the node at the position (tree layer), below a dict root and
  below a list root.
-/
namespace N0.FindAll
open N0 N0.Py N0.Val

open N0.XPath in
theorem classify_plain {k : Str} (hk : PlainKey k) : classify k = .name k := by
  unfold classify
  have h1 : stripWs k ≠ ['.', '.'] := by rw [hk.stripWs]; exact hk.notUp
  have h2 : startsWith k ['['] = false := by
    cases k with
    | nil => exact absurd rfl hk.ne
    | cons c k =>
      have := (plainChar_ne (hk.chars c (by simp))).2.1
      simp [startsWith, this]
  simp only [h1, ↓reduceIte, h2, Bool.false_eq_true]

open N0.XPath in
/-- **a plain name on a dictionary**: the branch equation used instead of unfolding `fa`; both objects come back as they
were received -/
theorem fa_key_dict (re : Bool) {k : Str} (hk : PlainKey k) (f : Nat) (c : Cls) (kvs : List (Str × Val)) (rest : List Str)
    (fl : FL) (ps : PS) :
    fa re (f + 1) (.dict c kvs) (k :: rest) fl ps =
      match lookup k kvs with
      | some x => ⟨(fa re f x rest (fl ++ [k]) (push ps fl (.dict c kvs))).res, fl, ps⟩
      | Option.none => ⟨.ok Option.none, fl, ps⟩ := by
  have hke : k.isEmpty = false := by
    cases k with
    | nil => exact absurd rfl hk.ne
    | cons _ _ => rfl
  simp only [fa, step, classify_plain hk, stepName, hke, Bool.false_eq_true, ↓reduceIte, hk.keyTok.notStar]
  cases lookup k kvs <;> rfl

open N0.XPath in
theorem classify_idx (n : Nat) : classify (bracket (natRepr n)) = .idx (n : Int) := by
  have hd : Digits (natRepr n) := natStr_digits n
  unfold classify
  have h1 : stripWs (bracket (natRepr n)) ≠ ['.', '.'] := by
    rw [show natRepr n = natStr n from rfl, bracket_stripWs]; simp [bracket]
  have h2 : startsWith (bracket (natRepr n)) ['['] = true := by simp [bracket, startsWith]
  have h3 : endsWith (bracket (natRepr n)) [']'] = true := by
    rw [show bracket (natRepr n) = ('[' :: natRepr n) ++ [']'] by simp [bracket]]
    exact endsWith_snoc _ _
  have h4 : (bracket (natRepr n)).any (fun c => decide (c.toNat ≥ 128)) = false := by
    have := hd.ascii
    simp only [bracket, List.any_cons, List.any_append, this, List.any_nil]
    decide
  have h5 : ((bracket (natRepr n)).drop 1).dropLast = natRepr n := by
    simp [bracket]
  have h6 : isNumber (natRepr n) = true := by
    unfold isNumber
    simp only [hd.stripWs]
    have hp : startsWith (natRepr n) ['+'] = false ∧ startsWith (natRepr n) ['-'] = false := by
      cases hh : natRepr n with
      | nil => exact absurd hh hd.ne
      | cons c r =>
        have hc := hd.mem_ne c (by rw [hh]; simp)
        simp [startsWith, hc]
    have hdot : (natRepr n).count '.' = 0 := by
      rw [List.count_eq_zero]
      intro hmem
      exact absurd rfl (hd.mem_ne '.' hmem).2.2.2.1
    simp only [hp.1, hp.2, Bool.or_self, Bool.false_eq_true, if_false, hdot]
    have hne : (natRepr n).isEmpty = false := by
      cases hh : natRepr n with
      | nil => exact absurd hh hd.ne
      | cons _ _ => rfl
    have hall : (natRepr n).all isAsciiDigit = true := by
      rw [List.all_eq_true]; exact hd.all
    simp [isNumericAscii, hne, hall]
  simp only [h1, ↓reduceIte, h2, h3, Bool.not_true, Bool.false_eq_true, h4, h5, hd.stripWs, h6,
    pyInt_digits hd]
  rw [show natOfDigits (natRepr n) = n from natOfDigits_natDigits n]

/-- the token of one segment: in a `_findall` expression an index is a token of its own, `[n]` -/
def tokOf : Seg → Str
  | .key k => k
  | .idx n => XPath.bracket (natRepr n)

/-- one token per segment, nothing merged: not `XPath.toksOf`, the tokens of a spelling for `_find`, where a key and an
attached index are one token -/
def toksOf (p : Pos) : List Str := p.map tokOf

/-- `found_xpath_list[-1] += "[n]"` (after the rebinding of an empty list to `[""]`) -/
def bump (fl : FL) (n : Nat) : FL :=
  let cur : FL := if fl.isEmpty then [[]] else fl
  setLast cur (cur.getLast?.getD [] ++ XPath.bracket (natRepr n))

/-- the path list at the end of an exact descent -/
def flPath : FL → Pos → FL
  | fl, [] => fl
  | fl, .key k :: rest => flPath (fl ++ [k]) rest
  | fl, .idx n :: rest => flPath (bump fl n) rest

/-- contents of the received list object after an exact descent: leading index steps write into
it (unless it was empty), the first key step hands on a copy -/
def flOut : FL → Pos → FL
  | fl, .idx n :: rest => if fl.isEmpty then fl else flOut (bump fl n) rest
  | fl, _ => fl

/-- `p` leads from `v` to `c` through plain keys and through indexes of elements that are
containers (the property's quantifier: lists contain dictionaries or lists) -/
def PathOk : Val → Pos → Val → Prop
  | v, [], c => v = c
  | v, .key k :: rest, c =>
    XPath.PlainKey k ∧ ∃ cls kvs x, v = .dict cls kvs ∧ lookup k kvs = some x ∧ PathOk x rest c
  | v, .idx n :: rest, c =>
    ∃ cls xs x, v = .list cls xs ∧ xs[n]? = some x ∧ isContainer x = true ∧ PathOk x rest c

theorem fa_exact (re : Bool) : ∀ (p : Pos) (node c : Val) (fl : FL) (ps : PS) (fuel : Nat),
    PathOk node p c → fuel > p.length →
    fa re fuel node (toksOf p) fl ps = ⟨.ok (some [(keyOf (flPath fl p), c)]), flOut fl p, ps⟩ := by
  intro p
  induction p with
  | nil =>
    intro node c fl ps fuel h hf
    obtain ⟨f, rfl, _⟩ := exists_fuel_add (N := 0) (n := 1) hf
    simp only [PathOk] at h
    subst h
    rfl
  | cons s rest ih =>
    intro node c fl ps fuel h hf
    obtain ⟨f, rfl, hf'⟩ := exists_fuel_add (N := rest.length + 1) (n := 1) hf
    cases s with
    | key k =>
      obtain ⟨hk, cls, kvs, x, rfl, hl, hrest⟩ := h
      simp only [toksOf, List.map_cons, tokOf, fa_key_dict re hk, hl]
      have := ih x c (fl ++ [k]) (push ps fl (Val.dict cls kvs)) f hrest hf'
      simp only [toksOf] at this
      rw [this]
      rfl
    | idx n =>
      obtain ⟨cls, xs, x, rfl, hx, hcont, hrest⟩ := h
      have hn : n < xs.length := by
        rcases Nat.lt_or_ge n xs.length with h | h
        · exact h
        · rw [List.getElem?_eq_none h] at hx; cases hx
      simp only [toksOf, List.map_cons, tokOf, fa, step, classify_idx, stepIdx, XPath.normIdx_nat hn, hx,
        hcont, ↓reduceIte]
      have := ih x c (bump fl n) (push ps (bump fl n) (Val.list cls xs)) f hrest hf'
      simp only [toksOf] at this
      have hb : (setLast (if fl.isEmpty = true then [[]] else fl)
          ((if fl.isEmpty = true then [[]] else fl).getLast?.getD [] ++ XPath.bracket (intRepr (n : Int)))) = bump fl n := rfl
      rw [hb, this]
      simp only [flPath, flOut]

open N0.XPath

theorem PathOk.plain : ∀ {p : Pos} {v c : Val}, PathOk v p c → PlainPos p
  | [], _, _, _ => trivial
  | .key _ :: _, _, _, h => by
    obtain ⟨hk, _, _, _, _, _, hr⟩ := h
    exact ⟨hk, hr.plain⟩
  | .idx _ :: _, _, _, h => by
    obtain ⟨_, _, _, _, _, _, hr⟩ := h
    exact hr.plain

theorem PathOk.getAt : ∀ {p : Pos} {v c : Val}, PathOk v p c → getAt v p = some c
  | [], _, _, h => by simp only [PathOk] at h; subst h; rfl
  | .key k :: _, _, _, h => by
    obtain ⟨_, cls, kvs, x, rfl, hl, hr⟩ := h
    simp only [Val.getAt, child, hl, Option.bind_some]
    exact hr.getAt
  | .idx n :: _, _, _, h => by
    obtain ⟨cls, xs, x, rfl, hx, _, hr⟩ := h
    simp only [Val.getAt, child, hx, Option.bind_some]
    exact hr.getAt

theorem natRepr_noLB (n : Nat) : ∀ c ∈ natRepr n, c ≠ '[' := by
  intro c hc h
  subst h
  have := natDigits_all_digit n '[' hc
  exact absurd this (by decide)

theorem join_snoc (fl : FL) (h : fl ≠ []) (k : Str) : join ['/'] (fl ++ [k]) = join ['/'] fl ++ '/' :: k := by
  rw [join_append ['/'] fl [k] h (List.cons_ne_nil k []), List.append_assoc]
  rfl

theorem join_snoc_append (init : FL) (l br : Str) :
    join ['/'] (init ++ [l ++ br]) = join ['/'] (init ++ [l]) ++ br := by
  cases init with
  | nil => rfl
  | cons x r =>
    rw [join_append _ _ _ (List.cons_ne_nil x r) (List.cons_ne_nil _ []),
      join_append _ _ _ (List.cons_ne_nil x r) (List.cons_ne_nil _ []), List.append_assoc _ _ br]
    rfl

theorem bump_ne_nil (fl : FL) (n : Nat) : bump fl n ≠ [] := by simp [bump, setLast]

theorem flPath_ne_nil : ∀ (p : Pos) (fl : FL), fl ≠ [] ∨ p ≠ [] → flPath fl p ≠ []
  | [], _, h => h.elim id (fun h => absurd rfl h)
  | .key _ :: r, _, _ => flPath_ne_nil r _ (Or.inl (by simp))
  | .idx n :: r, fl, _ => flPath_ne_nil r _ (Or.inl (bump_ne_nil fl n))

theorem join_bump (fl : FL) (h : fl ≠ []) (n : Nat) :
    join ['/'] (bump fl n) = join ['/'] fl ++ bracket (natRepr n) := by
  have he : fl.isEmpty = false := by cases fl with | nil => exact absurd rfl h | cons _ _ => rfl
  obtain ⟨init, l, rfl⟩ : ∃ init l, fl = init ++ [l] := ⟨fl.dropLast, fl.getLast h, (List.dropLast_concat_getLast h).symm⟩
  simp only [bump, he, Bool.false_eq_true, if_false, setLast, List.dropLast_concat, List.getLast?_append,
    List.getLast?_singleton, Option.some_or, Option.getD_some]
  exact join_snoc_append init l _

theorem join_flPath : ∀ (p : Pos) (fl : FL), fl ≠ [] → join ['/'] (flPath fl p) = join ['/'] fl ++ renderPos p
  | [], fl, _ => by simp [flPath, renderPos]
  | .key k :: rest, fl, h => by
    rw [flPath, join_flPath rest (fl ++ [k]) (by simp), join_snoc fl h]
    simp [renderPos, renderSeg]
  | .idx n :: rest, fl, h => by
    rw [flPath, join_flPath rest (bump fl n) (bump_ne_nil fl n), join_bump fl h]
    simp [renderPos, renderSeg, natStr]

theorem delSB_append_noSlash (s t : Str) (h : ∀ c ∈ s, c ≠ '/') : delSB (s ++ t) = s ++ delSB t := by
  induction s with
  | nil => rfl
  | cons c s ih =>
    have hc : c ≠ '/' := h c (by simp)
    simp only [List.cons_append, delSB, hc, false_and, if_false, ih (fun x hx => h x (by simp [hx]))]

theorem delSB_render : ∀ (p : Pos), PlainPos p → delSB (renderPos p) = renderPos p
  | [], _ => rfl
  | .key k :: rest, hp => by
    obtain ⟨hk, hr⟩ := hp
    obtain ⟨c, r, rfl, _, hc2⟩ := PlainKey.head_ne hk
    have : renderPos (.key (c :: r) :: rest) = '/' :: ((c :: r) ++ renderPos rest) := by simp [renderPos, renderSeg]
    rw [this, delSB]
    have hh : ((c :: r) ++ renderPos rest).head? ≠ some '[' := by simp [hc2]
    simp only [hh, and_false, if_false]
    rw [delSB_append_noSlash _ _ hk.noSlash, delSB_render rest hr]
  | .idx n :: rest, hp => by
    have : renderPos (.idx n :: rest) = bracket (natRepr n) ++ renderPos rest := by simp [renderPos, renderSeg, natStr]
    rw [this, delSB_append_noSlash (bracket (natRepr n)) (renderPos rest) (bracket_noSlash n), delSB_render rest hp]

theorem keyOf_flPath (k : Str) (rest : Pos) (hp : PlainPos (.key k :: rest)) :
    keyOf (flPath [] (.key k :: rest)) = slash ++ renderPos (.key k :: rest) := by
  have h1 : join ['/'] (flPath [] (.key k :: rest)) = k ++ renderPos rest := by
    rw [flPath, join_flPath rest ([] ++ [k]) (by simp)]
    simp [join]
  have h2 := delSB_render (Seg.key k :: rest) hp
  have h3 : renderPos (.key k :: rest) = '/' :: (k ++ renderPos rest) := by simp [renderPos, renderSeg]
  obtain ⟨c, r, rfl, _, hc2⟩ := PlainKey.head_ne hp.1
  rw [h3, delSB] at h2
  have hh : ((c :: r) ++ renderPos rest).head? ≠ some '[' := by simp [hc2]
  simp only [hh, and_false, if_false] at h2
  simp only [keyOf, h1, slash, h3]
  simpa using h2

/-- what the tokeniser of `findall` needs of a key (a plain key has it, and so has `'*'`) -/
structure TokKey (k : Str) : Prop where
  ne : k ≠ []
  noSlash : ∀ c ∈ k, c ≠ '/'
  noLB : ∀ c ∈ k, c ≠ '['

def TokPos : Pos → Prop
  | [] => True
  | .key k :: rest => TokKey k ∧ TokPos rest
  | .idx _ :: rest => TokPos rest

theorem TokKey.of_plain {k : Str} (h : PlainKey k) : TokKey k := ⟨h.ne, h.noSlash, PlainKey.noLB h⟩

theorem TokPos.of_plain : ∀ {p : Pos}, PlainPos p → TokPos p
  | [], _ => trivial
  | .key _ :: _, h => ⟨.of_plain h.1, TokPos.of_plain h.2⟩
  | .idx _ :: r, h => TokPos.of_plain (p := r) h

theorem TokPos.keys : ∀ {ks : List Str}, (∀ k ∈ ks, TokKey k) → TokPos (ks.map Seg.key)
  | [], _ => trivial
  | k :: _, h => ⟨h k (by simp), TokPos.keys (fun x hx => h x (by simp [hx]))⟩

theorem TokPos.split {s : Seg} {rest : Pos} (hp : TokPos (s :: rest)) : TokPos [s] ∧ TokPos rest := by
  cases s with
  | key k => exact ⟨⟨hp.1, trivial⟩, hp.2⟩
  | idx n => exact ⟨trivial, hp⟩

/-- the text after `replace("[", "/[")`: every step is preceded by one '/' -/
def renderIns (p : Pos) : Str := p.flatMap (fun s => '/' :: tokOf s)

theorem insLB_append (a b : Str) : insLB (a ++ b) = insLB a ++ insLB b := by
  simp [insLB, List.flatMap_append]

theorem insLB_id (s : Str) (h : ∀ c ∈ s, c ≠ '[') : insLB s = s := by
  induction s with
  | nil => rfl
  | cons c s ih =>
    have hc : c ≠ '[' := h c (by simp)
    have := ih (fun x hx => h x (by simp [hx]))
    simp only [insLB, List.flatMap_cons, hc, if_false] at this ⊢
    simp [this]

theorem insLB_bracket (n : Nat) : insLB (bracket (natRepr n)) = '/' :: bracket (natRepr n) := by
  have h1 : insLB (natRepr n) = natRepr n := insLB_id _ (natRepr_noLB n)
  have : bracket (natRepr n) = ['['] ++ natRepr n ++ [']'] := by simp [bracket]
  rw [this, insLB_append, insLB_append, h1]
  simp [insLB]

theorem insLB_render : ∀ (p : Pos), TokPos p → insLB (renderPos p) = renderIns p
  | [], _ => rfl
  | .key k :: rest, hp => by
    have : renderPos (.key k :: rest) = ['/'] ++ k ++ renderPos rest := by simp [renderPos, renderSeg]
    rw [this, insLB_append, insLB_append, insLB_id k hp.1.noLB, insLB_render rest hp.2]
    simp [renderIns, tokOf, insLB]
  | .idx n :: rest, hp => by
    have : renderPos (.idx n :: rest) = bracket (natRepr n) ++ renderPos rest := by simp [renderPos, renderSeg, natStr]
    rw [this, insLB_append, insLB_bracket, insLB_render rest hp]
    simp [renderIns, tokOf]

theorem replSS_cons_ne (c : Char) (s : Str) (h : c ≠ '/') : replSS (c :: s) = c :: replSS s := by
  rw [replSS]
  intro rest hc _; exact absurd hc h

theorem replSS_slash_ne (c : Char) (s : Str) (h : c ≠ '/') : replSS ('/' :: c :: s) = '/' :: replSS (c :: s) := by
  rw [replSS]
  intro rest _ hc; simp at hc; exact absurd hc.1 h

theorem replSS_append_noSlash (s t : Str) (h : ∀ c ∈ s, c ≠ '/') : replSS (s ++ t) = s ++ replSS t := by
  induction s with
  | nil => rfl
  | cons c s ih =>
    rw [List.cons_append, replSS_cons_ne c _ (h c (by simp)), ih (fun x hx => h x (by simp [hx]))]
    rfl

theorem tokOf_facts {s : Seg} (hs : TokPos [s]) : (∀ c ∈ tokOf s, c ≠ '/') ∧ ∃ c r, tokOf s = c :: r := by
  cases s with
  | key k =>
    obtain ⟨hk, _⟩ := hs
    cases k with
    | nil => exact absurd rfl hk.ne
    | cons c r => exact ⟨hk.noSlash, c, r, rfl⟩
  | idx n => exact ⟨bracket_noSlash n, '[', _, rfl⟩

theorem replSS_renderIns : ∀ (p : Pos), TokPos p → replSS (renderIns p) = renderIns p
  | [], _ => rfl
  | s :: rest, hp => by
    obtain ⟨hs, hr⟩ := hp.split
    obtain ⟨hno, c, r, hcr⟩ := tokOf_facts hs
    have hc : c ≠ '/' := hno c (by rw [hcr]; simp)
    have : renderIns (s :: rest) = '/' :: (tokOf s ++ renderIns rest) := by simp [renderIns]
    rw [this, hcr, List.cons_append, replSS_slash_ne c _ hc, ← List.cons_append, ← hcr,
      replSS_append_noSlash _ _ hno, replSS_renderIns rest hr]

theorem splitChar_renderIns : ∀ (p : Pos), TokPos p → ∀ (cur : Str), (∀ c ∈ cur, c ≠ '/') →
    splitChar '/' (cur ++ renderIns p) = cur :: toksOf p
  | [], _, cur, hc => by simp [renderIns, toksOf, splitChar_no_delim '/' cur hc]
  | s :: rest, hp, cur, hc => by
    obtain ⟨hs, hr⟩ := hp.split
    have : renderIns (s :: rest) = '/' :: (tokOf s ++ renderIns rest) := by simp [renderIns]
    rw [this, splitChar_append '/' cur _ hc, splitChar_renderIns rest hr _ (tokOf_facts hs).1]
    simp [toksOf]

theorem toksOf_nonempty : ∀ (p : Pos), TokPos p → (toksOf p).filter (fun t => !t.isEmpty) = toksOf p
  | [], _ => rfl
  | s :: rest, hp => by
    obtain ⟨hs, hr⟩ := hp.split
    obtain ⟨_, c, r, hcr⟩ := tokOf_facts hs
    simp only [toksOf, List.map_cons, List.filter_cons, hcr, List.isEmpty_cons, Bool.not_false, if_true]
    have := toksOf_nonempty rest hr
    simp only [toksOf] at this
    rw [this]

theorem tokens_render (k : Str) (rest : Pos) (hp : TokPos (.key k :: rest)) :
    tokens (slash ++ renderPos (.key k :: rest)) = toksOf (.key k :: rest) := by
  obtain ⟨c, r, rfl⟩ : ∃ c r, k = c :: r := by
    cases k with
    | nil => exact absurd rfl hp.1.ne
    | cons c r => exact ⟨c, r, rfl⟩
  have hc1 : c ≠ '/' := hp.1.noSlash c (by simp)
  have hform : slash ++ renderPos (.key (c :: r) :: rest) = '/' :: '/' :: c :: (r ++ renderPos rest) := by
    simp [slash, renderPos, renderSeg]
  have hnorm : normExpr (slash ++ renderPos (.key (c :: r) :: rest)) = (c :: r) ++ renderPos rest := by
    rw [hform]
    simp [normExpr, startsWith, hc1]
  unfold tokens
  rw [hnorm, insLB_append, insLB_id _ hp.1.noLB, insLB_render rest hp.2,
    replSS_append_noSlash _ _ hp.1.noSlash, replSS_renderIns rest hp.2,
    splitChar_renderIns rest hp.2 _ hp.1.noSlash]
  have := toksOf_nonempty (Seg.key (c :: r) :: rest) hp
  simpa [toksOf, tokOf] using this

theorem tokens_root : tokens slash = [] := by decide

theorem fal_bump_eq (fl : FL) (n : Nat) :
    bump fl n = fl.dropLast ++ [fl.getLast?.getD [] ++ bracket (natRepr n)] := by
  cases fl with
  | nil => simp [bump, setLast]
  | cons x r => simp [bump, setLast]

/-- below a list root the reported key is `"//"` followed by the rendered position (`//[0]/a/b[1]`) -/
theorem fal_keyOf_idx (n : Nat) (r : Pos) (hp : PlainPos (.idx n :: r)) :
    keyOf (flPath [] (.idx n :: r)) = '/' :: '/' :: renderPos (.idx n :: r) := by
  have hb : bump [] n = [bracket (natRepr n)] := by simp [bump, setLast]
  have h1 : join ['/'] (flPath [] (.idx n :: r)) = bracket (natRepr n) ++ renderPos r := by
    rw [flPath, join_flPath r (bump [] n) (bump_ne_nil [] n), hb]
    simp [join]
  have h2 : renderPos (.idx n :: r) = bracket (natRepr n) ++ renderPos r := by
    simp [renderPos, renderSeg, natStr]
  simp only [keyOf, h1]
  rw [← h2, delSB_render (Seg.idx n :: r) hp]

/-- **string layer, list root**: the canonical xpath of a position below a list root, written with the prefix `//` (as
`findall` reports it), `/` or none, gives one token per key and one per index -/
theorem fal_tokens_render (lead : Lead) (n : Nat) (rest : Pos) (hp : PlainPos rest) :
    tokens (leadStr lead ++ renderPos (.idx n :: rest)) = toksOf (.idx n :: rest) := by
  have hpp : TokPos (.idx n :: rest) := TokPos.of_plain (p := .idx n :: rest) hp
  have hform : renderPos (.idx n :: rest) = '[' :: (natRepr n ++ ']' :: renderPos rest) := by
    simp [renderPos, renderSeg, bracket, natStr]
  have hnorm : normExpr (leadStr lead ++ renderPos (.idx n :: rest)) = renderPos (.idx n :: rest) := by
    rw [hform]
    cases lead <;> simp [normExpr, startsWith, leadStr]
  unfold tokens
  rw [hnorm, insLB_render _ hpp, replSS_renderIns _ hpp]
  have := splitChar_renderIns (Seg.idx n :: rest) hpp [] (by intro c hc; cases hc)
  simp only [List.nil_append] at this
  rw [this]
  have h2 := toksOf_nonempty (Seg.idx n :: rest) hpp
  simpa using h2

end N0.FindAll
