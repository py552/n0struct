import N0Verif.Proofs.FindAllWalk
import N0Verif.Proofs.FindAll
/-!
  `sel toks v`: what a list of names and `'*'` selects below a node, as (relative position, node) pairs in the order of
  `_findall`, by recursion on the tokens with the code's own case split per node (`stV`).  The search returns it (`fa_sel`,
  on nodes whose lists hold only containers, provided the keys to report differ; `findall_star_names` from a root of either kind), its members are the nodes whose
  position ends in the names, each after a run of indexes (`mem_sel_star_names`), and the reference lists of the descendant
  searches are selections (`descV_eq_sel`, `tailOfL_eq_sel`, `tailN_eq_sel`): a further search shape costs one equation.
  What the prefixes `fad`, `fal_`, `fat`, `fatn`, `fatl` of lemma names stand for: header of `Proofs/FindAll.lean`.
-/
namespace N0.FindAll
open N0 N0.Py N0.Val N0.XPath

/-- a token of the fragment: `'*'`, or a name (under `Tk.Ok` a plain key, so not `*`) -/
inductive Tk
  | star
  | name (n : Str)

def Tk.str : Tk → Str
  | .star => ['*']
  | .name n => n

def Tk.Ok : Tk → Prop
  | .star => True
  | .name n => PlainKey n

theorem Tk.Ok.classify : ∀ {t : Tk}, t.Ok → classify t.str = .name t.str
  | .star, _ => by decide
  | .name _, h => classify_plain h

theorem Tk.str_names (names : List Str) : (names.map Tk.name).map Tk.str = names := by
  rw [List.map_map]
  exact List.map_id' names

/-- what a search finds below a node: relative positions and nodes, in order -/
abbrev Sel := Val → List (Pos × Val)

mutual
/-- one step `t` followed by `k` (`stepName`): a name on a dictionary is its entry; `'*'` on a dictionary is the node
itself against `k`, then every child with the `'*'` kept; any step on a list fans out over the elements; nothing
below a final element -/
def stV (t : Tk) (k : Sel) : Val → List (Pos × Val)
  | .dict c kvs =>
    (match t with
      | .star => k (.dict c kvs) ++ stK t k kvs
      | .name n =>
        (match lookup n kvs with
          | some x => (k x).map (fun pv => (Seg.key n :: pv.1, pv.2))
          | Option.none => []))
  | .list _ xs => stL t k 0 xs
  | _ => []
def stK (t : Tk) (k : Sel) : List (Str × Val) → List (Pos × Val)
  | [] => []
  | (key, x) :: kvs => (stV t k x).map (fun pv => (Seg.key key :: pv.1, pv.2)) ++ stK t k kvs
def stL (t : Tk) (k : Sel) : Nat → List Val → List (Pos × Val)
  | _, [] => []
  | i, x :: xs => (stV t k x).map (fun pv => (Seg.idx i :: pv.1, pv.2)) ++ stL t k (i + 1) xs
end

/-- the nodes a token list selects below a node, with their positions relative to it, in the order of the search -/
def sel : List Tk → Sel
  | [] => fun v => [([], v)]
  | t :: rest => stV t (sel rest)

theorem sel_nil (v : Val) : sel [] v = [([], v)] := rfl

theorem sel_star_dict (rest : List Tk) (c : Cls) (kvs : List (Str × Val)) :
    sel (.star :: rest) (.dict c kvs) = sel rest (.dict c kvs) ++ stK .star (sel rest) kvs := by
  simp only [sel, stV]

theorem sel_name_dict (n : Str) (rest : List Tk) (c : Cls) (kvs : List (Str × Val)) :
    sel (.name n :: rest) (.dict c kvs) = (match lookup n kvs with
      | some x => (sel rest x).map (fun pv => (Seg.key n :: pv.1, pv.2))
      | Option.none => []) := by
  simp only [sel, stV]

theorem sel_cons_list (t : Tk) (rest : List Tk) (c : Cls) (xs : List Val) :
    sel (t :: rest) (.list c xs) = stL t (sel rest) 0 xs := by
  simp only [sel, stV]

theorem stV_scalar (t : Tk) (k : Sel) (v : Val) (h : isContainer v = false) : stV t k v = [] := by
  cases v <;> simp only [isContainer, Bool.true_eq_false] at h <;> simp only [stV]

theorem sel_cons_scalar (t : Tk) (rest : List Tk) (v : Val) (h : isContainer v = false) : sel (t :: rest) v = [] :=
  stV_scalar t _ v h

theorem stK_eq (t : Tk) (k : Sel) : ∀ kvs : List (Str × Val),
    stK t k kvs = kvs.flatMap (fun kc => (stV t k kc.2).map (fun pv => (Seg.key kc.1 :: pv.1, pv.2)))
  | [] => rfl
  | (_, _) :: kvs => by rw [stK, List.flatMap_cons, stK_eq t k kvs]

theorem stL_eq (t : Tk) (k : Sel) : ∀ (xs : List Val) (i : Nat),
    stL t k i xs = (xs.zipIdx i).flatMap (fun xi => (stV t k xi.1).map (fun pv => (Seg.idx xi.2 :: pv.1, pv.2)))
  | [], _ => rfl
  | x :: xs, i => by rw [stL, List.zipIdx_cons, List.flatMap_cons, stL_eq t k xs (i + 1)]

theorem mem_stK {t : Tk} {k : Sel} {kvs : List (Str × Val)} {pv : Pos × Val} :
    pv ∈ stK t k kvs ↔ ∃ key x r, (key, x) ∈ kvs ∧ r ∈ stV t k x ∧ pv = (Seg.key key :: r.1, r.2) := by
  rw [stK_eq, List.mem_flatMap]
  constructor
  · rintro ⟨⟨key, x⟩, hm, h⟩
    obtain ⟨r, hr, rfl⟩ := List.mem_map.1 h
    exact ⟨key, x, r, hm, hr, rfl⟩
  · rintro ⟨key, x, r, hm, hr, rfl⟩
    exact ⟨(key, x), hm, List.mem_map.2 ⟨r, hr, rfl⟩⟩

theorem mem_stL {t : Tk} {k : Sel} {xs : List Val} {pv : Pos × Val} :
    pv ∈ stL t k 0 xs ↔ ∃ j x r, xs[j]? = some x ∧ r ∈ stV t k x ∧ pv = (Seg.idx j :: r.1, r.2) := by
  rw [stL_eq, List.mem_flatMap]
  constructor
  · rintro ⟨⟨x, j⟩, hm, h⟩
    obtain ⟨r, hr, rfl⟩ := List.mem_map.1 h
    exact ⟨j, x, r, List.mk_mem_zipIdx_iff_getElem?.1 hm, hr, rfl⟩
  · rintro ⟨j, x, r, hx, hr, rfl⟩
    exact ⟨(x, j), List.mk_mem_zipIdx_iff_getElem?.2 hx, List.mem_map.2 ⟨r, hr, rfl⟩⟩

/-! ## a path is searched piece by piece -/

/-- continue from every node of `l` with `k` -/
def bindSel (l : List (Pos × Val)) (k : Sel) : List (Pos × Val) :=
  l.flatMap (fun pv => (k pv.2).map (fun y => (pv.1 ++ y.1, y.2)))

theorem bindSel_append (a b : List (Pos × Val)) (k : Sel) : bindSel (a ++ b) k = bindSel a k ++ bindSel b k := by
  simp [bindSel]

theorem bindSel_map_cons (s : Seg) (l : List (Pos × Val)) (k : Sel) :
    bindSel (l.map (fun pv => (s :: pv.1, pv.2))) k = (bindSel l k).map (fun pv => (s :: pv.1, pv.2)) := by
  simp [bindSel, List.flatMap_map, List.map_flatMap, List.map_map, Function.comp_def]

theorem bindSel_congr {l : List (Pos × Val)} {k k' : Sel} (h : ∀ b ∈ l, k b.2 = k' b.2) : bindSel l k = bindSel l k' := by
  induction l with
  | nil => rfl
  | cons a r ih =>
    simp only [bindSel, List.flatMap_cons] at ih ⊢
    rw [h a List.mem_cons_self, ih (fun b hb => h b (List.mem_cons_of_mem _ hb))]

theorem stV_bind (t : Tk) (k k' : Sel) :
    (∀ v, stV t (fun v => bindSel (k v) k') v = bindSel (stV t k v) k') ∧
    (∀ kvs, stK t (fun v => bindSel (k v) k') kvs = bindSel (stK t k kvs) k') ∧
    (∀ xs i, stL t (fun v => bindSel (k v) k') i xs = bindSel (stL t k i xs) k') := by
  refine tree_ind ?_ ?_ ?_ rfl ?_ (fun _ => rfl) ?_
  · intro c kvs ih
    cases t with
    | star => simp only [stV, bindSel_append] at ih ⊢; rw [ih]
    | name n =>
      simp only [stV]
      cases lookup n kvs with
      | none => rfl
      | some x => exact (bindSel_map_cons _ _ _).symm
  · intro c xs ih
    simp only [stV]
    exact ih 0
  · intro v hv
    rw [stV_scalar t _ v hv, stV_scalar t _ v hv]; rfl
  · intro key c kvs h1 h2
    simp only [stK, bindSel_append, bindSel_map_cons, h1, h2]
  · intro x xs h1 h2 i
    simp only [stL, bindSel_append, bindSel_map_cons, h1, h2]

theorem sel_append (a b : List Tk) : ∀ v, sel (a ++ b) v = bindSel (sel a v) (sel b) := by
  induction a with
  | nil => intro v; simp [sel, bindSel]
  | cons t r ih =>
    intro v
    have : sel (r ++ b) = fun v => bindSel (sel r v) (sel b) := funext ih
    simp only [List.cons_append, sel, this]
    exact (stV_bind t (sel r) (sel b)).1 v

/-! ## the search returns the selection -/

/-- what a call on `v` with the tokens `T` at a position `q` is to return: `S v`, each node under the key of the path
list at the end of the descent to it — provided those keys differ (`Nodup`: only then is `dict.update` append).  `None`
and `{}` are not told apart, except that a `'*'` step on a container returns a dictionary. -/
def Finds (re : Bool) (T : List Str) (S : Sel) (v : Val) : Prop :=
  ContOkV v → ∃ N, ∀ fuel ≥ N, ∀ (q : Pos) (ps : PS),
    ((walkOut q (S v)).map Prod.fst).Nodup →
    ∃ r, (fa re fuel v T (flPath [] q) ps).res = .ok r ∧ r.getD [] = walkOut q (S v) ∧
      (T.head? = some ['*'] → isContainer v = true → r.isSome = true)

/-- the `[*]` loop over the elements `i, i+1, …` of a list at `q`, on a list object `cur` that agrees with the path
list of `q` but for its last element -/
theorem starLoop_finds (re : Bool) (T : List Str) (S : Sel) (F : Nat → List Val → List (Pos × Val))
    (hF0 : ∀ i, F i [] = [])
    (hF1 : ∀ i x xs, F i (x :: xs) = (S x).map (fun pv => (Seg.idx i :: pv.1, pv.2)) ++ F (i + 1) xs) :
    ∀ xs : List Val, (∀ x ∈ xs, Finds re T S x) → ContOkL xs →
    ∃ N, ∀ fuel ≥ N, ∀ (q : Pos) (ps : PS) (node : Val) (i : Nat) (cur : FL) (acc : Found),
      cur.dropLast = (flPath [] q).dropLast →
      ((acc ++ walkOut q (F i xs)).map Prod.fst).Nodup →
      (starLoop (fun x cur1 => fa re fuel x T cur1 (push ps cur1 node)) re
        ((flPath [] q).getLast?.getD []) i xs cur acc).1 = .ok (some (acc ++ walkOut q (F i xs))) := by
  intro xs
  induction xs with
  | nil =>
    intro _ _
    exact ⟨0, fun fuel _ q ps node i cur acc _ _ => by simp [starLoop, hF0, walkOut]⟩
  | cons x xs ih =>
    intro hit hco
    simp only [ContOkL] at hco
    obtain ⟨hcx, hcv, hcl⟩ := hco
    obtain ⟨N1, hN1⟩ := hit x List.mem_cons_self hcv
    obtain ⟨N2, hN2⟩ := ih (fun y h => hit y (List.mem_cons_of_mem _ h)) hcl
    refine ⟨max N1 N2, fun fuel hf q ps node i cur acc hcur hnd => ?_⟩
    simp only [hF1, walkOut_append] at hnd ⊢
    rw [← walkOut_snoc] at hnd ⊢
    obtain ⟨hd1, hd2, hd3⟩ := nodup_split hnd
    -- the in-place update of the last element makes `cur` the path list of the element
    have hcur1 : setLast cur ((flPath [] q).getLast?.getD [] ++ bracket (natRepr i)) = flPath [] (q ++ [Seg.idx i]) := by
      rw [flPath_snoc_idx, fal_bump_eq]
      simp only [setLast, hcur]
    obtain ⟨fr, hcall, hfr, _⟩ := hN1 fuel (Nat.le_trans (Nat.le_max_left N1 N2) hf) (q ++ [Seg.idx i])
      (push ps (flPath [] (q ++ [Seg.idx i])) node) hd1
    simp only [starLoop, hcx, if_true, hcur1, hcall]
    rw [upd_getD _ _ (by rw [hfr]; exact hd2), hfr]
    have hdl : (fa re fuel x T (flPath [] (q ++ [Seg.idx i])) (push ps (flPath [] (q ++ [Seg.idx i])) node)).fl.dropLast
        = (flPath [] q).dropLast := by
      rw [fa_dl, ← hcur1, setLast_dropLast, hcur]
    rw [hN2 fuel (Nat.le_trans (Nat.le_max_right N1 N2) hf) q ps node (i + 1) _ _ hdl hd3, List.append_assoc]

/-- the loop over the entries of a dictionary at `q`: final elements are skipped -/
theorem keysLoop_finds (re : Bool) (T : List Str) (S : Sel) (hS : ∀ v, isContainer v = false → S v = [])
    (F : List (Str × Val) → List (Pos × Val)) (hF0 : F [] = [])
    (hF1 : ∀ k x kvs, F ((k, x) :: kvs) = (S x).map (fun pv => (Seg.key k :: pv.1, pv.2)) ++ F kvs) :
    ∀ kvs : List (Str × Val), (∀ kc ∈ kvs, Finds re T S kc.2) → ContOkK kvs →
    ∃ N, ∀ fuel ≥ N, ∀ (q : Pos) (ps : PS) (acc : Found),
      ((acc ++ walkOut q (F kvs)).map Prod.fst).Nodup →
      keysLoop (fun k c => fa re fuel c T (flPath [] q ++ [k]) ps) kvs acc = .ok (some (acc ++ walkOut q (F kvs))) := by
  intro kvs
  induction kvs with
  | nil =>
    intro _ _
    exact ⟨0, fun fuel _ q ps acc _ => by simp [keysLoop, hF0, walkOut]⟩
  | cons kc kvs ih =>
    obtain ⟨k, c⟩ := kc
    intro hit hco
    simp only [ContOkK] at hco
    obtain ⟨N2, hN2⟩ := ih (fun y h => hit y (List.mem_cons_of_mem _ h)) hco.2
    by_cases hc : isContainer c = true
    · obtain ⟨N1, hN1⟩ := hit (k, c) List.mem_cons_self hco.1
      refine ⟨max N1 N2, fun fuel hf q ps acc hnd => ?_⟩
      simp only [hF1, walkOut_append] at hnd ⊢
      rw [← walkOut_snoc] at hnd ⊢
      obtain ⟨hd1, hd2, hd3⟩ := nodup_split hnd
      obtain ⟨fr, hcall, hfr, _⟩ := hN1 fuel (Nat.le_trans (Nat.le_max_left N1 N2) hf) (q ++ [Seg.key k]) ps hd1
      rw [flPath_snoc_key] at hcall
      simp only [keysLoop, hc, if_true, hcall]
      rw [upd_getD _ _ (by rw [hfr]; exact hd2), hfr,
        hN2 fuel (Nat.le_trans (Nat.le_max_right N1 N2) hf) q ps _ hd3, List.append_assoc]
    · have hc' : isContainer c = false := by simpa using hc
      refine ⟨N2, fun fuel hf q ps acc hnd => ?_⟩
      simp only [hF1, hS c hc', List.map_nil, List.nil_append] at hnd ⊢
      simp only [keysLoop, hc', Bool.false_eq_true, if_false]
      exact hN2 fuel hf q ps acc hnd

/-- a `'*'` step on a dictionary, once the check of the node itself against the rest has returned -/
theorem fa_star_dict (re : Bool) (f : Nat) (c : Cls) (kvs : List (Str × Val)) (rest : List Str) (fl : FL) (ps : PS)
    (self : Option Found) (h1 : fa re f (.dict c kvs) rest fl ps = ⟨.ok self, fl, ps⟩) :
    fa re (f + 1) (.dict c kvs) (['*'] :: rest) fl ps =
      ⟨keysLoop (fun k c' => fa re f c' (['*'] :: rest) (fl ++ [k]) (push ps fl (.dict c kvs))) kvs (upd [] self), fl, ps⟩ := by
  have hs : classify ['*'] = .name ['*'] := by decide
  simp only [fa, step, hs, stepName, List.isEmpty_cons, Bool.false_eq_true, ↓reduceIte]
  rw [h1]

theorem fa_dict_out (re : Bool) (f : Nat) (c : Cls) (kvs : List (Str × Val)) (toks : List Str) (fl : FL) (ps : PS) :
    fa re f (.dict c kvs) toks fl ps = ⟨(fa re f (.dict c kvs) toks fl ps).res, fl, ps⟩ := by
  conv => lhs; rw [show fa re f (.dict c kvs) toks fl ps = ⟨(fa re f (.dict c kvs) toks fl ps).res,
    (fa re f (.dict c kvs) toks fl ps).fl, (fa re f (.dict c kvs) toks fl ps).ps⟩ from rfl]
  rw [fa_fl_dict, fa_ps]

/-- **`_findall` returns the selection**: every list of plain names and `'*'`, every node whose lists hold only containers (`ContOkV`, in `Finds`; the check of
a dictionary by a `'*'` step is the statement for the shorter token list), every position.  A name or `'*'` on a final element is
a miss (fix C19-d), not an exception: the last case. -/
theorem fa_sel (re : Bool) : ∀ toks : List Tk, (∀ t ∈ toks, t.Ok) → ∀ v, Finds re (toks.map Tk.str) (sel toks) v := by
  intro toks
  induction toks with
  | nil =>
    intro _ v _
    refine ⟨1, fun fuel hf q ps _ => ?_⟩
    obtain ⟨f, rfl, _⟩ := exists_fuel_add (N := 0) (n := 1) hf
    exact ⟨_, rfl, by simp [sel, walkOut], fun h => nomatch h⟩
  | cons t rest ihT =>
    intro ht
    have hrest := ihT (fun s hs => ht s (List.mem_cons_of_mem _ hs))
    have hcl : classify t.str = .name t.str := (ht t List.mem_cons_self).classify
    intro v
    induction v using tree_mem_ind with
    | hd c kvs ih =>
      intro hco
      simp only [ContOkV] at hco
      cases t with
      | star =>
        -- the node itself against `rest`, then every container child against `* :: rest`
        obtain ⟨N1, hN1⟩ := hrest (.dict c kvs) hco
        obtain ⟨N2, hN2⟩ := keysLoop_finds re ((Tk.star :: rest).map Tk.str) (sel (.star :: rest)) (stV_scalar _ _)
          (stK .star (sel rest)) rfl (fun _ _ _ => rfl) kvs ih hco
        refine ⟨max N1 N2 + 1, fun fuel hf q ps hnd => ?_⟩
        obtain ⟨f, rfl, hfN⟩ := exists_fuel_add hf
        rw [sel_star_dict, walkOut_append] at hnd ⊢
        have hd1 := (List.nodup_append.1 (by simpa only [List.map_append] using hnd)).1
        obtain ⟨r, h1, hr, _⟩ := hN1 f (Nat.le_trans (Nat.le_max_left N1 N2) hfN) q ps hd1
        have h1' := fa_dict_out re f c kvs (rest.map Tk.str) (flPath [] q) ps
        rw [h1] at h1'
        rw [List.map_cons, show Tk.star.str = ['*'] from rfl,
          fa_star_dict re f c kvs (rest.map Tk.str) (flPath [] q) ps r h1']
        have hu : upd [] r = walkOut q (sel rest (.dict c kvs)) := by
          rw [upd_getD [] r (by rw [hr]; simpa using hd1), hr]; rfl
        rw [hu]
        exact ⟨_, hN2 f (Nat.le_trans (Nat.le_max_right N1 N2) hfN) q _ _ hnd, rfl, fun _ _ => rfl⟩
      | name n =>
        -- the entry, if there is one, against `rest`
        have hn : PlainKey n := ht _ List.mem_cons_self
        have hst : n ≠ ['*'] := hn.keyTok.notStar
        rw [sel_name_dict]
        simp only [List.map_cons, Tk.str] at hcl ⊢
        cases hl : lookup n kvs with
        | none =>
          refine ⟨1, fun fuel hf q ps _ => ?_⟩
          obtain ⟨f, rfl, _⟩ := exists_fuel_add (N := 0) (n := 1) hf
          refine ⟨Option.none, ?_, rfl, fun h => absurd (Option.some.inj h) hst⟩
          rw [fa_key_dict re hn, hl]
        | some x =>
          obtain ⟨N, hN⟩ := hrest x (contOk_lookup hco hl)
          refine ⟨N + 1, fun fuel hf q ps hnd => ?_⟩
          obtain ⟨f, rfl, hfN⟩ := exists_fuel_add hf
          simp only [← walkOut_snoc] at hnd ⊢
          obtain ⟨r, hcall, hr, _⟩ := hN f hfN (q ++ [Seg.key n]) (push ps (flPath [] q) (.dict c kvs)) hnd
          rw [flPath_snoc_key] at hcall
          refine ⟨r, ?_, hr, fun h => absurd (Option.some.inj h) hst⟩
          rw [fa_key_dict re hn, hl, hcall]
    | hl c xs ih =>
      -- a name on a list is the `[*]` loop with the name kept
      intro hco
      simp only [ContOkV] at hco
      obtain ⟨N, hN⟩ := starLoop_finds re ((t :: rest).map Tk.str) (sel (t :: rest)) (stL t (sel rest))
        (fun _ => rfl) (fun _ _ _ => rfl) xs ih hco
      refine ⟨N + 2, fun fuel hf q ps hnd => ?_⟩
      obtain ⟨f, rfl, hfN⟩ := exists_fuel_add hf
      rw [List.map_cons, fa_name_list re f c xs hcl]
      rw [sel_cons_list] at hnd ⊢
      have := hN f hfN q ps (Val.list c xs) 0 (if (flPath [] q).isEmpty then [[]] else flPath [] q) []
        (by cases flPath [] q <;> rfl) (by simpa using hnd)
      exact ⟨_, this, by simp, fun _ _ => rfl⟩
    | hs v hv =>
      intro _
      refine ⟨1, fun fuel hf q ps _ => ?_⟩
      obtain ⟨f, rfl, _⟩ := exists_fuel_add (N := 0) (n := 1) hf
      refine ⟨Option.none, ?_, ?_, fun _ h => absurd h (by rw [hv]; decide)⟩
      · cases v <;> simp only [isContainer, Bool.true_eq_false] at hv <;>
          simp only [List.map_cons, fa, step, hcl, stepName]
      · rw [sel_cons_scalar t rest v hv]; rfl

/-! ## what a selection lists: the nodes at the positions of its shape -/

/-- a name step: a run of indexes through lists down to a dictionary, its entry `n`, then the rest from there -/
theorem mem_sel_name (n : Str) (rest : List Tk) : ∀ (v : Val) (p : Pos) (w : Val),
    (p, w) ∈ sel (.name n :: rest) v ↔ ∃ (is : List Nat) (x : Val) (r : Pos), p = is.map Seg.idx ++ Seg.key n :: r ∧
      getAt v (is.map Seg.idx ++ [Seg.key n]) = some x ∧ (r, w) ∈ sel rest x := by
  intro v
  induction v using tree_mem_ind with
  | hd c kvs _ =>
    intro p w
    rw [sel_name_dict]
    constructor
    · intro h
      cases hl : lookup n kvs with
      | none => rw [hl] at h; cases h
      | some x =>
        rw [hl] at h
        obtain ⟨y, hy, e⟩ := List.mem_map.1 h
        cases e
        exact ⟨[], x, y.1, rfl, by simp only [List.map_nil, List.nil_append, Val.getAt, child, hl, Option.bind_some], hy⟩
    · rintro ⟨is, x, r, rfl, hg, hr⟩
      cases is with
      | cons i is => simp [Val.getAt, child] at hg
      | nil =>
        simp only [List.map_nil, List.nil_append, Val.getAt, child] at hg
        cases hl : lookup n kvs with
        | none => rw [hl] at hg; cases hg
        | some x' =>
          rw [hl] at hg
          cases hg
          exact List.mem_map.2 ⟨(r, w), hr, rfl⟩
  | hl c xs ih =>
    intro p w
    rw [sel_cons_list, mem_stL]
    constructor
    · rintro ⟨j, x, y, hx, hy, e⟩
      cases e
      obtain ⟨is, x', r, e, hg, hr⟩ := (ih x (List.mem_of_getElem? hx) y.1 y.2).1 hy
      exact ⟨j :: is, x', r, by rw [e]; rfl, by simp only [List.map_cons, List.cons_append, Val.getAt, child, hx, Option.bind_some]; exact hg, hr⟩
    · rintro ⟨is, x', r, rfl, hg, hr⟩
      cases is with
      | nil => simp [Val.getAt, child] at hg
      | cons j is =>
        simp only [List.map_cons, List.cons_append] at hg
        rcases getAt_cons_inv hg with ⟨_, _, _, _, hv, _⟩ | ⟨_, _, _, x, hv, hs, hx, hg'⟩
        · cases hv
        · cases hv; cases hs
          exact ⟨_, x, (is.map Seg.idx ++ Seg.key n :: r, w), hx,
            (ih x (List.mem_of_getElem? hx) _ w).2 ⟨is, x', r, rfl, hg', hr⟩, rfl⟩
  | hs v hv =>
    intro p w
    rw [sel_cons_scalar _ _ v hv]
    constructor
    · intro h; cases h
    · rintro ⟨is, x, r, _, hg, _⟩
      obtain ⟨s, t, e⟩ : ∃ s t, is.map Seg.idx ++ [Seg.key n] = s :: t := by cases is <;> exact ⟨_, _, rfl⟩
      rw [e] at hg
      rcases getAt_cons_inv hg with ⟨_, _, _, _, rfl, _⟩ | ⟨_, _, _, _, rfl, _⟩ <;> cases hv

/-- a `'*'` step: the rest from every dictionary below the node, the node included -/
theorem mem_sel_star (rest : List Tk) : ∀ (v : Val), KeysOkV v → ∀ (p : Pos) (w : Val),
    (p, w) ∈ sel (.star :: rest) v ↔ ∃ (u : Pos) (c : Cls) (kvs : List (Str × Val)) (r : Pos), p = u ++ r ∧
      getAt v u = some (.dict c kvs) ∧ (r, w) ∈ sel rest (.dict c kvs) := by
  intro v
  induction v using tree_mem_ind with
  | hd c kvs ih =>
    intro hk p w
    simp only [KeysOkV] at hk
    rw [sel_star_dict, List.mem_append, mem_stK]
    constructor
    · rintro (h | ⟨k, x, y, hm, hy, e⟩)
      · exact ⟨[], c, kvs, p, rfl, rfl, h⟩
      · cases e
        have hl := keysOk_mem_lookup hk hm
        obtain ⟨u, c', kvs', r, e, hg, hr⟩ := (ih (k, x) hm (keysOk_lookup hk hl).2.1 y.1 y.2).1 hy
        exact ⟨Seg.key k :: u, c', kvs', r, by rw [e]; rfl, by simp only [Val.getAt, child, hl, Option.bind_some]; exact hg, hr⟩
    · rintro ⟨u, c', kvs', r, rfl, hg, hr⟩
      cases u with
      | nil => cases hg; exact Or.inl hr
      | cons s u =>
        rcases getAt_cons_inv hg with ⟨_, _, k, x, hv, rfl, hl, hg'⟩ | ⟨_, _, _, _, hv, _⟩
        · cases hv
          obtain ⟨_, hkx, hm⟩ := keysOk_lookup hk hl
          exact Or.inr ⟨k, x, (u ++ r, w), hm, (ih (k, x) hm hkx _ w).2 ⟨u, c', kvs', r, rfl, hg', hr⟩, rfl⟩
        · cases hv
  | hl c xs ih =>
    intro hk p w
    simp only [KeysOkV] at hk
    rw [sel_cons_list, mem_stL]
    constructor
    · rintro ⟨j, x, y, hx, hy, e⟩
      cases e
      obtain ⟨u, c', kvs', r, e, hg, hr⟩ := (ih x (List.mem_of_getElem? hx) (keysOk_elem hk hx) y.1 y.2).1 hy
      exact ⟨Seg.idx j :: u, c', kvs', r, by rw [e]; rfl, by simp only [Val.getAt, child, hx, Option.bind_some]; exact hg, hr⟩
    · rintro ⟨u, c', kvs', r, rfl, hg, hr⟩
      cases u with
      | nil => cases hg
      | cons s u =>
        rcases getAt_cons_inv hg with ⟨_, _, _, _, hv, _⟩ | ⟨_, _, j, x, hv, rfl, hx, hg'⟩
        · cases hv
        · cases hv
          exact ⟨j, x, (u ++ r, w), hx,
            (ih x (List.mem_of_getElem? hx) (keysOk_elem hk hx) _ w).2 ⟨u, c', kvs', r, rfl, hg', hr⟩, rfl⟩
  | hs v hv =>
    intro _ p w
    rw [sel_cons_scalar _ _ v hv]
    constructor
    · intro h; cases h
    · rintro ⟨u, c', kvs', r, _, hg, _⟩
      cases u with
      | nil => cases hg; cases hv
      | cons s u => rcases getAt_cons_inv hg with ⟨_, _, _, _, rfl, _⟩ | ⟨_, _, _, _, rfl, _⟩ <;> cases hv

/-- the relative positions of a selection by names: each name after a run of indexes -/
def Runs : List Str → Pos → Prop
  | [], p => p = []
  | n :: ns, p => ∃ (is : List Nat) (r : Pos), p = is.map Seg.idx ++ Seg.key n :: r ∧ Runs ns r

theorem mem_sel_names : ∀ (names : List Str) (v : Val) (p : Pos) (w : Val),
    (p, w) ∈ sel (names.map Tk.name) v ↔ Runs names p ∧ getAt v p = some w
  | [], v, p, w => by
    rw [List.map_nil, sel_nil, List.mem_singleton, Prod.mk.injEq, Runs]
    constructor
    · rintro ⟨rfl, rfl⟩; exact ⟨rfl, rfl⟩
    · rintro ⟨rfl, h⟩; exact ⟨rfl, (Option.some.inj h).symm⟩
  | n :: ns, v, p, w => by
    rw [List.map_cons, mem_sel_name, Runs]
    constructor
    · rintro ⟨is, x, r, rfl, hg, hr⟩
      obtain ⟨h1, h2⟩ := (mem_sel_names ns x r w).1 hr
      refine ⟨⟨is, r, rfl, h1⟩, ?_⟩
      rw [show is.map Seg.idx ++ Seg.key n :: r = (is.map Seg.idx ++ [Seg.key n]) ++ r by simp, getAt_append, hg]
      exact h2
    · rintro ⟨⟨is, r, rfl, h1⟩, hg⟩
      rw [show is.map Seg.idx ++ Seg.key n :: r = (is.map Seg.idx ++ [Seg.key n]) ++ r by simp, getAt_append] at hg
      cases hx : getAt v (is.map Seg.idx ++ [Seg.key n]) with
      | none => rw [hx] at hg; cases hg
      | some x =>
        rw [hx] at hg
        exact ⟨is, x, r, rfl, hx, (mem_sel_names ns x r w).2 ⟨h1, hg⟩⟩

/-- **the membership form of `findall_star_names`**.  On a literal list of names `Runs` opens by a pattern, one
`is, _, rfl` per name and a last `rfl` (as in `descV_mem`); the first run of indexes goes into the free prefix. -/
theorem mem_sel_star_names (n : Str) (ns : List Str) (v : Val) (hk : KeysOkV v) (p : Pos) (w : Val) :
    (p, w) ∈ sel (.star :: (n :: ns).map Tk.name) v ↔ (∃ u r, p = u ++ r ∧ Runs (n :: ns) r) ∧ getAt v p = some w := by
  rw [mem_sel_star _ v hk]
  constructor
  · rintro ⟨u, c, kvs, r, rfl, hg, hr⟩
    obtain ⟨h1, h2⟩ := (mem_sel_names _ _ r w).1 hr
    exact ⟨⟨u, r, rfl, h1⟩, by rw [getAt_append, hg]; exact h2⟩
  · rintro ⟨⟨u, r, rfl, is, t, rfl, ht⟩, hg⟩
    rw [show u ++ (is.map Seg.idx ++ Seg.key n :: t) = (u ++ is.map Seg.idx) ++ Seg.key n :: t by simp] at hg ⊢
    rw [getAt_append] at hg
    cases hx : getAt v (u ++ is.map Seg.idx) with
    | none => rw [hx] at hg; cases hg
    | some x =>
      rw [hx] at hg
      rcases getAt_cons_inv hg with ⟨c, kvs, _, _, rfl, _, _, _⟩ | ⟨_, _, _, _, _, hs, _⟩
      · exact ⟨_, c, kvs, _, rfl, hx, (mem_sel_names (n :: ns) _ _ w).2 ⟨⟨[], t, rfl, ht⟩, hg⟩⟩
      · cases hs

theorem star_names_getAt (n : Str) (ns : List Str) (v : Val) (hk : KeysOkV v) :
    ∀ pv ∈ sel (.star :: (n :: ns).map Tk.name) v, getAt v pv.1 = some pv.2 :=
  fun pv h => ((mem_sel_star_names n ns v hk pv.1 pv.2).1 h).2

theorem star_names_plain (n : Str) (ns : List Str) {v : Val} (hk : KeysOkV v) :
    ∀ pv ∈ sel (.star :: (n :: ns).map Tk.name) v, PlainPos pv.1 :=
  fun pv hpv => (keysOk_getAt pv.1 hk (star_names_getAt n ns v hk pv hpv)).1

/-! ### no position is selected twice (one `'*'`, then names) -/

def segIsKey : Seg → Bool
  | .key _ => true
  | .idx _ => false

/-- the number of keys of a position: a selection by `m` names has `m`, what `'*'` finds below a child has more -/
def nKeys (p : Pos) : Nat := p.countP segIsKey

theorem nKeys_key_cons (k : Str) (p : Pos) : nKeys (Seg.key k :: p) = nKeys p + 1 := by
  simp only [nKeys, List.countP_cons, segIsKey, if_true]

/-- equal wholes, cut before a key after equally many keys: equal ends -/
theorem nKeys_cut (n n' : Str) : ∀ (u u' a b : Pos), nKeys u = nKeys u' →
    u ++ Seg.key n :: a = u' ++ Seg.key n' :: b → a = b
  | [], [], _, _, _, h => (List.cons.inj h).2
  | [], s :: t, _, _, hk, h => by
    rw [← (List.cons.inj h).1, nKeys_key_cons] at hk
    cases hk
  | s :: t, [], _, _, hk, h => by
    rw [(List.cons.inj h).1, nKeys_key_cons] at hk
    cases hk
  | s :: t, s' :: t', a, b, hk, h => by
    simp only [List.cons_append, List.cons.injEq] at h
    obtain ⟨rfl, h⟩ := h
    refine nKeys_cut n n' t t' a b ?_ h
    simp only [nKeys, List.countP_cons] at hk ⊢
    exact Nat.add_right_cancel hk

theorem fan_distinct {α : Type} (l : List α) (f : α → List (Pos × Val)) (sg : α → Seg)
    (hl : l.Pairwise (fun a b => sg a ≠ sg b)) (hf : ∀ a ∈ l, FadDistinct (f a)) :
    FadDistinct (l.flatMap (fun a => (f a).map (fun pv => (sg a :: pv.1, pv.2)))) := by
  refine List.pairwise_flatMap.2 ⟨fun a ha => List.pairwise_map.2 ((hf a ha).imp fun h e => h (List.cons.inj e).2),
    hl.imp fun hab x hx y hy e => ?_⟩
  obtain ⟨_, _, rfl⟩ := List.mem_map.1 hx
  obtain ⟨_, _, rfl⟩ := List.mem_map.1 hy
  exact hab (List.cons.inj e).1

theorem stL_distinct (t : Tk) (k : Sel) (xs : List Val) (h : ∀ x ∈ xs, FadDistinct (stV t k x)) :
    FadDistinct (stL t k 0 xs) := by
  rw [stL_eq]
  exact fan_distinct _ (fun xi => stV t k xi.1) (fun xi => Seg.idx xi.2)
    ((zipIdx_pairwise_snd xs 0).imp fun hab e => hab (Seg.idx.inj e))
    (fun xi hm => h xi.1 (List.mem_of_getElem? (List.mem_zipIdx_iff_getElem?.1 hm)))

theorem names_distinct : ∀ (names : List Str) (v : Val), FadDistinct (sel (names.map Tk.name) v) := by
  intro names
  induction names with
  | nil => intro v; exact List.pairwise_singleton _ _
  | cons n r ihT =>
    intro v
    rw [List.map_cons]
    induction v using tree_mem_ind with
    | hd c kvs _ =>
      rw [sel_name_dict]
      cases lookup n kvs with
      | none => exact List.Pairwise.nil
      | some x => exact List.pairwise_map.2 ((ihT x).imp fun h e => h (List.cons.inj e).2)
    | hl c xs ih => rw [sel_cons_list]; exact stL_distinct _ _ xs ih
    | hs v hv => rw [sel_cons_scalar _ _ v hv]; exact List.Pairwise.nil

theorem nKeys_idxs (is : List Nat) (p : Pos) : nKeys (is.map Seg.idx ++ p) = nKeys p := by
  induction is with
  | nil => rfl
  | cons i is ih => exact ih

theorem runs_nKeys : ∀ (names : List Str) (r : Pos), Runs names r → nKeys r = names.length
  | [], _, h => by rw [show _ = [] from h]; rfl
  | n :: ns, _, ⟨is, t, e, ht⟩ => by
    rw [e, nKeys_idxs, nKeys_key_cons, runs_nKeys ns t ht, List.length_cons]

theorem names_nKeys (names : List Str) (v : Val) : ∀ pv ∈ sel (names.map Tk.name) v, nKeys pv.1 = names.length :=
  fun pv h => runs_nKeys names pv.1 ((mem_sel_names names v pv.1 pv.2).1 h).1

theorem star_names_nKeys (n : Str) (ns : List Str) (v : Val) (hk : KeysOkV v) :
    ∀ pv ∈ sel (.star :: (n :: ns).map Tk.name) v, (n :: ns).length ≤ nKeys pv.1 := by
  intro pv h
  obtain ⟨⟨u, r, e, hr⟩, _⟩ := (mem_sel_star_names n ns v hk pv.1 pv.2).1 h
  rw [e, nKeys, List.countP_append, ← nKeys, ← nKeys, runs_nKeys _ r hr]
  exact Nat.le_add_left _ _

/-- `'*'` followed by names selects no position twice: the matches of a dictionary itself have fewer keys than those
below its children -/
theorem star_names_distinct (n : Str) (ns : List Str) :
    ∀ v, KeysOkV v → FadDistinct (sel (.star :: (n :: ns).map Tk.name) v) := by
  intro v
  induction v using tree_mem_ind with
  | hd c kvs ih =>
    intro hk
    simp only [KeysOkV] at hk
    have hok : ∀ kc ∈ kvs, KeysOkV kc.2 := fun kc hm =>
      (keysOk_lookup hk (keysOk_mem_lookup hk (show (kc.1, kc.2) ∈ kvs from hm))).2.1
    rw [sel_star_dict]
    refine List.pairwise_append.2 ⟨names_distinct (n :: ns) _, ?_, ?_⟩
    · rw [stK_eq]
      exact fan_distinct kvs (fun kc => stV .star (sel ((n :: ns).map Tk.name)) kc.2) (fun kc => Seg.key kc.1)
        ((keysOk_pairwise hk).imp fun hab e => hab (Seg.key.inj e)) (fun kc hm => ih kc hm (hok kc hm))
    · intro a ha b hb e
      obtain ⟨key, x, y, hm, hy, rfl⟩ := mem_stK.1 hb
      have h1 := names_nKeys (n :: ns) _ a ha
      have h2 := star_names_nKeys n ns x (hok (key, x) hm) y hy
      rw [e] at h1
      simp only [nKeys, List.countP_cons, segIsKey, if_true] at h1 h2
      omega
  | hl c xs ih =>
    intro hk
    simp only [KeysOkV] at hk
    rw [sel_cons_list]
    exact stL_distinct _ _ xs (fun x hx => by
      obtain ⟨i, hi, rfl⟩ := List.getElem_of_mem hx
      exact ih _ hx (keysOk_elem hk (List.getElem?_eq_getElem hi)))
  | hs v hv =>
    intro _
    rw [sel_cons_scalar _ _ v hv]
    exact List.Pairwise.nil

/-! ## the search from a root -/

/-- what precedes the rendered position in the keys of a search from `v`: a leading index is attached to `"//"` -/
def rootPre : Val → Str
  | .list .. => ['/', '/']
  | _ => slash

theorem keyOf_root (v : Val) (p : Pos) (w : Val) (hp : PlainPos p) (hne : p ≠ []) (hg : getAt v p = some w) :
    keyOf (flPath [] p) = rootPre v ++ renderPos p := by
  obtain ⟨s, r, rfl⟩ : ∃ s r, p = s :: r := by cases p with
    | nil => exact absurd rfl hne
    | cons s r => exact ⟨s, r, rfl⟩
  rcases getAt_cons_inv hg with ⟨_, _, k, _, rfl, rfl, _, _⟩ | ⟨_, _, n, _, rfl, rfl, _, _⟩
  · exact keyOf_flPath k r hp
  · exact fal_keyOf_idx n r hp

/-- **`'//*/n1/…/nk'` from a root of either kind, lists anywhere**: exactly the selection, in document order, under
the rendered positions.  From the text to these tokens: `fatn_tokens` (`Proofs/FindAllTailKeys.lean`; the text is
`['/', '/', '*', '/'] ++ joinSl n ns`, the tokens are spelled `fatnT n ns`), then `findallTop_of_tokens`. -/
theorem findall_star_names (re : Bool) (n : Str) (ns : List Str) (hn : ∀ m ∈ n :: ns, PlainKey m) (v : Val)
    (hc : isContainer v = true) (hko : KeysOkV v) (hco : ContOkV v) :
    ∃ N, ∀ fuel ≥ N, (fa re fuel v (['*'] :: n :: ns) [] []).res =
      .ok (some ((sel (.star :: (n :: ns).map Tk.name) v).map (fun pv => (rootPre v ++ renderPos pv.1, pv.2)))) := by
  obtain ⟨N, hN⟩ := fa_sel re (.star :: (n :: ns).map Tk.name) (fun t h => by
    rcases List.mem_cons.1 h with rfl | h
    · trivial
    · obtain ⟨m, hm, rfl⟩ := List.mem_map.1 h
      exact hn m hm) v hco
  have hout : walkOut [] (sel (.star :: (n :: ns).map Tk.name) v) =
      (sel (.star :: (n :: ns).map Tk.name) v).map (fun pv => (rootPre v ++ renderPos pv.1, pv.2)) :=
    List.map_congr_left (fun pv hpv => by
      have hpne : pv.1 ≠ [] := fun e => by
        have := star_names_nKeys n ns v hko pv hpv
        rw [e] at this
        simp [nKeys] at this
      rw [List.nil_append, keyOf_root v pv.1 pv.2 (star_names_plain n ns hko pv hpv) hpne (star_names_getAt n ns v hko pv hpv)])
  refine ⟨N, fun fuel hf => ?_⟩
  obtain ⟨r, h1, h2, h3⟩ := hN fuel hf [] []
    (by rw [hout]; exact walk_keys_nodup _ _ (star_names_distinct n ns v hko) (star_names_plain n ns hko))
  rw [show flPath [] [] = [] from rfl, List.map_cons, Tk.str_names] at h1
  rw [List.map_cons, show Tk.star.str = ['*'] from rfl] at h3
  rw [show Tk.star.str = ['*'] from rfl] at h1
  rw [h1, ← hout, ← h2]
  cases r with
  | none => exact absurd (h3 rfl hc) (by decide)
  | some l => rfl

/-! ## `'//*/name'` -/

theorem descV_eq_sel (name : Str) :
    (∀ v, descV name v = sel [.star, .name name] v) ∧ (∀ kvs, descK name kvs = stK .star (sel [.name name]) kvs) ∧
    (∀ xs i, descL name i xs = stL .star (sel [.name name]) i xs) := by
  refine tree_ind ?_ ?_ ?_ rfl ?_ (fun _ => rfl) ?_
  · intro c kvs ih
    simp only [descV, sel, stV] at ih ⊢
    rw [ih]
    cases lookup name kvs <;> rfl
  · intro c xs ih
    simp only [descV, sel, stV] at ih ⊢
    exact ih 0
  · intro v hv
    rw [descV_scalar name v hv, sel_cons_scalar _ _ v hv]
  · intro key c kvs h1 h2
    simp only [descK, stK, h1, h2, sel]
  · intro x xs h1 h2 i
    simp only [descL, stL, h1, h2, sel]

theorem mem_descK {name : Str} {kvs : List (Str × Val)} {p : Pos} {w : Val} :
    (p, w) ∈ descK name kvs ↔ ∃ k c r, (k, c) ∈ kvs ∧ p = Seg.key k :: r ∧ (r, w) ∈ descV name c := by
  rw [(descV_eq_sel name).2.1, mem_stK]
  constructor
  · rintro ⟨k, c, r, hm, hr, e⟩
    cases e
    exact ⟨k, c, r.1, hm, rfl, by rw [(descV_eq_sel name).1]; exact hr⟩
  · rintro ⟨k, c, r, hm, rfl, hr⟩
    rw [(descV_eq_sel name).1] at hr
    exact ⟨k, c, (r, w), hm, hr, rfl⟩

theorem mem_descL {name : Str} {xs : List Val} {p : Pos} {w : Val} :
    (p, w) ∈ descL name 0 xs ↔ ∃ j x r, xs[j]? = some x ∧ p = Seg.idx j :: r ∧ (r, w) ∈ descV name x := by
  rw [(descV_eq_sel name).2.2, mem_stL]
  constructor
  · rintro ⟨j, x, r, hx, hr, e⟩
    cases e
    exact ⟨j, x, r.1, hx, rfl, by rw [(descV_eq_sel name).1]; exact hr⟩
  · rintro ⟨j, x, r, hx, rfl, hr⟩
    rw [(descV_eq_sel name).1] at hr
    exact ⟨j, x, (r, w), hx, hr, rfl⟩

theorem descV_mem (name : Str) (v : Val) (hk : KeysOkV v) (p : Pos) (w : Val) :
    (p, w) ∈ descV name v ↔ (∃ q, p = q ++ [Seg.key name]) ∧ getAt v p = some w := by
  rw [(descV_eq_sel name).1]
  refine (mem_sel_star_names name [] v hk p w).trans (and_congr_left' ⟨?_, ?_⟩)
  · rintro ⟨u, _, rfl, is, _, rfl, rfl⟩
    exact ⟨u ++ is.map Seg.idx, by simp⟩
  · rintro ⟨q, rfl⟩
    exact ⟨q, _, rfl, [], [], rfl, rfl⟩

theorem descV_distinct (name : Str) (v : Val) (hk : KeysOkV v) : FadDistinct (descV name v) := by
  rw [(descV_eq_sel name).1]
  exact star_names_distinct name [] v hk

theorem descV_plain {name : Str} {t : Val} (hko : KeysOkV t) : ∀ pv ∈ descV name t, PlainPos pv.1 := by
  rw [(descV_eq_sel name).1]
  exact star_names_plain name [] hko

theorem fad_descendant (re : Bool) {name : Str} (hn : PlainKey name) (c : Cls) (kvs : List (Str × Val))
    (hko : KeysOkV (.dict c kvs)) (hco : ContOkV (.dict c kvs)) :
    ∃ N, ∀ fuel ≥ N, (fa re fuel (.dict c kvs) (fadT name) [] []).res =
      .ok (some ((descV name (.dict c kvs)).map (fun pv => (slash ++ renderPos pv.1, pv.2)))) := by
  rw [(descV_eq_sel name).1]
  exact findall_star_names re name [] (fun t h => by rw [List.mem_singleton.1 h]; exact hn) _ rfl hko hco

theorem fal_descendant (re : Bool) {name : Str} (hn : PlainKey name) (c : Cls) (xs : List Val)
    (hko : KeysOkV (.list c xs)) (hco : ContOkV (.list c xs)) :
    ∃ N, ∀ fuel ≥ N, (fa re fuel (.list c xs) (fadT name) [] []).res =
      .ok (some ((descV name (.list c xs)).map (fun pv => ('/' :: '/' :: renderPos pv.1, pv.2)))) := by
  rw [(descV_eq_sel name).1]
  exact findall_star_names re name [] (fun t h => by rw [List.mem_singleton.1 h]; exact hn) _ rfl hko hco

end N0.FindAll
