import N0Verif.Proofs.FindAllWalk
import N0Verif.Proofs.XPathSpellings
import N0Verif.Proofs.FindAll
/-!
  Every key of every result spells the position of its value, below a dict root and below a list root.  The path
  list of a call is the text of groups (a key and the integer indexes appended to it; below a list root the first
  group has no name, `"[1][0]"`, created when the empty list was rebound to `[""]`).  `PathInv`: the groups spell a walk
  from the root to the current node and every registered proper prefix is registered with the node it leads to; every
  branch of `_findall` hands it on (`path_resInv`).
-/
namespace N0.FindAll
open N0 N0.Py N0.Val N0.XPath

/-- one element of `found_xpath_list`: a key and the integer indexes appended to it -/
abbrev Grp := Str × List Int

def grpText (g : Grp) : Str := g.1 ++ g.2.flatMap (fun i => bracket (intRepr i))

def flOfG (gs : List Grp) : FL := gs.map grpText

/-- the index spelling `findall` writes: the integer as `str()` prints it -/
def spOfInt : Int → IdxSp
  | .ofNat n => .lit n
  | .negSucc n => .neg (n + 1)

theorem spOfInt_text (i : Int) : (spOfInt i).text = intRepr i := by cases i <;> rfl

theorem spOfInt_val (i : Int) : (spOfInt i).val = i := by
  cases i with
  | ofNat n => rfl
  | negSucc n => simp only [spOfInt, IdxSp.val]; omega

def idxSteps (is : List Int) : List StepSp := is.map (fun i => StepSp.idx (spOfInt i) false)

/-- the steps the groups spell: the key of a group, unless it has no name, and its indexes, attached -/
def stepsOfP (G : List Grp) : List StepSp :=
  G.flatMap (fun g => (if g.1 = [] then [] else [StepSp.key g.1]) ++ idxSteps g.2)

theorem stepsOfP_cons_plain {g : Grp} (hk : PlainKey g.1) (G : List Grp) :
    stepsOfP (g :: G) = StepSp.key g.1 :: (idxSteps g.2 ++ stepsOfP G) := by
  simp only [stepsOfP, List.flatMap_cons, if_neg hk.ne, List.cons_append, List.nil_append]

theorem idxSteps_plain (is : List Int) (t : List StepSp) (ht : PlainSteps t) : PlainSteps (idxSteps is ++ t) := by
  induction is with
  | nil => exact ht
  | cons i r ih => exact ih

theorem renderSteps_append (a b : List StepSp) : renderSteps (a ++ b) = renderSteps a ++ renderSteps b := by
  simp [renderSteps]

theorem renderSteps_idxSteps (is : List Int) : renderSteps (idxSteps is) = is.flatMap (fun i => bracket (intRepr i)) := by
  induction is with
  | nil => rfl
  | cons i r ih =>
    simp only [idxSteps, List.map_cons, renderSteps_cons, renderStep, spOfInt_text, List.flatMap_cons] at ih ⊢
    rw [ih]

/-- `found_xpath_list[-1] += "[i]"` -/
def addIdx (gs : List Grp) (i : Int) : List Grp :=
  match gs.getLast? with
  | some g => gs.dropLast ++ [(g.1, g.2 ++ [i])]
  | Option.none => []

def GrpsPlain (gs : List Grp) : Prop := ∀ g ∈ gs, PlainKey g.1

theorem plainSteps_of_grpsPlain : ∀ (gs : List Grp), GrpsPlain gs → PlainSteps (stepsOfP gs)
  | [], _ => trivial
  | g :: r, h => by
    rw [stepsOfP_cons_plain (h g List.mem_cons_self)]
    exact ⟨h g List.mem_cons_self,
      idxSteps_plain _ _ (plainSteps_of_grpsPlain r (fun g' hg' => h g' (List.mem_cons_of_mem _ hg')))⟩

theorem grpText_noSlash {g : Grp} (hk : PlainKey g.1) : ∀ c ∈ grpText g, c ≠ '/' := by
  intro c hc
  simp only [grpText, List.mem_append, List.mem_flatMap] at hc
  rcases hc with hc | ⟨i, _, hc⟩
  · exact hk.noSlash c hc
  · have := bracketSp_noSlash (spOfInt i) c
    rw [spOfInt_text] at this
    exact this hc

theorem grpText_head {g : Grp} (hk : PlainKey g.1) : ∃ c r, grpText g = c :: r ∧ c ≠ '[' := by
  obtain ⟨c, r, hcr, _, h2⟩ := PlainKey.head_ne hk
  exact ⟨c, r ++ g.2.flatMap (fun i => bracket (intRepr i)), by simp [grpText, hcr], h2⟩

theorem join_flOfG_head (g : Grp) (r : List Grp) (hk : PlainKey g.1) :
    ∃ c t, join ['/'] (flOfG (g :: r)) = c :: t ∧ c ≠ '[' := by
  obtain ⟨c, t, hct, hc⟩ := grpText_head hk
  cases r with
  | nil => exact ⟨c, t, by simp [flOfG, join, hct], hc⟩
  | cons g' r' =>
    refine ⟨c, t ++ ['/'] ++ join ['/'] (flOfG (g' :: r')), ?_, hc⟩
    simp [flOfG, join, hct]

/-- `replace('/[', '[')` does nothing to the joined groups: a '/' is always followed by a key -/
theorem delSB_join_flOfG : ∀ (gs : List Grp), GrpsPlain gs → delSB (join ['/'] (flOfG gs)) = join ['/'] (flOfG gs) := by
  intro gs
  induction gs with
  | nil => intro _; rfl
  | cons g r ih =>
    intro h
    have hk : PlainKey g.1 := h g (by simp)
    have hr : GrpsPlain r := fun g' hg' => h g' (by simp [hg'])
    cases r with
    | nil =>
      have := delSB_append_noSlash (grpText g) [] (grpText_noSlash hk)
      simpa [flOfG, join, delSB] using this
    | cons g' r' =>
      have e : join ['/'] (flOfG (g :: g' :: r')) = grpText g ++ '/' :: join ['/'] (flOfG (g' :: r')) := by
        simp [flOfG, join]
      obtain ⟨c, t, hct, hc⟩ := join_flOfG_head g' r' (hr g' (by simp))
      rw [e, delSB_append_noSlash _ _ (grpText_noSlash hk)]
      have : delSB ('/' :: join ['/'] (flOfG (g' :: r'))) = '/' :: delSB (join ['/'] (flOfG (g' :: r'))) := by
        rw [delSB, hct]
        simp [hc]
      rw [this, ih hr]

def grpsR (gs : List Grp) : Str := gs.flatMap (fun g => '/' :: grpText g)

theorem slash_join_flOfG : ∀ (gs : List Grp), gs ≠ [] → '/' :: join ['/'] (flOfG gs) = grpsR gs := by
  intro gs
  induction gs with
  | nil => intro h; exact absurd rfl h
  | cons g r ih =>
    intro _
    cases r with
    | nil => simp [flOfG, join, grpsR]
    | cons g' r' =>
      have e : join ['/'] (flOfG (g :: g' :: r')) = grpText g ++ '/' :: join ['/'] (flOfG (g' :: r')) := by
        simp [flOfG, join]
      rw [e, ih (by simp)]
      simp [grpsR]

theorem renderSteps_stepsOfP : ∀ (gs : List Grp), GrpsPlain gs → renderSteps (stepsOfP gs) = grpsR gs
  | [], _ => rfl
  | g :: r, h => by
    rw [stepsOfP_cons_plain (h g List.mem_cons_self), renderSteps_cons, renderSteps_append, renderSteps_idxSteps,
      renderSteps_stepsOfP r (fun g' hg' => h g' (List.mem_cons_of_mem _ hg'))]
    simp [grpsR, grpText, renderStep]

theorem grpsR_append (a b : List Grp) : grpsR (a ++ b) = grpsR a ++ grpsR b := by simp [grpsR]

theorem grpsR_length_ge {gs : List Grp} (h : GrpsPlain gs) (hne : gs ≠ []) : (grpsR gs).length ≥ 2 := by
  cases gs with
  | nil => exact absurd rfl hne
  | cons g r =>
    obtain ⟨c, t, hct, _⟩ := grpText_head (h g (by simp))
    simp [grpsR, hct]

theorem keysOk_stepsGet : ∀ (steps : List StepSp) {v n : Val}, KeysOkV v → stepsGet v steps = some n → KeysOkV n
  | [], v, n, hk, h => by
    rw [stepsGet_nil] at h
    cases h; exact hk
  | .key k :: r, v, n, hk, h => by
    obtain ⟨cls, kvs, x, rfl, hl, hr⟩ := stepsGet_key_inv h
    simp only [KeysOkV] at hk
    exact keysOk_stepsGet r (keysOk_lookup hk hl).2.1 hr
  | .idx e s :: r, v, n, hk, h => by
    obtain ⟨cls, xs, m, y, rfl, _, hx, hr⟩ := stepsGet_idx_inv h
    simp only [KeysOkV] at hk
    exact keysOk_stepsGet r (keysOk_elem hk hx) hr

theorem addIdx_snoc (init : List Grp) (g : Grp) (i : Int) :
    addIdx (init ++ [g]) i = init ++ [(g.1, g.2 ++ [i])] := by
  simp [addIdx]

theorem exists_snoc_of_ne_nil {gs : List Grp} (h : gs ≠ []) : ∃ init g, gs = init ++ [g] :=
  ⟨gs.dropLast, gs.getLast h, (List.dropLast_concat_getLast h).symm⟩

theorem grpText_snoc_idx (g : Grp) (i : Int) : grpText (g.1, g.2 ++ [i]) = grpText g ++ bracket (intRepr i) := by
  simp [grpText]

/-- the in-place update of the last element, whatever the last element currently is -/
theorem setLast_addIdx {gs : List Grp} (hne : gs ≠ []) (cur : FL) (hcur : cur.dropLast = (flOfG gs).dropLast) (i : Int) :
    setLast cur ((flOfG gs).getLast?.getD [] ++ bracket (intRepr i)) = flOfG (addIdx gs i) := by
  obtain ⟨init, g, rfl⟩ := exists_snoc_of_ne_nil hne
  rw [addIdx_snoc]
  simp only [setLast, hcur, flOfG, List.map_append, List.map_cons, List.map_nil, List.dropLast_concat,
    List.getLast?_append, List.getLast?_singleton, Option.some_or, Option.getD_some, grpText_snoc_idx]

theorem flOfG_isEmpty_of_ne {gs : List Grp} (hne : gs ≠ []) : (flOfG gs).isEmpty = false := by
  cases gs with
  | nil => exact absurd rfl hne
  | cons _ _ => rfl

/-- the first group has a plain key or no name and at least one index, the others have plain keys -/
def GrpsOk : List Grp → Prop
  | [] => True
  | g :: gs => (PlainKey g.1 ∨ (g.1 = [] ∧ g.2 ≠ [])) ∧ GrpsPlain gs

theorem GrpsOk.snoc {G : List Grp} (h : GrpsOk G) {k : Str} (hk : PlainKey k) (is : List Int) :
    GrpsOk (G ++ [(k, is)]) := by
  cases G with
  | nil => exact ⟨Or.inl hk, fun _ hg => nomatch hg⟩
  | cons g gs =>
    refine ⟨h.1, fun g' hg' => ?_⟩
    rcases List.mem_append.1 hg' with hg' | hg'
    · exact h.2 g' hg'
    · rw [List.mem_singleton.1 hg']
      exact hk

theorem GrpsOk.take {G : List Grp} (h : GrpsOk G) (m : Nat) : GrpsOk (G.take m) := by
  cases G with
  | nil => rw [List.take_nil]; trivial
  | cons g gs =>
    cases m with
    | zero => trivial
    | succ m => exact ⟨h.1, fun g' hg' => h.2 g' (List.mem_of_mem_take hg')⟩

theorem path_plainSteps {G : List Grp} (h : GrpsOk G) : PlainSteps (stepsOfP G) := by
  cases G with
  | nil => trivial
  | cons g gs =>
    have ht : PlainSteps (stepsOfP gs) := plainSteps_of_grpsPlain gs h.2
    show PlainSteps (((if g.1 = [] then [] else [StepSp.key g.1]) ++ idxSteps g.2) ++ stepsOfP gs)
    rcases h.1 with hk | ⟨he, _⟩
    · rw [if_neg hk.ne, List.append_assoc]
      exact ⟨hk, idxSteps_plain _ _ ht⟩
    · rw [if_pos he, List.nil_append]
      exact idxSteps_plain _ _ ht

theorem stepsOfP_snoc_key (G : List Grp) {k : Str} (hk : k ≠ []) :
    stepsOfP (G ++ [(k, [])]) = stepsOfP G ++ [StepSp.key k] := by
  simp [stepsOfP, idxSteps, hk]

theorem stepsOfP_snoc_idx (init : List Grp) (g : Grp) (i : Int) :
    stepsOfP (init ++ [(g.1, g.2 ++ [i])]) = stepsOfP (init ++ [g]) ++ [StepSp.idx (spOfInt i) false] := by
  simp [stepsOfP, idxSteps]

theorem grpText_head_ok {g : Grp} (h : PlainKey g.1 ∨ (g.1 = [] ∧ g.2 ≠ [])) :
    (∀ c ∈ grpText g, c ≠ '/') ∧ grpText g ≠ [] := by
  rcases h with hk | ⟨he, hi⟩
  · refine ⟨grpText_noSlash hk, ?_⟩
    obtain ⟨c, r, hcr, _⟩ := grpText_head hk
    rw [hcr]
    exact List.cons_ne_nil _ _
  · obtain ⟨k, is⟩ := g
    simp only at he hi
    subst he
    refine ⟨fun c hc => ?_, ?_⟩
    · simp only [grpText, List.nil_append, List.mem_flatMap] at hc
      obtain ⟨i, _, hc⟩ := hc
      have := bracketSp_noSlash (spOfInt i) c
      rw [spOfInt_text] at this
      exact this hc
    · cases is with
      | nil => exact absurd rfl hi
      | cons i r => simp [grpText, bracket]

theorem path_join (h : Str) (gs : List Grp) : join ['/'] (h :: flOfG gs) = h ++ grpsR gs := by
  cases gs with
  | nil => simp [flOfG, join, grpsR]
  | cons g r =>
    have e : join ['/'] (h :: flOfG (g :: r)) = h ++ ['/'] ++ join ['/'] (flOfG (g :: r)) :=
      join_cons_of_ne_nil _ _ _ (by simp [flOfG])
    rw [e, ← slash_join_flOfG (g :: r) (by simp)]
    simp

theorem path_delSB_grpsR (gs : List Grp) (h : GrpsPlain gs) : delSB (grpsR gs) = grpsR gs := by
  cases gs with
  | nil => rfl
  | cons g r =>
    rw [← slash_join_flOfG (g :: r) (by simp)]
    obtain ⟨c, t, hct, hc⟩ := join_flOfG_head g r (h g (by simp))
    have : delSB ('/' :: join ['/'] (flOfG (g :: r))) = '/' :: delSB (join ['/'] (flOfG (g :: r))) := by
      rw [delSB, hct]
      simp [hc]
    rw [this, delSB_join_flOfG _ h]

theorem path_keyOf {g : Grp} {gs : List Grp} (h : GrpsOk (g :: gs)) :
    keyOf (flOfG (g :: gs)) = '/' :: '/' :: (grpText g ++ grpsR gs) := by
  show keyOf (grpText g :: flOfG gs) = _
  rw [keyOf, path_join, delSB_append_noSlash _ _ (grpText_head_ok h.1).1, path_delSB_grpsR gs h.2]

theorem path_take_prefix_ne {G : List Grp} (h : GrpsOk G) {m : Nat} (hm : m < G.length) :
    keyOf (flOfG (G.take m)) ≠ keyOf (flOfG G) := by
  cases G with
  | nil => exact absurd hm (Nat.not_lt_zero _)
  | cons g gs =>
    rw [path_keyOf h]
    cases m with
    | zero =>
      have hne := (grpText_head_ok h.1).2
      intro heq
      have := congrArg List.length heq
      cases hg : grpText g with
      | nil => exact hne hg
      | cons c t => rw [hg] at this; simp [keyOf, flOfG, join, delSB] at this
    | succ k =>
      have hk : k < gs.length := Nat.lt_of_succ_lt_succ hm
      rw [List.take_succ_cons, path_keyOf (h.take (k + 1))]
      intro heq
      simp only [List.cons.injEq, true_and] at heq
      have h3 := List.append_cancel_left heq
      have e : gs.take k ++ gs.drop k = gs := List.take_append_drop k gs
      have hd : gs.drop k ≠ [] := by
        intro h'
        have := congrArg List.length h'
        simp at this
        omega
      have h2 : GrpsPlain (gs.drop k) := fun g' hg' => h.2 g' (List.mem_of_mem_drop hg')
      have h4 : grpsR gs = grpsR (gs.take k) ++ grpsR (gs.drop k) := by rw [← grpsR_append, e]
      rw [h4] at h3
      have h5 := congrArg List.length h3
      have h6 := grpsR_length_ge h2 hd
      simp only [List.length_append] at h5
      omega

theorem path_keyOf_renderSp {G : List Grp} (h : GrpsOk G) : keyOf (flOfG G) = renderSp .two (stepsOfP G) := by
  cases G with
  | nil => rfl
  | cons g gs =>
    have hs : renderSteps (stepsOfP (g :: gs)) =
        renderSteps ((if g.1 = [] then [] else [StepSp.key g.1]) ++ idxSteps g.2) ++ grpsR gs := by
      show renderSteps (((if g.1 = [] then [] else [StepSp.key g.1]) ++ idxSteps g.2) ++ stepsOfP gs) = _
      rw [renderSteps_append, renderSteps_stepsOfP gs h.2]
    rw [path_keyOf h, renderSp, hs, renderSteps_append, renderSteps_idxSteps]
    rcases h.1 with hk | ⟨he, hi⟩
    · obtain ⟨c, r, hcr, _, _⟩ := PlainKey.head_ne hk
      simp [hk.ne, renderSteps, renderStep, grpText, leadStr, dropSlash]
    · obtain ⟨k, is⟩ := g
      simp only at he hi
      subst he
      cases is with
      | nil => exact absurd rfl hi
      | cons i r => simp [renderSteps, grpText, leadStr, dropSlash, bracket]

/-- `found_xpath_list[-1] += "[i]"`, an empty list having been rebound to `[""]` -/
def addIdxP (G : List Grp) (i : Int) : List Grp := if G = [] then [([], [i])] else addIdx G i

theorem path_setLast_add (G : List Grp) (cur : FL) (hcur : cur.dropLast = (flOfG G).dropLast) (i : Int) :
    setLast (if (flOfG G).isEmpty = true then [[]] else cur)
      ((if (flOfG G).isEmpty = true then ([[]] : FL) else flOfG G).getLast?.getD [] ++ bracket (intRepr i)) =
      flOfG (addIdxP G i) := by
  by_cases hg : G = []
  · subst hg
    simp [addIdxP, flOfG, setLast, grpText]
  · have he := flOfG_isEmpty_of_ne hg
    rw [addIdxP, if_neg hg]
    simp only [he, Bool.false_eq_true, if_false]
    exact setLast_addIdx hg cur hcur i

/-- **the invariant** of a call `_findall(node, …, found_xpath_list = fl, parent_nodes_stack = ps)` inside a search on
`root`: the path list is the text of groups that spell a walk from the root to `node`; the root key `'//'`, if
registered in the stack, is registered with the root, and every proper prefix of the path list that is registered is
registered with the node that prefix leads to (what `'..'` relies on) -/
structure PathInv (root : Val) (G : List Grp) (node : Val) (fl : FL) (ps : PS) : Prop where
  ok : GrpsOk G
  fl_eq : fl = flOfG G
  at_ : stepsGet root (stepsOfP G) = some node
  stack0 : ∀ nd, lookup (keyOf []) ps = some nd → nd = root
  stack : ∀ m, m < G.length → ∀ nd, lookup (keyOf (flOfG (G.take m))) ps = some nd →
    stepsGet root (stepsOfP (G.take m)) = some nd

theorem PathInv.start (root : Val) : PathInv root [] root [] [] where
  ok := trivial
  fl_eq := rfl
  at_ := stepsGet_nil root
  stack0 := fun _ h => nomatch h
  stack := fun m h => absurd h (Nat.not_lt_zero m)

section inv
variable {root node : Val} {G : List Grp} {fl : FL} {ps : PS}

theorem PathInv.at_nil (h : PathInv root [] node fl ps) : node = root := by
  have := h.at_
  rw [show stepsOfP [] = [] from rfl, stepsGet_nil] at this
  exact (Option.some.inj this).symm

theorem PathInv.pushed (h : PathInv root G node fl ps) :
    (∀ nd, lookup (keyOf []) (push ps fl node) = some nd → nd = root) ∧
    ∀ m, m < G.length → ∀ nd, lookup (keyOf (flOfG (G.take m))) (push ps fl node) = some nd →
      stepsGet root (stepsOfP (G.take m)) = some nd := by
  constructor
  · intro nd hlk
    cases G with
    | nil =>
      have hfl : fl = [] := h.fl_eq
      subst hfl
      rw [push, lookup_kvSet_same] at hlk
      rw [← Option.some.inj hlk]
      exact h.at_nil
    | cons g gs =>
      rw [push, lookup_kvSet_other _ _ _ _
        (by rw [h.fl_eq]; exact path_take_prefix_ne h.ok (m := 0) (Nat.zero_lt_succ _))] at hlk
      exact h.stack0 nd hlk
  · intro m hm nd hlk
    rw [push, lookup_kvSet_other _ _ _ _ (by rw [h.fl_eq]; exact path_take_prefix_ne h.ok hm)] at hlk
    exact h.stack m hm nd hlk

/-- registering the current node under its own xpath (what a `text()` condition does) -/
theorem PathInv.register (h : PathInv root G node fl ps) : PathInv root G node fl (push ps fl node) :=
  ⟨h.ok, h.fl_eq, h.at_, h.pushed.1, h.pushed.2⟩

/-- a name step (also the descent of `*` into a child) -/
theorem PathInv.key {c : Cls} {kvs : List (Str × Val)} (h : PathInv root G (.dict c kvs) fl ps) {k : Str}
    {child : Val} (hk : PlainKey k) (hl : lookup k kvs = some child) :
    PathInv root (G ++ [(k, [])]) child (fl ++ [k]) (push ps fl (.dict c kvs)) := by
  refine ⟨h.ok.snoc hk [], ?_, ?_, h.pushed.1, ?_⟩
  · simp [flOfG, grpText, h.fl_eq]
  · rw [stepsOfP_snoc_key G hk.ne, stepsGet_append, h.at_, Option.bind_some, stepsGet_key_one, hl]
  · intro m hm nd hlk
    rw [List.length_append, List.length_singleton] at hm
    have htake : (G ++ [((k, []) : Grp)]).take m = G.take m := List.take_append_of_le_length (Nat.le_of_lt_succ hm)
    rw [htake] at hlk ⊢
    by_cases hmm : m = G.length
    · subst hmm
      rw [List.take_length] at hlk ⊢
      rw [← h.fl_eq, push, lookup_kvSet_same] at hlk
      rw [← Option.some.inj hlk]
      exact h.at_
    · exact h.pushed.2 m (Nat.lt_of_le_of_ne (Nat.le_of_lt_succ hm) hmm) nd hlk

/-- an index step (also one round of the `[*]` loop) -/
theorem PathInv.idx {c : Cls} {xs : List Val} (h : PathInv root G (.list c xs) fl ps) {i : Int} {n : Nat}
    {child : Val} (hn : normIdx i xs.length = some n) (hx : xs[n]? = some child) :
    PathInv root (addIdxP G i) child (flOfG (addIdxP G i)) (push ps (flOfG (addIdxP G i)) (.list c xs)) := by
  have hstep : stepsGet (.list c xs) [StepSp.idx (spOfInt i) false] = some child := by
    rw [stepsGet_idx_one, spOfInt_val]
    simp only [pyIndex, hn, Option.bind_some, hx]
  by_cases hg : G = []
  · subst hg
    have hr := h.at_nil
    have e : addIdxP [] i = [([], [i])] := rfl
    rw [e]
    have hok : GrpsOk [(([], [i]) : Grp)] := ⟨Or.inr ⟨rfl, List.cons_ne_nil _ _⟩, fun _ hg => nomatch hg⟩
    have hne : keyOf [] ≠ keyOf (flOfG [(([], [i]) : Grp)]) := path_take_prefix_ne hok (m := 0) (Nat.zero_lt_succ _)
    refine ⟨hok, rfl, ?_, ?_, ?_⟩
    · rw [← hr]; exact hstep
    · intro nd hlk
      rw [push, lookup_kvSet_other _ _ _ _ hne] at hlk
      exact h.stack0 nd hlk
    · intro m hm nd hlk
      have hm0 : m = 0 := Nat.lt_one_iff.1 hm
      subst hm0
      rw [show flOfG (List.take 0 [(([], [i]) : Grp)]) = [] from rfl, push, lookup_kvSet_other _ _ _ _ hne] at hlk
      rw [h.stack0 nd hlk]
      exact stepsGet_nil root
  · obtain ⟨init, g, rfl⟩ := exists_snoc_of_ne_nil hg
    have e : addIdxP (init ++ [g]) i = init ++ [(g.1, g.2 ++ [i])] := by
      rw [addIdxP, if_neg hg, addIdx_snoc]
    rw [e]
    have hok : GrpsOk (init ++ [(g.1, g.2 ++ [i])]) := by
      have := h.ok
      cases init with
      | nil =>
        refine ⟨?_, fun _ hg' => nomatch hg'⟩
        rcases this.1 with hk | ⟨he, _⟩
        · exact Or.inl hk
        · exact Or.inr ⟨he, by simp⟩
      | cons a r =>
        refine ⟨this.1, fun g' hg' => ?_⟩
        rcases List.mem_append.1 hg' with hg' | hg'
        · exact this.2 g' (List.mem_append_left _ hg')
        · rw [List.mem_singleton.1 hg']
          exact this.2 g (List.mem_append_right _ List.mem_cons_self)
    have hlen : (init ++ [((g.1, g.2 ++ [i]) : Grp)]).length = init.length + 1 := by
      rw [List.length_append, List.length_singleton]
    refine ⟨hok, rfl, ?_, ?_, ?_⟩
    · rw [stepsOfP_snoc_idx, stepsGet_append, h.at_, Option.bind_some]
      exact hstep
    · intro nd hlk
      rw [push, lookup_kvSet_other _ _ _ _
        (by have := path_take_prefix_ne hok (m := 0) (by rw [hlen]; exact Nat.zero_lt_succ _); exact this)] at hlk
      exact h.stack0 nd hlk
    · intro m hm nd hlk
      rw [hlen] at hm
      have htake : (init ++ [((g.1, g.2 ++ [i]) : Grp)]).take m = init.take m :=
        List.take_append_of_le_length (Nat.le_of_lt_succ hm)
      have htake' : (init ++ [g]).take m = init.take m := List.take_append_of_le_length (Nat.le_of_lt_succ hm)
      have hne := path_take_prefix_ne hok (m := m) (by rw [hlen]; exact hm)
      rw [htake] at hlk hne ⊢
      rw [push, lookup_kvSet_other _ _ _ _ hne] at hlk
      have := h.stack m (by rw [List.length_append, List.length_singleton]; exact hm) nd (by rw [htake']; exact hlk)
      rwa [htake'] at this

theorem PathInv.up (h : PathInv root G node fl ps) (hne : fl.isEmpty = false) {target : Val}
    (hl : lookup (keyOf fl.dropLast) ps = some target) : PathInv root G.dropLast target fl.dropLast ps := by
  have hg : G ≠ [] := by
    intro hg
    rw [h.fl_eq, hg] at hne
    cases hne
  obtain ⟨init, g, rfl⟩ := exists_snoc_of_ne_nil hg
  have hfl : fl.dropLast = flOfG init := by simp [h.fl_eq, flOfG]
  have htake : (init ++ [g]).take init.length = init := by simp
  rw [List.dropLast_concat, hfl]
  rw [hfl] at hl
  refine ⟨?_, rfl, ?_, h.stack0, ?_⟩
  · have := h.ok.take init.length
    rwa [htake] at this
  · have := h.stack init.length (by simp) target (by rw [htake]; exact hl)
    rwa [htake] at this
  · intro m hm nd hlk
    have htk : (init ++ [g]).take m = init.take m := List.take_append_of_le_length (Nat.le_of_lt hm)
    have := h.stack m (by rw [List.length_append]; exact Nat.lt_add_right _ hm) nd (by rw [htk]; exact hlk)
    rwa [htk] at this

end inv

theorem path_resInv {root : Val} (hko : KeysOkV root) :
    ResInv (fun node fl ps => ∃ G, PathInv root G node fl ps)
      (fun kv => ∃ G, GrpsOk G ∧ kv.1 = keyOf (flOfG G) ∧ stepsGet root (stepsOfP G) = some kv.2) where
  here := fun ⟨G, h⟩ => ⟨G, h.ok, by rw [h.fl_eq], h.at_⟩
  up := fun ⟨_, h⟩ he hl => ⟨_, h.up he hl⟩
  register := fun ⟨G, h⟩ => ⟨G, h.register⟩
  idx := fun {c xs fl ps i n child} ⟨G, h⟩ hn hx => by
    have e := path_setLast_add G fl (by rw [h.fl_eq]) i
    rw [← h.fl_eq] at e
    have e' : addLast fl (bracket (intRepr i)) = flOfG (addIdxP G i) := e
    simp only [e']
    exact ⟨_, h.idx hn hx⟩
  key := fun {c kvs fl ps k child} ⟨G, h⟩ hm => by
    have hkn : KeysOkK kvs := by
      have := keysOk_stepsGet _ hko h.at_
      simpa only [KeysOkV] using this
    have hl := keysOk_mem_lookup hkn hm
    exact ⟨_, h.key (keysOk_lookup hkn hl).1 hl⟩

theorem findall_spells (root : Val) (hko : KeysOkV root) (e : Str) (fuel : Nat) (f : Found) (re : Bool)
    (h : (findallTop fuel fresh root e re).res = .ok (some f)) :
    ∀ kv ∈ f, ∃ G, GrpsOk G ∧ kv.1 = keyOf (flOfG G) ∧ stepsGet root (stepsOfP G) = some kv.2 :=
  fa_res (path_resInv hko) re fuel _ _ _ _ ⟨[], PathInv.start _⟩ f h

theorem fad_getItem_root (fuel : Nat) (c : Cls) (kvs : List (Str × Val)) :
    getItem (fuel + 1) (.dict c kvs) ['/', '/'] = (.dict c kvs, .ok (.dict c kvs)) := by
  have ht : tokenize ['/', '/'] = [] := by decide
  have hq : startsWith ['/', '/'] ['?'] = false := by decide
  have hpc : hasPathChar ['/', '/'] = true := by decide
  simp only [getItem, getCore, hq, Bool.false_eq_true, ↓reduceIte, hpc, ht]
  rw [findD]
  simp [valOf, Res.isFound, Val.getAt]

theorem fad_get_root (fuel : Nat) (c : Cls) (kvs : List (Str × Val)) (d : Val) :
    XPath.get (fuel + 1) (.dict c kvs) ['/', '/'] d = (.dict c kvs, .ok (.dict c kvs)) := by
  have ht : tokenize ['/', '/'] = [] := by decide
  have hq : startsWith ['/', '/'] ['?'] = false := by decide
  have hpc : hasPathChar ['/', '/'] = true := by decide
  simp only [XPath.get, getCore, hq, Bool.false_eq_true, ↓reduceIte, hpc, ht]
  rw [findD]
  simp [valOf, Res.isFound, Val.getAt]

/-! The path list below a list root, given by the integer indexes `is` of its first element and the groups `gs` that
follow: `[]` at the root, else `"[1][0]"` followed by ordinary groups (`a`, `b[2]`). -/

/-- text of the first element: `"[1][0]"` -/
def falT (is : List Int) : Str := is.flatMap (fun i => bracket (intRepr i))

def falFl (is : List Int) (gs : List Grp) : FL := if is = [] then [] else falT is :: flOfG gs

theorem falT_ne {is : List Int} (h : is ≠ []) : falT is ≠ [] := by
  cases is with
  | nil => exact absurd rfl h
  | cons i r => simp [falT, bracket]

theorem fal_falFl_isEmpty (is : List Int) (gs : List Grp) : (falFl is gs).isEmpty = decide (is = []) := by
  by_cases hi : is = []
  · simp [falFl, hi]
  · simp [falFl, hi]

theorem fal_getItem_root (fuel : Nat) (c : Cls) (xs : List Val) :
    getItem (fuel + 1) (.list c xs) ['/', '/'] = (.list c xs, .ok (.list c xs)) := by
  have ht : tokenize ['/', '/'] = [] := by decide
  have hq : startsWith ['/', '/'] ['?'] = false := by decide
  have hpc : hasPathChar ['/', '/'] = true := by decide
  simp only [getItem, getCore, hq, Bool.false_eq_true, ↓reduceIte, hpc, ht]
  rw [findL]
  simp [valOf, Res.isFound, Val.getAt]

theorem fal_get_root (fuel : Nat) (c : Cls) (xs : List Val) (d : Val) :
    XPath.get (fuel + 1) (.list c xs) ['/', '/'] d = (.list c xs, .ok (.list c xs)) := by
  have ht : tokenize ['/', '/'] = [] := by decide
  have hq : startsWith ['/', '/'] ['?'] = false := by decide
  have hpc : hasPathChar ['/', '/'] = true := by decide
  simp only [XPath.get, getCore, hq, Bool.false_eq_true, ↓reduceIte, hpc, ht]
  rw [findL]
  simp [valOf, Res.isFound, Val.getAt]

end N0.FindAll
