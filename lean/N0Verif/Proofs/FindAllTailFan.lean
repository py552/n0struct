import N0Verif.Proofs.FindAllTailKeys
/-!
  `'//*/name/sub'` when an entry called `name` may hold a **list**: below a list `sub` fans out over the elements in
  document order (lists of lists recursively), keys `…/name[i]/sub`, `…/name[i][j]/sub`; `ContOkV` (the quantifier of the
  property) is what makes the fan-out total.  The reference `tailOfL sub (descV name t)` is the selection of `'*'`, `name`,
  `sub` (`tailOfL_eq_sel`): the search is `findall_star_names`, its members those of `mem_sel_star_names`.
-/
namespace N0.FindAll
open N0 N0.Py N0.Val N0.XPath

mutual
/-- what the step `sub` finds in / below a node (positions relative to the node): the entry `sub` of a
dictionary, the fan-out over the elements of a list, nothing below a final element -/
def subV (sub : Str) : Val → List (Pos × Val)
  | .dict _ kvs =>
    (match lookup sub kvs with
      | some x => [([Seg.key sub], x)]
      | Option.none => [])
  | .list _ xs => subL sub 0 xs
  | _ => []
def subL (sub : Str) : Nat → List Val → List (Pos × Val)
  | _, [] => []
  | i, x :: xs => (subV sub x).map (fun pv => (Seg.idx i :: pv.1, pv.2)) ++ subL sub (i + 1) xs
end

theorem subV_scalar (sub : Str) (v : Val) (h : isContainer v = false) : subV sub v = [] := by
  cases v <;> simp only [isContainer, Bool.true_eq_false] at h <;> simp only [subV]

/-- what `sub` finds below one node `pv` called `name` (lists fan out) -/
def tl1L (sub : Str) (pv : Pos × Val) : List (Pos × Val) :=
  (subV sub pv.2).map (fun y => (pv.1 ++ y.1, y.2))

/-- the nodes `'//*/name/sub'` must find, from the nodes called `name` (document order), lists included -/
def tailOfL (sub : Str) (l : List (Pos × Val)) : List (Pos × Val) := l.flatMap (tl1L sub)

theorem tl1L_eq_tl1 (sub : Str) (pv : Pos × Val) (h : ∀ c xs, pv.2 ≠ .list c xs) : tl1L sub pv = tl1 sub pv := by
  obtain ⟨p, w⟩ := pv
  cases w <;> simp only [tl1L, tl1, subV, List.map_nil]
  next c xs => exact absurd rfl (h c xs)
  next c kvs => cases lookup sub kvs <;> simp

theorem subV_eq_sel (sub : Str) :
    (∀ v, subV sub v = sel [.name sub] v) ∧ (∀ xs i, subL sub i xs = stL (.name sub) (sel []) i xs) := by
  have h := tree_ind (PV := fun v => subV sub v = sel [.name sub] v) (PK := fun _ => True)
    (PL := fun xs => ∀ i, subL sub i xs = stL (.name sub) (sel []) i xs) ?_ ?_ ?_ trivial (fun _ _ _ _ _ => trivial)
    (fun _ => rfl) ?_
  · exact ⟨h.1, h.2.2⟩
  · intro c kvs _
    rw [sel_name_dict]
    simp only [subV]
    cases lookup sub kvs <;> rfl
  · intro c xs ih
    rw [sel_cons_list, subV]
    exact ih 0
  · intro v hv
    rw [subV_scalar sub v hv, sel_cons_scalar _ _ v hv]
  · intro x xs h1 h2 i
    simp only [subL, stL, h1, h2, sel]

/-- one more name below the nodes of any list: the selection by that name from each -/
theorem tailOfL_eq_bind (sub : Str) (l : List (Pos × Val)) : tailOfL sub l = bindSel l (sel [.name sub]) := by
  rw [← funext (subV_eq_sel sub).1]
  rfl

/-- the reference is the selection of `'*'`, `name`, `sub` -/
theorem tailOfL_eq_sel (name sub : Str) (v : Val) :
    tailOfL sub (descV name v) = sel [.star, .name name, .name sub] v := by
  rw [tailOfL_eq_bind, (descV_eq_sel name).1]
  exact (sel_append [.star, .name name] [.name sub] v).symm

/-- below nodes at different positions that end with the key `name` the step `sub` lists no position twice: a
relative position has one key, so the position cuts in one way only -/
theorem fatl_tail_distinct (name sub : Str) (l : List (Pos × Val)) (hd : FadDistinct l)
    (hl : ∀ b ∈ l, ∃ q, b.1 = q ++ [Seg.key name]) : FadDistinct (tailOfL sub l) := by
  have hsub : ∀ (w : Val), ∀ y ∈ subV sub w, nKeys y.1 = 1 := fun w y hy =>
    names_nKeys [sub] w y (by rw [(subV_eq_sel sub).1] at hy; exact hy)
  induction l with
  | nil => exact List.Pairwise.nil
  | cons a r ih =>
    obtain ⟨ha, hr⟩ := List.pairwise_cons.1 hd
    have hone : FadDistinct (tl1L sub a) := by
      refine List.pairwise_map.2 (List.Pairwise.imp ?_ (show FadDistinct (subV sub a.2) by
        rw [(subV_eq_sel sub).1]; exact names_distinct [sub] a.2))
      intro x y hxy e
      exact hxy (List.append_cancel_left e)
    show FadDistinct (tl1L sub a ++ tailOfL sub r)
    refine List.pairwise_append.2 ⟨hone, ih hr (fun b hb => hl b (List.mem_cons_of_mem _ hb)), ?_⟩
    intro x hx y hy e
    obtain ⟨b, hb, hyb⟩ := List.mem_flatMap.1 hy
    obtain ⟨x', hx', rfl⟩ := List.mem_map.1 hx
    obtain ⟨y', hy', rfl⟩ := List.mem_map.1 hyb
    obtain ⟨qa, hqa⟩ := hl a List.mem_cons_self
    obtain ⟨qb, hqb⟩ := hl b (List.mem_cons_of_mem _ hb)
    simp only at e
    rw [hqa, hqb] at e
    have e' : x'.1.reverse ++ Seg.key name :: qa.reverse = y'.1.reverse ++ Seg.key name :: qb.reverse := by
      simpa [List.reverse_append] using congrArg List.reverse e
    have := nKeys_cut name name _ _ _ _
      (by rw [nKeys, nKeys, List.countP_reverse, List.countP_reverse]; exact (hsub _ x' hx').trans (hsub _ y' hy').symm) e'
    exact ha b hb (by rw [hqa, hqb, List.reverse_inj.1 this])

theorem fatl_tail_plain {sub : Str} (hs : PlainKey sub) (l : List (Pos × Val)) (hp : ∀ pv ∈ l, PlainPos pv.1) :
    ∀ pv ∈ tailOfL sub l, PlainPos pv.1 := by
  intro pv hpv
  obtain ⟨b, hb, hm⟩ := List.mem_flatMap.1 hpv
  obtain ⟨y, hy, rfl⟩ := List.mem_map.1 hm
  rw [(subV_eq_sel sub).1] at hy
  obtain ⟨is, _, his, rfl⟩ := ((mem_sel_names [sub] b.2 y.1 y.2).1 hy).1
  refine PlainPos.append (hp b hb) ?_
  rw [his]
  clear his
  induction is with
  | nil => exact ⟨hs, trivial⟩
  | cons i r ih => exact ih

theorem fatl_descendant (re : Bool) {name sub : Str} (hn : PlainKey name) (hs : PlainKey sub) (c : Cls)
    (kvs : List (Str × Val)) (hko : KeysOkV (.dict c kvs)) (hco : ContOkV (.dict c kvs)) :
    ∃ N, ∀ fuel ≥ N, (fa re fuel (.dict c kvs) (fatT name sub) [] []).res =
      .ok (some ((tailOfL sub (descV name (.dict c kvs))).map (fun pv => (slash ++ renderPos pv.1, pv.2)))) := by
  rw [tailOfL_eq_sel]
  exact findall_star_names re name [sub]
    (fun t h => by
      rcases List.mem_cons.1 h with rfl | h
      · exact hn
      · rw [List.mem_singleton.1 h]; exact hs)
    _ rfl hko hco

theorem fatl_descendant_list (re : Bool) {name sub : Str} (hn : PlainKey name) (hs : PlainKey sub) (c : Cls)
    (xs : List Val) (hko : KeysOkV (.list c xs)) (hco : ContOkV (.list c xs)) :
    ∃ N, ∀ fuel ≥ N, (fa re fuel (.list c xs) (fatT name sub) [] []).res =
      .ok (some ((tailOfL sub (descV name (.list c xs))).map (fun pv => ('/' :: '/' :: renderPos pv.1, pv.2)))) := by
  rw [tailOfL_eq_sel]
  exact findall_star_names re name [sub]
    (fun t h => by
      rcases List.mem_cons.1 h with rfl | h
      · exact hn
      · rw [List.mem_singleton.1 h]; exact hs)
    _ rfl hko hco

theorem fatl_tailOfL_eq (sub : Str) (l : List (Pos × Val)) (h : ∀ b ∈ l, ∀ c xs, b.2 ≠ .list c xs) :
    tailOfL sub l = tailOf sub l := by
  induction l with
  | nil => rfl
  | cons a r ih =>
    show tl1L sub a ++ tailOfL sub r = tl1 sub a ++ tailOf sub r
    rw [tl1L_eq_tl1 sub a (h a List.mem_cons_self), ih (fun b hb => h b (List.mem_cons_of_mem _ hb))]

theorem fatl_tail_mem_getAt (name sub : Str) (t : Val) (hk : KeysOkV t) (p : Pos) (v : Val) :
    (p, v) ∈ tailOfL sub (descV name t) ↔
      ∃ (q : Pos) (is : List Nat), p = q ++ [Seg.key name] ++ is.map Seg.idx ++ [Seg.key sub] ∧ getAt t p = some v := by
  rw [tailOfL_eq_sel]
  refine (mem_sel_star_names name [sub] t hk p v).trans ⟨?_, ?_⟩
  · rintro ⟨⟨u, _, rfl, is, _, rfl, is2, _, rfl, rfl⟩, hg⟩
    exact ⟨u ++ is.map Seg.idx, is2, by simp, hg⟩
  · rintro ⟨q, is, rfl, hg⟩
    exact ⟨⟨q, _, by simp, [], _, rfl, is, [], rfl, rfl⟩, hg⟩

end N0.FindAll
