import N0Verif.Proofs.FindAllSel
/-!
  `'//*/name/sub'` and `'//*/name/s1/…/sk'`: the references `tailOf` / `tailN` follow the keys through dictionaries only;
  under `NnlV` / `NnlsV` (no entry called like a non-final step is a list — below a list the next step fans out,
  `Proofs/FindAllTailFan.lean`) they are the selection of `'*'`, `name`, the keys (`tailN_eq_sel`), so the searches are
  `findall_star_names`.  An entry on the way that is missing or a final element is a miss of that branch only (fix C19-d):
  the last case of `fa_sel`; `fat_self_check` states it for the check of one node by two steps and no proof uses it.
-/
namespace N0.FindAll
open N0 N0.Py N0.Val N0.XPath

/-- what `sub` finds below one node `pv` called `name` -/
def tl1 (sub : Str) (pv : Pos × Val) : List (Pos × Val) :=
  match pv.2 with
  | .dict _ kvs =>
    (match lookup sub kvs with
      | some x => [(pv.1 ++ [Seg.key sub], x)]
      | Option.none => [])
  | _ => []

/-- the nodes `'//*/name/sub'` must find, from the nodes called `name` (document order) -/
def tailOf (sub : Str) (l : List (Pos × Val)) : List (Pos × Val) := l.flatMap (tl1 sub)

theorem tailOf_append (sub : Str) (a b : List (Pos × Val)) :
    tailOf sub (a ++ b) = tailOf sub a ++ tailOf sub b := by simp [tailOf]

theorem tailOf_map_cons (sub : Str) (s : Seg) (l : List (Pos × Val)) :
    tailOf sub (l.map (fun pv => (s :: pv.1, pv.2))) = (tailOf sub l).map (fun pv => (s :: pv.1, pv.2)) := by
  induction l with
  | nil => rfl
  | cons a r ih =>
    have h1 : tl1 sub (s :: a.1, a.2) = (tl1 sub a).map (fun pv => (s :: pv.1, pv.2)) := by
      obtain ⟨p, w⟩ := a
      cases w <;> simp only [tl1, List.map_nil]
      next c kvs => cases lookup sub kvs <;> simp
    simp only [tailOf, List.map_cons, List.flatMap_cons, List.map_append] at ih ⊢
    rw [h1, ih]

theorem mem_tl1 {sub : Str} {b y : Pos × Val} (h : y ∈ tl1 sub b) :
    y.1 = b.1 ++ [Seg.key sub] ∧ ∃ c kvs, b.2 = .dict c kvs ∧ lookup sub kvs = some y.2 := by
  obtain ⟨p, w⟩ := b
  cases w <;> simp only [tl1, List.not_mem_nil] at h
  next c kvs =>
    cases hl : lookup sub kvs with
    | none => rw [hl] at h; cases h
    | some x =>
      rw [hl] at h
      simp only [List.mem_singleton] at h
      subst h
      exact ⟨rfl, c, kvs, rfl, hl⟩

mutual
/-- no entry called `name` is a list -/
def NnlV (name : Str) : Val → Prop
  | .dict _ kvs => (∀ c xs, lookup name kvs ≠ some (.list c xs)) ∧ NnlK name kvs
  | .list _ xs => NnlL name xs
  | _ => True
def NnlK (name : Str) : List (Str × Val) → Prop
  | [] => True
  | (_, c) :: kvs => NnlV name c ∧ NnlK name kvs
def NnlL (name : Str) : List Val → Prop
  | [] => True
  | x :: xs => NnlV name x ∧ NnlL name xs
end

instance notListDec : (o : Option Val) → Decidable (∀ c xs, o ≠ some (.list c xs))
  | some (.list c xs) => isFalse (fun h => h c xs rfl)
  | some (.dict ..) | some .none | some (.bool _) | some (.int _) | some (.flt _) | some (.str _) | Option.none =>
    isTrue (fun _ _ h => by cases h)

mutual
def NnlV.dec (name : Str) : (v : Val) → Decidable (NnlV name v)
  | .dict _ kvs =>
    have := NnlK.dec name kvs
    (inferInstance : Decidable ((∀ c xs, lookup name kvs ≠ some (.list c xs)) ∧ NnlK name kvs))
  | .list _ xs => NnlL.dec name xs
  | .none | .bool _ | .int _ | .flt _ | .str _ => isTrue trivial
def NnlK.dec (name : Str) : (kvs : List (Str × Val)) → Decidable (NnlK name kvs)
  | [] => isTrue trivial
  | (_, c) :: kvs =>
    have := NnlV.dec name c
    have := NnlK.dec name kvs
    (inferInstance : Decidable (NnlV name c ∧ NnlK name kvs))
def NnlL.dec (name : Str) : (xs : List Val) → Decidable (NnlL name xs)
  | [] => isTrue trivial
  | x :: xs =>
    have := NnlV.dec name x
    have := NnlL.dec name xs
    (inferInstance : Decidable (NnlV name x ∧ NnlL name xs))
end
instance (name : Str) (v : Val) : Decidable (NnlV name v) := NnlV.dec name v

/-- `_findall(node, [name], …)` on a dictionary: the `*` step's check of the node itself -/
theorem fad_self_check (re : Bool) {name : Str} (hn : PlainKey name) (f : Nat) (c : Cls) (kvs : List (Str × Val))
    (fl : FL) (ps : PS) :
    fa re (f + 2) (.dict c kvs) [name] fl ps =
      ⟨.ok (match lookup name kvs with
        | some x => some [(keyOf (fl ++ [name]), x)]
        | Option.none => Option.none), fl, ps⟩ := by
  rw [fa_key_dict re hn]
  cases lookup name kvs <;> rfl

/-- the tokens of `'//*/name/sub'` -/
def fatT (name sub : Str) : List Str := [['*'], name, sub]

/-- the answer of `_findall(node, [name, sub], …)` on a dictionary, from its entry `name` (the last argument) -/
def fatSelf (sub : Str) (fl : FL) (name : Str) : Option Val → Option Found
  | some (.dict _ kvs') =>
    (match lookup sub kvs' with
      | some x => some [(keyOf (fl ++ [name] ++ [sub]), x)]
      | Option.none => Option.none)
  | _ => Option.none

/-- `_findall(node, [name, sub], …)` on a dictionary: the `*` step's check of the node itself.
An entry `name` that is a final element is a miss (fix C19-d). -/
theorem fat_self_check (re : Bool) {name sub : Str} (hn : PlainKey name) (hs : PlainKey sub) (f : Nat) (c : Cls)
    (kvs : List (Str × Val)) (fl : FL) (ps : PS) (hnl : ∀ c xs, lookup name kvs ≠ some (.list c xs)) :
    fa re (f + 3) (.dict c kvs) [name, sub] fl ps = ⟨.ok (fatSelf sub fl name (lookup name kvs)), fl, ps⟩ := by
  rw [fa_key_dict re hn]
  cases hl : lookup name kvs with
  | none => rfl
  | some c' =>
    simp only
    cases c' with
    | dict c2 kvs' =>
      rw [fad_self_check re hs f c2 kvs' (fl ++ [name]) _]
      rfl
    | list c2 xs => exact absurd hl (hnl c2 xs)
    | _ => simp [fa, step, classify_plain hs, stepName, fatSelf]

theorem fat_tail_distinct (sub : Str) : ∀ (l : List (Pos × Val)), FadDistinct l → FadDistinct (tailOf sub l) := by
  intro l
  induction l with
  | nil => intro _; exact List.Pairwise.nil
  | cons a r ih =>
    intro h
    obtain ⟨ha, hr⟩ := List.pairwise_cons.1 h
    have hone : FadDistinct (tl1 sub a) := by
      obtain ⟨p, w⟩ := a
      cases w <;> simp only [tl1] <;> try exact List.Pairwise.nil
      next c kvs => cases lookup sub kvs <;> simp
    show FadDistinct (tl1 sub a ++ tailOf sub r)
    refine List.pairwise_append.2 ⟨hone, ih hr, ?_⟩
    intro x hx y hy
    obtain ⟨b, hb, hyb⟩ := List.mem_flatMap.1 hy
    rw [(mem_tl1 hx).1, (mem_tl1 hyb).1]
    intro e
    exact ha b hb (List.append_cancel_right e)

theorem fat_tail_plain {sub : Str} (hs : PlainKey sub) (l : List (Pos × Val)) (hp : ∀ pv ∈ l, PlainPos pv.1) :
    ∀ pv ∈ tailOf sub l, PlainPos pv.1 := by
  intro pv hpv
  obtain ⟨b, hb, hm⟩ := List.mem_flatMap.1 hpv
  rw [(mem_tl1 hm).1]
  exact PlainPos.append (hp b hb) ⟨hs, trivial⟩

/-- the reference: `tailOf` iterated along the tail (`tailN [s] l` is `tailOf s l` by definition, which is how the
`fat_` theorems follow from the `fatn_` ones) -/
def tailN : List Str → List (Pos × Val) → List (Pos × Val)
  | [], l => l
  | s :: r, l => tailN r (tailOf s l)

theorem tailN_nil (subs : List Str) : tailN subs [] = [] := by
  induction subs with
  | nil => rfl
  | cons s r ih => simpa [tailN, tailOf] using ih

theorem tailN_append (subs : List Str) : ∀ (a b : List (Pos × Val)),
    tailN subs (a ++ b) = tailN subs a ++ tailN subs b := by
  induction subs with
  | nil => intro a b; rfl
  | cons s r ih => intro a b; simp only [tailN, tailOf_append, ih]

/-- the walk along keys through dictionaries (`walkN_eq_getAt`: `getAt` along `ks.map Seg.key`) -/
def walkN : List Str → Val → Option Val
  | [], v => some v
  | k :: r, .dict _ kvs =>
    (match lookup k kvs with
      | some x => walkN r x
      | Option.none => Option.none)
  | _ :: _, _ => Option.none

theorem tailN_single (subs : List Str) : ∀ (p : Pos) (v : Val),
    tailN subs [(p, v)] = (match walkN subs v with
      | some x => [(p ++ subs.map Seg.key, x)]
      | Option.none => []) := by
  induction subs with
  | nil => intro p v; simp [tailN, walkN]
  | cons s r ih =>
    intro p v
    cases v <;> simp only [tailN, tailOf, List.flatMap_cons, List.flatMap_nil, List.append_nil, tl1, walkN, tailN_nil]
    next c kvs =>
      cases lookup s kvs with
      | none => simp only [tailN_nil]
      | some x => simp only [ih, List.map_cons, List.append_assoc, List.cons_append, List.nil_append]

mutual
/-- no entry called like one of `L` is a list -/
def NnlsV (L : List Str) : Val → Prop
  | .dict _ kvs => (∀ n ∈ L, ∀ c xs, lookup n kvs ≠ some (.list c xs)) ∧ NnlsK L kvs
  | .list _ xs => NnlsL L xs
  | _ => True
def NnlsK (L : List Str) : List (Str × Val) → Prop
  | [] => True
  | (_, c) :: kvs => NnlsV L c ∧ NnlsK L kvs
def NnlsL (L : List Str) : List Val → Prop
  | [] => True
  | x :: xs => NnlsV L x ∧ NnlsL L xs
end

mutual
def NnlsV.dec (L : List Str) : (v : Val) → Decidable (NnlsV L v)
  | .dict _ kvs =>
    have := NnlsK.dec L kvs
    (inferInstance : Decidable ((∀ n ∈ L, ∀ c xs, lookup n kvs ≠ some (.list c xs)) ∧ NnlsK L kvs))
  | .list _ xs => NnlsL.dec L xs
  | .none | .bool _ | .int _ | .flt _ | .str _ => isTrue trivial
def NnlsK.dec (L : List Str) : (kvs : List (Str × Val)) → Decidable (NnlsK L kvs)
  | [] => isTrue trivial
  | (_, c) :: kvs =>
    have := NnlsV.dec L c
    have := NnlsK.dec L kvs
    (inferInstance : Decidable (NnlsV L c ∧ NnlsK L kvs))
def NnlsL.dec (L : List Str) : (xs : List Val) → Decidable (NnlsL L xs)
  | [] => isTrue trivial
  | x :: xs =>
    have := NnlsV.dec L x
    have := NnlsL.dec L xs
    (inferInstance : Decidable (NnlsV L x ∧ NnlsL L xs))
end
instance (L : List Str) (v : Val) : Decidable (NnlsV L v) := NnlsV.dec L v

theorem nnlsK_mem (L : List Str) : ∀ {kvs : List (Str × Val)} {kc : Str × Val}, NnlsK L kvs → kc ∈ kvs → NnlsV L kc.2 :=
  fun h hm => allRecP_mem (f := fun kc => NnlsV L kc.2) (fL := NnlsK L) (fun ⟨_, _⟩ _ => Iff.rfl) h hm

theorem nnlsL_mem (L : List Str) : ∀ {xs : List Val} {x : Val}, NnlsL L xs → x ∈ xs → NnlsV L x :=
  fun h hm => allRecP_mem (fL := NnlsL L) (fun _ _ => Iff.rfl) h hm

theorem nnlsK_lookup (L : List Str) (k : Str) (x : Val) (kvs : List (Str × Val)) (h : NnlsK L kvs)
    (hl : lookup k kvs = some x) : NnlsV L x :=
  nnlsK_mem L h (lookup_mem hl)

/-- the tokens of `'//*/name/s1/…/sk'` -/
def fatnT (name : Str) (subs : List Str) : List Str := [['*']] ++ name :: subs

/-- `'/'.join(k :: r)` -/
def joinSl : Str → List Str → Str
  | k, [] => k
  | k, s :: r => k ++ '/' :: joinSl s r

theorem renderPos_joinSl : ∀ (subs : List Str) (name : Str),
    renderPos ((name :: subs).map Seg.key) = '/' :: joinSl name subs
  | [], name => by simp [renderPos, renderSeg, joinSl]
  | s :: r, name => by
    have ih := renderPos_joinSl r s
    simp only [List.map_cons, renderPos_cons, renderSeg, joinSl, List.cons_append] at ih ⊢
    rw [ih]

/-- `'//*/name/s1/…/sk'` is the rendered position `*`, `name`, `s1`, … -/
theorem fatn_tokens {name : Str} {subs : List Str} (hn : PlainKey name) (hs : ∀ s ∈ subs, PlainKey s) :
    tokens (['/', '/', '*', '/'] ++ joinSl name subs) = fatnT name subs := by
  have hp : TokPos (Seg.key ['*'] :: (name :: subs).map Seg.key) :=
    ⟨⟨by decide, by decide, by decide⟩,
      TokPos.keys (fun k hk => (List.mem_cons.1 hk).elim (fun e => e ▸ .of_plain hn) (fun h => .of_plain (hs k h)))⟩
  have := tokens_render ['*'] _ hp
  rw [renderPos_cons, renderPos_joinSl] at this
  simpa [slash, renderSeg, toksOf, tokOf, fatnT, List.map_map, Function.comp_def] using this

theorem fad_tokens_desc {name : Str} (hn : PlainKey name) : tokens (['/', '/', '*', '/'] ++ name) = fadT name :=
  fatn_tokens (subs := []) hn (fun _ h => by cases h)

theorem fatn_tail_distinct : ∀ (subs : List Str) (l : List (Pos × Val)), FadDistinct l → FadDistinct (tailN subs l)
  | [], _, h => h
  | s :: r, l, h => fatn_tail_distinct r _ (fat_tail_distinct s l h)

theorem fatn_tail_plain : ∀ (subs : List Str), (∀ s ∈ subs, PlainKey s) → ∀ (l : List (Pos × Val)),
    (∀ pv ∈ l, PlainPos pv.1) → ∀ pv ∈ tailN subs l, PlainPos pv.1
  | [], _, _, h => h
  | s :: r, hs, l, h => fatn_tail_plain r (fun x hx => hs x (by simp [hx])) _
      (fat_tail_plain (hs s (by simp)) l h)

theorem walkN_eq_getAt : ∀ (ks : List Str) (v : Val), walkN ks v = getAt v (ks.map Seg.key)
  | [], v => rfl
  | k :: r, v => by
    cases v <;> simp only [walkN, List.map_cons, getAt, child, Option.bind]
    next c kvs =>
      cases lookup k kvs with
      | none => rfl
      | some x => exact walkN_eq_getAt r x

theorem tailN_mem (subs : List Str) (p : Pos) (v : Val) : ∀ (l : List (Pos × Val)),
    (p, v) ∈ tailN subs l ↔ ∃ b ∈ l, p = b.1 ++ subs.map Seg.key ∧ getAt b.2 (subs.map Seg.key) = some v := by
  intro l
  induction l with
  | nil => simp [tailN_nil]
  | cons a r ih =>
    have e : a :: r = [a] ++ r := rfl
    rw [e, tailN_append, List.mem_append, ih]
    obtain ⟨pa, va⟩ := a
    rw [tailN_single, walkN_eq_getAt]
    constructor
    · rintro (h | ⟨b, hb, h⟩)
      · refine ⟨(pa, va), by simp, ?_⟩
        cases hg : getAt va (subs.map Seg.key) with
        | none => rw [hg] at h; cases h
        | some x =>
          rw [hg] at h
          simp only [List.mem_singleton, Prod.mk.injEq] at h
          exact ⟨h.1, by rw [h.2]⟩
      · exact ⟨b, by simp [hb], h⟩
    · rintro ⟨b, hb, h1, h2⟩
      rcases List.mem_append.1 hb with hb | hb
      · left
        simp only [List.mem_singleton] at hb
        subst hb
        simp only at h1 h2
        rw [h2, h1]
        simp
      · exact Or.inr ⟨b, hb, h1, h2⟩

theorem fatn_tail_mem_getAt (name : Str) (subs : List Str) (t : Val) (hk : KeysOkV t) (p : Pos) (v : Val) :
    (p, v) ∈ tailN subs (descV name t) ↔
      ∃ q, p = q ++ (name :: subs).map Seg.key ∧ getAt t p = some v := by
  rw [tailN_mem]
  constructor
  · rintro ⟨b, hb, rfl, hg⟩
    obtain ⟨⟨q, hq⟩, hgb⟩ := (descV_mem name t hk b.1 b.2).1 hb
    refine ⟨q, by rw [hq]; simp, ?_⟩
    rw [getAt_append, hgb]
    exact hg
  · rintro ⟨q, rfl, hg⟩
    have e : q ++ (name :: subs).map Seg.key = (q ++ [Seg.key name]) ++ subs.map Seg.key := by simp
    rw [e, getAt_append] at hg
    cases hw : getAt t (q ++ [Seg.key name]) with
    | none => rw [hw] at hg; cases hg
    | some w =>
      rw [hw] at hg
      exact ⟨(q ++ [Seg.key name], w), (descV_mem name t hk _ _).2 ⟨⟨q, rfl⟩, hw⟩, e, hg⟩

/-! ### the references are selections -/

/-- the walk along keys, as a selection -/
def keysSel (subs : List Str) : Sel := fun v =>
  match walkN subs v with
  | some x => [(subs.map Seg.key, x)]
  | Option.none => []

theorem tailN_eq_bind (subs : List Str) : ∀ l, tailN subs l = bindSel l (keysSel subs) := by
  intro l
  induction l with
  | nil => exact tailN_nil subs
  | cons a r ih =>
    rw [show a :: r = [a] ++ r from rfl, tailN_append, bindSel_append, ih, tailN_single]
    simp only [bindSel, keysSel, List.flatMap_cons, List.flatMap_nil, List.append_nil]
    cases walkN subs a.2 <;> rfl

/-- without a list on the way a selection by names is the walk along the keys -/
theorem sel_keys (L : List Str) : ∀ (subs : List Str) (w : Val), (∀ s ∈ subs.dropLast, s ∈ L) →
    NnlsV L w → (subs ≠ [] → ∀ c xs, w ≠ .list c xs) → sel (subs.map Tk.name) w = keysSel subs w := by
  intro subs
  induction subs with
  | nil => intro w _ _ _; rfl
  | cons s r ih =>
    intro w hL hnl hw
    rw [List.map_cons]
    cases w with
    | list c xs => exact absurd rfl (hw (by simp) c xs)
    | dict c kvs =>
      rw [sel_name_dict]
      simp only [keysSel, walkN]
      simp only [NnlsV] at hnl
      cases hl : lookup s kvs with
      | none => rfl
      | some x =>
        have hx : r ≠ [] → ∀ c xs, x ≠ .list c xs := fun hr c' xs' e =>
          hnl.1 s (hL s (by cases r with
            | nil => exact absurd rfl hr
            | cons _ _ => simp [List.dropLast])) c' xs' (by rw [hl, e])
        have := ih x (fun y hy => hL y (by
            cases r with
            | nil => simp at hy
            | cons _ _ => simp only [List.dropLast_cons_cons, List.mem_cons]; exact Or.inr hy))
          (nnlsK_lookup L s x kvs hnl.2 hl) hx
        simp only [this, keysSel]
        cases walkN r x <;> rfl
    | _ => rfl

/-- the nodes called `name` inherit the side condition, and none is a list if `name` is one of `L` -/
theorem nnls_desc (L : List Str) (name : Str) : ∀ v, NnlsV L v → ∀ b ∈ descV name v,
    NnlsV L b.2 ∧ (name ∈ L → ∀ c xs, b.2 ≠ .list c xs) := by
  intro v
  induction v using tree_mem_ind with
  | hd c kvs ih =>
    intro h b hb
    simp only [NnlsV] at h
    rw [descV_dict, List.mem_append] at hb
    rcases hb with hb | hb
    · have hl := (mem_descSelf.1 (show (b.1, b.2) ∈ descSelf name kvs from hb)).2
      exact ⟨nnlsK_lookup L name b.2 kvs h.2 hl, fun hn c' xs' e => h.1 name hn c' xs' (by rw [hl, e])⟩
    · obtain ⟨k, x, r, hm, _, hr⟩ := mem_descK.1 (show (b.1, b.2) ∈ descK name kvs from hb)
      exact ih (k, x) hm (nnlsK_mem L h.2 hm) (r, b.2) hr
  | hl c xs ih =>
    intro h b hb
    simp only [NnlsV] at h
    rw [descV] at hb
    obtain ⟨j, x, r, hx, _, hr⟩ := mem_descL.1 (show (b.1, b.2) ∈ descL name 0 xs from hb)
    exact ih x (List.mem_of_getElem? hx) (nnlsL_mem L h (List.mem_of_getElem? hx)) (r, b.2) hr
  | hs v hv =>
    intro _ b hb
    rw [descV_scalar name v hv] at hb
    cases hb

/-- under `NnlsV` the reference is the selection of `'*'`, `name`, the keys -/
theorem tailN_eq_sel (name : Str) (subs : List Str) (v : Val) (hnl : NnlsV (name :: subs).dropLast v) :
    tailN subs (descV name v) = sel (.star :: (name :: subs).map Tk.name) v := by
  rw [show Tk.star :: (name :: subs).map Tk.name = [.star, .name name] ++ subs.map Tk.name from rfl, sel_append,
    ← (descV_eq_sel name).1 v, tailN_eq_bind]
  refine (bindSel_congr fun b hb => ?_).symm
  obtain ⟨h1, h2⟩ := nnls_desc _ name v hnl b hb
  refine sel_keys _ subs b.2 (fun s hs' => ?_) h1 (fun hne => h2 ?_)
  · cases subs with
    | nil => simp at hs'
    | cons _ _ => simp only [List.dropLast_cons_cons, List.mem_cons]; exact Or.inr hs'
  · cases subs with
    | nil => exact absurd rfl hne
    | cons _ _ => simp [List.dropLast]

theorem nnlV_nnlsV (name : Str) :
    (∀ v, NnlV name v → NnlsV [name] v) ∧ (∀ kvs, NnlK name kvs → NnlsK [name] kvs) ∧
    (∀ xs, NnlL name xs → NnlsL [name] xs) := by
  refine tree_ind ?_ ?_ ?_ (fun _ => trivial) ?_ (fun _ => trivial) ?_
  · intro c kvs ih h
    simp only [NnlV, NnlsV] at h ⊢
    exact ⟨fun n hn => by rw [List.mem_singleton.1 hn]; exact h.1, ih h.2⟩
  · intro c xs ih h
    simp only [NnlV, NnlsV] at h ⊢
    exact ih h
  · intro v hv _
    cases v <;> simp only [NnlsV] <;> simp [isContainer] at hv
  · intro k c kvs h1 h2 h
    simp only [NnlK, NnlsK] at h ⊢
    exact ⟨h1 h.1, h2 h.2⟩
  · intro x xs h1 h2 h
    simp only [NnlL, NnlsL] at h ⊢
    exact ⟨h1 h.1, h2 h.2⟩

theorem fatn_descendant (re : Bool) {name : Str} {subs : List Str} (hn : PlainKey name) (hs : ∀ s ∈ subs, PlainKey s)
    (c : Cls) (kvs : List (Str × Val)) (hko : KeysOkV (.dict c kvs)) (hco : ContOkV (.dict c kvs))
    (hnl : NnlsV (name :: subs).dropLast (.dict c kvs)) :
    ∃ N, ∀ fuel ≥ N, (fa re fuel (.dict c kvs) (fatnT name subs) [] []).res =
      .ok (some ((tailN subs (descV name (.dict c kvs))).map (fun pv => (slash ++ renderPos pv.1, pv.2)))) := by
  rw [tailN_eq_sel name subs _ hnl]
  exact findall_star_names re name subs (fun t h => (List.mem_cons.1 h).elim (fun e => e ▸ hn) (hs t)) _ rfl hko hco

theorem fatn_descendant_list (re : Bool) {name : Str} {subs : List Str} (hn : PlainKey name) (hs : ∀ s ∈ subs, PlainKey s)
    (c : Cls) (xs : List Val) (hko : KeysOkV (.list c xs)) (hco : ContOkV (.list c xs))
    (hnl : NnlsV (name :: subs).dropLast (.list c xs)) :
    ∃ N, ∀ fuel ≥ N, (fa re fuel (.list c xs) (fatnT name subs) [] []).res =
      .ok (some ((tailN subs (descV name (.list c xs))).map (fun pv => ('/' :: '/' :: renderPos pv.1, pv.2)))) := by
  rw [tailN_eq_sel name subs _ hnl]
  exact findall_star_names re name subs (fun t h => (List.mem_cons.1 h).elim (fun e => e ▸ hn) (hs t)) _ rfl hko hco

theorem fat_descendant (re : Bool) {name sub : Str} (hn : PlainKey name) (hs : PlainKey sub) (c : Cls)
    (kvs : List (Str × Val)) (hko : KeysOkV (.dict c kvs)) (hco : ContOkV (.dict c kvs))
    (hnl : NnlV name (.dict c kvs)) :
    ∃ N, ∀ fuel ≥ N, (fa re fuel (.dict c kvs) (fatT name sub) [] []).res =
      .ok (some ((tailOf sub (descV name (.dict c kvs))).map (fun pv => (slash ++ renderPos pv.1, pv.2)))) :=
  fatn_descendant re (subs := [sub]) hn (fun s h => by rw [List.mem_singleton.1 h]; exact hs) c kvs hko hco
    ((nnlV_nnlsV name).1 _ hnl)

theorem fat_tokens {name sub : Str} (hn : PlainKey name) (hs : PlainKey sub) :
    tokens (['/', '/', '*', '/'] ++ name ++ ['/'] ++ sub) = fatT name sub := by
  rw [show ['/', '/', '*', '/'] ++ name ++ ['/'] ++ sub = ['/', '/', '*', '/'] ++ joinSl name [sub] by simp [joinSl]]
  exact fatn_tokens hn (fun s h => by rw [List.mem_singleton.1 h]; exact hs)

theorem fat_tail_mem_getAt (name sub : Str) (t : Val) (hk : KeysOkV t) (p : Pos) (v : Val) :
    (p, v) ∈ tailOf sub (descV name t) ↔
      ∃ q, p = q ++ [Seg.key name, Seg.key sub] ∧ getAt t p = some v :=
  fatn_tail_mem_getAt name [sub] t hk p v

end N0.FindAll
