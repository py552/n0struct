import N0Verif.Proofs.FindAllExact
/-!
  The vocabulary of the descendant searches: the reference `descV`, the hypotheses on trees (`KeysOkV`, `ContOkV`), and how a
  reference list becomes a result — `walkOut` (positions as the keys a search reports) and `dict.update` on fresh keys,
  which is append (`upd_append`).
-/
namespace N0.FindAll
open N0 N0.Py N0.Val N0.XPath

/-- `Val.mutualInduct` with the final elements told by `isContainer` -/
theorem tree_ind {PV : Val → Prop} {PK : List (Str × Val) → Prop} {PL : List Val → Prop}
    (hd : ∀ c kvs, PK kvs → PV (.dict c kvs)) (hl : ∀ c xs, PL xs → PV (.list c xs))
    (hs : ∀ v, isContainer v = false → PV v)
    (hk0 : PK []) (hk1 : ∀ k c kvs, PV c → PK kvs → PK ((k, c) :: kvs))
    (hl0 : PL []) (hl1 : ∀ x xs, PV x → PL xs → PL (x :: xs)) :
    (∀ v, PV v) ∧ (∀ kvs, PK kvs) ∧ (∀ xs, PL xs) :=
  Val.mutualInduct hd hl (fun v h => hs v (by cases v <;> first | rfl | cases h)) hk0 hk1 hl0 hl1

mutual
/-- positions (relative to `v`) whose last segment is the key `name`, with the node there, in
document order: the entry of the node itself first, then what lies below each child -/
def descV (name : Str) : Val → List (Pos × Val)
  | .dict _ kvs =>
    (match lookup name kvs with
      | some c => [([Seg.key name], c)]
      | Option.none => []) ++ descK name kvs
  | .list _ xs => descL name 0 xs
  | _ => []
def descK (name : Str) : List (Str × Val) → List (Pos × Val)
  | [] => []
  | (k, c) :: kvs => (descV name c).map (fun pv => (Seg.key k :: pv.1, pv.2)) ++ descK name kvs
def descL (name : Str) : Nat → List Val → List (Pos × Val)
  | _, [] => []
  | i, x :: xs => (descV name x).map (fun pv => (Seg.idx i :: pv.1, pv.2)) ++ descL name (i + 1) xs
end

mutual
/-- every key is a plain name and no dictionary lists a key twice (a Python `dict` cannot): clause for clause
`N0.XPath.PlainTree` (`Proofs/XPathLeaves.lean`), with the `Decidable` instance that one lacks and no lemma between the two;
`N0.C04.PlainTree` is the weaker one without the uniqueness -/
def KeysOkV : Val → Prop
  | .dict _ kvs => KeysOkK kvs
  | .list _ xs => KeysOkL xs
  | _ => True
def KeysOkK : List (Str × Val) → Prop
  | [] => True
  | (k, c) :: kvs => PlainKey k ∧ lookup k kvs = Option.none ∧ KeysOkV c ∧ KeysOkK kvs
def KeysOkL : List Val → Prop
  | [] => True
  | x :: xs => KeysOkV x ∧ KeysOkL xs
end

mutual
/-- the property's quantifier: every list contains only dictionaries or lists -/
def ContOkV : Val → Prop
  | .dict _ kvs => ContOkK kvs
  | .list _ xs => ContOkL xs
  | _ => True
def ContOkK : List (Str × Val) → Prop
  | [] => True
  | (_, c) :: kvs => ContOkV c ∧ ContOkK kvs
def ContOkL : List Val → Prop
  | [] => True
  | x :: xs => isContainer x = true ∧ ContOkV x ∧ ContOkL xs
end

/-! The structural hypotheses are decidable, so that they can be evaluated on a concrete tree. -/

mutual
def KeysOkV.dec : (v : Val) → Decidable (KeysOkV v)
  | .dict _ kvs => KeysOkK.dec kvs
  | .list _ xs => KeysOkL.dec xs
  | .none | .bool _ | .int _ | .flt _ | .str _ => isTrue trivial
def KeysOkK.dec : (kvs : List (Str × Val)) → Decidable (KeysOkK kvs)
  | [] => isTrue trivial
  | (k, c) :: kvs =>
    have := KeysOkV.dec c
    have := KeysOkK.dec kvs
    (inferInstance : Decidable (PlainKey k ∧ lookup k kvs = Option.none ∧ KeysOkV c ∧ KeysOkK kvs))
def KeysOkL.dec : (xs : List Val) → Decidable (KeysOkL xs)
  | [] => isTrue trivial
  | x :: xs =>
    have := KeysOkV.dec x
    have := KeysOkL.dec xs
    (inferInstance : Decidable (KeysOkV x ∧ KeysOkL xs))
end
instance (v : Val) : Decidable (KeysOkV v) := KeysOkV.dec v

mutual
def ContOkV.dec : (v : Val) → Decidable (ContOkV v)
  | .dict _ kvs => ContOkK.dec kvs
  | .list _ xs => ContOkL.dec xs
  | .none | .bool _ | .int _ | .flt _ | .str _ => isTrue trivial
def ContOkK.dec : (kvs : List (Str × Val)) → Decidable (ContOkK kvs)
  | [] => isTrue trivial
  | (_, c) :: kvs =>
    have := ContOkV.dec c
    have := ContOkK.dec kvs
    (inferInstance : Decidable (ContOkV c ∧ ContOkK kvs))
def ContOkL.dec : (xs : List Val) → Decidable (ContOkL xs)
  | [] => isTrue trivial
  | x :: xs =>
    have := ContOkV.dec x
    have := ContOkL.dec xs
    (inferInstance : Decidable (isContainer x = true ∧ ContOkV x ∧ ContOkL xs))
end
instance (v : Val) : Decidable (ContOkV v) := ContOkV.dec v

theorem descV_scalar (name : Str) (v : Val) (h : isContainer v = false) : descV name v = [] := by
  cases v <;> simp [isContainer] at h <;> simp [descV]

theorem flPath_snoc_key : ∀ (p : Pos) (fl : FL) (k : Str), flPath fl (p ++ [.key k]) = flPath fl p ++ [k]
  | [], _, _ => rfl
  | .key _ :: r, fl, k => by simp only [List.cons_append, flPath]; exact flPath_snoc_key r _ k
  | .idx _ :: r, fl, k => by simp only [List.cons_append, flPath]; exact flPath_snoc_key r _ k

theorem flPath_snoc_idx : ∀ (p : Pos) (fl : FL) (n : Nat), flPath fl (p ++ [.idx n]) = bump (flPath fl p) n
  | [], _, _ => rfl
  | .key _ :: r, fl, n => by simp only [List.cons_append, flPath]; exact flPath_snoc_idx r _ n
  | .idx _ :: r, fl, n => by simp only [List.cons_append, flPath]; exact flPath_snoc_idx r _ n

theorem upd_append : ∀ (l acc : Found), ((acc ++ l).map Prod.fst).Nodup → upd acc (some l) = acc ++ l := by
  intro l
  induction l with
  | nil => intro acc _; simp [upd]
  | cons e r ih =>
    intro acc h
    obtain ⟨k, v⟩ := e
    have hk : k ∉ acc.map Prod.fst := by
      simp only [List.map_append, List.map_cons, List.nodup_append, List.nodup_cons] at h
      intro hm
      exact h.2.2 k hm k (by simp) rfl
    have := ih (acc ++ [(k, v)]) (by simpa using h)
    simp only [upd, List.foldl_cons] at this ⊢
    rw [kvSet_fresh k v acc (Option.not_isSome_iff_eq_none.1 fun h => hk ((lookup_isSome_iff k acc).1 h)), this]
    simp

theorem upd_getD (acc : Found) (f : Option Found) (h : ((acc ++ f.getD []).map Prod.fst).Nodup) :
    upd acc f = acc ++ f.getD [] := by
  cases f with
  | none => simp [upd]
  | some l => exact upd_append l acc h

theorem nodup_split {acc F R : Found} (h : ((acc ++ (F ++ R)).map Prod.fst).Nodup) :
    (F.map Prod.fst).Nodup ∧ ((acc ++ F).map Prod.fst).Nodup ∧ (((acc ++ F) ++ R).map Prod.fst).Nodup := by
  have h3 : (((acc ++ F) ++ R).map Prod.fst).Nodup := by rwa [List.append_assoc]
  have h2 : ((acc ++ F).map Prod.fst).Nodup := by
    rw [List.map_append] at h3
    exact (List.nodup_append.1 h3).1
  have h1 : (F.map Prod.fst).Nodup := by
    rw [List.map_append] at h2
    exact (List.nodup_append.1 h2).2.1
  exact ⟨h1, h2, h3⟩

/-- the tokens of `'//*/name'` -/
def fadT (name : Str) : List Str := [['*'], name]

def descSelf (name : Str) (kvs : List (Str × Val)) : List (Pos × Val) :=
  match lookup name kvs with
  | some c => [([Seg.key name], c)]
  | Option.none => []

theorem descV_dict (name : Str) (c : Cls) (kvs : List (Str × Val)) :
    descV name (.dict c kvs) = descSelf name kvs ++ descK name kvs := by
  simp only [descV, descSelf]

theorem mem_descSelf {name : Str} {kvs : List (Str × Val)} {p : Pos} {w : Val} :
    (p, w) ∈ descSelf name kvs ↔ p = [Seg.key name] ∧ lookup name kvs = some w := by
  unfold descSelf
  cases lookup name kvs with
  | none => simp
  | some x => simp [eq_comm]

/-- the pairs reported for the nodes `l` found below the node at position `q`: each under the key of the
path list at the end of the descent to it -/
def walkOut (q : Pos) (l : List (Pos × Val)) : Found :=
  l.map (fun pv => (keyOf (flPath [] (q ++ pv.1)), pv.2))

theorem walkOut_append (q : Pos) (a b : List (Pos × Val)) : walkOut q (a ++ b) = walkOut q a ++ walkOut q b := by
  simp [walkOut]

theorem walkOut_snoc (q : Pos) (s : Seg) (l : List (Pos × Val)) :
    walkOut (q ++ [s]) l = walkOut q (l.map (fun pv => (s :: pv.1, pv.2))) := by
  simp [walkOut, List.map_map, Function.comp_def]

abbrev FadDistinct (l : List (Pos × Val)) : Prop := l.Pairwise (fun a b => a.1 ≠ b.1)

theorem keysOk_lookup : ∀ {kvs : List (Str × Val)} {k : Str} {c : Val}, KeysOkK kvs → lookup k kvs = some c →
    PlainKey k ∧ KeysOkV c ∧ (k, c) ∈ kvs
  | [], _, _, _, h => by cases h
  | (k', x) :: r, k, c, hk, h => by
    simp only [KeysOkK] at hk
    simp only [lookup] at h
    split at h
    · cases h
      rename_i heq
      subst heq
      exact ⟨hk.1, hk.2.2.1, by simp⟩
    · obtain ⟨h1, h2, h3⟩ := keysOk_lookup hk.2.2.2 h
      exact ⟨h1, h2, by simp [h3]⟩

theorem keysOk_mem_lookup {kvs : List (Str × Val)} {k : Str} {c : Val} (hk : KeysOkK kvs) (h : (k, c) ∈ kvs) :
    lookup k kvs = some c :=
  Val.lookup_of_mem (U := KeysOkK) (fun _ _ _ hu => ⟨hu.2.1, hu.2.2.2⟩) hk h

theorem keysOk_elem : ∀ {xs : List Val} {i : Nat} {x : Val}, KeysOkL xs → xs[i]? = some x → KeysOkV x
  | [], _, _, _, h => by simp at h
  | y :: r, 0, x, hk, h => by
    simp only [KeysOkL] at hk
    simp only [List.getElem?_cons_zero, Option.some.injEq] at h
    subst h; exact hk.1
  | y :: r, i + 1, x, hk, h => by
    simp only [KeysOkL] at hk
    simp only [List.getElem?_cons_succ] at h
    exact keysOk_elem hk.2 h

theorem keysOk_getAt : ∀ (p : Pos) {t v : Val}, KeysOkV t → getAt t p = some v → PlainPos p ∧ KeysOkV v
  | [], t, v, hk, h => by
    simp only [Val.getAt, Option.some.injEq] at h
    subst h; exact ⟨trivial, hk⟩
  | s :: r, t, v, hk, h => by
    rcases getAt_cons_inv h with ⟨c, kvs, k, x, rfl, rfl, hl, hg⟩ | ⟨c, xs, n, x, rfl, rfl, hl, hg⟩
    · simp only [KeysOkV] at hk
      obtain ⟨h1, h2, _⟩ := keysOk_lookup hk hl
      obtain ⟨h3, h4⟩ := keysOk_getAt r h2 hg
      exact ⟨⟨h1, h3⟩, h4⟩
    · simp only [KeysOkV] at hk
      exact keysOk_getAt r (keysOk_elem hk hl) hg

/-- `Val.memInduct` with the final elements as one case -/
theorem tree_mem_ind {P : Val → Prop} (hd : ∀ c kvs, (∀ kc ∈ kvs, P kc.2) → P (.dict c kvs))
    (hl : ∀ c xs, (∀ x ∈ xs, P x) → P (.list c xs)) (hs : ∀ v, isContainer v = false → P v) (v : Val) : P v :=
  Val.memInduct (hs _ rfl) (fun _ => hs _ rfl) (fun _ => hs _ rfl) (fun _ => hs _ rfl) (fun _ => hs _ rfl) hl hd v

theorem keysOk_pairwise : ∀ {kvs : List (Str × Val)}, KeysOkK kvs → kvs.Pairwise (fun a b => a.1 ≠ b.1)
  | [], _ => List.Pairwise.nil
  | (k, c) :: kvs, h => by
    simp only [KeysOkK] at h
    refine List.pairwise_cons.2 ⟨fun b hb e => ?_, keysOk_pairwise h.2.2.2⟩
    have := lookup_isSome_of_mem (k := b.1) (c := b.2) hb
    rw [← e, h.2.1] at this
    cases this

theorem contOk_lookup : ∀ {kvs : List (Str × Val)} {k : Str} {c : Val}, ContOkK kvs → lookup k kvs = some c → ContOkV c
  | [], _, _, _, h => by cases h
  | (k', x) :: r, k, c, hk, h => by
    simp only [ContOkK] at hk
    simp only [lookup] at h
    split at h
    · cases h; exact hk.1
    · exact contOk_lookup hk.2 h

theorem contOk_elem : ∀ {xs : List Val} {i : Nat} {x : Val}, ContOkL xs → xs[i]? = some x →
    isContainer x = true ∧ ContOkV x
  | [], _, _, _, h => by simp at h
  | y :: r, 0, x, hk, h => by
    simp only [ContOkL] at hk
    simp only [List.getElem?_cons_zero, Option.some.injEq] at h
    subst h; exact ⟨hk.1, hk.2.1⟩
  | y :: r, i + 1, x, hk, h => by
    simp only [ContOkL] at hk
    simp only [List.getElem?_cons_succ] at h
    exact contOk_elem hk.2.2 h

theorem contOk_mem {xs : List Val} {x : Val} (hk : ContOkL xs) (hx : x ∈ xs) : isContainer x = true := by
  obtain ⟨i, hi, rfl⟩ := List.getElem_of_mem hx
  exact (contOk_elem hk (List.getElem?_eq_getElem hi)).1

theorem contOk_getAt : ∀ (p : Pos) {t v : Val}, ContOkV t → getAt t p = some v → ContOkV v
  | [], t, v, hk, h => by
    simp only [Val.getAt, Option.some.injEq] at h
    subst h; exact hk
  | s :: r, t, v, hk, h => by
    rcases getAt_cons_inv h with ⟨c, kvs, k, x, rfl, rfl, hl, hg⟩ | ⟨c, xs, n, x, rfl, rfl, hl, hg⟩
    · simp only [ContOkV] at hk
      exact contOk_getAt r (contOk_lookup hk hl) hg
    · simp only [ContOkV] at hk
      exact contOk_getAt r (contOk_elem hk hl).2 hg

theorem walk_keys_nodup (pre : Str) (l : List (Pos × Val)) (hd : FadDistinct l) (hp : ∀ pv ∈ l, PlainPos pv.1) :
    ((l.map (fun pv => (pre ++ renderPos pv.1, pv.2))).map Prod.fst).Nodup := by
  simp only [List.map_map]
  refine List.pairwise_map.2 (hd.imp_of_mem ?_)
  intro a b ha hb hne heq
  exact hne (renderPos_inj _ _ (hp a ha) (hp b hb) (List.append_cancel_left heq))

/-- a search whose result is the key map of a reference list `l`, read as a membership statement -/
theorem found_iff_of_map {res : Nat → PyM (Option Found)} {pre : Str} {l : List (Pos × Val)} {R : Str → Val → Prop}
    (h : ∃ n, ∀ fuel ≥ n, res fuel = .ok (some (l.map (fun pv => (pre ++ renderPos pv.1, pv.2)))))
    (hR : ∀ xp v, (∃ p, (p, v) ∈ l ∧ xp = pre ++ renderPos p) ↔ R xp v) :
    ∃ n, ∀ fuel ≥ n, ∃ f, res fuel = .ok (some f) ∧ ∀ xp v, (xp, v) ∈ f ↔ R xp v := by
  obtain ⟨n, hN⟩ := h
  refine ⟨n, fun fuel hf => ⟨_, hN fuel hf, fun xp v => ?_⟩⟩
  rw [← hR, List.mem_map]
  constructor
  · rintro ⟨⟨p, w⟩, hm, heq⟩
    cases heq
    exact ⟨p, hm, rfl⟩
  · rintro ⟨p, hm, rfl⟩
    exact ⟨(p, v), hm, rfl⟩

end N0.FindAll
