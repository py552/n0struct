import N0Verif.Model.Fwf
import N0Verif.Proofs.Slice
import N0Verif.Py.ListLemmas
/-!
  The fixed-width rows of `Props/C16.lean`: what `generate_fwf_row` leaves in a row (a written column holds its padded
  or truncated value, everything beside the written columns is the filler) and how `parse_fwf_row` classifies a row
  (it raises only for an empty layout; with validation on it accepts exactly when `allValid`).
-/
namespace N0.Fwf
open N0 N0.Py N0.Tlv

section place
variable (r cell : Str) (off till : Nat) (h1 : till = off + cell.length) (h2 : till ≤ r.length)
include h1 h2

theorem take_offset_length : (r.take off).length = off :=
  List.length_take_of_le (Nat.le_trans (h1 ▸ Nat.le_add_right _ _) h2)

theorem place_length : (r.take off ++ cell ++ r.drop till).length = r.length := by
  rw [List.length_append, List.length_append, take_offset_length r cell off till h1 h2, ← h1, List.length_drop,
    Nat.add_sub_cancel' h2]

theorem place_same : slice (r.take off ++ cell ++ r.drop till) off till = cell := by
  have := slice_cell (r.take off) cell (r.drop till)
  rwa [take_offset_length r cell off till h1 h2, ← h1, ← List.append_assoc] at this

/-- a slice beside the cell is not touched: behind it both rows continue with `r.drop till`, in front of it both
begin with `r.take off` -/
theorem place_frame (a b : Nat) (hd : till ≤ a ∨ b ≤ off) :
    slice (r.take off ++ cell ++ r.drop till) a b = slice r a b := by
  have ho := take_offset_length r cell off till h1 h2
  rcases hd with hd | hd
  · have hp : (r.take off ++ cell).length = till := by rw [List.length_append, ho, h1]
    have hr := slice_append_right (r.take till) (r.drop till) b (List.length_take_of_le h2) hd
    rw [List.take_append_drop] at hr
    rw [slice_append_right _ _ b hp hd, hr]
  · have hr := slice_append_left (r.take off) (r.drop off) a (Nat.le_trans hd (Nat.le_of_eq ho.symm))
    rw [List.take_append_drop] at hr
    rw [List.append_assoc, slice_append_left _ _ a (Nat.le_trans hd (Nat.le_of_eq ho.symm)), hr]

end place

/-- when it pads, `zfill` puts the zeros behind the sign -/
theorem zfill_of_lt {n : Nat} {s : Str} (h : s.length < n) :
    ∃ sign body, s = sign ++ body ∧ zfill n s = sign ++ List.replicate (n - s.length) '0' ++ body := by
  unfold zfill
  rw [if_neg (Nat.not_le_of_lt h)]
  split
  · exact ⟨['+'], _, rfl, rfl⟩
  · exact ⟨['-'], _, rfl, rfl⟩
  · exact ⟨[], _, rfl, rfl⟩

theorem zfill_length (n : Nat) (s : Str) : (zfill n s).length = max n s.length := by
  by_cases h : n ≤ s.length
  · unfold zfill
    rw [if_pos h, Nat.max_eq_right h]
  · have h := Nat.lt_of_not_le h
    obtain ⟨sign, body, hs, hz⟩ := zfill_of_lt h
    rw [hz, Nat.max_eq_left (Nat.le_of_lt h), List.length_append, List.length_append, List.length_replicate,
      Nat.add_right_comm, ← List.length_append, ← hs, Nat.add_sub_cancel' (Nat.le_of_lt h)]

theorem padOrTrunc_length (isInt : Bool) (size : Nat) (sv : Str) :
    (padOrTrunc isInt size sv).length = size := by
  unfold padOrTrunc
  rw [List.length_take]
  apply Nat.min_eq_left
  cases isInt
  · rw [if_neg Bool.false_ne_true, ljust, List.length_append, List.length_replicate, Nat.add_comm]
    exact Nat.le_add_of_sub_le (Nat.le_refl _)
  · rw [if_pos rfl, zfill_length]
    exact Nat.le_max_left _ _

theorem foldl_max_ge (fmt : List GCol) (m : Nat) :
    m ≤ fmt.foldl (fun m c => max m c.till) m ∧
    ∀ c ∈ fmt, c.till ≤ fmt.foldl (fun m c => max m c.till) m := by
  induction fmt generalizing m with
  | nil => exact ⟨Nat.le_refl _, fun _ h => absurd h List.not_mem_nil⟩
  | cons x fmt ih =>
    rw [List.foldl_cons]
    obtain ⟨h1, h2⟩ := ih (max m x.till)
    refine ⟨Nat.le_trans (Nat.le_max_left _ _) h1, ?_⟩
    intro c hc
    rcases List.mem_cons.mp hc with rfl | h
    · exact Nat.le_trans (Nat.le_max_right _ _) h1
    · exact h2 c h

theorem till_le_rowLen (fmt : List GCol) : ∀ c ∈ fmt, c.till ≤ rowLen fmt :=
  (foldl_max_ge fmt 0).2

theorem genCols_cons (rec : Rec) (c : GCol) (cs : List GCol) (r : Str) :
    genCols rec (c :: cs) r = match source rec c with
      | none => genCols rec cs r
      | some (.error e) => .error e
      | some (.ok v) => (place c v r).bind (genCols rec cs) := by
  rw [genCols, source]
  cases Val.lookup c.name rec with
  | some v =>
    dsimp only
    cases place c v r <;> rfl
  | none =>
    cases c.mapping with
    | none => rfl
    | some f =>
      dsimp only [Option.map]
      cases f rec with
      | error e => rfl
      | ok v =>
        dsimp only
        cases place c v r <;> rfl

theorem place_ok {c : GCol} {v : Val} {r r' : Str} (h : place c v r = .ok r') :
    ∃ sv, pyStr v = .ok sv ∧ r' = r.take c.offset ++ padOrTrunc c.isInt c.size sv ++ r.drop c.till := by
  unfold place at h
  cases hsv : pyStr v with
  | error e => rw [hsv] at h; cases h
  | ok sv => rw [hsv] at h; cases h; exact ⟨sv, rfl, rfl⟩

theorem genCols_cons_ok {rec : Rec} {c : GCol} {cs : List GCol} {r text : Str}
    (h : genCols rec (c :: cs) r = .ok text) :
    (source rec c = none ∧ genCols rec cs r = .ok text) ∨
    ∃ v sv, source rec c = some (.ok v) ∧ pyStr v = .ok sv ∧
      genCols rec cs (r.take c.offset ++ padOrTrunc c.isInt c.size sv ++ r.drop c.till) = .ok text := by
  rw [genCols_cons] at h
  cases hsrc : source rec c with
  | none => rw [hsrc] at h; exact .inl ⟨rfl, h⟩
  | some res =>
    rw [hsrc] at h
    cases res with
    | error e => cases h
    | ok v =>
      dsimp only at h
      cases hpl : place c v r with
      | error e => rw [hpl] at h; cases h
      | ok r' =>
        rw [hpl] at h
        obtain ⟨sv, hsv, rfl⟩ := place_ok hpl
        exact .inr ⟨v, sv, rfl, hsv, h⟩

theorem genCols_spec (rec : Rec) (cols : List GCol) (r text : Str)
    (hg : genCols rec cols r = .ok text)
    (hc : ∀ c ∈ cols, c.till = c.offset + c.size ∧ c.till ≤ r.length)
    (hp : cols.Pairwise (fun a b => a.till ≤ b.offset ∨ b.till ≤ a.offset)) :
    text.length = r.length
    ∧ (∀ a b, (∀ c ∈ cols, source rec c ≠ none → c.till ≤ a ∨ b ≤ c.offset) →
        slice text a b = slice r a b)
    ∧ (∀ c ∈ cols, ∀ v sv, source rec c = some (.ok v) → pyStr v = .ok sv →
        slice text c.offset c.till = padOrTrunc c.isInt c.size sv) := by
  induction cols generalizing r with
  | nil =>
    cases hg
    exact ⟨rfl, fun _ _ _ => rfl, fun _ h => absurd h List.not_mem_nil⟩
  | cons c cs ih =>
    obtain ⟨hcc, hcs⟩ := List.forall_mem_cons.mp hc
    obtain ⟨hpc, hps⟩ := List.pairwise_cons.mp hp
    rcases genCols_cons_ok hg with ⟨hsrc, hg⟩ | ⟨v, sv, hsrc, hsv, hg⟩
    · obtain ⟨i1, i2, i3⟩ := ih _ hg hcs hps
      refine ⟨i1, fun a b hab => i2 a b (fun x hx => hab x (List.mem_cons_of_mem _ hx)), ?_⟩
      intro x hx v sv hx' hsv
      rcases List.mem_cons.mp hx with rfl | h
      · rw [hsrc] at hx'; cases hx'
      · exact i3 x h v sv hx' hsv
    · have h1 : c.till = c.offset + (padOrTrunc c.isInt c.size sv).length := by
        rw [padOrTrunc_length]; exact hcc.1
      have hlen := place_length r _ c.offset c.till h1 hcc.2
      obtain ⟨i1, i2, i3⟩ := ih _ hg (fun x hx => by rw [hlen]; exact hcs x hx) hps
      refine ⟨i1.trans hlen, ?_, ?_⟩
      · intro a b hab
        rw [i2 a b (fun x hx => hab x (List.mem_cons_of_mem _ hx))]
        exact place_frame r _ _ _ h1 hcc.2 a b (hab c List.mem_cons_self (hsrc ▸ Option.some_ne_none _))
      · intro x hx v' sv' hsrc' hsv'
        rcases List.mem_cons.mp hx with rfl | h
        · -- the later columns are disjoint from this one, so they leave its cell alone
          rw [hsrc] at hsrc'; cases hsrc'
          rw [hsv] at hsv'; cases hsv'
          rw [i2 _ _ (fun y hy _ => (hpc y hy).symm)]
          exact place_same r _ _ _ h1 hcc.2
        · exact i3 x h v' sv' hsrc' hsv'

/-- the filler row is long enough for every column of a consistent layout, so `genCols_spec` applies to it -/
theorem genRow_spec {rec : Rec} {fmt : List GCol} {filler text : Str} (hc : Consistent fmt) (hfill : filler ≠ [])
    (hg : genRow rec fmt filler = .ok text) :
    fmt ≠ []
    ∧ (∀ a b, (∀ c ∈ fmt, source rec c ≠ none → c.till ≤ a ∨ b ≤ c.offset) →
        slice text a b = slice (List.replicate (rowLen fmt) filler).flatten a b)
    ∧ (∀ c ∈ fmt, ∀ v sv, source rec c = some (.ok v) → pyStr v = .ok sv →
        slice text c.offset c.till = padOrTrunc c.isInt c.size sv) := by
  unfold genRow at hg
  split at hg
  · cases hg
  · rename_i hne
    have hlen := filler_length (rowLen fmt) filler hfill
    obtain ⟨_, h2, h3⟩ := genCols_spec rec fmt _ text hg
      (fun x hx => ⟨hc.1 x hx, Nat.le_trans (till_le_rowLen fmt x hx) hlen⟩) hc.2
    exact ⟨fun h => hne (by rw [h]; rfl), h2, h3⟩

theorem colValue_readBack (text : Str) (useWidth : Bool) {c : GCol} (h : c.till = c.offset + c.size) :
    colValue text (readBack useWidth c) = some (slice text c.offset c.till) := by
  cases useWidth
  · rfl
  · rw [h]; rfl

theorem parseCols_plain (row : Str) (validate : Bool) (cols : List PCol) (acc : Row)
    (h : validate = false ∨ ∀ c ∈ cols, c.validations = []) :
    parseCols row validate cols acc
      = .parsed (acc ++ cols.map (fun c => (c.name, colValue row c))) := by
  induction cols generalizing acc with
  | nil => rw [parseCols, List.map_nil, List.append_nil]
  | cons c cs ih =>
    have hc : (validate && !c.validations.isEmpty) = false := by
      rcases h with h | h
      · rw [h]; rfl
      · rw [h c List.mem_cons_self]; exact Bool.and_false _
    have hcs : validate = false ∨ ∀ x ∈ cs, x.validations = [] :=
      h.imp id (fun h x hx => h x (List.mem_cons_of_mem c hx))
    rw [parseCols, if_neg (by rw [hc]; exact Bool.false_ne_true), ih _ hcs, List.map_cons, List.append_assoc]
    rfl

theorem parseRow_ok (row : Str) (validate : Bool) (fmt : List PCol) (hne : fmt ≠ []) :
    parseRow row fmt validate = .ok (parseCols row validate fmt []) := by
  rw [parseRow, if_neg (fun h => hne (List.isEmpty_iff.mp h))]

/-- fix C16-d: the only way `parse_fwf_row` fails is the refusal of an empty layout -/
theorem parseRow_error (row : Str) (validate : Bool) (fmt : List PCol) (e : PyErr)
    (h : parseRow row fmt validate = .error e) : e = .SyntaxError ∧ fmt = [] := by
  by_cases hf : fmt = []
  · subst hf
    exact ⟨(Except.error.inj h).symm, rfl⟩
  · rw [parseRow_ok row validate fmt hf] at h
    cases h

theorem parseRow_plain (row : Str) (validate : Bool) (fmt : List PCol) (hne : fmt ≠ [])
    (h : validate = false ∨ ∀ c ∈ fmt, c.validations = []) :
    parseRow row fmt validate = .ok (.parsed (fmt.map (fun c => (c.name, colValue row c)))) := by
  rw [parseRow_ok row validate fmt hne, parseCols_plain row validate fmt [] h]
  simp

theorem parseCols_rejected (row : Str) (validate : Bool) (cols : List PCol) (acc : Row) (rw' msg : Str)
    (h : parseCols row validate cols acc = .rejected rw' msg) : rw' = row ∧ validate = true := by
  induction cols generalizing acc with
  | nil => cases h
  | cons c cs ih =>
    rw [parseCols] at h
    by_cases hv : (validate && !c.validations.isEmpty) = true
    · rw [if_pos hv] at h
      by_cases hm : (!(failedMsgs c (colValue row c) row acc 0 c.validations).isEmpty) = true
      · rw [if_pos hm] at h
        cases h
        exact ⟨rfl, (Bool.and_eq_true_iff.mp hv).1⟩
      · rw [if_neg hm] at h
        exact ih _ h
    · rw [if_neg hv] at h
      exact ih _ h

theorem parseRow_rejected (row : Str) (validate : Bool) (fmt : List PCol) (rw' msg : Str)
    (h : parseRow row fmt validate = .ok (.rejected rw' msg)) : rw' = row ∧ validate = true := by
  by_cases hf : fmt = []
  · subst hf
    cases h
  · rw [parseRow_ok row validate fmt hf] at h
    exact parseCols_rejected row validate fmt [] rw' msg (Except.ok.inj h)

theorem failedMsgs_eq_nil (c : PCol) (v : Option Str) (row : Str) (acc : Row) (i : Nat)
    (vs : List Validation) :
    failedMsgs c v row acc i vs = [] ↔ ∀ f ∈ vs, f v row acc = true := by
  induction vs generalizing i with
  | nil => exact ⟨fun _ _ h => absurd h List.not_mem_nil, fun _ => rfl⟩
  | cons f fs ih =>
    rw [failedMsgs, List.forall_mem_cons]
    by_cases hf : f v row acc = true
    · rw [if_pos hf, ih]
      exact ⟨fun h => ⟨hf, h⟩, fun h => h.2⟩
    · rw [if_neg hf]
      exact ⟨fun h => absurd h (List.cons_ne_nil _ _), fun h => absurd h.1 hf⟩

theorem failedMsgs_length (c : PCol) (v : Option Str) (row : Str) (acc : Row) (i : Nat)
    (vs : List Validation) :
    (failedMsgs c v row acc i vs).length = (vs.filter (fun f => !f v row acc)).length := by
  induction vs generalizing i with
  | nil => rfl
  | cons f fs ih =>
    rw [failedMsgs, List.filter_cons]
    cases hf : f v row acc with
    | true => exact ih _
    | false => exact congrArg Nat.succ (ih _)

/-- do all validations of all columns hold on the row, the columns taken in layout order and each seeing the
columns parsed before it: `true` iff the row is accepted (`parseCols_classify`) -/
def allValid (row : Str) : List PCol → Row → Bool
  | [], _ => true
  | c :: cs, acc =>
    c.validations.all (fun f => f (colValue row c) row acc)
      && allValid row cs (acc ++ [(c.name, colValue row c)])

theorem parseCols_cons_validate (row : Str) (c : PCol) (cs : List PCol) (acc : Row) :
    parseCols row true (c :: cs) acc =
      if c.validations.all (fun f => f (colValue row c) row acc) then
        parseCols row true cs (acc ++ [(c.name, colValue row c)])
      else .rejected row (join [';'] (failedMsgs c (colValue row c) row acc 0 c.validations)) := by
  have hmsgs := failedMsgs_eq_nil c (colValue row c) row acc 0 c.validations
  rw [parseCols]
  simp only [Bool.true_and]
  by_cases hall : (c.validations.all fun f => f (colValue row c) row acc) = true
  · rw [if_pos hall, hmsgs.mpr (List.all_eq_true.mp hall)]
    cases c.validations.isEmpty <;> rfl
  · have hne := fun h => hall (List.all_eq_true.mpr (hmsgs.mp h))
    have hvs : c.validations ≠ [] := fun h => hall (by rw [h]; rfl)
    rw [if_neg hall, if_pos (not_isEmpty hvs), if_pos (not_isEmpty hne)]

theorem parseCols_classify (row : Str) (cols : List PCol) (acc : Row) :
    (allValid row cols acc = true →
      parseCols row true cols acc = .parsed (acc ++ cols.map (fun c => (c.name, colValue row c))))
    ∧ (allValid row cols acc = false → ∃ msg, parseCols row true cols acc = .rejected row msg) := by
  induction cols generalizing acc with
  | nil => exact ⟨fun _ => by rw [parseCols, List.map_nil, List.append_nil], Bool.noConfusion⟩
  | cons c cs ih =>
    rw [parseCols_cons_validate, allValid]
    cases c.validations.all (fun f => f (colValue row c) row acc) with
    | false => exact ⟨Bool.noConfusion, fun _ => ⟨_, rfl⟩⟩
    | true =>
      obtain ⟨i1, i2⟩ := ih (acc ++ [(c.name, colValue row c)])
      rw [Bool.true_and, if_pos rfl]
      exact ⟨fun h => by rw [i1 h, List.map_cons, List.append_assoc]; rfl, i2⟩

theorem pairwise_disjoint_forall (fmt : List GCol)
    (hp : fmt.Pairwise (fun a b => a.till ≤ b.offset ∨ b.till ≤ a.offset)) :
    ∀ x ∈ fmt, ∀ c ∈ fmt, x = c ∨ (x.till ≤ c.offset ∨ c.till ≤ x.offset) := by
  induction fmt with
  | nil => simp
  | cons y fmt ih =>
    obtain ⟨h1, h2⟩ := List.pairwise_cons.mp hp
    intro x hx c hc
    rcases List.mem_cons.mp hx with hx' | hx' <;> rcases List.mem_cons.mp hc with hc' | hc'
    · exact .inl (hx'.trans hc'.symm)
    · rw [hx']; exact .inr (h1 c hc')
    · rw [hc']
      rcases h1 x hx' with h | h
      · exact .inr (.inr h)
      · exact .inr (.inl h)
    · exact ih h2 x hx' c hc'

end N0.Fwf
