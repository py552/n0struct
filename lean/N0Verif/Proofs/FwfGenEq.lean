import N0Verif.Model.Fwf
import N0Verif.Py.ListLemmas
import N0Verif.Gen.FwfPy
/-!
  The definitions that `harness/translate_py_fwf.py` regenerates from two fragments of the Python source
  (`Gen/FwfPy.lean`) are equal to the hand-written model (`Model/Fwf.lean`): the slice computation of `parse_fwf_row` is
  `Fwf.colValue`, the cell rendering of `generate_fwf_row` is `Fwf.place`.  The model has natural numbers (or `None`)
  for offsets / widths / sizes, the translated code `Int` (or `None`): the theorems are about natural numbers.
-/
namespace N0.FwfGenEq
open N0 N0.Py N0.Tlv N0.Fwf N0.Gen.FwfPy

theorem normBound_nat (len a : Nat) : normBound len (a : Int) = a :=
  normBound_natCast (fun _ _ => rfl) len a

theorem sliceO_nat (s : Str) (a b : Nat) : sliceO s (some (a : Int)) (some (b : Int)) = Tlv.slice s a b := by
  simp only [sliceO, normBound_nat]
  rfl

theorem sliceO_to (s : Str) (b : Nat) : sliceO s none (some (b : Int)) = s.take b := by
  simp only [sliceO, normBound_nat, Nat.sub_zero, List.drop_zero]

theorem sliceO_from (s : Str) (a : Nat) : sliceO s (some (a : Int)) none = s.drop a := by
  simp only [sliceO, normBound_nat]
  exact List.take_of_length_le (by rw [List.length_drop]; exact Nat.le_refl _)

theorem colValue_eq (row : Str) (c : PCol) :
    ParseFwfRow.colValue row (c.offset.map Int.ofNat) (c.width.map Int.ofNat) (c.till.map Int.ofNat)
      = .ok (Fwf.colValue row c) := by
  unfold ParseFwfRow.colValue Fwf.colValue
  cases c.offset with
  | none => rfl
  | some off =>
    cases c.till with
    | some t => cases c.width <;> exact congrArg (fun s => Except.ok (some s)) (sliceO_nat row off t)
    | none =>
      cases c.width with
      | none => rfl
      | some w => exact congrArg (fun s => Except.ok (some s)) (sliceO_nat row off (off + w))

/-- `ty` is `column_format.get('type')`, a str or `None` -/
theorem place_eq (c : GCol) (v : Val) (r : Str) (ty : Option Str) (h : c.isInt = decide (ty = some "int".toList)) :
    GenerateFwfRow.place r v c.size c.offset c.till ty = Fwf.place c v r := by
  rw [(String.toList_ofList : "int".toList = _)] at h
  unfold GenerateFwfRow.place Fwf.place Fwf.padOrTrunc
  rw [h]
  simp only [sliceO_to, sliceO_from, Int.toNat_natCast]
  cases decide (ty = some ['i', 'n', 't']) <;> cases Fwf.pyStr v <;> rfl

end N0.FwfGenEq
