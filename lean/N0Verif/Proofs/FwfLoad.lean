import N0Verif.Proofs.Fwf
import N0Verif.Py.ListLemmas
/-!
  `load_fwf` over the lines read, as an explicit value (`loadFwf_eq`): given a header layout it returns, and its two
  lists are what the lines contribute one by one, each parsed with the layout of its position (`accOf`, `rejOf`).
  `lineStep` is what the code does with one line, inside the loop and after it.
-/
namespace N0.Fwf
open N0 N0.Py N0.Tlv

/-- `Py.filterMap_congr` with the list and the functions explicit -/
theorem filterMap_congr' {α β} (l : List α) (f g : α → Option β) (h : ∀ x ∈ l, f x = g x) :
    l.filterMap f = l.filterMap g :=
  Py.filterMap_congr h

section load
variable (hdr body ftr : List PCol) (validate : Bool) (ret : Option Str) (n : Nat)

/-- what `load_fwf` does with one line: nothing when it is empty (`if previous_row:`; a line of spaces is parsed), else the line is
parsed with the layout `L` and appended to one of the two lists (`line`: the number a rejected line is reported with) -/
def lineStep (L : List PCol) (line : Option Nat) (prev : Str) (st : Loaded) : Except PyErr Loaded :=
  if !prev.isEmpty then
    match parseRow prev L validate with
    | .error e => .error e
    | .ok (.parsed r) => .ok { st with accepted := st.accepted ++ [addOriginal ret prev r] }
    | .ok (.rejected rw msg) =>
      .ok { st with rejected := st.rejected ++ [{ line := line, row := rw, msg := msg }] }
  else .ok st

theorem loadLoop_cons (i : Nat) (prev row : Str) (rest : List Str) (st : Loaded) :
    loadLoop hdr body validate ret i prev (row :: rest) st
      = (lineStep validate ret (if i = 1 then hdr else body) (some i) prev st).bind
          (loadLoop hdr body validate ret (i + 1) row rest) := by
  rw [loadLoop, lineStep]
  cases prev.isEmpty with
  | true => rfl
  | false =>
    cases parseRow prev (if i = 1 then hdr else body) validate with
    | error e => rfl
    | ok res => cases res <;> rfl

theorem loadFwf_eq_bind (lines : List Str) (hh : hdr ≠ []) :
    let body' := if body.isEmpty then hdr else body
    let ftr' := if ftr.isEmpty then body' else ftr
    loadFwf lines hdr body ftr validate ret
      = (loadLoop hdr body' validate ret 0 [] lines { accepted := [], rejected := [] }).bind
          (fun p => lineStep validate ret ftr' none p.1 p.2) := by
  intro body' ftr'
  rw [loadFwf, if_neg (by simpa using hh)]
  show (match loadLoop hdr body' validate ret 0 [] lines { accepted := [], rejected := [] } with
    | .error e => Except.error e
    | .ok (prev, st) => lineStep validate ret ftr' none prev st) = _
  cases loadLoop hdr body' validate ret 0 [] lines { accepted := [], rejected := [] } <;> rfl

/-- a layout that is not given falls back to one that is -/
theorem orElse_ne_nil {dflt : List PCol} (l : List PCol) (h : dflt ≠ []) :
    (if l.isEmpty then dflt else l) ≠ [] := by
  split
  · exact h
  · rename_i hl; exact fun h' => hl (by rw [h']; rfl)

theorem layoutAt_ne_nil {hdr body ftr : List PCol} (hh : hdr ≠ []) (hb : body ≠ []) (hf : ftr ≠ [])
    (n k : Nat) : layoutAt hdr body ftr n k ≠ [] := by
  unfold layoutAt
  by_cases h1 : k + 1 = n
  · rw [if_pos h1]; exact hf
  · by_cases h2 : k = 0
    · rw [if_neg h1, if_pos h2]; exact hh
    · rw [if_neg h1, if_neg h2]; exact hb

theorem lineStep_eq (x : Str × Nat) (st : Loaded) (hL : layoutAt hdr body ftr n x.2 ≠ []) :
    lineStep validate ret (layoutAt hdr body ftr n x.2) (if x.2 + 1 = n then none else some (x.2 + 1)) x.1 st
      = .ok { accepted := st.accepted ++ (accOf hdr body ftr validate ret n x).toList,
              rejected := st.rejected ++ (rejOf hdr body ftr validate n x).toList } := by
  unfold lineStep accOf rejOf
  rw [parseRow_ok _ _ _ hL]
  cases x.1.isEmpty with
  | true => simp
  | false => cases parseCols x.1 validate (layoutAt hdr body ftr n x.2) [] <;> simp

theorem accOf_empty {x : Str × Nat} (h : x.1.isEmpty = true) : accOf hdr body ftr validate ret n x = none := by
  rw [accOf, if_pos h]

theorem rejOf_empty {x : Str × Nat} (h : x.1.isEmpty = true) : rejOf hdr body ftr validate n x = none := by
  rw [rejOf, if_pos h]

theorem accOf_or_rejOf (x : Str × Nat) (hL : layoutAt hdr body ftr n x.2 ≠ []) (hne : x.1.isEmpty = false) :
    (∃ r, accOf hdr body ftr validate ret n x = some r ∧ rejOf hdr body ftr validate n x = none)
    ∨ (∃ j, rejOf hdr body ftr validate n x = some j ∧ j.row = x.1
        ∧ accOf hdr body ftr validate ret n x = none ∧ validate = true) := by
  unfold accOf rejOf
  rw [parseRow_ok _ _ _ hL, hne]
  cases hres : parseCols x.1 validate (layoutAt hdr body ftr n x.2) [] with
  | parsed r => exact .inl ⟨_, rfl, rfl⟩
  | rejected rw' msg =>
    obtain ⟨h1, h2⟩ := parseCols_rejected _ _ _ _ _ _ hres
    exact .inr ⟨_, rfl, h1, rfl, h2⟩

/-- the loop, started on line `prev` of index `k` with `rest` still to come, hands the last line on and has
classified every line before it with the header (index 0) or body layout -/
theorem loadLoop_eq (hh : hdr ≠ []) (hb : body ≠ []) (rest : List Str) (k : Nat) (prev : Str) (st : Loaded)
    (hn : rest.length + (k + 1) ≤ n) :
    loadLoop hdr body validate ret (k + 1) prev rest st
      = .ok ((prev :: rest).getLast (List.cons_ne_nil _ _),
          { accepted := st.accepted ++
              (((prev :: rest).dropLast).zipIdx k).filterMap (accOf hdr body ftr validate ret n),
            rejected := st.rejected ++
              (((prev :: rest).dropLast).zipIdx k).filterMap (rejOf hdr body ftr validate n) }) := by
  induction rest generalizing k prev st with
  | nil => simp [loadLoop]
  | cons row rest ih =>
    rw [List.length_cons] at hn
    have hk : ¬ (k + 1 = n) := Nat.ne_of_lt (Nat.lt_of_lt_of_le (Nat.lt_add_of_pos_left (Nat.succ_pos _)) hn)
    have hlay : (if k + 1 = 1 then hdr else body) = layoutAt hdr body ftr n k := by
      unfold layoutAt
      rw [if_neg hk]
      simp only [Nat.add_eq_right]
    have hL : layoutAt hdr body ftr n k ≠ [] := by
      rw [← hlay]; split <;> assumption
    have hstep := lineStep_eq hdr body ftr validate ret n (prev, k) st hL
    rw [if_neg hk] at hstep
    rw [loadLoop_cons, hlay, hstep, Except.bind, ih (k + 1) row _ (Nat.succ_add_eq_add_succ _ _ ▸ hn), List.getLast_cons_cons,
      List.dropLast_cons_cons, List.zipIdx_cons, filterMap_cons_toList, filterMap_cons_toList,
      List.append_assoc, List.append_assoc]

/-- the loop as `load_fwf` starts it: the dummy previous row is empty -/
theorem loadLoop_init (hh : hdr ≠ []) (hb : body ≠ []) {lines : List Str} (hne : lines ≠ [])
    (hn : lines.length ≤ n) (st : Loaded) :
    loadLoop hdr body validate ret 0 [] lines st
      = .ok (lines.getLast hne,
          { accepted := st.accepted ++ (lines.dropLast.zipIdx 0).filterMap (accOf hdr body ftr validate ret n),
            rejected := st.rejected ++ (lines.dropLast.zipIdx 0).filterMap (rejOf hdr body ftr validate n) }) := by
  cases lines with
  | nil => exact absurd rfl hne
  | cons row0 rest0 =>
    rw [loadLoop_cons]
    exact loadLoop_eq hdr body ftr validate ret n hh hb rest0 0 row0 st hn

theorem loadFwf_eq (lines : List Str) (hh : hdr ≠ []) :
    let body' := if body.isEmpty then hdr else body
    let ftr' := if ftr.isEmpty then body' else ftr
    loadFwf lines hdr body ftr validate ret
      = .ok { accepted := lines.zipIdx.filterMap (accOf hdr body' ftr' validate ret lines.length),
              rejected := lines.zipIdx.filterMap (rejOf hdr body' ftr' validate lines.length) } := by
  intro body' ftr'
  have hb : body' ≠ [] := orElse_ne_nil body hh
  have hf : ftr' ≠ [] := orElse_ne_nil ftr hb
  rw [loadFwf_eq_bind hdr body ftr validate ret lines hh]
  show (loadLoop hdr body' validate ret 0 [] lines { accepted := [], rejected := [] }).bind
    (fun p => lineStep validate ret ftr' none p.1 p.2) = _
  rcases List.eq_nil_or_concat lines with rfl | ⟨init, last, rfl⟩
  · rfl
  -- the loop classifies `init` and hands `last` on, which is line `|init|` of `|init| + 1`
  rw [List.concat_eq_append, List.length_append, List.length_singleton,
    loadLoop_init hdr body' ftr' validate ret (init.length + 1) hh hb (List.concat_ne_nil _ _)
      (Nat.le_of_eq List.length_append) _,
    List.getLast_concat, List.dropLast_concat, List.zipIdx_append, List.filterMap_append, List.filterMap_append]
  have hlast := lineStep_eq hdr body' ftr' validate ret (init.length + 1) (last, init.length)
  simp only [layoutAt, if_true] at hlast
  exact (hlast _ hf).trans (by simp [filterMap_cons_toList])

/-- fix C16-d: `load_fwf` (over the lines read) raises only for a missing header layout -/
theorem loadFwf_total (lines : List Str) (hh : hdr ≠ []) :
    ∃ st, loadFwf lines hdr body ftr validate ret = .ok st :=
  ⟨_, loadFwf_eq hdr body ftr validate ret lines hh⟩

theorem loadFwf_error (lines : List Str) (e : PyErr) (h : loadFwf lines hdr body ftr validate ret = .error e) :
    e = .SyntaxError ∧ hdr = [] := by
  by_cases hh : hdr = []
  · subst hh
    cases h
    exact ⟨rfl, rfl⟩
  · rw [loadFwf_eq hdr body ftr validate ret lines hh] at h
    cases h

end load

end N0.Fwf
