import N0Verif.Model.Ini
import N0Verif.Proofs.Split
import N0Verif.Proofs.Digits
/-!
  Lemmas about the INI model (`Model/Ini.lean`) for property C17: `strip()`, the typing of values
  (`default_parse_value` against the shape-based description `typedSpec`), keys, one line, the loop.
  As `parse_ini`, the model is a flat `key eq value` loop: no sections (`[sec]` is the key `[SEC]`), values typed as integer,
  decimal, quoted text or text (no booleans, no `None`), keys upper-cased.
-/
namespace N0.Ini
open N0 N0.Py N0.Esc

theorem stripWs_idem (s : Str) : stripWs (stripWs s) = stripWs s :=
  Py.stripWs_idem s

theorem head_of_stripped {t : Str} (h : stripWs t = t) : ∀ c, t.head? = some c → isPySpace c = false :=
  h ▸ stripWs_head t

theorem getLast_of_stripped {t : Str} (h : stripWs t = t) : ∀ c, t.getLast? = some c → isPySpace c = false :=
  h ▸ stripWs_getLast t

/-- **How a stripped text is typed** (a description by shape, independent of `isnumber`):
`[+-]digits` is that integer; `[+-]digits.digits` (a digit on at least one side) is that decimal,
printed without superfluous zeros; a text in matching quotes loses them; anything else is itself. -/
def typedSpec (t : Str) : Val :=
  if isIntLit t then .int (intVal t)
  else match decParts t with
    | some (ip, fp) => .flt (decLexeme (isNeg t) ip fp)
    | none => textOf t

/-- the texts on which the model answers: no numeric or white-space character outside ASCII, and a
decimal is short enough for `round(float(x), 7)` to be the decimal itself -/
def Exact (t : Str) : Prop :=
  (∀ c ∈ t, c.toNat < 128 ∨ (isNumericChar c = false ∧ isPySpace c = false)) ∧
  (∀ ip fp, decParts t = some (ip, fp) → shortDec ip fp = true)

theorem allDigits_iff (s : Str) : allDigits s = true ↔ ∀ c ∈ s, isAsciiDigit c = true := by
  simp [allDigits, List.all_eq_true]

theorem digit_numeric {c : Char} (h : isAsciiDigit c = true) : isNumericChar c = true := by
  have := digit_ascii h
  simp [isNumericChar, this, h]

theorem isNumeric_digits (s : Str) (hne : s ≠ []) (h : allDigits s = true) : isNumeric s = true := by
  rw [allDigits_iff] at h
  simp only [isNumeric, Bool.and_eq_true, Bool.not_eq_true', List.isEmpty_eq_false_iff, List.all_eq_true]
  exact ⟨hne, fun c hc => digit_numeric (h c hc)⟩

theorem body_char {c : Char} (h : isAsciiDigit c = true ∨ c = '.' ∨ c = '+' ∨ c = '-') :
    isPySpace c = false ∧ c.toNat < 128 := by
  rcases h with h | rfl | rfl | rfl
  · exact ⟨digit_not_space h, digit_ascii h⟩
  · decide
  · decide
  · decide

theorem stripWs_digits_like (s : Str) (h : ∀ c ∈ s, isAsciiDigit c = true ∨ c = '.') : stripWs s = s :=
  stripWs_of_all _ (fun c hc => (body_char ((h c hc).elim .inl (fun h => .inr (.inl h)))).1)

theorem isnumber_stripped (t : Str) (ht : stripWs t = t) :
    isnumber t = (let v := if startsWith t ['+'] || startsWith t ['-'] then stripWs (t.drop 1) else t
                  isNumeric (if v.count '.' = 1 then dotToZero v else v)) := by
  unfold isnumber
  rw [ht]

theorem unsigned_cases (t : Str) :
    (∃ sg, (sg = '+' ∨ sg = '-') ∧ t = sg :: unsigned t ∧ (startsWith t ['+'] || startsWith t ['-']) = true) ∨
    (t = unsigned t ∧ (startsWith t ['+'] || startsWith t ['-']) = false) := by
  cases t with
  | nil => exact .inr ⟨rfl, rfl⟩
  | cons a r =>
    by_cases h1 : a = '+'
    · subst h1; exact .inl ⟨'+', .inl rfl, rfl, by simp [startsWith]⟩
    · by_cases h2 : a = '-'
      · subst h2; exact .inl ⟨'-', .inr rfl, rfl, by simp [startsWith]⟩
      · have hu : unsigned (a :: r) = a :: r := by
          unfold unsigned
          split
          · rename_i heq; cases heq; exact absurd rfl h1
          · rename_i heq; cases heq; exact absurd rfl h2
          · rfl
        exact .inr ⟨hu.symm, by simp [startsWith, h1, h2]⟩

theorem mem_of_body (t : Str) (hb : ∀ c ∈ unsigned t, isAsciiDigit c = true ∨ c = '.') :
    ∀ c ∈ t, isAsciiDigit c = true ∨ c = '.' ∨ c = '+' ∨ c = '-' := by
  intro c hc
  rcases unsigned_cases t with ⟨sg, hsg, h, _⟩ | ⟨h, _⟩
  · rw [h] at hc
    rcases List.mem_cons.1 hc with rfl | hc
    · exact .inr (.inr hsg)
    · exact (hb c hc).elim .inl (fun h => .inr (.inl h))
  · rw [h] at hc
    exact (hb c hc).elim .inl (fun h => .inr (.inl h))

theorem isnumber_body (t : Str) (hb : ∀ c ∈ unsigned t, isAsciiDigit c = true ∨ c = '.') :
    isnumber t = isNumeric (if (unsigned t).count '.' = 1 then dotToZero (unsigned t) else unsigned t) := by
  have hsb := stripWs_digits_like _ hb
  rw [isnumber_stripped t (stripWs_of_all _ (fun c hc => (body_char (mem_of_body t hb c hc)).1))]
  rcases unsigned_cases t with ⟨sg, _, h, hs⟩ | ⟨h, hs⟩
  · have hd : t.drop 1 = unsigned t := (congrArg (List.drop 1) h).trans rfl
    simp only [hs, ↓reduceIte, hd, hsb]
  · simp only [hs, Bool.false_eq_true, ↓reduceIte]
    rw [← h]

theorem ascii_of_body (t : Str) (hb : ∀ c ∈ unsigned t, isAsciiDigit c = true ∨ c = '.') :
    isAsciiStr t = true := by
  simp only [isAsciiStr, List.all_eq_true, decide_eq_true_eq]
  exact fun c hc => (body_char (mem_of_body t hb c hc)).2

theorem contains_dot_iff (t : Str) : t.contains '.' = (unsigned t).contains '.' := by
  rcases unsigned_cases t with ⟨sg, hsg, h, _⟩ | ⟨h, _⟩
  · conv => lhs; rw [h]
    rcases hsg with rfl | rfl <;> simp
  · conv => lhs; rw [h]

theorem decParts_shape (t ip fp : Str) (h : decParts t = some (ip, fp)) :
    unsigned t = ip ++ '.' :: fp ∧ allDigits ip = true ∧ allDigits fp = true ∧ (ip ≠ [] ∨ fp ≠ []) := by
  unfold decParts at h
  simp only at h
  have hsplit := List.takeWhile_append_dropWhile (p := isAsciiDigit) (l := unsigned t)
  split at h
  · rename_i fp' hdw
    split at h
    · rename_i hcond
      simp only [Option.some.injEq, Prod.mk.injEq] at h
      obtain ⟨rfl, rfl⟩ := h
      simp only [Bool.and_eq_true, Bool.not_eq_true', Bool.and_eq_false_iff, List.isEmpty_eq_false_iff] at hcond
      refine ⟨?_, ?_, hcond.1, ?_⟩
      · rw [← hdw]; exact hsplit.symm
      · rw [allDigits_iff]; exact mem_takeWhile_imp _ _
      · rcases hcond.2 with h | h
        · left; exact h
        · right; exact h
    · cases h
  · cases h

theorem count_dot_digits (s : Str) (h : allDigits s = true) : s.count '.' = 0 := by
  rw [List.count_eq_zero]
  intro hm
  exact digit_ne_char ((allDigits_iff s).1 h _ hm) '.' (by decide) rfl

theorem dotToZero_digits (s : Str) (h : allDigits s = true) : dotToZero s = s := by
  unfold dotToZero
  conv => rhs; rw [← List.map_id s]
  apply List.map_congr_left
  intro c hc
  have : c ≠ '.' := digit_ne_char ((allDigits_iff s).1 h _ hc) _ (by decide)
  simp [this]

theorem intLit_no_dot (t : Str) (h : isIntLit t = true) : t.contains '.' = false := by
  simp only [isIntLit, Bool.and_eq_true] at h
  rw [contains_dot_iff]
  have := count_dot_digits _ h.2
  rw [List.count_eq_zero] at this
  simpa using this

theorem decParts_intLit (t : Str) (h : isIntLit t = true) : decParts t = none := by
  cases hd : decParts t with
  | none => rfl
  | some p =>
    obtain ⟨ip, fp⟩ := p
    have hs := (decParts_shape t ip fp hd).1
    have := intLit_no_dot t h
    rw [contains_dot_iff, hs] at this
    simp at this

theorem numberOf_int (t : Str) (h : isIntLit t = true) : numberOf t = .ok (some (.int (intVal t))) := by
  have h' := h
  simp only [isIntLit, Bool.and_eq_true, Bool.not_eq_true', List.isEmpty_eq_false_iff] at h'
  have hb : ∀ c ∈ unsigned t, isAsciiDigit c = true ∨ c = '.' :=
    fun c hc => Or.inl ((allDigits_iff _).1 h'.2 c hc)
  have hnum : isnumber t = true := by
    rw [isnumber_body t hb, count_dot_digits _ h'.2]
    simp only [Nat.zero_ne_one, ↓reduceIte]
    exact isNumeric_digits _ h'.1 h'.2
  unfold numberOf
  simp [hnum, ascii_of_body t hb, (by simpa using intLit_no_dot t h : '.' ∉ t), intOfText, h]

theorem numberOf_dec (t ip fp : Str) (h : decParts t = some (ip, fp)) (hs : shortDec ip fp = true) :
    numberOf t = .ok (some (.flt (decLexeme (isNeg t) ip fp))) := by
  obtain ⟨hu, hi, hf, hne⟩ := decParts_shape t ip fp h
  have hb : ∀ c ∈ unsigned t, isAsciiDigit c = true ∨ c = '.' := by
    intro c hc
    simp only [hu, List.mem_append, List.mem_cons] at hc
    rcases hc with hc | rfl | hc
    · exact .inl ((allDigits_iff _).1 hi c hc)
    · exact .inr rfl
    · exact .inl ((allDigits_iff _).1 hf c hc)
  have hcount : (unsigned t).count '.' = 1 := by
    rw [hu, List.count_append, List.count_cons_self, count_dot_digits _ hi, count_dot_digits _ hf]
  have hz : dotToZero (unsigned t) = ip ++ '0' :: fp := by
    rw [hu, dotToZero, List.map_append, List.map_cons, show List.map _ ip = ip from dotToZero_digits ip hi,
      show List.map _ fp = fp from dotToZero_digits fp hf]
    rfl
  have hall : allDigits (ip ++ '0' :: fp) = true := by
    rw [allDigits, List.all_append, List.all_cons, Bool.and_eq_true, Bool.and_eq_true]
    exact ⟨hi, by decide, hf⟩
  have hnum : isnumber t = true := by
    rw [isnumber_body t hb, hcount, if_pos rfl, hz]
    exact isNumeric_digits _ (by simp) hall
  have hdot : '.' ∈ t := by
    have : t.contains '.' = true := by rw [contains_dot_iff, hu]; simp
    simpa using this
  unfold numberOf
  simp [hnum, ascii_of_body t hb, hdot, floatOfText, h, hs]

/-- everything else is not a number (fix C17-f: no exception either) -/
theorem numberOf_other (t : Str) (hst : stripWs t = t) (hex : Exact t) (hi : isIntLit t = false)
    (hd : decParts t = none) : numberOf t = .ok none := by
  unfold numberOf
  by_cases hnum : isnumber t = true
  · -- then the text is ASCII
    have hascii : isAsciiStr t = true := by
      simp only [isAsciiStr, List.all_eq_true, decide_eq_true_eq]
      intro c hc
      rcases hex.1 c hc with h | ⟨hn, hsp⟩
      · exact h
      · by_cases hlt : c.toNat < 128
        · exact hlt
        · exfalso
          rw [isnumber_stripped t hst] at hnum
          simp only at hnum
          have hne : ∀ d : Char, d.toNat < 128 → c ≠ d := by
            intro d hd' heq; subst heq; exact hlt hd'
          -- `c` survives the removal of the sign and the strip …
          have hv : c ∈ (if (startsWith t ['+'] || startsWith t ['-']) = true then stripWs (t.drop 1) else t) := by
            rcases unsigned_cases t with ⟨sg, hsg, h, hs⟩ | ⟨h, hs⟩
            · rw [if_pos hs]
              refine mem_stripWs _ c ?_ hsp
              rw [h] at hc
              rcases List.mem_cons.1 hc with rfl | hc
              · exact absurd (body_char (.inr (.inr hsg))).2 hlt
              · rw [h]; exact hc
            · rw [if_neg (by rw [hs]; decide)]; exact hc
          generalize (if (startsWith t ['+'] || startsWith t ['-']) = true then stripWs (t.drop 1) else t) = v at hv hnum
          -- … and the replacement of the point
          have hv' : c ∈ (if v.count '.' = 1 then dotToZero v else v) := by
            split
            · unfold dotToZero
              rw [List.mem_map]
              exact ⟨c, hv, by simp [hne '.' (by decide)]⟩
            · exact hv
          simp only [isNumeric, Bool.and_eq_true, List.all_eq_true] at hnum
          have := hnum.2 c hv'
          rw [hn] at this; cases this
    simp [hnum, hascii, floatOfText, hd, intOfText, hi]
  · simp [hnum]

/-- **`default_parse_value` types a text as `typedSpec` describes** (wherever the model answers) -/
theorem parseValue_spec (raw : Str) (h : Exact (stripWs raw)) :
    parseValue raw = .ok (typedSpec (stripWs raw)) := by
  unfold parseValue typedSpec
  simp only
  by_cases hi : isIntLit (stripWs raw) = true
  · rw [numberOf_int _ hi, if_pos hi]
  · have hi' : isIntLit (stripWs raw) = false := by simpa using hi
    rw [if_neg hi]
    cases hd : decParts (stripWs raw) with
    | some p =>
      obtain ⟨ip, fp⟩ := p
      rw [numberOf_dec _ ip fp hd (h.2 ip fp hd)]
    | none =>
      rw [numberOf_other _ (Py.stripWs_idem raw) h hi' hd]

theorem unsigned_eq_self (s : Str) (h : ∀ c, s.head? = some c → c ≠ '+' ∧ c ≠ '-') : unsigned s = s := by
  cases s with
  | nil => rfl
  | cons a r =>
    have := h a rfl
    unfold unsigned
    split
    · rename_i heq; cases heq; exact absurd rfl this.1
    · rename_i heq; cases heq; exact absurd rfl this.2
    · rfl

theorem natDigits_head_digit (n : Nat) : ∀ c, (natDigits n).head? = some c → isAsciiDigit c = true :=
  fun c hc => natDigits_all_digit n c (List.mem_of_mem_head? hc)

theorem unsigned_natDigits (n : Nat) : unsigned (natDigits n) = natDigits n :=
  unsigned_eq_self _ fun c hc =>
    have h := natDigits_head_digit n c hc
    ⟨digit_ne_char h '+' (by decide), digit_ne_char h '-' (by decide)⟩

theorem allDigits_natDigits (n : Nat) : allDigits (natDigits n) = true :=
  (allDigits_iff _).2 (natDigits_all_digit n)

theorem isNeg_natDigits (n : Nat) : isNeg (natDigits n) = false := by
  unfold isNeg
  cases h : natDigits n with
  | nil => rfl
  | cons a r =>
    have : a ≠ '-' := digit_ne_char (natDigits_head_digit n a (by rw [h]; rfl)) _ (by decide)
    simp [startsWith, this]

theorem isIntLit_intRepr (i : Int) : isIntLit (intRepr i) = true := by
  cases i with
  | ofNat n =>
    simp only [intRepr, natRepr, isIntLit, unsigned_natDigits, allDigits_natDigits, Bool.and_true,
      Bool.not_eq_true', List.isEmpty_eq_false_iff]
    exact natDigits_ne_nil n
  | negSucc n =>
    simp only [intRepr, natRepr, isIntLit, unsigned, allDigits_natDigits, Bool.and_true,
      Bool.not_eq_true', List.isEmpty_eq_false_iff]
    exact natDigits_ne_nil _

theorem intVal_intRepr (i : Int) : intVal (intRepr i) = i := by
  cases i with
  | ofNat n =>
    simp only [intRepr, natRepr, intVal, isNeg_natDigits, unsigned_natDigits, natOfDigits_natDigits]
    rfl
  | negSucc n =>
    simp only [intRepr, natRepr, intVal, isNeg, startsWith, unsigned, natOfDigits_natDigits]
    simp [Int.negSucc_eq]

theorem intRepr_no_space (i : Int) : ∀ c ∈ intRepr i, isPySpace c = false ∧ c.toNat < 128 := by
  intro c hc
  cases i with
  | ofNat n =>
    have := natDigits_all_digit n c hc
    exact ⟨digit_not_space this, digit_ascii this⟩
  | negSucc n =>
    simp only [intRepr, natRepr] at hc
    rcases List.mem_cons.1 hc with rfl | hc
    · decide
    · have := natDigits_all_digit _ c hc
      exact ⟨digit_not_space this, digit_ascii this⟩

theorem stripWs_intRepr (i : Int) : stripWs (intRepr i) = intRepr i :=
  stripWs_of_all _ (fun c hc => (intRepr_no_space i c hc).1)

theorem exact_intRepr (i : Int) : Exact (intRepr i) :=
  ⟨fun c hc => Or.inl (intRepr_no_space i c hc).2,
   fun ip fp h => by rw [decParts_intLit _ (isIntLit_intRepr i)] at h; cases h⟩

theorem typedSpec_intRepr (i : Int) : typedSpec (intRepr i) = .int i := by
  unfold typedSpec
  rw [if_pos (isIntLit_intRepr i), intVal_intRepr]

/-- the keys the statement speaks about: non-empty stripped ASCII names that contain no character
of the equal tag and do not start a comment -/
structure IniKey (eq k : Str) : Prop where
  ne : k ≠ []
  stripped : stripWs k = k
  ascii : ∀ c ∈ k, c.toNat < 128
  clean : Clean eq k
  noHash : startsWith k ['#'] = false
  noSlash : startsWith k ['/', '/'] = false

theorem splitPair_key (eq k raw : Str) (heq : eq ≠ []) (hk : Clean eq k) :
    splitPair eq (k ++ eq ++ raw) = .ok (k, raw) := by
  unfold splitPair
  have h1 : eq.isEmpty = false := by cases eq with
    | nil => exact absurd rfl heq
    | cons _ _ => rfl
  rw [isInfix_mid eq k raw heq, splitAux_pair eq k raw heq hk]
  simp [h1]

theorem parseKey_key (k : Str) (hs : stripWs k = k) (ha : ∀ c ∈ k, c.toNat < 128) :
    parseKey k = .ok (upper k) := by
  unfold parseKey
  simp only [hs]
  have : isAsciiStr k = true := by
    simp only [isAsciiStr, List.all_eq_true, decide_eq_true_eq]; exact ha
  simp [this]

theorem parseLine_key (eq k raw : Str) (heq : eq ≠ []) (hk : IniKey eq k) (hv : Exact (stripWs raw)) :
    isIgnored (k ++ eq ++ raw) = false ∧
      parseLine eq (k ++ eq ++ raw) = .ok (upper k, typedSpec (stripWs raw)) := by
  obtain ⟨hne, hst, hascii, hclean, hhash, hslash⟩ := hk
  cases k with
  | nil => exact absurd rfl hne
  | cons a k' =>
    have hsp : isPySpace a = false := head_of_stripped hst a rfl
    have hdw : ((a :: k') ++ eq ++ raw).dropWhile isPySpace = (a :: k') ++ eq ++ raw := by
      simp [hsp]
    constructor
    · unfold isIgnored
      simp only [hdw]
      have h1 : (a == '#') = false := by simpa [startsWith] using hhash
      have h2 : startsWith ((a :: k') ++ eq ++ raw) ['/', '/'] = false := by
        rw [List.append_assoc]
        refine startsWith_two_append _ _ _ _ (List.cons_ne_nil _ _) hslash (fun hk c hc he => ?_)
        -- the key is `/`: the equal tag, which shares no character with it, starts the rest
        obtain _ | ⟨e, eq'⟩ := eq
        · exact heq rfl
        · cases hc; exact hclean '/' (by rw [hk]; exact List.mem_singleton.2 rfl) (he ▸ List.mem_cons_self)
      simp only [List.cons_append] at h2 ⊢
      rw [h2]
      simp [startsWith, h1]
    · unfold parseLine
      rw [hdw, splitPair_key eq _ raw heq hclean]
      simp only [bind, Except.bind, parseKey_key _ hst hascii, parseValue_spec raw hv, pure, Except.pure]

/-- white space that may stand between a key and its `+` -/
def Blanks (eq ws : Str) : Prop := ∀ c ∈ ws, isPySpace c = true ∧ c.toNat < 128 ∧ c ∉ eq

theorem iniKey_plus (eq k ws : Str) (hk : IniKey eq k) (hws : Blanks eq ws) (hplus : '+' ∉ eq) :
    IniKey eq (k ++ ws ++ ['+']) := by
  obtain ⟨hne, hst, hascii, hclean, hhash, hslash⟩ := hk
  cases k with
  | nil => exact absurd rfl hne
  | cons a k' =>
    refine ⟨by simp, ?_, ?_, ?_, ?_, ?_⟩
    · refine stripWs_eq_self _ ?_ ?_
      · intro c hc
        simp only [List.cons_append, List.head?_cons, Option.some.injEq] at hc
        subst hc
        exact head_of_stripped hst _ rfl
      · intro c hc
        rw [List.getLast?_append] at hc
        simp at hc
        subst hc; decide
    · intro c hc
      rcases List.mem_append.1 hc with hc | hc
      · rcases List.mem_append.1 hc with hc | hc
        · exact hascii c hc
        · exact (hws c hc).2.1
      · simp at hc; subst hc; decide
    · intro c hc
      rcases List.mem_append.1 hc with hc | hc
      · rcases List.mem_append.1 hc with hc | hc
        · exact hclean c hc
        · exact (hws c hc).2.2
      · simp at hc; subst hc; exact hplus
    · simpa [startsWith] using hhash
    · rw [List.append_assoc]
      refine startsWith_two_append _ _ _ _ (List.cons_ne_nil _ _) hslash (fun _ c hc he => ?_)
      obtain _ | ⟨w, ws'⟩ := ws
      · cases hc; cases he
      · cases hc
        have := (hws c List.mem_cons_self).1
        rw [he] at this; cases this

theorem lower_letter_facts : ∀ k : Fin 26,
    isPySpace (Char.ofNat (97 + k.val)) = false ∧ Char.ofNat (97 + k.val) ≠ '+' ∧
      Char.ofNat (97 + k.val - 32) ≠ '+' ∧ isPySpace (Char.ofNat (97 + k.val - 32)) = false := by decide +kernel

theorem toUpperAscii_cases (c : Char) :
    toUpperAscii c = c ∨ (isPySpace c = false ∧ c ≠ '+' ∧ toUpperAscii c ≠ '+' ∧ isPySpace (toUpperAscii c) = false) := by
  unfold toUpperAscii
  split
  · rename_i hc
    simp only [Bool.and_eq_true, decide_eq_true_eq] at hc
    have h1 : 97 ≤ c.toNat := hc.1
    have h2 : c.toNat ≤ 122 := hc.2
    have := lower_letter_facts ⟨c.toNat - 97, Nat.sub_lt_left_of_lt_add h1 (Nat.lt_succ_of_le h2)⟩
    simp only [Nat.add_sub_cancel' h1, Char.ofNat_toNat] at this
    exact .inr this
  · exact .inl rfl

theorem toUpperAscii_plus (c : Char) : toUpperAscii c = '+' ↔ c = '+' := by
  constructor
  · intro h
    rcases toUpperAscii_cases c with h' | h'
    · rw [← h', h]
    · exact absurd h h'.2.2.1
  · rintro rfl; decide

theorem toUpperAscii_space (c : Char) : isPySpace (toUpperAscii c) = isPySpace c := by
  rcases toUpperAscii_cases c with h' | h'
  · rw [h']
  · rw [h'.1, h'.2.2.2]

theorem upper_last_plus (k : Str) : (upper k).getLast? = some '+' ↔ k.getLast? = some '+' := by
  unfold upper
  rw [List.getLast?_map]
  cases k.getLast? with
  | none => simp
  | some c => simp [toUpperAscii_plus]

theorem upper_append_plus (k : Str) : upper (k ++ ['+']) = upper k ++ ['+'] := by
  simp [upper, toUpperAscii]

theorem store_plain (acc : List (Str × Val)) (key : Str) (v : Val) (h : key.getLast? ≠ some '+') :
    store acc key v = dictSet key v acc := by
  unfold store; rw [if_neg h]

theorem rstripWs_blanks (K ws : Str) (hK : ∀ c, K.getLast? = some c → isPySpace c = false)
    (hws : ∀ c ∈ ws, isPySpace c = true) : rstripWs (K ++ ws) = K := by
  unfold rstripWs
  rw [List.reverse_append, List.dropWhile_append_of_pos (by simpa using hws),
    dropWhile_eq_self_of_head _ _ (by intro c hc; rw [List.head?_reverse] at hc; exact hK c hc),
    List.reverse_reverse]

theorem store_plus (acc : List (Str × Val)) (K ws : Str) (v : Val)
    (hK : ∀ c, K.getLast? = some c → isPySpace c = false) (hws : ∀ c ∈ ws, isPySpace c = true) :
    store acc (K ++ ws ++ ['+']) v =
      match Val.lookup K acc with
      | some old => dictSet K (.str (pyStr old ++ pyStr v)) acc
      | none => dictSet K (.str (marker :: pyStr v)) acc := by
  unfold store
  have : (K ++ ws ++ ['+']).getLast? = some '+' := by simp
  rw [if_pos this]
  simp only [List.dropLast_concat, rstripWs_blanks K ws hK hws]
  cases Val.lookup K acc <;> rfl

theorem upper_key_last (k : Str) (hst : stripWs k = k) :
    ∀ c, (upper k).getLast? = some c → isPySpace c = false := by
  intro c hc
  unfold upper at hc
  rw [List.getLast?_map] at hc
  cases hl : k.getLast? with
  | none => rw [hl] at hc; cases hc
  | some d =>
    rw [hl] at hc
    simp only [Option.map_some, Option.some.injEq] at hc
    subst hc
    rw [toUpperAscii_space]
    exact getLast_of_stripped hst d hl

theorem upper_blanks (ws : Str) (h : ∀ c ∈ ws, isPySpace c = true) : ∀ c ∈ upper ws, isPySpace c = true := by
  intro c hc
  unfold upper at hc
  obtain ⟨d, hd, rfl⟩ := List.mem_map.1 hc
  rw [toUpperAscii_space]; exact h d hd

theorem parseFrom_append (eq : Str) (l2 : List Str) : ∀ (l1 : List Str) (acc : List (Str × Val)),
    parseFrom eq acc (l1 ++ l2) =
      match parseFrom eq acc l1 with
      | .error e => .error e
      | .ok acc' => parseFrom eq acc' l2 := by
  intro l1
  induction l1 with
  | nil => intro acc; rfl
  | cons l l1 ih =>
    intro acc
    simp only [List.cons_append, parseFrom]
    cases stepLine eq acc l with
    | error e => rfl
    | ok acc' => exact ih acc'

theorem parseFrom_filter (eq : Str) : ∀ (lines : List Str) (acc : List (Str × Val)),
    parseFrom eq acc (lines.filter (fun l => !isIgnored l)) = parseFrom eq acc lines := by
  intro lines
  induction lines with
  | nil => intro acc; rfl
  | cons l lines ih =>
    intro acc
    by_cases h : isIgnored l = true
    · rw [List.filter_cons_of_neg (by simp [h])]
      simp only [parseFrom, stepLine, h, ↓reduceIte]
      exact ih acc
    · rw [List.filter_cons_of_pos (by simpa using h)]
      simp only [parseFrom]
      cases stepLine eq acc l with
      | error e => rfl
      | ok acc' => exact ih acc'

/-- what a value of the mapping loads back as: its printed form, stripped and typed -/
def loaded (v : Val) : Val := typedSpec (stripWs (pyStr v))

def EntryOk (eq : Str) (kv : Str × Val) : Prop :=
  IniKey eq kv.1 ∧ kv.1.getLast? ≠ some '+' ∧ Exact (stripWs (pyStr kv.2))

theorem stepLine_entry (eq : Str) (heq : eq ≠ []) (kv : Str × Val) (h : EntryOk eq kv)
    (acc : List (Str × Val)) :
    stepLine eq acc (kv.1 ++ eq ++ pyStr kv.2) = .ok (dictSet (upper kv.1) (loaded kv.2) acc) := by
  obtain ⟨hk, hp, hv⟩ := h
  obtain ⟨hig, hpl⟩ := parseLine_key eq kv.1 (pyStr kv.2) heq hk hv
  unfold stepLine
  rw [hig, hpl]
  simp only [Bool.false_eq_true, ↓reduceIte]
  rw [store_plain _ _ _ (by rw [Ne, upper_last_plus]; exact hp)]
  rfl

theorem parseFrom_iniLines (eq : Str) (heq : eq ≠ []) : ∀ (m : List (Str × Val)),
    (∀ kv ∈ m, EntryOk eq kv) → ∀ acc : List (Str × Val),
    parseFrom eq acc (iniLines eq m)
      = .ok (m.foldl (fun acc kv => dictSet (upper kv.1) (loaded kv.2) acc) acc) := by
  intro m
  induction m with
  | nil => intro _ acc; rfl
  | cons kv m ih =>
    intro hm acc
    simp only [iniLines, List.map_cons, parseFrom, List.foldl_cons]
    rw [stepLine_entry eq heq kv (hm kv (by simp)) acc]
    exact ih (fun kv' h' => hm kv' (by simp [h'])) _

theorem readLinesAux_line (l : Str) (h : ∀ c ∈ l, c ≠ '\n' ∧ c ≠ '\r') : ∀ (cur rest : Str),
    readLinesAux cur (l ++ rest) = readLinesAux (l.reverse ++ cur) rest := by
  induction l with
  | nil => intro cur rest; rfl
  | cons c l ih =>
    intro cur rest
    have hc := h c (by simp)
    have step : readLinesAux cur (c :: (l ++ rest)) = readLinesAux (c :: cur) (l ++ rest) := by
      exact readLinesAux.eq_5 cur c (l ++ rest) hc.1 (fun _ h _ => hc.2 h) hc.2
    rw [List.cons_append, step, ih (fun c' h' => h c' (by simp [h'])) (c :: cur) rest]
    simp

theorem readLines_join : ∀ (lines : List Str),
    (∀ l ∈ lines, l ≠ [] ∧ ∀ c ∈ l, c ≠ '\n' ∧ c ≠ '\r') →
    readLines (join ['\n'] lines) = lines := by
  intro lines
  unfold readLines
  induction lines with
  | nil => intro _; rfl
  | cons l rest ih =>
    intro h
    have hl := h l (by simp)
    cases rest with
    | nil =>
      have := readLinesAux_line l hl.2 [] []
      simp only [List.append_nil] at this
      simp only [join]
      rw [this, readLinesAux]
      simp [hl.1]
    | cons l2 rest =>
      simp only [join]
      rw [List.append_assoc, readLinesAux_line l hl.2 [] _]
      simp only [List.append_nil, List.singleton_append, readLinesAux, List.reverse_reverse]
      rw [ih (fun l' h' => h l' (by simp [h']))]

/-- is the text no decimal literal, or one in the exact range -/
def decOk (t : Str) : Bool :=
  match decParts t with
  | some (ip, fp) => shortDec ip fp
  | none => true

/-- `Exact` of a closed text by evaluation: both hypotheses are decidable (`by decide +kernel`, as the examples of Props/C17) -/
theorem exact_of (t : Str)
    (h1 : ∀ c ∈ t, c.toNat < 128 ∨ (isNumericChar c = false ∧ isPySpace c = false))
    (h2 : decOk t = true) : Exact t := by
  refine ⟨h1, ?_⟩
  intro ip fp h
  simp only [decOk, h] at h2
  exact h2

/-- an integer, or a text on which the model answers -/
inductive IniValue : Val → Prop
  | int (i : Int) : IniValue (.int i)
  | text (s : Str) : Exact (stripWs s) → IniValue (.str s)

theorem IniValue.exact {v : Val} (h : IniValue v) : Exact (stripWs (pyStr v)) := by
  cases h with
  | int i => show Exact (stripWs (intRepr i)); rw [stripWs_intRepr]; exact exact_intRepr i
  | text s hs => exact hs

theorem loaded_int (i : Int) : loaded (.int i) = .int i := by
  show typedSpec (stripWs (intRepr i)) = .int i; rw [stripWs_intRepr, typedSpec_intRepr]

theorem iniLines_line_ok (eq : Str) (heq : eq ≠ []) (m : List (Str × Val))
    (hk : ∀ kv ∈ m, ∀ c ∈ kv.1, c ≠ '\n' ∧ c ≠ '\r') (heqc : ∀ c ∈ eq, c ≠ '\n' ∧ c ≠ '\r')
    (hv : ∀ kv ∈ m, ∀ c ∈ pyStr kv.2, c ≠ '\n' ∧ c ≠ '\r') :
    ∀ l ∈ iniLines eq m, l ≠ [] ∧ ∀ c ∈ l, c ≠ '\n' ∧ c ≠ '\r' := by
  intro l hl
  obtain ⟨kv, hkv, rfl⟩ := List.mem_map.1 hl
  constructor
  · cases eq with
    | nil => exact absurd rfl heq
    | cons e eq' => simp
  · intro c hc
    rcases List.mem_append.1 hc with hc | hc
    · rcases List.mem_append.1 hc with hc | hc
      · exact hk kv hkv c hc
      · exact heqc c hc
    · exact hv kv hkv c hc

end N0.Ini
