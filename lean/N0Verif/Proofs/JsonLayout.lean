import N0Verif.Proofs.JsonReader
/-!
  C11, the printer: the notions through which `pretty` is shown to produce a rendering: `AccL`/`AccK`
  (the body printed so far is a rendering of the items kept so far), `Out` (what `pretty` returns:
  nothing for an item that `skip_empty_arrays` drops, else a rendering), and `prune` on `wf` trees.
  The induction over the tree, for every option record, is in `Proofs/JsonPairs.lean`.
  The `dropL`/`dropK` lemmas serve that proof (side conditions `¬(skip ∧ empty)`); on a literal tree evaluate with
  `cases o.skipEmpty` and the defining equations.
-/
namespace N0.Json
open N0 N0.Py

theorem Ws_nlAt (o : Opts) (m : Nat) : Ws (nlAt o m) := by
  unfold nlAt
  split
  · exact Ws_nil
  · exact Ws_cons (by decide) (Ws_replicate _)

theorem Ws_sp (o : Opts) : Ws (sp o) := by
  unfold sp
  split
  · exact Ws_nil
  · exact Ws_cons (by decide) Ws_nil

theorem Ren_ne_nil {v : Val} {s : Str} (h : Ren v s) : s ≠ [] := by
  obtain ⟨c, r, rfl, _⟩ := Ren_startsOk v s h
  simp

theorem RenTail_ws : ∀ (xs : List Val) (t w : Str), RenTail xs t → Ws w → RenTail xs (t ++ w)
  | [], t, w, h, hw => by simp only [RenTail] at h ⊢; exact Ws_append h hw
  | y :: ys, t, w, h, hw => by
    simp only [RenTail] at h ⊢
    obtain ⟨w1, w2, r, t', h1, h2, hr, ht, rfl⟩ := h
    exact ⟨w1, w2, r, t' ++ w, h1, h2, hr, RenTail_ws ys t' w ht hw, by simp⟩

theorem RenTail_snoc : ∀ (xs : List Val) (t w r : Str) (y : Val), RenTail xs t → Ws w → Ren y r →
    RenTail (xs ++ [y]) (t ++ ',' :: (w ++ r))
  | [], t, w, r, y, h, hw, hr => by
    simp only [RenTail] at h
    simp only [List.nil_append, RenTail]
    exact ⟨t, w, r, [], h, hw, hr, Ws_nil, by simp⟩
  | z :: zs, t, w, r, y, h, hw, hr => by
    simp only [RenTail] at h
    obtain ⟨w1, w2, r0, t0, h1, h2, hr0, ht0, rfl⟩ := h
    simp only [List.cons_append, RenTail]
    exact ⟨w1, w2, r0, t0 ++ ',' :: (w ++ r), h1, h2, hr0, RenTail_snoc zs t0 w r y ht0 hw hr, by simp⟩

theorem RenTailK_ws : ∀ (xs : List (Str × Val)) (t w : Str), RenTailK xs t → Ws w → RenTailK xs (t ++ w)
  | [], t, w, h, hw => by simp only [RenTailK] at h ⊢; exact Ws_append h hw
  | (k, v) :: ys, t, w, h, hw => by
    simp only [RenTailK] at h ⊢
    obtain ⟨wa, wb, w1, w2, r, t', ha, hb, h1, h2, hr, ht, rfl⟩ := h
    exact ⟨wa, wb, w1, w2, r, t' ++ w, ha, hb, h1, h2, hr, RenTailK_ws ys t' w ht hw, by simp⟩

theorem RenTailK_snoc : ∀ (xs : List (Str × Val)) (t wb w2 r k : Str) (v : Val), RenTailK xs t →
    Ws wb → Ws w2 → Ren v r →
    RenTailK (xs ++ [(k, v)]) (t ++ ',' :: (wb ++ (quoted k ++ (':' :: (w2 ++ r)))))
  | [], t, wb, w2, r, k, v, h, hb, h2, hr => by
    simp only [RenTailK] at h
    simp only [List.nil_append, RenTailK]
    exact ⟨t, wb, [], w2, r, [], h, hb, Ws_nil, h2, hr, Ws_nil, by simp⟩
  | (k0, v0) :: zs, t, wb, w2, r, k, v, h, hb, h2, hr => by
    simp only [RenTailK] at h
    obtain ⟨wa', wb', w1', w2', r0, t0, ha', hb', h1', h2', hr0, ht0, rfl⟩ := h
    simp only [List.cons_append, RenTailK]
    exact ⟨wa', wb', w1', w2', r0, _, ha', hb', h1', h2', hr0,
      RenTailK_snoc zs t0 wb w2 r k v ht0 hb h2 hr, by simp⟩

/-- the body accumulated by `prettyItems` when the given items have been printed: a rendering of the first, then a
rendered tail -/
def AccL : List Val → Str → Prop
  | [], acc => acc = []
  | x :: rest, acc => ∃ r t, Ren x r ∧ RenTail rest t ∧ acc = r ++ t

/-- the body accumulated by `prettyKvs` when the given entries have been printed -/
def AccK : List (Str × Val) → Str → Prop
  | [], acc => acc = []
  | (k, v) :: rest, acc => ∃ w1 w2 r t, Ws w1 ∧ Ws w2 ∧ Ren v r ∧ RenTailK rest t ∧
      acc = quoted k ++ (w1 ++ ':' :: (w2 ++ (r ++ t)))

theorem AccL_step {done : List Val} {acc : Str} (h : AccL done acc) {y : Val} {r w : Str}
    (hr : Ren y r) (hw : Ws w) :
    AccL (done ++ [y]) ((if !acc.isEmpty then acc ++ [','] ++ w else acc) ++ r) := by
  cases done with
  | nil =>
    simp only [AccL] at h; subst h
    simp only [List.nil_append, AccL]
    exact ⟨r, [], hr, Ws_nil, by simp⟩
  | cons x rest =>
    simp only [AccL] at h
    obtain ⟨r0, t0, hr0, ht0, rfl⟩ := h
    have hne : (r0 ++ t0).isEmpty = false := by
      obtain ⟨c, r1, rfl, _⟩ := Ren_startsOk x r0 hr0
      rfl
    simp only [hne, List.cons_append, AccL]
    exact ⟨r0, t0 ++ ',' :: (w ++ r), hr0, RenTail_snoc rest t0 w r y ht0 hw hr, by simp⟩

theorem AccK_step {done : List (Str × Val)} {acc : Str} (h : AccK done acc) {k : Str} {v : Val} {r w w2 : Str}
    (hr : Ren v r) (hw : Ws w) (hw2 : Ws w2) :
    AccK (done ++ [(k, v)]) ((if !acc.isEmpty then acc ++ [','] ++ w else acc) ++ (quoted k ++ [':'] ++ w2 ++ r)) := by
  cases done with
  | nil =>
    simp only [AccK] at h; subst h
    simp only [List.nil_append, AccK]
    exact ⟨[], w2, r, [], Ws_nil, hw2, hr, Ws_nil, by simp⟩
  | cons x rest =>
    obtain ⟨k0, v0⟩ := x
    simp only [AccK] at h
    obtain ⟨w1', w2', r0, t0, h1', h2', hr0, ht0, rfl⟩ := h
    have hne : (quoted k0 ++ (w1' ++ ':' :: (w2' ++ (r0 ++ t0)))).isEmpty = false := by
      simp [quoted]
    simp only [hne, List.cons_append, AccK]
    exact ⟨w1', w2', r0, _, h1', h2', hr0, RenTailK_snoc rest t0 w w2 r k v ht0 hw hw2 hr, by simp⟩

theorem closeUp_nil (o : Opts) (lvl : Nat) (l r : Char) :
    closeUp o lvl l r [] = if o.skipEmpty then [] else l :: (sp o ++ sp o ++ [r]) := by
  unfold closeUp
  cases o.skipEmpty <;> simp

theorem closeUp_ne (o : Opts) (lvl : Nat) (l r : Char) {body : Str} (h : body ≠ []) :
    ∃ w w', Ws w ∧ Ws w' ∧ closeUp o lvl l r body = l :: (w ++ (body ++ (w' ++ [r]))) := by
  unfold closeUp
  have : body.isEmpty = false := by cases body <;> simp at h ⊢
  simp only [this, Bool.not_false, Bool.true_or, if_true]
  split
  · exact ⟨_, _, Ws_nlAt o (lvl + 1), Ws_nlAt o lvl, by simp⟩
  · exact ⟨_, _, Ws_sp o, Ws_sp o, by simp⟩

def dropL (o : Opts) (xs : List Val) : List Val := if o.skipEmpty then pruneList xs else xs
def dropK (o : Opts) (kvs : List (Str × Val)) : List (Str × Val) := if o.skipEmpty then pruneKvs kvs else kvs

/-- what `pretty` returns for `t`: nothing when `skip_empty_arrays` drops it, else a rendering -/
def Out (o : Opts) (t : Val) (s : Str) : Prop :=
  (o.skipEmpty = true ∧ isEmptyContainer (prune t) = true ∧ s = []) ∨
  (¬ (o.skipEmpty = true ∧ isEmptyContainer (prune t) = true) ∧ Ren (dropEmptyIf o t) s)

theorem isEmptyContainer_list (c : Cls) (ys : List Val) : isEmptyContainer (.list c ys) = ys.isEmpty := by
  cases ys <;> rfl

theorem isEmptyContainer_dict (c : Cls) (ys : List (Str × Val)) : isEmptyContainer (.dict c ys) = ys.isEmpty := by
  cases ys <;> rfl

theorem isEmptyContainer_cases {v : Val} (h : isEmptyContainer v = true) :
    (∃ c, v = .list c []) ∨ (∃ c, v = .dict c []) := by
  cases v with
  | list c xs =>
    cases xs with
    | nil => exact .inl ⟨c, rfl⟩
    | cons _ _ => cases h
  | dict c kvs =>
    cases kvs with
    | nil => exact .inr ⟨c, rfl⟩
    | cons _ _ => cases h
  | _ => cases h

theorem isDict_prune (t : Val) : isDict (prune t) = isDict t := by
  cases t <;> rfl

theorem dropEmptyIf_list (o : Opts) (c : Cls) (xs : List Val) :
    dropEmptyIf o (.list c xs) = .list c (dropL o xs) := by
  unfold dropEmptyIf dropL; split <;> simp [prune]

theorem dropEmptyIf_dict (o : Opts) (c : Cls) (kvs : List (Str × Val)) :
    dropEmptyIf o (.dict c kvs) = .dict c (dropK o kvs) := by
  unfold dropEmptyIf dropK; split <;> simp [prune]

theorem dropped_list (o : Opts) (c : Cls) (xs : List Val) :
    (o.skipEmpty = true ∧ isEmptyContainer (prune (.list c xs)) = true) ↔ (o.skipEmpty = true ∧ dropL o xs = []) := by
  rw [prune, isEmptyContainer_list, List.isEmpty_iff]
  constructor <;> rintro ⟨hs, h⟩ <;> refine ⟨hs, ?_⟩ <;> simpa [dropL, hs] using h

theorem dropped_dict (o : Opts) (c : Cls) (kvs : List (Str × Val)) :
    (o.skipEmpty = true ∧ isEmptyContainer (prune (.dict c kvs)) = true) ↔ (o.skipEmpty = true ∧ dropK o kvs = []) := by
  rw [prune, isEmptyContainer_dict, List.isEmpty_iff]
  constructor <;> rintro ⟨hs, h⟩ <;> refine ⟨hs, ?_⟩ <;> simpa [dropK, hs] using h

theorem Out_of_AccL (o : Opts) (lvl : Nat) (c : Cls) (xs : List Val) {body : Str}
    (h : AccL (dropL o xs) body) : Out o (.list c xs) (closeUp o lvl '[' ']' body) := by
  unfold Out
  rw [dropped_list, dropEmptyIf_list]
  cases hx : dropL o xs with
  | nil =>
    rw [hx] at h
    rw [show body = [] from h, closeUp_nil]
    cases hs : o.skipEmpty
    · exact Or.inr ⟨by simp, sp o ++ sp o, Ws_append (Ws_sp o) (Ws_sp o), by simp⟩
    · exact Or.inl ⟨rfl, ((dropped_list o c xs).2 ⟨hs, hx⟩).2, rfl⟩
  | cons x rest =>
    rw [hx] at h
    obtain ⟨r, t, hr, ht, rfl⟩ := h
    obtain ⟨w, w', hw, hw', he⟩ := closeUp_ne o lvl '[' ']' (body := r ++ t)
      (by have := Ren_ne_nil hr; simp [this])
    rw [he]
    exact Or.inr ⟨by simp, w ++ (r ++ (t ++ w')), ⟨w, r, t ++ w', hw, hr, RenTail_ws rest t w' ht hw', rfl⟩, by simp⟩

theorem Out_of_AccK (o : Opts) (lvl : Nat) (c : Cls) (kvs : List (Str × Val)) {body : Str}
    (h : AccK (dropK o kvs) body) : Out o (.dict c kvs) (closeUp o lvl '{' '}' body) := by
  unfold Out
  rw [dropped_dict, dropEmptyIf_dict]
  cases hx : dropK o kvs with
  | nil =>
    rw [hx] at h
    rw [show body = [] from h, closeUp_nil]
    cases hs : o.skipEmpty
    · exact Or.inr ⟨by simp, sp o ++ sp o, Ws_append (Ws_sp o) (Ws_sp o), by simp⟩
    · exact Or.inl ⟨rfl, ((dropped_dict o c kvs).2 ⟨hs, hx⟩).2, rfl⟩
  | cons x rest =>
    obtain ⟨k, v⟩ := x
    rw [hx] at h
    obtain ⟨w1, w2, r, t, h1, h2, hr, ht, rfl⟩ := h
    obtain ⟨w, w', hw, hw', he⟩ := closeUp_ne o lvl '{' '}' (body := quoted k ++ (w1 ++ ':' :: (w2 ++ (r ++ t))))
      (by simp [quoted])
    rw [he]
    exact Or.inr ⟨by simp, w ++ (quoted k ++ (w1 ++ ':' :: (w2 ++ (r ++ (t ++ w'))))),
      ⟨w, w1, w2, r, t ++ w', hw, h1, h2, hr, RenTailK_ws rest t w' ht hw', rfl⟩, by simp⟩

theorem joinItem_eq (o : Opts) (lvl : Nat) (cond : Bool) (acc sub : Str) :
    joinItem o lvl cond acc sub
      = (if !acc.isEmpty then acc ++ [','] ++ (if cond then sp o else nlAt o (lvl + 1)) else acc) ++ sub := rfl

theorem dropL_cons_drop {o : Opts} {x : Val} (xs : List Val)
    (hs : o.skipEmpty = true) (he : isEmptyContainer (prune x) = true) :
    dropL o (x :: xs) = dropL o xs := by
  simp [dropL, hs, pruneList, he]

theorem dropL_cons_keep {o : Opts} {x : Val} (xs : List Val)
    (h : ¬ (o.skipEmpty = true ∧ isEmptyContainer (prune x) = true)) :
    dropL o (x :: xs) = dropEmptyIf o x :: dropL o xs := by
  unfold dropL dropEmptyIf
  cases hs : o.skipEmpty
  · simp
  · have : isEmptyContainer (prune x) = false := by
      cases he : isEmptyContainer (prune x)
      · rfl
      · exact absurd ⟨hs, he⟩ h
    simp [pruneList, this]

theorem dropK_cons_drop {o : Opts} {k : Str} {v : Val} (kvs : List (Str × Val))
    (hs : o.skipEmpty = true) (he : isEmptyContainer (prune v) = true) :
    dropK o ((k, v) :: kvs) = dropK o kvs := by
  simp [dropK, hs, pruneKvs, he]

theorem dropK_cons_keep {o : Opts} {k : Str} {v : Val} (kvs : List (Str × Val))
    (h : ¬ (o.skipEmpty = true ∧ isEmptyContainer (prune v) = true)) :
    dropK o ((k, v) :: kvs) = (k, dropEmptyIf o v) :: dropK o kvs := by
  unfold dropK dropEmptyIf
  cases hs : o.skipEmpty
  · simp
  · have : isEmptyContainer (prune v) = false := by
      cases he : isEmptyContainer (prune v)
      · rfl
      · exact absurd ⟨hs, he⟩ h
    simp [pruneKvs, this]

theorem dropEmptyIf_of_prune (o : Opts) {v : Val} (hp : prune v = v) : dropEmptyIf o v = v := by
  unfold dropEmptyIf
  split
  · exact hp
  · rfl

theorem Out_scalar (o : Opts) {v : Val} (hp : prune v = v) (hne : isEmptyContainer v = false)
    (hr : Ren v (scalarText v)) : Out o v (scalarText v) := by
  refine Or.inr ⟨?_, ?_⟩
  · rw [hp, hne]
    simp
  · rw [dropEmptyIf_of_prune o hp]
    exact hr

/-- the depth guard `indent_ < 111 or json_convention` (fix C11-e) is always open in a JSON export -/
theorem guard_json (lvl : Nat) : (decide (lvl < 111) || jsonConv) = true := by
  simp [jsonConv]

theorem keysOf_pruneKvs_sub : ∀ (kvs : List (Str × Val)) (k : Str), k ∈ keysOf (pruneKvs kvs) → k ∈ keysOf kvs
  | [], k, h => by simp [pruneKvs, keysOf] at h
  | (k0, v) :: kvs, k, h => by
    simp only [pruneKvs] at h
    split at h
    · simp only [keysOf, List.map_cons, List.mem_cons]
      right; exact keysOf_pruneKvs_sub kvs k h
    · simp only [keysOf, List.map_cons, List.mem_cons] at h ⊢
      rcases h with h | h
      · left; exact h
      · right; exact keysOf_pruneKvs_sub kvs k h

theorem nodupKeys_pruneKvs : ∀ (kvs : List (Str × Val)), nodupKeys kvs = true → nodupKeys (pruneKvs kvs) = true
  | [], _ => by simp [pruneKvs, nodupKeys]
  | (k, v) :: kvs, h => by
    simp only [nodupKeys, Bool.and_eq_true, Bool.not_eq_true', List.contains_eq_mem,
      decide_eq_false_iff_not] at h
    simp only [pruneKvs]
    split
    · exact nodupKeys_pruneKvs kvs h.2
    · simp only [nodupKeys, Bool.and_eq_true, Bool.not_eq_true', List.contains_eq_mem,
        decide_eq_false_iff_not]
      exact ⟨fun hk => h.1 (keysOf_pruneKvs_sub kvs k hk), nodupKeys_pruneKvs kvs h.2⟩

mutual
theorem wf_prune : ∀ (v : Val), wf v = true → wf (prune v) = true
  | .none, h | .bool _, h | .int _, h | .flt _, h | .str _, h => h
  | .list c xs, h => by
    simp only [wf] at h
    simp only [prune, wf, wfL_prune xs h]
  | .dict c kvs, h => by
    simp only [wf, Bool.and_eq_true] at h
    simp only [prune, wf, Bool.and_eq_true]
    exact ⟨wfK_prune kvs h.1, nodupKeys_pruneKvs kvs h.2⟩
theorem wfL_prune : ∀ (xs : List Val), wfL xs = true → wfL (pruneList xs) = true
  | [], _ => by simp [pruneList, wfL]
  | x :: xs, h => by
    simp only [wfL, Bool.and_eq_true] at h
    simp only [pruneList]
    split
    · exact wfL_prune xs h.2
    · simp only [wfL, Bool.and_eq_true]
      exact ⟨wf_prune x h.1, wfL_prune xs h.2⟩
theorem wfK_prune : ∀ (kvs : List (Str × Val)), wfK kvs = true → wfK (pruneKvs kvs) = true
  | [], _ => by simp [pruneKvs, wfK]
  | (k, v) :: kvs, h => by
    simp only [wfK, Bool.and_eq_true] at h
    simp only [pruneKvs]
    split
    · exact wfK_prune kvs h.2
    · simp only [wfK, Bool.and_eq_true]
      exact ⟨wf_prune v h.1, wfK_prune kvs h.2⟩
end

theorem wf_dropEmptyIf (o : Opts) (t : Val) (h : wf t = true) : wf (dropEmptyIf o t) = true := by
  unfold dropEmptyIf
  split
  · exact wf_prune t h
  · exact h

end N0.Json
