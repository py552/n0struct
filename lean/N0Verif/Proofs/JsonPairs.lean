import N0Verif.Proofs.JsonLayout
/-!
  C11, every layout, the **pair layout** (`pairs_in_one_line` with indent > 0) included: for every option
  record `pretty` produces a rendering of `dropEmptyIf o (pairOrder o t)` (`jpretty_ren`), hence
  `jsonDecode_toJson`.  `pairOrder o t` is the tree whose records (items of the lists that
  `is_list_with_pairs` accepts) list their entries in column order (`pyEq` to `t`: `Proofs/JsonPyEq.lean`).
-/
namespace N0.Json
open N0 N0.Py

/-- the entries of a record in column order (what `for key in keys_and_max_len_of_value` prints) -/
def colOrder : List (Str × Nat) → List (Str × Val) → List (Str × Val)
  | [], _ => []
  | (k, _) :: cols, kvs =>
    match Val.lookup k kvs with
    | some v => (k, v) :: colOrder cols kvs
    | Option.none => colOrder cols kvs

def orderRec (cols : List (Str × Nat)) : Val → Val
  | .dict c kvs => .dict c (colOrder cols kvs)
  | v => v

mutual
/-- every list that the pair layout accepts (under the option record `o`) gets its records
re-listed in column order; nothing else changes -/
def pairOrder (o : Opts) : Val → Val
  | .list c xs =>
    match (if o.pairsOn then pairCols xs else Option.none) with
    | some (c0 :: cols) => .list c (xs.map (orderRec (c0 :: cols)))
    | _ => .list c (pairOrderL o xs)
  | .dict c kvs => .dict c (pairOrderK o kvs)
  | v => v
def pairOrderL (o : Opts) : List Val → List Val
  | [] => []
  | x :: xs => pairOrder o x :: pairOrderL o xs
def pairOrderK (o : Opts) : List (Str × Val) → List (Str × Val)
  | [] => []
  | (k, v) :: kvs => (k, pairOrder o v) :: pairOrderK o kvs
end

def colKeys (cols : List (Str × Nat)) : List Str := cols.map (·.1)

theorem colHas_iff (cols : List (Str × Nat)) (k : Str) : colHas cols k = true ↔ k ∈ colKeys cols := by
  unfold colHas colKeys
  simp only [List.any_eq_true, beq_iff_eq, List.mem_map]

theorem colKeys_colUpdate (cols : List (Str × Nat)) (k : Str) (w : Nat) (h : k ∈ colKeys cols) :
    colKeys (colUpdate cols k w) = colKeys cols := by
  induction cols with
  | nil => simp [colKeys] at h
  | cons p cols ih =>
    obtain ⟨k', w'⟩ := p
    simp only [colUpdate]
    split
    · simp [colKeys]
    · rename_i hne
      simp only [colKeys, List.map_cons, List.mem_cons] at h ⊢
      rcases h with h | h
      · exact absurd h hne
      · have := ih (by simpa [colKeys] using h)
        simp only [colKeys] at this
        rw [this]

/-- a value the pair layout accepts: `str | int | float | bool`, NOT `None`.  "scalar" in the lemma names from here on and in JsonPyEq
means this; in `scalarText`, `Out_scalar` and `Val.isScalar` it means every value that is no container, `None` included -/
def isPairScalar (v : Val) : Bool := (presWidth v).isSome

theorem pairColsRec_inv : ∀ (kvs : List (Str × Val)) (cols cols' : List (Str × Nat)),
    pairColsRec cols kvs = some cols' →
    (∀ k ∈ colKeys cols, k ∈ colKeys cols') ∧
    (∀ p ∈ kvs, isPairScalar p.2 = true ∧ p.1 ∈ colKeys cols') ∧
    ((colKeys cols).Nodup → (colKeys cols').Nodup)
  | [], cols, cols', h => by
    simp only [pairColsRec, Option.some.injEq] at h
    subst h
    exact ⟨fun _ h => h, fun _ h => absurd h List.not_mem_nil, fun h => h⟩
  | (k, v) :: rest, cols, cols', h => by
    simp only [pairColsRec] at h
    have h1 : (∀ k' ∈ colKeys cols, k' ∈ colKeys (if colHas cols k = true then cols else cols ++ [(k, 0)])) ∧
        k ∈ colKeys (if colHas cols k = true then cols else cols ++ [(k, 0)]) ∧
        ((colKeys cols).Nodup → (colKeys (if colHas cols k = true then cols else cols ++ [(k, 0)])).Nodup) := by
      by_cases hc : colHas cols k = true
      · rw [if_pos hc]
        exact ⟨fun _ h => h, (colHas_iff _ _).1 hc, fun h => h⟩
      · rw [if_neg hc]
        have hk : k ∉ colKeys cols := fun hm => hc ((colHas_iff _ _).2 hm)
        have e : colKeys (cols ++ [(k, 0)]) = colKeys cols ++ [k] := by simp [colKeys]
        rw [e]
        refine ⟨fun _ h => List.mem_append_left _ h, by simp, fun hn => ?_⟩
        rw [List.nodup_append]
        exact ⟨hn, by simp, fun a ha b hb => by
          rw [List.mem_singleton.1 hb]; exact fun e => hk (e ▸ ha)⟩
    generalize (if colHas cols k = true then cols else cols ++ [(k, 0)]) = cols1 at h h1
    obtain ⟨hsub, hk, hnd⟩ := h1
    by_cases hlen : cols1.length > 2
    · simp [hlen] at h
    · simp only [hlen, if_false] at h
      cases hw : presWidth v with
      | none => rw [hw] at h; cases h
      | some w =>
        rw [hw] at h
        obtain ⟨ih1, ih2, ih3⟩ := pairColsRec_inv rest _ cols' h
        rw [colKeys_colUpdate _ _ _ hk] at ih1 ih3
        refine ⟨fun k' hk' => ih1 _ (hsub _ hk'), ?_, fun hn => ih3 (hnd hn)⟩
        intro p hp
        rcases List.mem_cons.1 hp with rfl | hp
        · exact ⟨by simp [isPairScalar, hw], ih1 _ hk⟩
        · exact ih2 p hp

def RecOk (cols : List (Str × Nat)) (x : Val) : Prop :=
  ∃ c kvs, x = .dict c kvs ∧ ∀ p ∈ kvs, isPairScalar p.2 = true ∧ p.1 ∈ colKeys cols

theorem RecOk_mono {cols cols' : List (Str × Nat)} (h : ∀ k ∈ colKeys cols, k ∈ colKeys cols') {x : Val}
    (hx : RecOk cols x) : RecOk cols' x := by
  obtain ⟨c, kvs, rfl, hk⟩ := hx
  exact ⟨c, kvs, rfl, fun p hp => ⟨(hk p hp).1, h _ (hk p hp).2⟩⟩

theorem pairColsFrom_inv : ∀ (xs : List Val) (cols cols' : List (Str × Nat)),
    pairColsFrom cols xs = some cols' →
    (∀ x ∈ xs, RecOk cols' x) ∧ (∀ k ∈ colKeys cols, k ∈ colKeys cols') ∧
    ((colKeys cols).Nodup → (colKeys cols').Nodup)
  | [], cols, cols', h => by
    simp only [pairColsFrom, Option.some.injEq] at h
    subst h
    exact ⟨by simp, fun _ h => h, fun h => h⟩
  | .dict c kvs :: rest, cols, cols', h => by
    simp only [pairColsFrom] at h
    split at h
    · cases h
    · cases hr : pairColsRec cols kvs with
      | none => rw [hr] at h; cases h
      | some cols1 =>
        rw [hr] at h
        simp only [] at h
        obtain ⟨hsub1, hrec1, hnd1⟩ := pairColsRec_inv kvs cols cols1 hr
        obtain ⟨ha, hb, hc⟩ := pairColsFrom_inv rest cols1 cols' h
        refine ⟨?_, fun k hk => hb _ (hsub1 _ hk), fun hn => hc (hnd1 hn)⟩
        intro x hx
        rcases List.mem_cons.1 hx with rfl | hx
        · exact ⟨c, kvs, rfl, fun p hp => ⟨(hrec1 p hp).1, hb _ (hrec1 p hp).2⟩⟩
        · exact ha x hx
  | .none :: _, _, _, h => by simp [pairColsFrom] at h
  | .bool _ :: _, _, _, h => by simp [pairColsFrom] at h
  | .int _ :: _, _, _, h => by simp [pairColsFrom] at h
  | .flt _ :: _, _, _, h => by simp [pairColsFrom] at h
  | .str _ :: _, _, _, h => by simp [pairColsFrom] at h
  | .list _ _ :: _, _, _, h => by simp [pairColsFrom] at h

theorem pairCols_inv {xs : List Val} {cols : List (Str × Nat)} (h : pairCols xs = some cols) :
    (∀ x ∈ xs, RecOk cols x) ∧ (colKeys cols).Nodup := by
  obtain ⟨ha, _, hc⟩ := pairColsFrom_inv xs [] cols h
  exact ⟨ha, hc (by simp [colKeys])⟩

theorem isPySpace_of_isWs {c : Char} (h : isWs c = true) : isPySpace c = true := by
  simp only [isWs, Bool.or_eq_true, decide_eq_true_eq] at h
  rcases h with ((h | h) | h) | h <;> subst h <;> decide

theorem hasInk_ws {w : Str} (hw : Ws w) : hasInk w = false := by
  unfold hasInk
  rw [Bool.eq_false_iff]
  intro h
  obtain ⟨c, hc, hn⟩ := List.any_eq_true.1 h
  simp [isPySpace_of_isWs (hw c hc)] at hn

theorem hasInk_append (a b : Str) : hasInk (a ++ b) = (hasInk a || hasInk b) := by
  simp [hasInk]

theorem AccK_ws {done : List (Str × Val)} {acc w : Str} (h : AccK done acc) (hne : done ≠ []) (hw : Ws w) :
    AccK done (acc ++ w) := by
  cases done with
  | nil => exact absurd rfl hne
  | cons p rest =>
    obtain ⟨k, v⟩ := p
    simp only [AccK] at h ⊢
    obtain ⟨w1, w2, r, t, h1, h2, hr, ht, rfl⟩ := h
    exact ⟨w1, w2, r, t ++ w, h1, h2, hr, RenTailK_ws rest t w ht hw, by simp⟩

theorem AccK_hasInk {done : List (Str × Val)} {acc : Str} (h : AccK done acc) :
    hasInk acc = !done.isEmpty := by
  cases done with
  | nil => simp only [AccK] at h; subst h; rfl
  | cons p rest =>
    obtain ⟨k, v⟩ := p
    simp only [AccK] at h
    obtain ⟨w1, w2, r, t, _, _, _, _, rfl⟩ := h
    -- the text starts with the quote of the first key, which is not a blank
    simp only [quoted, List.cons_append, hasInk, List.any_cons]
    rfl

/-- the text of the record so far: leading blanks, then the printed entries -/
def RecAcc (done : List (Str × Val)) (sub : Str) : Prop :=
  ∃ w0 body, Ws w0 ∧ AccK done body ∧ sub = w0 ++ body

theorem RecAcc_hasInk {done : List (Str × Val)} {sub : Str} (h : RecAcc done sub) :
    hasInk sub = !done.isEmpty := by
  obtain ⟨w0, body, hw, hb, rfl⟩ := h
  rw [hasInk_append, hasInk_ws hw, AccK_hasInk hb]
  simp

theorem RecAcc_ws {done : List (Str × Val)} {sub w : Str} (h : RecAcc done sub) (hw : Ws w) :
    RecAcc done (sub ++ w) := by
  obtain ⟨w0, body, hw0, hb, rfl⟩ := h
  cases done with
  | nil =>
    simp only [AccK] at hb; subst hb
    exact ⟨w0 ++ w, [], Ws_append hw0 hw, by simp [AccK], by simp⟩
  | cons p rest =>
    exact ⟨w0, body ++ w, hw0, AccK_ws hb (by simp) hw, by simp⟩

theorem RecAcc_push {done : List (Str × Val)} {sub : Str} (h : RecAcc done sub) (k : Str) {v : Val} {r pad : Str}
    (hr : Ren v r) (hp : Ws pad) :
    RecAcc (done ++ [(k, v)])
      ((if hasInk sub then sub ++ [','] else if !sub.isEmpty then sub ++ [' '] else sub)
        ++ [' '] ++ quoted k ++ [':', ' '] ++ (r ++ pad)) := by
  have hink := RecAcc_hasInk h
  obtain ⟨w0, body, hw0, hb, rfl⟩ := h
  have hsp : Ws [' '] := Ws_cons (by decide) Ws_nil
  cases done with
  | nil =>
    simp only [AccK] at hb; subst hb
    simp only [List.isEmpty_nil, Bool.not_true, List.append_nil] at hink
    simp only [List.append_nil, hink, Bool.false_eq_true, if_false]
    refine ⟨(if !w0.isEmpty then w0 ++ [' '] else w0) ++ [' '],
      quoted k ++ ([] ++ ':' :: ([' '] ++ (r ++ pad))), ?_, ?_, by simp⟩
    · apply Ws_append _ hsp
      split
      · exact Ws_append hw0 hsp
      · exact hw0
    · simp only [AccK]
      exact ⟨[], [' '], r, pad, Ws_nil, hsp, hr, by simpa [RenTailK] using hp, rfl⟩
  | cons p rest =>
    simp only [List.isEmpty_cons, Bool.not_false] at hink
    simp only [hink, if_true]
    have hne : body.isEmpty = false := by
      obtain ⟨k0, v0⟩ := p
      simp only [AccK] at hb
      obtain ⟨w1, w2, r0, t0, _, _, _, _, rfl⟩ := hb
      simp [quoted]
    have h1 := AccK_step (k := k) hb hr hsp hsp
    simp only [hne, Bool.not_false, if_true] at h1
    have h2 := AccK_ws h1 (by simp) hp
    exact ⟨w0, _, hw0, h2, by simp⟩

theorem pairRecord_acc (kvs : List (Str × Val))
    (hsc : ∀ p ∈ kvs, Ren p.2 (scalarText p.2)) :
    ∀ (cols : List (Str × Nat)) (done : List (Str × Val)) (sub : Str), RecAcc done sub →
      RecAcc (done ++ colOrder cols kvs) (pairRecord kvs cols sub)
  | [], done, sub, h => by simpa [colOrder, pairRecord] using h
  | (k, w) :: cols, done, sub, h => by
    simp only [colOrder, pairRecord]
    cases hl : Val.lookup k kvs with
    | none =>
      simp only []
      apply pairRecord_acc kvs hsc cols done
      have hw : Ws ((if !sub.isEmpty then [' '] else []) ++ List.replicate (1 + 1 + k.length + 1 + 2 + w) ' ') := by
        apply Ws_append _ (Ws_replicate _)
        split
        · exact Ws_cons (by decide) Ws_nil
        · exact Ws_nil
      have := RecAcc_ws h hw
      by_cases he : sub.isEmpty = true <;> simpa [he] using this
    | some v =>
      simp only []
      have hr := hsc _ (Val.lookup_mem hl)
      have := RecAcc_push h k (r := scalarText v) (pad := List.replicate (w - (scalarText v).length) ' ')
        hr (Ws_replicate _)
      have := pairRecord_acc kvs hsc cols _ _ this
      simpa [ljust, pairValText] using this

theorem Ren_of_RecAcc {done : List (Str × Val)} {sub w : Str} (c : Cls) (h : RecAcc done sub) (hw : Ws w) :
    Ren (.dict c done) ('{' :: ((sub ++ w) ++ ['}'])) := by
  obtain ⟨w0, body, hw0, hb, rfl⟩ := h
  simp only [Ren]
  refine ⟨(w0 ++ body) ++ w, ?_, rfl⟩
  cases done with
  | nil =>
    simp only [AccK] at hb; subst hb
    simp only [RenK]
    exact Ws_append (Ws_append hw0 Ws_nil) hw
  | cons p rest =>
    obtain ⟨k, v⟩ := p
    simp only [AccK] at hb
    obtain ⟨w1, w2, r, t, h1, h2, hr, ht, rfl⟩ := hb
    simp only [RenK]
    exact ⟨w0, w1, w2, r, t ++ w, hw0, h1, h2, hr, RenTailK_ws rest t w ht hw, by simp⟩

theorem pairRecord_ren (c : Cls) (cols : List (Str × Nat)) (kvs : List (Str × Val))
    (hsc : ∀ p ∈ kvs, Ren p.2 (scalarText p.2)) :
    Ren (.dict c (colOrder cols kvs)) (['{'] ++ pairRecord kvs cols [] ++ [' ', '}']) := by
  have h0 : RecAcc [] [] := ⟨[], [], Ws_nil, by simp [AccK], rfl⟩
  have h := pairRecord_acc kvs hsc cols [] [] h0
  have := Ren_of_RecAcc c h (w := [' ']) (Ws_cons (by decide) Ws_nil)
  simpa using this

theorem scalar_prune {v : Val} (h : isPairScalar v = true) : prune v = v ∧ isEmptyContainer v = false := by
  cases v <;> simp [isPairScalar, presWidth, prune, isEmptyContainer] at h ⊢

theorem scalar_erase {v : Val} (h : isPairScalar v = true) : erase v = v := by
  cases v <;> simp [isPairScalar, presWidth, erase] at h ⊢

theorem scalar_ren {v : Val} (h : isPairScalar v = true) (hw : wf v = true) : Ren v (scalarText v) := by
  cases v <;> simp [isPairScalar, presWidth, Ren, scalarText, wf] at h hw ⊢
  exact hw

theorem pruneKvs_scalars : ∀ (kvs : List (Str × Val)), (∀ p ∈ kvs, isPairScalar p.2 = true) →
    pruneKvs kvs = kvs
  | [], _ => rfl
  | (k, v) :: rest, h => by
    have hv := scalar_prune (h (k, v) (by simp))
    simp only [pruneKvs, hv.1, hv.2, Bool.false_eq_true, if_false]
    rw [pruneKvs_scalars rest (fun p hp => h p (by simp [hp]))]

theorem colOrder_nil_kvs : ∀ (cols : List (Str × Nat)), colOrder cols [] = []
  | [] => rfl
  | (k, w) :: cols => by simp [colOrder, Val.lookup, colOrder_nil_kvs cols]

theorem colOrder_mem : ∀ (cols : List (Str × Nat)) (kvs : List (Str × Val)) (p : Str × Val),
    p ∈ colOrder cols kvs → p ∈ kvs
  | [], _, _, h => by simp [colOrder] at h
  | (k, w) :: cols, kvs, p, h => by
    simp only [colOrder] at h
    cases hl : Val.lookup k kvs with
    | none => rw [hl] at h; exact colOrder_mem cols kvs p h
    | some v =>
      rw [hl] at h
      rcases List.mem_cons.1 h with h | h
      · subst h; exact Val.lookup_mem hl
      · exact colOrder_mem cols kvs p h

theorem colOrder_ne_nil : ∀ (cols : List (Str × Nat)) (kvs : List (Str × Val)) (k : Str) (v : Val),
    k ∈ colKeys cols → Val.lookup k kvs = some v → colOrder cols kvs ≠ []
  | [], _, _, _, h, _ => by simp [colKeys] at h
  | (k', w) :: cols, kvs, k, v, h, hl => by
    simp only [colOrder]
    cases hl' : Val.lookup k' kvs with
    | some v' => simp
    | none =>
      simp only []
      simp only [colKeys, List.map_cons, List.mem_cons] at h
      rcases h with h | h
      · subst h; rw [hl] at hl'; cases hl'
      · exact colOrder_ne_nil cols kvs k v h hl

theorem colOrder_isEmpty {cols : List (Str × Nat)} {kvs : List (Str × Val)}
    (h : ∀ p ∈ kvs, p.1 ∈ colKeys cols) : (colOrder cols kvs).isEmpty = kvs.isEmpty := by
  cases kvs with
  | nil => simp [colOrder_nil_kvs]
  | cons p rest =>
    obtain ⟨k, v⟩ := p
    have := colOrder_ne_nil cols ((k, v) :: rest) k v (h (k, v) (by simp)) (by simp [Val.lookup])
    cases hc : colOrder cols ((k, v) :: rest) with
    | nil => exact absurd hc this
    | cons a b => rfl

theorem record_skipEmpty {cols : List (Str × Nat)} {c : Cls} {kvs : List (Str × Val)}
    (h : ∀ p ∈ kvs, isPairScalar p.2 = true ∧ p.1 ∈ colKeys cols) (o : Opts) :
    isEmptyContainer (prune (.dict c (colOrder cols kvs))) = kvs.isEmpty ∧
    isEmptyContainer (prune (.dict c kvs)) = kvs.isEmpty ∧
    dropEmptyIf o (.dict c (colOrder cols kvs)) = .dict c (colOrder cols kvs) ∧
    dropEmptyIf o (.dict c kvs) = .dict c kvs := by
  have h1 : pruneKvs kvs = kvs := pruneKvs_scalars kvs (fun p hp => (h p hp).1)
  have h2 : pruneKvs (colOrder cols kvs) = colOrder cols kvs :=
    pruneKvs_scalars _ (fun p hp => (h p (colOrder_mem cols kvs p hp)).1)
  have h3 := colOrder_isEmpty (cols := cols) (kvs := kvs) (fun p hp => (h p hp).2)
  refine ⟨?_, ?_, ?_, ?_⟩
  · simp only [prune, h2]
    cases hc : colOrder cols kvs <;> simp [hc, isEmptyContainer] at h3 ⊢ <;> exact h3
  · simp only [prune, h1]
    cases kvs <;> simp [isEmptyContainer]
  · unfold dropEmptyIf; split <;> simp [prune, h2]
  · unfold dropEmptyIf; split <;> simp [prune, h1]

theorem pairBody_acc (o : Opts) (lvl : Nat) (cols : List (Str × Nat)) :
    ∀ (xs : List Val), (∀ x ∈ xs, RecOk cols x) → (∀ x ∈ xs, wf x = true) →
    ∀ (acc : Str) (done : List Val), AccL done acc →
      AccL (done ++ dropL o (xs.map (orderRec cols))) (pairBody o lvl cols xs acc)
  | [], _, _, acc, done, ha => by
    have : dropL o [] = [] := by unfold dropL; split <;> simp [pruneList]
    simpa [pairBody, this] using ha
  | x :: xs, hok, hwf, acc, done, ha => by
    obtain ⟨c, kvs, rfl, hk⟩ := hok x (by simp)
    have hok' : ∀ y ∈ xs, RecOk cols y := fun y hy => hok y (by simp [hy])
    have hwf' : ∀ y ∈ xs, wf y = true := fun y hy => hwf y (by simp [hy])
    obtain ⟨f1, _, f3, _⟩ := record_skipEmpty (c := c) hk o
    simp only [List.map_cons, orderRec, pairBody, recordKvs]
    by_cases hskip : (o.skipEmpty && kvs.isEmpty) = true
    · simp only [hskip, if_true]
      simp only [Bool.and_eq_true] at hskip
      rw [dropL_cons_drop _ hskip.1 (by rw [f1]; exact hskip.2)]
      exact pairBody_acc o lvl cols xs hok' hwf' acc done ha
    · simp only [hskip, Bool.false_eq_true, if_false]
      have hkeep : ¬ (o.skipEmpty = true ∧ isEmptyContainer (prune (.dict c (colOrder cols kvs))) = true) := by
        rw [f1]; simpa using hskip
      rw [dropL_cons_keep _ hkeep, f3]
      have hwx : wf (.dict c kvs) = true := hwf _ (by simp)
      simp only [wf, Bool.and_eq_true] at hwx
      have hr := pairRecord_ren c cols kvs
        (fun p hp => scalar_ren (hk p hp).1 (wfK_mem kvs hwx.1 p hp))
      have ha' := AccL_step ha hr (Ws_nlAt o (lvl + 1))
      have := pairBody_acc o lvl cols xs hok' hwf' _ _ ha'
      simpa using this

/-- the test that the list equations of `pretty` and `pairOrder` have inline: the lemmas below state them on it, so rewrite with them
BEFORE unfolding `pairOrder` / `pretty` (after `simp only [pairOrder]` they no longer fire) -/
def pairSel (o : Opts) (xs : List Val) : Option (List (Str × Nat)) :=
  if o.pairsOn then pairCols xs else Option.none

theorem pretty_list_pair {o : Opts} {xs : List Val} {c0 : Str × Nat} {cols : List (Str × Nat)}
    (h : pairSel o xs = some (c0 :: cols)) (lvl : Nat) (c : Cls) :
    pretty o lvl (.list c xs) = closeUp o lvl '[' ']' (pairBody o lvl (c0 :: cols) xs []) := by
  unfold pairSel at h
  simp only [pretty, h]

theorem pretty_list_general {o : Opts} {xs : List Val}
    (h : pairSel o xs = Option.none ∨ pairSel o xs = some []) (lvl : Nat) (c : Cls) :
    pretty o lvl (.list c xs) = closeUp o lvl '[' ']' (prettyItems o lvl xs []) := by
  unfold pairSel at h
  rcases h with h | h <;> simp only [pretty, h]

theorem pairOrder_list_pair {o : Opts} {xs : List Val} {c0 : Str × Nat} {cols : List (Str × Nat)}
    (h : pairSel o xs = some (c0 :: cols)) (c : Cls) :
    pairOrder o (.list c xs) = .list c (xs.map (orderRec (c0 :: cols))) := by
  unfold pairSel at h
  simp only [pairOrder, h]

theorem pairOrder_list_general {o : Opts} {xs : List Val}
    (h : pairSel o xs = Option.none ∨ pairSel o xs = some []) (c : Cls) :
    pairOrder o (.list c xs) = .list c (pairOrderL o xs) := by
  unfold pairSel at h
  rcases h with h | h <;> simp only [pairOrder, h]

theorem pairSel_cases (o : Opts) (xs : List Val) :
    (pairSel o xs = Option.none ∨ pairSel o xs = some []) ∨
    (∃ c0 cols, pairSel o xs = some (c0 :: cols) ∧ pairCols xs = some (c0 :: cols)) := by
  unfold pairSel
  split
  · cases h : pairCols xs with
    | none => exact Or.inl (Or.inl rfl)
    | some cols =>
      cases cols with
      | nil => exact Or.inl (Or.inr rfl)
      | cons c0 cols => exact Or.inr ⟨c0, cols, rfl, rfl⟩
  · exact Or.inl (Or.inl rfl)

mutual
/-- `pretty` returns nothing when `skip_empty_arrays` drops the item, else a JSON text of the
column-ordered tree — whatever the options, pair layout included -/
theorem jpretty_ren (o : Opts) : ∀ (t : Val), wf t = true → ∀ (lvl : Nat),
    Out o (pairOrder o t) (pretty o lvl t)
  | .none, _, _ => Out_scalar o (v := .none) rfl rfl rfl
  | .bool b, _, _ => Out_scalar o (v := .bool b) rfl rfl rfl
  | .int i, _, _ => Out_scalar o (v := .int i) rfl rfl rfl
  | .str x, _, _ => Out_scalar o (v := .str x) rfl rfl rfl
  | .flt r, hw, _ => Out_scalar o (v := .flt r) rfl rfl ⟨rfl, hw⟩
  | .list c xs, hw, lvl => by
    simp only [wf] at hw
    rcases pairSel_cases o xs with hg | ⟨c0, cols, hsel, hcols⟩
    · rw [pretty_list_general hg, pairOrder_list_general hg]
      apply Out_of_AccL
      have := jitems_ren o xs hw lvl [] [] (by simp [AccL])
      simpa using this
    · rw [pretty_list_pair hsel, pairOrder_list_pair hsel]
      apply Out_of_AccL
      have hinv := pairCols_inv hcols
      have := pairBody_acc o lvl (c0 :: cols) xs hinv.1 (wfL_mem xs hw) [] [] (by simp [AccL])
      simpa using this
  | .dict c kvs, hw, lvl => by
    simp only [pretty, pairOrder]
    apply Out_of_AccK
    simp only [wf, Bool.and_eq_true] at hw
    have := jkvs_ren o kvs hw.1 lvl (condense kvs) [] [] (by simp [AccK])
    simpa using this
theorem jitems_ren (o : Opts) : ∀ (xs : List Val), wfL xs = true →
    ∀ (lvl : Nat) (acc : Str) (done : List Val),
    AccL done acc → AccL (done ++ dropL o (pairOrderL o xs)) (prettyItems o lvl xs acc)
  | [], _, lvl, acc, done, ha => by
    have : dropL o [] = [] := by unfold dropL; split <;> simp [pruneList]
    simpa [prettyItems, pairOrderL, this] using ha
  | x :: xs, hw, lvl, acc, done, ha => by
    simp only [wfL, Bool.and_eq_true] at hw
    have hx := jpretty_ren o x hw.1 (lvl + 1)
    simp only [prettyItems, guard_json, ↓reduceIte, pairOrderL]
    rcases hx with ⟨hs, he, hnil⟩ | ⟨hne, hr⟩
    · rw [hnil, dropL_cons_drop _ hs he]
      simp only [hs, List.isEmpty_nil, Bool.and_self, ↓reduceIte]
      exact jitems_ren o xs hw.2 lvl acc done ha
    · have hsub : (pretty o (lvl + 1) x).isEmpty = false :=
        List.isEmpty_eq_false_iff.2 (Ren_ne_nil hr)
      rw [dropL_cons_keep _ hne]
      simp only [hsub, Bool.and_false, Bool.false_eq_true, ↓reduceIte]
      have ha' := AccL_step ha hr (Ws_nlAt o (lvl + 1))
      have := jitems_ren o xs hw.2 lvl _ _ ha'
      simpa [joinItem_eq] using this
theorem jkvs_ren (o : Opts) : ∀ (kvs : List (Str × Val)), wfK kvs = true →
    ∀ (lvl : Nat) (cond : Bool) (acc : Str) (done : List (Str × Val)),
    AccK done acc → AccK (done ++ dropK o (pairOrderK o kvs)) (prettyKvs o lvl cond kvs acc)
  | [], _, lvl, cond, acc, done, ha => by
    have : dropK o [] = [] := by unfold dropK; split <;> simp [pruneKvs]
    simpa [prettyKvs, pairOrderK, this] using ha
  | (k, v) :: kvs, hw, lvl, cond, acc, done, ha => by
    simp only [wfK, Bool.and_eq_true] at hw
    have hx := jpretty_ren o v hw.1 (lvl + 1)
    simp only [prettyKvs, guard_json, ↓reduceIte, pairOrderK]
    rcases hx with ⟨hs, he, hnil⟩ | ⟨hne, hr⟩
    · rw [hnil, dropK_cons_drop _ hs he]
      simp only [hs, List.isEmpty_nil, Bool.and_self, ↓reduceIte]
      exact jkvs_ren o kvs hw.2 lvl cond acc done ha
    · have hsub : (pretty o (lvl + 1) v).isEmpty = false :=
        List.isEmpty_eq_false_iff.2 (Ren_ne_nil hr)
      rw [dropK_cons_keep _ hne]
      simp only [hsub, Bool.and_false, Bool.false_eq_true, ↓reduceIte]
      have hw' : Ws (if cond then sp o else nlAt o (lvl + 1)) := by
        split
        · exact Ws_sp o
        · exact Ws_nlAt o (lvl + 1)
      have ha' := AccK_step (k := k) ha hr hw' (Ws_sp o)
      have := jkvs_ren o kvs hw.2 lvl cond _ _ ha'
      simpa [joinItem_eq] using this
end

theorem keysOf_colOrder : ∀ (cols : List (Str × Nat)) (kvs : List (Str × Val)),
    keysOf (colOrder cols kvs) = (colKeys cols).filter (fun k => (Val.lookup k kvs).isSome)
  | [], _ => rfl
  | (k, w) :: cols, kvs => by
    have ih := keysOf_colOrder cols kvs
    simp only [colOrder, colKeys, List.map_cons, List.filter_cons] at ih ⊢
    cases hl : Val.lookup k kvs with
    | none => simpa using ih
    | some v => simp only [keysOf, List.map_cons] at ih ⊢; simp [ih]

theorem nodupKeys_colOrder {cols : List (Str × Nat)} (kvs : List (Str × Val)) (h : (colKeys cols).Nodup) :
    nodupKeys (colOrder cols kvs) = true := by
  rw [nodupKeys_iff, keysOf_colOrder]
  exact List.Nodup.sublist List.filter_sublist h

theorem length_colOrder {cols : List (Str × Nat)} {kvs : List (Str × Val)} (hc : (colKeys cols).Nodup)
    (hn : nodupKeys kvs = true) (hk : ∀ p ∈ kvs, p.1 ∈ colKeys cols) :
    (colOrder cols kvs).length = kvs.length := by
  have h1 : (keysOf (colOrder cols kvs)).Nodup := (nodupKeys_iff _).1 (nodupKeys_colOrder kvs hc)
  have h2 : (keysOf kvs).Nodup := (nodupKeys_iff _).1 hn
  have hp := (List.perm_ext_iff_of_nodup h1 h2).2 (by
    intro k
    rw [keysOf_colOrder, List.mem_filter, Val.lookup_isSome_iff]
    constructor
    · exact fun h => h.2
    · intro h
      refine ⟨?_, h⟩
      simp only [keysOf, List.mem_map] at h
      obtain ⟨p, hp, rfl⟩ := h
      exact hk p hp)
  have := hp.length_eq
  simpa [keysOf] using this

theorem wfK_of_mem : ∀ (kvs : List (Str × Val)), (∀ p ∈ kvs, wf p.2 = true) → wfK kvs = true
  | [], _ => rfl
  | (k, v) :: rest, h => by
    simp only [wfK, Bool.and_eq_true]
    exact ⟨h (k, v) (by simp), wfK_of_mem rest (fun p hp => h p (by simp [hp]))⟩

theorem wf_orderRec {cols : List (Str × Nat)} (hc : (colKeys cols).Nodup) {x : Val} (hw : wf x = true) :
    wf (orderRec cols x) = true := by
  cases x with
  | dict c kvs =>
    simp only [wf, Bool.and_eq_true] at hw
    simp only [orderRec, wf, Bool.and_eq_true]
    exact ⟨wfK_of_mem _ (fun p hp => wfK_mem kvs hw.1 p (colOrder_mem cols kvs p hp)), nodupKeys_colOrder kvs hc⟩
  | _ => exact hw

theorem wfL_map_orderRec {cols : List (Str × Nat)} (hc : (colKeys cols).Nodup) :
    ∀ (xs : List Val), wfL xs = true → wfL (xs.map (orderRec cols)) = true
  | [], _ => rfl
  | x :: xs, h => by
    simp only [wfL, Bool.and_eq_true] at h
    simp only [List.map_cons, wfL, Bool.and_eq_true]
    exact ⟨wf_orderRec hc h.1, wfL_map_orderRec hc xs h.2⟩

theorem keysOf_pairOrderK (o : Opts) : ∀ (kvs : List (Str × Val)), keysOf (pairOrderK o kvs) = keysOf kvs
  | [] => rfl
  | (k, v) :: kvs => by
    have := keysOf_pairOrderK o kvs
    simp only [keysOf] at this
    simp [pairOrderK, keysOf, this]

mutual
theorem wf_pairOrder (o : Opts) : ∀ (t : Val), wf t = true → wf (pairOrder o t) = true
  | .none, h | .bool _, h | .int _, h | .flt _, h | .str _, h => h
  | .list c xs, h => by
    simp only [wf] at h
    rcases pairSel_cases o xs with hg | ⟨c0, cols, hsel, hcols⟩
    · rw [pairOrder_list_general hg]
      simp only [wf]
      exact wfL_pairOrder o xs h
    · rw [pairOrder_list_pair hsel]
      simp only [wf]
      exact wfL_map_orderRec (pairCols_inv hcols).2 xs h
  | .dict c kvs, h => by
    simp only [wf, Bool.and_eq_true] at h
    simp only [pairOrder, wf, Bool.and_eq_true]
    refine ⟨wfK_pairOrder o kvs h.1, ?_⟩
    rw [nodupKeys_congr _ _ (keysOf_pairOrderK o kvs)]
    exact h.2
theorem wfL_pairOrder (o : Opts) : ∀ (xs : List Val), wfL xs = true → wfL (pairOrderL o xs) = true
  | [], _ => rfl
  | x :: xs, h => by
    simp only [wfL, Bool.and_eq_true] at h
    simp only [pairOrderL, wfL, Bool.and_eq_true]
    exact ⟨wf_pairOrder o x h.1, wfL_pairOrder o xs h.2⟩
theorem wfK_pairOrder (o : Opts) : ∀ (kvs : List (Str × Val)), wfK kvs = true → wfK (pairOrderK o kvs) = true
  | [], _ => rfl
  | (k, v) :: kvs, h => by
    simp only [wfK, Bool.and_eq_true] at h
    simp only [pairOrderK, wfK, Bool.and_eq_true]
    exact ⟨wf_pairOrder o v h.1, wfK_pairOrder o kvs h.2⟩
end

theorem pairOrder_list_shape (o : Opts) (c : Cls) (xs : List Val) :
    ∃ ys, pairOrder o (.list c xs) = .list c ys := by
  rcases pairSel_cases o xs with hg | ⟨c0, cols, hsel, _⟩
  · exact ⟨_, pairOrder_list_general hg c⟩
  · exact ⟨_, pairOrder_list_pair hsel c⟩

theorem isDict_pairOrder (o : Opts) (t : Val) : isDict (pairOrder o t) = isDict t := by
  cases t with
  | list c xs => obtain ⟨ys, h⟩ := pairOrder_list_shape o c xs; rw [h]; rfl
  | _ => rfl

/-- **the reader on the exported text, every layout**: `json.loads(x.to_json(…))` is the
column-ordered tree with class tags forgotten and (under `skip_empty_arrays`) empty containers
dropped -/
theorem jsonDecode_toJson (o : Opts) (t : Val) (hw : wf t = true) :
    jsonDecode (toJson o t) = some (erase (dropEmptyIf o (pairOrder o t))) := by
  have hout := jpretty_ren o t hw 0
  unfold toJson
  rcases hout with ⟨hs, he, hnil⟩ | ⟨_, hr⟩
  · -- everything was dropped: `to_json` answers `{}` / `[]`, and the pruned tree is that empty container
    have hd : dropEmptyIf o (pairOrder o t) = prune (pairOrder o t) := by rw [dropEmptyIf, if_pos hs]
    rw [hnil, hd, ← isDict_pairOrder o t, ← isDict_prune]
    rcases isEmptyContainer_cases he with ⟨c, h⟩ | ⟨c, h⟩
    · rw [h]
      show jsonDecode ['[', ']'] = some (.list .plain [])
      decide
    · rw [h]
      show jsonDecode ['{', '}'] = some (.dict .plain [])
      decide
  · have hne : (pretty o 0 t).isEmpty = false :=
      List.isEmpty_eq_false_iff.2 (Ren_ne_nil hr)
    simp only [hne, Bool.false_eq_true, if_false]
    rw [jsonDecode_ren hr, dec_erase _ (wf_dropEmptyIf o _ (wf_pairOrder o t hw))]

mutual
theorem pairOrder_of_pairSel_none (o : Opts) (key : ∀ xs, pairSel o xs = Option.none) : ∀ (t : Val), pairOrder o t = t
  | .none | .bool _ | .int _ | .flt _ | .str _ => rfl
  | .list c xs => by rw [pairOrder_list_general (Or.inl (key xs)), pairOrderL_off o key xs]
  | .dict c kvs => by simp only [pairOrder, pairOrderK_off o key kvs]
theorem pairOrderL_off (o : Opts) (key : ∀ xs, pairSel o xs = Option.none) : ∀ (xs : List Val), pairOrderL o xs = xs
  | [] => rfl
  | x :: xs => by simp only [pairOrderL, pairOrder_of_pairSel_none o key x, pairOrderL_off o key xs]
theorem pairOrderK_off (o : Opts) (key : ∀ xs, pairSel o xs = Option.none) :
    ∀ (kvs : List (Str × Val)), pairOrderK o kvs = kvs
  | [] => rfl
  | (k, v) :: kvs => by simp only [pairOrderK, pairOrder_of_pairSel_none o key v, pairOrderK_off o key kvs]
end

theorem pairSel_off {o : Opts} (hp : o.pairsOn = false) (xs : List Val) : pairSel o xs = Option.none := by
  simp [pairSel, hp]

theorem pairOrder_off {o : Opts} (hp : o.pairsOn = false) (t : Val) : pairOrder o t = t :=
  pairOrder_of_pairSel_none o (pairSel_off hp) t

/-- `jitems_ren` (and next `jkvs_ren`) with the pair layout off; the proofs use the general ones -/
theorem items_ren (o : Opts) (hp : o.pairsOn = false) : ∀ (xs : List Val), wfL xs = true →
    ∀ (lvl : Nat) (acc : Str) (done : List Val),
    AccL done acc → AccL (done ++ dropL o xs) (prettyItems o lvl xs acc) := by
  intro xs hw lvl acc done ha
  have h := jitems_ren o xs hw lvl acc done ha
  rwa [pairOrderL_off o (pairSel_off hp)] at h

theorem kvs_ren (o : Opts) (hp : o.pairsOn = false) : ∀ (kvs : List (Str × Val)), wfK kvs = true →
    ∀ (lvl : Nat) (cond : Bool) (acc : Str) (done : List (Str × Val)),
    AccK done acc → AccK (done ++ dropK o kvs) (prettyKvs o lvl cond kvs acc) := by
  intro kvs hw lvl cond acc done ha
  have h := jkvs_ren o kvs hw lvl cond acc done ha
  rwa [pairOrderK_off o (pairSel_off hp)] at h

/-! a family of arbitrarily deep trees (non-vacuity of the unbounded statements) -/

def nest : Nat → Val → Val
  | 0, v => v
  | n + 1, v => .dict .n0 [(['a'], nest n v)]

theorem wf_nest (v : Val) (h : wf v = true) : ∀ n, wf (nest n v) = true
  | 0 => h
  | n + 1 => by simp [nest, wf, wfK, nodupKeys, keysOf, wf_nest v h n]

theorem depth_nest (v : Val) : ∀ n, depth (nest n v) = n + depth v
  | 0 => by simp [nest]
  | n + 1 => by simp only [nest, depth, depthK, depth_nest v n]; omega

theorem pairOrder_nest (o : Opts) : ∀ n, pairOrder o (nest n (.int 1)) = nest n (.int 1)
  | 0 => rfl
  | n + 1 => by simp only [nest, pairOrder, pairOrderK, pairOrder_nest o n]

theorem pretty_dict_one {o : Opts} (hz : o.isz = 0) (hs : o.skipEmpty = false) (lvl : Nat) (c : Cls)
    (k : Str) (v : Val) :
    pretty o lvl (.dict c [(k, v)]) = '{' :: (quoted k ++ ':' :: pretty o (lvl + 1) v) ++ ['}'] := by
  simp only [pretty, prettyKvs, guard_json, joinItem, closeUp, sp, nlAt, hz, hs]
  simp

theorem pretty_nest_compress : ∀ (n lvl : Nat), pretty { compress := true } lvl (nest n (.str [])) =
    (List.replicate n "{\"a\":".toList).flatten ++ ['"', '"'] ++ List.replicate n '}'
  | 0, _ => rfl
  | n + 1, lvl => by
    rw [nest, pretty_dict_one rfl rfl, pretty_nest_compress n (lvl + 1), List.replicate_succ,
      List.replicate_succ']
    simp [quoted, esc, escChar]

/-- the compressed text of `n` nested dicts, whatever `n`: no level is cut short -/
theorem toJson_nest_compress (n : Nat) : toJson { compress := true } (nest n (.str [])) =
    (List.replicate n "{\"a\":".toList).flatten ++ ['"', '"'] ++ List.replicate n '}' := by
  unfold toJson
  rw [pretty_nest_compress]
  simp

end N0.Json
