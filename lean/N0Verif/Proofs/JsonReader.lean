import N0Verif.Proofs.JsonScan
import N0Verif.Py.AssocLemmas
import N0Verif.Py.ListLemmas
/-!
  C11, the reader: `jsonDecode` decodes every *rendering* of a value (`Ren v s`: the JSON tokens of `v`
  with arbitrary white space between them) to `dec v`, which is `erase v` for a JSON-representable
  tree (`wf`: distinct keys in every dict, float leaves carry JSON float lexemes).
-/
namespace N0.Json
open N0 N0.Py

def keysOf (kvs : List (Str × Val)) : List Str := kvs.map (·.1)

/-- true of every Python `dict` -/
def nodupKeys : List (Str × Val) → Bool
  | [] => true
  | (k, _) :: kvs => !(keysOf kvs).contains k && nodupKeys kvs

theorem nodupKeys_iff : ∀ (kvs : List (Str × Val)), nodupKeys kvs = true ↔ (keysOf kvs).Nodup
  | [] => by simp [nodupKeys, keysOf]
  | (k, v) :: rest => by
    have ih := nodupKeys_iff rest
    simp only [nodupKeys, Bool.and_eq_true, Bool.not_eq_true', List.contains_eq_mem,
      decide_eq_false_iff_not, ih]
    simp [keysOf, List.nodup_cons]

mutual
/-- JSON-representable trees: keys unique in every dict, float lexemes are JSON float lexemes.  On a tree with variables `decide`
fails; `simp [wf, wfK, nodupKeys, keysOf]` does it -/
def wf : Val → Bool
  | .list _ xs => wfL xs
  | .dict _ kvs => wfK kvs && nodupKeys kvs
  | .flt r => fltOk r
  | _ => true
def wfL : List Val → Bool
  | [] => true
  | x :: xs => wf x && wfL xs
def wfK : List (Str × Val) → Bool
  | [] => true
  | (_, v) :: kvs => wf v && wfK kvs
end

theorem wfK_mem (kvs : List (Str × Val)) (h : wfK kvs = true) : ∀ p ∈ kvs, wf p.2 = true :=
  fun _ hp => allRec_mem (f := fun p => wf p.2) (fun ⟨_, _⟩ _ => rfl) h hp

theorem wfL_mem (xs : List Val) (h : wfL xs = true) : ∀ x ∈ xs, wf x = true :=
  fun _ hp => allRec_mem (fun _ _ => rfl) h hp

mutual
/-- no proof about the reader uses it (its fuel is the length of the text): `depth_nest` (JsonPairs) and `C11_depth_any` speak of it -/
def depth : Val → Nat
  | .list _ xs => 1 + depthL xs
  | .dict _ kvs => 1 + depthK kvs
  | _ => 0
def depthL : List Val → Nat
  | [] => 0
  | x :: xs => max (depth x) (depthL xs)
def depthK : List (Str × Val) → Nat
  | [] => 0
  | (_, v) :: kvs => max (depth v) (depthK kvs)
end

mutual
/-- `Ren v s`: `s` is the JSON token sequence of `v` (class tags ignored) with arbitrary white
space after `[ { , :` and before `] } , :` -/
def Ren : Val → Str → Prop
  | .list _ xs, s => ∃ body, RenL xs body ∧ s = '[' :: (body ++ [']'])
  | .dict _ kvs, s => ∃ body, RenK kvs body ∧ s = '{' :: (body ++ ['}'])
  | .flt r, s => s = r ∧ fltOk r = true
  | .none, s => s = scalarText .none
  | .bool b, s => s = scalarText (.bool b)
  | .int i, s => s = scalarText (.int i)
  | .str x, s => s = scalarText (.str x)
def RenL : List Val → Str → Prop
  | [], b => Ws b
  | x :: xs, b => ∃ w r t, Ws w ∧ Ren x r ∧ RenTail xs t ∧ b = w ++ (r ++ t)
def RenTail : List Val → Str → Prop
  | [], t => Ws t
  | y :: ys, t => ∃ w1 w2 r t', Ws w1 ∧ Ws w2 ∧ Ren y r ∧ RenTail ys t' ∧ t = w1 ++ ',' :: (w2 ++ (r ++ t'))
def RenK : List (Str × Val) → Str → Prop
  | [], b => Ws b
  | (k, v) :: kvs, b => ∃ w w1 w2 r t, Ws w ∧ Ws w1 ∧ Ws w2 ∧ Ren v r ∧ RenTailK kvs t ∧
      b = w ++ (quoted k ++ (w1 ++ ':' :: (w2 ++ (r ++ t))))
def RenTailK : List (Str × Val) → Str → Prop
  | [], t => Ws t
  | (k, v) :: kvs, t => ∃ wa wb w1 w2 r t', Ws wa ∧ Ws wb ∧ Ws w1 ∧ Ws w2 ∧ Ren v r ∧ RenTailK kvs t' ∧
      t = wa ++ ',' :: (wb ++ (quoted k ++ (w1 ++ ':' :: (w2 ++ (r ++ t')))))
end

theorem Ren_startsOk : ∀ (v : Val) (s : Str), Ren v s → StartsOk s
  | .list _ xs, s, h => by
    simp only [Ren] at h; obtain ⟨b, _, rfl⟩ := h; exact ⟨'[', _, rfl, by decide⟩
  | .dict _ kvs, s, h => by
    simp only [Ren] at h; obtain ⟨b, _, rfl⟩ := h; exact ⟨'{', _, rfl, by decide⟩
  | .flt r, s, h => by
    simp only [Ren] at h
    obtain ⟨rfl, h⟩ := h
    unfold fltOk at h
    exact nscan_startsOk (x := (s.length, true)) (by simpa using h)
  | .none, s, h => ⟨'n', _, h.trans String.toList_ofList, by decide⟩
  | .bool true, s, h => ⟨'t', _, h.trans String.toList_ofList, by decide⟩
  | .bool false, s, h => ⟨'f', _, h.trans String.toList_ofList, by decide⟩
  | .int i, s, h => by
    simp only [Ren] at h; subst h
    exact nscan_startsOk (intRepr_scan i)
  | .str x, s, h => by simp only [Ren] at h; subst h; exact ⟨'"', _, rfl, by decide⟩

theorem delim_tail {xs : List Val} {t : Str} (h : RenTail xs t) (c : Char) (hc : delim [c] = true)
    (rest : Str) : delim (t ++ c :: rest) = true := by
  cases xs with
  | nil => simp only [RenTail] at h; exact delim_ws_then h hc rest
  | cons y ys =>
    simp only [RenTail] at h
    obtain ⟨w1, w2, r, t', h1, _, _, _, rfl⟩ := h
    rw [List.append_assoc]
    exact delim_ws_then h1 (by decide) _

theorem delim_tailK {xs : List (Str × Val)} {t : Str} (h : RenTailK xs t) (c : Char) (hc : delim [c] = true)
    (rest : Str) : delim (t ++ c :: rest) = true := by
  cases xs with
  | nil => simp only [RenTailK] at h; exact delim_ws_then h hc rest
  | cons y ys =>
    obtain ⟨k, v⟩ := y
    simp only [RenTailK] at h
    obtain ⟨wa, wb, w1, w2, r, t', h1, _, _, _, _, _, rfl⟩ := h
    rw [List.append_assoc]
    exact delim_ws_then h1 (by decide) _

/-- `acc.update(pairs)` on an insertion-ordered dict, so `dict(pairs)` is `insAll []`; the model of the hook writes the same fold as
`dictOfPairs` (`insAll_eq_foldl`) -/
def insAll (acc : List (Str × Val)) : List (Str × Val) → List (Str × Val)
  | [] => acc
  | (k, v) :: rest => insAll (dictInsert acc k v) rest

theorem parseValue_of_nscan {s : Str} {x : Nat × Bool} (h : nscan .start s 0 Option.none = some x)
    (f : Nat) : parseValue (f + 1) s = parseNumber s := by
  unfold parseValue
  split <;> first | rfl | (simp [nscan, nstep, naccept, isDig] at h)

theorem parseValue_scalar {f : Nat} {s : Str} (h1 : ∀ r, s ≠ '{' :: r) (h2 : ∀ r, s ≠ '[' :: r) {v : Val} {r : Str} :
    parseValue (f + 1) s = .ok (v, r) → v.isScalar = true := by
  unfold parseValue
  split
  · simp only [bind, Except.bind]
    split <;> intro h <;> cases h
    rfl
  · exact absurd rfl (h1 _)
  · exact absurd rfl (h2 _)
  iterate 6 (intro h; cases h; rfl)
  · unfold parseNumber
    split
    · intro h; cases h
    · split <;> intro h <;> cases h <;> rfl

theorem insAll_nil_right (acc : List (Str × Val)) : insAll acc [] = acc := rfl

theorem parseValue_bracket (f : Nat) (r : Str) :
    parseValue (f + 1) ('[' :: r) = match skipWs r with
      | ']' :: r' => pure (.list .plain [], r')
      | r1 => parseItems f r1 [] := rfl

theorem parseValue_brace (f : Nat) (r : Str) :
    parseValue (f + 1) ('{' :: r) = match skipWs r with
      | '}' :: r' => pure (.dict .plain [], r')
      | r1 => parseMembers f r1 [] := rfl

theorem parseValue_quote (f : Nat) (r : Str) :
    parseValue (f + 1) ('"' :: r) = (do let (x, r') ← scanString (r.length + 1) r []; pure (.str x, r')) := rfl

theorem parseValue_bracket_close {w : Str} (hw : Ws w) (f : Nat) (rest : Str) :
    parseValue (f + 1) ('[' :: (w ++ ']' :: rest)) = .ok (.list .plain [], rest) := by
  rw [parseValue_bracket, skipWs_ws_then hw (by decide)]
  rfl

theorem parseValue_bracket_items {w s : Str} (hw : Ws w) (hs : StartsOk s) (f : Nat) :
    parseValue (f + 1) ('[' :: (w ++ s)) = parseItems f s [] := by
  rw [parseValue_bracket, skipWs_ws_startsOk hw hs]
  obtain ⟨c, r, rfl, hc⟩ := hs
  split
  · next heq => cases heq; cases hc
  · rfl

theorem parseValue_brace_close {w : Str} (hw : Ws w) (f : Nat) (rest : Str) :
    parseValue (f + 1) ('{' :: (w ++ '}' :: rest)) = .ok (.dict .plain [], rest) := by
  rw [parseValue_brace, skipWs_ws_then hw (by decide)]
  rfl

theorem parseValue_brace_members {w s : Str} (hw : Ws w) (hs : StartsOk s) (f : Nat) :
    parseValue (f + 1) ('{' :: (w ++ s)) = parseMembers f s [] := by
  rw [parseValue_brace, skipWs_ws_startsOk hw hs]
  obtain ⟨c, r, rfl, hc⟩ := hs
  split
  · next heq => cases heq; cases hc
  · rfl

theorem parseItems_close {f : Nat} {s w rest : Str} {v : Val}
    (hv : parseValue f s = .ok (v, w ++ ']' :: rest)) (hw : Ws w) (acc : List Val) :
    parseItems (f + 1) s acc = .ok (.list .plain (acc ++ [v]), rest) := by
  simp only [parseItems, hv, bind, Except.bind]
  rw [skipWs_ws_then hw (by decide)]
  rfl

theorem parseItems_more {f : Nat} {s w1 w2 s' : Str} {v : Val}
    (hv : parseValue f s = .ok (v, w1 ++ ',' :: (w2 ++ s'))) (hw1 : Ws w1) (hw2 : Ws w2)
    (hs : StartsOk s') (acc : List Val) :
    parseItems (f + 1) s acc = parseItems f s' (acc ++ [v]) := by
  simp only [parseItems, hv, bind, Except.bind]
  rw [skipWs_ws_then hw1 (by decide)]
  simp only []
  rw [skipWs_ws_startsOk hw2 hs]

theorem parseMembers_key (f : Nat) (k : Str) {w1 w2 s : Str} (hw1 : Ws w1) (hw2 : Ws w2)
    (hs : StartsOk s) (acc : List (Str × Val)) :
    parseMembers (f + 1) (quoted k ++ (w1 ++ ':' :: (w2 ++ s))) acc =
      (do
        let (v, r3) ← parseValue f s
        match skipWs r3 with
        | '}' :: r4 => pure (.dict .plain (dictInsert acc k v), r4)
        | ',' :: r4 => parseMembers f (skipWs r4) (dictInsert acc k v)
        | _ => bad) := by
  unfold quoted
  simp only [List.cons_append, parseMembers, List.append_assoc]
  rw [scan_quoted]
  simp only [bind, Except.bind, List.nil_append]
  rw [skipWs_ws_then hw1 (by decide)]
  simp only []
  rw [skipWs_ws_startsOk hw2 hs]
  rfl

theorem parseMembers_close {f : Nat} {s w rest : Str} {v : Val}
    (hv : parseValue f s = .ok (v, w ++ '}' :: rest)) (hw : Ws w) (k : Str) {w1 w2 : Str}
    (hw1 : Ws w1) (hw2 : Ws w2) (hs : StartsOk s) (acc : List (Str × Val)) :
    parseMembers (f + 1) (quoted k ++ (w1 ++ ':' :: (w2 ++ s))) acc
      = .ok (.dict .plain (dictInsert acc k v), rest) := by
  rw [parseMembers_key f k hw1 hw2 hs, hv]
  simp only [bind, Except.bind]
  rw [skipWs_ws_then hw (by decide)]
  rfl

theorem parseMembers_more {f : Nat} {s wa wb s' : Str} {v : Val}
    (hv : parseValue f s = .ok (v, wa ++ ',' :: (wb ++ s'))) (hwa : Ws wa) (hwb : Ws wb)
    (hs' : StartsOk s') (k : Str) {w1 w2 : Str} (hw1 : Ws w1) (hw2 : Ws w2) (hs : StartsOk s)
    (acc : List (Str × Val)) :
    parseMembers (f + 1) (quoted k ++ (w1 ++ ':' :: (w2 ++ s))) acc
      = parseMembers f s' (dictInsert acc k v) := by
  rw [parseMembers_key f k hw1 hw2 hs, hv]
  simp only [bind, Except.bind]
  rw [skipWs_ws_then hwa (by decide)]
  simp only []
  rw [skipWs_ws_startsOk hwb hs']

theorem StartsOk_quoted (k rest : Str) : StartsOk (quoted k ++ rest) :=
  ⟨'"', _, rfl, by decide⟩

/-! `dec v`, what the reader builds from a rendering of `v`: class tags dropped, every object passed through `dict(pairs)` (the
identity when the keys are distinct: `dec_erase`) -/
mutual
def dec : Val → Val
  | .list _ xs => .list .plain (decL xs)
  | .dict _ kvs => .dict .plain (insAll [] (decK kvs))
  | v => v
def decL : List Val → List Val
  | [] => []
  | x :: xs => dec x :: decL xs
def decK : List (Str × Val) → List (Str × Val)
  | [] => []
  | (k, v) :: kvs => (k, dec v) :: decK kvs
end

/-! fuel: the walk below keeps more fuel than characters left to read -/

theorem fuel_bracket {c d : Char} {body : Str} {f : Nat} (h : (c :: (body ++ [d])).length ≤ f + 1) :
    body.length + 1 ≤ f := by
  simp only [List.length_cons, List.length_append, List.length_nil] at h
  omega

theorem fuel_first_item {w s : Str} {f : Nat} (h : (w ++ s).length + 1 ≤ f) : s.length + 1 ≤ f := by
  simp only [List.length_append] at h
  omega

theorem fuel_first_member {w q w1 w2 s : Str} {f : Nat}
    (h : (w ++ (q ++ (w1 ++ ':' :: (w2 ++ s)))).length + 1 ≤ f) : s.length + 1 ≤ f := by
  simp only [List.length_append, List.length_cons] at h
  omega

theorem fuel_last {r t : Str} {f : Nat} (h : (r ++ t).length + 1 ≤ f + 1) : r.length ≤ f := by
  simp only [List.length_append] at h
  omega

theorem fuel_next_item {r w1 w2 s : Str} {f : Nat}
    (h : (r ++ (w1 ++ ',' :: (w2 ++ s))).length + 1 ≤ f + 1) : r.length ≤ f ∧ s.length + 1 ≤ f := by
  simp only [List.length_append, List.length_cons] at h
  omega

theorem fuel_next_member {r wa wb q w1 w2 s : Str} {f : Nat}
    (h : (r ++ (wa ++ ',' :: (wb ++ (q ++ (w1 ++ ':' :: (w2 ++ s)))))).length + 1 ≤ f + 1) :
    r.length ≤ f ∧ s.length + 1 ≤ f :=
  ⟨(fuel_next_item h).1, fuel_first_member (w := []) (fuel_next_item h).2⟩

/-! The loop lemmas `pt_ren`, `ptk_ren` stand before an item `r` that the tail `t` follows, `t` a rendering of the REMAINING items.
The item in front is not among them: the recursion cannot reach it, so they take what `pv_ren` says of it as a hypothesis, for every
`rest'` and `f'`, because the loop reads the value before it knows which tail follows (each case applies it to another rest). -/
mutual
theorem pv_ren : ∀ (v : Val) (s : Str), Ren v s → ∀ (f : Nat) (rest : Str), s.length ≤ f →
    delim rest = true → parseValue f (s ++ rest) = .ok (dec v, rest)
  | v, s, h, f, rest, hf, hd => by
    -- a rendering is not empty, so there is fuel for the first step
    obtain ⟨f, rfl⟩ : ∃ g, f = g + 1 := by
      obtain ⟨c, r, rfl, _⟩ := Ren_startsOk v s h
      exact ⟨f - 1, by simp only [List.length_cons] at hf; omega⟩
    match v, h with
    | .none, h =>
      obtain rfl : s = ['n', 'u', 'l', 'l'] := h.trans String.toList_ofList
      rfl
    | .bool true, h =>
      obtain rfl : s = ['t', 'r', 'u', 'e'] := h.trans String.toList_ofList
      rfl
    | .bool false, h =>
      obtain rfl : s = ['f', 'a', 'l', 's', 'e'] := h.trans String.toList_ofList
      rfl
    | .int i, h =>
      obtain rfl : s = intRepr i := h
      rw [parseValue_of_nscan (x := ((intRepr i).length, false))
        (by rw [nscan_delim _ _ _ _ _ hd]; exact intRepr_scan i), parseNumber_int i hd]
      rfl
    | .flt r, h =>
      obtain ⟨rfl, h⟩ : s = r ∧ _ := h
      have hs : nscan .start s 0 Option.none = some (s.length, true) := by
        unfold fltOk at h; simpa using h
      rw [parseValue_of_nscan (x := (s.length, true)) (by rw [nscan_delim _ _ _ _ _ hd]; exact hs),
        parseNumber_flt h hd]
      rfl
    | .str x, h =>
      obtain rfl : s = quoted x := h
      simp only [quoted, List.cons_append, List.append_assoc, parseValue_quote]
      rw [scan_quoted]
      rfl
    | .list c xs, h =>
      obtain ⟨body, hb, rfl⟩ : ∃ body, RenL xs body ∧ s = '[' :: (body ++ [']']) := h
      have := pl_ren xs body hb f rest (fuel_bracket hf)
      simpa [dec] using this
    | .dict c kvs, h =>
      obtain ⟨body, hb, rfl⟩ : ∃ body, RenK kvs body ∧ s = '{' :: (body ++ ['}']) := h
      have := pk_ren kvs body hb f rest (fuel_bracket hf)
      simpa [dec] using this
theorem pl_ren : ∀ (xs : List Val) (body : Str), RenL xs body → ∀ (f : Nat) (rest : Str),
    body.length + 1 ≤ f →
    parseValue (f + 1) ('[' :: (body ++ (']' :: rest))) = .ok (.list .plain (decL xs), rest)
  | [], body, h => by
    intro f rest _
    simp only [RenL] at h
    exact parseValue_bracket_close h f rest
  | x :: xs, body, h => by
    intro f rest hf
    simp only [RenL] at h
    obtain ⟨w, r, t, hw, hr, ht, rfl⟩ := h
    simp only [List.append_assoc]
    rw [parseValue_bracket_items hw ((Ren_startsOk x r hr).append _)]
    exact pt_ren xs t ht r (dec x) (pv_ren x r hr) f [] rest (fuel_first_item hf)
theorem pt_ren : ∀ (ys : List Val) (t : Str), RenTail ys t → ∀ (r : Str) (ex : Val),
    (∀ f' rest', r.length ≤ f' → delim rest' = true → parseValue f' (r ++ rest') = .ok (ex, rest')) →
    ∀ (f : Nat) (acc : List Val) (rest : Str), (r ++ t).length + 1 ≤ f →
    parseItems f (r ++ (t ++ (']' :: rest))) acc = .ok (.list .plain (acc ++ ex :: decL ys), rest)
  | [], t, h => by
    intro r ex hx f acc rest hf
    simp only [RenTail] at h
    cases f with
    | zero => cases hf
    | succ f =>
      exact parseItems_close (hx f _ (fuel_last hf) (delim_ws_then h (by decide) rest)) h acc
  | y :: ys, t, h => by
    intro r ex hx f acc rest hf
    simp only [RenTail] at h
    obtain ⟨w1, w2, r', t', hw1, hw2, hr', ht', rfl⟩ := h
    cases f with
    | zero => cases hf
    | succ f =>
      obtain ⟨hf1, hf2⟩ := fuel_next_item hf
      simp only [List.cons_append, List.append_assoc]
      rw [parseItems_more (hx f _ hf1 (delim_ws_then hw1 (by decide) _)) hw1 hw2
          ((Ren_startsOk y r' hr').append _),
        pt_ren ys t' ht' r' (dec y) (pv_ren y r' hr') f (acc ++ [ex]) rest hf2]
      simp [decL]
theorem pk_ren : ∀ (kvs : List (Str × Val)) (body : Str), RenK kvs body → ∀ (f : Nat) (rest : Str),
    body.length + 1 ≤ f →
    parseValue (f + 1) ('{' :: (body ++ ('}' :: rest))) = .ok (.dict .plain (insAll [] (decK kvs)), rest)
  | [], body, h => by
    intro f rest _
    simp only [RenK] at h
    exact parseValue_brace_close h f rest
  | (k, v) :: kvs, body, h => by
    intro f rest hf
    simp only [RenK] at h
    obtain ⟨w, w1, w2, r, t, hw, hw1, hw2, hr, ht, rfl⟩ := h
    simp only [List.append_assoc, List.cons_append]
    rw [parseValue_brace_members hw (StartsOk_quoted k _)]
    exact ptk_ren kvs t ht k w1 w2 r (dec v) hw1 hw2 (Ren_startsOk v r hr) (pv_ren v r hr) f [] rest
      (fuel_first_member hf)
theorem ptk_ren : ∀ (kvs : List (Str × Val)) (t : Str), RenTailK kvs t →
    ∀ (k w1 w2 r : Str) (ev : Val), Ws w1 → Ws w2 → StartsOk r →
    (∀ f' rest', r.length ≤ f' → delim rest' = true → parseValue f' (r ++ rest') = .ok (ev, rest')) →
    ∀ (f : Nat) (acc : List (Str × Val)) (rest : Str), (r ++ t).length + 1 ≤ f →
    parseMembers f (quoted k ++ (w1 ++ ':' :: (w2 ++ (r ++ (t ++ ('}' :: rest)))))) acc
      = .ok (.dict .plain (insAll (dictInsert acc k ev) (decK kvs)), rest)
  | [], t, h => by
    intro k w1 w2 r ev hw1 hw2 hso hv f acc rest hf
    simp only [RenTailK] at h
    cases f with
    | zero => cases hf
    | succ f =>
      exact parseMembers_close (hv f _ (fuel_last hf) (delim_ws_then h (by decide) rest)) h k hw1 hw2
        (hso.append _) acc
  | (k', v') :: kvs, t, h => by
    intro k w1 w2 r ev hw1 hw2 hso hv f acc rest hf
    simp only [RenTailK] at h
    obtain ⟨wa, wb, w1', w2', r', t', hwa, hwb, hw1', hw2', hr', ht', rfl⟩ := h
    cases f with
    | zero => cases hf
    | succ f =>
      obtain ⟨hf1, hf2⟩ := fuel_next_member hf
      simp only [List.cons_append, List.append_assoc]
      rw [parseMembers_more (hv f _ hf1 (delim_ws_then hwa (by decide) _)) hwa hwb
          (StartsOk_quoted k' _) k hw1 hw2 (hso.append _),
        ptk_ren kvs t' ht' k' w1' w2' r' (dec v') hw1' hw2' (Ren_startsOk v' r' hr') (pv_ren v' r' hr') f
          (dictInsert acc k ev) rest hf2]
      rfl
end

/-- `dictInsert` tests `k = k'` where `assocSet` tests `k' = k` -/
theorem dictInsert_eq_assocSet (r : List (Str × Val)) (k : Str) (v : Val) : dictInsert r k v = assocSet k v r := by
  induction r with
  | nil => rfl
  | cons kv r ih =>
    rw [dictInsert, assocSet, ih]
    by_cases h : k = kv.1
    · rw [if_pos h, if_pos h.symm]
    · rw [if_neg h, if_neg (Ne.symm h)]

theorem insAll_eq_foldl : ∀ (kvs acc : List (Str × Val)),
    insAll acc kvs = kvs.foldl (fun d kv => assocSet kv.1 kv.2 d) acc
  | [], _ => rfl
  | (k, v) :: kvs, acc => by rw [insAll, dictInsert_eq_assocSet, insAll_eq_foldl kvs]; rfl

theorem insAll_append (kvs acc : List (Str × Val)) (h : ∀ k ∈ keysOf kvs, k ∉ keysOf acc)
    (hn : nodupKeys kvs = true) : insAll acc kvs = acc ++ kvs := by
  rw [insAll_eq_foldl]
  exact foldl_assocSet_nodup acc kvs ((nodupKeys_iff kvs).1 hn) h

theorem keysOf_decK : ∀ (kvs : List (Str × Val)), keysOf (decK kvs) = keysOf kvs
  | [] => rfl
  | (k, v) :: kvs => by
    have := keysOf_decK kvs
    simp only [keysOf] at this
    simp [decK, keysOf, this]

theorem keysOf_eraseKvs : ∀ (kvs : List (Str × Val)), keysOf (eraseKvs kvs) = keysOf kvs
  | [] => rfl
  | (k, v) :: kvs => by
    have := keysOf_eraseKvs kvs
    simp only [keysOf] at this
    simp [eraseKvs, keysOf, this]

theorem nodupKeys_congr : ∀ (a b : List (Str × Val)), keysOf a = keysOf b → nodupKeys a = nodupKeys b
  | [], [], _ => rfl
  | [], _ :: _, h => by simp [keysOf] at h
  | _ :: _, [], h => by simp [keysOf] at h
  | (k, v) :: a, (k', v') :: b, h => by
    simp only [keysOf, List.map_cons, List.cons.injEq] at h
    obtain ⟨rfl, h⟩ := h
    have h' : keysOf a = keysOf b := h
    simp only [nodupKeys, h', nodupKeys_congr a b h']

mutual
theorem dec_erase : ∀ (v : Val), wf v = true → dec v = erase v
  | .none, _ | .bool _, _ | .int _, _ | .flt _, _ | .str _, _ => rfl
  | .list c xs, h => by
    simp only [wf] at h
    simp only [dec, erase, decL_erase xs h]
  | .dict c kvs, h => by
    simp only [wf, Bool.and_eq_true] at h
    have hk := decK_erase kvs h.1
    have hn : nodupKeys (decK kvs) = true := by
      rw [nodupKeys_congr _ _ (keysOf_decK kvs)]; exact h.2
    simp only [dec, erase]
    rw [insAll_append _ [] (by intro k _; simp [keysOf]) hn, hk]
    rfl
theorem decL_erase : ∀ (xs : List Val), wfL xs = true → decL xs = eraseList xs
  | [], _ => rfl
  | x :: xs, h => by
    simp only [wfL, Bool.and_eq_true] at h
    simp only [decL, eraseList, dec_erase x h.1, decL_erase xs h.2]
theorem decK_erase : ∀ (kvs : List (Str × Val)), wfK kvs = true → decK kvs = eraseKvs kvs
  | [], _ => rfl
  | (k, v) :: kvs, h => by
    simp only [wfK, Bool.and_eq_true] at h
    simp only [decK, eraseKvs, dec_erase v h.1, decK_erase kvs h.2]
end

theorem jsonDecode_ren {v : Val} {s : Str} (h : Ren v s) : jsonDecode s = some (dec v) := by
  unfold jsonDecode jsonDecodeE
  have := pv_ren v s h (2 * s.length + 2) [] (by omega) rfl
  simp only [List.append_nil] at this
  rw [skipWs_startsOk (Ren_startsOk v s h), this]
  rfl

end N0.Json
