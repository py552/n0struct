import N0Verif.Model.Json
import N0Verif.Proofs.Digits
/-!
  C11, the tokens of the reader: white space and what may follow a value, strings (`scanString` reads
  back what `esc` writes), numbers (`nscan`/`parseNumber` read back `str(int)` and the float lexemes).
-/
namespace N0.Json
open N0 N0.Py

/-- JSON white space only (`json.loads` skips blank, tab, newline, carriage return) -/
def Ws (w : Str) : Prop := ∀ c ∈ w, isWs c = true

instance (w : Str) : Decidable (Ws w) := by unfold Ws; exact inferInstance

theorem Ws_nil : Ws [] := by intro c h; cases h

theorem Ws_append {a b : Str} (ha : Ws a) (hb : Ws b) : Ws (a ++ b) := by
  intro c h
  rcases List.mem_append.1 h with h | h
  · exact ha c h
  · exact hb c h

theorem Ws_cons {c : Char} {w : Str} (hc : isWs c = true) (hw : Ws w) : Ws (c :: w) := by
  intro d h
  rcases List.mem_cons.1 h with h | h
  · subst h; exact hc
  · exact hw d h

theorem Ws_replicate (n : Nat) : Ws (List.replicate n ' ') := by
  intro c h
  have := List.eq_of_mem_replicate h
  subst this; rfl

def delim : Str → Bool
  | [] => true
  | c :: _ => isWs c || c == ',' || c == ']' || c == '}'

/-- what the reader tests of the character after `[`, `{`, `,` or `:` before it reads a value there: the white-space skip stops at
it and it closes no bracket.  NOT "can begin a value": `,` and `:` pass; that a rendering begins so is `Ren_startsOk` -/
def startOk (c : Char) : Bool := !isWs c && c != ']' && c != '}'

def StartsOk (s : Str) : Prop := ∃ c r, s = c :: r ∧ startOk c = true

theorem skipWs_append {w : Str} (hw : Ws w) (rest : Str) : skipWs (w ++ rest) = skipWs rest := by
  induction w with
  | nil => rfl
  | cons c w ih =>
    have hc : isWs c = true := hw c (by simp)
    simp only [List.cons_append, skipWs, hc, if_true]
    exact ih (fun d hd => hw d (by simp [hd]))

theorem skipWs_cons_of_not {c : Char} (h : isWs c = false) (r : Str) : skipWs (c :: r) = c :: r := by
  simp [skipWs, h]

theorem not_isWs_of_startOk {c : Char} (h : startOk c = true) : isWs c = false := by
  unfold startOk at h
  cases hw : isWs c
  · rfl
  · rw [hw] at h; cases h

theorem StartsOk.append {s : Str} (h : StartsOk s) (t : Str) : StartsOk (s ++ t) := by
  obtain ⟨c, r, rfl, hc⟩ := h
  exact ⟨c, r ++ t, rfl, hc⟩

theorem skipWs_startsOk {s : Str} (h : StartsOk s) : skipWs s = s := by
  obtain ⟨c, r, rfl, hc⟩ := h
  exact skipWs_cons_of_not (not_isWs_of_startOk hc) r

theorem skipWs_ws_then {w : Str} (hw : Ws w) {c : Char} (hc : isWs c = false) (rest : Str) :
    skipWs (w ++ c :: rest) = c :: rest := by
  rw [skipWs_append hw, skipWs_cons_of_not hc]

theorem skipWs_ws_startsOk {w s : Str} (hw : Ws w) (hs : StartsOk s) : skipWs (w ++ s) = s := by
  rw [skipWs_append hw, skipWs_startsOk hs]

theorem delim_ws_then {w : Str} (hw : Ws w) {c : Char} (hc : delim [c] = true) (rest : Str) :
    delim (w ++ c :: rest) = true := by
  cases w with
  | nil => simpa [delim] using hc
  | cons d w => simp [delim, hw d (by simp)]

theorem hex_roundtrip : ∀ n, n < 32 →
    hex4 '0' '0' (hexLow (n / 16)) (hexLow (n % 16)) = some n := by decide +kernel

theorem ofNat_toNat_lt32 : ∀ n, n < 32 → (Char.ofNat n).toNat = n :=
  fun n h => toNat_ofNat_byte n (Nat.lt_trans h (by decide))

theorem scanString_simple {e x : Char} (h : simpleEsc e = some x) (hu : e ≠ 'u') (f : Nat) (s acc : Str) :
    scanString (f + 1) ('\\' :: e :: s) acc = scanString f s (x :: acc) := by
  rw [scanString]
  · simp only [Char.reduceEq, ↓reduceIte, h]
  · intro a b c' d s' he; exact absurd he hu
  · exact hu

theorem scanString_u {a b c d : Char} {n : Nat} (h : hex4 a b c d = some n) (hn : n < 0xD800)
    (f : Nat) (s acc : Str) :
    scanString (f + 1) ('\\' :: 'u' :: a :: b :: c :: d :: s) acc = scanString f s (Char.ofNat n :: acc) := by
  have h1 : ¬ (0xD800 ≤ n ∧ n ≤ 0xDBFF) := by omega
  have h2 : ¬ (0xDC00 ≤ n ∧ n ≤ 0xDFFF) := by omega
  rw [scanString]
  simp only [Char.reduceEq, ↓reduceIte, h, h1, h2]

theorem scanString_plain {c : Char} (h1 : c ≠ '"') (h2 : c ≠ '\\') (h3 : ¬ c.toNat < 32)
    (f : Nat) (s acc : Str) :
    scanString (f + 1) (c :: s) acc = scanString f s (c :: acc) := by
  simp only [scanString, h1, h2, h3, ↓reduceIte]

/-- (`by_cases` and not `split`: splitting a chain of tests against character literals is slow) -/
theorem escChar_spec (c : Char) :
    (∃ e, e ≠ 'u' ∧ simpleEsc e = some c ∧ escChar c = ['\\', e]) ∨
    (c.toNat < 32 ∧ escChar c = ['\\', 'u', '0', '0', hexLow (c.toNat / 16), hexLow (c.toNat % 16)]) ∨
    (c ≠ '"' ∧ c ≠ '\\' ∧ ¬ c.toNat < 32 ∧ escChar c = [c]) := by
  by_cases h1 : c = '"'
  · subst h1
    exact .inl ⟨'"', by decide, rfl, rfl⟩
  by_cases h2 : c = '\\'
  · subst h2
    exact .inl ⟨'\\', by decide, rfl, rfl⟩
  by_cases h3 : c = '\n'
  · subst h3
    exact .inl ⟨'n', by decide, rfl, rfl⟩
  by_cases h4 : c = '\r'
  · subst h4
    exact .inl ⟨'r', by decide, rfl, rfl⟩
  by_cases h5 : c = '\t'
  · subst h5
    exact .inl ⟨'t', by decide, rfl, rfl⟩
  by_cases h6 : c = Char.ofNat 8
  · subst h6
    exact .inl ⟨'b', by decide, rfl, rfl⟩
  by_cases h7 : c = Char.ofNat 12
  · subst h7
    exact .inl ⟨'f', by decide, rfl, rfl⟩
  have e : escChar c = if c.toNat < 32 then
      ['\\', 'u', '0', '0', hexLow (c.toNat / 16), hexLow (c.toNat % 16)] else [c] := by
    rw [escChar, if_neg h1, if_neg h2, if_neg h3, if_neg h4, if_neg h5, if_neg h6, if_neg h7]
  by_cases h : c.toNat < 32
  · exact .inr (.inl ⟨h, by rw [e, if_pos h]⟩)
  · exact .inr (.inr ⟨h1, h2, h, by rw [e, if_neg h]⟩)

theorem length_le_esc (s : Str) : s.length ≤ (esc s).length := by
  induction s with
  | nil => exact Nat.le_refl 0
  | cons c s ih =>
    have : 1 ≤ (escChar c).length := by
      rcases escChar_spec c with ⟨e, _, _, h⟩ | ⟨_, h⟩ | ⟨_, _, _, h⟩ <;> rw [h] <;> exact Nat.succ_pos _
    simp only [esc, List.length_cons, List.length_append]
    omega

theorem scan_step (c : Char) (tail acc : Str) (f : Nat) :
    scanString (f + 1) (escChar c ++ tail) acc = scanString f tail (c :: acc) := by
  rcases escChar_spec c with ⟨e, hu, he, h⟩ | ⟨h32, h⟩ | ⟨h1, h2, h32, h⟩
  · rw [h]
    exact scanString_simple he hu f tail acc
  · have hs := scanString_u (hex_roundtrip c.toNat h32) (Nat.lt_trans h32 (by decide)) f tail acc
    rw [Char.ofNat_toNat] at hs
    rw [h]
    exact hs
  · rw [h]
    exact scanString_plain h1 h2 h32 f tail acc

theorem scan_esc (s : Str) : ∀ (acc : Str) (f : Nat) (rest : Str), s.length < f →
    scanString f (esc s ++ '"' :: rest) acc = .ok (acc.reverse ++ s, rest) := by
  induction s with
  | nil =>
    intro acc f rest hf
    cases f with
    | zero => omega
    | succ f => simp [esc, scanString]
  | cons c s ih =>
    intro acc f rest hf
    cases f with
    | zero => omega
    | succ f =>
      simp only [esc, List.append_assoc]
      rw [scan_step, ih (c :: acc) f rest (by simpa using hf)]
      simp

theorem scan_quoted (k : Str) (rest : Str) :
    scanString ((esc k ++ '"' :: rest).length + 1) (esc k ++ '"' :: rest) [] = .ok (k, rest) := by
  have := scan_esc k [] ((esc k ++ '"' :: rest).length + 1) rest (by
    have := length_le_esc k
    simp only [List.length_append, List.length_cons]; omega)
  simpa using this

theorem nstep_delim (st : NSt) {c : Char}
    (hc : (isWs c || c == ',' || c == ']' || c == '}') = true) : nstep st c = Option.none := by
  simp only [isWs, Bool.or_eq_true, decide_eq_true_eq, beq_iff_eq] at hc
  rcases hc with ((((((h | h) | h) | h) | h) | h) | h) <;> subst h <;> cases st <;> rfl

theorem nscan_delim (r : Str) : ∀ (st : NSt) (n : Nat) (best : Option (Nat × Bool)) (rest : Str),
    delim rest = true → nscan st (r ++ rest) n best = nscan st r n best := by
  induction r with
  | nil =>
    intro st n best rest hd
    cases rest with
    | nil => rfl
    | cons c rest =>
      simp only [List.nil_append, nscan]
      rw [nstep_delim st (by simpa [delim] using hd)]
  | cons c r ih =>
    intro st n best rest hd
    simp only [List.cons_append, nscan]
    cases nstep st c with
    | none => rfl
    | some st' => exact ih _ _ _ _ hd

/-- the float lexemes of the property: the reader reads them completely, as a float -/
def fltOk (r : Str) : Bool := nscan .start r 0 Option.none == some (r.length, true)

theorem parseNumber_flt {r : Str} (h : fltOk r = true) {rest : Str} (hd : delim rest = true) :
    parseNumber (r ++ rest) = .ok (.flt r, rest) := by
  unfold fltOk at h
  have h' : nscan .start r 0 Option.none = some (r.length, true) := by simpa using h
  unfold parseNumber
  rw [nscan_delim r _ _ _ _ hd, h']
  simp

theorem nscan_startsOk {r : Str} {x : Nat × Bool} (h : nscan .start r 0 Option.none = some x) :
    StartsOk r := by
  cases r with
  | nil => simp [nscan] at h
  | cons c r =>
    refine ⟨c, r, rfl, ?_⟩
    simp only [nscan] at h
    cases hs : nstep .start c with
    | none => rw [hs] at h; simp at h
    | some st =>
      simp only [nstep] at hs
      by_cases h1 : c = '-'
      · subst h1; rfl
      · by_cases h2 : c = '0'
        · subst h2; rfl
        · simp only [h1, h2, if_false] at hs
          by_cases h3 : isDig c = true
          · unfold startOk isWs
            unfold isDig at h3
            simp only [Bool.and_eq_true, decide_eq_true_eq] at h3
            have h4 : 48 ≤ c.toNat := h3.1
            have h5 : c.toNat ≤ 57 := h3.2
            have e1 : c ≠ ' ' := by intro h; subst h; revert h4; decide
            have e2 : c ≠ '\t' := by intro h; subst h; revert h4; decide
            have e3 : c ≠ '\n' := by intro h; subst h; revert h4; decide
            have e4 : c ≠ '\r' := by intro h; subst h; revert h4; decide
            have e5 : c ≠ ']' := by intro h; subst h; revert h5; decide
            have e6 : c ≠ '}' := by intro h; subst h; revert h5; decide
            simp [e1, e2, e3, e4, e5, e6]
          · simp [h3] at hs

theorem nscan_int_digits (ds : Str) (hd : ∀ c ∈ ds, isDig c = true) :
    ∀ n best, nscan .int ds n best = (if ds.isEmpty then best else some (n + ds.length, false)) := by
  induction ds with
  | nil => intro n best; rfl
  | cons c ds ih =>
    intro n best
    have hc : isDig c = true := hd c (by simp)
    simp only [nscan, nstep, hc, ↓reduceIte, naccept, List.isEmpty_cons]
    rw [ih (fun d h => hd d (by simp [h]))]
    cases ds with
    | nil => simp
    | cons d ds => simp; omega

theorem nscan_nat (n : Nat) (st : NSt) (hst : st = .start ∨ st = .minus) (k : Nat) (best) :
    nscan st (natRepr n) k best = some (k + (natRepr n).length, false) := by
  obtain ⟨c, r, hcr, h0⟩ := natDigits_head n
  have hall : ∀ d ∈ natDigits n, isDig d = true := natDigits_all_digit n
  unfold natRepr
  rw [hcr] at hall ⊢
  have hc : isDig c = true := hall c (by simp)
  have hr : ∀ d ∈ r, isDig d = true := fun d h => hall d (by simp [h])
  have hne : c ≠ '-' := by intro h; subst h; simp [isDig] at hc
  by_cases hz : c = '0'
  · obtain rfl := h0 hz
    subst hz
    have e : natDigits 0 = ['0'] := by decide
    rw [e] at hcr
    cases hcr
    rcases hst with h | h <;> subst h <;> simp [nscan, nstep, naccept]
  · have step : nstep st c = some .int := by
      rcases hst with h | h <;> subst h <;> simp [nstep, hne, hz, hc]
    simp only [nscan, step, naccept]
    rw [nscan_int_digits r hr]
    cases r with
    | nil => simp
    | cons d r => simp; omega

theorem intRepr_scan (i : Int) :
    nscan .start (intRepr i) 0 Option.none = some ((intRepr i).length, false) := by
  cases i with
  | ofNat n =>
    simp only [intRepr]
    rw [nscan_nat n .start (Or.inl rfl)]; simp
  | negSucc n =>
    simp only [intRepr, nscan, nstep, ↓reduceIte, naccept]
    rw [nscan_nat (n + 1) .minus (Or.inr rfl)]
    simp; omega

theorem natRepr_head_ne_minus (n : Nat) : ∀ r, natRepr n ≠ '-' :: r := by
  intro r h
  have : isDig '-' = true := natDigits_all_digit n '-' (by rw [← natRepr, h]; simp)
  simp [isDig] at this

theorem intOfLex_intRepr (i : Int) : intOfLex (intRepr i) = i := by
  cases i with
  | ofNat n =>
    simp only [intRepr]
    unfold intOfLex
    split
    · rename_i ds h; exact absurd h (natRepr_head_ne_minus n ds)
    · rw [natRepr, natOfDigits_natDigits]; rfl
  | negSucc n =>
    simp only [intRepr, intOfLex]
    rw [natRepr, natOfDigits_natDigits]
    omega

theorem parseNumber_int (i : Int) {rest : Str} (hd : delim rest = true) :
    parseNumber (intRepr i ++ rest) = .ok (.int i, rest) := by
  unfold parseNumber
  rw [nscan_delim _ _ _ _ _ hd, intRepr_scan]
  simp [intOfLex_intRepr]

end N0.Json
