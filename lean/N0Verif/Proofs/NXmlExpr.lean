import N0Verif.Proofs.NXmlPath
/-!
  C18, the grammar of the property's expressions: tokens `Tok`, what can be written (`WfTok`), `renderExpr` / `parseExpr`;
  the step parser, the `'..'` test and the path split read a rendered expression back (`parseStep_render`,
  `parseExpr_renderExpr`), a step the parser accepts is read whole (`parseStep_whole`), and a rendering contains `**/**`
  only where a plain `**` token stands before a `**…` token (`renderExpr_noStars`).
-/
namespace N0.NXml
open N0 N0.Py

/-! A token is `..` (`none`) or a step `tag [idx] [text() op v]` (the `Step` the regex groups give).
`renderTok` writes it the way the test-suite does (`a`, `*[1]`, `**[*]`, `b[text()=x]`,
`c[2][text()!=none]`); `parseTok` is the reading `recurse` applies to one path part (`'..'` test,
then the step parser that stands for the regex). -/

abbrev Tok := Option Step

def opEq : Str := ['=']
def opNe : Str := ['!', '=']

/-- a tag the grammar can write: `*`, `**`, or a name — a word character (letter, digit, `_`)
followed by word characters, `.` and `-` (`\w[\w.\-]*`; fix C18-e: the whole name is the tag) -/
def WfTag (t : Str) : Prop :=
  t = star ∨ t = star2 ∨
    (t ≠ [] ∧ (∀ c, t.head? = some c → isWord c = true) ∧ ∀ c ∈ t, isNameChar c = true)

/-- a condition the grammar can write: operator `=` or `!=`; the value is not empty, has no quote
and no `/` (the path split would cut it), and does not begin with `=` after the operator `=`
(`[text()==x]` reads as operator `==`) -/
def WfCond : Option (Str × Str) → Prop
  | none => True
  | some (op, v) => (op = opEq ∨ op = opNe) ∧ v ≠ [] ∧ (∀ c ∈ v, isQuote c = false ∧ c ≠ '/') ∧
      (op = opEq → v.head? ≠ some '=')

def WfStep (st : Step) : Prop := WfTag st.tag ∧ WfCond st.cond

def WfTok : Tok → Prop
  | none => True
  | some st => WfStep st

def renderIdx : Option (Option Nat) → Str
  | none => []
  | some none => ['[', '*', ']']
  | some (some k) => '[' :: (dec k ++ [']'])

def renderCond : Option (Str × Str) → Str
  | none => []
  | some (op, v) => ['[', 't', 'e', 'x', 't', '(', ')'] ++ op ++ v ++ [']']

/-- a step of the EXPRESSION as text (`E`: expression; `tag`, then `[k]`/`[*]`, then `[text()op v]`), the inverse of `parseStep`.
Not to be confused with the writers of a FOUND step (`stepName`, `nameOf`, `renderStep`: `stepName_eq`, Proofs/NXmlFind) -/
def renderStepE (st : Step) : Str := st.tag ++ (renderIdx st.idx ++ renderCond st.cond)

def renderTok : Tok → Str
  | none => dotdot
  | some st => renderStepE st

def renderExpr (e : List Tok) : Str := join ['/'] (e.map renderTok)

/-- how `recurse` reads one path part -/
def parseTok (s : Str) : Option Tok := if s = dotdot then some none else (parseStep s).map some

/-- how `findall` reads an expression string: normalisation, path split, every part read by `parseTok` -/
def parseExpr (xp : Str) : Option (List Tok) := (xpSteps xp).mapM parseTok

theorem dropQuote_noq (s : Str) (h : ∀ c, s.head? = some c → isQuote c = false) : dropQuote s = s := by
  cases s with
  | nil => rfl
  | cons c r => simp [dropQuote, h c rfl]

theorem condTail_value (v : Str) (hne : v ≠ []) (hq : ∀ c ∈ v, isQuote c = false) :
    condTail (v ++ [']']) = some v := by
  have h1 : dropQuote (v ++ [']']) = v ++ [']'] := by
    apply dropQuote_noq
    intro c hc
    cases v with
    | nil => exact absurd rfl hne
    | cons d v => simp at hc; subst hc; exact hq _ (by simp)
  have h2 : dropQuote v.reverse = v.reverse := by
    apply dropQuote_noq
    intro c hc
    exact hq c (by simpa using List.mem_of_mem_head? hc)
  have h3 : v.reverse.isEmpty = false := by
    cases v with
    | nil => exact absurd rfl hne
    | cons d v => simp
  have h4 : v.reverse.any isQuote = false := by
    rw [List.any_eq_false]
    intro c hc
    simp [hq c (by simpa using hc)]
  unfold condTail
  rw [h1]
  simp only [List.reverse_append, List.reverse_cons, List.reverse_nil, List.nil_append,
    List.singleton_append, h2, h3, h4, Bool.or_self, Bool.false_eq_true, if_false, List.reverse_reverse]

theorem parseCond_render (c : Option (Str × Str)) (h : WfCond c) : parseCond (renderCond c) = c := by
  cases c with
  | none => rfl
  | some ov =>
    obtain ⟨op, v⟩ := ov
    obtain ⟨hop, hne, hv, hhead⟩ := h
    have hct := condTail_value v hne (fun c hc => (hv c hc).1)
    rcases hop with hop | hop
    · subst hop
      cases v with
      | nil => exact absurd rfl hne
      | cons c v =>
        have hc : c ≠ '=' := by simpa using hhead rfl
        simp only [List.cons_append] at hct
        simp [renderCond, opEq, parseCond, hc, hct]
    · subst hop
      simp [renderCond, opNe, parseCond, hct]

/-- what may follow the tag / the index inside a step: nothing, or a `[` -/
def RestOK (rest : Str) : Prop := rest = [] ∨ ∃ r, rest = '[' :: r

theorem renderCond_rest (c : Option (Str × Str)) : RestOK (renderCond c) := by
  cases c with
  | none => exact Or.inl rfl
  | some ov => exact Or.inr ⟨_, rfl⟩

theorem renderIdxCond_rest (i : Option (Option Nat)) (c : Option (Str × Str)) :
    RestOK (renderIdx i ++ renderCond c) := by
  cases i with
  | none => simpa [renderIdx] using renderCond_rest c
  | some j => cases j <;> exact Or.inr ⟨_, rfl⟩

theorem parseIdx_render (i : Option (Option Nat)) (c : Option (Str × Str)) :
    parseIdx (renderIdx i ++ renderCond c) = (i, renderCond c) := by
  cases i with
  | none =>
    cases c with
    | none => simp [renderIdx, renderCond, parseIdx]
    | some ov => simp [renderIdx, renderCond, parseIdx, isAsciiDigit]
  | some j =>
    cases j with
    | none => simp [renderIdx, parseIdx]
    | some k =>
      have hsplit := takeWhile_append_stop isAsciiDigit (dec k) ']' (renderCond c) (dec_digits k) (by decide)
      have hne := dec_ne_nil k
      cases hd : dec k with
      | nil => exact absurd hd hne
      | cons d ds =>
        have hdd : isAsciiDigit d = true := dec_digits k d (by rw [hd]; simp)
        have hstar : d ≠ '*' := by intro e; subst e; revert hdd; decide
        rw [hd] at hsplit
        simp only [List.cons_append] at hsplit
        simp only [renderIdx, hd, List.cons_append, List.append_assoc]
        rw [parseIdx]
        · simp only [List.nil_append, hsplit.1, hsplit.2]
          rw [← hd, natOfDigits_dec]
        · intro r he
          simp at he
          exact absurd he.1 hstar

theorem parseTag_render (tag rest : Str) (h : WfTag tag) (hr : RestOK rest) :
    parseTag (tag ++ rest) = some (tag, rest) := by
  have hnw : isNameChar '[' = false := by decide
  have hns : isWord '*' = false := by decide
  rcases h with h | h | ⟨hne, hh, hw⟩
  · subst h
    rcases hr with hr | ⟨r, hr⟩ <;> subst hr <;> simp [star, parseTag, hns]
  · subst h
    rcases hr with hr | ⟨r, hr⟩ <;> subst hr <;> simp [star2, parseTag, hns]
  · cases tag with
    | nil => exact absurd rfl hne
    | cons c t =>
      have hc : isWord c = true := hh c rfl
      have hwt : ∀ x ∈ t, isNameChar x = true := fun x hx => hw x (by simp [hx])
      have hsplit : (t ++ rest).takeWhile isNameChar = t ∧ (t ++ rest).dropWhile isNameChar = rest := by
        rcases hr with hr | ⟨r, hr⟩
        · subst hr
          simpa using takeWhile_all isNameChar t hwt
        · subst hr
          exact takeWhile_append_stop isNameChar t '[' r hwt hnw
      simp only [List.cons_append, parseTag, hc, if_true, hsplit.1, hsplit.2]

theorem parseStep_render (st : Step) (h : WfStep st) : parseStep (renderStepE st) = some st := by
  obtain ⟨ht, hc⟩ := h
  unfold parseStep renderStepE
  rw [parseTag_render st.tag _ ht (renderIdxCond_rest st.idx st.cond)]
  simp only [parseIdx_render]
  obtain ⟨tag, idx, cond⟩ := st
  cases cond with
  | none => simp [renderCond]
  | some ov =>
    have hp := parseCond_render (some ov) hc
    obtain ⟨op, v⟩ := ov
    simp only [renderCond, List.cons_append] at hp ⊢
    simp only [hp]

/-! the step is read whole (fix C18-e): what the parser accepts it has consumed -/

theorem parseTag_split (s tag r : Str) (h : parseTag s = some (tag, r)) : s = tag ++ r := by
  unfold parseTag at h
  cases s with
  | nil => cases h
  | cons c t =>
    simp only at h
    by_cases hc : isWord c = true
    · simp only [hc, if_true, Option.some.injEq, Prod.mk.injEq] at h
      rw [← h.1, ← h.2, List.cons_append, List.takeWhile_append_dropWhile]
    · have hc' : isWord c = false := by simpa using hc
      simp only [hc', Bool.false_eq_true, if_false] at h
      split at h
      · next r' e =>
        simp only [Option.some.injEq, Prod.mk.injEq] at h
        rw [e, ← h.1, ← h.2]; rfl
      · next r' _ e =>
        simp only [Option.some.injEq, Prod.mk.injEq] at h
        rw [e, ← h.1, ← h.2]; rfl
      · cases h

theorem parseIdx_rest (r : Str) (i : Option (Option Nat)) (r1 : Str) (h : parseIdx r = (i, r1)) :
    (i = none ∧ r1 = r) ∨ (i ≠ none ∧ r.head? = some '[') := by
  unfold parseIdx at h
  split at h
  · cases h; exact Or.inr ⟨by simp, rfl⟩
  · split at h
    · cases h; exact Or.inr ⟨by simp, rfl⟩
    · cases h; exact Or.inl ⟨rfl, rfl⟩
  · cases h; exact Or.inl ⟨rfl, rfl⟩

theorem parseCond_head (r : Str) (c : Str × Str) (h : parseCond r = some c) : r.head? = some '[' := by
  unfold parseCond at h
  split at h
  · rfl
  · cases h

/-- a step the parser accepts is its tag followed by what the index / condition groups read:
nothing between the tag and the first `[`, and a step read without index and condition is its tag -/
theorem parseStep_whole (step : Str) (st : Step) (h : parseStep step = some st) :
    ∃ mid, step = st.tag ++ mid ∧ (mid = [] ∨ mid.head? = some '[') ∧
      (st.idx = none → st.cond = none → mid = []) := by
  unfold parseStep at h
  cases ht : parseTag step with
  | none => rw [ht] at h; cases h
  | some tr =>
    obtain ⟨tag, r⟩ := tr
    rw [ht] at h
    simp only at h
    have hs := parseTag_split step tag r ht
    cases hi : parseIdx r with
    | mk i r1 =>
      rw [hi] at h
      have hr := parseIdx_rest r i r1 hi
      cases r1 with
      | nil =>
        simp only [Option.some.injEq] at h
        subst h
        refine ⟨r, hs, ?_, ?_⟩
        · rcases hr with ⟨_, e⟩ | ⟨_, e⟩
          · exact Or.inl e.symm
          · exact Or.inr e
        · intro hi0 _
          rcases hr with ⟨_, e⟩ | ⟨e, _⟩
          · exact e.symm
          · exact absurd hi0 e
      | cons c r1 =>
        simp only at h
        cases hc : parseCond (c :: r1) with
        | none => rw [hc] at h; cases h
        | some cd =>
          rw [hc] at h
          simp only [Option.some.injEq] at h
          subst h
          refine ⟨r, hs, Or.inr ?_, ?_⟩
          · rcases hr with ⟨_, e⟩ | ⟨_, e⟩
            · rw [← e]; exact parseCond_head _ _ hc
            · exact e
          · intro _ hc0; cases hc0

theorem renderStepE_ne_dotdot (st : Step) (h : WfStep st) : renderStepE st ≠ dotdot := by
  intro e
  have h1 := parseStep_render st h
  have hd : parseStep dotdot = none := by decide
  rw [e, hd] at h1
  cases h1

theorem renderStepE_tag (t : Str) : renderStepE ⟨t, none, none⟩ = t := List.append_nil t

/-- what `findallL_simple` (`AllSimple`) asks of each step, for a step of the grammar -/
theorem simple_render (st : Step) (h : WfStep st) (h2 : st.tag ≠ star2) : Simple (renderStepE st) st :=
  ⟨parseStep_render st h, h2, renderStepE_ne_dotdot st h⟩

/-- a name (a word character followed by word characters, `.` and `-`) is a `Simple` step read as itself -/
theorem simple_name (t : Str) (hne : t ≠ []) (hh : ∀ c, t.head? = some c → isWord c = true)
    (hw : ∀ c ∈ t, isNameChar c = true) : Simple t ⟨t, none, none⟩ := by
  have h2 : t ≠ star2 := by
    intro e; subst e
    have := hw '*' (by simp [star2]); rw [show isNameChar '*' = false by decide] at this; cases this
  have := simple_render ⟨t, none, none⟩ ⟨Or.inr (Or.inr ⟨hne, hh, hw⟩), trivial⟩ h2
  rwa [renderStepE_tag] at this

theorem parseTok_render (t : Tok) (h : WfTok t) : parseTok (renderTok t) = some t := by
  cases t with
  | none => simp [renderTok, parseTok]
  | some st =>
    simp only [renderTok, parseTok, renderStepE_ne_dotdot st h, if_false, parseStep_render st h]
    rfl

theorem isNameChar_noSlashBr (c : Char) (h : isNameChar c = true) : c ≠ '/' ∧ c ≠ '[' := by
  constructor <;> (intro e; subst e; revert h; decide)

theorem stepOK_renderTok (t : Tok) (h : WfTok t) : StepOK (renderTok t) := by
  cases t with
  | none => exact ⟨by decide, by decide, by decide⟩
  | some st =>
    obtain ⟨ht, hc⟩ := h
    have htag : (∀ c ∈ st.tag, c ≠ '/') ∧ st.tag ≠ [] ∧ st.tag.head? ≠ some '[' := by
      rcases ht with ht | ht | ⟨hne, _, hw⟩
      · rw [ht]; exact ⟨by decide, by decide, by decide⟩
      · rw [ht]; exact ⟨by decide, by decide, by decide⟩
      · refine ⟨fun c hc => (isNameChar_noSlashBr c (hw c hc)).1, hne, ?_⟩
        cases htg : st.tag with
        | nil => exact absurd htg hne
        | cons c t =>
          have := (isNameChar_noSlashBr c (hw c (by rw [htg]; simp))).2
          simpa using this
    have hidx : ∀ c ∈ renderIdx st.idx, c ≠ '/' := by
      cases st.idx with
      | none => intro c hc; cases hc
      | some j =>
        cases j with
        | none => decide
        | some k =>
          intro c hc
          simp only [renderIdx, List.mem_cons, List.mem_append, List.not_mem_nil, or_false] at hc
          rcases hc with hc | hc | hc
          · subst hc; decide
          · exact dec_noSlash k c hc
          · subst hc; decide
    have hcond : ∀ c ∈ renderCond st.cond, c ≠ '/' := by
      cases hcd : st.cond with
      | none => intro c hc; cases hc
      | some ov =>
        obtain ⟨op, v⟩ := ov
        rw [hcd] at hc
        obtain ⟨hop, _, hv, _⟩ := hc
        intro c hcm
        simp only [renderCond, List.mem_append, List.mem_cons, List.not_mem_nil, or_false] at hcm
        rcases hcm with ((hcm | hcm) | hcm) | hcm
        · exact (by decide : ∀ c ∈ ['[', 't', 'e', 'x', 't', '(', ')'], c ≠ '/') c (by simpa using hcm)
        · rcases hop with rfl | rfl
          · exact (by decide : ∀ c ∈ opEq, c ≠ '/') c hcm
          · exact (by decide : ∀ c ∈ opNe, c ≠ '/') c hcm
        · exact (hv c hcm).2
        · subst hcm; decide
    refine ⟨?_, ?_, ?_⟩
    · intro c hcm
      simp only [renderTok, renderStepE, List.mem_append] at hcm
      rcases hcm with hcm | hcm | hcm
      · exact htag.1 c hcm
      · exact hidx c hcm
      · exact hcond c hcm
    · simp [renderTok, renderStepE, htag.2.1]
    · cases htg : st.tag with
      | nil => exact absurd htg htag.2.1
      | cons c t =>
        have := htag.2.2
        rw [htg] at this
        simpa [renderTok, renderStepE, htg] using this

theorem xpSteps_render (e : List Tok) (hne : e ≠ []) (hwf : ∀ t ∈ e, WfTok t)
    (hN : isInfix starsPat (renderExpr e) = false) : xpSteps (renderExpr e) = e.map renderTok := by
  unfold xpSteps
  rw [normStars_noop _ _ hN]
  unfold renderExpr
  apply splitPath_join
  · simpa using hne
  · intro s hs
    obtain ⟨t, ht, rfl⟩ := List.mem_map.1 hs
    exact stepOK_renderTok t (hwf t ht)

theorem mapM_parseTok (e : List Tok) (hwf : ∀ t ∈ e, WfTok t) :
    (e.map renderTok).mapM parseTok = some e := by
  induction e with
  | nil => rfl
  | cons t e ih =>
    have h1 := parseTok_render t (hwf t (by simp))
    have h2 := ih (fun x hx => hwf x (by simp [hx]))
    simp [List.mapM_cons, h1, h2]

theorem parseExpr_renderExpr (e : List Tok) (hne : e ≠ []) (hwf : ∀ t ∈ e, WfTok t)
    (hN : isInfix starsPat (renderExpr e) = false) : parseExpr (renderExpr e) = some e := by
  unfold parseExpr
  rw [xpSteps_render e hne hwf hN]
  exact mapM_parseTok e hwf

theorem isInfix_append_slash (a R : Str) (ha : ∀ c ∈ a, c ≠ '/') (hR : isInfix starsPat R = false)
    (hpair : startsWith R star2 = true → ∀ pre, a ≠ pre ++ star2) :
    isInfix starsPat (a ++ '/' :: R) = false := by
  induction a with
  | nil =>
    simp only [List.nil_append, isInfix, Bool.or_eq_false_iff]
    exact ⟨by simp [startsWith, starsPat], hR⟩
  | cons c a ih =>
    have ih' := ih (fun x hx => ha x (by simp [hx]))
      (fun hs pre e => hpair hs (c :: pre) (by rw [e]; rfl))
    simp only [List.cons_append, isInfix, Bool.or_eq_false_iff]
    refine ⟨?_, ih'⟩
    cases hs : startsWith (c :: (a ++ '/' :: R)) starsPat with
    | false => rfl
    | true =>
      exfalso
      cases a with
      | nil => simp [startsWith, starsPat] at hs
      | cons d a =>
        cases a with
        | nil =>
          simp [startsWith, starsPat] at hs
          obtain ⟨hc, hd, hR1⟩ := hs
          subst hc; subst hd
          have hsw : startsWith R star2 = true := by
            cases R with
            | nil => simp [startsWith] at hR1
            | cons r1 R =>
              cases R with
              | nil => simp [startsWith] at hR1
              | cons r2 R => simp [startsWith] at hR1; simp [startsWith, star2, hR1.1, hR1.2]
          exact hpair hsw [] rfl
        | cons f a =>
          simp [startsWith, starsPat] at hs
          exact ha f (by simp) hs.2.2.1

/-- no plain `**` token directly followed by a token whose tag is `**` -/
def NoDD : List Tok → Prop
  | x :: y :: rest => ¬ (x = some stDeep ∧ ∃ st, y = some st ∧ st.tag = star2) ∧ NoDD (y :: rest)
  | _ => True

theorem renderTok_ends_stars (x : Tok) (h : WfTok x) (pre : Str) (e : renderTok x = pre ++ star2) :
    x = some stDeep := by
  have hlast : (renderTok x).getLast? = some '*' := by rw [e]; simp [star2]
  have hlen : 2 ≤ (renderTok x).length := by rw [e]; simp [star2]
  cases x with
  | none => simp [renderTok, dotdot] at hlast
  | some st =>
    obtain ⟨tag, idx, cond⟩ := st
    obtain ⟨ht, hc⟩ := h
    simp only [renderTok, renderStepE] at hlast hlen
    have hbr : ∀ X : Str, (X ++ [']']).getLast? = some '*' → False := by
      intro X hX
      rw [List.getLast?_concat] at hX
      simp at hX
    cases cond with
    | some ov =>
      obtain ⟨op, v⟩ := ov
      exfalso
      apply hbr (tag ++ renderIdx idx ++ (['[', 't', 'e', 'x', 't', '(', ')'] ++ op ++ v))
      rw [← hlast]
      simp [renderCond]
    | none =>
      cases idx with
      | some j =>
        exfalso
        cases j with
        | none =>
          apply hbr (tag ++ ['[', '*'])
          rw [← hlast]
          simp [renderIdx, renderCond]
        | some k =>
          apply hbr (tag ++ '[' :: dec k)
          rw [← hlast]
          simp [renderIdx, renderCond]
      | none =>
        simp only [renderIdx, renderCond, List.append_nil] at hlast hlen
        rcases ht with ht | ht | ⟨_, _, hw⟩
        · simp only at ht; subst ht; simp [star] at hlen
        · simp only at ht; subst ht; rfl
        · have := hw '*' (List.mem_of_getLast? hlast)
          have hns : isNameChar '*' = false := by decide
          rw [hns] at this
          cases this

theorem renderTok_starts_stars (y : Tok) (h : WfTok y) (rest : Str)
    (hr : rest = [] ∨ ∃ r, rest = '/' :: r) (hs : startsWith (renderTok y ++ rest) star2 = true) :
    ∃ st, y = some st ∧ st.tag = star2 := by
  cases y with
  | none => simp [renderTok, dotdot, startsWith, star2] at hs
  | some st =>
    obtain ⟨tag, idx, cond⟩ := st
    obtain ⟨ht, _⟩ := h
    rcases ht with ht | ht | ⟨hne, _, hw⟩
    · simp only at ht; subst ht
      exfalso
      rcases renderIdxCond_rest idx cond with h0 | ⟨r, h0⟩
      · simp only [renderTok, renderStepE, h0] at hs
        rcases hr with hr | ⟨r, hr⟩ <;> subst hr <;> simp [star, startsWith, star2] at hs
      · simp only [renderTok, renderStepE, h0] at hs
        simp [star, startsWith, star2] at hs
    · exact ⟨_, rfl, ht⟩
    · exfalso
      simp only at hne hw
      cases tag with
      | nil => exact absurd rfl hne
      | cons c t =>
        simp [renderTok, renderStepE, startsWith, star2] at hs
        have := hw c (by simp)
        have hns : isNameChar '*' = false := by decide
        rw [hs.1, hns] at this
        cases this

theorem join_render_cons (y : Tok) (ys : List Tok) :
    ∃ rest, join ['/'] ((y :: ys).map renderTok) = renderTok y ++ rest ∧ (rest = [] ∨ ∃ r, rest = '/' :: r) := by
  cases ys with
  | nil => exact ⟨[], by simp [join], Or.inl rfl⟩
  | cons z zs => exact ⟨'/' :: join ['/'] ((z :: zs).map renderTok), by simp [join], Or.inr ⟨_, rfl⟩⟩

theorem renderExpr_noStars (e : List Tok) (hwf : ∀ t ∈ e, WfTok t) (hdd : NoDD e) :
    isInfix starsPat (renderExpr e) = false := by
  unfold renderExpr
  induction e with
  | nil => rfl
  | cons x rest ih =>
    cases rest with
    | nil =>
      simp only [List.map_cons, List.map_nil, join]
      exact isInfix_false_of_not_mem starsPat _ '/' (by decide)
        (fun h => (stepOK_renderTok x (hwf x (by simp))).1 '/' h rfl)
    | cons y ys =>
      obtain ⟨hxy, hdd'⟩ := hdd
      have ihh := ih (fun t ht => hwf t (by simp [ht])) hdd'
      obtain ⟨r, hj, hr⟩ := join_render_cons y ys
      simp only [List.map_cons, join, List.append_assoc, List.singleton_append] at ihh ⊢
      simp only [List.map_cons] at hj
      apply isInfix_append_slash _ _ (stepOK_renderTok x (hwf x (by simp))).1 ihh
      intro hs pre epre
      rw [hj] at hs
      exact hxy ⟨renderTok_ends_stars x (hwf x (by simp)) pre epre,
        renderTok_starts_stars y (hwf y (by simp)) r hr hs⟩

end N0.NXml
