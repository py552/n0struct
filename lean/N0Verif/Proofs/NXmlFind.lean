import N0Verif.Proofs.NXmlGet
/-!
  C18: the loops of `findall.recurse`.  A call under its guard and one pass of the `while` body, each with the ways it
  can end; one sibling of the `for` loop as a chain of two such calls (`chain`, `forLoop_chain`), so that a fact about
  the loop is a fact about `chain (guarded …) k`.  Every reported pair resolves through `_get` (`recurse_ok`); the exact
  result for `**` (`findallL_deep`) and for expressions of plain steps (`findallL_simple`).  A found step `tag[k]` has three
  writers (`stepName` of the model, `nameOf`, `renderStep`): `stepName_eq`.
-/
namespace N0.NXml
open N0 N0.Py

mutual
/-- every tag below is addressable by `_get` -/
def goodV : XVal → Bool
  | .text _ => true
  | .nodes items => goodItems items
def goodItems : List Item → Bool
  | [] => true
  | (t, _, v) :: rest => goodTag t && goodV v && goodItems rest
end

/-- the number of siblings with tag `t`: the per-tag index the next such sibling gets -/
def countTag (t : Str) : List Item → Nat
  | [] => 0
  | (t', _, _) :: rest => (if t' = t then 1 else 0) + countTag t rest

/-- a reported `(path, value)` pair resolves: `_get` from the root along the path returns the value -/
def HitOK (root : XVal) (h : Hit) : Prop := getL root h.1 = .ok (some h.2)
def AllOK (root : XVal) (hs : List Hit) : Prop := ∀ h ∈ hs, HitOK root h
def ResOK (root : XVal) (o : Out) : Prop := ∀ hs, o.res = some hs → AllOK root hs

def LoopOut.All (P : List Hit → Prop) : LoopOut → Prop
  | .retNone _ => True
  | .ret f _ => P f
  | .brk f _ _ => P f
/-- `.inl`: the call ends the pass; `.inr`: the loop goes on with these hits and flag -/
def SumAll (P : List Hit → Prop) : LoopOut ⊕ (List Hit × Bool) → Prop
  | .inl out => out.All P
  | .inr p => P p.1
/-- appending the hits a call returns keeps `P`: what a pass needs of its calls to keep `P` itself (`Keeps.ok`: every hit
resolves; `Keeps.ext`: the hits so far stay a prefix) -/
def Keeps (P : List Hit → Prop) (r : Res) : Prop := ∀ hs ff, r = .ok ⟨some hs, ff⟩ → ∀ f, P f → P (f ++ hs)

def FnOK (root : XVal) (v : XVal) (fn : Fn) : Prop :=
  ∀ sought passed any ff o, getL root passed = .ok (some v) →
    fn sought passed any ff = .ok o → ResOK root o

/-- the closures `recurse` hands to the loops of a call on `v`: one per child -/
def kidsOf (F : Bool) : XVal → List Kid
  | .text _ => []
  | .nodes items => kidFns F items

theorem recurse_eq (F : Bool) (v : XVal) (sought passed : List Str) (any : Nat) (ff : Bool) :
    recurse F v sought passed any ff = whileLoop F v (kidsOf F v) passed sought any [] ff := by
  cases v <;> rw [recurse] <;> rfl

theorem whileLoop_nil (F : Bool) (v : XVal) (kids : List Kid) (passed : List Str) (any : Nat)
    (found : List Hit) (ff : Bool) :
    whileLoop F v kids passed [] any found ff = loopEmpty F v kids passed any found ff := by
  rw [whileLoop]

theorem whileLoop_ret (F : Bool) (v : XVal) (kids : List Kid) (passed : List Str) (a : Str)
    (rest : List Str) (any : Nat) (found : List Hit) (ff : Bool) (f : List Hit) (ff' : Bool)
    (h : iter v kids (a :: rest) passed any found ff = .ok (.ret f ff')) :
    whileLoop F v kids passed (a :: rest) any found ff = .ok ⟨some f, ff'⟩ := by
  rw [whileLoop, h]

/-- the step a pass of the `while` body reads: `**` again while diving, else the head of the remaining steps -/
def curStep (any : Nat) (sought : List Str) : Str := if any = 2 then star2 else sought.headD []

theorem iter_up {v : XVal} {kids : List Kid} {sought passed : List Str} {any : Nat} {found : List Hit}
    {ff : Bool} (hcur : curStep any sought = dotdot) :
    iter v kids sought passed any found ff = .ok (.retNone ff) := by
  simp only [curStep] at hcur
  simp only [iter, hcur, ↓reduceIte]

theorem iter_noStep {v : XVal} {kids : List Kid} {sought passed : List Str} {any : Nat} {found : List Hit}
    {ff : Bool} (hcur : curStep any sought ≠ dotdot)
    (hp : parseStep (curStep any sought) = none) :
    iter v kids sought passed any found ff = .error .ValueError := by
  simp only [curStep] at hcur hp
  simp only [iter, hcur, ↓reduceIte, hp]

theorem iter_nodes {kids : List Kid} {sought passed : List Str} {any : Nat} {found : List Hit}
    {ff : Bool} {st : Step} (hcur : curStep any sought ≠ dotdot)
    (hp : parseStep (curStep any sought) = some st) (x : Item) (xs : List Item) :
    iter (.nodes (x :: xs)) kids sought passed any found ff
      = forLoop st sought passed (anyAfter st sought) kids found [] ff := by
  simp only [curStep] at hcur hp
  simp only [iter, hcur, ↓reduceIte, hp, isNonEmptyNodes]

theorem iter_leaf {v : XVal} {kids : List Kid} {sought passed : List Str} {any : Nat} {found : List Hit}
    {ff : Bool} {st : Step} (hcur : curStep any sought ≠ dotdot)
    (hp : parseStep (curStep any sought) = some st)
    (hne : isNonEmptyNodes v = false) :
    iter v kids sought passed any found ff = .ok (.ret
      (if anyAfter st sought = 2 ∧ isTextV v then found ++ [(passed, v)] else found) ff) := by
  simp only [curStep] at hcur hp
  simp only [iter, hcur, ↓reduceIte, hp, hne, Bool.false_eq_true]

/-- what the `for` loop does with the outcome of a guarded call: an outcome that ends the pass ends it, otherwise the loop
goes on from the new hits and flag -/
def chain (x : PyM (LoopOut ⊕ (List Hit × Bool))) (k : List Hit → Bool → PyM LoopOut) : PyM LoopOut :=
  match x with
  | .error e => .error e
  | .ok (.inl out) => .ok out
  | .ok (.inr (f, ff)) => k f ff

/-- one sibling of the `for` loop, with the closure of the child spelled out: when the sibling is selected, the
call below it, then the "one more dive" call, then the siblings to come -/
theorem forLoop_chain (F : Bool) (st : Step) (sought passed : List Str) (any : Nat) (t : Str) (a : Attr)
    (v : XVal) (post : List Item) (found : List Hit) (idxs : List (Str × Nat)) (ff : Bool) :
    forLoop st sought passed any (kidFns F ((t, a, v) :: post)) found idxs ff =
      if tagTest st t any then
        chain (guarded (idxOk st.idx (cnt idxs t) && condHolds st.cond v)
          (fun _ => recurse F v (sought.drop 1) (passed ++ [stepName st t (cnt idxs t)]) any ff) found ff any)
        fun f1 ff1 => chain (guarded (any == 1)
          (fun _ => recurse F v sought (passed ++ [stepName st t (cnt idxs t)]) any ff1) f1 ff1 any)
        fun f2 ff2 => forLoop st sought passed any (kidFns F post) f2 (incr idxs t) ff2
      else forLoop st sought passed any (kidFns F post) found idxs ff := by
  rw [kidFns, forLoop]
  dsimp only
  split
  · generalize guarded _ _ found ff any = x1
    rcases x1 with e | (out | ⟨f1, ff1⟩)
    · rfl
    · rfl
    · simp only [chain]
      generalize guarded _ _ f1 ff1 any = x2
      rcases x2 with e | (out | ⟨f2, ff2⟩) <;> rfl
  · rfl

theorem getL_append (root : XVal) (p q : List Str) (v : XVal)
    (h : getL root p = .ok (some v)) : getL root (p ++ q) = getL v q := by
  fun_induction getL root p with
  | case1 v' => cases h; rfl
  | case2 v' step rest e hs => cases h
  | case3 step rest name idx hs t => cases h
  | case4 step rest name idx hs items hsc => cases h
  | case5 step rest name idx hs items w hsc ih =>
    rw [List.cons_append, getL, hs]
    dsimp only
    rw [hsc]
    exact ih h

theorem scan_pre (t : Str) (a : Attr) (v : XVal) (post pre : List Item) :
    scanItems (pre ++ (t, a, v) :: post) t (countTag t pre : Int) = some v := by
  induction pre with
  | nil => simp [scanItems, countTag]
  | cons it pre ih =>
    obtain ⟨t', a', v'⟩ := it
    simp only [List.cons_append, scanItems, countTag]
    by_cases h : t' = t
    · simp only [h, if_true]
      have : ((1 + countTag t pre : Nat) : Int) ≠ 0 := Int.natCast_ne_zero.mpr (Nat.add_comm .. ▸ Nat.succ_ne_zero _)
      simp only [this, if_false]
      rw [Int.natCast_add, Int.natCast_one, Int.add_comm, Int.add_sub_cancel]
      exact ih
    · simp only [h, if_false, Nat.zero_add]
      exact ih

theorem name_resolves (st : Step) (t : Str) (a : Attr) (v : XVal) (pre post : List Item)
    (hg : goodTag t = true) :
    getL (.nodes (pre ++ (t, a, v) :: post)) [stepName st t (countTag t pre)] = .ok (some v) := by
  unfold stepName
  by_cases hc : (idxTruthy st.idx || countTag t pre != 0) = true
  · simp only [hc, if_true]
    rw [getL, getStep_indexed t hg]
    simp only [scan_pre, getL]
  · simp only [hc]
    have h0 : countTag t pre = 0 := by
      simp at hc; exact hc.2
    simp only [Bool.false_eq_true, if_false, List.append_nil]
    rw [getL, getStep_plain t hg]
    have := scan_pre t a v post pre
    rw [h0] at this
    simp only [Int.natCast_zero] at this
    simp only [this, getL]

theorem cnt_incr (m : List (Str × Nat)) (k k' : Str) :
    cnt (incr m k) k' = if k' = k then cnt m k + 1 else cnt m k' := by
  induction m with
  | nil =>
    by_cases h : k' = k <;> simp [incr, cnt, h]
  | cons e m ih =>
    obtain ⟨k0, n⟩ := e
    simp only [incr]
    by_cases h0 : k = k0
    · subst h0
      by_cases h : k' = k <;> simp [cnt, h]
    · simp only [h0, if_false, cnt]
      by_cases h : k' = k
      · subst h; simp [h0, ih]
      · have h0' : ¬ k0 = k := fun e => h0 e.symm
        by_cases h1 : k' = k0 <;> simp [h, h1, ih, h0']

theorem countTag_append (t : Str) (pre : List Item) (it : Item) :
    countTag t (pre ++ [it]) = countTag t pre + (if it.1 = t then 1 else 0) := by
  induction pre with
  | nil => obtain ⟨t', a, v⟩ := it; simp [countTag]
  | cons x pre ih =>
    obtain ⟨t', a, v⟩ := x
    rw [List.cons_append, countTag, countTag, ih, Nat.add_assoc]

theorem goodItems_mid (pre post : List Item) (t : Str) (a : Attr) (v : XVal)
    (h : goodItems (pre ++ (t, a, v) :: post) = true) : goodTag t = true ∧ goodV v = true := by
  induction pre with
  | nil => simp [goodItems] at h; exact ⟨h.1.1, h.1.2⟩
  | cons x pre ih =>
    obtain ⟨t', a', v'⟩ := x
    simp [goodItems] at h
    exact ih h.2

theorem AllOK.append {root : XVal} {a b : List Hit} (ha : AllOK root a) (hb : AllOK root b) :
    AllOK root (a ++ b) := fun h hh => (List.mem_append.1 hh).elim (ha h) (hb h)

/-- what a call under a guard can do to the state of the `for` loop: it is not made; it returns
`None` (`'..'` met below: `break`); it returns hits with `first_found` set (`return`); it returns
hits and the loop goes on -/
theorem guarded_inv {c : Bool} {r : Unit → Res} {found : List Hit} {ff : Bool} {any : Nat}
    {x : LoopOut ⊕ (List Hit × Bool)} (h : guarded c r found ff any = .ok x) :
    (c = false ∧ x = .inr (found, ff)) ∨
    (c = true ∧ ∃ ff', r () = .ok ⟨none, ff'⟩ ∧ x = .inl (.brk found ff' any)) ∨
    (c = true ∧ ∃ hs, r () = .ok ⟨some hs, true⟩ ∧ x = .inl (.ret (found ++ hs) true)) ∨
    (c = true ∧ ∃ hs, r () = .ok ⟨some hs, false⟩ ∧ x = .inr (found ++ hs, false)) := by
  cases c with
  | false => cases h; exact .inl ⟨rfl, rfl⟩
  | true =>
    rw [guarded, if_pos rfl, afterCall.eq_def] at h
    split at h
    · cases h
    · rename_i ff' hr; cases h; exact .inr (.inl ⟨rfl, ff', hr, rfl⟩)
    · rename_i hs ff' hr
      cases ff' with
      | true => cases h; exact .inr (.inr (.inl ⟨rfl, hs, hr, rfl⟩))
      | false => cases h; exact .inr (.inr (.inr ⟨rfl, hs, hr, rfl⟩))

theorem Keeps.ok {root : XVal} {r : Res} (h : ∀ o, r = .ok o → ResOK root o) : Keeps (AllOK root) r :=
  fun hs _ e _ hf => hf.append (h _ e hs rfl)

theorem Keeps.ext (g : List Hit) (r : Res) : Keeps (g <+: ·) r :=
  fun _ _ _ _ hf => hf.trans (List.prefix_append _ _)

theorem guarded_keeps {P : List Hit → Prop} {c : Bool} {r : Unit → Res} {found : List Hit} {ff : Bool} {any : Nat}
    {x : LoopOut ⊕ (List Hit × Bool)} (hr : Keeps P (r ())) (hf : P found) (h : guarded c r found ff any = .ok x) :
    SumAll P x := by
  rcases guarded_inv h with ⟨_, rfl⟩ | ⟨_, _, _, rfl⟩ | ⟨_, hs, hr', rfl⟩ | ⟨_, hs, hr', rfl⟩
  · exact hf
  · exact hf
  · exact hr hs _ hr' _ hf
  · exact hr hs _ hr' _ hf

/-- the loop's per-tag counters (`indexes`) agree with `countTag` over the siblings already passed, for the tags the step selects -/
theorem cnt_step (st : Step) (any : Nat) (idxs : List (Str × Nat)) (pre : List Item) (t : Str) (a : Attr)
    (v : XVal) (hcnt : ∀ t', tagTest st t' any = true → cnt idxs t' = countTag t' pre) :
    ∀ t', tagTest st t' any = true → cnt (incr idxs t) t' = countTag t' (pre ++ [(t, a, v)]) := by
  intro t' ht'
  rw [cnt_incr, countTag_append]
  by_cases e : t' = t
  · subst e; simp [hcnt t' ht']
  · have e' : ¬ (t = t') := fun h => e h.symm
    simp [e, e', hcnt t' ht']

theorem cnt_skip (st : Step) (any : Nat) (idxs : List (Str × Nat)) (pre : List Item) (t : Str) (a : Attr)
    (v : XVal) (hcnt : ∀ t', tagTest st t' any = true → cnt idxs t' = countTag t' pre)
    (htt : tagTest st t any = false) :
    ∀ t', tagTest st t' any = true → cnt idxs t' = countTag t' (pre ++ [(t, a, v)]) := by
  intro t' ht'
  have : ¬ (t = t') := by intro e; subst e; rw [htt] at ht'; cases ht'
  rw [countTag_append, hcnt t' ht']
  simp [this]

theorem chain_keeps {P : List Hit → Prop} {c : Bool} {r : Unit → Res} {found : List Hit} {ff : Bool} {any : Nat}
    {k : List Hit → Bool → PyM LoopOut} {out : LoopOut} (hr : Keeps P (r ())) (hf : P found)
    (h : chain (guarded c r found ff any) k = .ok out)
    (hk : ∀ f1 ff1, P f1 → k f1 ff1 = .ok out → out.All P) : out.All P := by
  cases hx : guarded c r found ff any with
  | error e => rw [hx] at h; cases h
  | ok x =>
    rw [hx] at h
    have := guarded_keeps hr hf hx
    rcases x with out' | ⟨f1, ff1⟩
    · cases h; exact this
    · exact hk f1 ff1 this h

/-- what the `for` loop of a call at `passed` knows at a sibling: `passed` resolves to the node list
`pre ++ post` (`pre` passed already, `post` to come), its tags are addressable, the per-tag counters
agree with `pre`, and the calls below the siblings to come report only resolving pairs -/
structure LoopInv (F : Bool) (root : XVal) (st : Step) (passed : List Str) (any : Nat)
    (pre post : List Item) (idxs : List (Str × Nat)) : Prop where
  resolves : getL root passed = .ok (some (.nodes (pre ++ post)))
  good : goodItems (pre ++ post) = true
  counts : ∀ t, tagTest st t any = true → cnt idxs t = countTag t pre
  below : ∀ it ∈ post, FnOK root it.2.2 (recurse F it.2.2)

theorem LoopInv.shift {F root st passed any pre t a v post idxs idxs'}
    (h : LoopInv F root st passed any pre ((t, a, v) :: post) idxs)
    (hc : ∀ t', tagTest st t' any = true → cnt idxs' t' = countTag t' (pre ++ [(t, a, v)])) :
    LoopInv F root st passed any (pre ++ [(t, a, v)]) post idxs' :=
  have e : pre ++ (t, a, v) :: post = (pre ++ [(t, a, v)]) ++ post := by simp
  ⟨e ▸ h.resolves, e ▸ h.good, hc, fun it hit => h.below it (List.mem_cons_of_mem _ hit)⟩

/-- below a selected sibling every call starts from a path that resolves to its value -/
theorem LoopInv.call {F root st passed any pre t a v post idxs}
    (h : LoopInv F root st passed any pre ((t, a, v) :: post) idxs) (htt : tagTest st t any = true)
    (sought' : List Str) (ff : Bool) (o : Out)
    (ho : recurse F v sought' (passed ++ [stepName st t (cnt idxs t)]) any ff = .ok o) : ResOK root o := by
  refine h.below (t, a, v) List.mem_cons_self _ _ _ _ o ?_ ho
  rw [getL_append _ _ _ _ h.resolves, h.counts t htt]
  exact name_resolves st t a v pre post (goodItems_mid pre post t a v h.good).1

theorem forLoop_ok (F : Bool) (root : XVal) (st : Step) (sought passed : List Str) (any : Nat) (out : LoopOut) :
    ∀ (post : List Item) (found : List Hit) (idxs : List (Str × Nat)) (ff : Bool),
    forLoop st sought passed any (kidFns F post) found idxs ff = .ok out →
    ∀ (pre : List Item), LoopInv F root st passed any pre post idxs → AllOK root found → out.All (AllOK root) := by
  intro post
  induction post with
  | nil => intro found idxs ff h pre _ hf; rw [kidFns, forLoop] at h; cases h; exact hf
  | cons it post ih =>
    obtain ⟨t, a, v⟩ := it
    intro found idxs ff h pre hI hf
    rw [forLoop_chain] at h
    split at h
    · rename_i htt
      exact chain_keeps (.ok (hI.call htt _ _)) hf h fun f1 ff1 hf1 h1 =>
        chain_keeps (.ok (hI.call htt _ _)) hf1 h1 fun f2 ff2 hf2 h2 =>
          ih f2 _ ff2 h2 _ (hI.shift (cnt_step st any idxs pre t a v hI.counts)) hf2
    · rename_i htt
      exact ih found idxs ff h _ (hI.shift (cnt_skip st any idxs pre t a v hI.counts (Bool.eq_false_iff.mpr htt))) hf

/-- what the induction over the document knows of the children of `v`: addressable tags, and calls below them report
only resolving pairs -/
def KidsOK (F : Bool) (root v : XVal) : Prop :=
  ∀ items, v = .nodes items → goodItems items = true ∧
    ∀ it ∈ items, FnOK root it.2.2 (recurse F it.2.2)

/-- the ways a pass can end: the step is `'..'`; the value has children and the `for` loop runs over
them; it has none, and is reported when `**` is the last step -/
theorem iter_inv {v : XVal} {kids : List Kid} {sought passed : List Str} {any : Nat} {found : List Hit}
    {ff : Bool} {out : LoopOut} (h : iter v kids sought passed any found ff = .ok out) :
    (curStep any sought = dotdot ∧ out = .retNone ff) ∨
    ∃ st, curStep any sought ≠ dotdot ∧
      parseStep (curStep any sought) = some st ∧
      ((∃ x xs, v = .nodes (x :: xs) ∧
          forLoop st sought passed (anyAfter st sought) kids found [] ff = .ok out) ∨
       (isNonEmptyNodes v = false ∧ out = .ret
          (if anyAfter st sought = 2 ∧ isTextV v then found ++ [(passed, v)] else found) ff)) := by
  by_cases hcur : curStep any sought = dotdot
  · rw [iter_up hcur] at h
    cases h
    exact .inl ⟨hcur, rfl⟩
  · cases hp : parseStep (curStep any sought) with
    | none => rw [iter_noStep hcur hp] at h; cases h
    | some st =>
      refine .inr ⟨st, hcur, rfl, ?_⟩
      cases hne : isNonEmptyNodes v with
      | false =>
        rw [iter_leaf hcur hp hne] at h
        cases h
        exact .inr ⟨rfl, rfl⟩
      | true =>
        match v, hne with
        | .nodes (x :: xs), _ =>
          rw [iter_nodes hcur hp] at h
          exact .inl ⟨x, xs, rfl, h⟩

theorem iter_ok (F : Bool) (root v : XVal) (sought passed : List Str) (any : Nat)
    (found : List Hit) (ff : Bool) (out : LoopOut)
    (hroot : getL root passed = .ok (some v)) (hk : KidsOK F root v) (hf : AllOK root found)
    (h : iter v (kidsOf F v) sought passed any found ff = .ok out) : out.All (AllOK root) := by
  rcases iter_inv h with ⟨_, rfl⟩ | ⟨st, _, _, ⟨x, xs, rfl, hfl⟩ | ⟨_, rfl⟩⟩
  · trivial
  · obtain ⟨hgood, hP⟩ := hk _ rfl
    exact forLoop_ok F root st sought passed _ out _ found [] ff hfl [] ⟨hroot, hgood, fun _ _ => rfl, hP⟩ hf
  · show AllOK root _
    split
    · exact hf.append (fun x hx => by cases List.mem_singleton.1 hx; exact hroot)
    · exact hf

theorem finish_ok (F : Bool) (root v : XVal) (passed : List Str) (found : List Hit) (ff : Bool) (o : Out)
    (hroot : getL root passed = .ok (some v)) (hf : AllOK root found)
    (h : finish F v passed found ff = .ok o) : ResOK root o := by
  unfold finish at h
  simp at h; subst h
  intro hs hhs
  simp at hhs; subst hhs
  exact hf.append (fun x hx => by cases List.mem_singleton.1 hx; exact hroot)

theorem loopEmpty_ok (F : Bool) (root v : XVal) (passed : List Str) (any : Nat)
    (found : List Hit) (ff : Bool) (o : Out)
    (hroot : getL root passed = .ok (some v)) (hk : KidsOK F root v) (hf : AllOK root found)
    (h : loopEmpty F v (kidsOf F v) passed any found ff = .ok o) : ResOK root o := by
  revert h
  fun_cases loopEmpty F v (kidsOf F v) passed any found ff with
  | case1 => nofun
  | case2 => intro h; cases h; nofun
  | case3 _ f ff' hi =>
    intro h hs hhs
    cases h
    cases hhs
    exact iter_ok F root v [] passed any found ff _ hroot hk hf hi
  | case4 => nofun
  | case5 _ f ff' any' hi _ =>
    exact finish_ok F root v passed f ff' o hroot (iter_ok F root v [] passed any found ff _ hroot hk hf hi)
  | case6 => exact finish_ok F root v passed found ff o hroot hf

theorem whileLoop_ok (F : Bool) (root v : XVal) (passed : List Str)
    (hroot : getL root passed = .ok (some v)) (hk : KidsOK F root v)
    (sought : List Str) (any : Nat) (found : List Hit) (ff : Bool) (o : Out) (hf : AllOK root found)
    (h : whileLoop F v (kidsOf F v) passed sought any found ff = .ok o) : ResOK root o := by
  fun_induction whileLoop F v (kidsOf F v) passed sought any found ff with
  | case1 any found ff => exact loopEmpty_ok F root v passed any found ff o hroot hk hf h
  | case2 a rest any found ff e hi => cases h
  | case3 a rest any found ff ff' hi => cases h; exact nofun
  | case4 a rest any found ff f ff' hi =>
    cases h
    have := iter_ok F root v (a :: rest) passed any found ff _ hroot hk hf hi
    intro hs hhs; cases hhs; exact this
  | case5 a any found ff f ff' any' hi =>
    exact loopEmpty_ok F root v passed any' f ff' o hroot hk
      (iter_ok F root v [a] passed any found ff _ hroot hk hf hi) h
  | case6 a any found ff f ff' any' b rest' hi ih =>
    exact ih (iter_ok F root v (a :: b :: rest') passed any found ff _ hroot hk hf hi) h

theorem goodItems_mem {items : List Item} (hg : goodItems items = true) {it : Item} (hit : it ∈ items) :
    goodV it.2.2 = true := by
  obtain ⟨pre, post, rfl⟩ := List.append_of_mem hit
  exact (goodItems_mid pre post it.1 it.2.1 it.2.2 hg).2

theorem recurse_ok (F : Bool) (root : XVal) : ∀ (v : XVal), goodV v = true → FnOK root v (recurse F v) :=
  XVal.kidsInduct fun v ih hg sought passed any ff o hroot h => by
    rw [recurse_eq] at h
    refine whileLoop_ok F root v passed hroot ?_ sought any [] ff o nofun h
    intro items hv
    subst hv
    exact ⟨hg, fun it hit => ih _ rfl it hit (goodItems_mem hg hit)⟩

theorem items_ok (F : Bool) (root : XVal) : ∀ (items : List Item), goodItems items = true →
    ∀ it ∈ items, FnOK root it.2.2 (recurse F it.2.2) :=
  fun _ hg it hit => recurse_ok F root it.2.2 (goodItems_mem hg hit)

theorem findallL_resolves (F : Bool) (root : XVal) (hg : goodV root = true) (sought : List Str)
    (hs : List Hit) (h : findallL F root sought = .ok (some hs)) :
    ∀ p ∈ hs, getL root p.1 = .ok (some p.2) := by
  unfold findallL at h
  cases hr : recurse F root sought [] 0 false with
  | error e => rw [hr] at h; simp at h
  | ok o =>
    rw [hr] at h
    simp at h
    exact recurse_ok F root root hg sought [] 0 false o rfl hr hs h

/-! exact results of `findall` (`find_first=False`) when no `'..'` and no dive is involved -/

/-- the siblings one pass of the `for` loop keeps, each with what the continuation `k` reports below it.  `seen`: the siblings
already passed (the per-tag index of a sibling counts the earlier ones with its tag); `any`: the loop's `any_xpath` during the pass
(0 for a plain step, 2 for a last `**`; it only enters `tagTest`); `passed`: the path of the parent.  `selP` is this along plain
steps, `selG_deep` for `**` -/
def selG (st : Step) (any : Nat) (k : List Str → XVal → List Hit) (passed : List Str) :
    List Item → List Item → List Hit
  | _, [] => []
  | seen, (t, a, v) :: rest =>
    (if tagTest st t any && idxOk st.idx (countTag t seen) && condHolds st.cond v
      then k (passed ++ [stepName st t (countTag t seen)]) v else [])
    ++ selG st any k passed (seen ++ [(t, a, v)]) rest

theorem guarded_list (c : Bool) (r : Unit → Res) (found : List Hit) (any : Nat) (hs : List Hit)
    (hr : r () = .ok ⟨some hs, false⟩) :
    guarded c r found false any = .ok (.inr (if c then found ++ hs else found, false)) := by
  cases c with
  | false => rfl
  | true => rw [guarded, if_pos rfl, hr]; rfl

theorem forLoop_sel (st : Step) (sought passed : List Str) (any : Nat) (hany : any ≠ 1)
    (k : List Str → XVal → List Hit) (post : List Item) :
    ∀ (pre : List Item) (found : List Hit) (idxs : List (Str × Nat)),
    (∀ t, tagTest st t any = true → cnt idxs t = countTag t pre) →
    (∀ it ∈ post, ∀ passed', recurse false it.2.2 (sought.drop 1) passed' any false
        = .ok ⟨some (k passed' it.2.2), false⟩) →
    forLoop st sought passed any (kidFns false post) found idxs false
      = .ok (.ret (found ++ selG st any k passed pre post) false) := by
  induction post with
  | nil => intro pre found idxs _ _; rw [kidFns, forLoop, selG, List.append_nil]
  | cons it post ih =>
    obtain ⟨t, a, v⟩ := it
    intro pre found idxs hcnt hk
    have hk' : ∀ it ∈ post, ∀ passed', recurse false it.2.2 (sought.drop 1) passed' any false
        = .ok ⟨some (k passed' it.2.2), false⟩ := fun it hit => hk it (List.mem_cons_of_mem _ hit)
    rw [selG]
    by_cases htt : tagTest st t any = true
    · have h1 := guarded_list (idxOk st.idx (cnt idxs t) && condHolds st.cond v)
        (fun _ => recurse false v (sought.drop 1) (passed ++ [stepName st t (cnt idxs t)]) any false) found any _
        (hk (t, a, v) List.mem_cons_self _)
      -- no dive: `any ≠ 1`
      have h2 : ∀ f1, guarded (any == 1)
          (fun _ => recurse false v sought (passed ++ [stepName st t (cnt idxs t)]) any false) f1 false any
          = .ok (.inr (f1, false)) := fun f1 => by rw [beq_false_of_ne hany]; rfl
      simp only [forLoop_chain, htt, ↓reduceIte, h1, h2, chain]
      rw [ih _ _ _ (cnt_step st any idxs pre t a v hcnt) hk', Bool.true_and, hcnt t htt]
      cases idxOk st.idx (countTag t pre) && condHolds st.cond v <;> simp
    · have htt' := Bool.eq_false_iff.mpr htt
      rw [forLoop_chain, htt', if_neg Bool.false_ne_true,
        ih _ _ _ (cnt_skip st any idxs pre t a v hcnt htt') hk']
      rfl

/-- the step appended for the `k`-th sibling with tag `t` when no index was requested -/
def nameOf (t : Str) (k : Nat) : Str := t ++ (if k != 0 then '[' :: (dec k ++ [']']) else [])

/-- the three writers of a found step `tag[k]`: the model's `stepName st` writes the index when the step asked for a non-zero one or the
sibling is not the first of its tag, `nameOf` when the sibling is not the first, `renderStep` (the argument of `_get`) always.
(`renderStepE`, Proofs/NXmlExpr, writes a step of the EXPRESSION.) -/
theorem stepName_eq (st : Step) (t : Str) (k : Nat) :
    stepName st t k = if idxTruthy st.idx then renderStep (t, k) else nameOf t k := by
  cases h : idxTruthy st.idx <;> simp [stepName, nameOf, renderStep, h]

mutual
/-- the leaves (values that are not node lists) below a value, in document order, each with the
path `tag`/`tag[k]` … from `passed` down to it -/
def leavesV (passed : List Str) : XVal → List Hit
  | .text t => [(passed, .text t)]
  | .nodes items => leavesI passed [] items
def leavesI (passed : List Str) : List Item → List Item → List Hit
  | _, [] => []
  | seen, (t, a, v) :: rest =>
    leavesV (passed ++ [nameOf t (countTag t seen)]) v ++ leavesI passed (seen ++ [(t, a, v)]) rest
end

/-- the step `**` as the regex reads it -/
def stDeep : Step := { tag := star2, idx := none, cond := none }

theorem parseStep_star2 : parseStep star2 = some stDeep := by decide

theorem selG_deep (passed : List Str) (post : List Item) : ∀ (seen : List Item),
    selG stDeep 2 leavesV passed seen post = leavesI passed seen post := by
  induction post with
  | nil => intro seen; simp [selG, leavesI]
  | cons it post ih =>
    obtain ⟨t, a, v⟩ := it
    intro seen
    have : stepName stDeep t (countTag t seen) = nameOf t (countTag t seen) := stepName_eq stDeep t _
    simp only [selG, leavesI, ih, this]
    simp [tagTest, stDeep, idxOk, condHolds]

/-- a pass that reads `**` as its last step (`any_xpath` becomes 2) reports the leaves below the
value, given that the calls below its children do -/
theorem iter_deep (v : XVal) (sought passed : List Str) (any : Nat)
    (hcur : curStep any sought = star2) (hd : sought.drop 1 = [])
    (hk : ∀ items, v = .nodes items → ∀ it ∈ items, ∀ p',
      recurse false it.2.2 [] p' 2 false = .ok ⟨some (leavesV p' it.2.2), false⟩) :
    iter v (kidsOf false v) sought passed any [] false = .ok (.ret (leavesV passed v) false) := by
  have hne : curStep any sought ≠ dotdot := by rw [hcur]; decide
  have hp : parseStep (curStep any sought) = some stDeep := by
    rw [hcur]; exact parseStep_star2
  -- nothing but `**` is left: `any_xpath` becomes 2
  have hany : anyAfter stDeep sought = 2 := by rw [anyAfter, hd]; rfl
  match v with
  | .text t => rw [iter_leaf hne hp rfl, hany, if_pos ⟨rfl, rfl⟩]; rfl
  | .nodes [] => rw [iter_leaf hne hp rfl, hany, if_neg (fun h => nomatch h.2)]; rfl
  | .nodes (x :: xs) =>
    rw [iter_nodes hne hp, hany]
    exact (forLoop_sel stDeep sought passed 2 (by decide) leavesV (x :: xs) [] [] []
      (fun _ _ => rfl) (by rw [hd]; exact hk _ rfl)).trans (by rw [selG_deep]; rfl)

theorem deep_value : ∀ (v : XVal) (passed : List Str),
    recurse false v [] passed 2 false = .ok ⟨some (leavesV passed v), false⟩ :=
  XVal.kidsInduct fun v ih passed => by
    rw [recurse_eq, whileLoop_nil, loopEmpty, if_pos rfl,
      iter_deep v [] passed 2 rfl rfl ih]

/-- `findall('**')` (list form `['**']`) -/
theorem findallL_deep (root : XVal) : findallL false root [star2] = .ok (some (leavesV [] root)) := by
  rw [findallL, recurse_eq, whileLoop_ret _ _ _ _ _ _ _ _ _ _ _ (iter_deep root [star2] [] 0 rfl rfl
    (fun _ _ it _ => deep_value it.2.2))]

/-- `s` is a step the regex reads as `st`, it is not `**…` and not `..`.  The last clause follows from the first (`parseStep dotdot
= none`); it is spelled out because the loop tests it first, before it parses the step.  For a step of the grammar:
`simple_render` (Proofs/NXmlExpr) -/
def Simple (s : Str) (st : Step) : Prop := parseStep s = some st ∧ st.tag ≠ star2 ∧ s ≠ dotdot

inductive AllSimple : List Str → List Step → Prop
  | nil : AllSimple [] []
  | cons {s st ss sts} : Simple s st → AllSimple ss sts → AllSimple (s :: ss) (st :: sts)

/-- sibling-filter semantics of an expression of plain steps (`P`: plain, `Simple`): `selG` step after step -/
def selP : List Step → List Str → XVal → List Hit
  | [], passed, v => [(passed, v)]
  | st :: rest, passed, .nodes items => selG st 0 (selP rest) passed [] items
  | _ :: _, _, .text _ => []

/-- the last step: what is left is to report the selected sibling itself -/
theorem selP_one (st : Step) (passed : List Str) (items : List Item) :
    selP [st] passed (.nodes items) = selG st 0 (fun p v => [(p, v)]) passed [] items := rfl

theorem simple_path (ss : List Str) (sts : List Step) (h : AllSimple ss sts) :
    ∀ (v : XVal) (passed : List Str),
    recurse false v ss passed 0 false = .ok ⟨some (selP sts passed v), false⟩ := by
  induction h with
  | nil =>
    intro v passed
    cases v <;> simp [recurse_eq, whileLoop_nil, loopEmpty, finish, selP]
  | @cons s st ss sts hs _ ih =>
    obtain ⟨hp, htag, hdd⟩ := hs
    have hany : anyAfter st (s :: ss) = 0 := by simp [anyAfter, htag]
    have hcur : curStep 0 (s :: ss) ≠ dotdot := hdd
    have hp' : parseStep (curStep 0 (s :: ss)) = some st := hp
    intro v passed
    rw [recurse_eq]
    refine whileLoop_ret _ _ _ _ _ _ _ _ _ _ _ ?_
    match v with
    | .text _ | .nodes [] =>
      rw [iter_leaf hcur hp' rfl, hany, if_neg (fun h => nomatch h.1)]
      rfl
    | .nodes (x :: xs) =>
      rw [iter_nodes hcur hp', hany]
      exact (forLoop_sel st (s :: ss) passed 0 (by decide) (selP sts) (x :: xs) [] [] []
        (fun _ _ => rfl) (fun it _ passed' => ih it.2.2 passed')).trans rfl

theorem findallL_simple (root : XVal) (ss : List Str) (sts : List Step)
    (h : AllSimple ss sts) : findallL false root ss = .ok (some (selP sts [] root)) := by
  simp [findallL, simple_path ss sts h root []]

theorem tagTest_simple (st : Step) (h : st.tag ≠ star2) (t : Str) :
    tagTest st t 0 = (t == st.tag || st.tag == star) := by
  simp [tagTest, h]

end N0.NXml
