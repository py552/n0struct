import N0Verif.Proofs.NXmlFind
/-!
  C18: `find_first=True` against `find_first=False` for **every** step list, `'..'` included (the `'..'` protocol of
  `recurse`: `return None` / `sought = sought[2:]; break`), for the code with fix C18-d applied
  (`return found + [(passed, items)]`): `findfirst` is the first `findall` result, `in` its non-emptiness (`findfirst_all`).

  The remaining steps decide STATICALLY (`kindL`) whether a call returns a list (first kind) or `None`/`[]` (second kind:
  a `'..'` leaves the searched node); the two runs are compared level by level, each level with its relation:
  two results of a call (`Sync`, `NSync`, `CallSync kd`; of all calls on a value `FnSync` and `FnSyncG`, both consequences of `FnKindSync`),
  two outcomes of one pass (`PassSync k0 k1`), two results of the `while` loop from hits `found` (`WSync found`; `WSync []` is `Sync`).
-/
namespace N0.NXml
open N0 N0.Py

/-! `kindL sought` is a *static* classification of the remaining steps of a `recurse` call:
`true`  — the call always returns a list,
`false` — the call returns `None` or the empty list (and never sets `first_found`).
A `'..'` at the head makes the call return `None`; a step whose continuation is of the second
kind can only `break` (`sought = sought[2:]`), so its kind is the kind of what follows the
step after it. -/

def kindL : List Str → Bool
  | [] => true
  | a :: rest => if a = dotdot then false else if kindL rest then true else kindL (rest.drop 1)
termination_by s => s.length
decreasing_by
  all_goals simp only [List.length_cons, List.length_drop]
  all_goals omega

theorem kindL_nil : kindL [] = true := by rw [kindL]

theorem kindL_cons (a : Str) (rest : List Str) :
    kindL (a :: rest) = if a = dotdot then false else if kindL rest then true else kindL (rest.drop 1) := by
  rw [kindL]

theorem kindL_up (rest : List Str) : kindL (dotdot :: rest) = false := by
  rw [kindL_cons]; simp

theorem kindL_of_rest (a : Str) (rest : List Str) (ha : a ≠ dotdot) (h : kindL rest = true) :
    kindL (a :: rest) = true := by
  rw [kindL_cons]; simp [ha, h]

theorem kindL_skip (a : Str) (rest : List Str) (ha : a ≠ dotdot) (h : kindL rest = false) :
    kindL (a :: rest) = kindL (rest.drop 1) := by
  rw [kindL_cons]; simp [ha, h]

def NoUp (sought : List Str) : Prop := ∀ s ∈ sought, s ≠ dotdot

theorem kindL_noUp (s : List Str) (h : NoUp s) : kindL s = true := by
  induction s with
  | nil => exact kindL_nil
  | cons a rest ih =>
    exact kindL_of_rest a rest (h a (by simp)) (ih (fun x hx => h x (by simp [hx])))

theorem kindL_stars (s : List Str) (h : ∀ x ∈ s, x = star2) : kindL s = true :=
  kindL_noUp s fun x hx => by rw [h x hx]; decide

/-- the `find_first=False` run returns a list and leaves `first_found` unset; the `True` run
returns a prefix of it — all of it unless `first_found` got set, and then a non-empty one -/
def Sync (rF rT : Res) : Prop :=
  ∀ o, rF = .ok o → ∃ hs, o = ⟨some hs, false⟩ ∧ ∃ hs' ff', rT = .ok ⟨some hs', ff'⟩ ∧
    hs' <+: hs ∧ (ff' = false → hs' = hs) ∧ (ff' = true → hs' ≠ [])

def FnSync (v : XVal) : Prop :=
  ∀ sought passed any, NoUp sought →
    Sync (recurse false v sought passed any false) (recurse true v sought passed any false)

/-- a call of the second kind: `None` or `[]`, `first_found` untouched, and the `find_first=True`
run does exactly the same -/
def NSync (rF rT : Res) : Prop :=
  ∀ o, rF = .ok o → (o = ⟨none, false⟩ ∨ o = ⟨some [], false⟩) ∧ rT = .ok o

def CallSync (kd : Bool) (rF rT : Res) : Prop := if kd then Sync rF rT else NSync rF rT

/-- entry condition of a call: `any_xpath == 2` is only handed down with nothing but `**` left -/
def AnyOK (any : Nat) (sought : List Str) : Prop := any = 2 → ∀ x ∈ sought, x = star2

/-- the suffix `G` (general) marks, here and in the lemma names, what speaks of calls of both kinds; the names without it
(`Sync`, `FnSync`, `recurse_sync`) are the first kind alone -/
def FnSyncG (v : XVal) : Prop :=
  ∀ sought passed any, AnyOK any sought →
    CallSync (kindL sought) (recurse false v sought passed any false) (recurse true v sought passed any false)

/-- `FnSyncG` with `AnyOK` asked only of steps of the second kind: the stronger statement, and the one the induction over the
document carries (the calls on the children are made before `AnyOK` is known of them) -/
def FnKindSync (v : XVal) : Prop :=
  ∀ sought passed any, (kindL sought = false → AnyOK any sought) →
    CallSync (kindL sought) (recurse false v sought passed any false) (recurse true v sought passed any false)

theorem guarded_syncG (kd c : Bool) (rF rT : Res) (found : List Hit) (any : Nat)
    (h : c = true → CallSync kd rF rT) (xF : LoopOut ⊕ (List Hit × Bool))
    (hF : guarded c (fun _ => rF) found false any = .ok xF) :
    (∃ f1, xF = .inr (f1, false) ∧ found <+: f1 ∧ (kd = false → f1 = found) ∧
      (guarded c (fun _ => rT) found false any = .ok (.inr (f1, false)) ∨
       ∃ f1', guarded c (fun _ => rT) found false any = .ok (.inl (.ret f1' true)) ∧
          f1' <+: f1 ∧ f1' ≠ [] ∧ kd = true)) ∨
    (xF = .inl (.brk found false any) ∧ kd = false ∧
      guarded c (fun _ => rT) found false any = .ok (.inl (.brk found false any))) := by
  -- the `True` run of the call, once its result is known
  have hcall : ∀ o, rT = .ok o → guarded true (fun _ => rT) found false any = afterCall (.ok o) found any :=
    fun o hT => by rw [guarded, if_pos rfl, hT]
  rcases guarded_inv hF with ⟨rfl, rfl⟩ | ⟨rfl, ff', hr, rfl⟩ | ⟨rfl, hs, hr, rfl⟩ | ⟨rfl, hs, hr, rfl⟩
  · exact .inl ⟨found, rfl, List.prefix_refl _, fun _ => rfl, .inl rfl⟩
  · cases kd with
    | true => obtain ⟨_, ho, _⟩ := h rfl _ hr; cases ho
    | false =>
      obtain ⟨ho, hT⟩ := h rfl _ hr
      rcases ho with ho | ho <;> cases ho
      exact .inr ⟨rfl, rfl, (hcall _ hT).trans rfl⟩
  · cases kd with
    | true => obtain ⟨_, ho, _⟩ := h rfl _ hr; cases ho
    | false => obtain ⟨ho, _⟩ := h rfl _ hr; rcases ho with ho | ho <;> cases ho
  · cases kd with
    | true =>
      obtain ⟨_, ho, hs', ff', hT, hpre, heq, hne⟩ := h rfl _ hr
      cases ho
      refine .inl ⟨found ++ hs, rfl, List.prefix_append _ _, nofun, ?_⟩
      cases ff' with
      | false => cases heq rfl; exact .inl ((hcall _ hT).trans rfl)
      | true =>
        exact .inr ⟨found ++ hs', (hcall _ hT).trans rfl, (List.prefix_append_right_inj found).2 hpre,
          by simp [hne rfl], rfl⟩
    | false =>
      obtain ⟨ho, hT⟩ := h rfl _ hr
      rcases ho with ho | ho <;> cases ho
      exact .inl ⟨found ++ [], rfl, List.prefix_append _ _, fun _ => List.append_nil _,
        .inl ((hcall _ hT).trans rfl)⟩

theorem forLoop_ext (F : Bool) (st : Step) (sought passed : List Str) (any : Nat) (out : LoopOut) (g : List Hit) :
    ∀ (post : List Item) (found : List Hit) (idxs : List (Str × Nat)) (ff : Bool),
    forLoop st sought passed any (kidFns F post) found idxs ff = .ok out → g <+: found → out.All (g <+: ·) := by
  intro post
  induction post with
  | nil => intro found idxs ff h hg; rw [kidFns, forLoop] at h; cases h; exact hg
  | cons it post ih =>
    obtain ⟨t, a, v⟩ := it
    intro found idxs ff h hg
    rw [forLoop_chain] at h
    split at h
    · exact chain_keeps (.ext g _) hg h fun f1 ff1 hg1 h1 =>
        chain_keeps (.ext g _) hg1 h1 fun f2 ff2 hg2 h2 => ih f2 _ ff2 h2 hg2
    · exact ih found idxs ff h hg

/-- the `find_first=True` run has returned already, with a non-empty prefix of the hits `f` -/
def StopsEarly (f : List Hit) (rT : PyM LoopOut) : Prop :=
  ∃ f', rT = .ok (.ret f' true) ∧ f' <+: f ∧ f' ≠ []

/-- how the two runs of one `for` pass relate when the loop can collect hits: the `False` run ends the
pass with hits `f` (or breaks out of it, when the calls below are of the second kind), and the
`True` run does the same or has stopped early -/
def LoopSyncG (k1 : Bool) (any : Nat) (out : LoopOut) (rT : PyM LoopOut) : Prop :=
  ∃ f, (out = .ret f false ∨ k1 = false ∧ out = .brk f false any) ∧ (rT = .ok out ∨ StopsEarly f rT)

/-- how the two runs of one `for` pass relate, from the state with hits `found`.  `k0` is the kind of the step list the pass
works on (and of its "one more dive" calls), `k1` the kind of the calls on `sought[1:]`.  With steps of the second kind
(`k0 = false`) nothing is collected and the `find_first=True` run is the same run -/
def PassSync (k0 k1 : Bool) (any : Nat) (found : List Hit) (out : LoopOut) (rT : PyM LoopOut) : Prop :=
  LoopSyncG k1 any out rT ∧
    (k0 = false → (out = .ret found false ∨ out = .brk found false any) ∧ rT = .ok out)

/-- a call of kind `kd` under its guard, then the rest of the pass.  A pass of kind `k0` makes calls of kind `k1` (on `sought[1:]`)
and of kind `k0` ("one more dive"), with `k0 = false → k1 = false`.  `h0`, `h1` say that `kd` is one of the two, in the one form
that fits both uses: with `kd = k1` one passes that fact and `id`, with `kd = k0` `id` and that fact -/
theorem chain_sync {k0 k1 kd : Bool} (h0 : k0 = false → kd = false) (h1 : kd = false → k1 = false)
    {c : Bool} {rF rT : Res} {found : List Hit} {any : Nat} (hc : c = true → CallSync kd rF rT)
    {kF kT : List Hit → Bool → PyM LoopOut} {out : LoopOut}
    (hF : chain (guarded c (fun _ => rF) found false any) kF = .ok out)
    (hk : ∀ f1, kF f1 false = .ok out → out.All (f1 <+: ·) ∧ PassSync k0 k1 any f1 out (kT f1 false)) :
    PassSync k0 k1 any found out (chain (guarded c (fun _ => rT) found false any) kT) := by
  cases hx : guarded c (fun _ => rF) found false any with
  | error e => rw [hx] at hF; cases hF
  | ok xF =>
    rw [hx] at hF
    rcases guarded_syncG kd c rF rT found any hc xF hx with
      ⟨f1, rfl, _, hf1, hT | ⟨f1', hT, hp', hne, hkd⟩⟩ | ⟨rfl, hkd, hT⟩
    · obtain ⟨_, hL, hS⟩ := hk f1 hF
      rw [hT]
      refine ⟨hL, fun hk0 => ?_⟩
      cases hf1 (h0 hk0)
      exact hS hk0
    · -- the `True` run stops in this call; whatever the `False` run collects later extends its hits
      obtain ⟨hext, ⟨f, hsh, _⟩, _⟩ := hk f1 hF
      have hf : f1 <+: f := by rcases hsh with rfl | ⟨_, rfl⟩ <;> exact hext
      rw [hT]
      exact ⟨⟨f, hsh, .inr ⟨f1', rfl, hp'.trans hf, hne⟩⟩, fun hk0 => by cases (h0 hk0).symm.trans hkd⟩
    · -- `'..'` met below: both runs break
      cases hF
      rw [hT]
      exact ⟨⟨found, .inr ⟨h1 hkd, rfl⟩, .inl rfl⟩, fun _ => ⟨.inr rfl, rfl⟩⟩

theorem forLoop_passSync (st : Step) (sought passed : List Str) (any : Nat) (k0 k1 : Bool)
    (hk01 : k0 = false → k1 = false) (out : LoopOut) :
    ∀ (post : List Item) (found : List Hit) (idxs : List (Str × Nat)),
    forLoop st sought passed any (kidFns false post) found idxs false = .ok out →
    (∀ it ∈ post, ∀ p', CallSync k1 (recurse false it.2.2 (sought.drop 1) p' any false)
        (recurse true it.2.2 (sought.drop 1) p' any false)) →
    (any = 1 → ∀ it ∈ post, ∀ p', CallSync k0 (recurse false it.2.2 sought p' any false)
        (recurse true it.2.2 sought p' any false)) →
    PassSync k0 k1 any found out (forLoop st sought passed any (kidFns true post) found idxs false) := by
  intro post
  induction post with
  | nil =>
    intro found idxs h _ _
    rw [kidFns, forLoop] at h ⊢
    cases h
    exact ⟨⟨found, .inl rfl, .inl rfl⟩, fun _ => ⟨.inl rfl, rfl⟩⟩
  | cons it post ih =>
    obtain ⟨t, a, v⟩ := it
    intro found idxs h hK1 hK
    have hK1' : ∀ it ∈ post, _ := fun it hit => hK1 it (List.mem_cons_of_mem _ hit)
    have hK' : any = 1 → ∀ it ∈ post, _ := fun ha it hit => hK ha it (List.mem_cons_of_mem _ hit)
    rw [forLoop_chain] at h ⊢
    by_cases htt : tagTest st t any = true
    · rw [if_pos htt] at h ⊢
      refine chain_sync hk01 id (fun _ => hK1 (t, a, v) List.mem_cons_self _) h fun f1 h1 => ⟨?_, ?_⟩
      · exact chain_keeps (.ext f1 _) (List.prefix_refl _) h1 fun f2 ff2 hf2 h2 =>
          forLoop_ext false st sought passed any out f1 post f2 _ ff2 h2 hf2
      · exact chain_sync id hk01 (fun hc => hK (by simpa using hc) (t, a, v) List.mem_cons_self _) h1
          fun f2 h2 => ⟨forLoop_ext false st sought passed any out f2 post f2 _ false h2 (List.prefix_refl _), ih f2 _ h2 hK1' hK'⟩
    · rw [if_neg htt] at h ⊢
      exact ih found idxs h hK1' hK'

theorem anyAfter_two (st : Step) (sought : List Str) (h : anyAfter st sought = 2) :
    ∀ x ∈ sought.drop 1, x = star2 := by
  unfold anyAfter at h
  split at h
  · simp at h
  · split at h
    · simp at h
    · rename_i hno
      intro x hx
      simp only [List.any_eq_true, not_exists, not_and] at hno
      have := hno x hx
      simpa using this

def KidsSync (v : XVal) : Prop := ∀ items, v = .nodes items → ∀ it ∈ items, FnKindSync it.2.2

theorem kindL_drop_false {sought : List Str} {any : Nat} (hkind : kindL sought = false) (hany : AnyOK any sought)
    (hcur : curStep any sought ≠ dotdot) : any ≠ 2 ∧ kindL (sought.drop 1) = false := by
  have hany2 : any ≠ 2 := fun e => by rw [kindL_stars sought (hany e)] at hkind; cases hkind
  refine ⟨hany2, ?_⟩
  cases sought with
  | nil => rw [kindL_nil] at hkind; cases hkind
  | cons a rest =>
    have ha : a ≠ dotdot := by simpa [curStep, hany2] using hcur
    show kindL rest = false
    cases hr : kindL rest with
    | false => rfl
    | true => rw [kindL_of_rest a rest ha hr] at hkind; cases hkind

/-- one pass of the `while` body, both kinds of step list: it meets `'..'` at once, or the two runs relate as the
two runs of the `for` pass do -/
theorem iter_sync (v : XVal) (sought passed : List Str) (any : Nat) (found : List Hit) (hk : KidsSync v)
    (hany : kindL sought = false → AnyOK any sought)
    (out : LoopOut) (h : iter v (kidsOf false v) sought passed any found false = .ok out) :
    (curStep any sought = dotdot ∧ out = .retNone false ∧
      iter v (kidsOf true v) sought passed any found false = .ok out) ∨
    (curStep any sought ≠ dotdot ∧ ∃ a',
      PassSync (kindL sought) (kindL (sought.drop 1)) a' found out
        (iter v (kidsOf true v) sought passed any found false) ∧
      (a' = 2 → kindL (sought.drop 1) = true)) := by
  rcases iter_inv h with ⟨hcur, rfl⟩ | ⟨st, hcur, hp, hout⟩
  · exact .inl ⟨hcur, rfl, iter_up hcur⟩
  · have h2 : anyAfter st sought = 2 → kindL (sought.drop 1) = true :=
      fun h2 => kindL_stars _ (anyAfter_two st sought h2)
    have hk01 : kindL sought = false → kindL (sought.drop 1) = false :=
      fun hkind => (kindL_drop_false hkind (hany hkind) hcur).2
    refine .inr ⟨hcur, anyAfter st sought, ?_, h2⟩
    rcases hout with ⟨x, xs, rfl, hfl⟩ | ⟨hne, rfl⟩
    · have hK := hk _ rfl
      rw [iter_nodes hcur hp]
      exact forLoop_passSync st sought passed _ (kindL sought) (kindL (sought.drop 1)) hk01 out _ found [] hfl
        (fun it hit p' => hK it hit (sought.drop 1) p' _ (fun _ h2 => anyAfter_two st sought h2))
        (fun ha it hit p' => hK it hit sought p' (anyAfter st sought) (by intro _ h2; omega))
    · rw [iter_leaf hcur hp hne]
      refine ⟨⟨_, .inl rfl, .inl rfl⟩, fun hkind => ?_⟩
      have hn2 : anyAfter st sought ≠ 2 := fun e => by rw [h2 e] at hk01; cases hk01 hkind
      rw [if_neg (fun h => hn2 h.1)]
      exact ⟨.inl rfl, rfl⟩

theorem iter_ext (F : Bool) (v : XVal) (sought passed : List Str) (any : Nat)
    (found : List Hit) (ff : Bool) (out : LoopOut)
    (h : iter v (kidsOf F v) sought passed any found ff = .ok out) : out.All (found <+: ·) := by
  rcases iter_inv h with ⟨_, rfl⟩ | ⟨st, _, _, ⟨x, xs, rfl, hfl⟩ | ⟨_, rfl⟩⟩
  · trivial
  · exact forLoop_ext F _ _ _ _ _ _ _ _ _ _ hfl (List.prefix_refl _)
  · show found <+: _
    split
    · exact List.prefix_append _ _
    · exact List.prefix_refl _

/-- the two runs of the `while` loop from the hits `found`, steps of the first kind: `Sync`, and the list extends `found` -/
def WSync (found : List Hit) (rF rT : Res) : Prop :=
  ∀ o, rF = .ok o → ∃ hs, o = ⟨some hs, false⟩ ∧ found <+: hs ∧ ∃ hs' ff', rT = .ok ⟨some hs', ff'⟩ ∧
    hs' <+: hs ∧ (ff' = false → hs' = hs) ∧ (ff' = true → hs' ≠ [])

/-- from a pass to the call: when the `True` run of the pass returns what the `False` run returns,
or has stopped early, the `True` run of the call relates to the hits `f` as `Sync` asks -/
theorem sync_of_stops {f : List Hit} {rT : PyM LoopOut} {rT' : Res}
    (h : rT = .ok (.ret f false) ∨ StopsEarly f rT)
    (hret : ∀ f' ff', rT = .ok (.ret f' ff') → rT' = .ok ⟨some f', ff'⟩) :
    ∃ hs' ff', rT' = .ok ⟨some hs', ff'⟩ ∧ hs' <+: f ∧ (ff' = false → hs' = f) ∧ (ff' = true → hs' ≠ []) := by
  rcases h with h | ⟨f', h, hp, hne⟩
  · exact ⟨f, false, hret _ _ h, List.prefix_refl _, fun _ => rfl, nofun⟩
  · exact ⟨f', true, hret _ _ h, hp, nofun, fun _ => hne⟩

theorem loopEmpty_syncG (v : XVal) (passed : List Str) (any : Nat)
    (found : List Hit) (hk : KidsSync v) :
    WSync found (loopEmpty false v (kidsOf false v) passed any found false)
      (loopEmpty true v (kidsOf true v) passed any found false) := by
  unfold loopEmpty
  split
  · intro o ho
    cases hi : iter v (kidsOf false v) [] passed any found false with
    | error e => rw [hi] at ho; simp at ho
    | ok out =>
      have hmono := iter_ext false _ _ _ _ _ _ _ hi
      rcases iter_sync v [] passed any found hk (fun h => by rw [kindL_nil] at h; cases h) out hi with
        ⟨hcur, _, _⟩ | ⟨_, a', ⟨hL, _⟩, _⟩
      · unfold curStep at hcur
        split at hcur <;> cases hcur
      obtain ⟨f, rfl | ⟨hk1, _⟩, hT⟩ := hL
      · rw [hi] at ho
        cases ho
        exact ⟨f, rfl, hmono, sync_of_stops hT (fun f' ff' e => by rw [e])⟩
      · cases kindL_nil.symm.trans hk1
  · intro o ho
    simp [finish] at ho
    subst ho
    exact ⟨found ++ [(passed, v)], rfl, List.prefix_append _ _, found ++ [(passed, v)], !passed.isEmpty,
      by simp [finish], List.prefix_refl _, fun _ => rfl, by simp⟩

theorem whileLoop_syncG (v : XVal) (passed : List Str) (hk : KidsSync v) :
    ∀ (sought : List Str) (any : Nat) (found : List Hit),
    (kindL sought = true → WSync found (whileLoop false v (kidsOf false v) passed sought any found false)
        (whileLoop true v (kidsOf true v) passed sought any found false)) ∧
    (kindL sought = false → AnyOK any sought → NSync (whileLoop false v (kidsOf false v) passed sought any [] false)
        (whileLoop true v (kidsOf true v) passed sought any [] false))
  | [], any, found => by
    refine ⟨fun _ => ?_, fun h => by rw [kindL_nil] at h; cases h⟩
    rw [whileLoop_nil, whileLoop_nil]
    exact loopEmpty_syncG v passed any found hk
  | a :: rest, any, found => by
      constructor
      · intro hkind o ho
        rw [whileLoop] at ho
        cases hi : iter v (kidsOf false v) (a :: rest) passed any found false with
        | error e => rw [hi] at ho; simp at ho
        | ok out =>
          have hmono := iter_ext false _ _ _ _ _ _ _ hi
          rw [hi] at ho
          rcases iter_sync v (a :: rest) passed any found hk (fun h => by rw [hkind] at h; cases h) out hi with
            ⟨hcur, _, _⟩ | ⟨hcur, a', ⟨hL, _⟩, ha'⟩
          · -- steps of the first kind do not begin with `'..'`
            unfold curStep at hcur
            split at hcur
            · cases hcur
            · cases hcur; cases (kindL_up rest).symm.trans hkind
          simp only [List.drop_succ_cons, List.drop_zero] at hL ha'
          obtain ⟨f, rfl | ⟨hk1, rfl⟩, hT⟩ := hL
          · cases ho
            exact ⟨f, rfl, hmono, sync_of_stops hT (fun f' ff' e => by rw [whileLoop, e])⟩
          · cases rest with
            | nil => rw [kindL_nil] at hk1; cases hk1
            | cons b rest' =>
              simp only at ho
              have ha : a ≠ dotdot := by
                intro e; subst e; rw [kindL_up] at hkind; cases hkind
              have hkr : kindL rest' = true := by
                rw [kindL_skip a (b :: rest') ha hk1] at hkind
                simpa using hkind
              have hIH := (whileLoop_syncG v passed hk rest' a' f).1 hkr
              obtain ⟨hs, ho', hfh, hs', ff', hT', hpre, heq, hne⟩ := hIH o ho
              refine ⟨hs, ho', List.IsPrefix.trans hmono hfh, ?_⟩
              rcases hT with hT | ⟨f', hT, hp', hne'⟩
              · exact ⟨hs', ff', by rw [whileLoop, hT]; exact hT', hpre, heq, hne⟩
              · exact ⟨f', true, by rw [whileLoop, hT], List.IsPrefix.trans hp' hfh, by simp, fun _ => hne'⟩
      · intro hkind hany o ho
        rw [whileLoop] at ho
        cases hi : iter v (kidsOf false v) (a :: rest) passed any [] false with
        | error e => rw [hi] at ho; simp at ho
        | ok out =>
          rw [hi] at ho
          rcases iter_sync v (a :: rest) passed any [] hk (fun _ => hany) out hi with
            ⟨_, rfl, hT⟩ | ⟨hcur, a', ⟨_, hS⟩, ha'⟩
          · cases ho
            exact ⟨Or.inl rfl, by rw [whileLoop, hT]⟩
          · obtain ⟨hany2, hk1⟩ := kindL_drop_false hkind hany hcur
            obtain ⟨rfl | rfl, hT⟩ := hS hkind
            · cases ho
              exact ⟨Or.inr rfl, by rw [whileLoop, hT]⟩
            · simp only [List.drop_succ_cons, List.drop_zero] at hk1 ha'
              cases rest with
              | nil => rw [kindL_nil] at hk1; cases hk1
              | cons b rest' =>
                simp only at ho
                have ha : a ≠ dotdot := by simpa [curStep, hany2] using hcur
                have hkr : kindL rest' = false := by
                  rw [kindL_skip a (b :: rest') ha hk1] at hkind
                  simpa using hkind
                have ha2 : a' ≠ 2 := fun e => by rw [ha' e] at hk1; cases hk1
                obtain ⟨ho', hT'⟩ := (whileLoop_syncG v passed hk rest' a' []).2 hkr (fun e => absurd e ha2) o ho
                exact ⟨ho', by rw [whileLoop, hT]; exact hT'⟩

theorem WSync_nil (rF rT : Res) (h : WSync [] rF rT) : Sync rF rT := by
  intro o ho
  obtain ⟨hs, h1, _, h2⟩ := h o ho
  exact ⟨hs, h1, h2⟩

theorem recurse_kindSync : ∀ (v : XVal), FnKindSync v :=
  XVal.kidsInduct fun v ih sought passed any hany => by
    rw [recurse_eq, recurse_eq]
    have := whileLoop_syncG v passed ih sought any []
    unfold CallSync
    cases hk : kindL sought with
    | true => simpa using WSync_nil _ _ (this.1 hk)
    | false => simpa using this.2 hk (hany hk)

theorem recurse_syncG (v : XVal) : FnSyncG v :=
  fun sought passed any hany => recurse_kindSync v sought passed any (fun _ => hany)

theorem items_syncG : ∀ (items : List Item), ∀ it ∈ items, FnSyncG it.2.2 :=
  fun _ it _ => recurse_syncG it.2.2

theorem recurse_sync (v : XVal) : FnSync v := by
  intro sought passed any hs
  have hk := kindL_noUp sought hs
  have := recurse_kindSync v sought passed any (fun h => by rw [hk] at h; cases h)
  rwa [hk] at this

theorem items_sync : ∀ (items : List Item), ∀ it ∈ items, FnSync it.2.2 :=
  fun _ it _ => recurse_sync it.2.2

/-- **every** step list: `findfirst` is the first `findall` result, `in` is its non-emptiness, the
`find_first=True` result is a prefix of the full one; `findall` returns `None` only for step lists
of the second kind (`kindL = false`: a `'..'` that leaves the searched node) -/
theorem findfirst_all (root : XVal) (sought : List Str)
    (r : Option (List Hit)) (h : findallL false root sought = .ok r) :
    findfirstL root sought = .ok (firstOf r) ∧
    containsL root sought = .ok (firstOf r).isSome ∧
    (∃ r', findallL true root sought = .ok r' ∧
      ((∃ l l', r = some l ∧ r' = some l' ∧ l' <+: l) ∨ (r = none ∧ r' = none))) ∧
    (kindL sought = true → r ≠ none) ∧ (kindL sought = false → r = none ∨ r = some []) := by
  obtain ⟨o, hr, rfl⟩ : ∃ o, recurse false root sought [] 0 false = .ok o ∧ o.res = r := by
    unfold findallL at h
    split at h <;> cases h
    exact ⟨_, ‹_›, rfl⟩
  -- `findfirst` and `in` read the first element of the `find_first=True` result
  have key : ∀ r', findallL true root sought = .ok r' → firstOf r' = firstOf o.res →
      findfirstL root sought = .ok (firstOf o.res) ∧ containsL root sought = .ok (firstOf o.res).isSome :=
    fun r' h1 h2 => ⟨by rw [findfirstL, h1, ← h2], by rw [containsL, h1, ← h2]⟩
  have hS := recurse_syncG root sought [] 0 nofun
  cases hk : kindL sought <;> rw [hk] at hS
  · obtain ⟨ho, hT⟩ := (hS : NSync _ _) o hr
    have hfa : findallL true root sought = .ok o.res := by rw [findallL, hT]
    obtain ⟨h1, h2⟩ := key _ hfa rfl
    refine ⟨h1, h2, ⟨_, hfa, ?_⟩, nofun, fun _ => ?_⟩ <;> rcases ho with rfl | rfl
    · exact .inr ⟨rfl, rfl⟩
    · exact .inl ⟨[], [], rfl, rfl, List.prefix_refl _⟩
    · exact .inl rfl
    · exact .inr rfl
  · obtain ⟨hs0, rfl, hs', ff', hT, hpre, heq, hne⟩ := (hS : Sync _ _) o hr
    have hfa : findallL true root sought = .ok (some hs') := by rw [findallL, hT]
    have hfirst : firstOf (some hs') = firstOf (some hs0) := by
      cases ff' with
      | false => rw [heq rfl]
      | true =>
        obtain ⟨tl, rfl⟩ := hpre
        cases hs' with
        | nil => exact absurd rfl (hne rfl)
        | cons x xs => rfl
    obtain ⟨h1, h2⟩ := key _ hfa hfirst
    exact ⟨h1, h2, ⟨_, hfa, .inl ⟨hs0, hs', rfl, rfl, hpre⟩⟩, nofun, nofun⟩

/-- without `'..'`: the `find_first=True` run returns a prefix of the `False` run's list, with
the same first element, and `findall` (`False`) never returns `None` -/
theorem findfirst_noUp (root : XVal) (sought : List Str) (hs : NoUp sought)
    (r : Option (List Hit)) (h : findallL false root sought = .ok r) :
    findfirstL root sought = .ok (firstOf r) ∧
    containsL root sought = .ok (firstOf r).isSome ∧
    ∃ l l', r = some l ∧ findallL true root sought = .ok (some l') ∧ l' <+: l := by
  obtain ⟨h1, h2, ⟨r', hr', hp⟩, hk, _⟩ := findfirst_all root sought r h
  refine ⟨h1, h2, ?_⟩
  rcases hp with ⟨l, l', rfl, rfl, hpre⟩ | ⟨rfl, _⟩
  · exact ⟨l, l', rfl, hr', hpre⟩
  · exact absurd rfl (hk (kindL_noUp sought hs))

/-! the shape of expressions that exhibit finding C18-d (without the fix `findfirst` is not the first `findall` result there) -/

/-- a `**` step that carries an index or a `text()` condition -/
def isFilteredDeep (a : Str) : Bool :=
  match parseStep a with
  | some st => st.tag == star2 && (st.idx.isSome || st.cond.isSome)
  | none => false

/-- some `**[filter]` step is directly followed by `..` -/
def filteredDeepUp : List Str → Bool
  | a :: b :: rest => (isFilteredDeep a && b == dotdot) || filteredDeepUp (b :: rest)
  | _ => false

end N0.NXml
