import N0Verif.Model.NXml
import N0Verif.Py.StripLemmas
import N0Verif.Proofs.Digits
/-!
  C18: the specification side of `n0xml` (the element tree in document order, positions `tag[k]`), `str(int)` /
  `int(str)` for the index of a step, and `_get` / `get_attrib` on lists of indexed steps: they walk exactly the
  positions of the element tree.  `XVal.kidsInduct`, by which the statements about `recurse` on all documents (`recurse_ok`, `deep_value`,
  `recurse_kindSync`) are proved, stands
  here because every later module needs it.
-/
namespace N0.NXml
open N0 N0.Py

/-! decidable equality of stored values, for `decide` in examples and counter-examples -/

mutual
def XVal.beq : XVal → XVal → Bool
  | .text a, .text b => a == b
  | .nodes xs, .nodes ys => beqItems xs ys
  | _, _ => false
def beqItems : List Item → List Item → Bool
  | [], [] => true
  | (t, a, x) :: xs, (t', a', y) :: ys => t == t' && a == a' && XVal.beq x y && beqItems xs ys
  | _, _ => false
end

mutual
theorem XVal.beq_eq : ∀ (a b : XVal), XVal.beq a b = true ↔ a = b
  | .text a, b => by cases b <;> simp [XVal.beq]
  | .nodes xs, b => by
      cases b <;> simp [XVal.beq]
      rename_i ys
      exact beqItems_eq xs ys
theorem beqItems_eq : ∀ (a b : List Item), beqItems a b = true ↔ a = b
  | [], b => by cases b <;> simp [beqItems]
  | (t, a, x) :: xs, b => by
      cases b with
      | nil => simp [beqItems]
      | cons y ys =>
        obtain ⟨t', a', y⟩ := y
        simp [beqItems, XVal.beq_eq x y, beqItems_eq xs ys, and_assoc]
end

instance : DecidableEq XVal := fun a b =>
  if h : XVal.beq a b = true then isTrue ((XVal.beq_eq a b).1 h)
  else isFalse (fun h' => h ((XVal.beq_eq a b).2 h'))

mutual
/-- induction over a stored value, from the values of the children to the value: the principle behind `recurse_ok`, `deep_value`,
`recurse_kindSync` -/
theorem XVal.kidsInduct {P : XVal → Prop}
    (step : ∀ v, (∀ items, v = .nodes items → ∀ it ∈ items, P it.2.2) → P v) : ∀ v, P v
  | .text t => step _ nofun
  | .nodes items => step _ fun _ h => by cases h; exact XVal.kidsInductItems step items
theorem XVal.kidsInductItems {P : XVal → Prop}
    (step : ∀ v, (∀ items, v = .nodes items → ∀ it ∈ items, P it.2.2) → P v) :
    ∀ (items : List Item), ∀ it ∈ items, P it.2.2
  | [], _, h => nomatch h
  | (_, _, v) :: rest, it, h => by
    rcases List.mem_cons.1 h with rfl | h
    · exact XVal.kidsInduct step v
    · exact XVal.kidsInductItems step rest it h
end

/-- one element as seen in document order: depth, tag, attributes, and its text when it has no children -/
structure Ev where
  depth : Nat
  tag : Str
  attrib : Attr
  leafText : Option (Option Str)
  deriving DecidableEq, Repr

mutual
def flatElem (d : Nat) : Elem → List Ev
  | .mk tag text attrib kids =>
    ⟨d, tag, attrib, match kids with | [] => some text | _ :: _ => none⟩ :: flatKids (d + 1) kids
def flatKids (d : Nat) : List Elem → List Ev
  | [] => []
  | e :: rest => flatElem d e ++ flatKids d rest
end

mutual
def flatVal (d : Nat) : XVal → List Ev
  | .text _ => []
  | .nodes items => flatItems d items
def flatItems (d : Nat) : List Item → List Ev
  | [] => []
  | (tag, attrib, v) :: rest =>
    ⟨d, tag, attrib, match v with | .text t => some t | .nodes _ => none⟩
      :: (flatVal (d + 1) v ++ flatItems d rest)
end

mutual
theorem flat_parseElem : ∀ (d : Nat) (e : Elem) (rest : List Item),
    flatItems d (parseElem e :: rest) = flatElem d e ++ flatItems d rest
  | d, .mk tag text attrib [], rest => by
      simp [parseElem, flatItems, flatElem, flatVal, flatKids]
  | d, .mk tag text attrib (k :: ks), rest => by
      have := flat_parseKids (d + 1) (k :: ks)
      simp only [parseElem, flatItems, flatElem, flatVal, this, List.cons_append]
theorem flat_parseKids : ∀ (d : Nat) (kids : List Elem),
    flatItems d (parseKids kids) = flatKids d kids
  | _, [] => by simp [parseKids, flatItems, flatKids]
  | d, e :: rest => by
      rw [parseKids, flat_parseElem d e, flat_parseKids d rest, flatKids]
end

def Elem.tag : Elem → Str
  | .mk t _ _ _ => t
def Elem.kids : Elem → List Elem
  | .mk _ _ _ k => k

def kthTag (t : Str) : Nat → List Elem → Option Elem
  | _, [] => none
  | k, e :: rest =>
    if e.tag = t then (match k with | 0 => some e | k' + 1 => kthTag t k' rest)
    else kthTag t k rest

/-- the element at a position given by (tag, per-tag index) pairs -/
def elemAt : Elem → List (Str × Nat) → Option Elem
  | e, [] => some e
  | e, (t, k) :: rest =>
    match kthTag t k e.kids with
    | none => none
    | some c => elemAt c rest

/-- what n0xml stores as the value of an element -/
def valueOf (e : Elem) : XVal := (parseElem e).2.2

/-- a tag `_get` can address: no `/` and no `[` (XML names never contain them; namespaced
`{uri}tag` names do and are outside this property) -/
def goodTag (t : Str) : Bool := !t.contains '/' && !t.contains '['

def renderStep (s : Str × Nat) : Str := s.1 ++ ('[' :: (dec s.2 ++ [']']))

theorem decAux_eq (f : Nat) : ∀ (n : Nat) (acc : Str), n < f → decAux f n acc = Py.natDigitsAux f n ++ acc :=
  Py.accDigits_eq decAux (fun f n acc => by rw [decAux, digitChar, Nat.mod_mod]; rfl) f

theorem dec_eq_natDigits (n : Nat) : dec n = natDigits n := by
  rw [dec, decAux_eq (n + 1) n [] (Nat.lt_succ_self n), List.append_nil]
  rfl

theorem dec_ne_nil (n : Nat) : dec n ≠ [] := by
  rw [dec_eq_natDigits]
  exact natDigits_ne_nil n

theorem dec_digits (n : Nat) : ∀ c ∈ dec n, isAsciiDigit c = true := by
  rw [dec_eq_natDigits]
  exact natDigits_all_digit n

theorem natOfDigits_dec (n : Nat) : natOfDigits (dec n) = n := by
  rw [dec_eq_natDigits]
  exact natOfDigits_natDigits n

theorem digitsUS_digits (s : Str) (hs : ∀ c ∈ s, isAsciiDigit c = true) (prev : Bool) (acc : Nat)
    (hne : s ≠ [] ∨ prev = true) :
    digitsUS prev acc s = some (s.foldl (fun a c => a * 10 + digitVal c) acc) := by
  induction s generalizing prev acc with
  | nil =>
    rcases hne with h | h
    · exact absurd rfl h
    · subst h; rfl
  | cons c s ih =>
    have hd : isAsciiDigit c = true := hs c (by simp)
    rw [digitsUS]
    · simp only [hd, if_true]
      rw [ih (fun c hc => hs c (by simp [hc])) true _ (Or.inr rfl)]
      rfl

theorem pyInt_digits (s : Str) (hne : s ≠ []) (hd : ∀ c ∈ s, isAsciiDigit c = true) :
    pyInt s = .ok (natOfDigits s : Nat) := by
  have hascii : s.any (fun c => c.toNat ≥ 128) = false := by
    rw [List.any_eq_false]
    intro c hc
    have := digit_ascii (hd c hc)
    simp; omega
  have hsp : ∀ c ∈ s, isPySpace c = false := fun c hc => digit_not_space (hd c hc)
  have hstrip : stripWs s = s := stripWs_of_all s hsp
  unfold pyInt
  rw [hascii, hstrip]
  simp only [Bool.false_eq_true, if_false]
  cases s with
  | nil => exact absurd rfl hne
  | cons c r =>
    have h1 : c ≠ '-' := digit_ne_char (hd c (by simp)) '-' (by decide)
    have h2 : c ≠ '+' := digit_ne_char (hd c (by simp)) '+' (by decide)
    have hds := digitsUS_digits (c :: r) hd false 0 (Or.inl (by simp))
    split
    · rename_i heq; cases heq; exact absurd rfl h1
    · rename_i heq; cases heq; exact absurd rfl h2
    · rw [hds]; rfl

theorem pyInt_dec (n : Nat) : pyInt (dec n) = .ok (n : Int) := by
  rw [pyInt_digits _ (dec_ne_nil n) (dec_digits n), natOfDigits_dec]

theorem goodTag_noBr (t : Str) (h : goodTag t = true) : ∀ c ∈ t, (c ≠ '[') := by
  intro c hc heq
  subst heq
  simp [goodTag] at h
  exact h.2 hc

theorem getStep_plain (t : Str) (h : goodTag t = true) : getStep t = .ok (t, 0) := by
  simp [goodTag] at h
  simp [getStep, h.2]

theorem getStep_indexed (t : Str) (h : goodTag t = true) (k : Nat) :
    getStep (t ++ ('[' :: (dec k ++ [']']))) = .ok (t, (k : Int)) := by
  have hcont : (t ++ ('[' :: (dec k ++ [']']))).contains '[' = true := by simp
  -- `rstrip(']')` takes the closing bracket and stops at the last digit
  have hstrip : rstrip [']'] (t ++ ('[' :: (dec k ++ [']']))) = t ++ ('[' :: dec k) := by
    obtain ⟨ds, d, hds⟩ := (List.eq_nil_or_concat (dec k)).resolve_left (dec_ne_nil k)
    have hdig : d ≠ ']' := digit_ne_char (dec_digits k d (by rw [hds]; simp)) ']' (by decide)
    simp [rstrip, hds, hdig]
  have hsplit := takeWhile_append_stop (fun c => decide (c ≠ '[')) t '[' (dec k)
    (by intro c hc; simpa using goodTag_noBr t h c hc) (by simp)
  unfold getStep
  rw [hcont]
  simp only [if_true]
  rw [hstrip, hsplit.1, hsplit.2]
  simp only [List.drop_succ_cons, List.drop_zero]
  rw [pyInt_dec]

theorem parseKids_cons (e : Elem) (rest : List Elem) :
    parseKids (e :: rest) = (e.tag, (parseElem e).2.1, valueOf e) :: parseKids rest := by
  cases e with
  | mk tag text attrib kids => cases kids <;> simp [parseKids, parseElem, valueOf, Elem.tag]

def attribOf : Elem → Attr
  | .mk _ _ a _ => a

theorem parseElem_attrib (e : Elem) : (parseElem e).2.1 = attribOf e := by
  cases e with
  | mk tag text attrib kids => cases kids <;> rfl

theorem scanItemsA_parseKids (t : Str) (kids : List Elem) (k : Nat) :
    scanItemsA (parseKids kids) t (k : Int) = (kthTag t k kids).map (fun e => (attribOf e, valueOf e)) := by
  fun_induction kthTag t k kids with
  | case1 k => rfl
  | case2 e rest h => rw [parseKids_cons, parseElem_attrib, scanItemsA, if_pos h]; rfl
  | case3 e rest h k' ih =>
    rw [parseKids_cons, parseElem_attrib, scanItemsA, if_pos h,
      if_neg (Int.natCast_ne_zero.mpr (Nat.succ_ne_zero k')), Int.natCast_succ,
      Int.add_sub_cancel, ih]
  | case4 k e rest h ih => rw [parseKids_cons, parseElem_attrib, scanItemsA, if_neg h, ih]

theorem scanItems_eq_scanItemsA (items : List Item) (name : Str) (idx : Int) :
    scanItems items name idx = (scanItemsA items name idx).map Prod.snd := by
  fun_induction scanItemsA items name idx <;> simp_all [scanItems]

theorem scanItems_parseKids (t : Str) (kids : List Elem) (k : Nat) :
    scanItems (parseKids kids) t (k : Int) = (kthTag t k kids).map valueOf := by
  rw [scanItems_eq_scanItemsA, scanItemsA_parseKids, Option.map_map]
  rfl

theorem valueOf_kids (e : Elem) : valueOf e = (match e.kids with
    | [] => XVal.text (match e with | .mk _ text _ _ => text)
    | k :: ks => XVal.nodes (parseKids (k :: ks))) := by
  cases e with
  | mk tag text attrib kids => cases kids <;> simp [valueOf, parseElem, Elem.kids]

theorem getL_step (e : Elem) (t : Str) (k : Nat) (hg : goodTag t = true) (rest : List Str) :
    getL (valueOf e) (renderStep (t, k) :: rest) =
      match kthTag t k e.kids with
      | none => .ok none
      | some c => getL (valueOf c) rest := by
  rw [getL, renderStep, getStep_indexed t hg k, valueOf_kids]
  cases e.kids with
  | nil => rfl
  | cons c cs =>
    simp only [scanItems_parseKids]
    cases kthTag t k (c :: cs) <;> rfl

/-- the root keeps its children as a list even when there are none; a step finds nothing in either -/
theorem getL_parseNode (e : Elem) (step : Str) (rest : List Str) :
    getL (parseNode e) (step :: rest) = getL (valueOf e) (step :: rest) := by
  cases e with
  | mk tag text attrib kids =>
    cases kids with
    | nil => rw [getL, getL]; cases getStep step <;> rfl
    | cons c cs => rfl

/-- below the element `e` (whose stored value is `valueOf e`), `_get` with explicit indexes
walks exactly the positions of the element tree -/
theorem getL_valueOf (e : Elem) (p : List (Str × Nat)) (hp : ∀ q ∈ p, goodTag q.1 = true) :
    getL (valueOf e) (p.map renderStep) = .ok ((elemAt e p).map valueOf) := by
  induction p generalizing e with
  | nil => rfl
  | cons s p ih =>
    rw [List.map_cons, getL_step e s.1 s.2 (hp s (by simp)), elemAt]
    cases kthTag s.1 s.2 e.kids with
    | none => rfl
    | some c => exact ih c (fun q hq => hp q (by simp [hq]))

theorem getAttrL_step (e : Elem) (t : Str) (k : Nat) (hg : goodTag t = true) (rest : List Str) :
    getAttrL (valueOf e) (renderStep (t, k) :: rest) =
      match kthTag t k e.kids with
      | none => .ok none
      | some c => match rest with
        | [] => .ok (some (attribOf c))
        | _ :: _ => getAttrL (valueOf c) rest := by
  rw [getAttrL, renderStep, getStep_indexed t hg k, valueOf_kids]
  cases e.kids with
  | nil => rfl
  | cons c cs =>
    simp only [scanItemsA_parseKids]
    cases kthTag t k (c :: cs) <;> rfl

/-- below the element `e`, `get_attrib` with explicit indexes walks the positions of the element
tree and returns the attributes of the element it arrives at (with or without children) -/
theorem getAttrL_valueOf (e : Elem) (s : Str × Nat) (p : List (Str × Nat))
    (hp : ∀ q ∈ s :: p, goodTag q.1 = true) :
    getAttrL (valueOf e) ((s :: p).map renderStep) = .ok ((elemAt e (s :: p)).map attribOf) := by
  induction p generalizing e s with
  | nil =>
    rw [List.map_cons, getAttrL_step e s.1 s.2 (hp s (by simp)), elemAt]
    cases kthTag s.1 s.2 e.kids <;> rfl
  | cons s2 p ih =>
    rw [List.map_cons, getAttrL_step e s.1 s.2 (hp s (by simp)), elemAt]
    cases kthTag s.1 s.2 e.kids with
    | none => rfl
    | some c => exact ih c s2 (fun q hq => hp q (by simp [hq]))

theorem getAttrL_parseNode (e : Elem) (st : Str × Nat) (p : List (Str × Nat))
    (hp : ∀ q ∈ st :: p, goodTag q.1 = true) :
    getAttrL (parseNode e) ((st :: p).map renderStep) = .ok ((elemAt e (st :: p)).map attribOf) := by
  rw [← getAttrL_valueOf e st p hp, List.map_cons]
  cases e with
  | mk tag text attrib kids =>
    cases kids with
    | nil => rw [getAttrL, getAttrL]; cases getStep (renderStep st) <;> rfl
    | cons c cs => rfl

end N0.NXml
