import N0Verif.Proofs.NXmlFind
import N0Verif.Py.Lemmas
/-!
  C18, path strings: the path split of `get` and `findall` undoes `'/'.join` on non-empty steps without `/` that do not begin with
  `[` (`splitPath_join`), positional paths `t1[k1]/…/tn[kn]`, and every path `_get` resolves on a good document is such a list of steps
  (`getL_ok_steps`; `getS_of_getL` is the string form).
-/
namespace N0.NXml
open N0 N0.Py

/-- a step that survives `'/'.join` followed by the path split: no `/` inside, not empty, does not
begin with `[` (a leading `[` would be glued to the previous step by `replace("/[", "[")`) -/
def StepOK (s : Str) : Prop := (∀ c ∈ s, c ≠ '/') ∧ s ≠ [] ∧ s.head? ≠ some '['

theorem replSlashBr_cons (c : Char) (s : Str) (h : c ≠ '/') : replSlashBr (c :: s) = c :: replSlashBr s := by
  rw [replSlashBr]
  intro s' hc _
  exact absurd hc h

theorem replSlashBr_append (a r : Str) (h : ∀ x ∈ a, x ≠ '/') :
    replSlashBr (a ++ r) = a ++ replSlashBr r := by
  induction a with
  | nil => rfl
  | cons x a ih =>
    rw [List.cons_append, replSlashBr_cons x _ (h x (by simp)), ih (fun y hy => h y (by simp [hy]))]
    rfl

theorem replSlashBr_noSlash (a : Str) (h : ∀ x ∈ a, x ≠ '/') : replSlashBr a = a := by
  have := replSlashBr_append a [] h
  simpa [replSlashBr] using this

theorem replSlashBr_slash (y r : Str) (hy : y ≠ []) (hh : y.head? ≠ some '[') :
    replSlashBr ('/' :: (y ++ r)) = '/' :: replSlashBr (y ++ r) := by
  cases y with
  | nil => exact absurd rfl hy
  | cons c y =>
    have hc : c ≠ '[' := by simpa using hh
    rw [List.cons_append, replSlashBr]
    intro s' _ hs
    simp at hs
    exact absurd hs.1 hc

theorem replSlashBr_join (steps : List Str) (h : ∀ s ∈ steps, StepOK s) :
    replSlashBr (join ['/'] steps) = join ['/'] steps := by
  induction steps with
  | nil => simp [join, replSlashBr]
  | cons x rest ih =>
    cases rest with
    | nil => simpa [join] using replSlashBr_noSlash x (h x (by simp)).1
    | cons y ys =>
      have ihh := ih (fun s hs => h s (by simp [hs]))
      have hy := h y (by simp)
      simp only [join, List.append_assoc, List.singleton_append] at ihh ⊢
      rw [replSlashBr_append x _ (h x (by simp)).1]
      cases ys with
      | nil =>
        simp only [join] at ihh ⊢
        have := replSlashBr_slash y [] hy.2.1 hy.2.2
        simp only [List.append_nil] at this
        rw [this, ihh]
      | cons z zs =>
        simp only [join, List.append_assoc, List.singleton_append] at ihh ⊢
        rw [replSlashBr_slash y _ hy.2.1 hy.2.2, ihh]

theorem join_head_ok (steps : List Str) (h : ∀ s ∈ steps, StepOK s) :
    ∀ c, (join ['/'] steps).head? = some c → c ≠ '/' := by
  intro c hc
  cases steps with
  | nil => simp [join] at hc
  | cons x rest =>
    obtain ⟨h1, h2, _⟩ := h x (by simp)
    cases x with
    | nil => exact absurd rfl h2
    | cons d x =>
      have : (join ['/'] ((d :: x) :: rest)).head? = some d := by
        cases rest <;> simp [join]
      rw [this] at hc
      cases hc
      exact h1 c (by simp)

theorem join_last_ok (steps : List Str) (h : ∀ s ∈ steps, StepOK s) :
    ∀ c, (join ['/'] steps).getLast? = some c → c ≠ '/' := by
  induction steps with
  | nil => intro c hc; simp [join] at hc
  | cons x rest ih =>
    intro c hc
    cases rest with
    | nil =>
      simp only [join] at hc
      exact (h x (by simp)).1 c (List.mem_of_getLast? hc)
    | cons y ys =>
      have ihh := ih (fun s hs => h s (by simp [hs]))
      have hne : join ['/'] (y :: ys) ≠ [] := join_ne_nil _ _ _ (h y (by simp)).2.1
      simp only [join, List.append_assoc] at hc
      rw [List.getLast?_append, List.getLast?_append] at hc
      cases hl : (join ['/'] (y :: ys)).getLast? with
      | none => simp [List.getLast?_eq_none_iff] at hl; exact absurd hl hne
      | some d =>
        rw [hl] at hc
        simp at hc
        subst hc
        exact ihh d hl

theorem splitPath_join (steps : List Str) (hne : steps ≠ []) (h : ∀ s ∈ steps, StepOK s) :
    splitPath (join ['/'] steps) = steps := by
  unfold splitPath
  rw [replSlashBr_join steps h]
  unfold strip
  rw [lstrip_keep ['/'] _ (by
    intro c hc
    have := join_head_ok steps h c hc
    simp [this])]
  rw [rstrip_keep ['/'] _ (by
    intro c hc
    have := join_last_ok steps h c hc
    simp [this])]
  exact splitChar_join '/' steps hne (fun s hs => (h s hs).1)

theorem join_isEmpty (steps : List Str) (hne : steps ≠ []) (h : ∀ s ∈ steps, StepOK s) :
    (join ['/'] steps).isEmpty = false := by
  cases steps with
  | nil => exact absurd rfl hne
  | cons x rest =>
    have := join_ne_nil ['/'] x rest (h x (by simp)).2.1
    cases hj : join ['/'] (x :: rest) with
    | nil => exact absurd hj this
    | cons _ _ => rfl

theorem getS_join (root : XVal) (steps : List Str) (h : ∀ s ∈ steps, StepOK s) :
    getS root (join ['/'] steps) = getL root steps := by
  cases steps with
  | nil => simp [getS, join, getL]
  | cons x rest =>
    unfold getS
    rw [join_isEmpty _ (by simp) h, splitPath_join _ (by simp) h]
    simp

/-- a tag that can be written into a path string: addressable (`goodTag`) and not empty -/
def goodTagS (t : Str) : Bool := goodTag t && !t.isEmpty

theorem goodTagS_goodTag (t : Str) (h : goodTagS t = true) : goodTag t = true := by
  simp only [goodTagS, Bool.and_eq_true] at h
  exact h.1

def renderIdxPath (p : List (Str × Nat)) : Str := join ['/'] (p.map renderStep)

theorem dec_noSlash (k : Nat) : ∀ c ∈ dec k, c ≠ '/' := by
  intro c hc
  exact digit_ne_char (dec_digits k c hc) '/' (by decide)

theorem goodTag_noSlash (t : Str) (h : goodTag t = true) : ∀ c ∈ t, c ≠ '/' := by
  intro c hc heq
  subst heq
  simp [goodTag] at h
  exact h.1 hc

theorem stepOK_indexed (t : Str) (k : Nat) (h : goodTagS t = true) :
    StepOK (t ++ ('[' :: (dec k ++ [']']))) := by
  simp only [goodTagS, Bool.and_eq_true, Bool.not_eq_true', List.isEmpty_eq_false_iff] at h
  obtain ⟨hg, hne⟩ := h
  refine ⟨?_, by simp, ?_⟩
  · intro c hc
    simp only [List.mem_append, List.mem_cons, List.not_mem_nil, or_false] at hc
    rcases hc with hc | hc | hc | hc
    · exact goodTag_noSlash t hg c hc
    · subst hc; decide
    · exact dec_noSlash k c hc
    · subst hc; decide
  · cases t with
    | nil => exact absurd rfl hne
    | cons c t =>
      have := goodTag_noBr (c :: t) hg c (by simp)
      simpa using this

theorem stepOK_plain (t : Str) (h : goodTagS t = true) : StepOK t := by
  simp only [goodTagS, Bool.and_eq_true, Bool.not_eq_true', List.isEmpty_eq_false_iff] at h
  obtain ⟨hg, hne⟩ := h
  refine ⟨goodTag_noSlash t hg, hne, ?_⟩
  cases t with
  | nil => exact absurd rfl hne
  | cons c t =>
    have := goodTag_noBr (c :: t) hg c (by simp)
    simpa using this

theorem getS_renderIdxPath (root : XVal) (p : List (Str × Nat)) (hp : ∀ q ∈ p, goodTagS q.1 = true) :
    getS root (renderIdxPath p) = getL root (p.map renderStep) := by
  unfold renderIdxPath
  apply getS_join
  intro s hs
  obtain ⟨q, hq, rfl⟩ := List.mem_map.1 hs
  exact stepOK_indexed q.1 q.2 (hp q hq)

theorem getAttrS_renderIdxPath (root : XVal) (p : List (Str × Nat)) (hne : p ≠ [])
    (hp : ∀ q ∈ p, goodTagS q.1 = true) :
    getAttrS root (renderIdxPath p) = getAttrL root (p.map renderStep) := by
  have hok : ∀ s ∈ p.map renderStep, StepOK s := by
    intro s hs
    obtain ⟨q, hq, rfl⟩ := List.mem_map.1 hs
    exact stepOK_indexed q.1 q.2 (hp q hq)
  unfold getAttrS renderIdxPath
  rw [join_isEmpty _ (by simpa using hne) hok, splitPath_join _ (by simpa using hne) hok]
  simp

mutual
/-- every tag below is addressable by `_get` and not empty.  The list forms need `goodV` only; the STRING forms join the steps by
`'/'` and split them again, which loses an empty step: hence this stronger predicate in the `_str` results (`goodVS_goodV`) -/
def goodVS : XVal → Bool
  | .text _ => true
  | .nodes items => goodItemsS items
def goodItemsS : List Item → Bool
  | [] => true
  | (t, _, v) :: rest => goodTagS t && goodVS v && goodItemsS rest
end

mutual
theorem goodVS_goodV : ∀ (v : XVal), goodVS v = true → goodV v = true
  | .text _, _ => by simp [goodV]
  | .nodes items, h => by
    simp only [goodVS] at h
    simpa [goodV] using goodItemsS_goodItems items h
theorem goodItemsS_goodItems : ∀ (items : List Item), goodItemsS items = true → goodItems items = true
  | [], _ => by simp [goodItems]
  | (t, a, v) :: rest, h => by
    simp only [goodItemsS, Bool.and_eq_true] at h
    simp [goodItems, goodTagS_goodTag t h.1.1, goodVS_goodV v h.1.2, goodItemsS_goodItems rest h.2]
end

theorem scanItems_some (items : List Item) (name : Str) (idx : Int) (w : XVal)
    (hg : goodItemsS items = true) (h : scanItems items name idx = some w) :
    goodTagS name = true ∧ goodVS w = true := by
  induction items generalizing idx with
  | nil => simp [scanItems] at h
  | cons it rest ih =>
    obtain ⟨t, a, v⟩ := it
    simp only [goodItemsS, Bool.and_eq_true] at hg
    simp only [scanItems] at h
    split at h
    · rename_i ht
      split at h
      · simp at h; subst h; subst ht; exact ⟨hg.1.1, hg.1.2⟩
      · exact ih _ hg.2 h
    · exact ih _ hg.2 h

theorem digitsUS_chars (prev : Bool) (acc : Nat) (r : Str) (n : Nat) (h : digitsUS prev acc r = some n) :
    ∀ c ∈ r, isAsciiDigit c = true ∨ c = '_' := by
  fun_induction digitsUS prev acc r with
  | case1 | case2 => nofun
  | case3 prev acc c s hd ih =>
    intro x hx
    rcases List.mem_cons.1 hx with rfl | hx
    · exact .inl hd
    · exact ih h x hx
  | case4 prev acc c s _ hu ih =>
    intro x hx
    rcases List.mem_cons.1 hx with rfl | hx
    · exact .inr hu.1
    · exact ih h x hx
  | case5 => cases h

theorem pyInt_ok_noSlash (s : Str) (i : Int) (h : pyInt s = .ok i) : ∀ c ∈ s, c ≠ '/' := by
  intro c hc e
  subst e
  have hin : '/' ∈ stripWs s := mem_stripWs s '/' hc (by decide)
  unfold pyInt at h
  split at h
  · cases h
  · have hno : ∀ r n, digitsUS false 0 r = some n → '/' ∈ r → False := by
      intro r n hr hm
      rcases digitsUS_chars _ _ r _ hr '/' hm with h1 | h1
      · revert h1; decide
      · revert h1; decide
    simp only at h
    split at h
    · rename_i r heq
      rw [heq] at hin
      have hm : '/' ∈ r := by simpa using hin
      cases hd : digitsUS false 0 r with
      | none => rw [hd] at h; cases h
      | some n => exact hno r n hd hm
    · rename_i r heq
      rw [heq] at hin
      have hm : '/' ∈ r := by simpa using hin
      cases hd : digitsUS false 0 r with
      | none => rw [hd] at h; cases h
      | some n => exact hno r n hd hm
    · cases hd : digitsUS false 0 (stripWs s) with
      | none => rw [hd] at h; cases h
      | some n => exact hno _ n hd hin

theorem getStep_ok_shape (step name : Str) (idx : Int) (h : getStep step = .ok (name, idx))
    (hn : goodTagS name = true) : StepOK step := by
  unfold getStep at h
  split at h
  · simp only at h
    obtain ⟨tail, hdec, htail⟩ := rstrip_decomp [']'] step
    generalize rstrip [']'] step = t at h hdec
    cases hp : pyInt ((t.dropWhile (fun c => c ≠ '[')).drop 1) with
    | error e => rw [hp] at h; cases h
    | ok i =>
      rw [hp] at h
      simp only [Except.ok.injEq, Prod.mk.injEq] at h
      obtain ⟨hname, _⟩ := h
      have hsplit : t = name ++ t.dropWhile (fun c => c ≠ '[') := by
        rw [← hname, List.takeWhile_append_dropWhile]
      have hok := stepOK_plain name hn
      have hd : ∀ c ∈ t.dropWhile (fun c => c ≠ '['), c ≠ '/' := by
        intro c hc
        cases hdw : t.dropWhile (fun c => c ≠ '[') with
        | nil => rw [hdw] at hc; cases hc
        | cons x d' =>
          rw [hdw] at hc hp
          have hx : x = '[' := by
            have := dropWhile_head_not _ _ _ _ hdw
            simpa using this
          rcases List.mem_cons.1 hc with e | e
          · rw [e, hx]; decide
          · exact pyInt_ok_noSlash _ _ hp c (by simpa using e)
      rw [hdec, hsplit]
      refine ⟨?_, ?_, ?_⟩
      · intro c hc
        simp only [List.mem_append] at hc
        rcases hc with (hc | hc) | hc
        · exact hok.1 c hc
        · exact hd c hc
        · have := htail c hc
          intro e; subst e; simp at this
      · have := hok.2.1
        simp [this]
      · cases hnm : name with
        | nil => exact absurd hnm hok.2.1
        | cons c nm =>
          have := hok.2.2
          rw [hnm] at this
          simpa using this
  · simp only [Except.ok.injEq, Prod.mk.injEq] at h
    rw [h.1]
    exact stepOK_plain name hn

/-- every path `_get` resolves to a value in a document with good tags consists of steps that
survive `'/'.join` + the path split -/
theorem getL_ok_steps (root : XVal) (path : List Str) (v : XVal) (hg : goodVS root = true)
    (h : getL root path = .ok (some v)) : ∀ s ∈ path, StepOK s := by
  fun_induction getL root path with
  | case1 v' => nofun
  | case2 v' step rest e hs => cases h
  | case3 step rest name idx hs t => cases h
  | case4 step rest name idx hs items hsc => cases h
  | case5 step rest name idx hs items w hsc ih =>
    obtain ⟨hn, hw⟩ := scanItems_some items name idx w (by simpa [goodVS] using hg) hsc
    intro s hs'
    rcases List.mem_cons.1 hs' with rfl | e
    · exact getStep_ok_shape _ name idx hs hn
    · exact ih hw h s e

/-- a `(path, value)` pair that resolves through the list form of `get` also resolves through
`get('/'.join(path))` -/
theorem getS_of_getL (root : XVal) (path : List Str) (v : XVal) (hg : goodVS root = true)
    (h : getL root path = .ok (some v)) : getS root (join ['/'] path) = .ok (some v) := by
  rw [getS_join root path (getL_ok_steps root path v hg h)]
  exact h

/-- (of the `**/**` collapse, Proofs/NXmlStars; here because Proofs/NXmlExpr needs it) -/
theorem normStars_noop (n : Nat) (s : Str) (h : isInfix starsPat s = false) : normStars n s = s := by
  cases n with
  | zero => rfl
  | succ n => simp [normStars, replace_noop starsPat star2 s h]

end N0.NXml
