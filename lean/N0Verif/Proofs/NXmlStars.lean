import N0Verif.Proofs.NXmlExpr
/-!
  C18: the `**/**` collapse of `n0xml.findall` (`while True: normalized = xpath.replace("**/**", "**") …`, model
  `normStars`).  Python's strategy (passes of leftmost non-overlapping replacements until nothing changes) computes a
  strategy-independent normal form `ddNF`: a pass keeps `ddNF`, every pass that changes the text shortens it (so the
  fuel `len + 1` suffices), and one rewrite anywhere keeps `ddNF`.  Nothing here looks at the document.
-/
namespace N0.NXml
open N0 N0.Py

/-- the normal form: scanning from the left, a `**/**` at the current position loses its first
three characters (so `**/**/**…` keeps collapsing at the same position) -/
def ddNF : Str → Str
  | [] => []
  | c :: r => if startsWith (c :: r) starsPat then ddNF ((c :: r).drop 3) else c :: ddNF r
termination_by s => s.length
decreasing_by
  all_goals simp
  all_goals omega

theorem ddNF_hit (s : Str) (h : startsWith s starsPat = true) : ddNF s = ddNF (s.drop 3) := by
  cases s with
  | nil => cases h
  | cons c r => rw [ddNF, if_pos h]

theorem ddNF_pat (r : Str) : ddNF (starsPat ++ r) = ddNF (star2 ++ r) :=
  ddNF_hit _ (startsWith_append starsPat r)

theorem ddNF_not (c : Char) (r : Str) (h : startsWith (c :: r) starsPat = false) :
    ddNF (c :: r) = c :: ddNF r := by
  rw [ddNF]
  simp [h]

theorem ddNF_noop (s : Str) (h : isInfix starsPat s = false) : ddNF s = s := by
  induction s with
  | nil => rw [ddNF]
  | cons c s ih =>
    simp only [isInfix, Bool.or_eq_false_iff] at h
    rw [ddNF_not c s h.1, ih h.2]

/-- the overlaps of `**/**` with itself and with `**`: a `**/**` that begins `k ≥ 1` characters
before a `**/**` ends inside it exactly when it would end inside the `**` put in its place, and then
`k ≥ 3` -/
theorem startsWith_pat_drop (b : Str) : ∀ k, 0 < k →
    startsWith (starsPat ++ b) (starsPat.drop k) = startsWith (star2 ++ b) (starsPat.drop k) ∧
    (startsWith (starsPat ++ b) (starsPat.drop k) = true → 3 ≤ k)
  | 1, _ => ⟨Eq.trans (b := false) rfl rfl, nofun⟩
  | 2, _ => ⟨Eq.trans (b := false) rfl rfl, nofun⟩
  | 3, _ => ⟨by cases b <;> rfl, fun _ => Nat.le_refl 3⟩
  | 4, _ => ⟨rfl, fun _ => by decide⟩
  | k + 5, _ => by
    rw [List.drop_eq_nil_of_le (Nat.le_add_left 5 k : starsPat.length ≤ k + 5)]
    exact ⟨rfl, fun _ => Nat.le_add_left 3 (k + 2)⟩

/-- behind a non-empty `a`, a `**/**` and the `**` it is rewritten to leave the same decision at the
head of the text, and a `**/**` found there takes at least three characters of `a` -/
theorem startsWith_rewrite (a b : Str) (ha : a ≠ []) :
    startsWith (a ++ starsPat ++ b) starsPat = startsWith (a ++ star2 ++ b) starsPat ∧
    (startsWith (a ++ starsPat ++ b) starsPat = true → 3 ≤ a.length) := by
  obtain ⟨h1, h2⟩ := startsWith_pat_drop b a.length (List.length_pos_iff.mpr ha)
  rw [List.append_assoc, List.append_assoc, startsWith_append_split, startsWith_append_split a, h1]
  exact ⟨rfl, fun h => h2 (h1 ▸ (Bool.and_eq_true _ _ ▸ h).2)⟩

/-- one rewrite anywhere does not change the normal form: by induction on the length of `a`;
at the head of `a` both texts take the same branch of `ddNF`, and the branch that drops three
characters drops them from `a` -/
theorem ddNF_rewrite (a b : Str) : ddNF (a ++ starsPat ++ b) = ddNF (a ++ star2 ++ b) := by
  generalize hn : a.length = n
  induction n using Nat.strongRecOn generalizing a with
  | ind n ih =>
    subst hn
    cases a with
    | nil => exact ddNF_pat b
    | cons c a =>
      obtain ⟨hS, h3⟩ := startsWith_rewrite (c :: a) b (List.cons_ne_nil c a)
      cases hL : startsWith (c :: a ++ starsPat ++ b) starsPat with
      | true =>
        rw [ddNF_hit (c :: a ++ starsPat ++ b) hL, ddNF_hit (c :: a ++ star2 ++ b) (hS.symm.trans hL),
          List.append_assoc, List.append_assoc (c :: a),
          List.drop_append_of_le_length (h3 hL), List.drop_append_of_le_length (h3 hL),
          ← List.append_assoc, ← List.append_assoc]
        exact ih _ (by simp; omega) _ rfl
      | false =>
        have hR := hS.symm.trans hL
        have e1 : c :: a ++ starsPat ++ b = c :: (a ++ starsPat ++ b) := rfl
        have e2 : c :: a ++ star2 ++ b = c :: (a ++ star2 ++ b) := rfl
        rw [e1] at hL ⊢
        rw [e2] at hR ⊢
        rw [ddNF_not _ _ hL, ddNF_not _ _ hR, ih _ (by simp) a rfl]

theorem starsPat_ne_nil : starsPat ≠ [] := by decide

/-- a pass keeps the normal form, in any left context (the `**` a hit writes may meet a `**/` of the context):
by the recursion equations of `replace`, a hit is one rewrite `**/**` → `**` -/
theorem replace_ddNF_ctx (s pre : Str) : ddNF (pre ++ replace starsPat star2 s) = ddNF (pre ++ s) := by
  have aux : ∀ (n : Nat) (s pre : Str), s.length ≤ n →
      ddNF (pre ++ replace starsPat star2 s) = ddNF (pre ++ s) := by
    intro n
    induction n with
    | zero =>
      intro s pre h
      rw [List.eq_nil_of_length_eq_zero (Nat.le_zero.mp h), replace_nil]
    | succ n ih =>
      intro s pre h
      cases s with
      | nil => rw [replace_nil]
      | cons c s =>
        cases hs : startsWith (c :: s) starsPat with
        | true =>
          obtain ⟨r, hr⟩ := startsWith_eq_append _ _ hs
          have hlen : r.length ≤ n := by
            have := congrArg List.length hr
            simp [starsPat] at this h
            omega
          rw [replace_cons_match _ _ starsPat_ne_nil c s hs, hr, List.drop_left, ← List.append_assoc,
            ih r (pre ++ star2) hlen, ← List.append_assoc, ddNF_rewrite]
        | false =>
          rw [replace_cons_nomatch _ _ c s hs]
          have := ih s (pre ++ [c]) (Nat.le_of_succ_le_succ h)
          simpa using this
  exact aux s.length s pre (Nat.le_refl _)

theorem replace_ddNF (s : Str) : ddNF (replace starsPat star2 s) = ddNF s := replace_ddNF_ctx s []

theorem replace_len_lt (s : Str) (h : isInfix starsPat s = true) :
    (replace starsPat star2 s).length < s.length := by
  have := replace_length starsPat star2 starsPat_ne_nil (by decide) s
  rw [if_pos h] at this
  exact this

theorem replace_fix_iff (s : Str) : replace starsPat star2 s = s ↔ isInfix starsPat s = false := by
  constructor
  · intro h
    cases hi : isInfix starsPat s with
    | false => rfl
    | true =>
      have := replace_len_lt s hi
      rw [h] at this
      omega
  · exact replace_noop _ _ _

/-- the fuel `len + 1` of `xpSteps` is enough (every pass that changes the text shortens it), and the loop ends
with the normal form, which has no `**/**` left -/
theorem normStars_spec : ∀ (f : Nat) (s : Str), s.length < f →
    normStars f s = ddNF s ∧ isInfix starsPat (normStars f s) = false := by
  intro f
  induction f with
  | zero => intro s h; omega
  | succ f ih =>
    intro s hf
    rw [normStars]
    by_cases h : replace starsPat star2 s = s
    · have hi := (replace_fix_iff s).1 h
      simp only [h, if_true]
      exact ⟨(ddNF_noop s hi).symm, hi⟩
    · simp only [h, if_false]
      have hi : isInfix starsPat s = true := by
        cases hi : isInfix starsPat s with
        | true => rfl
        | false => exact absurd ((replace_fix_iff s).2 hi) h
      have hlt := replace_len_lt s hi
      rw [← replace_ddNF s]
      exact ih _ (by omega)

/-- `normalized` of `findall` -/
def normXp (xp : Str) : Str := normStars (xp.length + 1) xp

theorem normXp_eq (xp : Str) : normXp xp = ddNF xp := (normStars_spec _ _ (Nat.lt_succ_self _)).1

theorem normXp_noDD (xp : Str) : isInfix starsPat (normXp xp) = false :=
  (normStars_spec _ _ (Nat.lt_succ_self _)).2

theorem normXp_idem (xp : Str) : normXp (normXp xp) = normXp xp :=
  normStars_noop _ _ (normXp_noDD xp)

theorem xpSteps_norm (xp : Str) : xpSteps (normXp xp) = xpSteps xp := by
  show splitPath (normXp (normXp xp)) = splitPath (normXp xp)
  rw [normXp_idem]

/-- collapsing one `**/**` anywhere in the text does not change what `findall` reads -/
theorem xpSteps_rewrite (a b : Str) : xpSteps (a ++ starsPat ++ b) = xpSteps (a ++ star2 ++ b) := by
  show splitPath (normXp _) = splitPath (normXp _)
  rw [normXp_eq, normXp_eq, ddNF_rewrite]

/-- `"/**"` repeated `k` times -/
def ddTail : Nat → Str
  | 0 => []
  | k + 1 => '/' :: '*' :: '*' :: ddTail k

/-- a run of `k + 1` steps `**`: `**`, `**/**`, `**/**/**`, … -/
def ddRun (k : Nat) : Str := star2 ++ ddTail k

/-- a run of `**` steps reads like a single `**`, in every context (`a` may end with `/`, `b` may
begin with `/` or with an index / a condition of the last `**` of the run) -/
theorem xpSteps_run (a b : Str) (k : Nat) : xpSteps (a ++ ddRun k ++ b) = xpSteps (a ++ star2 ++ b) := by
  induction k with
  | zero => simp [ddRun, ddTail]
  | succ k ih =>
    rw [← ih]
    have := xpSteps_rewrite a (ddTail k ++ b)
    simpa [ddRun, ddTail, starsPat, star2] using this

def isDeepTok : Tok → Bool
  | some st => st.tag == star2
  | none => false

/-- a plain `**` token directly followed by a token with tag `**` is dropped -/
def collapseDD : List Tok → List Tok
  | x :: y :: rest =>
    if x = some stDeep ∧ isDeepTok y = true then collapseDD (y :: rest) else x :: collapseDD (y :: rest)
  | [x] => [x]
  | [] => []

theorem isDeepTok_iff (y : Tok) : isDeepTok y = true ↔ ∃ st, y = some st ∧ st.tag = star2 := by
  cases y with
  | none => simp [isDeepTok]
  | some st => simp [isDeepTok]

theorem collapseDD_head : ∀ (y : Tok) (rest : List Tok),
    ∃ h t, collapseDD (y :: rest) = h :: t ∧ isDeepTok h = isDeepTok y
  | y, [] => ⟨y, [], rfl, rfl⟩
  | y, z :: rest => by
    rw [collapseDD]
    split
    · next hp =>
      obtain ⟨h, t, e, hd⟩ := collapseDD_head z rest
      refine ⟨h, t, e, ?_⟩
      rw [hd, hp.2, hp.1]
      rfl
    · exact ⟨y, _, rfl, rfl⟩

theorem collapseDD_ne (e : List Tok) (hne : e ≠ []) : collapseDD e ≠ [] := by
  cases e with
  | nil => exact absurd rfl hne
  | cons y rest =>
    obtain ⟨h, t, e, _⟩ := collapseDD_head y rest
    rw [e]; simp

theorem collapseDD_mem : ∀ (e : List Tok) (t : Tok), t ∈ collapseDD e → t ∈ e
  | [], t, h => by simp [collapseDD] at h
  | [x], t, h => by simpa [collapseDD] using h
  | x :: y :: rest, t, h => by
    rw [collapseDD] at h
    split at h
    · exact List.mem_cons_of_mem _ (collapseDD_mem (y :: rest) t h)
    · rcases List.mem_cons.1 h with e | h
      · rw [e]; simp
      · exact List.mem_cons_of_mem _ (collapseDD_mem (y :: rest) t h)

theorem collapseDD_NoDD : ∀ e : List Tok, NoDD (collapseDD e)
  | [] => by simp [collapseDD, NoDD]
  | [x] => by simp [collapseDD, NoDD]
  | x :: y :: rest => by
    rw [collapseDD]
    split
    · exact collapseDD_NoDD (y :: rest)
    · next hp =>
      obtain ⟨h, t, e, hd⟩ := collapseDD_head y rest
      have ih := collapseDD_NoDD (y :: rest)
      rw [e] at ih ⊢
      refine ⟨?_, ih⟩
      rintro ⟨hx, hst⟩
      exact hp ⟨hx, by rw [← hd]; exact (isDeepTok_iff h).2 hst⟩

theorem collapseDD_idem (e : List Tok) : collapseDD (collapseDD e) = collapseDD e := by
  have : ∀ l : List Tok, NoDD l → collapseDD l = l := by
    intro l
    induction l with
    | nil => intro _; rfl
    | cons x l ih =>
      intro h
      cases l with
      | nil => rfl
      | cons y rest =>
        obtain ⟨hxy, h'⟩ := h
        rw [collapseDD, if_neg (fun hp => hxy ⟨hp.1, (isDeepTok_iff y).1 hp.2⟩), ih h']
  exact this _ (collapseDD_NoDD e)

theorem renderExpr_cons2 (x y : Tok) (rest : List Tok) :
    renderExpr (x :: y :: rest) = renderTok x ++ '/' :: renderExpr (y :: rest) := by
  simp [renderExpr, join]

theorem renderExpr_deep_head (y : Tok) (rest : List Tok) (hy : isDeepTok y = true) :
    ∃ tail, renderExpr (y :: rest) = star2 ++ tail := by
  obtain ⟨st, rfl, htag⟩ := (isDeepTok_iff y).1 hy
  obtain ⟨r, hj, _⟩ := join_render_cons (some st) rest
  refine ⟨(renderIdx st.idx ++ renderCond st.cond) ++ r, ?_⟩
  unfold renderExpr
  rw [hj]
  simp [renderTok, renderStepE, htag]

/-- the text of an expression and the text of its collapsed token list have the same normal form,
in every left context -/
theorem ddNF_renderExpr : ∀ (e : List Tok) (pre : Str),
    ddNF (pre ++ renderExpr e) = ddNF (pre ++ renderExpr (collapseDD e))
  | [], _ => rfl
  | [x], _ => rfl
  | x :: y :: rest, pre => by
    rw [collapseDD]
    split
    · next hp =>
      obtain ⟨tail, ht⟩ := renderExpr_deep_head y rest hp.2
      rw [← ddNF_renderExpr (y :: rest) pre, renderExpr_cons2, hp.1, ht]
      have := ddNF_rewrite pre tail
      simpa [renderTok, renderStepE, stDeep, renderIdx, renderCond, starsPat, star2] using this
    · obtain ⟨h, t, e, _⟩ := collapseDD_head y rest
      have ih := ddNF_renderExpr (y :: rest) (pre ++ renderTok x ++ ['/'])
      rw [e] at ih ⊢
      rw [renderExpr_cons2, renderExpr_cons2]
      simpa using ih

/-- what `findall` reads from a rendered grammar expression, `**/**` allowed: the rendered steps of
the collapsed token list -/
theorem xpSteps_render_dd (e : List Tok) (hne : e ≠ []) (hwf : ∀ t ∈ e, WfTok t) :
    xpSteps (renderExpr e) = (collapseDD e).map renderTok := by
  have hwf' : ∀ t ∈ collapseDD e, WfTok t := fun t ht => hwf t (collapseDD_mem e t ht)
  have h1 : xpSteps (renderExpr e) = xpSteps (renderExpr (collapseDD e)) := by
    show splitPath (normXp _) = splitPath (normXp _)
    rw [normXp_eq, normXp_eq]
    have h0 := ddNF_renderExpr e []
    simp only [List.nil_append] at h0
    rw [h0]
  rw [h1]
  exact xpSteps_render _ (collapseDD_ne e hne) hwf' (renderExpr_noStars _ hwf' (collapseDD_NoDD e))

theorem parseExpr_renderExpr_dd (e : List Tok) (hne : e ≠ []) (hwf : ∀ t ∈ e, WfTok t) :
    parseExpr (renderExpr e) = some (collapseDD e) := by
  unfold parseExpr
  rw [xpSteps_render_dd e hne hwf]
  exact mapM_parseTok _ (fun t ht => hwf t (collapseDD_mem e t ht))

theorem join_mid (X Y : Str) (post : List Str) : ∀ pre : List Str,
    ∃ A B, join ['/'] (pre ++ X :: Y :: post) = A ++ X ++ '/' :: Y ++ B
  | [] => by
    cases post with
    | nil => exact ⟨[], [], by simp [join]⟩
    | cons z zs => exact ⟨[], '/' :: join ['/'] (z :: zs), by simp [join]⟩
  | p :: pre => by
    obtain ⟨A, B, h⟩ := join_mid X Y post pre
    refine ⟨p ++ '/' :: A, B, ?_⟩
    have : p :: pre ++ X :: Y :: post = p :: (pre ++ X :: Y :: post) := rfl
    rw [this, join_cons_of_ne_nil _ _ _ (by simp), h]
    simp

/-- a text without `**/**` is not the `'/'.join` of a step list in which a step ending in `**` (in
particular a plain `**`) is directly followed by a step beginning with `**` -/
theorem noDD_steps (t : Str) (h : isInfix starsPat t = false) (pre post : List Str) (x y : Str) :
    t ≠ join ['/'] (pre ++ (x ++ star2) :: (star2 ++ y) :: post) := by
  intro e
  obtain ⟨A, B, hj⟩ := join_mid (x ++ star2) (star2 ++ y) post pre
  rw [hj] at e
  have h2 := isInfix_mid starsPat (A ++ x) (y ++ B) (by decide)
  have e2 : A ++ (x ++ star2) ++ '/' :: (star2 ++ y) ++ B = A ++ x ++ starsPat ++ (y ++ B) := by
    simp [star2, starsPat]
  rw [e, e2, h2] at h
  cases h

end N0.NXml
