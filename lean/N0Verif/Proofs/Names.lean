import N0Verif.Model.Names
/-!
# The executable name-resolution checkers (C20)

Soundness, proved once for every table: a `true` answer of a checker implies the declarative statement; three of the four lists of
offenders the driver prints are empty exactly when the checker says `true` (`checkAttrs` asks more than `badAttrs = []`).  The second half is evaluation: name sets as bit sets and a PROVED
faster form of the same checkers (`checkRefs_eq_bits`, `checkAll_eq_bits`), in which the instance theorems (`Props/C20.lean`) evaluate
them on the generated table in the kernel.  Completeness is not claimed: `definesB_of_defines` finds every derivation with SOME
fuel, nothing relates that fuel to the table's own `Table.fuel`.
-/
namespace N0.Names

theorem definesB_sound (tbl : Table) :
    ∀ (fuel m n : Nat), definesB tbl fuel m n = true → Defines tbl m n
  | 0, _, _, h => by simp [definesB] at h
  | fuel + 1, m, n, h => by
    unfold definesB at h
    split at h
    · simp at h
    · rename_i mi hm
      rw [Bool.or_eq_true] at h
      rcases h with h | h
      · exact .bound hm (List.contains_iff_mem.mp h)
      · rw [List.any_eq_true] at h
        obtain ⟨m', hm', h⟩ := h
        split at h
        · simp at h
        · rename_i mi' hm''
          rw [Bool.and_eq_true] at h
          exact .star hm hm' hm'' h.1 (definesB_sound tbl fuel m' n h.2)

/-- one more unit of FUEL never loses an answer (the table is the same on both sides; nothing here is monotone in the table) -/
theorem definesB_fuel_mono (tbl : Table) :
    ∀ (fuel m n : Nat), definesB tbl fuel m n = true → definesB tbl (fuel + 1) m n = true
  | 0, _, _, h => by simp [definesB] at h
  | fuel + 1, m, n, h => by
    unfold definesB at h ⊢
    split at h
    · simp at h
    · rename_i mi hm
      rw [Bool.or_eq_true] at h ⊢
      rcases h with h | h
      · exact .inl h
      · right
        rw [List.any_eq_true] at h ⊢
        obtain ⟨m', hm', h⟩ := h
        refine ⟨m', hm', ?_⟩
        split at h
        · simp at h
        · rw [Bool.and_eq_true] at h ⊢
          exact ⟨h.1, definesB_fuel_mono tbl fuel m' n h.2⟩

/-- monotone in the FUEL (not in the table) -/
theorem definesB_mono_le (tbl : Table) {fuel fuel' m n : Nat} (hle : fuel ≤ fuel')
    (h : definesB tbl fuel m n = true) : definesB tbl fuel' m n = true := by
  induction hle with
  | refl => exact h
  | step _ ih => exact definesB_fuel_mono tbl _ m n ih

/-- every derivation of `Defines` is found by the checker with some fuel (not: with the table's own fuel `Table.fuel`) -/
theorem definesB_of_defines (tbl : Table) {m n : Nat} (h : Defines tbl m n) :
    ∃ fuel, definesB tbl fuel m n = true := by
  induction h with
  | bound hm hn =>
    refine ⟨1, ?_⟩
    unfold definesB
    rw [hm]
    simp [hn]
  | @star m m' n mi mi' hm hs hm' hex _ ih =>
    obtain ⟨fuel, ih⟩ := ih
    refine ⟨fuel + 1, ?_⟩
    unfold definesB
    rw [hm]
    simp only [Bool.or_eq_true]
    right
    rw [List.any_eq_true]
    refine ⟨m', hs, ?_⟩
    rw [hm']
    simp [hex, ih]

theorem resolvesB_sound (tbl : Table) {m n : Nat} (h : resolvesB tbl m n = true) :
    Resolves tbl m n := by
  unfold resolvesB at h
  rw [Bool.or_eq_true] at h
  rcases h with h | h
  · exact .inl (definesB_sound tbl _ m n h)
  · exact .inr (List.contains_iff_mem.mp h)

theorem mem_zipIdx_of_mod? {tbl : Table} {m : Nat} {mi : Mod} (hm : tbl.mod? m = some mi) :
    (mi, m) ∈ tbl.mods.zipIdx := List.mem_zipIdx_iff_getElem?.mpr hm

/-- the checker with a list of excused references (`known`) is sound for the references not excused.  The generated
`Gen.Symtab.known` is empty (`C20_no_exceptions`); `checkRefs_sound` is the case `known = []` -/
theorem checkRefsExcept_sound (tbl : Table) (known : List (Nat × Nat × Nat))
    (h : checkRefsExcept tbl known = true) :
    ∀ (m : Nat) (mi : Mod), tbl.mod? m = some mi →
    ∀ (f n : Nat), (f, n) ∈ mi.refs → (m, f, n) ∉ known → Resolves tbl m n := by
  intro m mi hm f n hr hk
  have h2 := List.all_eq_true.mp (List.all_eq_true.mp h (mi, m) (mem_zipIdx_of_mod? hm)) (f, n) hr
  rcases Bool.or_eq_true _ _ ▸ h2 with h2 | h2
  · exact resolvesB_sound tbl h2
  · exact absurd (List.contains_iff_mem.mp h2) hk

theorem checkRefsExcept_nil (tbl : Table) : checkRefsExcept tbl [] = checkRefs tbl := by
  unfold checkRefsExcept checkRefs
  simp

/-- every global reference of every function of every module resolves -/
theorem checkRefs_sound (tbl : Table) (h : checkRefs tbl = true) :
    ∀ (m : Nat) (mi : Mod), tbl.mod? m = some mi →
    ∀ (f n : Nat), (f, n) ∈ mi.refs → Resolves tbl m n := fun m mi hm f n hr =>
  checkRefsExcept_sound tbl [] ((checkRefsExcept_nil tbl).trans h) m mi hm f n hr List.not_mem_nil

/-- every `from .t import n` of every module finds `n` among the attributes of `t` -/
theorem checkImports_sound (tbl : Table) (h : checkImports tbl = true) :
    ∀ (mi : Mod), mi ∈ tbl.mods →
    ∀ (f t n : Nat), (f, t, n) ∈ mi.imports → Defines tbl t n := by
  intro mi hm f t n hr
  unfold checkImports at h
  rw [List.all_eq_true] at h
  have h1 := h mi hm
  rw [List.all_eq_true] at h1
  exact definesB_sound tbl _ t n (h1 (f, t, n) hr)

/-- every name of every `__all__` exists in its module, and the package exposes it -/
theorem checkAll_sound (tbl : Table) (h : checkAll tbl = true) :
    ∀ (m : Nat) (mi : Mod) (l : List Nat), tbl.mod? m = some mi → mi.all = some l →
    ∀ n ∈ l, Defines tbl m n ∧ Defines tbl tbl.pkg n := by
  intro m mi l hm hl n hn
  have h1 := List.all_eq_true.mp h (mi, m) (mem_zipIdx_of_mod? hm)
  simp only [hl] at h1
  rw [List.all_eq_true] at h1
  have h2 := h1 n hn
  rw [Bool.and_eq_true] at h2
  exact ⟨definesB_sound tbl _ m n h2.1, definesB_sound tbl _ tbl.pkg n h2.2⟩

theorem hasAttrB_sound (tbl : Table) :
    ∀ (fuel m c a : Nat), hasAttrB tbl fuel m c a = true → HasAttr tbl m c a
  | 0, _, _, _, h => by simp [hasAttrB] at h
  | fuel + 1, m, c, a, h => by
    unfold hasAttrB at h
    split at h
    · simp at h
    · rename_i ci hc
      rw [Bool.or_eq_true] at h
      rcases h with h | h
      · exact .own hc (List.contains_iff_mem.mp h)
      · rw [List.any_eq_true] at h
        obtain ⟨b, hb, h⟩ := h
        cases b with
        | lib m' c' => exact .inherit hc hb (hasAttrB_sound tbl fuel m' c' a h)
        | ext e =>
          simp only at h
          split at h
          · rename_i l he
            exact .ext hc hb he (List.contains_iff_mem.mp h)
          · simp at h
        | unknown => exact .unknown hc hb

theorem closed_contains_ancestors (tbl : Table) (l : List (Nat × Nat)) (hcl : closedB tbl l = true)
    {m c m' c' : Nat} (ha : Ancestor tbl m c m' c') (hin : (m, c) ∈ l) : (m', c') ∈ l := by
  induction ha with
  | self _ => exact hin
  | @step m c m1 c1 m2 c2 ci hc hb _ ih =>
    apply ih
    unfold closedB at hcl
    rw [List.all_eq_true] at hcl
    have h1 := hcl (m, c) hin
    simp only [hc] at h1
    rw [List.all_eq_true] at h1
    have h2 := h1 (Base.lib m1 c1) hb
    simp only at h2
    exact List.contains_iff_mem.mp h2

/-- for every exported class `(m, c)`: every `self.a` load in a method defined in the class or in
any of its library ancestors finds `a` on an instance of `(m, c)` -/
theorem checkAttrs_sound (tbl : Table) (h : checkAttrs tbl = true) :
    ∀ (m c : Nat), (m, c) ∈ tbl.concrete →
    ∀ (m' c' : Nat) (ci' : Cls), Ancestor tbl m c m' c' → tbl.cls? m' c' = some ci' →
    ∀ (f a : Nat), (f, a) ∈ ci'.loads → HasAttr tbl m c a := by
  intro m c hmc m' c' ci' hanc hc' f a hl
  unfold checkAttrs at h
  rw [List.all_eq_true] at h
  have h1 := h (m, c) hmc
  simp only [Bool.and_eq_true] at h1
  obtain ⟨⟨hself, hclosed⟩, hall⟩ := h1
  have hin : (m', c') ∈ ancestors tbl tbl.classFuel m c :=
    closed_contains_ancestors tbl _ hclosed hanc (List.contains_iff_mem.mp hself)
  rw [List.all_eq_true] at hall
  have h2 := hall (m', c') hin
  unfold loadsOkB at h2
  simp only [hc'] at h2
  rw [List.all_eq_true] at h2
  exact hasAttrB_sound tbl _ m c a (h2 (f, a) hl)

/-! the offender lists the driver prints for references, imports and export lists are empty exactly when those checks
pass (`checkAttrs` asks more than `badAttrs = []`: the ancestor list must contain the class and be closed) -/

theorem badRefs_nil_iff (tbl : Table) : badRefs tbl = [] ↔ checkRefs tbl = true := by
  simp only [badRefs, checkRefs, List.flatMap_eq_nil_iff, List.map_eq_nil_iff, List.filter_eq_nil_iff,
    List.all_eq_true, Bool.not_eq_true', Bool.not_eq_false]

theorem badImports_nil_iff (tbl : Table) : badImports tbl = [] ↔ checkImports tbl = true := by
  unfold badImports checkImports
  simp only [List.flatMap_eq_nil_iff, List.map_eq_nil_iff, List.filter_eq_nil_iff, List.all_eq_true,
    Bool.not_eq_true', Bool.not_eq_false]
  constructor
  · intro h mi hmi
    obtain ⟨i, hi⟩ := List.getElem?_of_mem hmi
    exact h (mi, i) (List.mem_zipIdx_iff_getElem?.mpr hi)
  · intro h p hp
    exact h p.1 (List.mem_of_getElem? (List.mem_zipIdx_iff_getElem?.mp (by cases p; exact hp)))

theorem badAll_nil_iff (tbl : Table) : badAll tbl = [] ↔ checkAll tbl = true := by
  simp only [badAll, checkAll, List.flatMap_eq_nil_iff, List.all_eq_true]
  refine forall_congr' fun p => forall_congr' fun _ => ?_
  cases p.1.all with
  | none => exact ⟨fun _ => rfl, fun _ => rfl⟩
  | some l =>
    simp only [List.append_eq_nil_iff, List.map_eq_nil_iff, List.filter_eq_nil_iff, Bool.not_eq_true',
      Bool.not_eq_false, List.all_eq_true, Bool.and_eq_true]
    exact ⟨fun h n hn => ⟨h.1 n hn, h.2 n hn⟩, fun h => ⟨fun n hn => (h n hn).1, fun n hn => (h n hn).2⟩⟩

/-! Name sets as bit sets.  Membership in a list costs the kernel a recursion step per element, a bit test one arithmetic
step.  A set of interned names is the number whose bit `n` says whether `n` is a member (`bits`, `testBit_bits`).
`definedBits` computes, once per module, the set that `definesB` decides name by name — it is the same recursion with
`||`/`any`/`&&` replaced by `|||`/fold of `|||`/`&&&`, and `testBit_definedBits` says that its bit `n` is `definesB … n`. -/

theorem testBit_foldr_or {α : Type} (f : α → Nat) (l : List α) (n : Nat) :
    (l.foldr (fun a s => s ||| f a) 0).testBit n = l.any (fun a => (f a).testBit n) := by
  induction l with
  | nil => exact Nat.zero_testBit n
  | cons a l ih => rw [List.foldr_cons, Nat.testBit_or, ih, List.any_cons, Bool.or_comm]

def bits (l : List Nat) : Nat := l.foldr (fun k s => s ||| 1 <<< k) 0

theorem testBit_bits (l : List Nat) (n : Nat) : (bits l).testBit n = l.contains n := by
  rw [bits, testBit_foldr_or, List.contains_eq_any_beq]
  congr 1
  funext k
  rw [Nat.one_shiftLeft, Nat.testBit_two_pow]
  exact decide_eq_decide.mpr eq_comm

/-- the part of the name set `d` of module `mi` that `from mi import *` takes: the members of `__all__`, or, without
`__all__`, `d` without its private names (`bits tbl.priv &&& d` is a subset of `d`, so `^^^` removes it) -/
def exportedBits (tbl : Table) (mi : Mod) (d : Nat) : Nat :=
  match mi.all with
  | some l => bits l &&& d
  | none => d ^^^ (bits tbl.priv &&& d)

theorem testBit_exportedBits (tbl : Table) (mi : Mod) (d n : Nat) :
    (exportedBits tbl mi d).testBit n = (exportsB tbl mi n && d.testBit n) := by
  unfold exportedBits exportsB
  cases mi.all with
  | some l => rw [Nat.testBit_and, testBit_bits]
  | none =>
    rw [Nat.testBit_xor, Nat.testBit_and, testBit_bits]
    cases tbl.priv.contains n <;> cases d.testBit n <;> rfl

/-- the names `definesB tbl fuel m` accepts -/
def definedBits (tbl : Table) : Nat → Nat → Nat
  | 0, _ => 0
  | fuel + 1, m =>
    match tbl.mod? m with
    | none => 0
    | some mi =>
      bits mi.bound ||| mi.stars.foldr (fun m' s => s |||
        match tbl.mod? m' with
        | none => 0
        | some mi' => exportedBits tbl mi' (definedBits tbl fuel m')) 0

theorem testBit_definedBits (tbl : Table) :
    ∀ fuel m n, (definedBits tbl fuel m).testBit n = definesB tbl fuel m n
  | 0, _, n => Nat.zero_testBit n
  | fuel + 1, m, n => by
    unfold definedBits definesB
    cases tbl.mod? m with
    | none => exact Nat.zero_testBit n
    | some mi =>
      rw [Nat.testBit_or, testBit_bits, testBit_foldr_or]
      congr 2
      funext m'
      cases tbl.mod? m' with
      | none => exact Nat.zero_testBit n
      | some mi' => rw [testBit_exportedBits, testBit_definedBits tbl fuel m' n]

theorem checkRefs_eq_bits (tbl : Table) :
    checkRefs tbl = tbl.mods.zipIdx.all (fun p => p.1.refs.all (fun r =>
      (definedBits tbl tbl.fuel p.2 ||| bits tbl.builtins).testBit r.2)) := by
  simp only [checkRefs, resolvesB, Nat.testBit_or, testBit_definedBits, testBit_bits]

theorem checkAll_eq_bits (tbl : Table) :
    checkAll tbl = tbl.mods.zipIdx.all (fun p =>
      match p.1.all with
      | none => true
      | some l => l.all (fun n =>
          (definedBits tbl tbl.fuel p.2 &&& definedBits tbl tbl.fuel tbl.pkg).testBit n)) := by
  simp only [checkAll, Nat.testBit_and, testBit_definedBits]
  rfl

end N0.Names
