import N0Verif.Model.Tlv
/-!
  `Tlv.slice s a b` is Python's `s[a:b]` for natural bounds.  How it behaves on an append is what both positional
  codecs need: the TLV parser cuts its three cells out of the input one behind the other, the fixed-width writer
  splices a cell into a row and the reader slices it out again.
-/
namespace N0.Tlv
open N0 N0.Py

theorem slice_length (s : Str) (a b : Nat) : (slice s a b).length = min (b - a) (s.length - a) := by
  unfold slice
  rw [List.length_take, List.length_drop]

theorem slice_append (s : Str) {a b c : Nat} (h1 : a ≤ b) (h2 : b ≤ c) :
    slice s a b ++ slice s b c = slice s a c := by
  obtain ⟨k, rfl⟩ := Nat.exists_eq_add_of_le h1
  obtain ⟨m, rfl⟩ := Nat.exists_eq_add_of_le h2
  unfold slice
  rw [Nat.add_sub_cancel_left, Nat.add_sub_cancel_left, Nat.add_assoc, Nat.add_sub_cancel_left,
    List.take_add, List.drop_drop]

theorem slice_zero_of_le (s : Str) {n : Nat} (h : s.length ≤ n) : slice s 0 n = s := by
  simp [slice, List.take_of_length_le h]

theorem slice_eq_nil_of_le (s : Str) {a b : Nat} (h : s.length ≤ a) : slice s a b = [] := by
  simp [slice, List.drop_eq_nil_of_le h]

theorem slice_self (s : Str) (a : Nat) : slice s a a = [] := by
  unfold slice
  rw [Nat.sub_self, List.take_zero]

theorem slice_append_left (p q : Str) (a : Nat) {b : Nat} (h : b ≤ p.length) :
    slice (p ++ q) a b = slice p a b := by
  unfold slice
  rw [List.drop_append, List.take_append, List.length_drop,
    Nat.sub_eq_zero_of_le (Nat.sub_le_sub_right h a), List.take_zero, List.append_nil]

theorem slice_append_right (p q : Str) {k a : Nat} (b : Nat) (hp : p.length = k) (h : k ≤ a) :
    slice (p ++ q) a b = slice q (a - k) (b - k) := by
  subst hp
  unfold slice
  rw [List.drop_append, List.drop_eq_nil_of_le h, List.nil_append, Nat.sub_sub_sub_cancel_right h]

theorem slice_cell (p m q : Str) : slice (p ++ (m ++ q)) p.length (p.length + m.length) = m := by
  unfold slice
  rw [List.drop_left, Nat.add_sub_cancel_left, List.take_left]

theorem slice_replicate (n a b : Nat) (ch : Char) (h : b ≤ n) :
    slice (List.replicate n ch) a b = List.replicate (b - a) ch := by
  unfold slice
  rw [List.drop_replicate, List.take_replicate, Nat.min_eq_left (Nat.sub_le_sub_right h a)]

end N0.Tlv
