import N0Verif.Model.Esc
import N0Verif.Py.Lemmas
/-!
  C17, `str.split(sep, maxsplit)` (`splitAux`) by itself: how many pieces, what they are made of, and `split` after `join` for
  items that hold no character of the separator (`Clean`).  No escape character occurs here; the loop of `split_with_escape` is
  `Proofs/Esc.lean`.
-/
namespace N0.Esc
open N0 N0.Py

theorem consHead_ne_nil (c : Char) (l : List Str) : consHead c l ≠ [] := by
  cases l <;> simp [consHead]

theorem consHead_length (c : Char) (l : List Str) (h : l ≠ []) : (consHead c l).length = l.length := by
  cases l with
  | nil => exact absurd rfl h
  | cons a t => simp [consHead]

theorem splitAux_ne_nil (sep : Str) (lim : Option Nat) (skip : Nat) (s : Str) :
    splitAux sep lim skip s ≠ [] := by
  fun_induction splitAux sep lim skip s with
  | case1 => exact List.cons_ne_nil _ _
  | case2 _ _ _ _ ih => exact ih
  | case3 => exact List.cons_ne_nil _ _
  | case4 => exact consHead_ne_nil _ _

theorem splitAux_length_le (sep : Str) (lim : Option Nat) (skip : Nat) (s : Str) :
    (splitAux sep lim skip s).length ≤ s.length + 1 := by
  fun_induction splitAux sep lim skip s with
  | case1 => exact Nat.le_refl _
  | case2 _ _ _ _ ih => exact Nat.le_succ_of_le ih
  | case3 _ _ _ _ ih => exact Nat.succ_le_succ ih
  | case4 _ _ _ _ ih => rw [consHead_length _ _ (splitAux_ne_nil _ _ _ _)]; exact Nat.le_succ_of_le ih

theorem splitAux_length_lim (sep : Str) (k skip : Nat) (s : Str) :
    (splitAux sep (some k) skip s).length ≤ k + 1 := by
  generalize hl : some k = lim
  fun_induction splitAux sep lim skip s generalizing k with
  | case1 => exact Nat.succ_le_succ (Nat.zero_le _)
  | case2 _ _ _ _ ih => exact ih k hl
  | case3 _ _ _ h ih =>
    subst hl
    cases k with
    | zero => simp [canSplit] at h
    | succ k' => exact Nat.succ_le_succ (ih k' rfl)
  | case4 _ _ _ _ ih => rw [consHead_length _ _ (splitAux_ne_nil _ _ _ _)]; exact ih k hl

theorem flatten_consHead (c : Char) (l : List Str) : (consHead c l).flatten = c :: l.flatten := by
  cases l <;> rfl

theorem splitAux_flatten_mem (sep : Str) (lim : Option Nat) (skip : Nat) (s : Str) (c : Char)
    (hc : c ∈ (splitAux sep lim skip s).flatten) : c ∈ s := by
  fun_induction splitAux sep lim skip s with
  | case1 => exact hc
  | case2 _ _ _ _ ih => exact List.mem_cons_of_mem _ (ih hc)
  | case3 _ _ _ _ ih => exact List.mem_cons_of_mem _ (ih hc)
  | case4 _ _ _ _ ih =>
    rw [flatten_consHead] at hc
    exact (List.mem_cons.1 hc).elim (fun h => h ▸ List.mem_cons_self) (fun h => List.mem_cons_of_mem _ (ih h))

theorem splitAux_mem (sep : Str) (lim : Option Nat) (skip : Nat) (s : Str) (p : Str)
    (hp : p ∈ splitAux sep lim skip s) (c : Char) (hc : c ∈ p) : c ∈ s :=
  splitAux_flatten_mem sep lim skip s c (List.mem_flatten.2 ⟨p, hp, hc⟩)

theorem splitAux_lim_zero (sep : Str) (s : Str) : splitAux sep (some 0) 0 s = [s] := by
  induction s with
  | nil => rfl
  | cons c s ih => simp [splitAux, canSplit, ih, consHead]

theorem splitAux_single (d : Str) (s : Str) (lim : Option Nat) (sk : Nat) (p : Str)
    (h : splitAux d lim sk s = [p]) : p = s.drop sk := by
  fun_induction splitAux d lim sk s generalizing p with
  | case1 => cases h; simp
  | case2 _ _ _ _ ih => exact ih p h
  | case3 => exact absurd (List.cons.inj h).2 (splitAux_ne_nil _ _ _ _)
  | case4 lim c s _ ih =>
    cases hL : splitAux d lim 0 s with
    | nil => exact absurd hL (splitAux_ne_nil _ _ _ _)
    | cons p' L' =>
      rw [hL, consHead] at h
      cases h
      rw [ih p' hL]; rfl

/-- this and the next bound the pieces, NOT the rounds of the `while` loop (a piece split again may be joined again): the fuel is
`fuelFor` -/
theorem splitMax_length_le (d : Str) (m : Nat) (s : Str) : (splitMax d m s).length ≤ s.length + 1 :=
  splitAux_length_le _ _ _ _

theorem splitMax_length_lim (d : Str) (m : Nat) (s : Str) (hm : m ≠ 0) :
    (splitMax d m s).length ≤ m + 1 := by
  unfold splitMax limOf
  rw [if_neg hm]
  exact splitAux_length_lim _ _ _ _

theorem splitMax_ne_nil (d : Str) (m : Nat) (s : Str) : splitMax d m s ≠ [] :=
  splitAux_ne_nil _ _ _ _

theorem canSplit_eq_false {lim : Option Nat} (h : canSplit lim = false) : lim = some 0 := by
  cases lim with
  | none => simp [canSplit] at h
  | some k => simp [canSplit] at h; rw [h]

theorem decLim_isSome (lim : Option Nat) : (decLim lim).isSome = lim.isSome := by
  cases lim <;> rfl

theorem limOf_isSome (m : Nat) : (limOf m).isSome = (m != 0) := by
  unfold limOf
  split <;> simp [*]

def Clean (sep x : Str) : Prop := ∀ c ∈ x, c ∉ sep

instance (sep x : Str) : Decidable (Clean sep x) := by unfold Clean; infer_instance

/-- two functions of one name are open here: `Esc.consHead c` (the model's) puts a CHARACTER in front of the first piece,
`Py.consHead x` (the library's) a TEXT -/
theorem consHead_consHead (a : Char) (x : Str) (l : List Str) :
    consHead a (Py.consHead x l) = Py.consHead (a :: x) l := by
  cases l <;> rfl

theorem splitAux_clean_append (sep : Str) (lim : Option Nat) (x r : Str) (hs : sep ≠ [])
    (hx : Clean sep x) : splitAux sep lim 0 (x ++ r) = Py.consHead x (splitAux sep lim 0 r) := by
  induction x with
  | nil =>
    have := splitAux_ne_nil sep lim 0 r
    cases h : splitAux sep lim 0 r with
    | nil => exact absurd h this
    | cons a t => simp [Py.consHead, h]
  | cons a x ih =>
    cases sep with
    | nil => exact absurd rfl hs
    | cons s0 sep' =>
      have ha : a ≠ s0 := by
        intro h; exact hx a (by simp) (by simp [h])
      simp only [List.cons_append, splitAux, startsWith_cons_ne a s0 _ _ ha, Bool.and_false,
        Bool.false_eq_true, ↓reduceIte]
      rw [ih (fun c hc => hx c (by simp [hc])), consHead_consHead]

theorem splitAux_skip (sep : Str) (lim : Option Nat) (pre r : Str) :
    splitAux sep lim pre.length (pre ++ r) = splitAux sep lim 0 r := by
  induction pre with
  | nil => rfl
  | cons a pre ih => simp only [List.length_cons, List.cons_append, splitAux]; exact ih

theorem splitAux_at_sep (sep : Str) (lim : Option Nat) (r : Str) (hs : sep ≠ [])
    (hl : canSplit lim = true) :
    splitAux sep lim 0 (sep ++ r) = [] :: splitAux sep (decLim lim) 0 r := by
  cases sep with
  | nil => exact absurd rfl hs
  | cons s0 sep' =>
    have h1 : startsWith (s0 :: (sep' ++ r)) (s0 :: sep') = true := startsWith_append (s0 :: sep') r
    simp only [List.cons_append, splitAux, hl, h1, Bool.and_self, ↓reduceIte, List.length_cons,
      Nat.add_sub_cancel]
    rw [splitAux_skip]

theorem splitAux_no_occ (sep : Str) (lim : Option Nat) (s : Str) (h : isInfix sep s = false) :
    splitAux sep lim 0 s = [s] := by
  induction s with
  | nil => rfl
  | cons c s ih =>
    simp only [isInfix, Bool.or_eq_false_iff] at h
    simp only [splitAux, h.1, Bool.and_false, Bool.false_eq_true, ↓reduceIte, ih h.2, consHead]

theorem splitAux_clean (sep : Str) (lim : Option Nat) (x : Str) (hs : sep ≠ []) (hx : Clean sep x) :
    splitAux sep lim 0 x = [x] := by
  have := splitAux_clean_append sep lim x [] hs hx
  simpa [splitAux, Py.consHead] using this

theorem split_join (sep : Str) (hs : sep ≠ []) (items : List Str) (hne : items ≠ [])
    (hc : ∀ it ∈ items, Clean sep it) : splitAux sep none 0 (join sep items) = items := by
  induction items with
  | nil => exact absurd rfl hne
  | cons x items ih =>
    cases items with
    | nil => simpa [join] using splitAux_clean sep none x hs (hc x (by simp))
    | cons y rest =>
      simp only [join, List.append_assoc]
      rw [splitAux_clean_append sep none x _ hs (hc x (by simp)),
        splitAux_at_sep sep none _ hs rfl]
      simp only [decLim]
      rw [ih (by simp) (fun it hit => hc it (by simp [hit]))]
      simp [Py.consHead]

theorem splitAux_pair (eq k v : Str) (hs : eq ≠ []) (hk : Clean eq k) :
    splitAux eq (some 1) 0 (k ++ eq ++ v) = [k, v] := by
  rw [List.append_assoc, splitAux_clean_append eq _ k _ hs hk, splitAux_at_sep eq _ _ hs rfl]
  simp [decLim, splitAux_lim_zero, Py.consHead]

theorem clean_join (sep ds : Str) (l : List Str) (hl : ∀ it ∈ l, Clean sep it) (hds : Clean sep ds) :
    Clean sep (join ds l) := by
  intro c hc
  rcases join_mem ds l c hc with h | ⟨it, hit, h⟩
  · exact hds c h
  · exact hl it hit c h

theorem join_eq_nil_iff (ds : Str) (hds : ds ≠ []) (l : List Str) (hl : l ≠ []) :
    join ds l = [] ↔ l = [[]] := by
  cases l with
  | nil => exact absurd rfl hl
  | cons x t =>
    cases t with
    | nil => simp [join]
    | cons y t' =>
      simp only [join]
      constructor
      · intro h
        have := (List.append_eq_nil_iff.mp h).1
        exact absurd (List.append_eq_nil_iff.mp this).2 hds
      · intro h; cases h

theorem splitWithEscape_none (s d : Str) (m : Nat) (tr : Bool) : splitWithEscape s d m none tr = pySplit d m s := by
  by_cases hd : d = [] <;> simp [splitWithEscape, splitWithEscapeD, pySplit, hd]

/-- the empty list is let in under `parse_empty=False`: `''` has no items then -/
theorem deserializeList_join_none (d : Str) (items : List Str) (pe : Bool) (hd : d ≠ []) (hne : items = [] → pe = false)
    (hc : ∀ it ∈ items, Clean d it) :
    deserializeList (join d items) d pe none = .ok (items.filter (fun it => !it.isEmpty || pe)) := by
  rw [deserializeList, splitWithEscape_none, pySplit, if_neg hd, splitMax, limOf, if_pos rfl]
  cases items with
  | nil => cases hne rfl; rfl
  | cons x t => rw [split_join d hd _ (List.cons_ne_nil _ _) hc]; rfl

theorem deserializeListOfLists_join (d ds : Str) (lists : List (List Str)) (pe : Bool) (hd : d ≠ []) (hds : ds ≠ [])
    (hne : lists ≠ []) (hine : ∀ l ∈ lists, l ≠ [])
    (hc : ∀ l ∈ lists, ∀ it ∈ l, Clean d it ∧ Clean ds it) (hdd : Clean d ds) :
    deserializeListOfLists (join d (lists.map (join ds))) d ds pe
      = .ok ((lists.filter (fun l => !(join ds l).isEmpty || pe)).map
          (fun l => l.filter (fun it => !it.isEmpty || pe))) := by
  have hclean : ∀ t ∈ lists.map (join ds), Clean d t := by
    intro t ht
    obtain ⟨l, hl, rfl⟩ := List.mem_map.1 ht
    exact clean_join d ds l (fun it hit => (hc l hl it hit).1) hdd
  unfold deserializeListOfLists
  rw [deserializeList_join_none d _ pe hd (fun h => absurd (List.map_eq_nil_iff.1 h) hne) hclean]
  simp only [bind, Except.bind]
  rw [List.filter_map, List.mapM_map]
  refine mapM_ok _ _ _ (fun l hl => ?_)
  have hl' : l ∈ lists := (List.mem_filter.1 hl).1
  exact deserializeList_join_none ds l pe hds (fun h => absurd h (hine l hl')) (fun it hit => (hc l hl' it hit).2)

end N0.Esc
