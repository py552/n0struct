import N0Verif.Proofs.Slice
import N0Verif.Proofs.TlvInt
import N0Verif.Py.Lemmas
/-!
  The TLV half of `Props/C16.lean`: what one iteration of `parse_tlv` cuts out of the input and why the loop tiles it
  and ends (`Tiles`, for every `int()` that rejects `''`); that `parse_tlv` reads what `generate_tlv` wrote, for every
  `int()` that reads the length fields back; and for which `len_padding` the probe of `generate_tlv` holds.
  `Tiles`/`loop_spec` describe a result one is handed and never say that a step succeeds; to COMPUTE what the parser returns on a
  text built from cells, use `step_cells` under `loop_ok`/`loop_done`, as `loop_genEntries_expected` does.
-/
namespace N0.Tlv
open N0 N0.Py

/-- what one successful iteration yields -/
structure WellCut (pyInt : Str → Option Int) (s : Str) (tl ll : Nat) (t : Trip) : Prop where
  tag : t.tag = slice s t.off (t.off + tl)
  lenText : t.lenText = slice s (t.off + tl) (t.off + tl + ll)
  int : pyInt t.lenText = some t.len
  nonneg : 0 ≤ t.len
  value : t.value = slice s (t.off + tl + ll) t.next
  next : t.next = t.off + tl + ll + t.len.toNat

theorem step_ok {pyInt : Str → Option Int} {s : Str} {tl ll off : Nat} {t : Trip}
    (h : step pyInt s tl ll off = .ok t) : t.off = off ∧ WellCut pyInt s tl ll t := by
  unfold step at h
  simp only at h
  split at h
  · cases h
  · rename_i n hn
    split at h
    · cases h
    · rename_i hneg
      cases h
      exact ⟨rfl, ⟨rfl, rfl, hn, Int.not_lt.mp hneg, rfl, rfl⟩⟩

theorem step_error {pyInt : Str → Option Int} {s : Str} {tl ll off : Nat} {e : PyErr}
    (h : step pyInt s tl ll off = .error e) : e = .ValueError := by
  unfold step at h
  simp only at h
  split at h
  · cases h; rfl
  · split at h
    · cases h; rfl
    · cases h

theorem WellCut.cells {pyInt s tl ll t} (w : WellCut pyInt s tl ll t) :
    t.cells = slice s t.off t.next := by
  unfold Trip.cells
  rw [w.tag, w.lenText, w.value, w.next, slice_append s (Nat.le_add_right _ _) (Nat.le_add_right _ _),
    slice_append s (Nat.le_trans (Nat.le_add_right _ _) (Nat.le_add_right _ _)) (Nat.le_add_right _ _)]

/-- progress, for every `pyInt` that rejects the empty string: a successful iteration has read a length field of at
least one character that starts inside the input, so it moves forward -/
theorem WellCut.progress {pyInt s tl ll t} (w : WellCut pyInt s tl ll t)
    (hE : pyInt [] = none) : t.off + tl < s.length ∧ 1 ≤ ll ∧ t.off < t.next := by
  -- the text handed to `pyInt` is not empty, and it is a slice of length `min ll (|s| - (off + tl))`
  have hne : t.lenText ≠ [] := by
    intro h; have := w.int; rw [h, hE] at this; cases this
  have hlen : 0 < t.lenText.length := List.length_pos_iff.mpr hne
  rw [w.lenText, slice_length, Nat.add_sub_cancel_left, Nat.lt_min] at hlen
  refine ⟨Nat.lt_of_sub_pos hlen.2, hlen.1, ?_⟩
  rw [w.next, Nat.add_assoc, Nat.add_assoc]
  exact Nat.lt_add_of_pos_right (Nat.add_pos_right _ (Nat.add_pos_left hlen.1 _))

theorem step_forward {pyInt : Str → Option Int} (hE : pyInt [] = none) {s : Str} {tl ll off : Nat} {t : Trip}
    (h : step pyInt s tl ll off = .ok t) : off < t.next := by
  obtain ⟨hoff, w⟩ := step_ok h
  exact hoff ▸ (w.progress hE).2.2

/-- `Tiles o trips e`: the triplets are cut out of `s` one after the other, the first at
offset `o`, each one starting strictly inside the input and exactly where the previous one
ended, the last one ending at `e` -/
inductive Tiles (pyInt : Str → Option Int) (s : Str) (tl ll : Nat) : Nat → List Trip → Nat → Prop
  | nil (o : Nat) : Tiles pyInt s tl ll o [] o
  | cons {o e : Nat} {t : Trip} {rest : List Trip} :
      t.off = o → o < s.length → o < t.next → WellCut pyInt s tl ll t →
      Tiles pyInt s tl ll t.next rest e → Tiles pyInt s tl ll o (t :: rest) e

theorem loop_ok {stp : Nat → Except PyErr Trip} {n off : Nat} {t : Trip} (hin : off < n) (hs : stp off = .ok t) (fuel : Nat) :
    loop stp n (fuel + 1) off = { loop stp n fuel t.next with trips := t :: (loop stp n fuel t.next).trips } := by
  rw [loop, if_pos hin, hs]

theorem loop_done (stp : Nat → Except PyErr Trip) {n off : Nat} (h : ¬ off < n) (fuel : Nat) :
    loop stp n (fuel + 1) off = { trips := [], off := off, status := .done } := by
  rw [loop, if_neg h]

theorem loop_stuck {stp : Nat → Except PyErr Trip} {n off : Nat} {t : Trip} (hin : off < n)
    (hs : stp off = .ok t) (hnext : t.next = off) (fuel : Nat) :
    (loop stp n fuel off).status = .raised .OutOfFuel := by
  induction fuel with
  | zero => rfl
  | succ f ih =>
    rw [loop_ok hin hs, hnext]
    exact ih

theorem parseWith_succ (stp : Nat → Except PyErr Trip) (s : Str) (fuel : Nat) :
    parseWith stp s (fuel + 1) = loop stp s.length (fuel + 1) 0 := by
  cases s with
  | nil => rfl
  | cons c s => rfl

theorem parseWith_stuck {stp : Nat → Except PyErr Trip} {s : Str} {t : Trip} (hne : s ≠ [])
    (hs : stp 0 = .ok t) (hnext : t.next = 0) (fuel : Nat) :
    (parseWith stp s fuel).status = .raised .OutOfFuel := by
  cases s with
  | nil => exact absurd rfl hne
  | cons c s => exact loop_stuck (Nat.succ_pos _) hs hnext fuel

theorem fuel_after {n off next fuel : Nat} (hin : off < n) (h : off < next) (hf : n - off < fuel + 1) :
    n - next < fuel :=
  Nat.lt_of_lt_of_le (Nat.sub_lt_sub_left hin h) (Nat.le_of_lt_succ hf)

theorem loop_fuel_irrelevant {stp : Nat → Except PyErr Trip} {n : Nat}
    (hfw : ∀ off t, stp off = .ok t → off < t.next) (f1 f2 off : Nat)
    (h1 : n - off < f1) (h2 : n - off < f2) : loop stp n f1 off = loop stp n f2 off := by
  induction f1 generalizing f2 off with
  | zero => exact absurd h1 (Nat.not_lt_zero _)
  | succ f1 ih =>
    cases f2 with
    | zero => exact absurd h2 (Nat.not_lt_zero _)
    | succ f2 =>
      simp only [loop]
      split
      · rename_i hin
        cases hs : stp off with
        | error e => rfl
        | ok t =>
          have hfw := hfw off t hs
          simp only
          rw [ih f2 t.next (fuel_after hin hfw h1) (fuel_after hin hfw h2)]
      · rfl

section
variable {pyInt : Str → Option Int} {s : Str} {tl ll : Nat}

theorem Tiles.le {o e : Nat} {trips : List Trip} (h : Tiles pyInt s tl ll o trips e) : o ≤ e := by
  induction h with
  | nil => exact Nat.le_refl _
  | cons _ _ hlt _ _ ih => exact Nat.le_trans (Nat.le_of_lt hlt) ih

theorem Tiles.concat {o e : Nat} {trips : List Trip} (h : Tiles pyInt s tl ll o trips e) :
    trips.flatMap Trip.cells = slice s o e := by
  induction h with
  | nil o => rw [List.flatMap_nil, slice_self]
  | cons ho _ hlt w hrest ih =>
    rw [List.flatMap_cons, ih, w.cells, ho, slice_append s (Nat.le_of_lt hlt) hrest.le]

theorem Tiles.count {o e : Nat} {trips : List Trip} (h : Tiles pyInt s tl ll o trips e) :
    trips.length ≤ s.length - o := by
  induction h with
  | nil => exact Nat.zero_le _
  | cons _ hin hlt _ _ ih => exact Nat.succ_le_of_lt (Nat.lt_of_le_of_lt ih (Nat.sub_lt_sub_left hin hlt))

theorem Tiles.off_ge {o e : Nat} {trips : List Trip} (h : Tiles pyInt s tl ll o trips e) :
    ∀ t ∈ trips, o ≤ t.off := by
  induction h with
  | nil => exact fun _ h => absurd h List.not_mem_nil
  | cons ho _ hlt _ _ ih =>
    exact List.forall_mem_cons.mpr ⟨Nat.le_of_eq ho.symm, fun t h => Nat.le_trans (Nat.le_of_lt hlt) (ih t h)⟩

theorem Tiles.increasing {o e : Nat} {trips : List Trip} (h : Tiles pyInt s tl ll o trips e) :
    List.Pairwise (· < ·) (trips.map Trip.off) := by
  induction h with
  | nil => exact List.Pairwise.nil
  | cons ho _ hlt _ hrest ih =>
    rw [List.map_cons, List.pairwise_cons]
    refine ⟨?_, ih⟩
    intro x hx
    obtain ⟨t', ht', rfl⟩ := List.mem_map.mp hx
    exact ho ▸ Nat.lt_of_lt_of_le hlt (hrest.off_ge t' ht')

theorem Tiles.wellCut {o e : Nat} {trips : List Trip} (h : Tiles pyInt s tl ll o trips e) :
    ∀ t ∈ trips, WellCut pyInt s tl ll t := by
  induction h with
  | nil => exact fun _ h => absurd h List.not_mem_nil
  | cons _ _ _ w _ ih => exact List.forall_mem_cons.mpr ⟨w, ih⟩

theorem Tiles.split {o e : Nat} {trips : List Trip} (h : Tiles pyInt s tl ll o trips e)
    (pre : List Trip) (t : Trip) (post : List Trip) (heq : trips = pre ++ t :: post) :
    pre.flatMap Trip.cells = slice s o t.off ∧ o ≤ t.off ∧ t.off < s.length := by
  induction h generalizing pre with
  | nil => cases pre <;> cases heq
  | cons ho hin hlt w hrest ih =>
    cases pre with
    | nil =>
      obtain ⟨rfl, _⟩ := List.cons.inj heq
      subst ho
      exact ⟨(slice_self s _).symm, Nat.le_refl _, hin⟩
    | cons p pre =>
      obtain ⟨rfl, hrest'⟩ := List.cons.inj heq
      obtain ⟨h1, h2, h3⟩ := ih pre hrest'
      refine ⟨?_, Nat.le_trans (Nat.le_of_lt hlt) h2, h3⟩
      rw [List.flatMap_cons, h1, w.cells, ho, slice_append s (Nat.le_of_lt hlt) h2]

theorem loop_spec (hE : pyInt [] = none) (fuel off : Nat) :
    let r := loop (step pyInt s tl ll) s.length fuel off
    Tiles pyInt s tl ll off r.trips r.off
    ∧ (r.status = .done → s.length ≤ r.off)
    ∧ (r.status = .done ∨ r.status = .raised .ValueError ∨ r.status = .raised .OutOfFuel)
    ∧ (s.length - off < fuel → r.status ≠ .raised .OutOfFuel) := by
  induction fuel generalizing off with
  | zero => exact ⟨Tiles.nil _, Status.noConfusion, Or.inr (Or.inr rfl), fun h => absurd h (Nat.not_lt_zero _)⟩
  | succ fuel ih =>
    simp only [loop]
    split
    · rename_i hin
      cases hs : step pyInt s tl ll off with
      | error e =>
        cases step_error hs
        exact ⟨Tiles.nil _, Status.noConfusion, Or.inr (Or.inl rfl), fun _ h => PyErr.noConfusion (Status.raised.inj h)⟩
      | ok t =>
        have hfw := step_forward hE hs
        obtain ⟨hoff, w⟩ := step_ok hs
        obtain ⟨h1, h2, h3, h4⟩ := ih t.next
        exact ⟨Tiles.cons hoff hin hfw w h1, h2, h3, fun hf => h4 (fuel_after hin hfw hf)⟩
    · rename_i hin
      exact ⟨Tiles.nil _, fun _ => Nat.le_of_not_lt hin, Or.inl rfl, fun _ => Status.noConfusion⟩

end

theorem step_cells {pyInt : Str → Option Int} (pre A B v rest : Str) (hi : pyInt B = some (v.length : Int)) :
    step pyInt (pre ++ (A ++ B ++ v) ++ rest) A.length B.length pre.length
      = .ok { tag := A, lenText := B, len := v.length, value := v, off := pre.length,
              next := (pre ++ (A ++ B ++ v)).length } := by
  have hnext : pre.length + A.length + B.length + v.length = (pre ++ (A ++ B ++ v)).length := by
    simp only [List.length_append, Nat.add_assoc]
  have hs : pre ++ (A ++ B ++ v) ++ rest = pre ++ (A ++ (B ++ (v ++ rest))) := by
    simp only [List.append_assoc]
  have h1 := slice_cell pre A (B ++ (v ++ rest))
  have h2 := slice_cell (pre ++ A) B (v ++ rest)
  have h3 := slice_cell (pre ++ A ++ B) v rest
  rw [List.append_assoc, List.length_append] at h2
  rw [List.append_assoc, List.append_assoc, List.length_append, List.length_append] at h3
  have hn : ¬ ((v.length : Int) < 0) := Int.not_lt.mpr (Int.natCast_nonneg _)
  rw [hs, step]
  simp only [h1, h2, hi, hn, if_false, Int.toNat_natCast, h3]
  rw [hnext]

section
variable {tl ll : Nat} {tp lp : Char}

theorem genEntry_fits {t v : Str} (h1 : t.length ≤ tl)
    (h2 : (decimal v.length).length ≤ ll) :
    genEntry tl ll tp lp t v = .ok (ljust tl tp t ++ rjust ll lp (decimal v.length) ++ v) := by
  rw [genEntry, if_pos h1, if_pos h2]

theorem genEntry_ok {t v e : Str} (h : genEntry tl ll tp lp t v = .ok e) :
    t.length ≤ tl ∧ (decimal v.length).length ≤ ll
      ∧ e = ljust tl tp t ++ rjust ll lp (decimal v.length) ++ v := by
  by_cases h1 : t.length ≤ tl
  · by_cases h2 : (decimal v.length).length ≤ ll
    · rw [genEntry_fits h1 h2] at h
      exact ⟨h1, h2, (Except.ok.inj h).symm⟩
    · rw [genEntry, if_pos h1, if_neg h2] at h
      cases h
  · rw [genEntry, if_neg h1] at h
    cases h

theorem genEntry_error {t v : Str} {e : PyErr}
    (h : genEntry tl ll tp lp t v = .error e) : e = .AssertionError := by
  by_cases h1 : t.length ≤ tl
  · by_cases h2 : (decimal v.length).length ≤ ll
    · rw [genEntry_fits h1 h2] at h
      cases h
    · rw [genEntry, if_pos h1, if_neg h2] at h
      exact (Except.error.inj h).symm
  · rw [genEntry, if_neg h1] at h
    exact (Except.error.inj h).symm

/-- an entry is not empty, because its length cell is not -/
theorem genEntry_length_pos {t v e : Str} (h : genEntry tl ll tp lp t v = .ok e) : 0 < e.length := by
  obtain ⟨_, h2, rfl⟩ := genEntry_ok h
  rw [List.length_append, List.length_append, rjust_length ll lp _ h2]
  exact Nat.add_pos_left (Nat.add_pos_right _ (Nat.lt_of_lt_of_le Nat.length_toDigits_pos h2)) _

theorem step_genEntry {pyInt : Str → Option Int} (hI : IntReads pyInt ll lp) {t v e : Str}
    (he : genEntry tl ll tp lp t v = .ok e) (pre rest : Str) :
    ∃ trip, step pyInt (pre ++ e ++ rest) tl ll pre.length = .ok trip
      ∧ trip.next = (pre ++ e).length ∧ trip.view = expected tl tp (t, v) := by
  obtain ⟨h1, h2, rfl⟩ := genEntry_ok he
  have hs := step_cells pre (ljust tl tp t) (rjust ll lp (decimal v.length)) v rest (hI v.length h2)
  rw [ljust_length tl tp t h1, rjust_length ll lp _ h2] at hs
  exact ⟨_, hs, rfl, rfl⟩

theorem genEntries_cons_ok {t v : Str} {rest : List (Str × Str)} {g : Str}
    (h : genEntries tl ll tp lp ((t, v) :: rest) = .ok g) :
    ∃ e r, genEntry tl ll tp lp t v = .ok e ∧ genEntries tl ll tp lp rest = .ok r ∧ g = e ++ r := by
  rw [genEntries] at h
  cases he : genEntry tl ll tp lp t v with
  | error e => rw [he] at h; cases h
  | ok e =>
    cases hr : genEntries tl ll tp lp rest with
    | error e' => rw [he, hr] at h; cases h
    | ok r => rw [he, hr] at h; cases h; exact ⟨e, r, rfl, rfl, rfl⟩

theorem genEntries_ok_iff (d : List (Str × Str)) :
    (∃ g, genEntries tl ll tp lp d = .ok g) ↔ Fits tl ll d := by
  induction d with
  | nil => exact ⟨fun _ _ h => absurd h List.not_mem_nil, fun _ => ⟨_, rfl⟩⟩
  | cons e d ih =>
    obtain ⟨t, v⟩ := e
    constructor
    · rintro ⟨g, hg⟩
      obtain ⟨e, r, he, hr, _⟩ := genEntries_cons_ok hg
      obtain ⟨h1, h2, _⟩ := genEntry_ok he
      exact List.forall_mem_cons.mpr ⟨⟨h1, h2⟩, ih.mp ⟨r, hr⟩⟩
    · intro hf
      obtain ⟨⟨h1, h2⟩, hd⟩ := List.forall_mem_cons.mp hf
      obtain ⟨r, hr⟩ := ih.mpr hd
      exact ⟨_, by rw [genEntries, genEntry_fits h1 h2, hr]⟩

theorem genEntries_error (d : List (Str × Str)) (e : PyErr)
    (h : genEntries tl ll tp lp d = .error e) : e = .AssertionError := by
  induction d with
  | nil => cases h
  | cons x d ih =>
    obtain ⟨t, v⟩ := x
    rw [genEntries] at h
    cases he : genEntry tl ll tp lp t v with
    | error e' => rw [he] at h; cases h; exact genEntry_error he
    | ok s =>
      cases hr : genEntries tl ll tp lp d with
      | error e' => rw [he, hr] at h; cases h; exact ih hr
      | ok r => rw [he, hr] at h; cases h

theorem loop_genEntries_expected {pyInt : Str → Option Int}
    (hI : IntReads pyInt ll lp) (d : List (Str × Str)) (g : Str)
    (hg : genEntries tl ll tp lp d = .ok g) (pre : Str) (fuel : Nat) (hf : d.length < fuel) :
    let r := loop (step pyInt (pre ++ g) tl ll) (pre ++ g).length fuel pre.length
    r.status = .done ∧ r.off = (pre ++ g).length ∧ r.trips.map Trip.view = d.map (expected tl tp) := by
  induction d generalizing g pre fuel with
  | nil =>
    cases hg
    cases fuel with
    | zero => cases hf
    | succ fuel =>
      rw [List.append_nil, loop_done _ (Nat.lt_irrefl _)]
      exact ⟨rfl, rfl, rfl⟩
  | cons x d ih =>
    obtain ⟨t, v⟩ := x
    obtain ⟨e, r, he, hr, rfl⟩ := genEntries_cons_ok hg
    cases fuel with
    | zero => cases hf
    | succ fuel =>
      obtain ⟨trip, hs, hnext, hview⟩ := step_genEntry hI he pre r
      have hin : pre.length < (pre ++ e ++ r).length := by
        rw [List.length_append, List.length_append]
        exact Nat.lt_of_lt_of_le (Nat.lt_add_of_pos_right (genEntry_length_pos he)) (Nat.le_add_right _ _)
      obtain ⟨i1, i2, i3⟩ := ih r hr (pre ++ e) fuel (Nat.lt_of_succ_lt_succ hf)
      rw [← List.append_assoc, loop_ok hin hs, hnext]
      exact ⟨i1, i2, by rw [List.map_cons, List.map_cons, i3, hview]⟩

/-- a generated text has at least one character per entry: its length is fuel enough -/
theorem genEntries_count_le_length {d : List (Str × Str)} {g : Str}
    (hg : genEntries tl ll tp lp d = .ok g) : d.length ≤ g.length := by
  induction d generalizing g with
  | nil => exact Nat.zero_le _
  | cons x d ih =>
    obtain ⟨t, v⟩ := x
    obtain ⟨e, r, he, hr, rfl⟩ := genEntries_cons_ok hg
    rw [List.length_cons, List.length_append]
    exact Nat.succ_le_of_lt (Nat.lt_of_le_of_lt (ih hr) (Nat.lt_add_of_pos_left (genEntry_length_pos he)))

end

/-- **the probe is exact**: `int(pad + pad + '1') == 1` holds exactly when the padding is `'0'`
or a character `int()` strips — a sign, an underscore, another digit, a letter fail it -/
theorem lenPadOk_iff (lp : Char) : lenPadOk lp = true ↔ (lp = '0' ∨ isIntSpace lp = true) := by
  unfold lenPadOk
  rw [beq_iff_eq]
  constructor
  · intro h1
    cases hsp : isIntSpace lp with
    | true => exact Or.inr rfl
    | false =>
      left
      have hst : stripInt [lp, lp, '1'] = [lp, lp, '1'] :=
        stripBy_eq_self isIntSpace _ (fun _ h => Option.some.inj h ▸ hsp) (fun c h => Option.some.inj (h : some '1' = some c) ▸ (by decide : isIntSpace '1' = false))
      by_cases hplus : lp = '+'
      · subst hplus; revert h1; decide +kernel
      by_cases hminus : lp = '-'
      · subst hminus; revert h1; decide +kernel
      rw [pyInt_unsigned hst hplus hminus] at h1
      by_cases hd : isAsciiDigit lp = true
      · -- a digit `d` makes the probe read `100 d + 10 d + 1`
        have h3 : digitsNat [lp, lp, '1'] = some ((digitVal lp * 10 + digitVal lp) * 10 + 1) := by
          rw [digitsNat, if_pos hd, digitsTail_digit _ _ _ hd, digitsTail_digit _ _ _ (by decide)]
          rfl
        rw [h3] at h1
        have h4 : (digitVal lp * 10 + digitVal lp) * 10 + 1 = 1 := Int.ofNat.inj (Option.some.inj h1)
        have hv : digitVal lp = 0 :=
          (Nat.add_eq_zero_iff.mp ((Nat.mul_eq_zero.mp (Nat.succ.inj h4)).resolve_right (by decide))).2
        exact Char.ext (UInt32.toNat_inj.mp (Nat.le_antisymm (Nat.le_of_sub_eq_zero hv) (digit_range hd).1))
      · rw [digitsNat, if_neg hd] at h1
        cases h1
  · rintro (h | h)
    · subst h; decide +kernel
    · exact pyInt_blank_padded 2 1 lp h

theorem generateTlv_accepted {lp : Char} (h : lenPadOk lp = true) (tl ll : Nat) (tp : Char)
    (d : List (Str × Str)) : generateTlv tl ll tp lp d = genEntries tl ll tp lp d := by
  rw [generateTlv, if_pos h]

theorem generateTlv_refused {lp : Char} (h : lenPadOk lp = false) (tl ll : Nat) (tp : Char)
    (d : List (Str × Str)) : generateTlv tl ll tp lp d = .error .AssertionError := by
  rw [generateTlv, if_neg (by rw [h]; exact Bool.false_ne_true)]

theorem generateTlv_ok {tl ll : Nat} {tp lp : Char} {d : List (Str × Str)} {g : Str}
    (h : generateTlv tl ll tp lp d = .ok g) : lenPadOk lp = true ∧ genEntries tl ll tp lp d = .ok g := by
  by_cases hp : lenPadOk lp = true
  · rw [generateTlv, if_pos hp] at h
    exact ⟨hp, h⟩
  · rw [generateTlv, if_neg hp] at h
    cases h

end N0.Tlv
