import N0Verif.Py.ListLemmas
import N0Verif.Gen.TlvPy
/-!
  The definitions that `harness/translate_py_tlv.py` regenerates from the Python source of `parse_tlv`
  (`Gen/TlvPy.lean`) are equal to the hand-written model (`Model/Tlv.lean`): the body of the `while` loop is
  `Tlv.step` (seen through what the generator yields and the next offset), the loop test is `offset < len`, and
  the generator is `Tlv.loop` seen through `viewRes` (yielded triples + how the iteration ended).  The model counts
  offsets and field widths in `Nat`, the translated code in `Int`; the theorems are about non-negative widths.
-/
namespace N0.TlvGenEq
open N0 N0.Py N0.Tlv N0.Gen.TlvPy

theorem sliceFromTo_nat (s : Str) (a b : Nat) : sliceFromTo s (a : Int) (b : Int) = Tlv.slice s a b := by
  unfold sliceFromTo
  rw [normBound_natCast (nb := normBound) (fun _ _ => rfl), normBound_natCast (nb := normBound) (fun _ _ => rfl)]
  rfl

/-- what the caller sees of one iteration of the model: the yielded triple, and the next offset -/
def viewStep (t : Trip) : (Str × Int × Str) × ParseTlv.State := (t.view, ⟨(t.next : Int)⟩)

theorem step_eq (s : Str) (tl ll off : Nat) :
    ParseTlv.step s tl ll ⟨off⟩ = (Tlv.step Tlv.pyInt s tl ll off).map viewStep := by
  simp only [ParseTlv.step, Tlv.step, pyIntE, ← Int.natCast_add, sliceFromTo_nat]
  cases h : Tlv.pyInt (Tlv.slice s (off + tl) (off + tl + ll)) with
  | none => rfl
  | some n =>
    by_cases hn : n < 0
    · simp only [hn, decide_true, if_true]; rfl
    · -- a length that is not negative is a natural number, and the last slice is again one of the model
      obtain ⟨k, rfl⟩ := Int.eq_ofNat_of_zero_le (Int.not_lt.mp hn)
      simp only [hn, decide_false, Bool.false_eq_true, if_false, ← Int.natCast_add, sliceFromTo_nat,
        Int.toNat_natCast]
      rfl

theorem cond_eq (s : Str) (tl ll : Int) (off : Nat) :
    ParseTlv.cond s tl ll ⟨off⟩ = decide (off < s.length) := by
  simp [ParseTlv.cond]

def statusOpt : Status → Option PyErr
  | .done => none
  | .raised e => some e

/-- what the consumer of the generator sees: the yielded triples and how the iteration ended -/
def viewRes (r : Res) : List (Str × Int × Str) × Option PyErr := (r.trips.map Trip.view, statusOpt r.status)

theorem loop_eq (s : Str) (tl ll : Nat) : ∀ (fuel off : Nat),
    whileY (ParseTlv.cond s tl ll) (ParseTlv.step s tl ll) fuel ⟨off⟩
      = viewRes (Tlv.loop (Tlv.step Tlv.pyInt s tl ll) s.length fuel off) := by
  intro fuel
  induction fuel with
  | zero => intro off; rfl
  | succ k ih =>
    intro off
    rw [whileY, Tlv.loop, cond_eq, step_eq]
    by_cases h : off < s.length
    · rw [decide_eq_true h, if_pos rfl, if_pos h]
      cases Tlv.step Tlv.pyInt s tl ll off with
      | error e => rfl
      | ok t => simp only [Except.map, viewStep, ih t.next]; rfl
    · rw [decide_eq_false h, if_neg Bool.false_ne_true, if_neg h]; rfl

theorem parseTlv_eq (s : Str) (tl ll fuel : Nat) :
    Gen.TlvPy.parseTlv s tl ll fuel = viewRes (Tlv.parseTlvFuel Tlv.pyInt s tl ll fuel) := by
  have h := loop_eq s tl ll fuel 0
  simp only [Int.natCast_zero] at h
  simp only [Gen.TlvPy.parseTlv, Tlv.parseTlvFuel, Tlv.parseWith, h]
  cases s with
  | nil => simp [viewRes, statusOpt]
  | cons c s => simp <;> omega
end N0.TlvGenEq

