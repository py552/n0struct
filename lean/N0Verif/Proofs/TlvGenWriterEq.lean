import N0Verif.Model.Tlv
import N0Verif.Gen.TlvGenPy
/-!
  The definitions that `harness/translate_py_tlvgen.py` regenerates from the Python source of `generate_tlv`
  (`Gen/TlvGenPy.lean`) are equal to the hand-written model (`Model/Tlv.lean`): the element of the generator
  expression is `Tlv.genEntry`, the `''.join(… for …)` is `Tlv.genEntries`, the statements in front of the `return`
  are the probe `Tlv.lenPadOk`, and the function is `Tlv.generateTlv`.  The model counts field widths in `Nat` and
  takes the paddings as characters; the translated code has `Int` widths and `str` paddings: the theorems are about
  non-negative widths and one-character paddings (the scope the model declares).
-/
namespace N0.TlvGenWriterEq
open N0 N0.Py N0.Tlv N0.Gen.TlvGenPy

theorem pyStrInt_nat (n : Nat) : pyStrInt (n : Int) = Tlv.decimal n := by
  simp [pyStrInt, Tlv.decimal]

theorem entry_eq (d : List (Str × Str)) (tl ll : Nat) (tp lp : Char) (tag value : Str) :
    GenerateTlv.entry d tl ll [tp] [lp] tag value = Tlv.genEntry tl ll tp lp tag value := by
  simp only [GenerateTlv.entry, Tlv.genEntry, pyStrInt_nat, pyJust, pyLen, Int.ofNat_eq_natCast, Int.toNat_natCast,
    Int.ofNat_le, if_true, Bool.false_eq_true, if_false]
  by_cases h1 : tag.length ≤ tl
  · by_cases h2 : (Tlv.decimal value.length).length ≤ ll <;> simp [h1, h2]
  · simp [h1]

theorem entries_eq (d0 : List (Str × Str)) (tl ll : Nat) (tp lp : Char) : ∀ d : List (Str × Str),
    joinMapE (fun p => GenerateTlv.entry d0 tl ll [tp] [lp] p.1 p.2) d = Tlv.genEntries tl ll tp lp d := by
  have hf : (fun p : Str × Str => GenerateTlv.entry d0 tl ll [tp] [lp] p.1 p.2)
      = fun p => Tlv.genEntry tl ll tp lp p.1 p.2 := by
    funext p; exact entry_eq d0 tl ll tp lp p.1 p.2
  rw [hf]
  intro d
  induction d with
  | nil => simp [joinMapE, Tlv.genEntries]
  | cons p rest ih =>
    obtain ⟨t, v⟩ := p
    simp only [joinMapE, Tlv.genEntries, ih]
    cases Tlv.genEntry tl ll tp lp t v with
    | error e => rfl
    | ok s => cases Tlv.genEntries tl ll tp lp rest <;> rfl

theorem guard_eq (d : List (Str × Str)) (tl ll : Int) (tp : Str) (lp : Char) :
    GenerateTlv.guard d tl ll tp [lp] = if Tlv.lenPadOk lp then .ok () else .error .AssertionError := by
  unfold GenerateTlv.guard Tlv.lenPadOk pyIntE
  rw [show [lp] ++ [lp] ++ ['1'] = [lp, lp, '1'] from rfl]
  cases Tlv.pyInt [lp, lp, '1'] with
  | none => rfl
  | some n =>
    by_cases hn : n = 1
    · subst hn; rfl
    · have hb : (some n == some (1 : Int)) = false := by simpa using hn
      simp only [hb, decide_eq_false hn]
      rfl

theorem generateTlv_eq (d : List (Str × Str)) (tl ll : Nat) (tp lp : Char) :
    Gen.TlvGenPy.generateTlv d tl ll [tp] [lp] = Tlv.generateTlv tl ll tp lp d := by
  simp only [Gen.TlvGenPy.generateTlv, Tlv.generateTlv, guard_eq, entries_eq]
  cases Tlv.lenPadOk lp <;> simp

/-- a padding of more than one character is not probed: the guard lets it through (`ljust`/`rjust` then raise
`TypeError` on the first entry) -/
theorem guard_skips (d : List (Str × Str)) (tl ll : Int) (tp lp : Str) (h : lp.length ≠ 1) :
    GenerateTlv.guard d tl ll tp lp = .ok () := by
  have h' : ¬ ((lp.length : Int) = 1) := by omega
  simp [GenerateTlv.guard, pyLen, h']

end N0.TlvGenWriterEq
