import N0Verif.Model.Tlv
import N0Verif.Proofs.Digits
import N0Verif.Py.StripLemmas
/-!
  The model of Python's `int(str)` (`Tlv.pyInt`) on the texts `generate_tlv` writes into a length field: all-digit text
  is read as the number it spells, blanks in front are dropped, so a decimal padded with `'0'` or with a character
  `int()` strips reads back (`pyInt_zero_padded`, `pyInt_blank_padded`; as `IntReads pyInt ll lp`, over `rjust`: `C16_pyint_reads_padded`).
-/
namespace N0.Tlv
open N0 N0.Py

theorem pyInt_nil : pyInt [] = none := by decide

theorem decimal_digits (n : Nat) : ∀ c ∈ decimal n, isAsciiDigit c = true := by
  intro c hc
  have h : c.isDigit = true := Nat.isDigit_of_mem_toDigits (by decide) (by decide) hc
  simp only [Char.isDigit, Bool.and_eq_true, decide_eq_true_eq] at h
  simp only [isAsciiDigit, Bool.and_eq_true, decide_eq_true_eq]
  exact h

theorem decimal_ne_nil (n : Nat) : decimal n ≠ [] := Nat.toDigits_ne_nil

theorem digitsTail_digit (acc : Nat) (c : Char) (rest : Str) (h : isAsciiDigit c = true) :
    digitsTail acc (c :: rest) = digitsTail (acc * 10 + digitVal c) rest := by
  have hu : c ≠ '_' := by intro e; subst e; revert h; decide
  rw [digitsTail.eq_def]
  split
  · rename_i heq; cases heq
  · rename_i heq; exact absurd (List.cons.inj heq).1 hu
  · rename_i heq; obtain ⟨rfl, rfl⟩ := List.cons.inj heq; rw [if_pos h]

theorem digitsTail_digits (ds : Str) (acc : Nat) (h : ∀ c ∈ ds, isAsciiDigit c = true) :
    digitsTail acc ds = some (Nat.ofDigitChars 10 ds acc) := by
  induction ds generalizing acc with
  | nil => rfl
  | cons c ds ih =>
    rw [digitsTail_digit acc c ds (h c List.mem_cons_self), ih _ (fun x hx => h x (List.mem_cons_of_mem c hx)),
      Nat.ofDigitChars_cons, Nat.mul_comm]
    rfl

theorem digitsNat_digits (ds : Str) (hne : ds ≠ []) (h : ∀ c ∈ ds, isAsciiDigit c = true) :
    digitsNat ds = some (Nat.ofDigitChars 10 ds 0) := by
  cases ds with
  | nil => exact absurd rfl hne
  | cons c ds =>
    rw [digitsNat, if_pos (h c List.mem_cons_self),
      digitsTail_digits ds _ (fun x hx => h x (List.mem_cons_of_mem c hx)), Nat.ofDigitChars_cons,
      Nat.mul_zero, Nat.zero_add]
    rfl

theorem digit_not_space {c : Char} (h : isAsciiDigit c = true) : isIntSpace c = false := by
  have key : ∀ k : Fin 10, isIntSpace (Char.ofNat (48 + k)) = false := by decide +kernel
  obtain ⟨h1, h2⟩ := digit_range h
  have := key ⟨c.toNat - 48, Nat.lt_succ_of_le (Nat.sub_le_sub_right h2 48)⟩
  rwa [Nat.add_sub_cancel' h1, Char.ofNat_toNat] at this

theorem stripInt_eq_stripBy : stripInt = stripBy isIntSpace := rfl

theorem stripInt_digits (ds : Str) (h : ∀ c ∈ ds, isAsciiDigit c = true) : stripInt ds = ds := by
  rw [stripInt_eq_stripBy]
  exact stripBy_eq_self _ ds (fun c hc => digit_not_space (h c (List.mem_of_mem_head? hc)))
    (fun c hc => digit_not_space (h c (List.mem_of_getLast? hc)))

theorem pyInt_replicate_append {c : Char} (hc : isIntSpace c = true) (k : Nat) (s : Str) :
    pyInt (List.replicate k c ++ s) = pyInt s := by
  unfold pyInt stripInt
  rw [dropWhile_replicate_append _ _ _ _ hc]

theorem pyInt_unsigned {s : Str} {c : Char} {r : Str} (hs : stripInt s = c :: r) (hp : c ≠ '+') (hm : c ≠ '-') :
    pyInt s = (digitsNat (c :: r)).map Int.ofNat := by
  unfold pyInt
  rw [hs]
  split
  · rename_i heq; exact absurd (List.cons.inj heq).1 hp
  · rename_i heq; exact absurd (List.cons.inj heq).1 hm
  · rfl

theorem pyInt_digits (ds : Str) (hne : ds ≠ []) (h : ∀ c ∈ ds, isAsciiDigit c = true) :
    pyInt ds = some (Int.ofNat (Nat.ofDigitChars 10 ds 0)) := by
  cases ds with
  | nil => exact absurd rfl hne
  | cons x ds =>
    have hx := digit_ne (h x List.mem_cons_self)
    rw [pyInt_unsigned (stripInt_digits _ h) hx.2.1 hx.2.2.1, digitsNat_digits _ hne h]
    rfl

/-- `k` zeros in front: `int('0' * k + str(n)) == n` -/
theorem pyInt_zero_padded (k n : Nat) :
    pyInt (List.replicate k '0' ++ decimal n) = some (n : Int) := by
  have hall : ∀ c ∈ List.replicate k '0' ++ decimal n, isAsciiDigit c = true := by
    intro c hc
    rcases List.mem_append.mp hc with h | h
    · rw [(List.mem_replicate.mp h).2]; decide
    · exact decimal_digits n c h
  rw [pyInt_digits _ (by simp [decimal_ne_nil]) hall, Nat.ofDigitChars_append,
    Nat.ofDigitChars_replicate_zero]
  simp [decimal]

/-- `k` blanks in front: `int(c * k + str(n)) == n` for every character `c` that `int()` strips -/
theorem pyInt_blank_padded (k n : Nat) (c : Char) (hc : isIntSpace c = true) :
    pyInt (List.replicate k c ++ decimal n) = some (n : Int) :=
  (pyInt_replicate_append hc k _).trans (pyInt_zero_padded 0 n)

end N0.Tlv
