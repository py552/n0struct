import N0Verif.Model.Tree
import N0Verif.Py.AssocLemmas
/-! Positions in a tree: `getAt` and `setAt` one level at a time, writes seen at the parent, repeated writes, and the
frame lemmas (what a write leaves alone); the same for `delAt`, the reference of `delete`.
Two namespaces: `N0.Val` for the facts named after the definitions of `Model/Tree.lean`, `N0.XPath` (from `child_dict_key` on) for
the position lemmas, the namespace of the engine proofs that use them. -/
namespace N0.Val
open N0

theorem lookup_kvSet_same (k : Str) (v : Val) (kvs : List (Str × Val)) :
    lookup k (kvSet k v kvs) = some v := by
  induction kvs with
  | nil => simp [kvSet, lookup]
  | cons kv kvs ih =>
    obtain ⟨k', x⟩ := kv
    by_cases h : k = k'
    · subst h; simp [kvSet, lookup]
    · simp [kvSet, lookup, h, ih]

theorem lookup_kvSet_other (k k2 : Str) (v : Val) (kvs : List (Str × Val)) (h : k2 ≠ k) :
    lookup k2 (kvSet k v kvs) = lookup k2 kvs := by
  induction kvs with
  | nil => simp [kvSet, lookup, h]
  | cons kv kvs ih =>
    obtain ⟨k', x⟩ := kv
    by_cases hk : k = k'
    · subst hk; simp [kvSet, lookup, h]
    · by_cases hk2 : k2 = k'
      · subst hk2; simp [kvSet, lookup, hk]
      · simp [kvSet, lookup, hk, hk2, ih]

theorem mem_kvSet {k : Str} {v : Val} : ∀ {l : List (Str × Val)} {kv : Str × Val}, kv ∈ kvSet k v l →
    kv = (k, v) ∨ kv ∈ l
  | [], kv, h => Or.inl (List.mem_singleton.mp h)
  | (k', x) :: r, kv, h => by
    rw [kvSet] at h
    by_cases hk : k = k'
    · rw [if_pos hk] at h
      rcases List.mem_cons.mp h with h | h
      · exact Or.inl (hk ▸ h)
      · exact Or.inr (List.mem_cons_of_mem _ h)
    · rw [if_neg hk] at h
      rcases List.mem_cons.mp h with h | h
      · exact Or.inr (h ▸ List.mem_cons_self)
      · exact (mem_kvSet h).imp id (List.mem_cons_of_mem _)

theorem kvSet_kvSet (k : Str) (x y : Val) (kvs : List (Str × Val)) :
    kvSet k y (kvSet k x kvs) = kvSet k y kvs := by
  induction kvs with
  | nil => simp [kvSet]
  | cons kv kvs ih =>
    obtain ⟨k', z⟩ := kv
    by_cases h : k = k'
    · subst h; simp [kvSet]
    · simp [kvSet, h, ih]

/-- not by `rfl`: `kvSet` tests `k = k'` where `assocSet` tests `k' = k` -/
theorem kvSet_eq_assocSet (k : Str) (v : Val) (kvs : List (Str × Val)) : kvSet k v kvs = Py.assocSet k v kvs := by
  induction kvs with
  | nil => rfl
  | cons kv kvs ih =>
    rw [kvSet, Py.assocSet, ih]
    by_cases h : k = kv.1
    · rw [if_pos h, if_pos h.symm]
    · rw [if_neg h, if_neg (Ne.symm h)]

theorem _root_.N0.XPath.kvSet_fresh (k : Str) (x : Val) (kvs : List (Str × Val)) (h : lookup k kvs = Option.none) :
    kvSet k x kvs = kvs ++ [(k, x)] := by
  rw [kvSet_eq_assocSet]
  exact Py.assocSet_fresh k x kvs fun hm => by rw [← lookup_isSome_iff, h] at hm; cases hm

theorem child_setChild_same {t t' : Val} {s : Seg} {v : Val} (h : setChild t s v = some t') :
    child t' s = some v := by
  cases t <;> cases s <;> simp [setChild] at h
  · rename_i c xs i
    obtain ⟨hlt, rfl⟩ := h
    simp [child, hlt]
  · subst h; simp [child, lookup_kvSet_same]

theorem child_setChild_other {t t' : Val} {s s2 : Seg} {v : Val} (h : setChild t s v = some t') (hne : s2 ≠ s) :
    child t' s2 = child t s2 := by
  cases t <;> cases s <;> simp [setChild] at h
  · rename_i c xs i
    obtain ⟨hlt, rfl⟩ := h
    cases s2 with
    | key k => simp [child]
    | idx j =>
      have : i ≠ j := fun heq => hne (by rw [heq])
      simp [child, this]
  · subst h
    rename_i c kvs k
    cases s2 with
    | idx j => simp [child]
    | key k2 =>
      have : k2 ≠ k := fun heq => hne (by rw [heq])
      simp [child, lookup_kvSet_other _ _ _ _ this]

theorem setAt_cons_cons (t : Val) (s s2 : Seg) (rest : Pos) (v : Val) :
    setAt t (s :: s2 :: rest) v = (child t s).bind (fun c => (setAt c (s2 :: rest) v).bind (fun c' => setChild t s c')) := by
  rw [setAt]
  · cases child t s <;> simp [bind, Option.bind]
  · intro h; cases h

theorem setAt_cons (t : Val) (s : Seg) (rest : Pos) (v : Val) (c : Val) (hc : child t s = some c) :
    setAt t (s :: rest) v = (setAt c rest v).bind (fun c' => setChild t s c') := by
  cases rest with
  | nil => simp [setAt]
  | cons s2 r => rw [setAt_cons_cons, hc]; rfl

theorem getAt_of_setAt : ∀ (p : Pos) (t t' v : Val), setAt t p v = some t' → getAt t' p = some v
  | [], t, t', v, h => by simp [setAt] at h; subst h; rfl
  | [s], t, t', v, h => by
      simp only [setAt] at h
      simp [getAt, child_setChild_same h]
  | s :: s2 :: rest, t, t', v, h => by
      rw [setAt_cons_cons] at h
      cases hc : child t s with
      | none => simp [hc] at h
      | some c =>
        simp only [hc, Option.bind] at h
        cases hs : setAt c (s2 :: rest) v with
        | none => simp [hs] at h
        | some c' =>
          simp only [hs] at h
          have ih := getAt_of_setAt (s2 :: rest) c c' v hs
          simp only [getAt, child_setChild_same h, Option.bind]
          exact ih

theorem getAt_setAt_same : ∀ (p : Pos) (t t' v : Val), setAt t p v = some t' → (∀ s, p = [s] → True) →
    getAt t' p = some v :=
  fun p t t' v h _ => getAt_of_setAt p t t' v h

/-- two positions *diverge* when neither is a prefix of the other -/
def Diverge : Pos → Pos → Prop
  | s :: p, s' :: q => s ≠ s' ∨ (s = s' ∧ Diverge p q)
  | _, _ => False

theorem getAt_setAt_diverge : ∀ (p q : Pos) (t t' v : Val), setAt t p v = some t' → Diverge p q →
    getAt t' q = getAt t q
  | [], _, _, _, _, _, hd => by simp [Diverge] at hd
  | _ :: _, [], _, _, _, _, hd => by simp [Diverge] at hd
  | [s], s' :: q, t, t', v, h, hd => by
      simp only [setAt] at h
      simp only [Diverge] at hd
      rcases hd with hne | ⟨_, hd⟩
      · simp [getAt, child_setChild_other h (Ne.symm hne)]
      · cases q <;> simp at hd
  | s :: s2 :: rest, s' :: q, t, t', v, h, hd => by
      rw [setAt_cons_cons] at h
      cases hc : child t s with
      | none => simp [hc] at h
      | some c =>
        simp only [hc, Option.bind] at h
        cases hs : setAt c (s2 :: rest) v with
        | none => simp [hs] at h
        | some c' =>
          simp only [hs] at h
          simp only [Diverge] at hd
          rcases hd with hne | ⟨heq, hd⟩
          · simp [getAt, child_setChild_other h (Ne.symm hne)]
          · subst heq
            have ih := getAt_setAt_diverge (s2 :: rest) q c c' v hs hd
            simp [getAt, child_setChild_same h, hc, ih]

theorem setAt_snoc : ∀ (p : Pos) (t : Val) (s : Seg) (v pv pv' : Val), getAt t p = some pv →
    setChild pv s v = some pv' → setAt t (p ++ [s]) v = setAt t p pv'
  | [], t, s, v, pv, pv', hg, hs => by
      simp [getAt] at hg; subst hg
      simp [setAt, hs]
  | s0 :: p, t, s, v, pv, pv', hg, hs => by
      simp only [getAt] at hg
      cases hc : child t s0 with
      | none => simp [hc] at hg
      | some c =>
        simp only [hc, Option.bind] at hg
        have ih := setAt_snoc p c s v pv pv' hg hs
        rw [List.cons_append, setAt_cons t s0 (p ++ [s]) v c hc,
          setAt_cons t s0 p pv' c hc, ih]

theorem setChild_isSome_of_child {t c : Val} {s : Seg} (h : child t s = some c) (v : Val) :
    ∃ t', setChild t s v = some t' := by
  cases t <;> cases s <;> simp [child] at h
  · rename_i c' xs i
    have hlt : i < xs.length := by
      rcases Nat.lt_or_ge i xs.length with hlt | hge
      · exact hlt
      · rw [List.getElem?_eq_none hge] at h; cases h
    exact ⟨.list c' (xs.set i v), by simp [setChild, hlt]⟩
  · rename_i c' kvs k
    exact ⟨.dict c' (kvSet k v kvs), by simp [setChild]⟩

theorem setAt_isSome : ∀ (p : Pos) (t c v : Val), getAt t p = some c → ∃ t', setAt t p v = some t'
  | [], t, c, v, _ => ⟨v, rfl⟩
  | s :: p, t, c, v, hg => by
      simp only [getAt] at hg
      cases hc : child t s with
      | none => simp [hc] at hg
      | some x =>
        simp only [hc, Option.bind] at hg
        obtain ⟨x', hx'⟩ := setAt_isSome p x c v hg
        obtain ⟨t', ht'⟩ := setChild_isSome_of_child hc x'
        exact ⟨t', by rw [setAt_cons t s p v x hc, hx']; exact ht'⟩

end N0.Val

namespace N0.XPath
open N0 N0.Val

theorem child_dict_key (c : Cls) (kvs : List (Str × Val)) (k : Str) : child (.dict c kvs) (.key k) = lookup k kvs := rfl

theorem child_list_idx (c : Cls) (xs : List Val) (i : Nat) : child (.list c xs) (.idx i) = xs[i]? := rfl

theorem getAt_append (t : Val) (p q : Pos) :
    getAt t (p ++ q) = (getAt t p).bind (fun c => getAt c q) := by
  induction p generalizing t with
  | nil => simp [getAt]
  | cons s p ih =>
    simp only [List.cons_append, getAt]
    cases h : child t s with
    | none => simp
    | some c => simp [ih]

theorem getAt_snoc (t : Val) (p : Pos) (s : Seg) :
    getAt t (p ++ [s]) = (getAt t p).bind (fun c => child c s) := by
  rw [getAt_append]
  cases getAt t p with
  | none => rfl
  | some c => simp [getAt]

theorem getAt_snoc_key {root : Val} {q : Pos} {cls : Cls} {kvs : List (Str × Val)} {k : Str} {c : Val}
    (hq : getAt root q = some (.dict cls kvs)) (hl : lookup k kvs = some c) :
    getAt root (q ++ [.key k]) = some c := by
  rw [getAt_snoc, hq]
  exact hl

theorem getAt_snoc_idx {root : Val} {q : Pos} {cls : Cls} {xs : List Val} {n : Nat} {c : Val}
    (hq : getAt root q = some (.list cls xs)) (hx : xs[n]? = some c) :
    getAt root (q ++ [Seg.idx n]) = some c := by
  rw [getAt_snoc, hq]
  exact hx

theorem getAt_cons_some {v c : Val} {s : Seg} {rest : Pos} (h : getAt v (s :: rest) = some c) :
    ∃ x, child v s = some x ∧ getAt x rest = some c := by
  simp only [getAt] at h
  cases hc : child v s with
  | none => simp [hc] at h
  | some x => exact ⟨x, rfl, by simpa [hc] using h⟩

theorem getAt_closed {Q : Val → Prop} (hQ : ∀ {v c : Val} {s : Seg}, Q v → child v s = some c → Q c) :
    ∀ {p : Pos} {v c : Val}, Q v → getAt v p = some c → Q c
  | [], _, _, hv, h => Option.some.inj h ▸ hv
  | _ :: _, _, _, hv, h =>
    have ⟨_, hc, hr⟩ := getAt_cons_some h
    getAt_closed hQ (hQ hv hc) hr

theorem child_key_some {v x : Val} {k : Str} (h : child v (.key k) = some x) :
    ∃ cls kvs, v = .dict cls kvs ∧ lookup k kvs = some x := by
  cases v with
  | dict cls kvs => exact ⟨cls, kvs, rfl, by simpa [child] using h⟩
  | _ => simp [child] at h

theorem child_idx_some {v x : Val} {n : Nat} (h : child v (.idx n) = some x) :
    ∃ cls xs, v = .list cls xs ∧ xs[n]? = some x ∧ n < xs.length := by
  cases v with
  | list cls xs =>
    simp only [child] at h
    have hlt : n < xs.length := by
      rcases Nat.lt_or_ge n xs.length with hlt | hge
      · exact hlt
      · rw [List.getElem?_eq_none hge] at h; cases h
    exact ⟨cls, xs, rfl, h, hlt⟩
  | _ => simp [child] at h

theorem getAt_cons_inv {v w : Val} {s : Seg} {r : Pos} (h : getAt v (s :: r) = some w) :
    (∃ c kvs k x, v = .dict c kvs ∧ s = .key k ∧ lookup k kvs = some x ∧ getAt x r = some w) ∨
    (∃ c xs n x, v = .list c xs ∧ s = .idx n ∧ xs[n]? = some x ∧ getAt x r = some w) := by
  obtain ⟨x, hc, hg⟩ := getAt_cons_some h
  cases s with
  | key k =>
    obtain ⟨c, kvs, rfl, hl⟩ := child_key_some hc
    exact Or.inl ⟨c, kvs, k, x, rfl, rfl, hl, hg⟩
  | idx n =>
    obtain ⟨c, xs, rfl, hx, _⟩ := child_idx_some hc
    exact Or.inr ⟨c, xs, n, x, rfl, rfl, hx, hg⟩

theorem setChild_overwrite {t t1 : Val} {s : Seg} {x : Val} (h : setChild t s x = some t1) (y : Val) :
    setChild t1 s y = setChild t s y := by
  cases t <;> cases s <;> simp [setChild] at h
  · obtain ⟨hlt, rfl⟩ := h
    simp [setChild, hlt]
  · subst h; simp [setChild, kvSet_kvSet]

theorem setAt_overwrite : ∀ (p : Pos) (t t1 x y : Val), setAt t p x = some t1 → setAt t1 p y = setAt t p y
  | [], _, _, _, _, _ => rfl
  | [s], t, t1, x, y, h => by
      simp only [setAt] at h ⊢; exact setChild_overwrite h y
  | s :: s2 :: rest, t, t1, x, y, h => by
      rw [setAt_cons_cons] at h
      cases hc : child t s with
      | none => simp [hc] at h
      | some c =>
        simp only [hc, Option.bind] at h
        cases hs : setAt c (s2 :: rest) x with
        | none => simp [hs] at h
        | some c' =>
          simp only [hs] at h
          have ih := setAt_overwrite (s2 :: rest) c c' x y hs
          rw [setAt_cons_cons, setAt_cons_cons, child_setChild_same h, hc]
          simp only [Option.bind]
          rw [ih]
          cases setAt c (s2 :: rest) y with
          | none => rfl
          | some z => exact setChild_overwrite h z

theorem getAt_setAt_below (t t' y : Val) (p r : Pos) (h : setAt t p y = some t') :
    getAt t' (p ++ r) = getAt y r := by
  rw [getAt_append, getAt_of_setAt p t t' y h]; rfl

theorem child_snoc (c : Cls) (ys : List Val) (z : Val) : child (.list c (ys ++ [z])) (.idx ys.length) = some z := by
  simp [child]

theorem setChild_snoc (c : Cls) (ys : List Val) (z z' : Val) :
    setChild (.list c (ys ++ [z])) (.idx ys.length) z' = some (.list c (ys ++ [z'])) := by
  simp [setChild]

theorem setAt_snoc_key {root : Val} {q : Pos} {c : Cls} {kvs : List (Str × Val)}
    (hq : getAt root q = some (.dict c kvs)) (n : Str) (x : Val) :
    setAt root (q ++ [.key n]) x = setAt root q (.dict c (kvSet n x kvs)) :=
  setAt_snoc q root (.key n) x _ _ hq rfl

theorem setAt_snoc_last {root : Val} {P : Pos} {c : Cls} {ys : List Val} {z : Val}
    (hP : getAt root P = some (.list c (ys ++ [z]))) (x : Val) :
    setAt root (P ++ [.idx ys.length]) x = setAt root P (.list c (ys ++ [x])) :=
  setAt_snoc P root (.idx ys.length) x _ _ hP (setChild_snoc c ys z x)

theorem setAt_refine {root root1 y y' x : Val} {p : Pos} {s : Seg} (h : setAt root p y = some root1)
    (hc : setChild y s x = some y') : setAt root1 (p ++ [s]) x = setAt root p y' := by
  rw [setAt_snoc p root1 s x y y' (getAt_of_setAt p root root1 y h) hc]
  exact setAt_overwrite p root root1 y y' h

theorem setAt_dict_root (cls : Cls) (kvs : List (Str × Val)) (p : Pos) (v t' : Val) (hne : p ≠ [])
    (h : setAt (.dict cls kvs) p v = some t') : ∃ kvs', t' = .dict cls kvs' := by
  cases p with
  | nil => exact absurd rfl hne
  | cons s rest =>
    cases hc : child (.dict cls kvs) s with
    | none =>
      cases rest with
      | nil => cases s with
        | key k => simp [setAt, setChild] at h; exact ⟨_, h.symm⟩
        | idx i => simp [setAt, setChild] at h
      | cons s2 r => rw [setAt_cons_cons, hc] at h; simp at h
    | some c =>
      rw [setAt_cons _ _ _ _ c hc] at h
      cases hs : setAt c rest v with
      | none => simp [hs] at h
      | some c' =>
        simp only [hs, Option.bind] at h
        cases s with
        | key k => simp [setChild] at h; exact ⟨_, h.symm⟩
        | idx i => simp [setChild] at h

theorem diverge_or_prefix : ∀ (w p : Pos), Diverge w p ∨ p <+: w ∨ w <+: p
  | [], p => Or.inr (Or.inr (List.nil_prefix))
  | _ :: _, [] => Or.inr (Or.inl (List.nil_prefix))
  | s :: w, s' :: p => by
    by_cases h : s = s'
    · subst h
      rcases diverge_or_prefix w p with hd | hp | hp
      · exact Or.inl (Or.inr ⟨rfl, hd⟩)
      · exact Or.inr (Or.inl ((List.prefix_cons_inj s).2 hp))
      · exact Or.inr (Or.inr ((List.prefix_cons_inj s).2 hp))
    · exact Or.inl (Or.inl h)

/-- A write at `w` keeps every existing node that is not an ancestor of `w` (nor `w` itself), provided the node, where it lies
inside `w`, stands at the same place in the value written (`hin`). -/
theorem frame_write {t t' v x : Val} {w p : Pos} (hset : setAt t w v = some t') (hp : getAt t p = some x)
    (hnp : ¬ p <+: w) (hin : ∀ r, p = w ++ r → getAt v r = some x) : getAt t' p = some x := by
  rcases diverge_or_prefix w p with hd | hpre | ⟨r, rfl⟩
  · rw [getAt_setAt_diverge w p t t' v hset hd, hp]
  · exact absurd hpre hnp
  · rw [getAt_setAt_below t t' v w r hset]
    exact hin r rfl

theorem frame_new_slot (t t' v x : Val) (w p : Pos) (hset : setAt t w v = some t')
    (hnew : getAt t w = Option.none) (hp : getAt t p = some x) (hnp : ¬ p <+: w) : getAt t' p = some x :=
  frame_write hset hp hnp (by rintro r rfl; rw [getAt_append, hnew] at hp; cases hp)

theorem getAt_list_snoc (c : Cls) (xs : List Val) (z x : Val) (r : Pos) (hr : r ≠ [])
    (h : getAt (.list c xs) r = some x) : getAt (.list c (xs ++ [z])) r = some x := by
  cases r with
  | nil => exact absurd rfl hr
  | cons s r' =>
    cases s with
    | key k => simp [getAt, child] at h
    | idx j =>
      obtain ⟨y, hc, hg⟩ := getAt_cons_some h
      obtain ⟨_, _, hcls, hy, hlt⟩ := child_idx_some hc
      cases hcls
      simp [getAt, child, List.getElem?_append_left hlt, hy, hg]

theorem frame_append (t t' : Val) (P : Pos) (c : Cls) (xs : List Val) (z x : Val) (p : Pos)
    (hset : setAt t P (.list c (xs ++ [z])) = some t') (hP : getAt t P = some (.list c xs))
    (hp : getAt t p = some x) (hnp : ¬ p <+: P) : getAt t' p = some x := by
  refine frame_write hset hp hnp ?_
  rintro r rfl
  rw [getAt_append, hP] at hp
  exact getAt_list_snoc c xs z x r (by rintro rfl; exact hnp (by simp)) hp

/-- When `name[new()]` wraps the non-list value at `P` into `[old, z]`, nodes outside keep their position and every node inside
`old` moves below index 0. -/
theorem frame_wrap (t t' : Val) (P : Pos) (old z x : Val) (p : Pos)
    (hset : setAt t P (.list .n0 [old, z]) = some t') (hP : getAt t P = some old)
    (hp : getAt t p = some x) :
    (¬ p <+: P → ¬ P <+: p → getAt t' p = some x) ∧ (∀ r, p = P ++ r → getAt t' (P ++ .idx 0 :: r) = some x) := by
  refine ⟨fun h1 h2 => frame_write hset hp h1 (fun r h => absurd ⟨r, h.symm⟩ h2), ?_⟩
  rintro r rfl
  rw [getAt_setAt_below t t' _ P _ hset]
  rw [getAt_append, hP] at hp
  simpa [getAt, child] using hp

theorem delChild_key {c : Cls} {kvs : List (Str × Val)} {k : Str} (h : kvHas k kvs = true) :
    delChild (.dict c kvs) (.key k) = some (.dict c (kvDel k kvs)) := by
  rw [delChild, if_pos h]

theorem delChild_idx {c : Cls} {xs : List Val} {n : Nat} (h : n < xs.length) :
    delChild (.list c xs) (.idx n) = some (.list c (xs.eraseIdx n)) := by
  rw [delChild, if_pos h]

theorem kvHas_of_lookup {k : Str} {kvs : List (Str × Val)} {x : Val} (h : lookup k kvs = some x) : kvHas k kvs = true := by
  rw [kvHas, h]; rfl

/-- `delAt` below `q` is `setAt` at `q`: the node there without that child -/
theorem delAt_snoc_eq : ∀ (q : Pos) (t : Val) (s : Seg),
    delAt t (q ++ [s]) = (getAt t q).bind (fun pv => (delChild pv s).bind (fun pv' => setAt t q pv'))
  | [], t, s => by cases h : delChild t s <;> simp [delAt, getAt, setAt, h]
  | s0 :: q, t, s => by
      cases hq : q ++ [s] with
      | nil => simp at hq
      | cons s1 r =>
        rw [List.cons_append, hq, delAt]
        · cases hc : child t s0 with
          | none => simp [getAt, hc]
          | some c =>
            simp only [hc, Option.bind_eq_bind, Option.bind_some, getAt]
            rw [← hq, delAt_snoc_eq q c s]
            cases hg : getAt c q with
            | none => simp
            | some pv =>
              cases hd : delChild pv s with
              | none => simp [hd]
              | some pv' => simp [hd, setAt_cons t s0 q pv' c hc]
        · intro h; cases h

theorem delAt_snoc (q : Pos) (t : Val) (s : Seg) (pv pv' : Val) (hg : getAt t q = some pv)
    (hd : delChild pv s = some pv') : delAt t (q ++ [s]) = setAt t q pv' := by
  rw [delAt_snoc_eq, hg, Option.bind_some, hd, Option.bind_some]

theorem delAt_snoc_inv (q : Pos) (t t' : Val) (s : Seg) (h : delAt t (q ++ [s]) = some t') :
    ∃ pv pv', getAt t q = some pv ∧ delChild pv s = some pv' ∧ setAt t q pv' = some t' := by
  rw [delAt_snoc_eq] at h
  cases hg : getAt t q with
  | none => simp [hg] at h
  | some pv =>
    cases hd : delChild pv s with
    | none => simp [hg, hd] at h
    | some pv' => exact ⟨pv, pv', rfl, hd, by simpa [hg, hd] using h⟩

theorem delAt_isSome (p : Pos) (t c : Val) (hne : p ≠ []) (hg : getAt t p = some c) : ∃ t', delAt t p = some t' := by
  rcases List.eq_nil_or_concat p with h | ⟨q, s, h⟩
  · exact absurd h hne
  · rw [List.concat_eq_append] at h
    subst h
    rw [getAt_snoc] at hg
    cases hq : getAt t q with
    | none => simp [hq] at hg
    | some pv =>
      simp only [hq, Option.bind] at hg
      have hd : ∃ pv', delChild pv s = some pv' := by
        cases s with
        | key k => obtain ⟨cls, kvs, rfl, hl⟩ := child_key_some hg; exact ⟨_, delChild_key (kvHas_of_lookup hl)⟩
        | idx n => obtain ⟨cls, xs, rfl, _, hlt⟩ := child_idx_some hg; exact ⟨_, delChild_idx hlt⟩
      obtain ⟨pv', hd⟩ := hd
      obtain ⟨t', ht'⟩ := setAt_isSome q t pv pv' hq
      exact ⟨t', by rw [delAt_snoc q t s pv pv' hq hd, ht']⟩

theorem diverge_snoc : ∀ (q : Pos) (s : Seg) (r : Pos), Diverge (q ++ [s]) r →
    Diverge q r ∨ ∃ s' r', r = q ++ s' :: r' ∧ s' ≠ s
  | [], _, [], h => False.elim h
  | [], s, s' :: r', h => by
      have h : s ≠ s' ∨ (s = s' ∧ Diverge [] r') := h
      rcases h with h | ⟨_, h⟩
      · exact Or.inr ⟨s', r', rfl, Ne.symm h⟩
      · exact False.elim h
  | _ :: _, _, [], h => False.elim h
  | s0 :: q, s, s' :: r', h => by
      have h' : s0 ≠ s' ∨ (s0 = s' ∧ Diverge (q ++ [s]) r') := h
      rcases h' with hne | ⟨rfl, hd⟩
      · exact Or.inl (show Diverge (s0 :: q) (s' :: r') from Or.inl hne)
      · rcases diverge_snoc q s r' hd with hq | ⟨s'', r'', rfl, hne⟩
        · exact Or.inl (show Diverge (s0 :: q) (s0 :: r') from Or.inr ⟨rfl, hq⟩)
        · exact Or.inr ⟨s'', r'', rfl, hne⟩

theorem lookup_kvDel_other (k k2 : Str) (h : k2 ≠ k) : ∀ kvs : List (Str × Val),
    lookup k2 (kvDel k kvs) = lookup k2 kvs
  | [] => rfl
  | (k', x) :: kvs => by
      by_cases hk : k = k'
      · subst hk; simp [kvDel, lookup, h]
      · by_cases hk2 : k2 = k'
        · subst hk2; simp [kvDel, lookup, hk]
        · simp [kvDel, lookup, hk, hk2, lookup_kvDel_other k k2 h kvs]

theorem getAt_delAt_key_parent {t t' : Val} {q : Pos} {cls : Cls} {kvs : List (Str × Val)} {k : Str}
    (hq : getAt t q = some (.dict cls kvs)) (hh : kvHas k kvs = true) (hdel : delAt t (q ++ [.key k]) = some t') :
    getAt t' q = some (.dict cls (kvDel k kvs)) := by
  rw [delAt_snoc q t (.key k) _ _ hq (delChild_key hh)] at hdel
  exact getAt_of_setAt q t t' _ hdel

theorem getAt_delAt_key_frame (t t' : Val) (q : Pos) (k : Str) (r : Pos)
    (hdel : delAt t (q ++ [.key k]) = some t') (hd : Diverge (q ++ [.key k]) r) :
    getAt t' r = getAt t r := by
  obtain ⟨pv, pv', hg, hdc, hset⟩ := delAt_snoc_inv q t t' _ hdel
  rcases diverge_snoc q _ r hd with h | ⟨s', r', rfl, hne⟩
  · exact getAt_setAt_diverge q r t t' pv' hset h
  · rw [getAt_append, getAt_append, getAt_of_setAt q t t' pv' hset, hg]
    cases pv with
    | dict cls kvs =>
      simp only [delChild] at hdc
      split at hdc
      · cases hdc
        cases s' with
        | key k2 =>
          have : k2 ≠ k := fun h => hne (by rw [h])
          show (lookup k2 (kvDel k kvs)).bind _ = (lookup k2 kvs).bind _
          rw [lookup_kvDel_other k k2 this]
        | idx n => rfl
      · cases hdc
    | _ => cases hdc

theorem getAt_delAt_idx_frame (t t' : Val) (q : Pos) (n : Nat)
    (hdel : delAt t (q ++ [.idx n]) = some t') :
    (∀ r, Diverge q r → getAt t' r = getAt t r) ∧
    (∀ m r', m < n → getAt t' (q ++ .idx m :: r') = getAt t (q ++ .idx m :: r')) ∧
    (∀ m r', n ≤ m → getAt t' (q ++ .idx m :: r') = getAt t (q ++ .idx (m + 1) :: r')) ∧
    (∃ cls xs, getAt t q = some (.list cls xs) ∧ n < xs.length ∧
      getAt t' q = some (.list cls (xs.eraseIdx n))) := by
  obtain ⟨pv, pv', hg, hdc, hset⟩ := delAt_snoc_inv q t t' _ hdel
  have hg' := getAt_of_setAt q t t' pv' hset
  cases pv with
  | list cls xs =>
    simp only [delChild] at hdc
    split at hdc
    · rename_i hlt
      cases hdc
      refine ⟨fun r h => getAt_setAt_diverge q r t t' _ hset h, ?_, ?_, ⟨cls, xs, hg, hlt, hg'⟩⟩
      · intro m r' hm
        rw [getAt_append, getAt_append, hg', hg]
        show ((xs.eraseIdx n)[m]?).bind _ = (xs[m]?).bind _
        rw [List.getElem?_eraseIdx, if_pos hm]
      · intro m r' hm
        rw [getAt_append, getAt_append, hg', hg]
        show ((xs.eraseIdx n)[m]?).bind _ = (xs[m + 1]?).bind _
        rw [List.getElem?_eraseIdx, if_neg (Nat.not_lt.mpr hm)]
    · cases hdc
  | _ => cases hdc

theorem delAt_key_missing (root : Val) (pp : Pos) (k : Str) (cls : Cls) (kvs : List (Str × Val))
    (hpv : getAt root pp = some (.dict cls kvs)) (hh : kvHas k kvs = false) : delAt root (pp ++ [.key k]) = Option.none := by
  rw [delAt_snoc_eq, hpv, Option.bind_some, delChild, if_neg (by rw [hh]; exact Bool.false_ne_true)]
  rfl

end N0.XPath
