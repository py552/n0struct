import N0Verif.Proofs.XPathCreateTokens
/-!
  `n0dict._add` and the final store of `__setitem__`.  `Placeholder` is the slot `_add` fills next; one level of `_add` writes
  the step's node, with the next placeholder inside, over it (`addStep_placeholder`), and `cont_fill` follows that to the end
  of the path.  `addBelow` / `addLast` are two arms of `addStep` (Model/XPathApi.lean) written out.
-/
namespace N0.XPath
open N0 N0.Py N0.Val

theorem ok_bind {α β} (x : α) (f : α → PyM β) : (Except.ok x >>= f) = f x := rfl

theorem PlainKey.noSlashC {k : Str} (h : PlainKey k) : k.contains '/' = false :=
  contains_false_of_forall k '/' h.noSlash

theorem modRef_at' (root : Val) (pp : Pos) (f : Val → Val) (pv root1 : Val) (h : getAt root pp = some pv)
    (hs : setAt root pp (f pv) = some root1) : modRef root (.at pp) f = (root1, .at pp) := by
  simp [modRef, valOf, h, writeRef, hs]

theorem storeAt_key (root root1 : Val) (q : Pos) (c : Cls) (kvs : List (Str × Val)) (n : Str) (v : Val)
    (hq : getAt root q = some (.dict c kvs)) (hn : PlainKey n)
    (hs : setAt root q (.dict c (kvSet n v kvs)) = some root1) :
    storeAt root (.at q) (some n) v = .ok root1 := by
  unfold storeAt
  simp only [hn.keyTok.split, valOf_at, hq, Idx.truthy, Bool.false_eq_true, if_false]
  rw [modRef_at' root q _ (.dict c kvs) root1 hq]
  exact hs

/-- `parent["[last()]"] = v` on a non-empty list -/
theorem storeAt_last (root root1 : Val) (P : Pos) (c : Cls) (ys : List Val) (z v : Val)
    (hP : getAt root P = some (.list c (ys ++ [z])))
    (hs : setAt root (P ++ [.idx ys.length]) v = some root1) :
    storeAt root (.at P) (some (bracket sLast)) v = .ok root1 := by
  rw [setAt_snoc_last hP] at hs
  unfold storeAt
  simp only [split_bracket_last, valOf_at, hP, List.isEmpty_nil, Bool.not_true, Bool.false_eq_true, if_false,
    n0eval_last, normIdx_last (ys ++ [z]).length (by simp)]
  rw [modRef_at' root P _ (.list c (ys ++ [z])) root1 hP]
  simpa using hs

/-! `addStep` splits its two tokens and then takes one of three roads, by the index of `node_name_index`: none (the level
follows a name, or is the first), `[last()]` (it follows an element-creating step), a number (`[len]` as the first level). -/

/-- a level of `_add` that follows a name or is the first: what it makes of the node at `par` (already descended into
the key of `node_name_index`) for the next element `nn[nidx]` of `xpath_list` -/
def addBelow (root : Val) (par : PRef) (nn : Str) (nidx : Idx) : PyM (Val × PRef × Str) :=
  match valOf root par with
  | Option.none => .error .Unsupported
  | some pv =>
    if !nn.isEmpty then
      match pv with
      | .dict _ kvs =>
        match lookup nn kvs with
        | Option.none =>
          if nidx.truthy then
            if nidx ≠ .str sNew && nidx ≠ .str ['0'] then .error .SyntaxError
            else
              let (root, par) := modRef root par (fun v => match v with
                | .dict c kvs => .dict c (kvSet nn (.list .n0 [Val.none]) kvs) | v => v)
              pure (root, childRef root par (.key nn), bracket sLast)
          else
            let (root, par) := modRef root par (fun v => match v with
              | .dict c kvs => .dict c (kvSet nn emptyN0Dict kvs) | v => v)
            pure (root, par, nn)
        | some old =>
          if nidx = .str sNew then
            let (root, par) := modRef root par (fun v => match v with
              | .dict c kvs => .dict c (kvSet nn (.list .n0 [old, Val.none]) kvs) | v => v)
            pure (root, childRef root par (.key nn), bracket sLast)
          else .error .IndexError
      | _ => .error .Unsupported
    else
      if nidx ≠ .str sNew then .error .IndexError
      else match pv with
        | .list .. =>
          let (root, par) := modRef root par (appendVal Val.none)
          pure (root, par, bracket sLast)
        | _ => .error .AttributeError

/-- a level of `_add` that follows an element-creating step: what it makes of the list `xs` at `par`, whose last
element is the placeholder, for the next element `nn[nidx]` of `xpath_list` -/
def addLast (root : Val) (par : PRef) (xs : List Val) (nn : Str) (nidx : Idx) : PyM (Val × PRef × Str) :=
  if nidx.truthy && nidx ≠ .str sNew && nidx ≠ .str ['0'] then .error .SyntaxError else
  if !nn.isEmpty then
    if xs.isEmpty then .error .IndexError else
    if !nidx.truthy then
      let (root, par) := modRef root par (setLast (.dict .n0 [(nn, emptyN0Dict)]))
      pure (root, childRef root par (.idx (xs.length - 1)), nn)
    else
      let (root, par) := modRef root par (setLast (.dict .n0 [(nn, placeholderList)]))
      pure (root, childRef root (childRef root par (.idx (xs.length - 1))) (.key nn), bracket sLast)
  else if nidx.truthy then
    if xs.isEmpty then .error .IndexError else
    let (root, par) := modRef root par (setLast placeholderList)
    pure (root, childRef root par (.idx (xs.length - 1)), bracket sLast)
  else .error .UnboundLocalError

theorem addStep_here {root : Val} {par : PRef} {t nn : Str} {nidx : Idx} (ht : splitNameIndex t = .ok (nn, nidx))
    (hb : nn.contains '[' = false) (hs : nn.contains '/' = false) :
    addStep root par Option.none t = addBelow root par nn nidx := by
  -- the splits are put in by `rw` and the binds reduced by `dsimp`: a `simp only` over the unfolded body walks it under the
  -- binders of the `do` block before the tokens are known
  unfold addStep
  rw [ht]
  dsimp only [ok_bind]
  rw [hb, hs]
  rfl

theorem addStep_below {root : Val} {par : PRef} {n0 t nn : Str} {nidx : Idx} {c : Cls} {kvs : List (Str × Val)}
    (hpv : valOf root par = some (.dict c kvs)) (hn0 : splitNameIndex n0 = .ok (n0, .none)) (hne : n0 ≠ [])
    (hb0 : n0.contains '[' = false) (hhas : kvHas n0 kvs = true)
    (ht : splitNameIndex t = .ok (nn, nidx)) (hb : nn.contains '[' = false) (hs : nn.contains '/' = false) :
    addStep root par (some n0) t = addBelow root (childRef root par (.key n0)) nn nidx := by
  unfold addStep
  rw [ht]
  dsimp only [ok_bind]
  rw [isEmpty_false_of_ne hne, if_neg Bool.false_ne_true, hn0]
  dsimp only [ok_bind]
  rw [hb, hs, hb0, hpv]
  dsimp only
  rw [hhas, isEmpty_false_of_ne hne]
  rfl

theorem addStep_last {root : Val} {par : PRef} {t nn : Str} {nidx : Idx} {c : Cls} {xs : List Val}
    (hpv : valOf root par = some (.list c xs)) (ht : splitNameIndex t = .ok (nn, nidx))
    (hb : nn.contains '[' = false) (hs : nn.contains '/' = false) :
    addStep root par (some (bracket sLast)) t = addLast root par xs nn nidx := by
  unfold addStep
  rw [ht]
  dsimp only [ok_bind]
  rw [isEmpty_false_of_ne (bracket_ne_nil sLast), if_neg Bool.false_ne_true, split_bracket_last]
  dsimp only [ok_bind]
  rw [hb, hs, hpv]
  rfl

theorem addStep_name_first (root root1 : Val) (q : Pos) (c : Cls) (kvs : List (Str × Val)) (n : Str)
    (hq : getAt root q = some (.dict c kvs)) (hn : PlainKey n) (hl : lookup n kvs = Option.none)
    (hs : setAt root q (.dict c (kvSet n emptyN0Dict kvs)) = some root1) :
    addStep root (.at q) Option.none n = .ok (root1, .at q, n) := by
  rw [addStep_here hn.keyTok.split hn.noBracket hn.noSlashC, addBelow]
  simp only [valOf_at, hq, isEmpty_false_of_ne hn.ne, Bool.not_false, if_true, hl, Idx.truthy, Bool.false_eq_true, if_false]
  rw [modRef_at' root q _ (.dict c kvs) root1 hq]
  · rfl
  · exact hs

/-- `name[new()]` on a name that holds a single value ("Node is EXISTED", fix C04-a): the value becomes
the first item of a new list, followed by the placeholder -/
theorem addStep_existing_new (root root1 : Val) (q : Pos) (c : Cls) (kvs : List (Str × Val)) (name : Str) (old : Val)
    (hq : getAt root q = some (.dict c kvs)) (hn : PlainKey name) (hl : lookup name kvs = some old)
    (hs : setAt root q (.dict c (kvSet name (.list .n0 [old, Val.none]) kvs)) = some root1) :
    addStep root (.at q) Option.none (name ++ bracket sNew) = .ok (root1, .at (q ++ [.key name]), bracket sLast) := by
  rw [addStep_here (split_bracket name sNew (Or.inr hn) idxExpr_new) hn.noBracket hn.noSlashC, addBelow]
  simp only [valOf_at, hq, isEmpty_false_of_ne hn.ne, Bool.not_false, if_true, hl]
  rw [modRef_at' root q _ (.dict c kvs) root1 hq]
  · simp [childRef]; rfl
  · exact hs

theorem addStep_elem_first (root root1 : Val) (q : Pos) (c : Cls) (kvs : List (Str × Val)) (name e : Str)
    (hq : getAt root q = some (.dict c kvs)) (hn : PlainKey name) (he : e = sNew ∨ e = ['0'])
    (hl : lookup name kvs = Option.none)
    (hs : setAt root q (.dict c (kvSet name (.list .n0 [Val.none]) kvs)) = some root1) :
    addStep root (.at q) Option.none (name ++ bracket e) = .ok (root1, .at (q ++ [.key name]), bracket sLast) := by
  have hie := idxExpr_of_new_or_zero he
  rw [addStep_here (split_bracket name e (Or.inr hn) hie) hn.noBracket hn.noSlashC, addBelow]
  simp only [valOf_at, hq, isEmpty_false_of_ne hn.ne, Bool.not_false, if_true, hl, Idx.truthy, isEmpty_false_of_ne hie.ne,
    new_or_zero_cond he, Bool.false_eq_true, if_false]
  rw [modRef_at' root q _ (.dict c kvs) root1 hq]
  · simp [childRef]; rfl
  · exact hs

theorem addStep_new_list (root root1 : Val) (P : Pos) (c : Cls) (xs : List Val)
    (hP : getAt root P = some (.list c xs)) (hs : setAt root P (.list c (xs ++ [Val.none])) = some root1) :
    addStep root (.at P) Option.none (bracket sNew) = .ok (root1, .at P, bracket sLast) := by
  rw [addStep_here split_bracket_new rfl rfl, addBelow]
  simp only [valOf_at, hP, List.isEmpty_nil, Bool.not_true, Bool.false_eq_true, if_false, ne_eq, not_true_eq_false]
  rw [modRef_at' root P _ (.list c xs) root1 hP]
  · rfl
  · exact hs

theorem addStep_len_list (root root1 : Val) (P : Pos) (c : Cls) (xs : List Val)
    (hP : getAt root P = some (.list c xs)) (hs : setAt root P (.list c (xs ++ [Val.none])) = some root1) :
    addStep root (.at P) (some (bracket (natStr xs.length))) (bracket (natStr xs.length))
      = .ok (root1, .at P, bracket sLast) := by
  have hsplit := (natStr_idxTok xs.length).split
  have hd := natStr_digits xs.length
  unfold addStep
  rw [hsplit]
  dsimp only [ok_bind]
  rw [isEmpty_false_of_ne (bracket_ne_nil _), if_neg Bool.false_ne_true, hsplit]
  dsimp only [ok_bind]
  rw [valOf_at, hP]
  dsimp only
  rw [if_neg hd.ne_new.1, if_neg hd.ne_new.2, n0eval_nat]
  dsimp only [Val.len]
  rw [modRef_at' root P _ (.list c xs) root1 hP hs]
  rw [if_pos rfl]
  rfl

def AddStores (root : Val) (par : PRef) (ni : Option Str) (toks : List Str) (v t' : Val) : Prop :=
  ∃ root' par' ni', add root par ni toks = (root', .ok (par', ni')) ∧ storeAt root' par' (some ni') v = .ok t'

def Cont (root : Val) (nxt : PRef) (nni : Str) (rest : List Str) (v t' : Val) : Prop :=
  (rest = [] → storeAt root nxt (some nni) v = .ok t') ∧ (rest ≠ [] → AddStores root nxt (some nni) rest v t')

theorem addStores_step {root root1 : Val} {par nxt : PRef} {ni : Option Str} {t nni : Str} {rest : List Str}
    {v t' : Val} (hstep : addStep root par ni t = .ok (root1, nxt, nni)) (hc : Cont root1 nxt nni rest v t') :
    AddStores root par ni (t :: rest) v t' := by
  cases rest with
  | nil => exact ⟨root1, nxt, nni, by simp [add, hstep], hc.1 rfl⟩
  | cons a r =>
    obtain ⟨root', par', ni', hadd, hst⟩ := hc.2 (by simp)
    exact ⟨root', par', ni', by rw [add, hstep]; simpa using hadd, hst⟩

/-- the slot `_add` fills next, as `(parent_node, node_name_index)` and as a position: after a name step the empty
dictionary just stored under that name; after an element-creating step the `None` that ends the new list, addressed as
`[last()]`.  The flag tells the two apart: only a list takes a bare index step. -/
inductive Placeholder (root : Val) : Bool → PRef → Str → Pos → Prop
  | dict {q : Pos} {c : Cls} {kvs : List (Str × Val)} {n : Str} (hq : getAt root q = some (.dict c kvs)) (hn : PlainKey n)
      (hl : lookup n kvs = some emptyN0Dict) : Placeholder root false (.at q) n (q ++ [.key n])
  | list {P : Pos} {c : Cls} {ys : List Val} (hP : getAt root P = some (.list c (ys ++ [Val.none]))) :
      Placeholder root true (.at P) (bracket sLast) (P ++ [.idx ys.length])

/-- a level of `_add` that follows a name which is there is the first level at the node under that name -/
theorem addStep_descend {root : Val} {par : PRef} {n0 t nn : Str} {nidx : Idx} {c : Cls} {kvs : List (Str × Val)}
    (hpv : valOf root par = some (.dict c kvs)) (hn0 : PlainKey n0) (hhas : kvHas n0 kvs = true)
    (ht : splitNameIndex t = .ok (nn, nidx)) (hb : nn.contains '[' = false) (hs : nn.contains '/' = false) :
    addStep root par (some n0) t = addStep root (childRef root par (.key n0)) Option.none t := by
  rw [addStep_below hpv hn0.keyTok.split hn0.ne hn0.noBracket hhas ht hb hs, addStep_here ht hb hs]

/-- the `node_name_index` a step hands to the next level: its name, or `[last()]` after an element-creating step -/
def CStep.nextNi : CStep → Str
  | .name m => m
  | _ => bracket sLast

/-- the next slot of a step refines the slot the step filled -/
theorem setAt_wrap {root root1 : Val} {slot : Pos} (s : CStep) {y : Val} (x : Val)
    (h : setAt root slot (s.wrap y) = some root1) :
    setAt root1 (slot ++ s.pre ++ s.last) x = setAt root slot (s.wrap x) := by
  cases s with
  | name m =>
    simp only [CStep.wrap, CStep.pre, CStep.last, List.append_nil] at h ⊢
    exact setAt_refine h (by simp [setChild, kvSet])
  | elem m e =>
    simp only [CStep.wrap, CStep.pre, CStep.last] at h ⊢
    have hg1 : getAt root1 (slot ++ [.key m]) = some (.list .n0 ([] ++ [y])) :=
      getAt_snoc_key (getAt_of_setAt _ _ _ _ h) (by simp [lookup])
    exact (setAt_snoc_last hg1 x).trans (setAt_refine h (by simp [setChild, kvSet]))
  | idx e =>
    simp only [CStep.wrap, CStep.pre, CStep.last, List.append_nil] at h ⊢
    have hg1 : getAt root1 slot = some (.list .n0 ([] ++ [y])) := getAt_of_setAt _ _ _ _ h
    exact (setAt_snoc_last hg1 x).trans (setAt_overwrite _ _ _ _ _ h)

theorem getAt_placeholder {root : Val} {b : Bool} {par : PRef} {ni : Str} {slot : Pos}
    (hph : Placeholder root b par ni slot) : ∃ x, getAt root slot = some x := by
  cases hph with
  | dict hq hn hl => exact ⟨_, getAt_snoc_key hq hl⟩
  | list hP => exact ⟨Val.none, getAt_snoc_idx hP (by simp)⟩

/-- Whatever the step, one level of `_add` writes the step's node, with the next placeholder inside (`{m: {}}`,
`{m: [None]}`, `[None]`), over the slot, and stands where the next level expects it.  Under a name the
level is the first level at the empty dictionary there; after an element-creating step it replaces the `None` that ends
the list (fix C03-b). -/
theorem addStep_placeholder {root : Val} {b : Bool} {par : PRef} {ni : Str} {slot : Pos}
    (hph : Placeholder root b par ni slot) {s : CStep} (hs : s.laterW) (hb : ∀ e, s = .idx e → b = true)
    {root1 : Val} (hset : setAt root slot (s.wrap s.ph) = some root1) :
    addStep root par (some ni) (stepTok s) = .ok (root1, .at (slot ++ s.pre), s.nextNi) ∧
      Placeholder root1 (!s.isName) (.at (slot ++ s.pre)) s.nextNi (slot ++ s.pre ++ s.last) := by
  have hslot : getAt root1 slot = some (s.wrap s.ph) := getAt_of_setAt _ _ _ _ hset
  cases s with
  | name m =>
    simp only [CStep.wrap, CStep.ph, CStep.pre, CStep.last, CStep.nextNi, CStep.isName, List.append_nil, stepTok,
      Bool.not_true] at hset hslot ⊢
    refine ⟨?_, .dict hslot hs (by simp [lookup, emptyN0Dict])⟩
    cases hph with
    | @dict q c kvs n hq hn hl =>
      rw [addStep_descend (par := .at q) hq hn (by simp [kvHas, hl]) hs.keyTok.split hs.noBracket hs.noSlashC, childRef_at]
      exact addStep_name_first root root1 _ .n0 [] m (getAt_snoc_key hq hl) hs rfl hset
    | @list P c ys hP =>
      rw [setAt_snoc_last hP] at hset
      rw [addStep_last (par := .at P) hP hs.keyTok.split hs.noBracket hs.noSlashC, addLast]
      simp only [Idx.truthy, Bool.false_and, Bool.false_eq_true, if_false, isEmpty_false_of_ne hs.ne, Bool.not_false, if_true,
        isEmpty_false_of_ne (List.append_ne_nil_of_right_ne_nil ys (List.cons_ne_nil Val.none []))]
      rw [modRef_at' root P _ (.list c (ys ++ [Val.none])) root1 hP]
      · simp [childRef]; rfl
      · simpa [setLast, emptyN0Dict, placeholderList] using hset
  | elem m e =>
    simp only [CStep.wrap, CStep.ph, CStep.pre, CStep.last, CStep.nextNi, CStep.isName, stepTok, Bool.not_false]
      at hset hslot ⊢
    refine ⟨?_, .list (ys := []) (getAt_snoc_key (c := .list .n0 [Val.none]) hslot (by simp [lookup]))⟩
    have hie := idxExpr_of_new_or_zero hs.2
    have hsplit := split_bracket m e (Or.inr hs.1) hie
    cases hph with
    | @dict q c kvs n hq hn hl =>
      rw [addStep_descend (par := .at q) hq hn (by simp [kvHas, hl]) hsplit hs.1.noBracket hs.1.noSlashC, childRef_at]
      exact addStep_elem_first root root1 _ .n0 [] m e (getAt_snoc_key hq hl) hs.1 hs.2 rfl hset
    | @list P c ys hP =>
      rw [setAt_snoc_last hP] at hset
      rw [addStep_last (par := .at P) hP hsplit hs.1.noBracket hs.1.noSlashC, addLast]
      simp only [Idx.truthy, isEmpty_false_of_ne hie.ne, Bool.not_false, Bool.true_and, new_or_zero_cond hs.2,
        Bool.false_eq_true, if_false, isEmpty_false_of_ne hs.1.ne, if_true, Bool.not_true,
        isEmpty_false_of_ne (List.append_ne_nil_of_right_ne_nil ys (List.cons_ne_nil Val.none []))]
      rw [modRef_at' root P _ (.list c (ys ++ [Val.none])) root1 hP]
      · simp [childRef]; rfl
      · simpa [setLast, emptyN0Dict, placeholderList] using hset
  | idx e =>
    simp only [CStep.wrap, CStep.ph, CStep.pre, CStep.last, CStep.nextNi, CStep.isName, List.append_nil, stepTok,
      Bool.not_false] at hset hslot ⊢
    refine ⟨?_, .list (ys := []) hslot⟩
    cases hph with
    | dict hq hn hl => exact absurd (hb e rfl) (by simp)
    | @list P c ys hP =>
      rw [setAt_snoc_last hP] at hset
      have hie := idxExpr_of_new_or_zero hs
      have hsplit : splitNameIndex (bracket e) = .ok ([], .str e) := by
        simpa using split_bracket [] e (Or.inl rfl) hie
      rw [addStep_last (par := .at P) hP hsplit rfl rfl, addLast]
      simp only [Idx.truthy, isEmpty_false_of_ne hie.ne, Bool.not_false, Bool.true_and, new_or_zero_cond hs,
        Bool.false_eq_true, if_false, List.isEmpty_nil, Bool.not_true, if_true,
        isEmpty_false_of_ne (List.append_ne_nil_of_right_ne_nil ys (List.cons_ne_nil Val.none []))]
      rw [modRef_at' root P _ (.list c (ys ++ [Val.none])) root1 hP]
      · simp [childRef]; rfl
      · simpa [setLast, emptyN0Dict, placeholderList] using hset

/-- Whatever the remaining steps, `_add` and the final store replace the placeholder by exactly what the steps describe
(`fill`): each step writes its own node with a new placeholder inside over the old
placeholder (`addStep_placeholder`), so the tree after the step is the tree before it with that node in the slot, and the
remaining steps refine it (`setAt_wrap`). -/
theorem cont_fill (v t' : Val) : ∀ (steps : List CStep) (root : Val) (inList : Bool) (par : PRef) (ni : Str) (slot : Pos),
    Placeholder root inList par ni slot → (∀ x ∈ steps, x.laterW) → GW steps →
    (∀ e r, steps = .idx e :: r → inList = true) →
    setAt root slot (fill steps v) = some t' → Cont root par ni (steps.map stepTok) v t'
  | [], root, _, _, _, _, hph, _, _, _, hset => by
    refine ⟨fun _ => ?_, fun h => absurd rfl h⟩
    cases hph with
    | dict hq hn hl =>
      rw [setAt_snoc_key hq] at hset
      exact storeAt_key _ _ _ _ _ _ _ hq hn hset
    | list hP => exact storeAt_last _ _ _ _ _ _ _ hP hset
  | s :: ms, root, _, _, n, slot, hph, hsteps, hg, hhead, hset => by
    refine ⟨fun h => by simp at h, fun _ => ?_⟩
    obtain ⟨x, hx⟩ := getAt_placeholder hph
    obtain ⟨root1, hs1⟩ := setAt_isSome slot root x (s.wrap s.ph) hx
    obtain ⟨hstep, hnext⟩ := addStep_placeholder hph (hsteps s (by simp)) (fun e h => hhead e ms (by rw [h])) hs1
    refine addStores_step hstep (cont_fill v t' ms root1 _ _ _ _ hnext (fun x hx => hsteps x (by simp [hx])) hg.tail ?_ ?_)
    · -- after a name step no bare index follows
      rintro e r rfl
      cases s with
      | name m => exact (hg.1 rfl).symm
      | elem m e => rfl
      | idx e => rfl
    · rw [setAt_wrap s _ hs1, ← fill_cons]
      exact hset

/-- the same seen from the tree before the step that put `[…, None]` at `P` -/
theorem cont_fill_list {root root1 : Val} {P : Pos} {c : Cls} {ys : List Val} (v t' : Val) (steps : List CStep)
    (hs1 : setAt root P (.list c (ys ++ [Val.none])) = some root1) (hsteps : ∀ x ∈ steps, x.laterW) (hg : GW steps)
    (hset : setAt root P (.list c (ys ++ [fill steps v])) = some t') :
    Cont root1 (.at P) (bracket sLast) (steps.map stepTok) v t' := by
  have hP := getAt_of_setAt P root root1 _ hs1
  refine cont_fill v t' steps root1 true _ _ _ (.list hP) hsteps hg (fun _ _ _ => rfl) ?_
  rw [setAt_snoc_last hP, setAt_overwrite _ _ _ _ _ hs1]
  exact hset

theorem addStores_name (root : Val) (q : Pos) (c : Cls) (kvs : List (Str × Val)) (n : Str) (steps : List CStep)
    (v t' : Val) (hq : getAt root q = some (.dict c kvs)) (hn : PlainKey n) (hl : lookup n kvs = Option.none)
    (hsteps : ∀ x ∈ steps, x.laterW) (hg : GW (.name n :: steps))
    (hset : setAt root (q ++ [.key n]) (fill steps v) = some t') :
    AddStores root (.at q) Option.none (n :: steps.map stepTok) v t' := by
  obtain ⟨root1, hs1⟩ := setAt_isSome q root _ (.dict c (kvSet n emptyN0Dict kvs)) hq
  refine addStores_step (addStep_name_first root root1 q c kvs n hq hn hl hs1) ?_
  refine cont_fill v t' steps root1 false _ _ _
    (.dict (getAt_of_setAt q _ _ _ hs1) hn (lookup_kvSet_same _ _ _)) hsteps hg.tail ?_ ?_
  · rintro e r rfl
    exact (hg.1 rfl).symm
  · rw [setAt_overwrite _ _ _ _ _ ((setAt_snoc_key hq n _).trans hs1)]
    exact hset

theorem addStores_elem_fresh (root : Val) (q : Pos) (c : Cls) (kvs : List (Str × Val)) (name e : Str)
    (steps : List CStep) (v t' : Val) (hq : getAt root q = some (.dict c kvs)) (hn : PlainKey name)
    (he : e = sNew ∨ e = ['0']) (hl : lookup name kvs = Option.none)
    (hsteps : ∀ x ∈ steps, x.laterW) (hg : GW steps)
    (hset : setAt root (q ++ [.key name]) (.list .n0 [fill steps v]) = some t') :
    AddStores root (.at q) Option.none ((name ++ bracket e) :: steps.map stepTok) v t' := by
  obtain ⟨root1, hs1⟩ := setAt_isSome q root _ (.dict c (kvSet name (.list .n0 [Val.none]) kvs)) hq
  refine addStores_step (addStep_elem_first root root1 q c kvs name e hq hn he hl hs1) ?_
  exact cont_fill_list (ys := []) v t' steps ((setAt_snoc_key hq name _).trans hs1) hsteps hg hset

theorem addStores_wrap (root : Val) (q : Pos) (c : Cls) (kvs : List (Str × Val)) (name : Str) (old : Val)
    (steps : List CStep) (v t' : Val) (hq : getAt root q = some (.dict c kvs)) (hn : PlainKey name)
    (hl : lookup name kvs = some old) (hsteps : ∀ x ∈ steps, x.laterW) (hg : GW steps)
    (hset : setAt root (q ++ [.key name]) (.list .n0 [old, fill steps v]) = some t') :
    AddStores root (.at q) Option.none ((name ++ bracket sNew) :: steps.map stepTok) v t' := by
  obtain ⟨root1, hs1⟩ := setAt_isSome q root _ (.dict c (kvSet name (.list .n0 [old, Val.none]) kvs)) hq
  refine addStores_step (addStep_existing_new root root1 q c kvs name old hq hn hl hs1) ?_
  exact cont_fill_list (ys := [old]) v t' steps ((setAt_snoc_key hq name _).trans hs1) hsteps hg hset

theorem addStores_new_on_list (root0 : Val) (P : Pos) (c0 : Cls) (xs0 : List Val) (steps : List CStep) (v t' : Val)
    (hP0 : getAt root0 P = some (.list c0 xs0)) (hsteps : ∀ x ∈ steps, x.laterW) (hg : GW steps)
    (hset : setAt root0 P (.list c0 (xs0 ++ [fill steps v])) = some t') :
    AddStores root0 (.at P) Option.none (bracket sNew :: steps.map stepTok) v t' := by
  obtain ⟨root1, hs1⟩ := setAt_isSome P root0 _ (.list c0 (xs0 ++ [Val.none])) hP0
  exact addStores_step (addStep_new_list root0 root1 P c0 xs0 hP0 hs1) (cont_fill_list v t' steps hs1 hsteps hg hset)

theorem addStores_len_on_list (root0 : Val) (P : Pos) (c0 : Cls) (xs0 : List Val) (steps : List CStep) (v t' : Val)
    (hP0 : getAt root0 P = some (.list c0 xs0)) (hsteps : ∀ x ∈ steps, x.laterW) (hg : GW steps)
    (hset : setAt root0 P (.list c0 (xs0 ++ [fill steps v])) = some t') :
    AddStores root0 (.at P) (some (bracket (natStr xs0.length))) (bracket (natStr xs0.length) :: steps.map stepTok) v t' := by
  obtain ⟨root1, hs1⟩ := setAt_isSome P root0 _ (.list c0 (xs0 ++ [Val.none])) hP0
  exact addStores_step (addStep_len_list root0 root1 P c0 xs0 hP0 hs1) (cont_fill_list v t' steps hs1 hsteps hg hset)

end N0.XPath
