import N0Verif.Proofs.XPathAdd
import N0Verif.Proofs.XPathStore
import N0Verif.Proofs.XPathFound
import N0Verif.Proofs.XPathGWalk
/-!
  C03: `__setitem__` on a missing path.  The rows of a creation, below any walk over the pieces of the text, by what the
  first step meets; `setItem_create_any` is their case split: every path of the creation grammar yields exactly `createIn`,
  for any text with the tokens of the pieces (`setItem_create_canon`: the canonical `//…` text).  Last: a refused assignment
  leaves the tree the search left (fix C03-a).
-/
namespace N0.XPath
open N0 N0.Py N0.Val

theorem setItem_of_place {cls : Cls} {kvs : List (Str × Val)} {xp : Str} {toks nf : List Str} {root0 : Val} {r r' : Res}
    {v t' : Val} {fuel : Nat}
    (hq : startsWith xp ['?'] = false) (hpc : hasPathChar xp = true) (htok : tokenize xp = toks)
    (hfind : findD fuel (.dict cls kvs) [] false true toks (.at []) true slash = .ok (root0, r))
    (hhid : hiddenPlace fuel root0 r = .ok r')
    (hnf : r'.notFound = some nf) (hne : nf ≠ []) (hadd : AddStores root0 r'.parent r'.nameIdx nf v t') :
    setItem fuel (.dict cls kvs) xp v = (t', .ok ()) := by
  obtain ⟨root', par', ni', ha, hst⟩ := hadd
  subst htok
  obtain ⟨tok, rest, rfl⟩ := List.exists_cons_of_ne_nil hne
  exact setItem_after_add hq hpc hfind hhid hnf ha hst

theorem setItem_of_find {cls : Cls} {kvs : List (Str × Val)} {xp : Str} {toks nf : List Str} {root0 : Val} {r : Res}
    {v t' : Val} {fuel : Nat}
    (hq : startsWith xp ['?'] = false) (hpc : hasPathChar xp = true) (htok : tokenize xp = toks)
    (hfind : findD fuel (.dict cls kvs) [] false true toks (.at []) true slash = .ok (root0, r))
    (hnf : r.notFound = some nf) (hne : nf ≠ []) (hadd : AddStores root0 r.parent r.nameIdx nf v t')
    (hw : isWrap r.parent = false := by rfl) :
    setItem fuel (.dict cls kvs) xp v = (t', .ok ()) :=
  setItem_of_place hq hpc htok hfind (hiddenPlace_notWrap fuel root0 r hw) hnf hne hadd

/-- first step a fresh name.  Takes a `Walk` with any `hl`, so it reaches below a hidden-list step, which `setItem_create_any`
(on `GWalk`) cannot. -/
theorem setItem_create_name_toks {m : Nat} {toks0 : List Str} {w : Str} {hl : Bool} (cls : Cls) (kvs : List (Str × Val))
    (q : Pos) (kcls : Cls) (nkvs : List (Str × Val)) (n : Str) (steps : List CStep) (v t' : Val) (xp : Str) (fuel : Nat)
    (hw : Walk m toks0 (.dict cls kvs) q (.dict kcls nkvs) w hl) (hn : PlainKey n)
    (hlk : lookup n nkvs = Option.none) (hsteps : ∀ x ∈ steps, x.laterW) (hg : GW (.name n :: steps))
    (hset : setAt (.dict cls kvs) (q ++ [.key n]) (fill steps v) = some t')
    (hq : startsWith xp ['?'] = false) (hpc : hasPathChar xp = true)
    (htok : tokenize xp = toks0 ++ n :: steps.map stepTok) (hf : fuel ≥ 1 + m) :
    setItem fuel (.dict cls kvs) xp v = (t', .ok ()) := by
  obtain ⟨f, rfl⟩ := Nat.exists_eq_add_of_le' hf
  obtain ⟨u, _, hfind⟩ := find_walkTo_miss (.dict cls kvs) true [] hw n n .none (steps.map stepTok)
    hn.keyTok.split hn.ne hn.notUp hn.keyTok.notStar hlk f [] slash true rfl
  rw [List.nil_append, Nat.add_assoc] at hfind
  exact setItem_of_find hq hpc htok hfind rfl (by simp)
    (addStores_name _ q kcls nkvs n steps v t' hw.getAt hn hlk hsteps hg hset)

/-! What the first piece that is not there meets: a dictionary without the name (`setItem_row_name`, `setItem_row_fresh`), a
value under `[new()]` (`setItem_row_new`: a list takes one more element, a single value under a key becomes the first
element of a new list), a list under `[len]` (`setItem_row_len`).  Each is stated for any text with the tokens of the
pieces; where the list sits and how the way to it is spelled plays no part. -/

/-- a walk over pieces to a dictionary that does not have the name of the next piece: `find_walkTo_miss` on the tokens (a
key piece is a token of its own, whatever stands before it) -/
theorem find_gwalk_miss {cls : Cls} {kvs : List (Str × Val)} {gs ns : List GSeg} {q : Pos} {kcls : Cls}
    {nkvs : List (Str × Val)} (hw : GWalk gs (.dict cls kvs) q (.dict kcls nkvs) ns) (g : Str) (more : List GSeg)
    {tok k : Str} {idx : Idx} {rest : List Str}
    (hmore : sel2Toks (.key g :: more) = tok :: rest) (hsplit : splitNameIndex tok = .ok (k, idx))
    (hk : PlainKey k) (hlk : lookup k nkvs = Option.none) (f : Nat) :
    findD (f + (1 + gs.length)) (.dict cls kvs) [] false true (sel2Toks (gs ++ .key g :: more)) (.at []) true slash
      = .ok (.dict cls kvs, { parent := .at q, nameIdx := Option.none, value := Val.none,
                              found := slash ++ sel2Render ns, notFound := some (tok :: rest) }) := by
  obtain ⟨u, hu, h⟩ := find_walkTo_miss (.dict cls kvs) true [] hw.walk tok k idx rest hsplit hk.ne hk.notUp
    hk.keyTok.notStar hlk f [] slash true rfl
  rw [hu rfl, List.append_nil, List.nil_append, Nat.add_assoc] at h
  rw [sel2_toks_append_key, hmore, h]

variable {cls : Cls} {kvs : List (Str × Val)} {gs ns : List GSeg} {xp : Str} {v t' : Val} {fuel : Nat}

/-- first piece a fresh name.  `GW` is asked of the name with the steps (a bare index may not follow a name: `n` then `[e]`
is the text of `n[e]`); the other rows, whose first step is no name, ask it of the steps only -/
theorem setItem_row_name {q : Pos} {kcls : Cls} {nkvs : List (Str × Val)}
    (hw : GWalk gs (.dict cls kvs) q (.dict kcls nkvs) ns) {n : Str} (hn : PlainKey n)
    (hlk : lookup n nkvs = Option.none) (steps : List CStep) (hsteps : ∀ x ∈ steps, x.laterW)
    (hg : GW (.name n :: steps)) (hset : setAt (.dict cls kvs) (q ++ [.key n]) (fill steps v) = some t')
    (hq : startsWith xp ['?'] = false) (hpc : hasPathChar xp = true)
    (htok : tokenize xp = sel2Toks (gs ++ (CStep.name n :: steps).flatMap embedC)) (hf : fuel ≥ 1 + gs.length) :
    setItem fuel (.dict cls kvs) xp v = (t', .ok ()) := by
  obtain ⟨f, rfl⟩ := Nat.exists_eq_add_of_le' hf
  exact setItem_of_find hq hpc htok
    (find_gwalk_miss hw n _ (toks_embedC (.name n :: steps) hg) hn.keyTok.split hn hlk f) rfl (by simp)
    (addStores_name _ q kcls nkvs n steps v t' hw.getAt hn hlk hsteps hg hset)

/-- first pieces `name[new()]` / `name[0]` on a fresh name: the one-element list is created under `name` -/
theorem setItem_row_fresh {q : Pos} {kcls : Cls} {nkvs : List (Str × Val)}
    (hw : GWalk gs (.dict cls kvs) q (.dict kcls nkvs) ns) {name e : Str} (hn : PlainKey name)
    (he : e = sNew ∨ e = ['0']) (hlk : lookup name nkvs = Option.none) (steps : List CStep)
    (hsteps : ∀ x ∈ steps, x.laterW) (hg : GW steps)
    (hset : setAt (.dict cls kvs) (q ++ [.key name]) (.list .n0 [fill steps v]) = some t')
    (hq : startsWith xp ['?'] = false) (hpc : hasPathChar xp = true)
    (htok : tokenize xp = sel2Toks (gs ++ (CStep.elem name e :: steps).flatMap embedC)) (hf : fuel ≥ 1 + gs.length) :
    setItem fuel (.dict cls kvs) xp v = (t', .ok ()) := by
  obtain ⟨f, rfl⟩ := Nat.exists_eq_add_of_le' hf
  have hmore : sel2Toks ((CStep.elem name e :: steps).flatMap embedC) = (name ++ bracket e) :: steps.map stepTok := by
    rw [List.flatMap_cons, embedC, List.cons_append, List.cons_append, List.nil_append, sel2Toks_key_br, toks_embedC steps hg]
  exact setItem_of_find hq hpc htok
    (find_gwalk_miss hw name _ hmore (split_bracket name e (Or.inr hn) (idxExpr_of_new_or_zero he))
      hn hlk f) rfl (by simp)
    (addStores_elem_fresh _ q kcls nkvs name e steps v t' hw.getAt hn he hlk hsteps hg hset)

/-- `[len]` on a list of length `len`: exactly one element is appended -/
theorem setItem_row_len {P : Pos} {c : Cls} {xs : List Val} (hw : GWalk gs (.dict cls kvs) P (.list c xs) ns)
    (steps : List CStep) (hsteps : ∀ x ∈ steps, x.laterW) (hg : GW steps)
    (hset : setAt (.dict cls kvs) P (.list c (xs ++ [fill steps v])) = some t')
    (hq : startsWith xp ['?'] = false) (hpc : hasPathChar xp = true)
    (htok : tokenize xp = sel2Toks (gs ++ (CStep.idx (natStr xs.length) :: steps).flatMap embedC))
    (hf : fuel ≥ 1 + gs.length) :
    setItem fuel (.dict cls kvs) xp v = (t', .ok ()) := by
  obtain ⟨f, rfl⟩ := Nat.exists_eq_add_of_le' hf
  have hfind := find_gwalkTo (.dict cls kvs) true [] hw ((CStep.idx (natStr xs.length) :: steps).flatMap embedC) (by simp [embedC])
    (fun e r h => by cases h; exact natStr_idxExpr _) (f + 1) [] slash true rfl
  rw [List.flatMap_cons, embedC, List.cons_append, List.nil_append, sel2Toks_br, toks_embedC steps hg, List.nil_append,
    findD_idx_out (ps := false) (par := .at P) rfl hw.getAt (natStr_idxTok xs.length) (Or.inl (Int.le_refl _)),
    Nat.add_assoc] at hfind
  rw [List.flatMap_cons, embedC, List.cons_append, List.nil_append] at htok
  exact setItem_of_find hq hpc htok hfind rfl (by simp)
    (addStores_len_on_list _ _ c xs steps v t' hw.getAt hsteps hg hset)

/-- `[new()]` on the value a walk arrives at: a list gets exactly one more element; a single value under a key becomes
the first element of a new list (`appendTo`) -/
theorem setItem_row_new {P : Pos} {old : Val} (hw : GWalk gs (.dict cls kvs) P old ns)
    (hold : isList old = true ∨ ∃ q k, P = q ++ [.key k]) (steps : List CStep) (hsteps : ∀ x ∈ steps, x.laterW)
    (hg : GW steps) (hset : setAt (.dict cls kvs) P (appendTo old (fill steps v)) = some t')
    (hq : startsWith xp ['?'] = false) (hpc : hasPathChar xp = true)
    (htok : tokenize xp = sel2Toks (gs ++ (CStep.idx sNew :: steps).flatMap embedC))
    (hf : fuel ≥ 1 + P.length + gs.length) :
    setItem fuel (.dict cls kvs) xp v = (t', .ok ()) := by
  obtain ⟨f, rfl⟩ : ∃ f, fuel = f + P.length + 1 + gs.length := ⟨fuel - (1 + P.length + gs.length), by omega⟩
  have hP := hw.getAt
  have hne : ns ≠ [] := by
    rintro rfl
    have h0 := hw.norm.length
    rcases hold with h | ⟨q, k, rfl⟩
    · cases P with
      | nil => simp only [getAt, Option.some.injEq] at hP; subst hP; cases h
      | cons _ _ => cases h0
    · simp at h0
  have hfind := find_gwalkTo (.dict cls kvs) true [] hw ((CStep.idx sNew :: steps).flatMap embedC) (by simp [embedC])
    (fun e r h => by cases h; exact idxExpr_new) (f + P.length + 1) [] slash true rfl
  obtain ⟨fnd, hnew⟩ := find_new_norm (.dict cls kvs) true false hw.norm hne (.at P) hP split_bracket_new
    (steps.map stepTok) (f + P.length) (Nat.le_add_left _ _)
  rw [List.flatMap_cons, embedC, List.cons_append, List.nil_append, sel2Toks_br, toks_embedC steps hg, List.nil_append,
    show slash ++ sel2Render ns = '/' :: sel2Render ns from rfl, hnew] at hfind
  rw [List.flatMap_cons, embedC, List.cons_append, List.nil_append] at htok
  by_cases hlist : isList old = true
  · obtain ⟨c, xs, rfl⟩ := isList_inv hlist
    rw [if_pos hlist] at hfind
    exact setItem_of_find hq hpc htok hfind rfl (by simp) (addStores_new_on_list _ _ c xs steps v t' hP hsteps hg hset)
  · obtain ⟨q, k, rfl⟩ := hold.resolve_left hlist
    rw [if_neg hlist, List.getLast?_concat, List.dropLast_concat] at hfind
    rw [getAt_snoc] at hP
    cases hpv : getAt (.dict cls kvs) q with
    | none => simp [hpv] at hP
    | some pv =>
      simp only [hpv, Option.bind] at hP
      obtain ⟨kcls, nkvs, rfl, hl⟩ := child_key_some hP
      rw [appendTo_nonlist (by simpa using hlist)] at hset
      exact setItem_of_find hq hpc htok hfind rfl (by simp)
        (addStores_wrap _ q kcls nkvs k old steps v t' hpv hw.norm.plain.last_key hl hsteps hg hset)

/-- Whatever the first step and however the way to the node is spelled: for any text with the tokens of the pieces `gs` (a
walk to the existing node `cur`) followed by the pieces of the creation steps.  The case split (`createIn_row`) of the rows. -/
theorem setItem_create_any {cls : Cls} {kvs : List (Str × Val)} {gs ns : List GSeg} {q : Pos} {cur cur' : Val}
    {s : CStep} {steps : List CStep} {v t' : Val} {xp : Str} {fuel : Nat}
    (hw : GWalk gs (.dict cls kvs) q cur ns) (hfirst : s.first)
    (hsteps : ∀ x ∈ steps, x.laterW) (hg : GW (s :: steps))
    (hcreate : createIn cur (s :: steps) v = some cur') (hset : setAt (.dict cls kvs) q cur' = some t')
    (hqm : startsWith xp ['?'] = false) (hpc : hasPathChar xp = true)
    (htok : tokenize xp = sel2Toks (gs ++ (s :: steps).flatMap embedC))
    (hf : fuel ≥ 3 + q.length + gs.length) :
    setItem fuel (.dict cls kvs) xp v = (t', .ok ()) := by
  have hget := hw.getAt
  obtain ⟨put, hrow, rfl⟩ := createIn_row hcreate
  cases hrow with
  | name hl =>
    rw [← setAt_snoc_key hget] at hset
    exact setItem_row_name hw hfirst hl steps hsteps hg hset hqm hpc htok (by omega)
  | fresh hl he =>
    rw [← setAt_snoc_key hget] at hset
    exact setItem_row_fresh hw hfirst he hl steps hsteps hg.tail hset hqm hpc htok (by omega)
  | @new c kvs' n old hl =>
    -- the name is there: one more piece walked, then the step is `[new()]` on what the name holds
    have hw' := hw.append (.key hfirst hl (.nil old))
    rw [← setAt_snoc_key hget] at hset
    exact setItem_row_new hw' (Or.inr ⟨q, n, rfl⟩) steps hsteps hg.tail hset hqm hpc
      (by rw [htok]; simp [embedC, List.flatMap_cons]) (by simp; omega)
  | @len c kvs' n c' xs hl =>
    have hw' := hw.append (.key hfirst hl (.nil _))
    rw [← setAt_snoc_key hget] at hset
    exact setItem_row_len hw' steps hsteps hg.tail hset hqm hpc
      (by rw [htok]; simp [embedC, List.flatMap_cons]) (by simp; omega)
  | idx he =>
    rcases he with rfl | rfl
    · exact setItem_row_new hw (Or.inl rfl) steps hsteps hg.tail hset hqm hpc htok (by omega)
    · exact setItem_row_len hw steps hsteps hg.tail hset hqm hpc htok (by omega)

/-- `setItem_create_any` at the canonical text `//…` of the node's position -/
theorem setItem_create_canon (cls : Cls) (kvs : List (Str × Val)) (q : Pos) (cur cur' : Val) (s : CStep)
    (steps : List CStep) (v t' : Val) (fuel : Nat)
    (hp : PlainPos q) (hget : getAt (.dict cls kvs) q = some cur) (hfirst : s.first)
    (hsteps : ∀ x ∈ steps, x.laterW) (hg : GW (s :: steps))
    (hcreate : createIn cur (s :: steps) v = some cur') (hset : setAt (.dict cls kvs) q cur' = some t')
    (hf : fuel ≥ 4 * (q.length + 1)) :
    setItem fuel (.dict cls kvs) (slash ++ renderPos q ++ (s :: steps).flatMap renderCStep) v = (t', .ok ()) := by
  have hw := gwalk_embed hp hget
  have hlen := hw.length
  exact setItem_create_any hw hfirst hsteps hg hcreate hset rfl rfl
    (tokenize_embedC q hp (s :: steps) (List.forall_mem_cons.2
      ⟨clean_first hfirst hcreate, fun x hx => CStep.clean_of_laterW (hsteps x hx)⟩)) (by omega)

/-- a chain of fresh names, below any `Walk` (any `hl`: also one that ends with a hidden-list step) -/
theorem setItem_create_names_toks {m : Nat} {toks0 : List Str} {w : Str} {hl : Bool} (cls : Cls) (kvs : List (Str × Val))
    (q : Pos) (kcls : Cls) (nkvs : List (Str × Val)) (n : Str) (ns : List Str) (v t' : Val) (xp : Str) (fuel : Nat)
    (hw : Walk m toks0 (.dict cls kvs) q (.dict kcls nkvs) w hl)
    (hlk : lookup n nkvs = Option.none) (hn : PlainKey n) (hns : ∀ m ∈ ns, PlainKey m)
    (hset : setAt (.dict cls kvs) (q ++ [.key n]) (chain ns v) = some t')
    (hq : startsWith xp ['?'] = false) (hpc : hasPathChar xp = true)
    (htok : tokenize xp = toks0 ++ n :: ns) (hf : fuel ≥ 1 + m) :
    setItem fuel (.dict cls kvs) xp v = (t', .ok ()) :=
  setItem_create_name_toks cls kvs q kcls nkvs n (ns.map .name) v t' xp fuel hw hn hlk (laterW_names hns)
    (GW_names (n :: ns)) (by rw [fill_names]; exact hset) hq hpc (by rw [stepTok_names]; exact htok) hf

theorem setItem_create_names (cls : Cls) (kvs : List (Str × Val)) (q : Pos) (kcls : Cls)
    (nkvs : List (Str × Val)) (n : Str) (ns : List Str) (v t' : Val) (fuel : Nat)
    (hp : PlainPos q) (hget : getAt (.dict cls kvs) q = some (.dict kcls nkvs))
    (hl : lookup n nkvs = Option.none) (hn : PlainKey n) (hns : ∀ m ∈ ns, PlainKey m)
    (hset : setAt (.dict cls kvs) (q ++ [.key n]) (chain ns v) = some t')
    (hf : fuel ≥ 2 * q.length + 1) :
    setItem fuel (.dict cls kvs) (slash ++ renderPos (q ++ (n :: ns).map Seg.key)) v = (t', .ok ()) := by
  have hpp : PlainPos (q ++ (n :: ns).map Seg.key) :=
    hp.append (plainPos_keys (n :: ns) (List.forall_mem_cons.2 ⟨hn, hns⟩))
  refine setItem_create_names_toks cls kvs q kcls nkvs n ns v t' _ fuel (walk_merged hp hget) hl hn hns hset (slash_noQ _)
    (hasPathChar_render _) ?_ (fuel_walk hf)
  have h1 := tokenize_render _ hpp
  have h2 := mergedToks_keys (n :: ns)
  simp only [List.map_cons] at h1 h2 ⊢
  rw [show slash ++ renderPos (q ++ Seg.key n :: ns.map Seg.key) = '/' :: renderPos (q ++ Seg.key n :: ns.map Seg.key) from rfl,
    h1, mergedToks_append_key, h2]

theorem toks_embed_elem (q : Pos) (name e : Str) (steps : List CStep) (hg : GW steps) :
    sel2Toks (sel2Embed q ++ (CStep.elem name e :: steps).flatMap embedC)
      = mergedToks q ++ (name ++ bracket e) :: steps.map stepTok := by
  rw [List.flatMap_cons, embedC, List.cons_append, List.cons_append, List.nil_append, sel2_toks_append_key_br,
    sel2_toks_embed, toks_embedC steps hg]

theorem toks_embed_key_idx (q : Pos) (name e : Str) (steps : List CStep) (hg : GW steps) :
    sel2Toks ((sel2Embed q ++ [GSeg.key name]) ++ (CStep.idx e :: steps).flatMap embedC)
      = mergedToks q ++ (name ++ bracket e) :: steps.map stepTok := by
  rw [← toks_embed_elem q name e steps hg]
  simp [embedC, List.flatMap_cons]

theorem setItem_create_elem_fresh_toks (cls : Cls) (kvs : List (Str × Val)) (q : Pos) (kcls : Cls)
    (nkvs : List (Str × Val)) (name e : Str) (steps : List CStep) (v t' : Val) (xp : Str) (fuel : Nat)
    (hp : PlainPos q) (hget : getAt (.dict cls kvs) q = some (.dict kcls nkvs)) (hn : PlainKey name)
    (he : e = sNew ∨ e = ['0']) (hl : lookup name nkvs = Option.none)
    (hsteps : ∀ x ∈ steps, x.laterW) (hg : GW steps)
    (hset : setAt (.dict cls kvs) (q ++ [.key name]) (.list .n0 [fill steps v]) = some t')
    (hq : startsWith xp ['?'] = false) (hpc : hasPathChar xp = true)
    (htok : tokenize xp = mergedToks q ++ (name ++ bracket e) :: steps.map stepTok) (hf : fuel ≥ 2 * q.length + 1) :
    setItem fuel (.dict cls kvs) xp v = (t', .ok ()) :=
  setItem_row_fresh (gwalk_embed hp hget) hn he hl steps hsteps hg hset hq hpc
    (htok.trans (toks_embed_elem q name e steps hg).symm) (by rw [(gwalk_embed hp hget).length]; omega)

theorem setItem_create_elem_new_toks (cls : Cls) (kvs : List (Str × Val)) (q : Pos) (kcls : Cls)
    (nkvs : List (Str × Val)) (name : Str) (old : Val) (steps : List CStep) (v t' : Val) (xp : Str) (fuel : Nat)
    (hp : PlainPos q) (hget : getAt (.dict cls kvs) q = some (.dict kcls nkvs)) (hn : PlainKey name)
    (hl : lookup name nkvs = some old) (hsteps : ∀ x ∈ steps, x.laterW) (hg : GW steps)
    (hset : setAt (.dict cls kvs) (q ++ [.key name]) (appendTo old (fill steps v)) = some t')
    (hq : startsWith xp ['?'] = false) (hpc : hasPathChar xp = true)
    (htok : tokenize xp = mergedToks q ++ (name ++ bracket sNew) :: steps.map stepTok)
    (hf : fuel ≥ 4 * (q.length + 1)) :
    setItem fuel (.dict cls kvs) xp v = (t', .ok ()) := by
  have hw := (gwalk_embed hp hget).append (.key hn hl (.nil old))
  have hlen := hw.length
  exact setItem_row_new hw (Or.inr ⟨q, name, rfl⟩) steps hsteps hg hset hq hpc
    (htok.trans (toks_embed_key_idx q name sNew steps hg).symm) (by simp at hlen ⊢; omega)

theorem setItem_create_elem_len_toks (cls : Cls) (kvs : List (Str × Val)) (q : Pos) (kcls : Cls)
    (nkvs : List (Str × Val)) (name : Str) (c : Cls) (xs : List Val) (steps : List CStep) (v t' : Val) (xp : Str)
    (fuel : Nat) (hp : PlainPos q) (hget : getAt (.dict cls kvs) q = some (.dict kcls nkvs)) (hn : PlainKey name)
    (hl : lookup name nkvs = some (.list c xs)) (hsteps : ∀ x ∈ steps, x.laterW) (hg : GW steps)
    (hset : setAt (.dict cls kvs) (q ++ [.key name]) (.list c (xs ++ [fill steps v])) = some t')
    (hq : startsWith xp ['?'] = false) (hpc : hasPathChar xp = true)
    (htok : tokenize xp = mergedToks q ++ (name ++ bracket (natStr xs.length)) :: steps.map stepTok)
    (hf : fuel ≥ 2 * q.length + 2) :
    setItem fuel (.dict cls kvs) xp v = (t', .ok ()) := by
  have hw := (gwalk_embed hp hget).append (.key hn hl (.nil _))
  have hlen := hw.length
  exact setItem_row_len hw steps hsteps hg hset hq hpc
    (htok.trans (toks_embed_key_idx q name _ steps hg).symm) (by simp at hlen ⊢; omega)

/-- the part of `__setitem__` after the search: whatever raises there (`_add`, the final store), the tree
is the one the search left — what `_add` had inserted is taken back -/
theorem setItem_tail_error (root1 : Val) (par0 : PRef) (ni0 : Option Str) (nf : List Str) (v t' : Val) (e : PyErr)
    (h : (if (!nf.isEmpty) = true then
            match add root1 par0 ni0 nf with
            | (_, .error e) => (root1, Except.error e)
            | (root2, .ok (par, ni)) =>
              match storeAt root2 par (some ni) v with
              | .error e => (root1, .error e)
              | .ok root' => (root', .ok ())
          else
            match storeAt root1 par0 ni0 v with
            | .error e => (root1, .error e)
            | .ok root' => (root', .ok ())) = (t', (.error e : PyM Unit))) : t' = root1 := by
  by_cases hne : (!nf.isEmpty) = true
  · rw [if_pos hne] at h
    cases hadd : add root1 par0 ni0 nf with
    | mk root2 res =>
      cases res with
      | error e2 => simp only [hadd] at h; cases h; rfl
      | ok pn =>
        obtain ⟨par, ni⟩ := pn
        simp only [hadd] at h
        cases hst : storeAt root2 par (some ni) v with
        | error e3 => simp only [hst] at h; cases h; rfl
        | ok r' => simp only [hst] at h; cases h
  · rw [if_neg hne] at h
    cases hst : storeAt root1 par0 ni0 v with
    | error e3 => simp only [hst] at h; cases h; rfl
    | ok r' => simp only [hst] at h; cases h

/-- the tree afterwards is the tree before the call, or the tree the *search* returned -/
theorem setItem_error_tree (fuel : Nat) (t : Val) (xp : Str) (v t' : Val) (e : PyErr)
    (h : setItem fuel t xp v = (t', .error e)) :
    t' = t ∨ ∃ r, findD fuel t [] false true (tokenize (if startsWith xp ['?'] then xp.drop 1 else xp)) (.at []) true
      slash = .ok (t', r) := by
  cases t with
  | dict c kvs =>
    simp only [setItem] at h
    by_cases hskip : (startsWith xp ['?'] && (decide (v = Val.none) || decide (v = emptyStr))) = true
    · rw [if_pos hskip] at h; cases h
    · rw [if_neg hskip] at h
      generalize (if startsWith xp ['?'] = true then List.drop 1 xp else xp) = xp' at h ⊢
      by_cases hpc : hasPathChar xp' = true
      · rw [if_pos hpc] at h
        cases hfind : findD fuel (.dict c kvs) [] false true (tokenize xp') (.at []) true slash with
        | error e' => simp only [hfind] at h; cases h; left; rfl
        | ok pr =>
          obtain ⟨root1, r⟩ := pr
          simp only [hfind] at h
          right
          refine ⟨r, ?_⟩
          -- the hidden-list part (fix C03-e) raises or hands over another place: the tree is `root1` either way
          cases hhid : hiddenPlace fuel root1 r with
          | error e' => simp only [hhid] at h; cases h; rfl
          | ok r' =>
            simp only [hhid] at h
            rw [setItem_tail_error root1 _ _ _ v t' e h]
      · rw [if_neg hpc] at h; cases h
  | _ => simp only [setItem] at h; cases h; left; rfl

end N0.XPath
