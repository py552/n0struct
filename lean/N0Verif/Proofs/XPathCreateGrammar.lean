import N0Verif.Proofs.XPathTok
import N0Verif.Proofs.XPathFindEq
/-!
  Creation paths of `__setitem__`: a path is a list of `CStep`s (a name, `name[e]`, a bare `[e]`), `createIn` / `fill`
  say what the assignment should make of the node it starts at, and the predicates `first`, `later`, `laterW`, `GW`, `GOk`
  say which paths the code honours.  A chain of plain names is the path of its name steps.
-/
namespace N0.XPath
open N0 N0.Py N0.Val

-- the keys of the instances in `Props/C03.lean`
theorem pk_a : PlainKey ['a'] := .single 'a'
theorem pk_k : PlainKey ['k'] := .single 'k'
theorem pk_l : PlainKey ['l'] := .single 'l'
theorem pk_m : PlainKey ['m'] := .single 'm'
theorem pk_n : PlainKey ['n'] := .single 'n'
theorem pk_o : PlainKey ['o'] := .single 'o'
theorem pk_x : PlainKey ['x'] := .single 'x'

def chain : List Str → Val → Val
  | [], v => v
  | n :: ns, v => .dict .n0 [(n, chain ns v)]

/-- what `name[new()]` makes of the value `name` holds: a list gets one more element, anything else
becomes the first element of a new list -/
def appendTo (old x : Val) : Val :=
  match old with
  | .list c xs => .list c (xs ++ [x])
  | o => .list .n0 [o, x]

theorem appendTo_nonlist {old : Val} (h : isList old = false) (x : Val) : appendTo old x = .list .n0 [old, x] := by
  cases old <;> simp [isList] at h <;> rfl

inductive CStep
  | name (n : Str)            -- `/n`
  | elem (n : Str) (e : Str)  -- `/n[e]`  with `e` = `new()`, `0` or the decimal length
  | idx (e : Str)             -- `[e]` directly below a list, `e` = `new()` or the decimal length
  deriving DecidableEq, Repr

def CStep.isName : CStep → Bool
  | .name _ => true
  | _ => false

def renderCStep : CStep → Str
  | .name n => '/' :: n
  | .elem n e => '/' :: n ++ bracket e
  | .idx e => bracket e

/-- what a chain of creation steps puts into a slot that did not exist.  The containers made are always `n0dict` / `n0list`
(class `.n0`), whatever the class of the root or of the node they are put into -/
def fill : List CStep → Val → Val
  | [], v => v
  | .name n :: r, v => .dict .n0 [(n, fill r v)]
  | .elem n _ :: r, v => .dict .n0 [(n, .list .n0 [fill r v])]
  | .idx _ :: r, v => .list .n0 [fill r v]

/-- what a step makes of the slot it fills, around what the following steps make of the next slot: `fill` is the fold
of `wrap` over the steps -/
def CStep.wrap : CStep → Val → Val
  | .name m, x => .dict .n0 [(m, x)]
  | .elem m _, x => .dict .n0 [(m, .list .n0 [x])]
  | .idx _, x => .list .n0 [x]

theorem fill_cons (s : CStep) (ms : List CStep) (v : Val) : fill (s :: ms) v = s.wrap (fill ms v) := by
  cases s <;> rfl

/-- the placeholder a step of `_add` leaves in the next slot: `{}` under a name, `None` at the end of a new list -/
def CStep.ph : CStep → Val
  | .name _ => .dict .n0 []
  | _ => Val.none

/-- below the slot a step fills: where `_add` stands after the step (`pre`), and from there the next slot (`last`) -/
def CStep.pre : CStep → Pos
  | .elem m _ => [.key m]
  | _ => []

def CStep.last : CStep → Pos
  | .name m => [.key m]
  | _ => [.idx 0]

/-- reference semantics: the new value of the existing node `cur` after the creation path -/
def createIn (cur : Val) : List CStep → Val → Option Val
  | [], _ => Option.none
  | .name n :: r, v =>
    match cur with
    | .dict c kvs => if lookup n kvs = Option.none then some (.dict c (kvSet n (fill r v) kvs)) else Option.none
    | _ => Option.none
  | .elem n e :: r, v =>
    match cur with
    | .dict c kvs =>
      match lookup n kvs with
      | Option.none =>
        if e = sNew ∨ e = ['0'] then some (.dict c (kvSet n (.list .n0 [fill r v]) kvs)) else Option.none
      | some old =>
        if e = sNew then some (.dict c (kvSet n (appendTo old (fill r v)) kvs))
        else match old with
          | .list c' xs =>
            if e = natStr xs.length then some (.dict c (kvSet n (.list c' (xs ++ [fill r v])) kvs)) else Option.none
          | _ => Option.none
    | _ => Option.none
  | .idx e :: r, v =>
    match cur with
    | .list c xs => if e = sNew ∨ e = natStr xs.length then some (.list c (xs ++ [fill r v])) else Option.none
    | _ => Option.none

/-- steps after the first address slots that the creation itself made: fresh names, `n[new()]`, `n[0]` -/
def CStep.later : CStep → Prop
  | .name n => PlainKey n
  | .elem n e => PlainKey n ∧ (e = sNew ∨ e = ['0'])
  | .idx _ => False

def CStep.first : CStep → Prop
  | .name n => PlainKey n
  | .elem n _ => PlainKey n
  | .idx _ => True

/-- later steps with a bare `[new()]` / `[0]` as well (fix C03-b): an element created inside the element the previous step
has created (`n[new()][new()]`, `n[0][0]/m`) -/
def CStep.laterW : CStep → Prop
  | .name n => PlainKey n
  | .elem n e => PlainKey n ∧ (e = sNew ∨ e = ['0'])
  | .idx e => e = sNew ∨ e = ['0']

def CStep.isIdx : CStep → Bool
  | .idx _ => true
  | _ => false

/-- the whole creation grammar: a bare index step never directly follows a *name* step (the text of
`/n` followed by `[e]` is the one of the step `n[e]`, written `.elem n e`) -/
def GW : List CStep → Prop
  | [] => True
  | [_] => True
  | s :: s2 :: r => (s.isName = true → s2.isIdx = false) ∧ GW (s2 :: r)

theorem CStep.laterW_of_later {s : CStep} (h : s.later) : s.laterW := by
  cases s with
  | name n => exact h
  | elem n e => exact h
  | idx e => exact absurd h (by simp [CStep.later])

theorem CStep.later_notIdx {s : CStep} (h : s.later) : s.isIdx = false := by
  cases s with
  | name n => rfl
  | elem n e => rfl
  | idx e => exact absurd h (by simp [CStep.later])

theorem GW.tail {s : CStep} {r : List CStep} (h : GW (s :: r)) : GW r := by
  cases r with
  | nil => trivial
  | cons s2 r' => exact h.2

theorem GW_of_later : ∀ (s : CStep) (steps : List CStep), (∀ x ∈ steps, x.later) → GW (s :: steps)
  | _, [], _ => trivial
  | _, s2 :: r, h => ⟨fun _ => CStep.later_notIdx (h s2 (by simp)), GW_of_later s2 r (fun x hx => h x (by simp [hx]))⟩

theorem GW_of_noIdx : ∀ (steps : List CStep), (∀ x ∈ steps, x.isIdx = false) → GW steps
  | [], _ => trivial
  | [_], _ => trivial
  | _ :: s2 :: r, h => ⟨fun _ => h s2 (by simp), GW_of_noIdx (s2 :: r) (fun x hx => h x (by simp [hx]))⟩

theorem GW.idx_as_elem {e : Str} {r : List CStep} (n : Str) (h : GW (.idx e :: r)) : GW (.elem n e :: r) := by
  cases r with
  | nil => trivial
  | cons s2 r' => exact ⟨by simp [CStep.isName], h.2⟩

/-- every element-creating step is the last step or is followed by a name: a conjunct of `Hist.ValidOp`; `setItem_create_any`
is on `GW` -/
def GOk : List CStep → Prop
  | [] => True
  | [_] => True
  | s :: s2 :: r => (s.isName = true ∨ s2.isName = true) ∧ GOk (s2 :: r)

def CStep.nameOf : CStep → Str
  | .name n => n
  | .elem n _ => n
  | .idx _ => []

/-- the token `_find`/`_add` see for a step -/
def stepTok : CStep → Str
  | .name n => n
  | .elem n e => n ++ bracket e
  | .idx e => bracket e

theorem CStep.later_plain {s : CStep} (h : s.later) : PlainKey s.nameOf := by
  cases s with
  | name n => exact h
  | elem n e => exact h.1
  | idx e => exact absurd h (by simp [CStep.later])

theorem GOk.tail {s : CStep} {r : List CStep} (h : GOk (s :: r)) : GOk r := by
  cases r with
  | nil => trivial
  | cons s2 r' => exact h.2

def HeadName : List CStep → Prop
  | [] => True
  | s :: _ => s.isName = true

theorem GOk.headName_of_elem {n e : Str} {r : List CStep} (h : GOk (.elem n e :: r)) : HeadName r := by
  cases r with
  | nil => trivial
  | cons s2 r' =>
    rcases h.1 with h1 | h1
    · simp [CStep.isName] at h1
    · exact h1

theorem GOk.headName_of_idx {e : Str} {r : List CStep} (h : GOk (.idx e :: r)) : HeadName r := by
  cases r with
  | nil => trivial
  | cons s2 r' =>
    rcases h.1 with h1 | h1
    · simp [CStep.isName] at h1
    · exact h1

theorem GOk.idx_as_elem {e : Str} {r : List CStep} (n : Str) (h : GOk (.idx e :: r)) : GOk (.elem n e :: r) := by
  cases r with
  | nil => trivial
  | cons s2 r' => exact ⟨by simpa [CStep.isName] using h.1, h.2⟩

/-- the position `q` is an element of a plain `list` (without fix C03-c a bare `[new()]` is refused there;
`Hist.ValidOp` excludes it) -/
def PlainListEncloses (t : Val) (q : Pos) : Prop :=
  ∃ q0 i ys, q = q0 ++ [Seg.idx i] ∧ getAt t q0 = some (.list .plain ys)

/-- `0` is the length of the list a fresh `name[0]` appends to -/
theorem zero_or_new {e : Str} (he : e = sNew ∨ e = ['0']) : e = sNew ∨ e = natStr 0 :=
  he.imp_right fun h => h.trans (by decide)

/-- **the rows of `createIn`**: what the first step meets in the node `cur`, and how the node takes what the later steps
make of the new slot (`put`): a fresh name, a fresh `name[new()]`/`name[0]`, `name[new()]` on a name that is there
(`appendTo`), `name[len]` on a list of that length, `[new()]`/`[len]` on a list -/
inductive CreateRow : Val → CStep → (Val → Val) → Prop
  | name {c kvs n} : lookup n kvs = Option.none → CreateRow (.dict c kvs) (.name n) (fun x => .dict c (kvSet n x kvs))
  | fresh {c kvs n e} : lookup n kvs = Option.none → (e = sNew ∨ e = ['0']) →
      CreateRow (.dict c kvs) (.elem n e) (fun x => .dict c (kvSet n (.list .n0 [x]) kvs))
  | new {c kvs n old} : lookup n kvs = some old →
      CreateRow (.dict c kvs) (.elem n sNew) (fun x => .dict c (kvSet n (appendTo old x) kvs))
  | len {c kvs n c' xs} : lookup n kvs = some (.list c' xs) →
      CreateRow (.dict c kvs) (.elem n (natStr xs.length)) (fun x => .dict c (kvSet n (.list c' (xs ++ [x])) kvs))
  | idx {c xs e} : (e = sNew ∨ e = natStr xs.length) → CreateRow (.list c xs) (.idx e) (fun x => .list c (xs ++ [x]))

theorem createIn_row {cur cur' : Val} {s : CStep} {r : List CStep} {v : Val}
    (h : createIn cur (s :: r) v = some cur') : ∃ put, CreateRow cur s put ∧ cur' = put (fill r v) := by
  cases s with
  | name n =>
    cases cur with
    | dict c kvs =>
      simp only [createIn] at h
      split at h
      · rename_i hl; cases h; exact ⟨_, .name hl, rfl⟩
      · cases h
    | _ => simp [createIn] at h
  | elem n e =>
    cases cur with
    | dict c kvs =>
      simp only [createIn] at h
      split at h
      · rename_i hl
        split at h
        · rename_i he; cases h; exact ⟨_, .fresh hl he, rfl⟩
        · cases h
      · rename_i old hl
        split at h
        · rename_i he; subst he; cases h; exact ⟨_, .new hl, rfl⟩
        · split at h
          · split at h
            · rename_i he; subst he; cases h; exact ⟨_, .len hl, rfl⟩
            · cases h
          · cases h
    | _ => simp [createIn] at h
  | idx e =>
    cases cur with
    | list c xs =>
      simp only [createIn] at h
      split at h
      · rename_i he; cases h; exact ⟨_, .idx he, rfl⟩
      · cases h
    | _ => simp [createIn] at h

/-- the rows of `name[e]` seen as one: `name` ends up holding a list whose last element is the new slot, and `e` is
`new()` or the length the list had -/
theorem CreateRow.elem {cur : Val} {n e : Str} {put : Val → Val} (h : CreateRow cur (.elem n e) put) :
    ∃ c kvs cl ys, cur = .dict c kvs ∧ put = (fun x => .dict c (kvSet n (.list cl (ys ++ [x])) kvs)) ∧
      (e = sNew ∨ e = natStr ys.length) := by
  cases h with
  | @fresh c kvs _ _ _ he => exact ⟨c, kvs, .n0, [], rfl, rfl, zero_or_new he⟩
  | @new c kvs _ old _ =>
    by_cases hl : isList old = true
    · obtain ⟨cl, xs, rfl⟩ := isList_inv hl
      exact ⟨c, kvs, cl, xs, rfl, rfl, Or.inl rfl⟩
    · refine ⟨c, kvs, .n0, [old], rfl, ?_, Or.inl rfl⟩
      funext x
      rw [appendTo_nonlist (by simpa using hl)]
      rfl
  | @len c kvs _ c' xs _ => exact ⟨c, kvs, c', xs, rfl, rfl, Or.inr rfl⟩

theorem createIn_dict (c : Cls) (kvs : List (Str × Val)) (steps : List CStep) (v cur' : Val)
    (h : createIn (.dict c kvs) steps v = some cur') : ∃ kvs', cur' = .dict c kvs' := by
  cases steps with
  | nil => simp [createIn] at h
  | cons s r =>
    obtain ⟨put, hrow, rfl⟩ := createIn_row h
    cases hrow <;> exact ⟨_, rfl⟩

theorem fill_names (ns : List Str) (v : Val) : fill (ns.map CStep.name) v = chain ns v := by
  induction ns with
  | nil => rfl
  | cons n ns ih => simp [fill, chain, ih]

theorem stepTok_names (ns : List Str) : (ns.map CStep.name).map stepTok = ns := by
  induction ns with
  | nil => rfl
  | cons n ns ih => simp [stepTok, ih]

theorem laterW_names {ns : List Str} (h : ∀ x ∈ ns, PlainKey x) : ∀ s ∈ ns.map CStep.name, s.laterW := by
  intro s hs
  obtain ⟨n, hn, rfl⟩ := List.mem_map.1 hs
  exact h n hn

theorem GW_names : ∀ (ns : List Str), GW (ns.map CStep.name)
  | [] => trivial
  | [_] => trivial
  | _ :: m :: ns => ⟨fun _ => rfl, GW_names (m :: ns)⟩

end N0.XPath
