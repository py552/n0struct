import N0Verif.Proofs.XPathCreateTokens
import N0Verif.Proofs.XPathStore
import N0Verif.Proofs.XPathGWalk
/-!
  After a creation: the value reads back through the path with `new()` replaced by `last()` (`getItem_readback_any`: the
  pieces of that path walk to `q` and then through what `createIn` made, `gwalk_createIn`).  That every node outside the
  created slot keeps its position is a fact about `setAt`: the frame lemmas of `TreeLemmas`.
-/
namespace N0.XPath
open N0 N0.Py N0.Val

theorem getAt_chain : ∀ (ns : List Str) (v : Val), getAt (chain ns v) (ns.map Seg.key) = some v
  | [], v => rfl
  | n :: ns, v => by simp [chain, getAt, child, lookup, getAt_chain ns v]

theorem spells_chain : ∀ (ns : List Str) (v : Val), (∀ m ∈ ns, PlainKey m) →
    Spells ns (chain ns v) (ns.map Seg.key) v
  | [], v, _ => .nil v
  | n :: ns, v, h => by
    simp only [chain, List.map_cons]
    exact .key (h n (by simp)).keyTok (by simp [lookup]) (spells_chain ns v (fun m hm => h m (by simp [hm])))

theorem readback_elem (cls : Cls) (kvs : List (Str × Val)) (q : Pos) (kcls : Cls) (nkvs : List (Str × Val))
    (name : Str) (c : Cls) (ys : List Val) (tail : List Str) (v t' : Val) (fuel : Nat)
    (hp : PlainPos q) (hget : getAt (.dict cls kvs) q = some (.dict kcls nkvs)) (hn : PlainKey name)
    (ht : ∀ x ∈ tail, PlainKey x)
    (hset : setAt (.dict cls kvs) (q ++ [.key name]) (.list c (ys ++ [chain tail v])) = some t')
    (hf : fuel ≥ 2 * (q.length + tail.length + 1)) :
    getItem fuel t'
      (slash ++ renderPos q ++ slash ++ (name ++ bracket sLast) ++ renderPos (tail.map Seg.key)) = (t', .ok v) := by
  obtain ⟨kvs', rfl⟩ := setAt_dict_root cls kvs _ _ t' (by simp) hset
  have hgq : getAt (.dict cls kvs') q = some (.dict kcls (kvSet name (.list c (ys ++ [chain tail v])) nkvs)) :=
    getAt_of_setAt q _ _ _ ((setAt_snoc_key hget name _).symm.trans hset)
  have hs1 := spells_merged q _ _ hp hgq
  have hs2 : Spells ((name ++ bracket sLast) :: tail) (.dict kcls (kvSet name (.list c (ys ++ [chain tail v])) nkvs))
      (.key name :: .idx ys.length :: tail.map Seg.key) v :=
    .keyIdx (keyIdxTok_last hn) (lookup_kvSet_same _ _ _)
      (by have := normIdx_last (ys ++ [chain tail v]).length (by simp); simpa using this)
      (by simp) (spells_chain tail v ht)
  have hs := hs1.append hs2
  have hlen := mergedToks_length_le q
  exact getItem_spelled cls kvs' _ _ _ v fuel rfl rfl (tokenize_elem_path q hp hn cleanIdx_last tail ht) hs (by simp)
    (by simp; omega)

theorem IdxDen.last {e : Str} {len : Nat} (he : e = sNew ∨ e = natStr len) :
    ∃ i, IdxDen (lastIdx e) i ∧ normIdx i (len + 1) = some len := by
  obtain ⟨_, _, hie, hnn, hns, i, hev, hni⟩ := lastIdx_denotes (len := len) he
  exact ⟨i, ⟨hie, hnn, hns, hev⟩, hni⟩

theorem gwalk_fill : ∀ (steps : List CStep) (v : Val), (∀ x ∈ steps, x.later) →
    ∃ p ns, GWalk ((steps.map lastify).flatMap embedC) (fill steps v) p v ns
  | [], v, _ => ⟨_, _, .nil v⟩
  | s :: r, v, h => by
    obtain ⟨p, ns, ih⟩ := gwalk_fill r v (fun x hx => h x (by simp [hx]))
    have hs := h s (by simp)
    cases s with
    | idx e => exact absurd hs (by simp [CStep.later])
    | name n => exact ⟨_, _, .key hs (by simp [lookup]) ih⟩
    | elem n e =>
      obtain ⟨i, hd, hni⟩ := IdxDen.last (zero_or_new hs.2)
      exact ⟨_, _, .key (c := .list .n0 [fill r v]) hs.1 (by simp [lookup]) (.br hd hni (by simp) ih)⟩

theorem gwalk_createIn {cur cur' : Val} {s : CStep} {steps : List CStep} {v : Val}
    (hfirst : s.first) (hsteps : ∀ x ∈ steps, x.later) (hc : createIn cur (s :: steps) v = some cur') :
    ∃ p ns, GWalk (((s :: steps).map lastify).flatMap embedC) cur' p v ns := by
  obtain ⟨p0, ns0, hfill⟩ := gwalk_fill steps v hsteps
  obtain ⟨put, hrow, rfl⟩ := createIn_row hc
  cases s with
  | name n =>
    cases hrow with
    | name hl => exact ⟨_, _, .key hfirst (lookup_kvSet_same _ _ _) hfill⟩
  | elem n e =>
    obtain ⟨c, kvs, cl, ys, rfl, rfl, he⟩ := hrow.elem
    obtain ⟨i, hd, hni⟩ := IdxDen.last he
    exact ⟨_, _, .key hfirst (lookup_kvSet_same _ _ _) (.br hd (by simpa using hni) (by simp) hfill)⟩
  | idx e =>
    cases hrow with
    | idx he =>
      obtain ⟨i, hd, hni⟩ := IdxDen.last he
      exact ⟨_, _, .br hd (by simpa using hni) (by simp) hfill⟩

theorem first_text {cur cur' : Val} {s : CStep} {steps : List CStep} {v : Val}
    (hfirst : s.first) (hnp : NoParen s.nameOf) (hc : createIn cur (s :: steps) v = some cur') :
    s.noParen ∧ (lastify s).clean := by
  obtain ⟨put, hrow, _⟩ := createIn_row hc
  cases s with
  | name n => exact ⟨hnp, hfirst⟩
  | elem n e =>
    obtain ⟨_, _, _, ys, _, _, he⟩ := hrow.elem
    obtain ⟨hok, hce, _⟩ := lastIdx_denotes (len := ys.length) he
    exact ⟨⟨hnp, hok⟩, hfirst, hce⟩
  | idx e =>
    cases hrow with
    | @idx _ xs _ he =>
      obtain ⟨hok, hce, _⟩ := lastIdx_denotes (len := xs.length) he
      exact ⟨hok, hce⟩

/-- a step is one piece or two -/
theorem length_embedC : ∀ (steps : List CStep), (steps.flatMap embedC).length ≤ 2 * steps.length
  | [] => Nat.le_refl 0
  | s :: r => by
    have := length_embedC r
    rw [List.flatMap_cons, List.length_append, List.length_cons]
    cases s <;> simp only [embedC, List.length_cons, List.length_nil] <;> omega

/-- `NoParen` of every name: `replace("new()", "last()")` is applied to the whole text and would rewrite a name that contains
`new()`. -/
theorem getItem_readback_any (cls : Cls) (kvs : List (Str × Val)) (q : Pos) (cur cur' : Val) (s : CStep)
    (steps : List CStep) (v t' : Val) (fuel : Nat)
    (hp : PlainPos q) (hget : getAt (.dict cls kvs) q = some cur) (hfirst : s.first)
    (hsteps : ∀ x ∈ steps, x.later) (hnq : NoParenPos q) (hnp : ∀ x ∈ s :: steps, NoParen x.nameOf)
    (hcreate : createIn cur (s :: steps) v = some cur') (hset : setAt (.dict cls kvs) q cur' = some t')
    (hf : fuel ≥ 2 * (q.length + steps.length + 1)) :
    getItem fuel t' (replace sNew sLast (slash ++ renderPos q ++ (s :: steps).flatMap renderCStep)) = (t', .ok v) := by
  obtain ⟨hs1, hs2⟩ := first_text hfirst (hnp s (by simp)) hcreate
  obtain ⟨kvs', rfl⟩ : ∃ kvs', t' = .dict cls kvs' := by
    cases q with
    | nil =>
      simp only [getAt, Option.some.injEq] at hget
      cases hget
      simp only [setAt, Option.some.injEq] at hset
      subst hset
      exact createIn_dict _ _ _ _ _ hcreate
    | cons s0 q' => exact setAt_dict_root cls kvs (s0 :: q') cur' _ (by simp) hset
  have hgq : getAt (.dict cls kvs') q = some cur' := getAt_of_setAt q _ _ _ hset
  obtain ⟨p, ns, hcw⟩ := gwalk_createIn hfirst hsteps hcreate
  have hq := gwalk_embed hp hgq
  have hw := (hq.append hcw).walk
  rw [replace_path q _ hnq (List.forall_mem_cons.2
    ⟨hs1, fun x hx => noParen_of_later (hsteps x hx) (hnp x (by simp [hx]))⟩)]
  have hclean : ∀ x ∈ (s :: steps).map lastify, x.clean := by
    rw [List.map_cons]
    exact List.forall_mem_cons.2 ⟨hs2, clean_lastify_all hsteps⟩
  have hlen := length_embedC ((s :: steps).map lastify)
  refine getItem_walk hw (tokenize_embedC q hp _ hclean)
    (sel3_toks_ne_nil _ (by cases s <;> simp [lastify, embedC])) ?_ ?_ ?_
  · rw [List.append_assoc]; rfl
  · rw [List.append_assoc]; rfl
  · rw [List.length_append, hq.length]
    simp only [List.length_map, List.length_cons] at hlen
    omega

end N0.XPath
