import N0Verif.Proofs.XPathCreateGrammar
import N0Verif.Proofs.XPathRender
import N0Verif.Py.Lemmas
/-!
  The text of a creation path and its tokens: `tokenize` across `/` and across `][`, the tokens of a canonical path
  continued by names or by `CStep`s, and the text after `replace("new()", "last()")` with what its indexes denote.
-/
namespace N0.XPath
open N0 N0.Py N0.Val

theorem idxExpr_of_new_or_zero {e : Str} (he : e = sNew ∨ e = ['0']) : IdxExpr e := by
  rcases he with rfl | rfl
  · exact idxExpr_new
  · exact natStr_idxExpr 0

/-- the refusal test of `_add` for the index of a step that follows an element-creating step (fix C03-b) does not
fire on `new()` and `0` -/
theorem new_or_zero_cond {e : Str} (he : e = sNew ∨ e = ['0']) :
    (decide (Idx.str e ≠ Idx.str sNew) && decide (Idx.str e ≠ Idx.str ['0'])) = false := by
  rcases he with rfl | rfl <;> simp

theorem keyIdxTok_last {name : Str} (hn : PlainKey name) : KeyIdxTok (name ++ bracket sLast) name sLast (-1) :=
  (⟨idxExpr_last, sLast_ne_sNew, by decide, n0eval_last⟩ : IdxDen sLast (-1)).keyIdxTok hn

theorem tokenize_key {k : Str} (hk : PlainKey k) : tokenize k = [k] := by
  rw [tokenize_eq_map, textPieces_key hk, List.map_cons, hk.stripWs]
  rfl

/-- index text that can stand between brackets without disturbing the tokeniser -/
def CleanIdx (e : Str) : Prop := ∀ c ∈ e, c ≠ ']' ∧ c ≠ '/'

theorem cleanIdx_new : CleanIdx sNew := by rw [sNew_eq]; unfold CleanIdx; decide

theorem cleanIdx_last : CleanIdx sLast := by rw [sLast_eq]; unfold CleanIdx; decide

theorem cleanIdx_nat (n : Nat) : CleanIdx (natStr n) := fun c hc => ⟨natStr_noRB n c hc, natStr_noSlash n c hc⟩

theorem cleanIdx_of_new_or_len {e : Str} {n : Nat} (he : e = sNew ∨ e = natStr n) : CleanIdx e := by
  rcases he with rfl | rfl
  · exact cleanIdx_new
  · exact cleanIdx_nat n

theorem cleanIdx_of_new_or_zero {e : Str} (he : e = sNew ∨ e = ['0']) : CleanIdx e :=
  cleanIdx_of_new_or_len (n := 0) (zero_or_new he)

theorem cleanIdx_of_laterW_idx {e : Str} (he : e = sNew ∨ e = ['0']) : CleanIdx e := cleanIdx_of_new_or_zero he

/-- `CleanIdx` (of the creation and hidden-list lemmas) and `GBr` (of the text layer) are the same condition -/
theorem CleanIdx.gBr {e : Str} (h : CleanIdx e) : GBr e := ⟨fun c hc => (h c hc).1, fun c hc => (h c hc).2⟩

theorem tokenize_keyBracket {k e : Str} (hk : PlainKey k) (he : CleanIdx e) :
    tokenize (k ++ bracket e) = [k ++ bracket e] := by
  have := tokenize_tail [.key k, .br e] ⟨hk.gKey, he.gBr, trivial⟩
  rw [show sel2Render [.key k, .br e] = [] ++ '/' :: (k ++ bracket e) by simp [sel2Render, sel2RenderSeg],
    tokenize_append_slash] at this
  exact this

theorem tokenize_then_names (T : Str) : ∀ (ms : List Str), (∀ m ∈ ms, PlainKey m) →
    tokenize (T ++ renderPos (ms.map Seg.key)) = tokenize T ++ ms
  | [], _ => by simp [renderPos]
  | [x], h => by
    rw [renderPos_keys_cons, tokenize_append_slash]
    simp [renderPos, tokenize_key (h x (by simp))]
  | x :: y :: ms, h => by
    have ih := tokenize_then_names x (y :: ms) (fun m hm => h m (by simp [hm]))
    rw [renderPos_keys_cons, tokenize_append_slash, ih, tokenize_key (h x (by simp))]
    simp

theorem tokenize_elem_path (q : Pos) (hp : PlainPos q) {name e : Str} (hn : PlainKey name) (he : CleanIdx e)
    (tail : List Str) (ht : ∀ m ∈ tail, PlainKey m) :
    tokenize (slash ++ renderPos q ++ slash ++ (name ++ bracket e) ++ renderPos (tail.map Seg.key))
      = mergedToks q ++ (name ++ bracket e) :: tail := by
  rw [tokenize_then_names _ tail ht]
  have : slash ++ renderPos q ++ slash ++ (name ++ bracket e) = ('/' :: renderPos q) ++ '/' :: (name ++ bracket e) := by
    simp [slash]
  rw [this, tokenize_append_slash, tokenize_render q hp, tokenize_keyBracket hn he]
  simp

/-- steps whose text the tokeniser cuts as it is written: plain names, index texts without `]` and `/` -/
def CStep.clean : CStep → Prop
  | .name n => PlainKey n
  | .elem n e => PlainKey n ∧ CleanIdx e
  | .idx e => CleanIdx e

theorem CStep.clean_of_laterW {s : CStep} (h : s.laterW) : s.clean := by
  cases s with
  | name n => exact h
  | elem n e => exact ⟨h.1, cleanIdx_of_new_or_zero h.2⟩
  | idx e => exact cleanIdx_of_new_or_zero h

theorem clean_first {cur cur' : Val} {s : CStep} {r : List CStep} {v : Val} (hs : s.first)
    (h : createIn cur (s :: r) v = some cur') : s.clean := by
  obtain ⟨put, hrow, _⟩ := createIn_row h
  cases s with
  | name n => exact hs
  | elem n e =>
    obtain ⟨_, _, _, ys, _, _, he⟩ := hrow.elem
    exact ⟨hs, cleanIdx_of_new_or_len he⟩
  | idx e =>
    cases hrow with
    | idx he => exact cleanIdx_of_new_or_len he

def embedC : CStep → List GSeg
  | .name n => [.key n]
  | .elem n e => [.key n, .br e]
  | .idx e => [.br e]

theorem render_embedC (steps : List CStep) : sel2Render (steps.flatMap embedC) = steps.flatMap renderCStep := by
  induction steps with
  | nil => rfl
  | cons s r ih =>
    rw [List.flatMap_cons, List.flatMap_cons, sel2_render_append, ih]
    cases s <;> simp [embedC, renderCStep, sel2Render, sel2RenderSeg]

theorem good_embedC : ∀ (steps : List CStep), (∀ x ∈ steps, x.clean) → GoodG (steps.flatMap embedC)
  | [], _ => trivial
  | s :: r, h => by
    have hr := good_embedC r (fun x hx => h x (List.mem_cons_of_mem _ hx))
    have hs := h s List.mem_cons_self
    rw [List.flatMap_cons]
    cases s with
    | name n => exact ⟨PlainKey.gKey hs, hr⟩
    | elem n e => exact ⟨PlainKey.gKey hs.1, hs.2.gBr, hr⟩
    | idx e => exact ⟨hs.gBr, hr⟩

/-- `GW` says that every step is one token: no bare index is written directly after a name -/
theorem toks_embedC : ∀ (steps : List CStep), GW steps → sel2Toks (steps.flatMap embedC) = steps.map stepTok
  | [], _ => rfl
  | .elem n e :: r, h => by
    have := toks_embedC r (by cases r with | nil => trivial | cons _ _ => exact h.2)
    simp only [List.flatMap_cons, embedC, List.cons_append, List.nil_append, sel2Toks, List.map_cons, stepTok, this]
  | .idx e :: r, h => by
    have := toks_embedC r (by cases r with | nil => trivial | cons _ _ => exact h.2)
    simp only [List.flatMap_cons, embedC, List.cons_append, List.nil_append, sel2Toks, List.map_cons, stepTok, this]
  | [.name n], _ => rfl
  | .name n :: s2 :: r, h => by
    have := toks_embedC (s2 :: r) h.2
    have hi : s2.isIdx = false := h.1 rfl
    rw [List.map_cons, ← this, List.flatMap_cons]
    cases s2 with
    | idx e => cases hi
    | name m => exact sel2_toks_key_key n m _
    | elem m e => exact sel2_toks_key_key n m _

theorem tokenize_embedC (q : Pos) (hp : PlainPos q) (steps : List CStep) (hsteps : ∀ x ∈ steps, x.clean) :
    tokenize (slash ++ renderPos q ++ steps.flatMap renderCStep) = sel2Toks (sel2Embed q ++ steps.flatMap embedC) := by
  rw [← render_embedC, ← sel2_render_embed, List.append_assoc, ← sel2_render_append]
  exact sel2_tokenize _ ((sel2_good_embed q hp).append (good_embedC _ hsteps))

theorem tokenize_idx_first_path (q0 : Pos) (i : Nat) (hp : PlainPos (q0 ++ [Seg.idx i])) (e : Str) (he : CleanIdx e)
    (steps : List CStep) (hsteps : ∀ x ∈ steps, x.clean) (hg : GW steps) :
    tokenize (slash ++ renderPos (q0 ++ [Seg.idx i]) ++ (CStep.idx e :: steps).flatMap renderCStep)
      = mergedToks (q0 ++ [Seg.idx i]) ++ bracket e :: steps.map stepTok := by
  rw [tokenize_embedC _ hp _ (fun x hx => (List.mem_cons.1 hx).elim (fun h => h ▸ (show (CStep.idx e).clean from he)) (hsteps x)),
    ← toks_embedC _ hg, ← sel2_toks_embed, sel2_embed_append]
  have := sel2_toks_append_br_br (sel2Embed q0) (natStr i) e (steps.flatMap embedC)
  simpa [sel2Embed, embedC, List.flatMap_cons] using this

/-- `s.replace("new()", "last()")` as a scan (fuel = length + 1 suffices) -/
def replF : Nat → Str → Str
  | 0, s => s
  | _ + 1, [] => []
  | f + 1, c :: s => if startsWith (c :: s) sNew then sLast ++ replF f ((c :: s).drop 5) else c :: replF f s

theorem join_splitAux_new : ∀ (fuel : Nat) (cur s : Str), s.length < fuel →
    join sLast (splitAux sNew 5 fuel cur s) = cur.reverse ++ replF fuel s
  | 0, _, _, h => by omega
  | f + 1, cur, [], _ => by simp [splitAux, join, replF]
  | f + 1, cur, c :: s, h => by
    rw [splitAux, replF]
    by_cases hs : startsWith (c :: s) sNew = true
    · simp only [hs, if_true]
      rw [join_cons_of_ne_nil _ _ _ (splitAux_ne_nil _ _ _ _ _),
        join_splitAux_new f [] ((c :: s).drop 5) (by simp at h ⊢; omega)]
      simp
    · simp only [hs, Bool.false_eq_true, if_false]
      rw [join_splitAux_new f (c :: cur) s (by simp at h; omega)]
      simp

def replNew (s : Str) : Str := replF (s.length + 1) s

theorem replace_new_last (s : Str) : replace sNew sLast s = replNew s := by
  unfold replace split replNew
  rw [show sNew.length = 5 from rfl, join_splitAux_new _ [] s (by omega)]
  rfl

theorem replNew_nil : replNew [] = [] := rfl

def NoParen (s : Str) : Prop := ∀ c ∈ s, c ≠ '('

/-- what follows starts a new step (or nothing follows) -/
def SafeStart (b : Str) : Prop := b = [] ∨ ∃ c r, b = c :: r ∧ (c = '/' ∨ c = '[')

theorem startsWith_new_false (a b : Str) (ha : NoParen a) (hne : a ≠ []) (hb : SafeStart b) :
    startsWith (a ++ b) sNew = false := by
  have h3 : ∀ x1 x2 x3 x4 (r : Str), x4 ≠ '(' → startsWith (x1 :: x2 :: x3 :: x4 :: r) sNew = false := by
    intro x1 x2 x3 x4 r h
    simp [startsWith, sNew, h]
  match a, hne, ha with
  | x1 :: x2 :: x3 :: x4 :: a4, _, ha => exact h3 _ _ _ _ _ (ha x4 (by simp))
  | [x1, x2, x3], _, _ =>
    rcases hb with rfl | ⟨c, r, rfl, hc | hc⟩
    · simp [startsWith, sNew]
    · subst hc; exact h3 _ _ _ _ _ (by decide)
    · subst hc; exact h3 _ _ _ _ _ (by decide)
  | [x1, x2], _, _ =>
    rcases hb with rfl | ⟨c, r, rfl, hc | hc⟩
    · simp [startsWith, sNew]
    · subst hc; simp [startsWith, sNew]
    · subst hc; simp [startsWith, sNew]
  | [x1], _, _ =>
    rcases hb with rfl | ⟨c, r, rfl, hc | hc⟩
    · simp [startsWith, sNew]
    · subst hc; simp [startsWith, sNew]
    · subst hc; simp [startsWith, sNew]

theorem replace_new_append (a b : Str) (ha : NoParen a) (hb : SafeStart b) :
    replace sNew sLast (a ++ b) = a ++ replace sNew sLast b := by
  induction a with
  | nil => rfl
  | cons x a ih =>
    rw [List.cons_append, replace_cons_nomatch sNew sLast x (a ++ b) (startsWith_new_false (x :: a) b ha (by simp) hb),
      ih (fun c hc => ha c (by simp [hc]))]
    rfl

theorem replNew_noParen (a : Str) (ha : NoParen a) : replNew a = a := by
  have := replace_new_append a [] ha (Or.inl rfl)
  rwa [List.append_nil, replace_nil, List.append_nil, replace_new_last] at this

theorem replace_new_bracket_new (b : Str) :
    replace sNew sLast (bracket sNew ++ b) = bracket sLast ++ replace sNew sLast b := by
  have hne : sNew ≠ [] := by rw [sNew_eq]; simp
  rw [show bracket sNew ++ b = '[' :: (sNew ++ ']' :: b) by simp [bracket],
    replace_cons_nomatch sNew sLast '[' _ (by simp [startsWith, sNew_eq]), replace_append_old sNew sLast hne,
    replace_cons_nomatch sNew sLast ']' _ (by simp [startsWith, sNew_eq])]
  simp [bracket]

/-- the index text after `replace("new()", "last()")` -/
def lastIdx (e : Str) : Str := if e = sNew then sLast else e

/-- the creation step as it is read back -/
def lastify : CStep → CStep
  | .name n => .name n
  | .elem n e => .elem n (lastIdx e)
  | .idx e => .idx (lastIdx e)

/-- index texts of the grammar: `new()`, or a text without `(` (a number) -/
def IdxOk (e : Str) : Prop := e = sNew ∨ NoParen e

/-- no name of the step contains `(` (otherwise `replace` could rewrite a *name* containing `new()`) -/
def CStep.noParen : CStep → Prop
  | .name n => NoParen n
  | .elem n e => NoParen n ∧ IdxOk e
  | .idx e => IdxOk e

def NoParenPos : Pos → Prop
  | [] => True
  | .key k :: rest => NoParen k ∧ NoParenPos rest
  | .idx _ :: rest => NoParenPos rest

theorem noParen_natStr (n : Nat) : NoParen (natStr n) := by
  intro c hc h
  subst h
  exact absurd (natDigits_all_digit n _ hc) (by decide)

theorem noParen_bracket {e : Str} (h : NoParen e) : NoParen (bracket e) := by
  intro c hc
  simp only [bracket, List.mem_cons, List.mem_append, List.not_mem_nil, or_false] at hc
  rcases hc with (hc | hc) | hc
  · subst hc; decide
  · exact h c hc
  · subst hc; decide

theorem noParen_renderPos : ∀ (q : Pos), NoParenPos q → NoParen (renderPos q)
  | [], _ => by intro c hc; simp [renderPos] at hc
  | .key k :: rest, h => by
    intro c hc
    simp only [renderPos, List.flatMap_cons, renderSeg, List.mem_append, List.mem_cons] at hc
    rcases hc with (hc | hc) | hc
    · subst hc; decide
    · exact h.1 c hc
    · exact noParen_renderPos rest h.2 c hc
  | .idx n :: rest, h => by
    intro c hc
    simp only [renderPos, List.flatMap_cons, renderSeg, List.mem_append] at hc
    rcases hc with hc | hc
    · exact noParen_bracket (noParen_natStr n) c hc
    · exact noParen_renderPos rest h c hc

theorem NoParenPos.prefix {p r : Pos} (h : NoParenPos (p ++ r)) : NoParenPos p := by
  induction p with
  | nil => trivial
  | cons s p ih =>
    cases s with
    | key k => exact ⟨h.1, ih h.2⟩
    | idx n => exact ih h

theorem NoParenPos.last_key {pp : Pos} {k : Str} (h : NoParenPos (pp ++ [.key k])) : NoParen k := by
  induction pp with
  | nil => exact h.1
  | cons s pp ih =>
    cases s with
    | key k' => exact ih h.2
    | idx n => exact ih h

theorem safeStart_steps (steps : List CStep) : SafeStart (steps.flatMap renderCStep) := by
  cases steps with
  | nil => exact Or.inl rfl
  | cons s r =>
    cases s with
    | name n => exact Or.inr ⟨'/', n ++ r.flatMap renderCStep, by simp [renderCStep], Or.inl rfl⟩
    | elem n e => exact Or.inr ⟨'/', n ++ bracket e ++ r.flatMap renderCStep, by simp [renderCStep], Or.inl rfl⟩
    | idx e => exact Or.inr ⟨'[', e ++ ']' :: r.flatMap renderCStep, by simp [renderCStep, bracket], Or.inr rfl⟩

theorem replace_new_bracket (e b : Str) (he : IdxOk e) (hb : SafeStart b) :
    replace sNew sLast (bracket e ++ b) = bracket (lastIdx e) ++ replace sNew sLast b := by
  by_cases h : e = sNew
  · subst h
    simp only [lastIdx, if_true]
    exact replace_new_bracket_new b
  · have hn : NoParen e := by
      rcases he with he | he
      · exact absurd he h
      · exact he
    simp only [lastIdx, h, if_false]
    exact replace_new_append _ b (noParen_bracket hn) hb

theorem replace_new_steps : ∀ (steps : List CStep), (∀ x ∈ steps, x.noParen) →
    replace sNew sLast (steps.flatMap renderCStep) = (steps.map lastify).flatMap renderCStep
  | [], _ => replace_nil _ _
  | s :: r, h => by
    have ih := replace_new_steps r (fun x hx => h x (by simp [hx]))
    have hs := h s (by simp)
    have hsafe := safeStart_steps r
    cases s with
    | name n =>
      have hn : NoParen ('/' :: n) := by
        intro c hc; simp at hc; rcases hc with rfl | hc
        · decide
        · exact hs c hc
      simp only [List.flatMap_cons, List.map_cons, lastify, renderCStep]
      rw [replace_new_append _ _ hn hsafe, ih]
    | elem n e =>
      have hn : NoParen ('/' :: n) := by
        intro c hc; simp at hc; rcases hc with rfl | hc
        · decide
        · exact hs.1 c hc
      simp only [List.flatMap_cons, List.map_cons, lastify, renderCStep]
      rw [show ('/' :: n ++ bracket e) ++ r.flatMap renderCStep = ('/' :: n) ++ (bracket e ++ r.flatMap renderCStep) by simp,
        replace_new_append _ _ hn (Or.inr ⟨'[', e ++ ']' :: r.flatMap renderCStep, by simp [bracket], Or.inr rfl⟩), replace_new_bracket e _ hs.2 hsafe, ih]
      simp
    | idx e =>
      simp only [List.flatMap_cons, List.map_cons, lastify, renderCStep]
      rw [replace_new_bracket e _ hs hsafe, ih]

theorem replace_path (q : Pos) (steps : List CStep) (hq : NoParenPos q) (hsteps : ∀ x ∈ steps, x.noParen) :
    replace sNew sLast (slash ++ renderPos q ++ steps.flatMap renderCStep)
      = slash ++ renderPos q ++ (steps.map lastify).flatMap renderCStep := by
  have hn : NoParen (slash ++ renderPos q) := by
    intro c hc
    simp only [slash, List.mem_append, List.mem_cons, List.not_mem_nil, or_false] at hc
    rcases hc with rfl | hc
    · decide
    · exact noParen_renderPos q hq c hc
  rw [replace_new_append _ _ hn (safeStart_steps steps), replace_new_steps steps hsteps]

theorem noParen_of_later {x : CStep} (hl : x.later) (hn : NoParen x.nameOf) : x.noParen := by
  cases x with
  | name n => exact hn
  | elem n e =>
    refine ⟨hn, ?_⟩
    rcases hl.2 with rfl | rfl
    · exact Or.inl rfl
    · exact Or.inr (by intro c hc h; subst h; simp at hc)
  | idx e => exact absurd hl (by simp [CStep.later])

theorem lastIdx_denotes {e : Str} {len : Nat} (he : e = sNew ∨ e = natStr len) :
    IdxOk e ∧ CleanIdx (lastIdx e) ∧ IdxExpr (lastIdx e) ∧ lastIdx e ≠ sNew ∧ lastIdx e ≠ ['*'] ∧
      ∃ i : Int, n0eval (lastIdx e) = .ok (.int i) ∧ normIdx i (len + 1) = some len := by
  by_cases h : e = sNew
  · subst h
    simp only [lastIdx, if_true]
    exact ⟨Or.inl rfl, cleanIdx_last, idxExpr_last, by decide, by decide, -1, n0eval_last, by
      have := normIdx_last (len + 1) (by omega); simpa using this⟩
  · obtain rfl : e = natStr len := he.resolve_left h
    simp only [lastIdx, h, if_false]
    exact ⟨Or.inr (noParen_natStr _), cleanIdx_nat _, natStr_idxExpr _, (natStr_ne_special _).1, (natStr_ne_special _).2,
      len, n0eval_nat _, normIdx_nat (by omega)⟩

theorem clean_lastify_all {steps : List CStep} (hsteps : ∀ x ∈ steps, x.later) : ∀ x ∈ steps.map lastify, x.clean := by
  intro x hx
  obtain ⟨y, hy, rfl⟩ := List.mem_map.1 hx
  have h := hsteps y hy
  cases y with
  | name n => exact h
  | elem n e => exact ⟨h.1, (lastIdx_denotes (zero_or_new h.2)).2.1⟩
  | idx e => exact absurd h (by simp [CStep.later])

end N0.XPath
