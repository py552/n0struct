import N0Verif.Proofs.XPathStore
import N0Verif.Proofs.XPathLeaves
/-!
  `delete` / `pop` on an existing node: what `delThrough` does at a found node, the loop of `delete` round by round, and
  what a deletion leaves of the spelling of the ancestors (`spells_after_delete`, `LastStep`).
  The search of a round is a walk, so the first round goes through any `Walk` (`find_walkEnd` gives the `FoundAt` of
  `delThrough_found`; `deleteLoop_hidden_skip`, for any round, and `deleteLoop_first_attached` take a `Walk` that ends hidden);
  the rounds after the first are proved on `Spells` only, so a path with a hidden-list step
  before its last token is covered one spelling at a time (`XPathHiddenPop`).
  The round lemmas `deleteLoop_snoc_*`, `deleteLoop_hidden_skip` rewrite a goal whose token list is `init ++ [last]` and whose
  counter is still `(init ++ [last]).length`; that goal fixes the implicit `first`.
-/
namespace N0.XPath
open N0 N0.Py N0.Val

/-- of `PlainKvs` only the uniqueness of the keys is used -/
theorem kvDel_lookup (k : Str) : ∀ kvs : List (Str × Val), PlainKvs kvs → lookup k (kvDel k kvs) = Option.none
  | [], _ => by simp [kvDel, lookup]
  | (k', x) :: kvs, h => by
      by_cases hk : k = k'
      · subst hk
        simp only [kvDel, if_true]
        exact h.2.1
      · simp [kvDel, hk, lookup, kvDel_lookup k kvs h.2.2.2]

theorem spells_setAt_below {toks : List Str} {t : Val} {q : Pos} {c : Val} (h : Spells toks t q c) :
    ∀ (r : Pos) (x t2 : Val), setAt t (q ++ r) x = some t2 →
      ∃ c2, setAt c r x = some c2 ∧ Spells toks t2 q c2 := by
  induction h with
  | nil v => intro r x t2 hs; exact ⟨t2, by simpa using hs, .nil t2⟩
  | @key tok rest cls kvs c p d hk hl _ ih =>
    intro r x t2 hs
    have hc : child (.dict cls kvs) (.key tok) = some c := hl
    rw [List.cons_append, setAt_cons _ _ _ _ c hc] at hs
    cases hs1 : setAt c (p ++ r) x with
    | none => simp [hs1] at hs
    | some c' =>
      simp only [hs1, Option.bind, setChild] at hs
      obtain ⟨c2, hc2, hsp⟩ := ih r x c' hs1
      cases hs
      exact ⟨c2, hc2, .key hk (lookup_kvSet_same _ _ _) hsp⟩
  | @idx tok e i rest cls xs n c p d hk hn hx _ ih =>
    intro r x t2 hs
    have hc : child (.list cls xs) (.idx n) = some c := hx
    rw [List.cons_append, setAt_cons _ _ _ _ c hc] at hs
    cases hs1 : setAt c (p ++ r) x with
    | none => simp [hs1] at hs
    | some c' =>
      have hlt := normIdx_lt hn
      simp only [hs1, Option.bind, setChild, hlt, if_true] at hs
      obtain ⟨c2, hc2, hsp⟩ := ih r x c' hs1
      cases hs
      exact ⟨c2, hc2, .idx hk (by simpa using hn) (by simp [hlt]) hsp⟩
  | @keyIdx tok k e i rest cls kvs cls' xs n c p d hk hl hn hx _ ih =>
    intro r x t2 hs
    have hc : child (.dict cls kvs) (.key k) = some (.list cls' xs) := hl
    have hc2 : child (.list cls' xs) (.idx n) = some c := hx
    have hlt := normIdx_lt hn
    rw [List.cons_append, List.cons_append, setAt_cons _ _ _ _ _ hc,
      setAt_cons _ _ _ _ _ hc2] at hs
    cases hs1 : setAt c (p ++ r) x with
    | none => simp [hs1] at hs
    | some c' =>
      simp only [hs1, Option.bind, setChild, hlt, if_true] at hs
      obtain ⟨c2, hcc2, hsp⟩ := ih r x c' hs1
      cases hs
      exact ⟨c2, hcc2, .keyIdx hk (lookup_kvSet_same _ _ _) (by simpa using hn) (by simp [hlt]) hsp⟩

/-- a path that does not start with '?' is taken as it is by `delete` / `pop` (fix C05-c) -/
theorem stripQ_noQ (xp : Str) (h : startsWith xp ['?'] = false) : stripQ xp = xp := by
  simp [stripQ, h]

theorem stripQ_q (xp : Str) : stripQ ('?' :: xp) = xp := by
  simp [stripQ, startsWith]

theorem delete_of_tokens {fuel : Nat} {cls : Cls} {kvs : List (Str × Val)} {xp : Str} {toks : List Str} {rec : Bool}
    (htok : tokenize xp = toks) (hq : startsWith xp ['?'] = false) :
    delete fuel (.dict cls kvs) xp rec = deleteLoop fuel toks rec (.dict cls kvs) toks.length true := by
  subst htok
  simp only [delete, deleteTokens, stripQ_noQ _ hq]

theorem pop_of_hit {fuel : Nat} {t t' v : Val} {xp : Str} {rec : Bool} (d : Val)
    (hget : getItem fuel t xp = (t, .ok v)) (hdel : delete fuel t xp rec = (t', .ok ()))
    (hq : startsWith xp ['?'] = false) : pop fuel t xp d rec = .ok (t', v) := by
  simp only [pop, stripQ_noQ _ hq, hget, hdel]

theorem delThrough_found (root : Val) (p : Pos) (c : Val) (r : Res) (t' : Val)
    (hf : FoundAt root [] p c r) (hdel : delAt root p = some t') :
    delThrough root r.parent r.nameIdx = .ok t' := by
  obtain ⟨hv, hnf, pp, s, pv, ni, rfl, hpar, hpv, hni, hname⟩ := hf
  simp only [List.nil_append] at hpar hpv
  rw [hpar, hni]
  rcases hname.inv with ⟨cls, kvs, k, rfl, rfl, hnik⟩ | ⟨cls, xs, n, i, rfl, rfl, hnii, hn⟩
  · rw [hnik]
    unfold delThrough
    simp only [isWrap_at, Bool.false_eq_true, if_false, valOf_at, hpv]
    by_cases hh : kvHas k kvs = true
    · have hsn := delAt_snoc pp root (.key k) (.dict cls kvs) (.dict cls (kvDel k kvs)) hpv (delChild_key hh)
      rw [hsn] at hdel
      simp only [hh, if_true]
      rw [modRef_at root pp _ _ hpv]
      simp [hdel]
    · exfalso
      rw [delAt_key_missing root pp k cls kvs hpv (by simpa using hh)] at hdel
      cases hdel
  · rw [hnii]
    have hlt := normIdx_lt hn
    have hsn := delAt_snoc pp root (.idx n) (.list cls xs) (.list cls (xs.eraseIdx n)) hpv (delChild_idx hlt)
    rw [hsn] at hdel
    unfold delThrough
    simp only [isWrap_at, Bool.false_eq_true, if_false, valOf_at, hpv, startsWith_bracket, endsWith_bracket, Bool.and_self, Bool.not_true,
      Bool.false_eq_true, if_false, bracket_inner, n0eval_intStr, hn]
    rw [modRef_at root pp _ _ hpv]
    simp [hdel]

theorem FoundAt.delPlace {root : Val} {q p : Pos} {c : Val} {r : Res} (h : FoundAt root q p c r) (fuel : Nat) (t : Val)
    (tok : Str) : delPlace fuel t tok r = .ok (some r) := by
  obtain ⟨pp, hpar⟩ := h.parent_at
  exact delPlace_at fuel t tok r _ hpar

theorem deleteLoop_congr (fuel : Nat) (r : Bool) : ∀ (k : Nat) (toks toks2 : List Str) (cur : Val) (f : Bool),
    toks.take k = toks2.take k → deleteLoop fuel toks r cur k f = deleteLoop fuel toks2 r cur k f
  | 0, _, _, _, _, _ => rfl
  | k + 1, toks, toks2, cur, f, h => by
      have hk : toks.take k = toks2.take k := by
        have := congrArg (List.take k) h
        simpa [List.take_take, Nat.min_eq_left (Nat.le_succ k)] using this
      rw [deleteLoop, deleteLoop, h]
      cases findD fuel cur [] false true (toks2.take (k + 1)) (.at []) true slash with
      | error e => rfl
      | ok x =>
        obtain ⟨root, res⟩ := x
        simp only
        have hgk : toks.getD k [] = toks2.getD k [] := by
          have h1 : (toks.take (k + 1)).getD k [] = toks.getD k [] := by
            simp [List.getD_eq_getElem?_getD]
          have h2 : (toks2.take (k + 1)).getD k [] = toks2.getD k [] := by
            simp [List.getD_eq_getElem?_getD]
          rw [← h1, ← h2, h]
        rw [hgk]
        cases delPlace fuel root (toks2.getD k []) res with
        | error e => rfl
        | ok ores =>
          cases ores with
          | none => exact deleteLoop_congr fuel r k toks toks2 root f hk
          | some res' =>
            simp only
            split
            · cases delThrough root res'.parent res'.nameIdx with
              | error e => rfl
              | ok root' => exact deleteLoop_congr fuel r k toks toks2 root' false hk
            · exact deleteLoop_congr fuel r k toks toks2 root false hk

theorem deleteLoop_init (fuel : Nat) (r : Bool) (init : List Str) (last : Str) (cur : Val) (f : Bool) :
    deleteLoop fuel (init ++ [last]) r cur init.length f = deleteLoop fuel init r cur init.length f :=
  deleteLoop_congr fuel r init.length _ _ cur f (by simp)

theorem deleteLoop_snoc_found {fuel : Nat} {init : List Str} {last : Str} {rec first : Bool} {root root' root'' : Val}
    {r r' : Res}
    (hfind : findD fuel root [] false true (init ++ [last]) (.at []) true slash = .ok (root', r))
    (hdp : delPlace fuel root' last r = .ok (some r'))
    (hcond : (first || (rec && isEmptyDict r.value)) = true)
    (hdt : delThrough root' r'.parent r'.nameIdx = .ok root'') :
    deleteLoop fuel (init ++ [last]) rec root (init ++ [last]).length first
      = deleteLoop fuel init rec root'' init.length false := by
  rw [List.length_append, List.length_singleton, deleteLoop, List.take_of_length_le (by simp), hfind]
  simp only [List.getD_eq_getElem?_getD, List.getElem?_concat_length, Option.getD_some, hdp, hcond, ↓reduceIte, hdt]
  exact deleteLoop_init fuel rec init last root'' false

theorem deleteLoop_snoc_kept {fuel : Nat} {init : List Str} {last : Str} {rec first : Bool} {root root' : Val}
    {r r' : Res}
    (hfind : findD fuel root [] false true (init ++ [last]) (.at []) true slash = .ok (root', r))
    (hdp : delPlace fuel root' last r = .ok (some r'))
    (hcond : (first || (rec && isEmptyDict r.value)) = false) :
    deleteLoop fuel (init ++ [last]) rec root (init ++ [last]).length first
      = deleteLoop fuel init rec root' init.length false := by
  rw [List.length_append, List.length_singleton, deleteLoop, List.take_of_length_le (by simp), hfind]
  simp only [List.getD_eq_getElem?_getD, List.getElem?_concat_length, Option.getD_some, hdp, hcond,
    Bool.false_eq_true, ↓reduceIte]
  exact deleteLoop_init fuel rec init last root' false

theorem deleteLoop_snoc_skipped {fuel : Nat} {init : List Str} {last : Str} {rec first : Bool} {root root' : Val} {r : Res}
    (hfind : findD fuel root [] false true (init ++ [last]) (.at []) true slash = .ok (root', r))
    (hdp : delPlace fuel root' last r = .ok Option.none) :
    deleteLoop fuel (init ++ [last]) rec root (init ++ [last]).length first
      = deleteLoop fuel init rec root' init.length first := by
  rw [List.length_append, List.length_singleton, deleteLoop, List.take_of_length_le (by simp), hfind]
  simp only [List.getD_eq_getElem?_getD, List.getElem?_concat_length, Option.getD_some, hdp]
  exact deleteLoop_init fuel rec init last root' first

/-- any round (`first` is free): the walk ends with a hidden-list step whose index is a token of its own, and the round is
passed over -/
theorem deleteLoop_hidden_skip {fuel n : Nat} {init : List Str} {last e : Str} {i : Int} {rec first : Bool} {root : Val}
    {p : Pos} {c : Val} {w : Str} (hw : Walk n (init ++ [last]) root p c w true) (hl : IdxTok last e i) (hf : fuel ≥ n) :
    deleteLoop fuel (init ++ [last]) rec root (init ++ [last]).length first
      = deleteLoop fuel init rec root init.length first := by
  obtain ⟨f, rfl⟩ := Nat.exists_eq_add_of_le' hf
  obtain ⟨r, hr, hpl⟩ := find_walkEnd root true [] hw (by simp) f [] slash true rfl
  obtain ⟨j, _, rfl⟩ := hpl.2 rfl
  refine deleteLoop_snoc_skipped hr ?_
  simp only [delPlace, isWrap, Res.isFound, Bool.and_self, ↓reduceIte, hl.split, List.isEmpty_nil]

/-- the first round only: the hidden index is attached to a name (`name[e]`), the text found is resolved once more and the
node removed where it really is -/
theorem deleteLoop_first_attached {fuel n : Nat} {init : List Str} {last k e : Str} {i : Int} {rec : Bool} {root : Val}
    {p : Pos} {c t' : Val} {w : Str} {r1 : Res} (hw : Walk n (init ++ [last]) root p c w true) (hl : KeyIdxTok last k e i)
    (h1 : findD fuel root [] false true (tokenize (slash ++ w)) (.at []) true slash = .ok (root, r1))
    (hfound : FoundAt root [] p c r1) (hdel : delAt root p = some t') (hf : fuel ≥ n) :
    deleteLoop fuel (init ++ [last]) rec root (init ++ [last]).length true
      = deleteLoop fuel init rec t' init.length false := by
  obtain ⟨f, hfn⟩ := Nat.exists_eq_add_of_le' hf
  obtain ⟨r, hr, hpl⟩ := find_walkEnd root true [] hw (by simp) f [] slash true rfl
  obtain ⟨j, _, rfl⟩ := hpl.2 rfl
  rw [← hfn] at hr
  refine deleteLoop_snoc_found hr (r' := r1) ?_ rfl (delThrough_found root p c r1 t' hfound hdel)
  simp only [delPlace, isWrap, Res.isFound, Bool.and_self, ↓reduceIte, hl.split, isEmpty_false_of_ne hl.kne,
    Bool.false_eq_true, h1]

theorem deleteLoop_find_error {fuel : Nat} {toks : List Str} {rec first : Bool} {root : Val} {e : PyErr}
    (hne : toks ≠ []) (hfind : findD fuel root [] false true toks (.at []) true slash = .error e) :
    deleteLoop fuel toks rec root toks.length first = (root, .error e) := by
  obtain ⟨n, hn⟩ : ∃ n, toks.length = n + 1 := Nat.exists_eq_succ_of_ne_zero (mt List.length_eq_zero_iff.mp hne)
  rw [hn, deleteLoop, ← hn, List.take_length, hfind]

theorem deleteLoop_del_error {fuel : Nat} {toks : List Str} {rec : Bool} {root root' : Val} {r : Res} {e : PyErr}
    (hne : toks ≠ []) (hfind : findD fuel root [] false true toks (.at []) true slash = .ok (root', r))
    (hdp : ∀ tok, delPlace fuel root' tok r = .ok (some r))
    (hdt : delThrough root' r.parent r.nameIdx = .error e) :
    deleteLoop fuel toks rec root toks.length true = (root', .error e) := by
  obtain ⟨n, hn⟩ : ∃ n, toks.length = n + 1 := Nat.exists_eq_succ_of_ne_zero (mt List.length_eq_zero_iff.mp hne)
  rw [hn, deleteLoop, ← hn, List.take_length, hfind]
  simp only [hdp, Bool.true_or, ↓reduceIte, hdt]

theorem spells_append_inv : ∀ (a : List Str) {b : List Str} {v : Val} {q : Pos} {c : Val},
    Spells (a ++ b) v q c → ∃ q0 r c0, q = q0 ++ r ∧ Spells a v q0 c0 ∧ Spells b c0 r c
  | [], _, v, q, _, h => ⟨[], q, v, rfl, .nil v, h⟩
  | tok :: a, b, v, q, c, h => by
      cases h with
      | key hk hl hs =>
        obtain ⟨q0, r, c0, rfl, h1, h2⟩ := spells_append_inv a hs
        exact ⟨_ :: q0, r, c0, rfl, .key hk hl h1, h2⟩
      | idx hk hn hx hs =>
        obtain ⟨q0, r, c0, rfl, h1, h2⟩ := spells_append_inv a hs
        exact ⟨_ :: q0, r, c0, rfl, .idx hk hn hx h1, h2⟩
      | keyIdx hk hl hn hx hs =>
        obtain ⟨q0, r, c0, rfl, h1, h2⟩ := spells_append_inv a hs
        exact ⟨_ :: _ :: q0, r, c0, rfl, .keyIdx hk hl hn hx h1, h2⟩

/-- what one token can spell: a key, an index, or `key[index]` (two segments, the skipped node
is a list) -/
theorem spells_single_inv {tok : Str} {v : Val} {r : Pos} {c : Val} (h : Spells [tok] v r c) :
    (∃ cls kvs, v = .dict cls kvs ∧ r = [.key tok] ∧ lookup tok kvs = some c) ∨
    (∃ cls xs n, v = .list cls xs ∧ r = [.idx n] ∧ xs[n]? = some c ∧ n < xs.length) ∨
    (∃ cls kvs k cls' xs n, v = .dict cls kvs ∧ r = [.key k, .idx n] ∧
        lookup k kvs = some (.list cls' xs) ∧ xs[n]? = some c ∧ n < xs.length) := by
  cases h with
  | key hk hl hs =>
    obtain ⟨rfl, rfl⟩ := hs.nil_inv
    exact Or.inl ⟨_, _, rfl, rfl, hl⟩
  | idx hk hn hx hs =>
    obtain ⟨rfl, rfl⟩ := hs.nil_inv
    exact Or.inr (Or.inl ⟨_, _, _, rfl, rfl, hx, normIdx_lt hn⟩)
  | keyIdx hk hl hn hx hs =>
    obtain ⟨rfl, rfl⟩ := hs.nil_inv
    exact Or.inr (Or.inr ⟨_, _, _, _, _, _, rfl, rfl, hl, hx, normIdx_lt hn⟩)

theorem spells_pos_ne_nil {toks : List Str} {v : Val} {p : Pos} {c : Val} (h : Spells toks v p c)
    (hne : toks ≠ []) : p ≠ [] := by
  cases h with
  | nil => exact absurd rfl hne
  | key => simp
  | idx => simp
  | keyIdx => simp

/-- what the last token of a path spells below `q0`: one segment, or `key[i]`, two, the first of which stands on a list of
the tree `t` -/
def LastStep (t : Val) (q0 r : Pos) : Prop :=
  (∃ s, r = [s]) ∨ ∃ s1 s2 cls xs, r = [s1, s2] ∧ getAt t (q0 ++ [s1]) = some (.list cls xs)

/-- deleting the node spelled by `init ++ [last]` is a write at or below the node spelled by
`init`; `init` keeps spelling the same position and the skipped list node (merged token) stays a
list -/
theorem spells_after_delete {init : List Str} {last : Str} {cur : Val} {q0 r : Pos} {c0 c cur' : Val}
    (h1 : Spells init cur q0 c0) (h2 : Spells [last] c0 r c) (hdel : delAt cur (q0 ++ r) = some cur') :
    (∃ c0', Spells init cur' q0 c0') ∧ LastStep cur' q0 r := by
  have hg0 := h1.getAt
  rcases spells_single_inv h2 with ⟨cls, kvs, rfl, rfl, hl⟩ | ⟨cls, xs, n, rfl, rfl, hx, hlt⟩ |
    ⟨cls, kvs, k, cls', xs, n, rfl, rfl, hl, hx, hlt⟩
  · have hh : kvHas last kvs = true := kvHas_of_lookup hl
    have hsn := delAt_snoc q0 cur (.key last) _ (.dict cls (kvDel last kvs)) hg0 (delChild_key hh)
    rw [hdel] at hsn
    obtain ⟨c2, _, hsp⟩ := spells_setAt_below h1 [] _ cur' (by simpa using hsn.symm)
    exact ⟨⟨c2, hsp⟩, Or.inl ⟨_, rfl⟩⟩
  · have hsn := delAt_snoc q0 cur (.idx n) _ (.list cls (xs.eraseIdx n)) hg0 (delChild_idx hlt)
    rw [hdel] at hsn
    obtain ⟨c2, _, hsp⟩ := spells_setAt_below h1 [] _ cur' (by simpa using hsn.symm)
    exact ⟨⟨c2, hsp⟩, Or.inl ⟨_, rfl⟩⟩
  · have hg1 : getAt cur (q0 ++ [.key k]) = some (.list cls' xs) := getAt_snoc_key hg0 hl
    have hsn := delAt_snoc (q0 ++ [Seg.key k]) cur (.idx n) _ (.list cls' (xs.eraseIdx n)) hg1
      (delChild_idx hlt)
    rw [show q0 ++ [Seg.key k] ++ [Seg.idx n] = q0 ++ [Seg.key k, Seg.idx n] by simp, hdel] at hsn
    obtain ⟨c2, _, hsp⟩ := spells_setAt_below h1 [.key k] _ cur' hsn.symm
    exact ⟨⟨c2, hsp⟩, Or.inr ⟨_, _, cls', xs.eraseIdx n, rfl, getAt_of_setAt _ _ _ _ hsn.symm⟩⟩

theorem spells_lastStep {init : List Str} {last : Str} {cur : Val} {q0 r : Pos} {c0 c : Val}
    (h1 : Spells init cur q0 c0) (h2 : Spells [last] c0 r c) : LastStep cur q0 r := by
  rcases spells_single_inv h2 with ⟨cls, kvs, rfl, rfl, hl⟩ | ⟨cls, xs, n, rfl, rfl, hx, hlt⟩ |
    ⟨cls, kvs, k, cls', xs, n, rfl, rfl, hl, hx, hlt⟩
  · exact Or.inl ⟨_, rfl⟩
  · exact Or.inl ⟨_, rfl⟩
  · exact Or.inr ⟨_, _, cls', xs, rfl, getAt_snoc_key h1.getAt hl⟩

end N0.XPath
