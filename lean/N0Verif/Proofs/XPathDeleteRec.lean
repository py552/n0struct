import N0Verif.Proofs.XPathDelete
import N0Verif.Proofs.XPathSpellings
/-!
  `delete(xpath, recursively)` of a spelled position.  The first round removes the addressed node; the later rounds look the
  shorter prefixes up and, with `recursively=True`, remove every ancestor that became an empty dictionary, deepest first:
  `pruneUp` over the positions of the ancestors.
-/
namespace N0.XPath
open N0 N0.Py N0.Val

def pruneStep (t : Val) (q : Pos) : Val :=
  match getAt t q with
  | some v => if isEmptyDict v then (delAt t q).getD t else t
  | Option.none => t

/-- `pruneUp t q k`: visit the prefixes of `q` of length `k, k-1, …, 1` (deepest first) and remove
each one that is an empty dictionary at the moment it is visited -/
def pruneUp : Val → Pos → Nat → Val
  | t, _, 0 => t
  | t, q, k + 1 => pruneUp (pruneStep t (q.take (k + 1))) q k

theorem pruneStep_hit {t t' v : Val} {q : Pos} (hg : getAt t q = some v) (he : isEmptyDict v = true)
    (hd : delAt t q = some t') : pruneStep t q = t' := by
  simp [pruneStep, hg, he, hd]

theorem pruneStep_skip {t v : Val} {q : Pos} (hg : getAt t q = some v) (he : isEmptyDict v = false) :
    pruneStep t q = t := by
  simp [pruneStep, hg, he]

theorem pruneUp_append (q r : Pos) : ∀ (j : Nat) (t : Val), j ≤ q.length → pruneUp t (q ++ r) j = pruneUp t q j
  | 0, _, _ => rfl
  | j + 1, t, h => by
      rw [pruneUp, pruneUp, List.take_append_of_le_length h]
      exact pruneUp_append q r j _ (Nat.le_of_succ_le h)

theorem pruneUp_snoc1 (t : Val) (q0 : Pos) (s : Seg) :
    pruneUp t (q0 ++ [s]) (q0.length + 1) = pruneUp (pruneStep t (q0 ++ [s])) q0 q0.length := by
  rw [pruneUp]
  have : (q0 ++ [s]).take (q0.length + 1) = q0 ++ [s] := by
    rw [List.take_of_length_le (by simp)]
  rw [this, pruneUp_append q0 [s] q0.length _ (Nat.le_refl _)]

theorem pruneUp_snoc2 (t : Val) (q0 : Pos) (s1 s2 : Seg) :
    pruneUp t (q0 ++ [s1, s2]) (q0.length + 2)
      = pruneUp (pruneStep (pruneStep t (q0 ++ [s1, s2])) (q0 ++ [s1])) q0 q0.length := by
  rw [pruneUp, pruneUp]
  have h1 : (q0 ++ [s1, s2]).take (q0.length + 1 + 1) = q0 ++ [s1, s2] := by
    rw [List.take_of_length_le (by simp)]
  have h2 : (q0 ++ [s1, s2]).take (q0.length + 1) = q0 ++ [s1] := by
    simp [List.take_append, List.take_of_length_le]
  rw [h1, h2, pruneUp_append q0 [s1, s2] q0.length _ (Nat.le_refl _)]

/-- pruning over the segments of the last token: the list a merged token passes is never removed -/
theorem pruneUp_lastStep {t : Val} {q0 r : Pos} (h : LastStep (pruneStep t (q0 ++ r)) q0 r) :
    pruneUp t (q0 ++ r) (q0 ++ r).length = pruneUp (pruneStep t (q0 ++ r)) q0 q0.length := by
  rcases h with ⟨s, rfl⟩ | ⟨s1, s2, cls, xs, rfl, hg⟩
  · rw [show (q0 ++ [s]).length = q0.length + 1 by simp, pruneUp_snoc1]
  · rw [show (q0 ++ [s1, s2]).length = q0.length + 2 by simp, pruneUp_snoc2, pruneStep_skip hg rfl]

theorem pruneUp_dropLast_lastStep {t : Val} {q0 r : Pos} (h : LastStep t q0 r) :
    pruneUp t (q0 ++ r).dropLast ((q0 ++ r).length - 1) = pruneUp t q0 q0.length := by
  rcases h with ⟨s, rfl⟩ | ⟨s1, s2, cls, xs, rfl, hg⟩
  · simp
  · rw [show q0 ++ [s1, s2] = (q0 ++ [s1]) ++ [s2] by simp, List.dropLast_concat,
      show (q0 ++ [s1] ++ [s2]).length - 1 = q0.length + 1 by simp, pruneUp_snoc1, pruneStep_skip hg rfl]

theorem isEmptyDict_list (cls : Cls) (xs : List Val) : isEmptyDict (.list cls xs) = false := rfl

theorem deleteLoop_prune (fuel : Nat) (rec : Bool) : ∀ (n : Nat) (toks : List Str) (cur : Val) (q : Pos) (c : Val),
    toks.length = n → Spells toks cur q c → fuel ≥ 2 * toks.length →
    deleteLoop fuel toks rec cur toks.length false = ((if rec then pruneUp cur q q.length else cur), .ok ())
  | 0, toks, cur, q, c, hn, hs, _ => by
      have : toks = [] := List.length_eq_zero_iff.mp hn
      subst this
      obtain ⟨rfl, _⟩ := hs.nil_inv
      cases rec <;> rfl
  | n + 1, toks, cur, q, c, hn, hs, hf => by
      have hne : toks ≠ [] := by intro h; rw [h] at hn; cases hn
      obtain ⟨init, last, rfl⟩ : ∃ init last, toks = init ++ [last] :=
        ⟨toks.dropLast, toks.getLast hne, (List.dropLast_concat_getLast hne).symm⟩
      have hil : init.length = n := by simpa using hn
      obtain ⟨q0, r, c0, rfl, h1, h2⟩ := spells_append_inv init hs
      have hfi : fuel ≥ 2 * init.length := two_mul_le_fuel (by rw [List.length_append]; exact Nat.le_add_right _ _) hf
      obtain ⟨res, hres, hfound⟩ := find_spells cur true hs hne fuel [] slash true rfl hf
      have hval : res.value = c := hfound.1
      have hdp := hfound.delPlace fuel cur last
      by_cases he : (rec && isEmptyDict c) = true
      · obtain ⟨rfl, he⟩ := Bool.and_eq_true_iff.mp he
        obtain ⟨cur', hdel⟩ := delAt_isSome (q0 ++ r) cur c (spells_pos_ne_nil hs hne) hs.getAt
        have hdt := delThrough_found cur (q0 ++ r) c res cur' hfound hdel
        obtain ⟨⟨c0', hsp'⟩, hmid⟩ := spells_after_delete h1 h2 hdel
        rw [deleteLoop_snoc_found hres hdp (by rw [hval, he]; rfl) hdt, deleteLoop_prune fuel true n init cur' q0 c0' hil hsp' hfi]
        have hstep : pruneStep cur (q0 ++ r) = cur' := pruneStep_hit hs.getAt he hdel
        rw [if_pos rfl, if_pos rfl, pruneUp_lastStep (by rw [hstep]; exact hmid), hstep]
      · have he' : (rec && isEmptyDict c) = false := by simpa using he
        rw [deleteLoop_snoc_kept hres hdp (by rw [hval, he']; rfl), deleteLoop_prune fuel rec n init cur q0 c0 hil h1 hfi]
        cases rec with
        | false => rfl
        | true =>
          have hstep : pruneStep cur (q0 ++ r) = cur := pruneStep_skip hs.getAt (by simpa using he')
          rw [if_pos rfl, if_pos rfl, pruneUp_lastStep (by rw [hstep]; exact spells_lastStep h1 h2), hstep]

theorem deleteLoop_spelled (fuel : Nat) (rec : Bool) (toks : List Str) (t : Val) (p : Pos) (c t' : Val)
    (hs : Spells toks t p c) (hne : toks ≠ []) (hdel : delAt t p = some t')
    (hf : fuel ≥ 2 * toks.length) :
    deleteLoop fuel toks rec t toks.length true
      = ((if rec then pruneUp t' p.dropLast (p.length - 1) else t'), .ok ()) := by
  obtain ⟨init, last, rfl⟩ : ∃ init last, toks = init ++ [last] :=
    ⟨toks.dropLast, toks.getLast hne, (List.dropLast_concat_getLast hne).symm⟩
  obtain ⟨q0, r, c0, rfl, h1, h2⟩ := spells_append_inv init hs
  have hfi : fuel ≥ 2 * init.length := two_mul_le_fuel (by rw [List.length_append]; exact Nat.le_add_right _ _) hf
  obtain ⟨res, hres, hfound⟩ := find_spells t true hs hne fuel [] slash true rfl hf
  have hdt := delThrough_found t (q0 ++ r) c res t' hfound hdel
  obtain ⟨⟨c0', hsp'⟩, hmid⟩ := spells_after_delete h1 h2 hdel
  rw [deleteLoop_snoc_found hres (hfound.delPlace _ _ _) rfl hdt, deleteLoop_prune fuel rec init.length init t' q0 c0' rfl hsp' hfi]
  cases rec with
  | false => rfl
  | true => rw [if_pos rfl, if_pos rfl, pruneUp_dropLast_lastStep hmid]

theorem delete_spelled {fuel : Nat} {cls : Cls} {kvs : List (Str × Val)} {xp : Str} {toks : List Str} {p : Pos}
    {c t' : Val} (rec : Bool) (htok : tokenize xp = toks) (hq : startsWith xp ['?'] = false)
    (hs : Spells toks (.dict cls kvs) p c) (hne : toks ≠ []) (hdel : delAt (.dict cls kvs) p = some t')
    (hf : fuel ≥ 2 * toks.length) :
    delete fuel (.dict cls kvs) xp rec = ((if rec then pruneUp t' p.dropLast (p.length - 1) else t'), .ok ()) := by
  rw [delete_of_tokens htok hq]
  exact deleteLoop_spelled fuel rec toks _ p c t' hs hne hdel hf

theorem delete_canonical {fuel : Nat} {cls : Cls} {kvs : List (Str × Val)} {p : Pos} {c t' : Val} (rec : Bool)
    (hp : PlainPos p) (hne : p ≠ []) (hget : getAt (.dict cls kvs) p = some c)
    (hdel : delAt (.dict cls kvs) p = some t') (hf : fuel ≥ 2 * p.length) :
    delete fuel (.dict cls kvs) (slash ++ renderPos p) rec
      = ((if rec then pruneUp t' p.dropLast (p.length - 1) else t'), .ok ()) :=
  delete_spelled rec (tokenize_render p hp) (slash_noQ _) (spells_merged p _ c hp hget) (mergedToks_ne_nil p hne) hdel
    (Nat.le_trans (Nat.mul_le_mul_left 2 (mergedToks_length_le p)) hf)

theorem delete_spelling (fuel : Nat) (cls : Cls) (kvs : List (Str × Val)) (lead : Lead)
    (steps : List StepSp) (c t' : Val) (r : Bool)
    (hp : PlainSteps steps) (hne : steps ≠ []) (hget : stepsGet (.dict cls kvs) steps = some c)
    (hdel : delAt (.dict cls kvs) (posOf (.dict cls kvs) steps) = some t')
    (hf : fuel ≥ 2 * steps.length) :
    delete fuel (.dict cls kvs) (renderSp lead steps) r =
      ((if r then pruneUp t' (posOf (.dict cls kvs) steps).dropLast ((posOf (.dict cls kvs) steps).length - 1)
        else t'), .ok ()) := by
  have hlen := toksOf_length_le steps
  exact delete_spelled r (tokenize_renderSp lead steps hp) (renderSp_noQ lead steps hp hne) (spells_steps steps _ c hp hget)
    (toksOf_ne_nil steps hne) hdel (two_mul_le_fuel hlen hf)

theorem pruneUp_stop : ∀ (k : Nat) (t : Val) (q : Pos) (v : Val), k ≤ q.length →
    getAt t (q.take k) = some v → (k ≠ 0 → isEmptyDict v = false) → pruneUp t q k = t
  | 0, _, _, _, _, _, _ => rfl
  | k + 1, t, q, v, hk, hg, he => by
      rw [pruneUp, pruneStep_skip hg (he (by simp))]
      -- the node one level up has a child, so it is not an empty dictionary
      have hq : q.take (k + 1) = q.take k ++ [q[k]'hk] := by
        rw [List.take_succ_eq_append_getElem]
      rw [hq, getAt_snoc] at hg
      cases hu : getAt t (q.take k) with
      | none => simp [hu] at hg
      | some u =>
        refine pruneUp_stop k t q u (Nat.le_of_succ_le hk) hu (fun _ => ?_)
        simp only [hu, Option.bind] at hg
        cases u with
        | dict cls kvs =>
          cases kvs with
          | nil => cases hs : q[k]'hk <;> simp [hs, child, lookup] at hg
          | cons kv kvs => rfl
        | _ => rfl

end N0.XPath
