import N0Verif.Proofs.XPathFindEq
/-!
  Two things that stand on the branch equations alone.  First the notion of an OUTCOME of a search (`Outcome`: the root comes
  back unchanged with a result that satisfies `Q`, or the search fails with an error of class `E`; `FstClosed`), which purity
  (`Post`), termination (`TermOut`) and the loop below share.  Then the loop: the three `*` loops of the engine (`starKeys` over the
  keys of a dict, `starIdx` over the indices of a list, the loop of `n0list._find` over the elements) are one loop, `fanLoop`, over a
  list of candidates with a lookup `call` per candidate: one unit of fuel per round, the tree threaded through the lookups, the
  values of the hits collected, the first hit remembered for its parent and text.  What is proved about the loop for any `call`:
  what it selects (`fanLoop_coll`) and that it ends with an outcome the lookups have (`fanLoop_outcome`).
-/
namespace N0.XPath
open N0 N0.Py N0.Val

/-! `Post` (purity) and `TermOut` (termination; `TermOut_eq_Outcome`) are both an `Outcome`.  The loops preserve any outcome whose `Q`
survives the way they report their first match. -/

def Outcome (E : PyErr → Prop) (Q : Res → Prop) (root : Val) : PyM (Val × Res) → Prop
  | .ok (root', r) => root' = root ∧ Q r
  | .error e => E e

def FstClosed (Q : Res → Prop) : Prop :=
  ∀ r v, Q r → Q { parent := r.parent, nameIdx := r.nameIdx, value := v, found := r.found, notFound := Option.none }

section
variable {E : PyErr → Prop} {Q : Res → Prop} {root : Val}

/-- the end of a loop: the first hit with the values collected, or NOT FOUND at the parent -/
theorem Outcome_loopEnd (hQ : FstClosed Q) {par : PRef} {found : Str} {fst : Option Res} {v : Val} {nf : Option (List Str)}
    (hnf : Q { parent := par, nameIdx := Option.none, value := Val.none, found := found, notFound := nf })
    (hfst : ∀ r, fst = some r → Q r) :
    Outcome E Q root (match (generalizing := false) fst with
      | some f => .ok (root, { parent := f.parent, nameIdx := f.nameIdx, value := v, found := f.found, notFound := Option.none })
      | Option.none => .ok (root, { parent := par, nameIdx := Option.none, value := Val.none, found := found, notFound := nf })) := by
  cases fst with
  | some r => exact ⟨rfl, hQ r _ (hfst r rfl)⟩
  | none => exact ⟨rfl, hnf⟩

/-- a search followed by what is done with its result (one round of a loop, the step after a re-resolution of
`found`): a failing search ends it; otherwise the rest runs from the same root with a result satisfying `Q` in hand -/
theorem Outcome_bind {Q' : Res → Prop} {x : PyM (Val × Res)} {k : Val → Res → PyM (Val × Res)} (hx : Outcome E Q root x)
    (hk : ∀ r, Q r → Outcome E Q' root (k root r)) :
    Outcome E Q' root (match (generalizing := false) x with
      | .error e => .error e
      | .ok (root', r) => k root' r) := by
  cases x with
  | error e => exact hx
  | ok p => obtain ⟨rfl, hq⟩ := hx; exact hk _ hq

theorem Outcome_fst {fst : Option Res} {r : Res} (hfst : ∀ f, fst = some f → Q f) (hq : Q r) :
    ∀ f, some (fst.getD r) = some f → Q f := by
  intro f hf
  cases hf
  cases fst with
  | none => exact hq
  | some f => exact hfst f rfl

end

/-- what a `*` loop returns when the candidates are used up: the first hit with the collected values, or the miss -/
def fanEnd (rl : Bool) (miss : Res) (acc : List Val) : Option Res → Res
  | some f => { parent := f.parent, nameIdx := f.nameIdx, value := starVals rl acc, found := f.found, notFound := Option.none }
  | Option.none => miss

/-- what a `*` loop does with the outcome of one lookup, `k` being the rest of the loop -/
def fanNext (k : Val → List Val → Option Res → PyM (Val × Res)) (acc : List Val) (fst : Option Res) :
    PyM (Val × Res) → PyM (Val × Res)
  | .error e => .error e
  | .ok (root', r) => if r.isFound then k root' (acc ++ [r.value]) (some (fst.getD r)) else k root' acc fst

/-- the `*` loop over the candidates `as`; `call fuel root a` is the lookup of one candidate -/
def fanLoop {α : Type} (rl : Bool) (miss : Res) (call : Nat → Val → α → PyM (Val × Res)) :
    Nat → Val → List α → List Val → Option Res → PyM (Val × Res)
  | 0, _, _, _, _ => .error .OutOfFuel
  | _ + 1, root, [], acc, fst => .ok (root, fanEnd rl miss acc fst)
  | fuel + 1, root, a :: as, acc, fst =>
    fanNext (fun root' acc' fst' => fanLoop rl miss call fuel root' as acc' fst') acc fst (call fuel root a)

section
variable {α : Type} {rl : Bool} {miss : Res} {call : Nat → Val → α → PyM (Val × Res)} {fuel : Nat} {root : Val}
  {acc : List Val} {fst : Option Res}

theorem fanLoop_zero {as : List α} : fanLoop rl miss call 0 root as acc fst = .error .OutOfFuel := by
  rw [fanLoop]

theorem fanLoop_nil : fanLoop rl miss call (fuel + 1) root [] acc fst = .ok (root, fanEnd rl miss acc fst) := by
  rw [fanLoop]

theorem fanLoop_error {a : α} {as : List α} {e : PyErr} (h : call fuel root a = .error e) :
    fanLoop rl miss call (fuel + 1) root (a :: as) acc fst = .error e := by
  rw [fanLoop, h, fanNext]

theorem fanLoop_hit {a : α} {as : List α} {root' : Val} {r : Res} (h : call fuel root a = .ok (root', r))
    (hr : r.isFound = true) :
    fanLoop rl miss call (fuel + 1) root (a :: as) acc fst
      = fanLoop rl miss call fuel root' as (acc ++ [r.value]) (some (fst.getD r)) := by
  rw [fanLoop, h, fanNext, if_pos hr]

theorem fanLoop_miss {a : α} {as : List α} {root' : Val} {r : Res} (h : call fuel root a = .ok (root', r))
    (hr : r.isFound = false) :
    fanLoop rl miss call (fuel + 1) root (a :: as) acc fst = fanLoop rl miss call fuel root' as acc fst := by
  rw [fanLoop, h, fanNext, if_neg (by rw [hr]; exact Bool.false_ne_true)]

end

/-! ### the three loops of the model -/

section
variable {sp : Pos} {ps rl : Bool} {par : PRef} {found : Str}

/-- the result of a `*` loop without a hit: NOT FOUND at the parent, with the tokens `nf` -/
def fanMiss (par : PRef) (found : Str) (nf : List Str) : Res :=
  { parent := par, nameIdx := Option.none, value := Val.none, found := found, notFound := some nf }

theorem starKeys_eq_fanLoop {toks : List Str} :
    ∀ (keys : List Str) (fuel : Nat) (root : Val) (acc : List Val) (fst : Option Res),
    starKeys fuel root sp ps keys toks par rl found acc fst
      = fanLoop rl (fanMiss par found toks) (fun fu root k => findD fu root sp ps false (k :: toks) par rl found)
          fuel root keys acc fst
  | _, 0, _, _, _ => by rw [starKeys_zero, fanLoop_zero]
  | [], _ + 1, _, _, fst => by rw [starKeys_nil, fanLoop_nil]; cases fst <;> rfl
  | k :: ks, fuel + 1, root, acc, fst => by
    rw [starKeys_cons, fanLoop]
    cases findD fuel root sp ps false (k :: toks) par rl found with
    | error e => rfl
    | ok x =>
      obtain ⟨root', r⟩ := x
      simp only [fanNext, starKeys_eq_fanLoop ks]

/-- the candidates of `starIdx` from `i` are the indices `i, …, n - 1` -/
theorem starIdx_eq_fanLoop {rest all : List Str} :
    ∀ (m i n fuel : Nat) (root : Val) (acc : List Val) (fst : Option Res), n = i + m →
    starIdx fuel root sp ps n i rest par rl found acc fst all
      = fanLoop rl (fanMiss par found all)
          (fun fu root j => findD fu root sp ps false (bracket (natStr j) :: rest) par rl found)
          fuel root (List.range' i m) acc fst
  | _, _, _, 0, _, _, _, _ => by rw [starIdx_zero, fanLoop_zero]
  | 0, i, n, _ + 1, _, _, fst, h => by
    rw [starIdx_end (i := i) (Nat.le_of_eq h), List.range'_zero, fanLoop_nil]; cases fst <;> rfl
  | m + 1, i, n, fuel + 1, root, acc, fst, h => by
    rw [starIdx_next (h ▸ Nat.lt_add_of_pos_right (Nat.succ_pos m)), List.range'_succ, fanLoop]
    cases findD fuel root sp ps false (bracket (natStr i) :: rest) par rl found with
    | error e => rfl
    | ok x =>
      obtain ⟨root', r⟩ := x
      simp only [fanNext, starIdx_eq_fanLoop m (i + 1) n _ _ _ _ (by rw [h, Nat.add_succ, Nat.succ_add])]

/-- the candidates of the loop of `n0list._find` are the elements with their indices -/
theorem findL_loop_eq_fanLoop {tok : Str} {rest : List Str} :
    ∀ (items : List Val) (i fuel : Nat) (root : Val) (acc : List Val) (fst : Option Res),
    findL.loop sp par rl found tok rest fuel root i items acc fst
      = fanLoop rl (fanMiss par found (tok :: rest))
          (fun fu root (a : Val × Nat) =>
            elemFind fu root sp (childRef root par (.idx a.2)) a.1 rest rl (found ++ bracket (natStr a.2)))
          fuel root (items.zipIdx i) acc fst
  | _, _, 0, _, _, _ => by rw [findL_loop_zero, fanLoop_zero]
  | [], _, _ + 1, _, _, fst => by rw [findL_loop_nil, List.zipIdx_nil, fanLoop_nil]; cases fst <;> rfl
  | it :: its, i, fuel + 1, root, acc, fst => by
    rw [findL_loop_cons, List.zipIdx_cons, fanLoop]
    cases elemFind fuel root sp (childRef root par (.idx i)) it rest rl (found ++ bracket (natStr i)) with
    | error e => rfl
    | ok x =>
      obtain ⟨root', r⟩ := x
      simp only [fanNext, findL_loop_eq_fanLoop its]

end

/-- **What a fan-out selects.**  If the lookup of every candidate `a` (any fuel ≥ `F0`) leaves the tree unchanged and is a
hit exactly when `o a` is `some v`, then with value `v`, the loop ends on the same tree, is a hit exactly when something
was selected, and then returns the selected values in order (after those of `acc`). -/
theorem fanLoop_coll {α : Type} (rl : Bool) (miss : Res) (hmiss : miss.isFound = false)
    (call : Nat → Val → α → PyM (Val × Res)) (root : Val) (o : α → Option Val) (F0 : Nat) :
    ∀ (as : List α) (acc : List Val) (fst : Option Res) (fuel : Nat),
      (∀ a ∈ as, ∀ fu ≥ F0, ∃ r, call fu root a = .ok (root, r) ∧ r.isFound = (o a).isSome ∧ ∀ v, o a = some v → r.value = v) →
      fuel ≥ F0 + as.length + 1 → fst.isSome = !acc.isEmpty →
      ∃ r, fanLoop rl miss call fuel root as acc fst = .ok (root, r) ∧ r.isFound = !(acc ++ as.filterMap o).isEmpty ∧
        (r.isFound = true → r.value = starVals rl (acc ++ as.filterMap o)) := by
  intro as
  induction as with
  | nil =>
    intro acc fst fuel _ hf hfst
    obtain ⟨f, rfl⟩ := Nat.exists_eq_add_of_le' (Nat.le_trans (Nat.le_add_left 1 _) hf)
    rw [fanLoop_nil, List.filterMap_nil, List.append_nil]
    cases fst with
    | none =>
      obtain rfl : acc = [] := List.isEmpty_iff.mp (by simpa using hfst)
      exact ⟨_, rfl, hmiss, fun h => absurd (hmiss ▸ h) Bool.false_ne_true⟩
    | some f0 =>
      have hacc : acc.isEmpty = false := by simpa using hfst
      exact ⟨_, rfl, by simp [fanEnd, Res.isFound, hacc], fun _ => rfl⟩
  | cons a as ih =>
    intro acc fst fuel hel hf hfst
    obtain ⟨f, rfl⟩ := Nat.exists_eq_add_of_le' (Nat.le_trans (Nat.le_add_left 1 _) hf)
    have hf' : f ≥ F0 + as.length + 1 := Nat.le_of_succ_le_succ (by rw [List.length_cons] at hf; exact hf)
    obtain ⟨r0, hr0, hfound0, hval0⟩ :=
      hel a List.mem_cons_self f (Nat.le_trans (Nat.le_add_right _ _) (Nat.le_of_succ_le hf'))
    have hel' := fun b hb => hel b (List.mem_cons_of_mem _ hb)
    cases ho : o a with
    | none =>
      rw [fanLoop_miss hr0 (by rw [hfound0, ho]; rfl), List.filterMap_cons_none ho]
      exact ih acc fst f hel' hf' hfst
    | some v =>
      rw [fanLoop_hit hr0 (by rw [hfound0, ho]; rfl), List.filterMap_cons_some ho, hval0 v ho]
      have := ih (acc ++ [v]) (some (fst.getD r0)) f hel' hf' (by simp)
      rw [List.append_assoc] at this
      exact this

theorem fanEnd_of {Q : Res → Prop} (hQ : FstClosed Q) {rl : Bool} {miss : Res} {acc : List Val} {fst : Option Res}
    (hmiss : Q miss) (hfst : ∀ r, fst = some r → Q r) : Q (fanEnd rl miss acc fst) := by
  cases fst with
  | some r => exact hQ r _ (hfst r rfl)
  | none => exact hmiss

/-- **How a fan-out ends.**  If the lookup of every candidate, with fuel in `[M, F)`, leaves the tree unchanged with a result
in `Q` or fails with an error in `E`, so does the loop with fuel in `[M + as.length + 1, F]`. -/
theorem fanLoop_outcome {α : Type} {E : PyErr → Prop} {Q : Res → Prop} (hQ : FstClosed Q) (rl : Bool) (miss : Res)
    (hmiss : Q miss) (call : Nat → Val → α → PyM (Val × Res)) (root : Val) (M F : Nat) :
    ∀ (as : List α) (acc : List Val) (fst : Option Res) (f : Nat), M + as.length + 1 ≤ f → f ≤ F →
      (∀ a ∈ as, ∀ f, M ≤ f → f < F → Outcome E Q root (call f root a)) →
      (∀ r, fst = some r → Q r) →
      Outcome E Q root (fanLoop rl miss call f root as acc fst) := by
  intro as
  induction as with
  | nil =>
    intro acc fst f hf _ _ hfst
    obtain ⟨f', rfl⟩ := Nat.exists_eq_add_of_le' (Nat.le_trans (Nat.le_add_left 1 _) hf)
    rw [fanLoop_nil]
    exact ⟨rfl, fanEnd_of hQ hmiss hfst⟩
  | cons a as ih =>
    intro acc fst f hf hfF hsub hfst
    obtain ⟨f', rfl⟩ := Nat.exists_eq_add_of_le' (Nat.le_trans (Nat.le_add_left 1 _) hf)
    have hf' : M + as.length + 1 ≤ f' := Nat.le_of_succ_le_succ hf
    have hsub' := fun b hb => hsub b (List.mem_cons_of_mem _ hb)
    have ha := hsub a List.mem_cons_self f' (Nat.le_trans (Nat.le_add_right M _) (Nat.le_of_succ_le hf')) hfF
    cases hc : call f' root a with
    | error e => rw [fanLoop_error hc]; rw [hc] at ha; exact ha
    | ok p =>
      obtain ⟨root', r⟩ := p
      rw [hc] at ha
      obtain ⟨rfl, hq⟩ := ha
      cases hr : r.isFound with
      | true =>
        rw [fanLoop_hit hc hr]
        exact ih _ _ f' hf' (Nat.le_of_succ_le hfF) hsub' (Outcome_fst hfst hq)
      | false =>
        rw [fanLoop_miss hc hr]
        exact ih _ _ f' hf' (Nat.le_of_succ_le hfF) hsub' hfst

end N0.XPath
