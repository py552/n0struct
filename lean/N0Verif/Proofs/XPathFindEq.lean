import N0Verif.Model.XPathApi
import N0Verif.Proofs.XPathTokShape
import N0Verif.Py.ListLemmas
/-!
  The equations of `findD`, `findL` (with its loop), `starKeys`, `starIdx`, one per branch and in the order of the branches
  (tokens used up, names, `*`, `[i]` on a list and on a single value, conditions, `text()`, `'..'`, `[new()]`, the loops,
  `findL`), for arbitrary fuel, root, `self`, parent reference and found text; the tests of a branch are hypotheses.  A branch
  that computes on its own gets a name for that (`upNext`/`upCont`, `newMiss`, `textRes`, `elemFind`).  `valOf root (.at q)` is
  `getAt root q` by `rfl`; inside `rw [...]` say `(ps := false) (par := .at q)`.  `↓reduceIte` decides each `if` before `simp` enters it.
-/
namespace N0.XPath
open N0 N0.Py N0.Val

theorem childRef_at (root : Val) (q : Pos) (s : Seg) : childRef root (.at q) s = .at (q ++ [s]) := rfl

theorem isList_inv {v : Val} (h : isList v = true) : ∃ c xs, v = .list c xs := by
  cases v with
  | list c xs => exact ⟨c, xs, rfl⟩
  | _ => cases h

variable {fuel : Nat} {root : Val} {sp : Pos} {ps entry : Bool} {tok : Str} {rest : List Str} {par : PRef}
  {rl : Bool} {found : Str} {toks : List Str} {pv cv : Val} {cls lc : Cls} {kvs : List (Str × Val)} {xs : List Val}
  {name s k op : Str} {idx : Idx} {v : CondVal} {e : PyErr} {n : Nat} {acc : List Val} {fst : Option Res}

theorem findD_zero : findD 0 root sp ps entry toks par rl found = .error .OutOfFuel := by
  rw [findD]

theorem findD_plainSelf (hps : (ps && !entry) = true) :
    findD (fuel + 1) root sp ps entry toks par rl found = .error .AttributeError := by
  rw [findD.eq_def]
  simp only [hps, ↓reduceIte]

/-- `entry` is looked at only to refuse `self._find` on a plain dict (`ps && !entry`): otherwise it can be any value -/
theorem findD_entry (fuel : Nat) (root : Val) (sp : Pos) (e e' : Bool) (toks : List Str) (par : PRef) (rl : Bool)
    (found : Str) :
    findD fuel root sp false e toks par rl found = findD fuel root sp false e' toks par rl found := by
  cases fuel with
  | zero => rfl
  | succ f => rw [findD.eq_def, findD.eq_def (entry := e')]; rfl

theorem findD_nil_slash (hps : (ps && !entry) = false) (hpv : valOf root par = some pv) :
    findD (fuel + 1) root sp ps entry [] par rl slash
      = .ok (root, { parent := par, nameIdx := Option.none, value := pv, found := slash, notFound := Option.none }) := by
  rw [findD]
  simp only [hps, Bool.false_eq_true, ↓reduceIte, hpv]

theorem findD_nil_slash_noParent (hps : (ps && !entry) = false) (hpv : valOf root par = Option.none) :
    findD (fuel + 1) root sp ps entry [] par rl slash = .error .Unsupported := by
  rw [findD]
  simp only [hps, Bool.false_eq_true, ↓reduceIte, hpv]

theorem findD_nil_retok (hps : (ps && !entry) = false) (hf : found ≠ slash) :
    findD (fuel + 1) root sp ps entry [] par rl found
      = findD fuel root sp ps false (tokenize found) (.at sp) rl slash := by
  rw [findD]
  simp only [hps, Bool.false_eq_true, ↓reduceIte, hf]

theorem findD_noParent (hps : (ps && !entry) = false) (hpv : valOf root par = Option.none) :
    findD (fuel + 1) root sp ps entry (tok :: rest) par rl found = .error .Unsupported := by
  rw [findD]
  simp only [hps, Bool.false_eq_true, ↓reduceIte, hpv]

theorem findD_split_error (hps : (ps && !entry) = false) (hpv : valOf root par = some pv)
    (hs : splitNameIndex tok = .error e) :
    findD (fuel + 1) root sp ps entry (tok :: rest) par rl found = .error e := by
  rw [findD]
  simp only [hps, Bool.false_eq_true, ↓reduceIte, hpv, hs]

theorem findD_noStep (hps : (ps && !entry) = false)
    (hpv : valOf root par = some pv) (hs : splitNameIndex tok = .ok (name, idx))
    (hn : name = []) (hi : idx.truthy = false) :
    findD (fuel + 1) root sp ps entry (tok :: rest) par rl found = .error .ValueError := by
  subst hn
  rw [findD]
  simp only [hps, Bool.false_eq_true, ↓reduceIte, hpv, hs, List.isEmpty_nil, hi, Bool.not_false, Bool.and_self]

/-- a name (other than `'..'`) applied to a list: `[*]` is supplied -/
theorem findD_name_on_list (hps : (ps && !entry) = false)
    (hpv : valOf root par = some (.list lc xs)) (hs : splitNameIndex tok = .ok (name, idx))
    (hne : name ≠ []) (hup : name ≠ ['.', '.']) :
    findD (fuel + 1) root sp ps entry (tok :: rest) par rl found
      = findD fuel root sp ps false (bracket ['*'] :: tok :: rest) par rl found := by
  have hne' := isEmpty_false_of_ne hne
  rw [findD]
  simp only [hps, Bool.false_eq_true, ↓reduceIte, hpv, hs, hne', Bool.false_and, Bool.not_false, hup, isList]

theorem findD_name_on_single (hps : (ps && !entry) = false)
    (hpv : valOf root par = some pv) (hs : splitNameIndex tok = .ok (name, idx))
    (hne : name ≠ []) (hup : name ≠ ['.', '.']) (hl : isList pv = false) (hd : isDict pv = false) :
    findD (fuel + 1) root sp ps entry (tok :: rest) par rl found = .error .IndexError := by
  have hne' := isEmpty_false_of_ne hne
  rw [findD]
  simp only [hps, Bool.false_eq_true, ↓reduceIte, hpv, hs, hne', Bool.false_and, Bool.not_false, hup, hl, hd]

theorem findD_star_keys (hps : (ps && !entry) = false)
    (hpv : valOf root par = some (.dict cls kvs)) (hs : splitNameIndex tok = .ok (['*'], idx)) :
    findD (fuel + 1) root sp ps entry (tok :: rest) par rl found
      = starKeys fuel root sp ps (kvs.map Prod.fst) (tok :: rest) par rl found [] Option.none := by
  rw [findD]
  simp only [hps, Bool.false_eq_true, ↓reduceIte, hpv, hs, List.isEmpty_cons, Bool.false_and, Bool.not_false,
    (by decide : (['*'] : Str) ≠ ['.', '.']), isList, isDict, Bool.not_true, dictKeys]

/-- a name other than `'..'` and `*` on a dict: a miss, the result, or the descent that re-emits the index part -/
theorem findD_name_dict (hps : (ps && !entry) = false)
    (hpv : valOf root par = some (.dict cls kvs)) (hs : splitNameIndex tok = .ok (name, idx))
    (hne : name ≠ []) (hup : name ≠ ['.', '.']) (hstar : name ≠ ['*']) :
    findD (fuel + 1) root sp ps entry (tok :: rest) par rl found
      = match lookup name kvs with
        | Option.none =>
          .ok (root, { parent := par, nameIdx := Option.none, value := Val.none, found := found,
                       notFound := some (tok :: rest) })
        | some cv =>
          if rest.isEmpty && idx = .none then
            .ok (root, { parent := par, nameIdx := some name, value := cv, found := found ++ slash ++ name,
                         notFound := Option.none })
          else
            match (generalizing := false) idx with
            | .none => findD fuel root sp ps false rest (childRef root par (.key name)) rl (found ++ slash ++ name)
            | .str s =>
              findD fuel root sp ps false (bracket s :: rest) (childRef root par (.key name)) rl (found ++ slash ++ name)
            | .cond k op v =>
              findD fuel root sp ps false (bracket (k ++ op ++ ['\''] ++ condValStr v ++ ['\'']) :: rest)
                (childRef root par (.key name)) rl (found ++ slash ++ name) := by
  have hne' := isEmpty_false_of_ne hne
  rw [findD]
  simp only [hps, Bool.false_eq_true, ↓reduceIte, hpv, hs, hne', Bool.false_and, Bool.not_false, hup, hstar,
    isList, isDict, Bool.not_true]
  rfl

/-- a name the dict does not have: NOT FOUND, whatever index or condition the token carries -/
theorem findD_key_miss (hps : (ps && !entry) = false)
    (hpv : valOf root par = some (.dict cls kvs)) (hs : splitNameIndex tok = .ok (name, idx))
    (hne : name ≠ []) (hup : name ≠ ['.', '.']) (hstar : name ≠ ['*']) (hl : lookup name kvs = Option.none) :
    findD (fuel + 1) root sp ps entry (tok :: rest) par rl found
      = .ok (root, { parent := par, nameIdx := Option.none, value := Val.none, found := found,
                     notFound := some (tok :: rest) }) := by
  rw [findD_name_dict hps hpv hs hne hup hstar, hl]

theorem findD_key_last (hps : (ps && !entry) = false)
    (hpv : valOf root par = some (.dict cls kvs)) (hs : splitNameIndex tok = .ok (name, .none))
    (hne : name ≠ []) (hup : name ≠ ['.', '.']) (hstar : name ≠ ['*']) (hl : lookup name kvs = some cv) :
    findD (fuel + 1) root sp ps entry [tok] par rl found
      = .ok (root, { parent := par, nameIdx := some name, value := cv, found := found ++ slash ++ name,
                     notFound := Option.none }) := by
  rw [findD_name_dict hps hpv hs hne hup hstar, hl]
  rfl

theorem findD_key_step (hps : (ps && !entry) = false)
    (hpv : valOf root par = some (.dict cls kvs)) (hs : splitNameIndex tok = .ok (name, .none))
    (hne : name ≠ []) (hup : name ≠ ['.', '.']) (hstar : name ≠ ['*']) (hl : lookup name kvs = some cv)
    (hrest : rest ≠ []) :
    findD (fuel + 1) root sp ps entry (tok :: rest) par rl found
      = findD fuel root sp ps false rest (childRef root par (.key name)) rl (found ++ slash ++ name) := by
  rw [findD_name_dict hps hpv hs hne hup hstar, hl]
  simp only [isEmpty_false_of_ne hrest, Bool.false_and, Bool.false_eq_true, ↓reduceIte]

/-- `name[s]`: descend to `name` and re-emit `[s]` (whatever `s` is) -/
theorem findD_keyidx_step (hps : (ps && !entry) = false)
    (hpv : valOf root par = some (.dict cls kvs)) (hs : splitNameIndex tok = .ok (name, .str s))
    (hne : name ≠ []) (hup : name ≠ ['.', '.']) (hstar : name ≠ ['*']) (hl : lookup name kvs = some cv) :
    findD (fuel + 1) root sp ps entry (tok :: rest) par rl found
      = findD fuel root sp ps false (bracket s :: rest) (childRef root par (.key name)) rl (found ++ slash ++ name) := by
  rw [findD_name_dict hps hpv hs hne hup hstar, hl]
  simp only [reduceCtorEq, decide_false, Bool.and_false, Bool.false_eq_true, ↓reduceIte]

/-- `name[k op v]`: descend to `name` and re-emit the condition with a quoted value -/
theorem findD_keycond_step (hps : (ps && !entry) = false)
    (hpv : valOf root par = some (.dict cls kvs)) (hs : splitNameIndex tok = .ok (name, .cond k op v))
    (hne : name ≠ []) (hup : name ≠ ['.', '.']) (hstar : name ≠ ['*']) (hl : lookup name kvs = some cv) :
    findD (fuel + 1) root sp ps entry (tok :: rest) par rl found
      = findD fuel root sp ps false (bracket (k ++ op ++ ['\''] ++ condValStr v ++ ['\'']) :: rest)
          (childRef root par (.key name)) rl (found ++ slash ++ name) := by
  rw [findD_name_dict hps hpv hs hne hup hstar, hl]
  simp only [reduceCtorEq, decide_false, Bool.and_false, Bool.false_eq_true, ↓reduceIte]

theorem findD_star_idx (hps : (ps && !entry) = false)
    (hpv : valOf root par = some (.list lc xs)) (hs : splitNameIndex tok = .ok ([], .str ['*'])) :
    findD (fuel + 1) root sp ps entry (tok :: rest) par rl found
      = starIdx fuel root sp ps xs.length 0 rest par rl found [] Option.none (tok :: rest) := by
  rw [findD]
  simp only [hps, Bool.false_eq_true, ↓reduceIte, hpv, hs, List.isEmpty_nil, Idx.truthy, List.isEmpty_cons,
    Bool.not_false, Bool.and_false, Bool.not_true, star_ne_sNew]

/-- the list an index step works on and the reference under which it is known: the parent itself when it is a list,
otherwise a temporary one-element list around it -/
def hiddenList (par : PRef) (pv : Val) : PRef × List Val :=
  match pv with
  | .list _ xs => (par, xs)
  | v => (.wrap par, [v])

theorem hiddenList_single (hl : isList pv = false) : hiddenList par pv = (.wrap par, [pv]) := by
  cases pv with
  | list => cases hl
  | _ => rfl

/-- **the parent an index step reports**, and below which it goes on: the parent itself when it holds a list, the temporary
one-element list around its value otherwise -/
def idxRef (par : PRef) (pv : Val) : PRef := (hiddenList par pv).1

theorem idxRef_list (hl : isList pv = true) : idxRef par pv = par := by
  obtain ⟨c, xs, rfl⟩ := isList_inv hl; rfl

theorem idxRef_single (hl : isList pv = false) : idxRef par pv = .wrap par := by
  rw [idxRef, hiddenList_single hl]

/-- the two cases as one statement (for lemmas stated on an arbitrary reference) -/
theorem idxRef_cases (par : PRef) (pv : Val) :
    (isList pv = true ∧ idxRef par pv = par) ∨ (isList pv = false ∧ idxRef par pv = .wrap par) := by
  cases hl : isList pv
  · exact .inr ⟨rfl, idxRef_single hl⟩
  · exact .inl ⟨rfl, idxRef_list hl⟩

/-- the step `[i]`: outside the list NOT FOUND (the index is reported), inside the element or the descent to it -/
theorem findD_idx {i : Int} {par' : PRef} {items : List Val} (hps : (ps && !entry) = false)
    (hpv : valOf root par = some pv) (hk : IdxTok tok s i)
    (hh : hiddenList par pv = (par', items)) :
    findD (fuel + 1) root sp ps entry (tok :: rest) par rl found
      = if i ≥ items.length || i < -(items.length : Int) then
          .ok (root, { parent := par', nameIdx := some (bracket (intStr i)), value := Val.none, found := found,
                       notFound := some (tok :: rest) })
        else
          match normIdx i items.length with
          | Option.none => .error .Unsupported
          | some n =>
            if rest.isEmpty then
              .ok (root, { parent := par', nameIdx := some (bracket (intStr i)), value := items.getD n Val.none,
                           found := found, notFound := Option.none })
            else findD fuel root sp ps false rest (childRef root par' (.idx n)) rl (found ++ bracket (intStr i)) := by
  obtain ⟨hs, hne, hnew, hstar, he⟩ := hk
  have hne' := isEmpty_false_of_ne hne
  rw [findD]
  simp only [hps, Bool.false_eq_true, ↓reduceIte, hpv, hs, List.isEmpty_nil, Idx.truthy, hne', Bool.not_false,
    Bool.and_false, Bool.not_true, hnew, hstar, he]
  cases pv <;> cases hh <;> rfl

theorem findD_idx_out {i : Int} (hps : (ps && !entry) = false)
    (hpv : valOf root par = some (.list lc xs)) (hk : IdxTok tok s i)
    (hout : i ≥ (xs.length : Int) ∨ i < -(xs.length : Int)) :
    findD (fuel + 1) root sp ps entry (tok :: rest) par rl found
      = .ok (root, { parent := par, nameIdx := some (bracket (intStr i)), value := Val.none, found := found,
                     notFound := some (tok :: rest) }) := by
  rw [findD_idx hps hpv hk rfl]
  simp only [Bool.or_eq_true, decide_eq_true_eq, hout, ↓reduceIte]

theorem findD_idx_last {i : Int} (hps : (ps && !entry) = false)
    (hpv : valOf root par = some (.list lc xs)) (hk : IdxTok tok s i)
    (hn : normIdx i xs.length = some n) :
    findD (fuel + 1) root sp ps entry [tok] par rl found
      = .ok (root, { parent := par, nameIdx := some (bracket (intStr i)), value := xs.getD n Val.none, found := found,
                     notFound := Option.none }) := by
  rw [findD_idx hps hpv hk rfl]
  simp only [Bool.or_eq_true, decide_eq_true_eq, normIdx_range hn, ↓reduceIte, hn, List.isEmpty_nil]

theorem findD_idx_step {i : Int} (hps : (ps && !entry) = false)
    (hpv : valOf root par = some (.list lc xs)) (hk : IdxTok tok s i)
    (hn : normIdx i xs.length = some n) (hrest : rest ≠ []) :
    findD (fuel + 1) root sp ps entry (tok :: rest) par rl found
      = findD fuel root sp ps false rest (childRef root par (.idx n)) rl (found ++ bracket (intStr i)) := by
  rw [findD_idx hps hpv hk rfl]
  simp only [Bool.or_eq_true, decide_eq_true_eq, normIdx_range hn, ↓reduceIte, hn, isEmpty_false_of_ne hrest, Bool.false_eq_true]

theorem findD_idx_evalError (hps : (ps && !entry) = false)
    (hpv : valOf root par = some pv) (hs : splitNameIndex tok = .ok ([], .str s))
    (hne : s ≠ []) (hnew : s ≠ sNew) (hstar : s ≠ ['*']) (he : n0eval s = .error e) :
    findD (fuel + 1) root sp ps entry (tok :: rest) par rl found = .error e := by
  have hne' := isEmpty_false_of_ne hne
  rw [findD]
  simp only [hps, Bool.false_eq_true, ↓reduceIte, hpv, hs, List.isEmpty_nil, Idx.truthy, hne', Bool.not_false,
    Bool.and_false, Bool.not_true, hnew, hstar, he]

/-- an index text that is not a number (`str >= int`) -/
theorem findD_idx_evalStr {t : Str} (hps : (ps && !entry) = false)
    (hpv : valOf root par = some pv) (hs : splitNameIndex tok = .ok ([], .str s))
    (hne : s ≠ []) (hnew : s ≠ sNew) (hstar : s ≠ ['*']) (he : n0eval s = .ok (.str t)) :
    findD (fuel + 1) root sp ps entry (tok :: rest) par rl found = .error .TypeError := by
  have hne' := isEmpty_false_of_ne hne
  rw [findD]
  simp only [hps, Bool.false_eq_true, ↓reduceIte, hpv, hs, List.isEmpty_nil, Idx.truthy, hne', Bool.not_false,
    Bool.and_false, Bool.not_true, hnew, hstar, he]

/-! ### `findD`: the index step on a single value

The value is wrapped into a temporary one-element list, known as `.wrap par`. -/

theorem findD_star_idx_single (hps : (ps && !entry) = false)
    (hpv : valOf root par = some pv) (hl : isList pv = false) (hs : splitNameIndex tok = .ok ([], .str ['*'])) :
    findD (fuel + 1) root sp ps entry (tok :: rest) par rl found
      = starIdx fuel root sp ps 1 0 rest (.wrap par) rl found [] Option.none (tok :: rest) := by
  rw [findD]
  simp only [hps, Bool.false_eq_true, ↓reduceIte, hpv, hs, List.isEmpty_nil, Idx.truthy, List.isEmpty_cons,
    Bool.not_false, Bool.and_false, Bool.not_true, star_ne_sNew]
  cases pv with
  | list => cases hl
  | _ => rfl

theorem findD_idx_out_single {i : Int} (hps : (ps && !entry) = false)
    (hpv : valOf root par = some pv) (hl : isList pv = false) (hk : IdxTok tok s i)
    (hout : i ≥ 1 ∨ i < -1) :
    findD (fuel + 1) root sp ps entry (tok :: rest) par rl found
      = .ok (root, { parent := .wrap par, nameIdx := some (bracket (intStr i)), value := Val.none, found := found,
                     notFound := some (tok :: rest) }) := by
  have hout' : i ≥ (([pv] : List Val).length : Int) ∨ i < -(([pv] : List Val).length : Int) := hout
  rw [findD_idx hps hpv hk (hiddenList_single hl)]
  simp only [Bool.or_eq_true, decide_eq_true_eq, hout', ↓reduceIte]

theorem findD_idx_last_single {i : Int} (hps : (ps && !entry) = false)
    (hpv : valOf root par = some pv) (hl : isList pv = false) (hk : IdxTok tok s i)
    (hi : i = 0 ∨ i = -1) :
    findD (fuel + 1) root sp ps entry [tok] par rl found
      = .ok (root, { parent := .wrap par, nameIdx := some (bracket (intStr i)), value := pv, found := found,
                     notFound := Option.none }) := by
  have hin : ¬ (i ≥ (([pv] : List Val).length : Int) ∨ i < -(([pv] : List Val).length : Int)) := by
    simp only [List.length_singleton]; omega
  have hn : normIdx i ([pv] : List Val).length = some 0 := by rcases hi with rfl | rfl <;> rfl
  rw [findD_idx hps hpv hk (hiddenList_single hl)]
  simp only [Bool.or_eq_true, decide_eq_true_eq, hin, ↓reduceIte, hn, List.isEmpty_nil, List.getD_cons_zero]

/-- the only element of the temporary list is the value itself: the walk goes on at `par` -/
theorem findD_idx_step_single {i : Int} (hps : (ps && !entry) = false)
    (hpv : valOf root par = some pv) (hl : isList pv = false) (hk : IdxTok tok s i)
    (hi : i = 0 ∨ i = -1) (hrest : rest ≠ []) :
    findD (fuel + 1) root sp ps entry (tok :: rest) par rl found
      = findD fuel root sp ps false rest par rl (found ++ bracket (intStr i)) := by
  have hin : ¬ (i ≥ (([pv] : List Val).length : Int) ∨ i < -(([pv] : List Val).length : Int)) := by
    simp only [List.length_singleton]; omega
  have hn : normIdx i ([pv] : List Val).length = some 0 := by rcases hi with rfl | rfl <;> rfl
  rw [findD_idx hps hpv hk (hiddenList_single hl)]
  simp only [Bool.or_eq_true, decide_eq_true_eq, hin, ↓reduceIte, hn, isEmpty_false_of_ne hrest, Bool.false_eq_true,
    childRef]

/-- a condition applied to a list (an empty one too): `[*]` is supplied -/
theorem findD_cond_on_list (hps : (ps && !entry) = false)
    (hpv : valOf root par = some (.list lc xs)) (hs : splitNameIndex tok = .ok ([], .cond k op v))
    (hk : k ≠ sTextFn) :
    findD (fuel + 1) root sp ps entry (tok :: rest) par rl found
      = findD fuel root sp ps false (bracket ['*'] :: tok :: rest) par rl found := by
  rw [findD]
  simp only [hps, Bool.false_eq_true, ↓reduceIte, hpv, hs, List.isEmpty_nil, Idx.truthy, Bool.not_true,
    Bool.and_false, hk]

theorem findD_cond_miss (hps : (ps && !entry) = false)
    (hpv : valOf root par = some (.dict cls kvs)) (hs : splitNameIndex tok = .ok ([], .cond k op v))
    (hk : k ≠ sTextFn) (hl : lookup k kvs = Option.none) :
    findD (fuel + 1) root sp ps entry (tok :: rest) par rl found
      = .ok (root, { parent := par, nameIdx := Option.none, value := Val.none, found := found,
                     notFound := some (tok :: rest) }) := by
  rw [findD]
  simp only [hps, Bool.false_eq_true, ↓reduceIte, hpv, hs, List.isEmpty_nil, Idx.truthy, Bool.not_true,
    Bool.and_false, hk, hl]

/-- a dict that has the key: descend to `parent[k]`, test its text, come back with `'..'` -/
theorem findD_cond_step {kv : Val}
    (hps : (ps && !entry) = false)
    (hpv : valOf root par = some (.dict cls kvs)) (hs : splitNameIndex tok = .ok ([], .cond k op v))
    (hk : k ≠ sTextFn) (hl : lookup k kvs = some kv) :
    findD (fuel + 1) root sp ps entry (tok :: rest) par rl found
      = findD fuel root sp ps false (bracket (sTextFn ++ op ++ condValStr v) :: ['.', '.'] :: rest)
          (childRef root par (.key k)) rl (found ++ slash ++ k) := by
  rw [findD]
  simp only [hps, Bool.false_eq_true, ↓reduceIte, hpv, hs, List.isEmpty_nil, Idx.truthy, Bool.not_true,
    Bool.and_false, hk, hl]

/-- a single value has no keys -/
theorem findD_cond_on_single (hps : (ps && !entry) = false)
    (hpv : valOf root par = some pv) (hl : isList pv = false) (hd : isDict pv = false)
    (hs : splitNameIndex tok = .ok ([], .cond k op v)) (hk : k ≠ sTextFn) :
    findD (fuel + 1) root sp ps entry (tok :: rest) par rl found
      = .ok (root, { parent := par, nameIdx := Option.none, value := Val.none, found := found,
                     notFound := some (tok :: rest) }) := by
  rw [findD]
  simp only [hps, Bool.false_eq_true, ↓reduceIte, hpv, hs, List.isEmpty_nil, Idx.truthy, Bool.not_true,
    Bool.and_false, hk]
  cases pv with
  | list => cases hl
  | dict => cases hd
  | _ => rfl

/-- the comparison the second character of the operator names -/
def textCmp (pv : Val) (op : Str) (v : CondVal) : PyM Bool :=
  if op.drop 1 = ['='] then .ok (textEqCond pv v)
  else if op.drop 1 = ['~'] then .ok (pyInCond v pv)
  else .error .SyntaxError

/-- outcome of the `text()` test on the node itself: the comparison, negated when the operator starts with `!` -/
def textRes (pv : Val) (op : Str) (v : CondVal) : PyM Bool :=
  match textCmp pv op v with
  | .error e => .error e
  | .ok b =>
    if op.take 1 = ['!'] then .ok (!b)
    else if op.take 1 ≠ ['='] && op.take 1 ≠ ['~'] then .error .SyntaxError
    else .ok b

theorem textRes_eq (pv : Val) (v : CondVal) : textRes pv ['=', '='] v = .ok (textEqCond pv v) := rfl
theorem textRes_ne (pv : Val) (v : CondVal) : textRes pv ['!', '='] v = .ok (!textEqCond pv v) := rfl
theorem textRes_in (pv : Val) (v : CondVal) : textRes pv ['~', '~'] v = .ok (pyInCond v pv) := rfl
theorem textRes_notIn (pv : Val) (v : CondVal) : textRes pv ['!', '~'] v = .ok (!pyInCond v pv) := rfl

theorem findD_text_guard {op : Str} (hps : (ps && !entry) = false)
    (hpv : valOf root par = some pv) (hs : splitNameIndex tok = .ok ([], .cond sTextFn op v))
    (hg : textGuard pv v = true) :
    findD (fuel + 1) root sp ps entry (tok :: rest) par rl found = .error .Unsupported := by
  rw [findD]
  simp only [hps, Bool.false_eq_true, ↓reduceIte, hpv, hs, List.isEmpty_nil, Idx.truthy, Bool.not_true,
    Bool.and_false, hg]

theorem findD_text {op : Str} (hps : (ps && !entry) = false)
    (hpv : valOf root par = some pv) (hs : splitNameIndex tok = .ok ([], .cond sTextFn op v))
    (hg : textGuard pv v = false) :
    findD (fuel + 1) root sp ps entry (tok :: rest) par rl found
      = match textRes pv op v with
        | .error e => .error e
        | .ok true => findD fuel root sp ps false rest par rl found
        | .ok false => .ok (root, { parent := par, nameIdx := Option.none, value := Val.none, found := found,
                                    notFound := some (tok :: rest) }) := by
  rw [findD]
  simp only [hps, Bool.false_eq_true, ↓reduceIte, hpv, hs, List.isEmpty_nil, Idx.truthy, Bool.not_true,
    Bool.and_false, hg]
  unfold textRes
  generalize hc : textCmp pv op v = cmp
  unfold textCmp at hc
  rw [hc]
  cases cmp <;> rfl

/-! ### `findD`: the `'..'` step

The found text minus its last piece is resolved again from `self`; `upNext` is the node that result stands for
(`nxt_parent_node`), `upCont` what the step does from there. -/

def upNext (root : Val) (cur : Res) (cpv : Val) : PyM PRef :=
  match cur.nameIdx with
  | some ni =>
    if ni.isEmpty then .ok cur.parent else
    match splitNameIndex ni with
    | .error e => .error e
    | .ok (cn, ci) =>
      if !cn.isEmpty then
        match pyGetKey cpv cn with
        | .ok _ => .ok (childRef root cur.parent (.key cn))
        | .error e => .error e
      else match ci with
        | .str s =>
          match n0eval s with
          | .error e => .error e
          | .ok ev =>
            match pyGetIdx cpv ev with
            | .error e => .error e
            | .ok (_, some n) => .ok (childRef root cur.parent (.idx n))
            | .ok (_, Option.none) => match ev with
              | .str k => .ok (childRef root cur.parent (.key k))
              | _ => .error .Unsupported
        | _ => .error .TypeError
  | Option.none => .ok cur.parent

def upCont (fuel : Nat) (root : Val) (sp : Pos) (ps rl : Bool) (found : Str) (idx : Idx) (rest : List Str) (cur : Res)
    (nxt : PRef) : PyM (Val × Res) :=
  if idx.truthy || rest.length ≥ 1 then
    if idx.truthy then
      match idx with
      | .str s => findD fuel root sp ps false (bracket s :: rest) nxt rl (upFound cur)
      | _ => .error .Unsupported
    else findD fuel root sp ps false rest nxt rl (upFound cur)
  else
    match cur.nameIdx, valOf root nxt with
    | some ni, some nv =>
      if ni.isEmpty then .error .Unsupported else
      .ok (root, { parent := cur.parent, nameIdx := some ni, value := nv, found := found ++ slash ++ ni, notFound := Option.none })
    | Option.none, some nv =>
      if cur.isFound then
        .ok (root, { parent := cur.parent, nameIdx := Option.none, value := nv, found := cur.found, notFound := Option.none })
      else .error .TypeError
    | Option.none, Option.none => .error .TypeError
    | _, Option.none => .error .Unsupported

theorem findD_up (hps : (ps && !entry) = false)
    (hpv : valOf root par = some pv) (hs : splitNameIndex tok = .ok (['.', '.'], idx)) :
    findD (fuel + 1) root sp ps entry (tok :: rest) par rl found
      = match findD fuel root sp ps false (((splitChar '/' (fixBr found)).filter (fun t => !t.isEmpty)).dropLast)
            (.at sp) rl slash with
        | .error e => .error e
        | .ok (root', cur) =>
          match valOf root' cur.parent with
          | Option.none => .error .Unsupported
          | some cpv =>
            match upNext root' cur cpv with
            | .error e => .error e
            | .ok nxt => upCont fuel root' sp ps rl found idx rest cur nxt := by
  rw [findD]
  simp only [hps, Bool.false_eq_true, ↓reduceIte, hpv, hs, List.isEmpty_cons, Bool.false_and, Bool.not_false]
  rfl

theorem upNext_root {cur : Res} {cpv : Val} (h : cur.nameIdx = Option.none) :
    upNext root cur cpv = .ok cur.parent := by
  simp only [upNext, h]

/-- the result was found under a key of a dict: that child -/
theorem upNext_key {cur : Res} {ni cn : Str} {ci : Idx} {c : Val}
    (h : cur.nameIdx = some ni) (hni : ni ≠ []) (hs : splitNameIndex ni = .ok (cn, ci)) (hcn : cn ≠ [])
    (hl : lookup cn kvs = some c) :
    upNext root cur (.dict cls kvs) = .ok (childRef root cur.parent (.key cn)) := by
  simp only [upNext, h, isEmpty_false_of_ne hni, Bool.false_eq_true, ↓reduceIte, hs, isEmpty_false_of_ne hcn,
    Bool.not_false, pyGetKey, hl]

/-- the result was found as an element of a list: that element -/
theorem upNext_idx {cur : Res} {ni s : Str} {i : Int}
    (h : cur.nameIdx = some ni) (hni : ni ≠ []) (hs : splitNameIndex ni = .ok ([], .str s))
    (he : n0eval s = .ok (.int i)) (hn : normIdx i xs.length = some n) :
    upNext root cur (.list lc xs) = .ok (childRef root cur.parent (.idx n)) := by
  simp only [upNext, h, isEmpty_false_of_ne hni, Bool.false_eq_true, ↓reduceIte, hs, List.isEmpty_nil,
    Bool.not_true, he, pyGetIdx, hn]

theorem upCont_step {cur : Res} {nxt : PRef} (hrest : rest ≠ []) :
    upCont fuel root sp ps rl found .none rest cur nxt = findD fuel root sp ps false rest nxt rl (upFound cur) := by
  have hr : rest.length ≥ 1 := List.length_pos_iff.mpr hrest
  simp only [upCont, Idx.truthy, Bool.false_or, hr, decide_true, ↓reduceIte, Bool.false_eq_true]

theorem upCont_idx {cur : Res} {nxt : PRef} (hne : s ≠ []) :
    upCont fuel root sp ps rl found (.str s) rest cur nxt
      = findD fuel root sp ps false (bracket s :: rest) nxt rl (upFound cur) := by
  simp only [upCont, Idx.truthy, isEmpty_false_of_ne hne, Bool.not_false, Bool.true_or, ↓reduceIte]

/-- `'..'` as the last token, below the root: the node gone up to is the result -/
theorem upCont_last {cur : Res} {nxt : PRef} {ni : Str} {nv : Val}
    (h : cur.nameIdx = some ni) (hni : ni ≠ []) (hnv : valOf root nxt = some nv) :
    upCont fuel root sp ps rl found .none [] cur nxt
      = .ok (root, { parent := cur.parent, nameIdx := some ni, value := nv, found := found ++ slash ++ ni,
                     notFound := Option.none }) := by
  simp only [upCont, Idx.truthy, Bool.false_or, List.length_nil, ge_iff_le, (by decide : ¬ 1 ≤ 0), decide_false,
    Bool.false_eq_true, ↓reduceIte, h, hnv, isEmpty_false_of_ne hni]

/-- `'..'` as the last token, surfaced to the root: the root is found -/
theorem upCont_last_root {cur : Res} {nxt : PRef} {nv : Val}
    (h : cur.nameIdx = Option.none) (hnv : valOf root nxt = some nv) (hf : cur.isFound = true) :
    upCont fuel root sp ps rl found .none [] cur nxt
      = .ok (root, { parent := cur.parent, nameIdx := Option.none, value := nv, found := cur.found,
                     notFound := Option.none }) := by
  simp only [upCont, Idx.truthy, Bool.false_or, List.length_nil, ge_iff_le, (by decide : ¬ 1 ≤ 0), decide_false,
    Bool.false_eq_true, ↓reduceIte, h, hnv, hf]

/-! ### `findD`: the step `[new()]`

The found text is resolved again from `self`; the step itself is always a miss, `newMiss` says below which node. -/

def newMiss (root : Val) (cur : Res) (cpv : Val) (rest : List Str) : PyM (Val × Res) :=
  match cur.nameIdx with
  | Option.none => .error .IndexError
  | some ni =>
    match cpv with
    | .dict _ kvs =>
      match lookup ni kvs with
      | some old =>
        if isList old then
          .ok (root, { parent := childRef root cur.parent (.key ni), nameIdx := Option.none, value := Val.none, found := cur.found, notFound := some (bracket sNew :: rest) })
        else
          .ok (root, { parent := cur.parent, nameIdx := Option.none, value := Val.none, found := cur.found, notFound := some ((ni ++ bracket sNew) :: rest) })
      | Option.none =>
        .ok (root, { parent := cur.parent, nameIdx := Option.none, value := Val.none, found := cur.found, notFound := some ((ni ++ bracket sNew) :: rest) })
    | .list _ xs =>
      (match (if startsWith ni ['['] && endsWith ni [']'] then pyInt ((ni.drop 1).dropLast) else Option.none) with
       | Option.none => .error .Unsupported
       | some i =>
         match normIdx i xs.length with
         | Option.none => .error .IndexError
         | some n =>
           let old := xs.getD n Val.none
           if isList old then
             .ok (root, { parent := childRef root cur.parent (.idx n), nameIdx := Option.none, value := Val.none, found := cur.found, notFound := some (bracket sNew :: rest) })
           else .error .IndexError)
    | _ => .error .IndexError

theorem findD_new (hps : (ps && !entry) = false)
    (hpv : valOf root par = some pv) (hs : splitNameIndex tok = .ok ([], .str sNew)) :
    findD (fuel + 1) root sp ps entry (tok :: rest) par rl found
      = match findD fuel root sp ps false (tokenize found) (.at sp) rl slash with
        | .error e => .error e
        | .ok (root', cur) =>
          match valOf root' cur.parent with
          | Option.none => .error .Unsupported
          | some cpv => newMiss root' cur cpv rest := by
  rw [findD]
  simp only [hps, Bool.false_eq_true, ↓reduceIte, hpv, hs, List.isEmpty_nil, Idx.truthy,
    (by rw [sNew_eq]; rfl : sNew.isEmpty = false), Bool.not_false, Bool.and_false, Bool.not_true]
  rfl

/-- below a name that holds a list: the list is the parent of the element to come -/
theorem newMiss_dict_list {cur : Res} {ni : Str} {old : Val}
    (h : cur.nameIdx = some ni) (hl : lookup ni kvs = some old) (ho : isList old = true) :
    newMiss root cur (.dict cls kvs) rest
      = .ok (root, { parent := childRef root cur.parent (.key ni), nameIdx := Option.none, value := Val.none,
                     found := cur.found, notFound := some (bracket sNew :: rest) }) := by
  simp only [newMiss, h, hl, ho, ↓reduceIte]

/-- below a name that holds a single value: the miss of `name[new()]` below the dict -/
theorem newMiss_dict_single {cur : Res} {ni : Str} {old : Val}
    (h : cur.nameIdx = some ni) (hl : lookup ni kvs = some old) (ho : isList old = false) :
    newMiss root cur (.dict cls kvs) rest
      = .ok (root, { parent := cur.parent, nameIdx := Option.none, value := Val.none, found := cur.found,
                     notFound := some ((ni ++ bracket sNew) :: rest) }) := by
  simp only [newMiss, h, hl, ho, Bool.false_eq_true, ↓reduceIte]

theorem newMiss_dict_absent {cur : Res} {ni : Str}
    (h : cur.nameIdx = some ni) (hl : lookup ni kvs = Option.none) :
    newMiss root cur (.dict cls kvs) rest
      = .ok (root, { parent := cur.parent, nameIdx := Option.none, value := Val.none, found := cur.found,
                     notFound := some ((ni ++ bracket sNew) :: rest) }) := by
  simp only [newMiss, h, hl]

/-- below an element of a list that is itself a list -/
theorem newMiss_list {cur : Res} {ni : Str} {i : Int}
    (h : cur.nameIdx = some ni)
    (hi : (if startsWith ni ['['] && endsWith ni [']'] then pyInt ((ni.drop 1).dropLast) else Option.none) = some i)
    (hn : normIdx i xs.length = some n) (ho : isList (xs.getD n Val.none) = true) :
    newMiss root cur (.list lc xs) rest
      = .ok (root, { parent := childRef root cur.parent (.idx n), nameIdx := Option.none, value := Val.none,
                     found := cur.found, notFound := some (bracket sNew :: rest) }) := by
  simp only [newMiss, h, hi, hn, ho, ↓reduceIte]

/-- what a `*` loop returns as value: the one hit when lists are not asked for, otherwise the list of hits -/
def starVals (rl : Bool) (acc : List Val) : Val :=
  if !rl && acc.length = 1 then acc.headD Val.none else .list .n0 acc

theorem starKeys_zero {keys : List Str} :
    starKeys 0 root sp ps keys toks par rl found acc fst = .error .OutOfFuel := by
  rw [starKeys]

/-- no key left: the first hit carries the parent, the values are collected; no hit at all is NOT FOUND -/
theorem starKeys_nil :
    starKeys (fuel + 1) root sp ps [] toks par rl found acc fst
      = match fst with
        | some f => .ok (root, { parent := f.parent, nameIdx := f.nameIdx, value := starVals rl acc, found := f.found,
                                 notFound := Option.none })
        | Option.none => .ok (root, { parent := par, nameIdx := Option.none, value := Val.none, found := found,
                                      notFound := some toks }) := by
  unfold starKeys
  cases fst <;> rfl

theorem starKeys_cons {k : Str} {ks : List Str} :
    starKeys (fuel + 1) root sp ps (k :: ks) toks par rl found acc fst
      = match findD fuel root sp ps false (k :: toks) par rl found with
        | .error e => .error e
        | .ok (root', r) =>
          if r.isFound then starKeys fuel root' sp ps ks toks par rl found (acc ++ [r.value]) (some (fst.getD r))
          else starKeys fuel root' sp ps ks toks par rl found acc fst := by
  rw [starKeys]
  cases fst <;> rfl

variable {i : Nat} {all : List Str}

theorem starIdx_zero : starIdx 0 root sp ps n i rest par rl found acc fst all = .error .OutOfFuel := by
  rw [starIdx]

theorem starIdx_end (h : i ≥ n) :
    starIdx (fuel + 1) root sp ps n i rest par rl found acc fst all
      = match fst with
        | some f => .ok (root, { parent := f.parent, nameIdx := f.nameIdx, value := starVals rl acc, found := f.found,
                                 notFound := Option.none })
        | Option.none => .ok (root, { parent := par, nameIdx := Option.none, value := Val.none, found := found,
                                      notFound := some all }) := by
  rw [starIdx]
  simp only [h, ↓reduceIte]
  cases fst <;> rfl

theorem starIdx_next (h : i < n) :
    starIdx (fuel + 1) root sp ps n i rest par rl found acc fst all
      = match findD fuel root sp ps false (bracket (natStr i) :: rest) par rl found with
        | .error e => .error e
        | .ok (root', r) =>
          if r.isFound then
            starIdx fuel root' sp ps n (i + 1) rest par rl found (acc ++ [r.value]) (some (fst.getD r)) all
          else starIdx fuel root' sp ps n (i + 1) rest par rl found acc fst all := by
  rw [starIdx]
  simp only [ge_iff_le, Nat.not_le.mpr h, ↓reduceIte]
  cases fst <;> rfl

theorem dispatchD_at {p : Pos} {ev : Val} :
    dispatchD fuel root sp (.at p) ev toks rl found = findD fuel root sp false true toks (.at p) rl found := rfl

theorem dispatchD_noPos {elem : PRef} {ev : Val} (h : refPos elem = Option.none) :
    dispatchD fuel root sp elem ev toks rl found = .error .Unsupported := by
  simp only [dispatchD, h]

/-- the search below an element of the list: a dict is handed to `n0dict._find`, a list to `n0list._find` -/
def elemFind (fuel : Nat) (root : Val) (sp : Pos) (eref : PRef) (it : Val) (rest : List Str) (rl : Bool) (f' : Str) :
    PyM (Val × Res) :=
  match it with
  | .dict .. => dispatchD fuel root sp eref it rest rl f'
  | .list .. => findL fuel root sp rest eref rl f'
  | _ => .error .TypeError

theorem elemFind_dict {p : Pos} {dc : Cls} {f' : Str} :
    elemFind fuel root sp (.at p) (.dict dc kvs) rest rl f' = findD fuel root sp false true rest (.at p) rl f' := rfl

theorem elemFind_list {eref : PRef} {ys : List Val} {f' : Str} :
    elemFind fuel root sp eref (.list lc ys) rest rl f' = findL fuel root sp rest eref rl f' := rfl

theorem elemFind_single {eref : PRef} {it : Val} {f' : Str} (hl : isList it = false) (hd : isDict it = false) :
    elemFind fuel root sp eref it rest rl f' = .error .TypeError := by
  cases it with
  | list => cases hl
  | dict => cases hd
  | _ => rfl

theorem findL_zero : findL 0 root sp toks par rl found = .error .OutOfFuel := by
  rw [findL]

theorem findL_nil_slash (hpv : valOf root par = some pv) :
    findL (fuel + 1) root sp [] par rl slash
      = .ok (root, { parent := par, nameIdx := Option.none, value := pv, found := slash, notFound := Option.none }) := by
  rw [findL]
  simp only [↓reduceIte, hpv]

theorem findL_nil_slash_noParent (hpv : valOf root par = Option.none) :
    findL (fuel + 1) root sp [] par rl slash = .error .Unsupported := by
  rw [findL]
  simp only [↓reduceIte, hpv]

theorem findL_nil_retok (hf : found ≠ slash) :
    findL (fuel + 1) root sp [] par rl found = findL fuel root sp (tokenize found) (.at sp) rl slash := by
  rw [findL]
  simp only [hf, ↓reduceIte]

theorem findL_noParent (hpv : valOf root par = Option.none) :
    findL (fuel + 1) root sp (tok :: rest) par rl found = .error .Unsupported := by
  rw [findL]
  simp only [hpv]

theorem findL_split_error (hpv : valOf root par = some pv)
    (hs : splitNameIndex tok = .error e) :
    findL (fuel + 1) root sp (tok :: rest) par rl found = .error e := by
  rw [findL]
  simp only [hpv, hs]

/-- a name applied to the list: `n0dict._find` takes over (and supplies `[*]`) -/
theorem findL_name (hpv : valOf root par = some pv)
    (hs : splitNameIndex tok = .ok (name, idx)) (hne : name ≠ []) :
    findL (fuel + 1) root sp (tok :: rest) par rl found = findD fuel root sp false true (tok :: rest) par rl found := by
  rw [findL]
  simp only [hpv, hs, isEmpty_false_of_ne hne, Bool.not_false, ↓reduceIte]

theorem findL_noIdx (hpv : valOf root par = some pv) (hs : splitNameIndex tok = .ok ([], .none)) :
    findL (fuel + 1) root sp (tok :: rest) par rl found = .error .IndexError := by
  rw [findL]
  simp only [hpv, hs, List.isEmpty_nil, Bool.not_true, Bool.false_eq_true, ↓reduceIte]

theorem findL_cond (hpv : valOf root par = some pv)
    (hs : splitNameIndex tok = .ok ([], .cond k op v)) :
    findL (fuel + 1) root sp (tok :: rest) par rl found = findD fuel root sp false true (tok :: rest) par rl found := by
  rw [findL]
  simp only [hpv, hs, List.isEmpty_nil, Bool.not_true, Bool.false_eq_true, ↓reduceIte]

/-- what `[*]` of `n0list._find` iterates over: an empty dict or text iterates as nothing, other values cannot be enumerated
with an index -/
def loopItems : Val → PyM (List Val)
  | .list _ xs => .ok xs
  | .dict _ [] => .ok []
  | .str [] => .ok []
  | _ => .error .TypeError

theorem findL_star (hpv : valOf root par = some pv) (hs : splitNameIndex tok = .ok ([], .str ['*'])) :
    findL (fuel + 1) root sp (tok :: rest) par rl found
      = match loopItems pv with
        | .error e => .error e
        | .ok items => findL.loop sp par rl found tok rest fuel root 0 items [] Option.none := by
  rw [findL]
  simp only [hpv, hs, List.isEmpty_nil, Bool.not_true, Bool.false_eq_true, ↓reduceIte]
  rfl

theorem findL_star_list (hpv : valOf root par = some (.list lc xs))
    (hs : splitNameIndex tok = .ok ([], .str ['*'])) :
    findL (fuel + 1) root sp (tok :: rest) par rl found
      = findL.loop sp par rl found tok rest fuel root 0 xs [] Option.none :=
  findL_star hpv hs

variable {i : Nat} {items : List Val}

theorem findL_loop_zero : findL.loop sp par rl found tok rest 0 root i items acc fst = .error .OutOfFuel := by
  rw [findL.loop]

theorem findL_loop_nil :
    findL.loop sp par rl found tok rest (fuel + 1) root i [] acc fst
      = match fst with
        | some f => .ok (root, { parent := f.parent, nameIdx := f.nameIdx, value := starVals rl acc, found := f.found,
                                 notFound := Option.none })
        | Option.none => .ok (root, { parent := par, nameIdx := Option.none, value := Val.none, found := found,
                                      notFound := some (tok :: rest) }) := by
  unfold findL.loop
  cases fst <;> rfl

theorem findL_loop_cons {it : Val} {its : List Val} :
    findL.loop sp par rl found tok rest (fuel + 1) root i (it :: its) acc fst
      = match elemFind fuel root sp (childRef root par (.idx i)) it rest rl (found ++ bracket (natStr i)) with
        | .error e => .error e
        | .ok (root', r) =>
          if r.isFound then
            findL.loop sp par rl found tok rest fuel root' (i + 1) its (acc ++ [r.value]) (some (fst.getD r))
          else findL.loop sp par rl found tok rest fuel root' (i + 1) its acc fst := by
  conv => lhs; unfold findL.loop
  cases fst <;> rfl

theorem findL_idx_evalError (hpv : valOf root par = some pv)
    (hs : splitNameIndex tok = .ok ([], .str s)) (hstar : s ≠ ['*']) (he : n0eval s = .error e) :
    findL (fuel + 1) root sp (tok :: rest) par rl found = .error e := by
  rw [findL]
  simp only [hpv, hs, List.isEmpty_nil, Bool.not_true, Bool.false_eq_true, ↓reduceIte, hstar, he]

theorem findL_idx_evalStr {t : Str} (hpv : valOf root par = some pv)
    (hs : splitNameIndex tok = .ok ([], .str s)) (hstar : s ≠ ['*']) (he : n0eval s = .ok (.str t)) :
    findL (fuel + 1) root sp (tok :: rest) par rl found = .error .TypeError := by
  rw [findL]
  simp only [hpv, hs, List.isEmpty_nil, Bool.not_true, Bool.false_eq_true, ↓reduceIte, hstar, he]

variable {j : Int}

/-- the step `[j]` of `n0list._find`: as in `n0dict._find`, with the descent dispatched on the class of the element -/
theorem findL_idx {par' : PRef} {items : List Val} (hpv : valOf root par = some pv)
    (hk : IdxTok tok s j)
    (hh : hiddenList par pv = (par', items)) :
    findL (fuel + 1) root sp (tok :: rest) par rl found
      = if j ≥ items.length || j < -(items.length : Int) then
          .ok (root, { parent := par', nameIdx := some (bracket (intStr j)), value := Val.none, found := found,
                       notFound := some (tok :: rest) })
        else
          match normIdx j items.length with
          | Option.none => .error .Unsupported
          | some n =>
            if rest.isEmpty then
              .ok (root, { parent := par', nameIdx := some (bracket (intStr j)), value := items.getD n Val.none,
                           found := found, notFound := Option.none })
            else
              elemFind fuel root sp (childRef root par' (.idx n)) (items.getD n Val.none) rest rl
                (found ++ bracket (intStr j)) := by
  rw [findL]
  simp only [hpv, hk.split, List.isEmpty_nil, Bool.not_true, Bool.false_eq_true, ↓reduceIte, hk.notStar, hk.eval]
  cases pv <;> cases hh <;> rfl

theorem findL_idx_out (hpv : valOf root par = some (.list lc xs)) (hk : IdxTok tok s j) (hout : j ≥ (xs.length : Int) ∨ j < -(xs.length : Int)) :
    findL (fuel + 1) root sp (tok :: rest) par rl found
      = .ok (root, { parent := par, nameIdx := some (bracket (intStr j)), value := Val.none, found := found,
                     notFound := some (tok :: rest) }) := by
  rw [findL_idx hpv hk rfl]
  simp only [Bool.or_eq_true, decide_eq_true_eq, hout, ↓reduceIte]

theorem findL_idx_last (hpv : valOf root par = some (.list lc xs)) (hk : IdxTok tok s j)
    (hn : normIdx j xs.length = some n) :
    findL (fuel + 1) root sp [tok] par rl found
      = .ok (root, { parent := par, nameIdx := some (bracket (intStr j)), value := xs.getD n Val.none, found := found,
                     notFound := Option.none }) := by
  rw [findL_idx hpv hk rfl]
  simp only [Bool.or_eq_true, decide_eq_true_eq, normIdx_range hn, ↓reduceIte, hn, List.isEmpty_nil]

theorem findL_idx_step (hpv : valOf root par = some (.list lc xs)) (hk : IdxTok tok s j)
    (hn : normIdx j xs.length = some n) (hrest : rest ≠ []) :
    findL (fuel + 1) root sp (tok :: rest) par rl found
      = elemFind fuel root sp (childRef root par (.idx n)) (xs.getD n Val.none) rest rl (found ++ bracket (intStr j)) := by
  rw [findL_idx hpv hk rfl]
  simp only [Bool.or_eq_true, decide_eq_true_eq, normIdx_range hn, ↓reduceIte, hn, isEmpty_false_of_ne hrest, Bool.false_eq_true]

theorem findL_idx_out_single (hpv : valOf root par = some pv) (hl : isList pv = false)
    (hk : IdxTok tok s j)
    (hout : j ≥ 1 ∨ j < -1) :
    findL (fuel + 1) root sp (tok :: rest) par rl found
      = .ok (root, { parent := .wrap par, nameIdx := some (bracket (intStr j)), value := Val.none, found := found,
                     notFound := some (tok :: rest) }) := by
  have hout' : j ≥ (([pv] : List Val).length : Int) ∨ j < -(([pv] : List Val).length : Int) := hout
  rw [findL_idx hpv hk (hiddenList_single hl)]
  simp only [Bool.or_eq_true, decide_eq_true_eq, hout', ↓reduceIte]

theorem findL_idx_last_single (hpv : valOf root par = some pv) (hl : isList pv = false)
    (hk : IdxTok tok s j)
    (hj : j = 0 ∨ j = -1) :
    findL (fuel + 1) root sp [tok] par rl found
      = .ok (root, { parent := .wrap par, nameIdx := some (bracket (intStr j)), value := pv, found := found,
                     notFound := Option.none }) := by
  have hin : ¬ (j ≥ (([pv] : List Val).length : Int) ∨ j < -(([pv] : List Val).length : Int)) := by
    simp only [List.length_singleton]; omega
  have hn : normIdx j ([pv] : List Val).length = some 0 := by rcases hj with rfl | rfl <;> rfl
  rw [findL_idx hpv hk (hiddenList_single hl)]
  simp only [Bool.or_eq_true, decide_eq_true_eq, hin, ↓reduceIte, hn, List.isEmpty_nil, List.getD_cons_zero]

theorem findL_idx_step_single (hpv : valOf root par = some pv) (hl : isList pv = false)
    (hk : IdxTok tok s j)
    (hj : j = 0 ∨ j = -1) (hrest : rest ≠ []) :
    findL (fuel + 1) root sp (tok :: rest) par rl found
      = elemFind fuel root sp par pv rest rl (found ++ bracket (intStr j)) := by
  have hin : ¬ (j ≥ (([pv] : List Val).length : Int) ∨ j < -(([pv] : List Val).length : Int)) := by
    simp only [List.length_singleton]; omega
  have hn : normIdx j ([pv] : List Val).length = some 0 := by rcases hj with rfl | rfl <;> rfl
  rw [findL_idx hpv hk (hiddenList_single hl)]
  simp only [Bool.or_eq_true, decide_eq_true_eq, hin, ↓reduceIte, hn, isEmpty_false_of_ne hrest, Bool.false_eq_true,
    List.getD_cons_zero]
  rfl

end N0.XPath
