import N0Verif.Proofs.XPathGetEq
/-!
  `first` (fix C04-f): the lookup runs with a private marker as default (`getCoreS`), the caller's default is
  handed back as it is when the marker returns, only a found value is unwrapped.  `first_getCoreS_spec`: `getCoreS`
  is the same transcription of `_get` as `getCore`.
-/
namespace N0.XPath
open N0 N0.Py N0.Val

/-- the marker replaced by the caller's default -/
def orDflt (d : Val) : PyM (Option Val) → PyM Val
  | .ok o => .ok (o.getD d)
  | .error e => .error e

/-- **`getCore` is `getCoreS` with the marker replaced by the default**: both are `getG`, which is natural in what
it hands out -/
theorem first_getCoreS_spec (fuel : Nat) (root : Val) (xp : Str) (d : Val) (raise rl : Bool) :
    getCore fuel root xp d raise rl =
      ((getCoreS fuel root xp raise rl).1, orDflt d (getCoreS fuel root xp raise rl).2) := by
  rw [getCore_eq, getCoreS_eq]
  refine (getG_map (·.getD d) some (some emptyStr) fuel root xp Option.none raise rl).trans ?_
  rcases getG some (some emptyStr) fuel root xp Option.none raise rl with ⟨t', (e | o)⟩ <;> rfl

theorem first_def (fuel : Nat) (root : Val) (xp : Str) (d : Val) :
    first fuel root xp d =
      (match getCoreS fuel root xp false false with
       | (t', .error e) => (t', .error e)
       | (t', .ok Option.none) => (t', .ok d)
       | (t', .ok (some v)) => (t', .ok (unwrap1 v))) := rfl

theorem first_fst (fuel : Nat) (root : Val) (xp : Str) (d : Val) :
    (first fuel root xp d).1 = (getCore fuel root xp d false false).1 := by
  rw [first_getCoreS_spec, first_def]
  rcases getCoreS fuel root xp false false with ⟨t', (e | (_ | v))⟩ <;> rfl

theorem first_error_iff (fuel : Nat) (root : Val) (xp : Str) (d : Val) (e : PyErr) :
    (first fuel root xp d).2 = .error e ↔ (getCore fuel root xp d false false).2 = .error e := by
  rw [first_getCoreS_spec, first_def]
  rcases getCoreS fuel root xp false false with ⟨t', (e' | (_ | v))⟩ <;> simp [orDflt]

theorem first_ok_of_getCore (fuel : Nat) (root : Val) (xp : Str) (d v : Val)
    (h : (getCore fuel root xp d false false).2 = .ok v) : ∃ w, (first fuel root xp d).2 = .ok w := by
  rw [first_getCoreS_spec] at h
  rw [first_def]
  generalize getCoreS fuel root xp false false = g at h ⊢
  rcases g with ⟨t', (e' | (_ | v'))⟩
  · simp [orDflt] at h
  · exact ⟨d, rfl⟩
  · exact ⟨unwrap1 v', rfl⟩

/-- the lookup returns the same value `v` for every default: it is a found value, `first` unwraps it -/
theorem first_of_found {fuel : Nat} {root t' : Val} {xp : Str} {v : Val}
    (h : ∀ d, getCore fuel root xp d false false = (t', .ok v)) (d : Val) :
    first fuel root xp d = (t', .ok (unwrap1 v)) := by
  have h1 := h Val.none
  have h2 := h (Val.bool true)
  rw [first_getCoreS_spec] at h1 h2
  rw [first_def]
  generalize getCoreS fuel root xp false false = g at h1 h2 ⊢
  rcases g with ⟨s, (e' | (_ | v'))⟩
  · simp [orDflt] at h1
  · simp only [orDflt, Option.getD_none, Prod.mk.injEq, Except.ok.injEq] at h1 h2
    have := h1.2.trans h2.2.symm
    cases this
  · simp only [orDflt, Option.getD_some, Prod.mk.injEq, Except.ok.injEq] at h1
    obtain ⟨rfl, rfl⟩ := h1
    rfl

/-- the lookup returns the default, whatever it is: the marker came back, `first` returns the default as it is -/
theorem first_of_miss {fuel : Nat} {root t' : Val} {xp : Str}
    (h : ∀ d, getCore fuel root xp d false false = (t', .ok d)) (d : Val) :
    first fuel root xp d = (t', .ok d) := by
  have h1 := h Val.none
  have h2 := h (Val.bool true)
  rw [first_getCoreS_spec] at h1 h2
  rw [first_def]
  generalize getCoreS fuel root xp false false = g at h1 h2 ⊢
  rcases g with ⟨s, (e' | (_ | v'))⟩
  · simp [orDflt] at h1
  · simp only [orDflt, Option.getD_none, Prod.mk.injEq] at h1
    obtain ⟨rfl, _⟩ := h1
    rfl
  · simp only [orDflt, Option.getD_some, Prod.mk.injEq, Except.ok.injEq] at h1 h2
    have := h1.2.symm.trans h2.2
    cases this

/-- the usual shape of the `_get` lemmas: found → the value, else the default -/
theorem first_of_ite {fuel : Nat} {root t' : Val} {xp : Str} {b : Bool} {v : Val}
    (h : ∀ d, getCore fuel root xp d false false = (t', if b then .ok v else .ok d)) (d : Val) :
    first fuel root xp d = (t', .ok (if b then unwrap1 v else d)) := by
  cases b with
  | true => simpa using first_of_found (v := v) (by simpa using h) d
  | false => simpa using first_of_miss (by simpa using h) d

theorem first_of_error {fuel : Nat} {root t' : Val} {xp : Str} {d : Val} {e : PyErr}
    (h : getCore fuel root xp d false false = (t', .error e)) : first fuel root xp d = (t', .error e) := by
  have h1 := first_fst fuel root xp d
  have h2 := (first_error_iff fuel root xp d e).2 (by rw [h])
  rw [h] at h1
  exact Prod.ext h1 h2

/-- **the marker comes back exactly where `_get` raises with `raise_exception` set** (no `?` prefix): the
non-raising marker lookup is the raising one with the miss classes replaced by the marker -/
theorem first_getCoreS_raise (fuel : Nat) (root : Val) (xp : Str) (rl : Bool) (hq : startsWith xp ['?'] = false) :
    getCoreS fuel root xp false rl =
      (match getCoreS fuel root xp true rl with
       | (t', .ok o) => (t', .ok o)
       | (t', .error e) => if missErr xp e then (t', .ok Option.none) else (t', .error e)) := by
  rw [getCoreS_eq, getCoreS_eq]
  refine (getG_lower some (some emptyStr) fuel root xp Option.none rl hq).trans ?_
  rcases getG some (some emptyStr) fuel root xp Option.none true rl with ⟨t', (e | o)⟩ <;> rfl

/-- with `raise_exception` set, for a text that does not start with `?`, the marker itself is handed out only for `''` on a list root -/
theorem first_getCoreS_raise_none (fuel : Nat) (root : Val) (xp : Str) (rl : Bool) (hq : startsWith xp ['?'] = false)
    (hne : xp ≠ []) (t' : Val) : getCoreS fuel root xp true rl ≠ (t', .ok Option.none) := by
  intro h
  rw [getCoreS_eq] at h
  obtain ⟨v, hv⟩ := getG_raise_ok hq hne (congrArg Prod.snd h)
  cases hv

/-- **a miss gives the default as it is**: when the raising form of the lookup `first` performs
(`return_lists=False`) raises a miss class, `first` returns the caller's default, whatever value it is -/
theorem first_miss_identity (fuel : Nat) (root : Val) (xp : Str) (d d0 : Val) (e : PyErr)
    (hq : startsWith xp ['?'] = false)
    (hmiss : (getCore fuel root xp d0 true false).2 = .error e) (he : missErr xp e = true) :
    first fuel root xp d = ((getCore fuel root xp d0 true false).1, .ok d) := by
  rw [first_getCoreS_spec] at hmiss ⊢
  rw [first_def, first_getCoreS_raise fuel root xp false hq]
  generalize getCoreS fuel root xp true false = g at hmiss ⊢
  rcases g with ⟨t', (e' | o)⟩
  · simp only [orDflt, Except.error.injEq] at hmiss
    subst hmiss
    simp [he]
  · simp [orDflt] at hmiss

/-- **a hit is unwrapped, the default plays no part**: when the raising form of the lookup returns `v`, `first`
returns `unwrap1 v` for every default -/
theorem first_hit (fuel : Nat) (root : Val) (xp : Str) (d d0 v : Val)
    (hq : startsWith xp ['?'] = false) (hne : xp ≠ [])
    (hhit : (getCore fuel root xp d0 true false).2 = .ok v) :
    first fuel root xp d = ((getCore fuel root xp d0 true false).1, .ok (unwrap1 v)) := by
  have hnone := first_getCoreS_raise_none fuel root xp false hq hne
  rw [first_getCoreS_spec] at hhit ⊢
  rw [first_def, first_getCoreS_raise fuel root xp false hq]
  generalize getCoreS fuel root xp true false = g at hhit hnone ⊢
  rcases g with ⟨t', (e' | (_ | w))⟩
  · simp [orDflt] at hhit
  · exact absurd rfl (hnone t')
  · simp only [orDflt, Option.getD_some, Except.ok.injEq] at hhit
    subst hhit
    rfl

/-- `first` returns the FOUND value `_get` (with `return_lists=False`) returns unless that is a one-element list
(found: the same value for every default; `first` itself looks the path up with a private marker, fix C04-f) -/
theorem first_of_getCore {fuel : Nat} {t : Val} {xp : Str} {c : Val}
    (h : ∀ d, getCore fuel t xp d false false = (t, .ok c)) (hc : ∀ cl x, c ≠ .list cl [x]) (d : Val) :
    first fuel t xp d = (t, .ok c) := by
  rw [first_of_found h d]
  cases c with
  | list cl ys =>
    cases ys with
    | nil => rfl
    | cons y ys =>
      cases ys with
      | nil => exact absurd rfl (hc cl y)
      | cons _ _ => rfl
  | _ => rfl

/-- … and a one-element list is unwrapped -/
theorem first_of_getCore_single {fuel : Nat} {t : Val} {xp : Str} {x : Val} {cl : Cls}
    (h : ∀ d, getCore fuel t xp d false false = (t, .ok (.list cl [x]))) (d : Val) :
    first fuel t xp d = (t, .ok x) := by
  rw [first_of_found h d]; rfl

end N0.XPath
