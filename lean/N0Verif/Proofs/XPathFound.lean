import N0Verif.Proofs.XPathWalk
/-!
  The text `found` of a search names the node the search stands at: on plain keys it is the text of a walk (`Sel3Norm`,
  `Proofs/XPathGText.lean`), whose tokens spell the same position again.  So the three places where `_find` resolves `found`
  again have one statement each: exhausted tokens report the node the text names (`find_end_norm`), `[new()]` the miss below
  it (`find_new_norm`), and `'..'` pops the last token of the text and goes on at the node the rest names (`find_up_good`).
-/
namespace N0.XPath
open N0 N0.Py N0.Val

/-- **`found` is resolved again.**  The tokens of the text of a walk, read from the root, find the node the walk arrived at. -/
theorem find_found_again (root : Val) (rl : Bool) {gs : List GSeg} {p : Pos} {c : Val} (hn : Sel3Norm gs root p c)
    (hne : gs ≠ []) (fuel : Nat) (hf : fuel ≥ p.length) :
    ∃ r, findD fuel root [] false false (tokenize ('/' :: sel2Render gs)) (.at []) rl slash = .ok (root, r) ∧
      FoundAt root [] p c r ∧ upFound r = '/' :: sel2Render gs := by
  rw [sel2_tokenize gs hn.good]
  exact find_spellsF root rl [] (sel3_norm_spellsF gs root p c hn) (sel3_toks_ne_nil gs hne) fuel [] slash false rfl hf

/-- **Tokens exhausted** with a text other than `/` (a condition or a true `text()` test was the last step): the text is
resolved again and the node it names reported. -/
theorem find_end_norm (root : Val) (rl entry : Bool) {gs : List GSeg} {p : Pos} {c : Val} (hn : Sel3Norm gs root p c)
    (hne : gs ≠ []) (par : PRef) (fuel : Nat) (hf : fuel ≥ p.length) :
    ∃ r, findD (fuel + 1) root [] false entry [] par rl ('/' :: sel2Render gs) = .ok (root, r) ∧ FoundAt root [] p c r := by
  have hfound : ('/' :: sel2Render gs) ≠ slash := by
    intro h
    cases gs with
    | nil => exact hne rfl
    | cons s r => cases s <;> simp [sel2Render, sel2RenderSeg, slash, bracket] at h
  rw [findD_nil_retok rfl hfound]
  obtain ⟨r, hr, hfa, _⟩ := find_found_again root rl hn hne fuel hf
  exact ⟨r, hr, hfa⟩

/-- **`[new()]`.**  `found` is resolved again; below a name that holds a list, or an element that is a list, that list is
the parent of the element to come; a single value under a name is the miss of `name[new()]` below the dict (`_add` turns it
into a list); a single element of a list cannot take one. -/
theorem find_new_norm (root : Val) (rl entry : Bool) {gs : List GSeg} {p : Pos} {c : Val} (hn : Sel3Norm gs root p c)
    (hne : gs ≠ []) (par : PRef) {pv : Val} (hpar : valOf root par = some pv) {tok : Str}
    (hs : splitNameIndex tok = .ok ([], .str sNew)) (rest : List Str) (fuel : Nat) (hf : fuel ≥ p.length) :
    ∃ fnd, findD (fuel + 1) root [] false entry (tok :: rest) par rl ('/' :: sel2Render gs) =
      if isList c then
        .ok (root, { parent := .at p, nameIdx := Option.none, value := Val.none, found := fnd,
                     notFound := some (bracket sNew :: rest) })
      else match p.getLast? with
        | some (.key k) =>
          .ok (root, { parent := .at p.dropLast, nameIdx := Option.none, value := Val.none, found := fnd,
                       notFound := some ((k ++ bracket sNew) :: rest) })
        | _ => .error .IndexError := by
  obtain ⟨r, hr, hfa, _⟩ := find_found_again root rl hn hne fuel hf
  obtain ⟨pp, s, pv', ni, rfl, hcp, hpv', hni, hname⟩ := hfa.snoc_inv
  simp only [List.nil_append] at hcp hpv'
  have hc := hn.getAt
  rw [getAt_append, hpv'] at hc
  refine ⟨r.found, ?_⟩
  rw [findD_new (ps := false) rfl hpar hs, hr]
  simp only [hcp, valOf_at, hpv', List.getLast?_concat, List.dropLast_concat]
  cases hname with
  | @key cls kvs _ =>
    have hl : lookup ni kvs = some c := by simpa [getAt, child] using hc
    cases hlist : isList c with
    | true => rw [newMiss_dict_list hni hl hlist, hcp, childRef_at]; rfl
    | false => rw [newMiss_dict_single hni hl hlist, hcp]; rfl
  | @idx cls xs n i hnorm =>
    have hx : xs[n]? = some c := by simpa [getAt, child] using hc
    have hinner : (if startsWith (bracket (intStr i)) ['['] && endsWith (bracket (intStr i)) [']']
        then pyInt (((bracket (intStr i)).drop 1).dropLast) else Option.none) = some i := by
      rw [startsWith_bracket, endsWith_bracket, bracket_inner, pyInt_intStr]; rfl
    cases hlist : isList c with
    | true =>
      rw [newMiss_list hni hinner hnorm (by rw [getD_of_getElem? hx]; exact hlist), hcp, childRef_at]; rfl
    | false =>
      simp only [newMiss, hni, hinner, hnorm, getD_of_getElem? hx, hlist, Bool.false_eq_true, ↓reduceIte]

section steps
variable {fuel : Nat} {root : Val} {entry rl : Bool} {p qq : Pos} {found : Str} {rest up : List Str} {pv : Val} {cur : Res}

/-- the `'..'` step when the shortened `found` text resolves to an element of the list at `qq` (any index spelling
the engine reports): the walk continues at that element with `upFound` -/
theorem find_up_idx {lc : Cls} {rs : List Val} {i : Int} {j : Nat} (hpar : getAt root p = some pv)
    (hup : ((splitChar '/' (fixBr found)).filter (fun t => !t.isEmpty)).dropLast = up)
    (hinner : findD fuel root [] false false up (.at []) rl slash = .ok (root, cur))
    (hcp : cur.parent = .at qq) (hni : cur.nameIdx = some (bracket (intStr i)))
    (hqq : getAt root qq = some (.list lc rs)) (hn : normIdx i rs.length = some j) (hrest : rest ≠ []) :
    findD (fuel + 1) root [] false entry (['.', '.'] :: rest) (.at p) rl found
      = findD fuel root [] false false rest (.at (qq ++ [Seg.idx j])) rl (upFound cur) := by
  rw [findD_up (ps := false) (par := .at p) rfl hpar split_up, hup, hinner]
  simp only [hcp, valOf_at, hqq, upNext_idx hni (bracket_ne_nil _) (split_bracket_intStr i) (n0eval_intStr i) hn]
  exact upCont_step hrest

/-- … to the value of the key `name` of the dict at `qq`: the walk continues in that value -/
theorem find_up_key {cls : Cls} {kvs : List (Str × Val)} {name : Str} {c : Val} (hpar : getAt root p = some pv)
    (hup : ((splitChar '/' (fixBr found)).filter (fun t => !t.isEmpty)).dropLast = up)
    (hinner : findD fuel root [] false false up (.at []) rl slash = .ok (root, cur))
    (hcp : cur.parent = .at qq) (hni : cur.nameIdx = some name) (hname : KeyTok name)
    (hqq : getAt root qq = some (.dict cls kvs)) (hl : lookup name kvs = some c) (hrest : rest ≠ []) :
    findD (fuel + 1) root [] false entry (['.', '.'] :: rest) (.at p) rl found
      = findD fuel root [] false false rest (.at (qq ++ [Seg.key name])) rl (upFound cur) := by
  rw [findD_up (ps := false) (par := .at p) rfl hpar split_up, hup, hinner]
  simp only [hcp, valOf_at, hqq, upNext_key hni hname.ne hname.split hname.ne hl]
  exact upCont_step hrest

end steps

/-- the text `'..'` resolves: `found` without its last token (a key with the bracket attached to it, or a lone bracket) -/
def upG (gs : List GSeg) : List GSeg :=
  match gs.reverse with
  | .br _ :: .key _ :: r => r.reverse
  | _ :: r => r.reverse
  | [] => []

theorem upG_key (a : List GSeg) (k : Str) : upG (a ++ [.key k]) = a := by simp [upG]

theorem upG_key_br (a : List GSeg) (k e : Str) : upG (a ++ [.key k, .br e]) = a := by simp [upG]

theorem upG_br_br (a : List GSeg) (e1 e : Str) : upG (a ++ [.br e1, .br e]) = a ++ [.br e1] := by simp [upG]

theorem upG_br (e : Str) : upG [.br e] = [] := rfl

/-- a text is empty, or ends in one of the four ways `upG` tells apart -/
theorem gseg_snoc_cases (gs : List GSeg) :
    gs = [] ∨ (∃ a k, gs = a ++ [.key k]) ∨ (∃ a k e, gs = a ++ [.key k, .br e]) ∨ (∃ a e1 e, gs = a ++ [.br e1, .br e]) ∨
      ∃ e, gs = [.br e] := by
  rcases List.eq_nil_or_concat gs with rfl | ⟨a, s, rfl⟩
  · exact Or.inl rfl
  · cases s with
    | key k => exact Or.inr (Or.inl ⟨a, k, by simp⟩)
    | br e =>
      rcases List.eq_nil_or_concat a with rfl | ⟨a', s', rfl⟩
      · exact Or.inr (Or.inr (Or.inr (Or.inr ⟨e, rfl⟩)))
      · cases s' with
        | key k => exact Or.inr (Or.inr (Or.inl ⟨a', k, e, by simp⟩))
        | br e1 => exact Or.inr (Or.inr (Or.inr (Or.inl ⟨a', e1, e, by simp⟩)))

theorem sel2Toks_upG (gs : List GSeg) : (sel2Toks gs).dropLast = sel2Toks (upG gs) := by
  rcases gseg_snoc_cases gs with rfl | ⟨a, k, rfl⟩ | ⟨a, k, e, rfl⟩ | ⟨a, e1, e, rfl⟩ | ⟨e, rfl⟩
  · rfl
  · rw [upG_key, sel2_toks_append_key]; simp [sel2Toks]
  · rw [upG_key_br, sel2_toks_append_key_br]; simp [sel2Toks]
  · rw [upG_br_br, sel2_toks_append_br_br]; simp [sel2Toks]
  · rfl

/-- **`'..'`.**  Wherever the search stands: when `found` is a well-formed text and what is left of it without its last
token is the text of a walk to `p0`, the search goes on at `p0` with that text.  The shortened text is resolved from the
root (for the empty text the root itself is found, which has no name); the result names `p0` by its parent and last
segment, `upNext` steps down that segment again and `upFound` puts an index back into the text. -/
theorem find_up_good (root : Val) (rl entry : Bool) {gs : List GSeg} (hg : GoodG gs) {p0 : Pos} {c0 : Val}
    (h0 : Sel3Norm (upG gs) root p0 c0) (pp : Pos) {pv : Val} (hpar : getAt root pp = some pv) (rest : List Str)
    (hrest : rest ≠ []) (fuel : Nat) (hf : fuel ≥ max 1 p0.length) :
    findD (fuel + 1) root [] false entry (['.', '.'] :: rest) (.at pp) rl ('/' :: sel2Render gs)
      = findD fuel root [] false false rest (.at p0) rl ('/' :: sel2Render (upG gs)) := by
  have hup : ((splitChar '/' (fixBr ('/' :: sel2Render gs))).filter (fun t => !t.isEmpty)).dropLast = sel2Toks (upG gs) := by
    rw [sel2_upToks gs hg, sel2Toks_upG]
  by_cases hgn : upG gs = []
  · rw [hgn] at h0 hup ⊢
    cases h0
    obtain ⟨f, rfl⟩ : ∃ f, fuel = f + 1 := ⟨fuel - 1, (Nat.sub_add_cancel (Nat.le_trans (Nat.le_max_left _ _) hf)).symm⟩
    rw [findD_up (ps := false) (par := .at pp) rfl hpar split_up, hup, sel2Toks, findD_nil_slash rfl rfl]
    simp only [valOf_at, getAt, upNext_root (cur := ⟨.at [], Option.none, root, slash, Option.none⟩) rfl]
    exact upCont_step hrest
  · obtain ⟨cur, hcur, hfa, hupf⟩ :=
      find_spellsF root rl [] (sel3_norm_spellsF _ _ _ _ h0) (sel3_toks_ne_nil _ hgn) fuel [] slash false rfl
        (Nat.le_trans (Nat.le_max_right _ _) hf)
    obtain ⟨pp', s, pv', ni, hsplit, hcp, hpv', hni, hname⟩ := hfa.snoc_inv
    simp only [List.nil_append] at hcp hpv'
    have hc0 : getAt root (pp' ++ [s]) = some c0 := hsplit ▸ h0.getAt
    rw [getAt_append, hpv'] at hc0
    cases hname with
    | @key cls kvs _ =>
      have hk := PlainPos.last_key (hsplit ▸ h0.plain)
      have hl : lookup ni kvs = some c0 := by simpa [getAt, child] using hc0
      rw [find_up_key hpar hup hcur hcp hni hk.keyTok hpv' hl hrest, hupf, hsplit]; rfl
    | @idx cls xs n i hnorm =>
      rw [find_up_idx hpar hup hcur hcp hni hpv' hnorm hrest, hupf, hsplit]; rfl

end N0.XPath
