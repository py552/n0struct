import N0Verif.Proofs.XPathTok
import N0Verif.Proofs.XPathTree
/-!
  Path texts as lists of pieces `/key` and `[text]` (`GSeg`): rendering, tokens (a key followed by a bracket is one token) and
  tokenisation (`tokenize_pieces`, `sel2_tokenize`; `sel2_upToks` is what `'..'` resolves), from the laws of `Proofs/XPathText.lean`
  by an induction with two states: after a key, which can still take a bracket, and after a closed token `x]`.  The empty key
  is admitted before a bracket (`PiecesOk`: `/[e]`, an index written as a step of its own), so positions, creation steps and
  spellings all are such texts.  Last, the text of a walk (`Sel3Norm`): its tokens spell the position walked (`sel3_norm_spellsF`).

  The names are the vocabulary of EVERY path text, not of the selection their prefixes (`sel2`, `sel3`, `xa_`) suggest: `sel2Render gs`
  writes the pieces as the text, `sel2Toks gs` is what `tokenize` makes of that text, `sel2Embed p` (`Proofs/XPathRender.lean`) the
  pieces of the canonical path of a position; `Sel3Norm gs v p c`: `gs` is the text `_find` has written on its way from `v` along `p`
  to `c`; `Sel3Spells` (`Proofs/XPathSpellings.lean`) the same for a token list the caller wrote with plain key names.
-/
namespace N0.XPath
open N0 N0.Py N0.Val

/-- a piece of a path text: `/k` or `[e]` -/
inductive GSeg
  | key (k : Str)
  | br (e : Str)

def sel2RenderSeg : GSeg → Str
  | .key k => '/' :: k
  | .br e => bracket e

/-- the text of the pieces; a path text is `'/' :: sel2Render gs` -/
def sel2Render (gs : List GSeg) : Str := gs.flatMap sel2RenderSeg

theorem sel2Render_nil : sel2Render [] = [] := rfl

theorem sel2Render_key (k : Str) (gs : List GSeg) : sel2Render (.key k :: gs) = '/' :: (k ++ sel2Render gs) := rfl

theorem sel2Render_br (e : Str) (gs : List GSeg) : sel2Render (.br e :: gs) = bracket e ++ sel2Render gs := rfl

/-- the tokens of such a text: a key followed by a bracket is one token -/
def sel2Toks : List GSeg → List Str
  | [] => []
  | .key k :: .br e :: rest => (k ++ bracket e) :: sel2Toks rest
  | .key k :: rest => k :: sel2Toks rest
  | .br e :: rest => bracket e :: sel2Toks rest

structure GKey (k : Str) : Prop where
  ne : k ≠ []
  noRB : ∀ c ∈ k, c ≠ ']'
  noSlash : ∀ c ∈ k, c ≠ '/'
  head : ∀ c, k.head? = some c → isPySpace c = false
  last : ∀ c, k.getLast? = some c → isPySpace c = false

structure GBr (e : Str) : Prop where
  noRB : ∀ c ∈ e, c ≠ ']'
  noSlash : ∀ c ∈ e, c ≠ '/'

/-- every piece is well formed, so that the tokeniser cuts the text exactly at its pieces -/
def GoodG : List GSeg → Prop
  | [] => True
  | .key k :: rest => GKey k ∧ GoodG rest
  | .br e :: rest => GBr e ∧ GoodG rest

theorem GoodG.append {a b : List GSeg} (ha : GoodG a) (hb : GoodG b) : GoodG (a ++ b) := by
  induction a with
  | nil => exact hb
  | cons s r ih =>
    cases s with
    | key k => exact ⟨ha.1, ih ha.2⟩
    | br e => exact ⟨ha.1, ih ha.2⟩

/-- a key piece is a key, or empty when a bracket follows: `/[e]`, an index written as a step of its own -/
def KeyOk (k : Str) (rest : List GSeg) : Prop := GKey k ∨ (k = [] ∧ ∃ e r, rest = .br e :: r)

/-- `GoodG` with the empty key admitted before a bracket: still the tokeniser cuts the text exactly at its pieces, the
pieces `/` and `[e]` being the one token `[e]` -/
def PiecesOk : List GSeg → Prop
  | [] => True
  | .key k :: rest => KeyOk k rest ∧ PiecesOk rest
  | .br e :: rest => GBr e ∧ PiecesOk rest

theorem GoodG.piecesOk : ∀ {gs : List GSeg}, GoodG gs → PiecesOk gs
  | [], _ => trivial
  | .key _ :: _, h => ⟨Or.inl h.1, GoodG.piecesOk h.2⟩
  | .br _ :: _, h => ⟨h.1, GoodG.piecesOk h.2⟩

theorem PiecesOk.append : ∀ {a b : List GSeg}, PiecesOk a → PiecesOk b → PiecesOk (a ++ b)
  | [], _, _, hb => hb
  | .key _ :: _, _, ha, hb =>
    ⟨ha.1.imp_right fun ⟨hk, e, r, hr⟩ => ⟨hk, e, r ++ _, by rw [hr]; rfl⟩, PiecesOk.append ha.2 hb⟩
  | .br _ :: _, _, ha, hb => ⟨ha.1, PiecesOk.append ha.2 hb⟩

theorem KeyOk.noSlash {k rest} (h : KeyOk k rest) : ∀ c ∈ k, c ≠ '/' := by
  rcases h with h | ⟨rfl, _⟩
  · exact h.noSlash
  · intro _ hc; cases hc

theorem KeyOk.noRB {k rest} (h : KeyOk k rest) : ∀ c ∈ k, c ≠ ']' := by
  rcases h with h | ⟨rfl, _⟩
  · exact h.noRB
  · intro _ hc; cases hc

theorem PlainKey.gKey {k : Str} (h : PlainKey k) : GKey k where
  ne := h.ne
  noRB := h.noRB
  noSlash := h.noSlash
  head := fun c hc => (plainChar_ne (h.chars c (List.mem_of_mem_head? hc))).2.2.2.2
  last := fun c hc => (plainChar_ne (h.chars c (List.mem_of_getLast? hc))).2.2.2.2

theorem sel2_gKey_up : GKey ['.', '.'] where
  ne := by simp
  noRB := by decide
  noSlash := by decide
  head := by intro c hc; simp at hc; subst hc; decide
  last := by intro c hc; simp at hc; subst hc; decide

theorem sel2_gBr_nat (n : Nat) : GBr (natStr n) := ⟨natStr_noRB n, natStr_noSlash n⟩

theorem sel2_gBr_star : GBr ['*'] := ⟨by decide, by decide⟩


theorem sel2_gBr_int (i : Int) : GBr (intStr i) := by
  rcases intStr_cases i with ⟨n, _, h⟩ | ⟨n, _, h⟩
  · rw [h]; exact sel2_gBr_nat n
  · rw [h]
    constructor
    · intro c hc
      simp only [List.mem_cons] at hc
      rcases hc with rfl | hc
      · decide
      · exact natStr_noRB _ c hc
    · intro c hc
      simp only [List.mem_cons] at hc
      rcases hc with rfl | hc
      · decide
      · exact natStr_noSlash _ c hc

theorem sel2_toks_key_key (k k2 : Str) (r : List GSeg) :
    sel2Toks (.key k :: .key k2 :: r) = k :: sel2Toks (.key k2 :: r) := by
  rw [sel2Toks]
  intro e r' h; cases h

theorem sel2Toks_br (e : Str) (r : List GSeg) : sel2Toks (.br e :: r) = bracket e :: sel2Toks r := by
  rw [sel2Toks]

theorem sel2Toks_key_br (k e : Str) (r : List GSeg) : sel2Toks (.key k :: .br e :: r) = (k ++ bracket e) :: sel2Toks r := by
  rw [sel2Toks]

theorem sel2Toks_keys : ∀ ns : List Str, sel2Toks (ns.map GSeg.key) = ns
  | [] => rfl
  | [_] => rfl
  | n :: m :: ns => by
    rw [List.map_cons, List.map_cons, sel2_toks_key_key, ← List.map_cons, sel2Toks_keys (m :: ns)]

theorem goodG_keys : ∀ ns : List Str, (∀ n ∈ ns, PlainKey n) → GoodG (ns.map GSeg.key)
  | [], _ => trivial
  | n :: ns, h => ⟨(h n List.mem_cons_self).gKey, goodG_keys ns fun m hm => h m (List.mem_cons_of_mem _ hm)⟩

/-- the pieces of a text that follows a key `k` / a closed token `x]` -/
theorem textPieces_gseg (gs : List GSeg) (hg : PiecesOk gs) :
    (∀ k, KeyOk k gs → textPieces (k ++ sel2Render gs) = sel2Toks (.key k :: gs)) ∧
    (∀ x : Str, (∀ c ∈ x, c ≠ '/') → (∀ c ∈ x, c ≠ ']') →
      textPieces (x ++ ']' :: sel2Render gs) = (x ++ [']']) :: sel2Toks gs) := by
  have hkey : ∀ {k}, GKey k → textPieces k = [k] := fun hk => textPieces_atom hk.ne hk.noSlash (fixBr_noRB _ hk.noRB)
  induction gs with
  | nil =>
    refine ⟨fun k hk => ?_, fun x hs hr => textPieces_closed x hs hr⟩
    rcases hk with hk | ⟨_, _, _, h⟩
    · rw [sel2Render_nil, List.append_nil]; exact hkey hk
    · cases h
  | cons s r ih =>
    cases s with
    | key k' =>
      obtain ⟨ihk, _⟩ := ih hg.2
      refine ⟨fun k hk => ?_, fun x hs hrb => ?_⟩
      · rcases hk with hk | ⟨_, _, _, h⟩
        · rw [sel2Render_key, textPieces_slash, ihk k' hg.1, hkey hk, sel2_toks_key_key]; rfl
        · cases h
      · rw [sel2Render_key, show x ++ ']' :: '/' :: (k' ++ sel2Render r) = (x ++ [']']) ++ '/' :: (k' ++ sel2Render r) by simp,
          textPieces_slash, ihk k' hg.1, textPieces_closed x hs hrb]
        rfl
    | br e =>
      obtain ⟨_, ihx⟩ := ih hg.2
      have hr : sel2Render (.br e :: r) = '[' :: (e ++ ']' :: sel2Render r) := by simp [sel2Render_br, bracket]
      have hns : ∀ c ∈ '[' :: e, c ≠ '/' := ne_of_mem_cons (by decide) hg.1.noSlash
      have hnr : ∀ c ∈ '[' :: e, c ≠ ']' := ne_of_mem_cons (by decide) hg.1.noRB
      refine ⟨fun k hk => ?_, fun x hs hrb => ?_⟩
      · rw [hr, show k ++ '[' :: (e ++ ']' :: sel2Render r) = (k ++ '[' :: e) ++ ']' :: sel2Render r by simp,
          ihx _ (ne_of_mem_append hk.noSlash hns) (ne_of_mem_append hk.noRB hnr)]
        simp [sel2Toks, bracket]
      · rw [hr, textPieces_rb_lb, textPieces_closed x hs hrb,
          show '[' :: (e ++ ']' :: sel2Render r) = ('[' :: e) ++ ']' :: sel2Render r by simp, ihx _ hns hnr]
        simp [sel2Toks, bracket]

/-- the pieces of a text without the leading slash -/
theorem textPieces_sel2Render (gs : List GSeg) (hg : PiecesOk gs) : textPieces (sel2Render gs) = sel2Toks gs := by
  cases gs with
  | nil => rfl
  | cons s r =>
    cases s with
    | key k =>
      rw [sel2Render_key, show '/' :: (k ++ sel2Render r) = [] ++ '/' :: (k ++ sel2Render r) from rfl, textPieces_slash,
        textPieces_nil]
      exact (textPieces_gseg r hg.2).1 k hg.1
    | br e =>
      rw [show sel2Render (.br e :: r) = ('[' :: e) ++ ']' :: sel2Render r by simp [sel2Render_br, bracket],
        (textPieces_gseg r hg.2).2 _ (ne_of_mem_cons (by decide) hg.1.noSlash) (ne_of_mem_cons (by decide) hg.1.noRB)]
      simp [sel2Toks, bracket]

/-- **Splitting a path text.**  `'/' :: text`, after `replace("][","]/[")`, split at '/', empty pieces
dropped (no strip: this is what the `'..'` step does with `xpath_found_str`). -/
theorem sel2_split (gs : List GSeg) (hg : GoodG gs) : textPieces ('/' :: sel2Render gs) = sel2Toks gs := by
  rw [show '/' :: sel2Render gs = [] ++ '/' :: sel2Render gs from rfl, textPieces_slash, textPieces_nil, List.nil_append,
    textPieces_sel2Render gs hg.piecesOk]

theorem keyBracket_stripWs {k : Str} (hk : GKey k) (e : Str) : stripWs (k ++ bracket e) = k ++ bracket e := by
  apply stripWs_eq_self
  · intro c hc
    cases k with
    | nil => exact absurd rfl hk.ne
    | cons x k => exact hk.head c (by simpa using hc)
  · intro c hc
    have : k ++ bracket e = (k ++ '[' :: e) ++ [']'] := by simp [bracket]
    rw [this, List.getLast?_append] at hc
    simp at hc; subst hc; decide

theorem sel2Toks_stripped : ∀ (gs : List GSeg), PiecesOk gs → (sel2Toks gs).map stripWs = sel2Toks gs
  | [], _ => rfl
  | [.key k], hg => by
    rcases hg.1 with hk | ⟨_, _, _, h⟩
    · simp [sel2Toks, stripWs_eq_self k hk.head hk.last]
    · cases h
  | .key k :: .key k2 :: rest, hg => by
    have ih := sel2Toks_stripped (.key k2 :: rest) hg.2
    rcases hg.1 with hk | ⟨_, _, _, h⟩
    · rw [sel2_toks_key_key]
      simp only [List.map_cons, stripWs_eq_self k hk.head hk.last, ih]
    · cases h
  | .key k :: .br e :: rest, hg => by
    have ih := sel2Toks_stripped rest hg.2.2
    rcases hg.1 with hk | ⟨rfl, _⟩
    · simp only [sel2Toks, List.map_cons, keyBracket_stripWs hk e, ih]
    · simp only [sel2Toks, List.map_cons, List.nil_append, bracket_stripWs e, ih]
  | .br e :: rest, hg => by
    have ih := sel2Toks_stripped rest hg.2
    simp only [sel2Toks, List.map_cons, bracket_stripWs e, ih]

/-- **Tokenisation of a text of pieces**, the empty key before a bracket included -/
theorem tokenize_pieces (gs : List GSeg) (hg : PiecesOk gs) : tokenize (sel2Render gs) = sel2Toks gs := by
  rw [tokenize_eq_map, textPieces_sel2Render gs hg, sel2Toks_stripped gs hg]

/-- **Tokenisation of a path text** (`_find` on a string xpath) -/
theorem sel2_tokenize (gs : List GSeg) (hg : GoodG gs) : tokenize ('/' :: sel2Render gs) = sel2Toks gs := by
  rw [tokenize_eq_map, sel2_split gs hg, sel2Toks_stripped gs hg.piecesOk]

/-- a synonym of `sel2_tokenize` -/
theorem xa_tokenize_tail (gs : List GSeg) (hg : GoodG gs) : tokenize ('/' :: sel2Render gs) = sel2Toks gs := sel2_tokenize gs hg

theorem tokenize_tail (gs : List GSeg) (hg : GoodG gs) : tokenize (sel2Render gs) = sel2Toks gs :=
  tokenize_pieces gs hg.piecesOk

/-- the pieces the `'..'` step resolves -/
theorem sel2_upToks (gs : List GSeg) (hg : GoodG gs) :
    ((splitChar '/' (fixBr ('/' :: sel2Render gs))).filter (fun t => !t.isEmpty)).dropLast = (sel2Toks gs).dropLast :=
  congrArg List.dropLast (sel2_split gs hg)

theorem sel2_render_append (a b : List GSeg) : sel2Render (a ++ b) = sel2Render a ++ sel2Render b := by
  simp [sel2Render]

theorem sel2_toks_append_key (a : List GSeg) (k : Str) (rest : List GSeg) :
    sel2Toks (a ++ .key k :: rest) = sel2Toks a ++ sel2Toks (.key k :: rest) := by
  induction a using sel2Toks.induct with
  | case1 => rfl
  | case2 k' e r ih => simp [sel2Toks, ih]
  | case3 k' r hne ih =>
    cases r with
    | nil =>
      cases rest with
      | nil => simp [sel2Toks]
      | cons s rr => cases s <;> simp [sel2Toks]
    | cons s r' =>
      cases s with
      | key k2 =>
        simp only [List.cons_append] at ih ⊢
        rw [sel2_toks_key_key, ih, sel2_toks_key_key]
        simp
      | br e => exact absurd rfl (hne e r')
  | case4 e r ih => simp [sel2Toks, ih]

theorem sel2_toks_append_key_br (a : List GSeg) (k e : Str) (rest : List GSeg) :
    sel2Toks (a ++ .key k :: .br e :: rest) = sel2Toks a ++ (k ++ bracket e) :: sel2Toks rest := by
  rw [sel2_toks_append_key]; simp [sel2Toks]

theorem sel2_toks_append_br_br (a : List GSeg) (e1 e2 : Str) (rest : List GSeg) :
    sel2Toks (a ++ .br e1 :: .br e2 :: rest) = sel2Toks (a ++ [.br e1]) ++ bracket e2 :: sel2Toks rest := by
  induction a using sel2Toks.induct with
  | case1 => simp [sel2Toks]
  | case2 k' e r ih => simp [sel2Toks, ih]
  | case3 k' r hne ih =>
    cases r with
    | nil => simp [sel2Toks]
    | cons s r' =>
      cases s with
      | key k2 =>
        simp only [List.cons_append] at ih ⊢
        rw [sel2_toks_key_key, ih, sel2_toks_key_key]
        simp
      | br e => exact absurd rfl (hne e r')
  | case4 e r ih => simp [sel2Toks, ih]

theorem sel3_toks_ne_nil (gs : List GSeg) (h : gs ≠ []) : sel2Toks gs ≠ [] := by
  cases gs with
  | nil => exact absurd rfl h
  | cons s r =>
    cases s with
    | key k =>
      cases r with
      | nil => simp [sel2Toks]
      | cons s2 r2 => cases s2 <;> simp [sel2Toks]
    | br e => simp [sel2Toks]

theorem sel2Render_key_slash (k : Str) (gs : List GSeg) : sel2Render (.key k :: gs) = slash ++ k ++ sel2Render gs := by
  simp [sel2Render, sel2RenderSeg, slash]

theorem sel2Render_key_br (k e : Str) (gs : List GSeg) :
    sel2Render (.key k :: .br e :: gs) = slash ++ k ++ bracket e ++ sel2Render gs := by
  simp [sel2Render, sel2RenderSeg, slash]

theorem sel3_fnd_idx (gs : List GSeg) (j : Nat) :
    ('/' :: sel2Render gs) ++ bracket (intStr (j : Int)) = '/' :: sel2Render (gs ++ [.br (natStr j)]) := by
  rw [sel2_render_append]; simp [sel2Render, sel2RenderSeg, intStr_nat]

theorem sel3_fnd_key (gs : List GSeg) (name : Str) :
    '/' :: sel2Render gs ++ slash ++ name = '/' :: sel2Render (gs ++ [.key name]) := by
  rw [sel2_render_append]; simp [sel2Render, sel2RenderSeg, slash]

/-- `gs` is the text of a walk from `v` along `p` to `c`: plain keys, evaluated indexes -/
inductive Sel3Norm : List GSeg → Val → Pos → Val → Prop
  | nil (v : Val) : Sel3Norm [] v [] v
  | key {k cls kvs c gs p d} : PlainKey k → lookup k kvs = some c → Sel3Norm gs c p d →
      Sel3Norm (.key k :: gs) (.dict cls kvs) (.key k :: p) d
  | idx {i cls xs n c gs p d} : normIdx i xs.length = some n → xs[n]? = some c → Sel3Norm gs c p d →
      Sel3Norm (.br (intStr i) :: gs) (.list cls xs) (.idx n :: p) d

theorem Sel3Norm.good {gs v p c} (h : Sel3Norm gs v p c) : GoodG gs := by
  induction h with
  | nil v => trivial
  | key hk _ _ ih => exact ⟨hk.gKey, ih⟩
  | idx _ _ _ ih => exact ⟨sel2_gBr_int _, ih⟩

theorem Sel3Norm.getAt {gs v p c} (h : Sel3Norm gs v p c) : Val.getAt v p = some c := by
  induction h with
  | nil v => rfl
  | key _ hl _ ih => simp [Val.getAt, child, hl, ih]
  | idx _ hx _ ih => simp [Val.getAt, child, hx, ih]

theorem Sel3Norm.length {gs v p c} (h : Sel3Norm gs v p c) : gs.length = p.length := by
  induction h with
  | nil v => rfl
  | key _ _ _ ih => simp [ih]
  | idx _ _ _ ih => simp [ih]

theorem Sel3Norm.snoc_key {gs v p cls kvs k c} (h : Sel3Norm gs v p (.dict cls kvs)) (hk : PlainKey k)
    (hl : lookup k kvs = some c) : Sel3Norm (gs ++ [.key k]) v (p ++ [.key k]) c := by
  generalize hd : Val.dict cls kvs = d at h
  induction h with
  | nil v => subst hd; exact .key hk hl (.nil c)
  | key hk' hl' _ ih => exact .key hk' hl' (ih hd)
  | idx hn hx _ ih => exact .idx hn hx (ih hd)

theorem Sel3Norm.snoc_idx {gs v p lc xs j c} (h : Sel3Norm gs v p (.list lc xs)) (hj : xs[j]? = some c) :
    Sel3Norm (gs ++ [.br (natStr j)]) v (p ++ [.idx j]) c := by
  generalize hd : Val.list lc xs = d at h
  induction h with
  | nil v =>
    subst hd
    exact .idx (i := (j : Int)) (normIdx_nat (lt_of_getElem?_eq_some hj)) hj (.nil c)
  | key hk' hl' _ ih => exact .key hk' hl' (ih hd)
  | idx hn hx _ ih => exact .idx hn hx (ih hd)

/-- **The text of a walk is a fixed point**: its tokens spell the same position and write the same text. -/
theorem sel3_norm_spellsF : ∀ (gs : List GSeg) (v : Val) (p : Pos) (c : Val), Sel3Norm gs v p c →
    SpellsF (sel2Toks gs) v p c (sel2Render gs)
  | [], v, p, c, h => by cases h; exact .nil v
  | [.key k], v, p, c, h => by
    cases h with
    | key hk hl hr =>
      cases hr
      rw [sel2Render_key_slash]
      exact .key hk.keyTok hl (.nil _)
  | .key k :: .key k2 :: rest, v, p, c, h => by
    cases h with
    | key hk hl hr =>
      have ih := sel3_norm_spellsF (.key k2 :: rest) _ _ _ hr
      rw [sel2_toks_key_key, sel2Render_key_slash]
      exact .key hk.keyTok hl ih
  | .key k :: .br e :: rest, v, p, c, h => by
    cases h with
    | key hk hl hr =>
      cases hr with
      | idx hn hx hr2 =>
        have ih := sel3_norm_spellsF rest _ _ _ hr2
        rw [sel2Render_key_br]
        exact .keyIdx (intStr_keyIdxTok _ hk) hl hn hx ih
  | .br e :: rest, v, p, c, h => by
    cases h with
    | idx hn hx hr =>
      have ih := sel3_norm_spellsF rest _ _ _ hr
      rw [sel2Render_br]
      exact .idx (intStr_idxTok _) hn hx ih

end N0.XPath
