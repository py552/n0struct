import N0Verif.Proofs.XPathWalk
import N0Verif.Proofs.XPathGText
/-!
  The walk of `_find` over the PIECES of a path text (`GSeg`: `/k`, `[e]`).  Appending to a path is appending lists of
  pieces; the tokens (`sel2Toks`) glue a key to the bracket that follows it (`k[e]`), and `_find` takes that token apart
  again by itself.  `GWalk.walk` is the walk over the tokens, `find_gwalkTo` says where `_find` stands when pieces follow
  the walk, wherever it ends.  The text `_find` has written is the text of a walk (`Sel3Norm`), so what resolves it
  again applies (`Proofs/XPathFound.lean`).
-/
namespace N0.XPath
open N0 N0.Py N0.Val

/-- `GWalk gs v p c ns`: the pieces `gs`, read from the node `v`, lead along `p` to the node `c`; `ns` are the pieces
of the text `_find` writes into `xpath_found_str` on the way: the same keys, every index as the integer it denotes -/
inductive GWalk : List GSeg → Val → Pos → Val → List GSeg → Prop
  | nil (v : Val) : GWalk [] v [] v []
  | key {k gs cls kvs c p d ns} : PlainKey k → lookup k kvs = some c → GWalk gs c p d ns →
      GWalk (.key k :: gs) (.dict cls kvs) (.key k :: p) d (.key k :: ns)
  | br {e i gs cls xs m c p d ns} : IdxDen e i → normIdx i xs.length = some m → xs[m]? = some c → GWalk gs c p d ns →
      GWalk (.br e :: gs) (.list cls xs) (.idx m :: p) d (.br (intStr i) :: ns)

theorem GWalk.append {a b : List GSeg} {v c d : Val} {p p' : Pos} {ns ns' : List GSeg} (h1 : GWalk a v p c ns)
    (h2 : GWalk b c p' d ns') : GWalk (a ++ b) v (p ++ p') d (ns ++ ns') := by
  induction h1 with
  | nil v => exact h2
  | key hk hl _ ih => exact .key hk hl (ih h2)
  | br he hn hx _ ih => exact .br he hn hx (ih h2)

/-- what `_find` has written is the text of a walk to the same node -/
theorem GWalk.norm {gs : List GSeg} {v c : Val} {p : Pos} {ns : List GSeg} (h : GWalk gs v p c ns) :
    Sel3Norm ns v p c := by
  induction h with
  | nil v => exact .nil v
  | key hk hl _ ih => exact .key hk hl ih
  | br _ hn hx _ ih => exact .idx hn hx ih

/-- the text of a walk is a walk over pieces, and `_find` writes it again -/
theorem Sel3Norm.gwalk {gs : List GSeg} {v c : Val} {p : Pos} (h : Sel3Norm gs v p c) : GWalk gs v p c gs := by
  induction h with
  | nil v => exact .nil v
  | key hk hl _ ih => exact .key hk hl ih
  | idx hn hx _ ih => exact .br (IdxDen.int _) hn hx ih

theorem GWalk.getAt {gs : List GSeg} {v c : Val} {p : Pos} {ns : List GSeg} (h : GWalk gs v p c ns) :
    Val.getAt v p = some c :=
  h.norm.getAt

theorem GWalk.length {gs : List GSeg} {v c : Val} {p : Pos} {ns : List GSeg} (h : GWalk gs v p c ns) :
    gs.length = p.length := by
  induction h with
  | nil v => rfl
  | key _ _ _ ih => simp [ih]
  | br _ _ _ _ ih => simp [ih]

/-- the canonical path of a node, as pieces -/
theorem gwalk_embed {p : Pos} {v c : Val} (hp : PlainPos p) (h : Val.getAt v p = some c) :
    GWalk (sel2Embed p) v p c (sel2Embed p) :=
  (sel3_norm_canon p v c hp h).gwalk

/-- **pieces to tokens**: the walk of `_find` over the tokens of the text, one step per piece (a glued token `k[e]` is
the key step, which hands `[e]` on) -/
theorem GWalk.walk {gs : List GSeg} {v c : Val} {p : Pos} {ns : List GSeg} (h : GWalk gs v p c ns) :
    Walk gs.length (sel2Toks gs) v p c (sel2Render ns) false := by
  induction h with
  | nil v => exact .nil v
  | key hk hl hsub ih =>
    rw [sel2Render_key_slash]
    cases hsub with
    | nil v => exact .key hk.keyTok hl ih
    | key _ _ _ => rw [sel2_toks_key_key]; exact .key hk.keyTok hl ih
    | br he _ _ _ => rw [sel2Toks_key_br]; rw [sel2Toks_br] at ih; exact .keyIdx (he.keyIdxTok hk) hl ih
  | br he hn hx _ ih => rw [sel2Toks_br]; exact .idx he.idxTok hn hx ih

/-- **the walk of `_find` along pieces, when pieces follow**: one step per piece, and `_find` goes on with the tokens of
the pieces that follow — also when the text glues the first of them to the last key walked (`k[e]`: `_find` hands `[e]`
on as a token), so no case is made of where the walk ends -/
theorem find_gwalkTo (root : Val) (rl : Bool) (sp : Pos) {gs : List GSeg} {v : Val} {p : Pos} {c : Val}
    {ns : List GSeg} (h : GWalk gs v p c ns) (more : List GSeg) (hmore : more ≠ [])
    (hbr : ∀ e r, more = .br e :: r → IdxExpr e) :
    ∀ (f : Nat) (q : Pos) (found : Str) (entry : Bool), Val.getAt root q = some v →
      findD (f + gs.length) root sp false entry (sel2Toks (gs ++ more)) (.at q) rl found
        = findD f root sp false false (sel2Toks more) (.at (q ++ p)) rl (found ++ sel2Render ns) := by
  induction h with
  | nil v =>
    intro f q found entry _
    simpa [sel2Render_nil] using findD_entry f root sp entry false (sel2Toks more) (.at q) rl found
  | @key k gs' cls kvs c p d ns hk hl hsub ih =>
    intro f q found entry hq
    have heq := ih f (q ++ [Seg.key k]) (found ++ slash ++ k) false (getAt_snoc_key hq hl)
    rw [List.length_cons, ← Nat.add_assoc, List.cons_append, sel2Render_key_slash]
    cases hgm : gs' ++ more with
    | nil => exact absurd (List.append_eq_nil_iff.1 hgm).2 hmore
    | cons g r =>
      rw [hgm] at heq
      cases g with
      | key k2 =>
        rw [sel2_toks_key_key, find_key_step_sp (f + gs'.length) root sp entry rl q found k _ cls kvs c
          (sel3_toks_ne_nil _ (by simp)) hq hk.keyTok hl, heq]
        simp only [List.append_assoc, List.cons_append, List.nil_append]
      | br e =>
        -- the bracket glued to `k` is the first piece that follows, or the next piece of the walk
        have hexpr : IdxExpr e := by
          cases hsub with
          | nil v => exact hbr e r (by simpa using hgm)
          | key _ _ _ => simp at hgm
          | br he _ _ _ =>
            simp only [List.cons_append, List.cons.injEq, GSeg.br.injEq] at hgm
            exact hgm.1 ▸ he.expr
        rw [sel2Toks_key_br, findD_keyidx_step (ps := false) (par := .at q) rfl hq (split_bracket k e (Or.inr hk) hexpr)
          hk.ne hk.notUp hk.keyTok.notStar hl, childRef_at, ← sel2Toks_br, heq]
        simp only [List.append_assoc, List.cons_append, List.nil_append]
  | @br e i gs' cls xs m c p d ns he hn hx _ ih =>
    intro f q found entry hq
    have heq := ih f (q ++ [Seg.idx m]) (found ++ bracket (intStr i)) false (getAt_snoc_idx hq hx)
    rw [List.length_cons, ← Nat.add_assoc, List.cons_append, sel2Toks_br, sel2Render_br,
      find_idx_step_sp (f + gs'.length) root sp entry rl q found _ e i _
        (sel3_toks_ne_nil _ (by simp [hmore])) cls xs m hq he.idxTok hn, heq]
    simp only [List.append_assoc, List.cons_append, List.nil_append]

end N0.XPath
