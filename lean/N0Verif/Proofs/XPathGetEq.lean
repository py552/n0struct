import N0Verif.Proofs.XPathPure
/-!
  `_get` taken apart.  `getCore` and its marker twin `getCoreS` are one function `getG`, generic in what is
  handed out (`val` of a value of the tree, `dq` for the `''` of a `?` path): the `?` prefix, then `getBody`,
  which is the search (`rootFind`) followed by the funnel `getAns`, or the plain key / index lookup `getPlain`;
  every miss goes through `getMiss`.
-/
namespace N0.XPath
open N0 N0.Py N0.Val

section
variable {α β : Type}

/-- a miss: raised as `e` when the caller asked for exceptions, else answered with the default -/
def getMiss (root : Val) (dflt : α) (raise : Bool) (e : PyErr) : Val × PyM α :=
  if raise then (root, .error e) else (root, .ok dflt)

/-- the answer to the outcome of the search: a funnelled class and NOT FOUND are misses -/
def getAns (val : Val → α) (root : Val) (dflt : α) (raise : Bool) : PyM (Val × Res) → Val × PyM α
  | .error e => if caught e then getMiss root dflt raise e else (root, .error e)
  | .ok (root', r) => if r.isFound then (root', .ok (val r.value)) else getMiss root' dflt raise .IndexError

/-- a text without `/` and `[`: a key of a dict root, an index of a list root -/
def getPlain (val : Val → α) (root : Val) (xp : Str) (dflt : α) (raise : Bool) : Val × PyM α :=
  match root with
  | .dict _ kvs =>
    match lookup xp kvs with
    | some v => (root, .ok (val v))
    | Option.none => getMiss root dflt raise .KeyError
  | .list _ xs =>
    match n0eval xp with
    | .error e => (root, .error e)
    | .ok (.int i) =>
      match normIdx i xs.length with
      | some n => (root, .ok (val (xs.getD n Val.none)))
      | Option.none => getMiss root dflt raise .IndexError
    | .ok (.str _) => getMiss root dflt raise .TypeError
  | _ => (root, .error .Unsupported)

/-- `_get` once the `?` prefix is taken off -/
def getBody (val : Val → α) (fuel : Nat) (root : Val) (xp : Str) (dflt : α) (raise rl : Bool) : Val × PyM α :=
  if hasPathChar xp then getAns val root dflt raise (rootFind fuel root (tokenize xp) rl)
  else getPlain val root xp dflt raise

/-- `_get`: `''` on a list root is the default; a `?` path answers a miss with `dq` and never raises it -/
def getG (val : Val → α) (dq : α) (fuel : Nat) (root : Val) (xp : Str) (dflt : α) (raise rl : Bool) : Val × PyM α :=
  if isList root && xp.isEmpty then (root, .ok dflt)
  else if startsWith xp ['?'] then getBody val fuel root (xp.drop 1) dq false rl
  else getBody val fuel root xp dflt raise rl

theorem getMiss_fst (root : Val) (dflt : α) (raise : Bool) (e : PyErr) : (getMiss root dflt raise e).1 = root := by
  unfold getMiss; split <;> rfl

theorem getMiss_err {root : Val} {dflt : α} {raise : Bool} {e e' : PyErr}
    (h : (getMiss root dflt raise e).2 = .error e') : raise = true ∧ e' = e := by
  unfold getMiss at h
  split at h
  · rename_i hr; cases h; exact ⟨hr, rfl⟩
  · cases h

theorem getMiss_raise_ok {root : Val} {dflt a : α} {e : PyErr} : (getMiss root dflt true e).2 ≠ .ok a :=
  fun h => by cases h

/-- a miss that is raised with `raise_exception`, is answered with the default without it: the funnelled classes, and
the `KeyError` of a plain missing key -/
def missErr (xp : Str) (e : PyErr) : Bool := caught e || (e = .KeyError && !hasPathChar xp)

/-! ### the three kinds of answer

Whatever is handed out (`val`), whatever the default and `raise_exception`: `_get` finds a value of the tree, or misses, or lets
an exception through that is no miss.  `getBody_kind` says so once; what the other lemmas say about `getBody` is read off the kind. -/

inductive GetKind
  | hit (t : Val) (v : Val)
  | miss (t : Val) (e : PyErr)
  | esc (e : PyErr)

/-- how a kind is answered -/
def GetKind.ans (val : Val → α) (root : Val) (dflt : α) (raise : Bool) : GetKind → Val × PyM α
  | .hit t v => (t, .ok (val v))
  | .miss t e => getMiss t dflt raise e
  | .esc e => (root, .error e)

/-- **`_get` answers one of three kinds**: the tree handed back is the root or the tree the search returned; a miss has a
miss class (`missErr`); what escapes is outside the model or a class the search raised and `_get` does not funnel -/
theorem getBody_kind (fuel : Nat) (root : Val) (xp : Str) (rl : Bool) :
    ∃ k : GetKind, (∀ (α : Type) (val : Val → α) (dflt : α) (raise : Bool),
        getBody val fuel root xp dflt raise rl = k.ans val root dflt raise) ∧
      match k with
      | .hit t _ => t = root ∨ ∃ r, rootFind fuel root (tokenize xp) rl = .ok (t, r)
      | .miss t e => (t = root ∨ ∃ r, rootFind fuel root (tokenize xp) rl = .ok (t, r)) ∧ missErr xp e = true
      | .esc e => missErr xp e = false ∧ (e = .Unsupported ∨ rootFind fuel root (tokenize xp) rl = .error e) := by
  unfold getBody
  cases hp : hasPathChar xp with
  | true =>
    simp only [if_true]
    cases hx : rootFind fuel root (tokenize xp) rl with
    | error e =>
      cases hc : caught e with
      | true => exact ⟨.miss root e, fun _ _ _ _ => by simp [getAns, hc, GetKind.ans], .inl rfl, by simp [missErr, hc]⟩
      | false => exact ⟨.esc e, fun _ _ _ _ => by simp [getAns, hc, GetKind.ans], by simp [missErr, hc, hp], .inr rfl⟩
    | ok p =>
      obtain ⟨root', r⟩ := p
      cases hf : r.isFound with
      | true => exact ⟨.hit root' r.value, fun _ _ _ _ => by simp [getAns, hf, GetKind.ans], .inr ⟨_, rfl⟩⟩
      | false => exact ⟨.miss root' .IndexError, fun _ _ _ _ => by simp [getAns, hf, GetKind.ans], .inr ⟨_, rfl⟩, rfl⟩
  | false =>
    simp only [Bool.false_eq_true, if_false]
    have hk : missErr xp .KeyError = true := by simp [missErr, hp]
    unfold getPlain
    cases root with
    | dict c kvs =>
      cases hl : lookup xp kvs with
      | some v => exact ⟨.hit _ v, fun _ _ _ _ => by simp [hl, GetKind.ans], .inl rfl⟩
      | none => exact ⟨.miss _ .KeyError, fun _ _ _ _ => by simp [hl, GetKind.ans], .inl rfl, hk⟩
    | list c xs =>
      cases he : n0eval xp with
      | error e => cases n0eval_err he; exact ⟨.esc .Unsupported, fun _ _ _ _ => by simp [GetKind.ans], rfl, .inl rfl⟩
      | ok ev =>
        cases ev with
        | str t => exact ⟨.miss _ .TypeError, fun _ _ _ _ => by simp [GetKind.ans], .inl rfl, rfl⟩
        | int i =>
          cases hn : normIdx i xs.length with
          | some n => exact ⟨.hit _ (xs.getD n Val.none), fun _ _ _ _ => by simp [hn, GetKind.ans], .inl rfl⟩
          | none => exact ⟨.miss _ .IndexError, fun _ _ _ _ => by simp [hn, GetKind.ans], .inl rfl, rfl⟩
    | _ => exact ⟨.esc .Unsupported, fun _ _ _ _ => rfl, rfl, .inl rfl⟩

theorem getBody_fst {val : Val → α} {fuel : Nat} {root : Val} {xp : Str} {dflt : α} {raise rl : Bool}
    (h : ∀ root' r, rootFind fuel root (tokenize xp) rl = .ok (root', r) → root' = root) :
    (getBody val fuel root xp dflt raise rl).1 = root := by
  have ht : ∀ t, (t = root ∨ ∃ r, rootFind fuel root (tokenize xp) rl = .ok (t, r)) → t = root :=
    fun t ht => ht.elim id fun ⟨r, hr⟩ => h t r hr
  obtain ⟨k, hk, hs⟩ := getBody_kind fuel root xp rl
  rw [hk]
  cases k with
  | hit t v => exact ht _ hs
  | miss t e => exact (getMiss_fst ..).trans (ht _ hs.1)
  | esc e => rfl

/-- where an exception of `_get` comes from: a miss the caller asked to have raised, an index text outside the
model, or a class the search raised and `_get` does not funnel -/
theorem getBody_err {val : Val → α} {fuel : Nat} {root : Val} {xp : Str} {dflt : α} {raise rl : Bool} {e : PyErr}
    (h : (getBody val fuel root xp dflt raise rl).2 = .error e) :
    (raise = true ∧ (caught e = true ∨ e = .KeyError)) ∨ e = .Unsupported ∨
      (caught e = false ∧ rootFind fuel root (tokenize xp) rl = .error e) := by
  obtain ⟨k, hk, hs⟩ := getBody_kind fuel root xp rl
  rw [hk] at h
  cases k with
  | hit t v => cases h
  | miss t e' =>
    obtain ⟨hr, rfl⟩ := getMiss_err h
    have := hs.2
    simp only [missErr, Bool.or_eq_true, Bool.and_eq_true, decide_eq_true_eq] at this
    exact .inl ⟨hr, this.imp id (·.1)⟩
  | esc e' =>
    cases h
    have := hs.1
    simp only [missErr, Bool.or_eq_false_iff] at this
    exact hs.2.elim (fun h => .inr (.inl h)) fun h => .inr (.inr ⟨this.1, h⟩)

theorem caught_unsupported : caught .Unsupported = false := rfl

theorem getCore_eq (fuel : Nat) (root : Val) (xp : Str) (dflt : Val) (raise rl : Bool) :
    getCore fuel root xp dflt raise rl = getG id emptyStr fuel root xp dflt raise rl := by
  unfold getCore getG
  cases root with
  | dict c kvs =>
    by_cases hq : startsWith xp ['?'] = true
    · simp only [hq, ↓reduceIte]; rfl
    · simp only [hq]; rfl
  | list c xs =>
    by_cases he : xp.isEmpty = true
    · simp only [he, ↓reduceIte, isList, Bool.true_and]
    · by_cases hq : startsWith xp ['?'] = true
      · simp only [he, hq, ↓reduceIte, isList, Bool.true_and]; rfl
      · simp only [he, hq, isList, Bool.true_and]; rfl
  | _ =>
    simp only [isList, Bool.false_and, Bool.false_eq_true, if_false, getBody, getAns, getPlain, rootFind,
      caught_unsupported, ite_self]

theorem getCoreS_eq (fuel : Nat) (root : Val) (xp : Str) (raise rl : Bool) :
    getCoreS fuel root xp raise rl = getG some (some emptyStr) fuel root xp Option.none raise rl := by
  unfold getCoreS getG
  cases root with
  | dict c kvs =>
    by_cases hq : startsWith xp ['?'] = true
    · simp only [hq, ↓reduceIte]; rfl
    · simp only [hq]; rfl
  | list c xs =>
    by_cases he : xp.isEmpty = true
    · simp only [he, ↓reduceIte, isList, Bool.true_and]
    · by_cases hq : startsWith xp ['?'] = true
      · simp only [he, hq, ↓reduceIte, isList, Bool.true_and]; rfl
      · simp only [he, hq, isList, Bool.true_and]; rfl
  | _ =>
    simp only [isList, Bool.false_and, Bool.false_eq_true, if_false, getBody, getAns, getPlain, rootFind,
      caught_unsupported, ite_self]

def ansMap (h : α → β) (p : Val × PyM α) : Val × PyM β := (p.1, p.2.map h)

theorem getMiss_map (h : α → β) (root : Val) (dflt : α) (raise : Bool) (e : PyErr) :
    getMiss root (h dflt) raise e = ansMap h (getMiss root dflt raise e) := by
  unfold getMiss; split <;> rfl

/-- `_get` is natural in what it hands out -/
theorem getG_map (h : α → β) (val : Val → α) (dq : α) (fuel : Nat) (root : Val) (xp : Str) (dflt : α) (raise rl : Bool) :
    getG (fun v => h (val v)) (h dq) fuel root xp (h dflt) raise rl = ansMap h (getG val dq fuel root xp dflt raise rl) := by
  have body : ∀ xp dflt raise, getBody (fun v => h (val v)) fuel root xp (h dflt) raise rl
      = ansMap h (getBody val fuel root xp dflt raise rl) := by
    intro xp dflt raise
    obtain ⟨k, hk, _⟩ := getBody_kind fuel root xp rl
    rw [hk, hk]
    cases k <;> first | exact getMiss_map .. | rfl
  unfold getG
  split
  · rfl
  · split <;> exact body ..

/-- the answer without `raise_exception`, from the answer with it -/
def ansLower (xp : Str) (dflt : α) : Val × PyM α → Val × PyM α
  | (t', .ok a) => (t', .ok a)
  | (t', .error e) => if missErr xp e then (t', .ok dflt) else (t', .error e)

theorem getBody_lower (val : Val → α) (fuel : Nat) (root : Val) (xp : Str) (dflt : α) (rl : Bool) :
    getBody val fuel root xp dflt false rl = ansLower xp dflt (getBody val fuel root xp dflt true rl) := by
  obtain ⟨k, hk, hs⟩ := getBody_kind fuel root xp rl
  rw [hk, hk]
  cases k with
  | hit t v => rfl
  | miss t e => simp only [GetKind.ans, getMiss, ansLower, hs.2, if_true, Bool.false_eq_true, if_false]
  | esc e => simp only [GetKind.ans, ansLower, hs.1, Bool.false_eq_true, if_false]

theorem getG_lower (val : Val → α) (dq : α) (fuel : Nat) (root : Val) (xp : Str) (dflt : α) (rl : Bool)
    (hq : startsWith xp ['?'] = false) :
    getG val dq fuel root xp dflt false rl = ansLower xp dflt (getG val dq fuel root xp dflt true rl) := by
  unfold getG
  simp only [hq, Bool.false_eq_true, if_false]
  split
  · rfl
  · exact getBody_lower ..

theorem getBody_raise (val : Val → α) (fuel : Nat) (root : Val) (xp : Str) (dflt dflt' : α) (rl : Bool) :
    getBody val fuel root xp dflt true rl = getBody val fuel root xp dflt' true rl := by
  simp only [getBody, getAns, getPlain, getMiss, if_true]

/-- with `raise_exception` set, what is handed out is a value of the tree (but for `''` on a list root) -/
theorem getG_raise_ok {val : Val → α} {dq : α} {fuel : Nat} {root : Val} {xp : Str} {dflt a : α} {rl : Bool}
    (hq : startsWith xp ['?'] = false) (hne : xp ≠ []) (h : (getG val dq fuel root xp dflt true rl).2 = .ok a) :
    ∃ v, a = val v := by
  have he : xp.isEmpty = false := by cases xp <;> simp_all
  unfold getG at h
  simp only [hq, he, Bool.and_false, Bool.false_eq_true, if_false] at h
  obtain ⟨k, hk, _⟩ := getBody_kind fuel root xp rl
  rw [hk] at h
  cases k with
  | hit t v => cases h; exact ⟨_, rfl⟩
  | miss t e => exact absurd h getMiss_raise_ok
  | esc e => cases h

end

/-- a `?` path on a dict root: the rest of the path, a miss answered with `''` and never raised -/
theorem getG_qmark (fuel : Nat) (cls : Cls) (kvs : List (Str × Val)) (s : Str) (d : Val) (raise rl : Bool) :
    getG id emptyStr fuel (.dict cls kvs) ('?' :: s) d raise rl = getBody id fuel (.dict cls kvs) s emptyStr false rl := by
  simp [getG, isList, startsWith]

theorem getG_path {α : Type} (val : Val → α) (dq : α) {fuel : Nat} {root : Val} {xp : Str} {toks : List Str} (dflt : α) (raise rl : Bool)
    (hq : startsWith xp ['?'] = false) (hpc : hasPathChar xp = true) (htok : tokenize xp = toks) :
    getG val dq fuel root xp dflt raise rl = getAns val root dflt raise (rootFind fuel root toks rl) := by
  have hxe : xp.isEmpty = false := by
    cases xp with
    | nil => cases hpc
    | cons _ _ => rfl
  simp only [getG, hxe, Bool.and_false, hq, Bool.false_eq_true, if_false, getBody, hpc, if_true, htok]

/-- `_get` for a text that is a path: the outcome of the `_find` the receiver's class runs -/
theorem getCore_of_rootFind {fuel : Nat} {root : Val} {xp : Str} {toks : List Str} {rl : Bool} {r : Res} (d : Val) (raise : Bool)
    (hq : startsWith xp ['?'] = false) (hpc : hasPathChar xp = true) (htok : tokenize xp = toks)
    (hr : rootFind fuel root toks rl = .ok (root, r)) :
    getCore fuel root xp d raise rl
      = (root, if r.isFound then .ok r.value else if raise then .error .IndexError else .ok d) := by
  rw [getCore_eq, getG_path id emptyStr d raise rl hq hpc htok, hr]
  cases hf : r.isFound <;> cases raise <;> simp [getAns, getMiss, hf]

theorem getCore_of_find (cls : Cls) (kvs : List (Str × Val)) (xp : Str) (toks : List Str) (d : Val) (raise rl : Bool)
    (fuel : Nat) (r : Res)
    (hq : startsWith xp ['?'] = false) (hpc : hasPathChar xp = true) (htok : tokenize xp = toks)
    (hr : findD fuel (.dict cls kvs) [] false true toks (.at []) rl slash = .ok (.dict cls kvs, r)) :
    getCore fuel (.dict cls kvs) xp d raise rl
      = (.dict cls kvs, if r.isFound then .ok r.value else if raise then .error .IndexError else .ok d) :=
  getCore_of_rootFind d raise hq hpc htok hr

theorem getCore_of_find_err (cls : Cls) (kvs : List (Str × Val)) (xp : Str) (toks : List Str) (d : Val) (raise rl : Bool)
    (fuel : Nat) (hq : startsWith xp ['?'] = false) (hpc : hasPathChar xp = true) (htok : tokenize xp = toks)
    (hr : findD fuel (.dict cls kvs) [] false true toks (.at []) rl slash = .error .IndexError) :
    getCore fuel (.dict cls kvs) xp d raise rl
      = (.dict cls kvs, if raise then .error .IndexError else .ok d) := by
  rw [getCore_eq, getG_path id emptyStr d raise rl hq hpc htok]
  simp only [rootFind, hr, getAns, caught, getMiss]
  cases raise <;> simp

end N0.XPath
