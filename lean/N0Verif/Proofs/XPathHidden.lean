import N0Verif.Proofs.XPathDeleteRec
import N0Verif.Proofs.XPathSpellings
/-!
  Index steps on a single value, the *hidden list* (fix C03-e): lookup reads a value that is not a list as the list of this
  one item, and `_find` reports an item of it with the temporary tuple `(value,)` as the parent (`PRef.wrap`).  Each spelling
  (`…/name[e]`, `…/[e]`, `…[i][e]`, several indexes in a row) is a walk that ends with a hidden-list step, and the text found
  by it resolves to the node with its real parent (`refinds_canonical`, `refinds_row`), which is where `__setitem__` and
  `delete` go (`hiddenPlace`, `realPlace`, `delPlace`).  What `__setitem__` does with the index `1` and the others, misses on
  the hidden list, is in `XPathHiddenSet`.
-/
namespace N0.XPath
open N0 N0.Py N0.Val

theorem hidden_find_last (fuel : Nat) (root : Val) (entry rl : Bool) (P : Pos) (found tok e : Str) (i : Int) (old : Val)
    (hP : getAt root P = some old) (hl : isList old = false) (hk : IdxTok tok e i) (hi : i = 0 ∨ i = -1) :
    findD (fuel + 1) root [] false entry [tok] (.at P) rl found
      = .ok (root, { parent := .wrap (.at P), nameIdx := some (bracket (intStr i)), value := old, found := found,
                     notFound := Option.none }) :=
  findD_idx_last_single rfl hP hl hk hi

theorem hidden_find_miss (fuel : Nat) (root : Val) (entry rl : Bool) (P : Pos) (found tok e : Str) (i : Int) (old : Val)
    (rest : List Str) (hP : getAt root P = some old) (hl : isList old = false) (hk : IdxTok tok e i)
    (hi : i ≥ 1 ∨ i < -1) :
    findD (fuel + 1) root [] false entry (tok :: rest) (.at P) rl found
      = .ok (root, { parent := .wrap (.at P), nameIdx := some (bracket (intStr i)), value := Val.none, found := found,
                     notFound := some (tok :: rest) }) :=
  findD_idx_out_single rfl hP hl hk hi

/-- as `__setitem__` and `delete` resolve the text `found` again -/
theorem hidden_resolve (fuel : Nat) (root : Val) (q : Pos) (kcls : Cls) (nkvs : List (Str × Val)) (name : Str) (old : Val)
    (hp : PlainPos q) (hn : PlainKey name) (hq : getAt root q = some (.dict kcls nkvs))
    (hl : lookup name nkvs = some old) (hf : fuel ≥ 2 * (q.length + 1)) :
    ∃ r1, findD fuel root [] false true (tokenize (slash ++ renderPos (q ++ [.key name]))) (.at []) true slash = .ok (root, r1) ∧
      r1.parent = .at q ∧ r1.nameIdx = some name ∧ FoundAt root [] (q ++ [.key name]) old r1 := by
  obtain ⟨r, hr, hfound⟩ := find_canonical root (hp.append (show PlainPos [Seg.key name] from ⟨hn, trivial⟩)) (by simp)
    (getAt_snoc_key hq hl) (by rw [List.length_append]; exact hf)
  obtain ⟨hpar, hni⟩ := foundAt_snoc_key hfound hq
  exact ⟨r, hr, hpar, hni, hfound⟩

theorem refinds_canonical {root : Val} {P : Pos} {old : Val} {fuel : Nat} (hp : PlainPos P) (hne : P ≠ [])
    (hP : getAt root P = some old) (hf : fuel ≥ P.length) (k : Nat) : Refinds fuel root P old k (slash ++ renderPos P) :=
  refinds_real (walk_merged hp hP) (tokenize_render P hp) (mergedToks_ne_nil P hne) hf k

theorem IdxSp.gBr (e : IdxSp) : GBr e.text := ⟨e.noRB, e.noSlash⟩

/-! The texts of the hidden-list spellings are the canonical path of a position followed by pieces (`tokenize_pos_pieces`):
`/name[e]`, `[e]`, a row `[e1]…[en]`, `/[e]` (the empty key and the bracket), each possibly followed by a plain path. -/

theorem tokenize_attached (q : Pos) (hp : PlainPos q) {name : Str} (hn : PlainKey name) (e : IdxSp) :
    tokenize (slash ++ renderPos q ++ slash ++ (name ++ bracket e.text)) = mergedToks q ++ [name ++ bracket e.text] := by
  have := tokenize_pos_pieces q hp [.key name, .br e.text] ⟨Or.inl hn.gKey, e.gBr, trivial⟩
  rw [sel2_toks_append_key_br, sel2_toks_embed] at this
  simpa [sel2Render, sel2RenderSeg, slash, sel2Toks] using this

theorem sel2Embed_snoc_idx (q0 : Pos) (i : Nat) : sel2Embed (q0 ++ [Seg.idx i]) = sel2Embed q0 ++ [.br (natStr i)] := by
  rw [sel2_embed_append]; rfl

theorem hidden_elem_tokenize (q0 : Pos) (i : Nat) (e : IdxSp) (hp : PlainPos (q0 ++ [Seg.idx i])) :
    tokenize (slash ++ renderPos (q0 ++ [Seg.idx i]) ++ bracket e.text) = mergedToks (q0 ++ [Seg.idx i]) ++ [bracket e.text] := by
  have ht : sel2Toks (sel2Embed (q0 ++ [Seg.idx i]) ++ [GSeg.br e.text]) = mergedToks (q0 ++ [Seg.idx i]) ++ [bracket e.text] := by
    rw [sel2Embed_snoc_idx, List.append_assoc]
    exact (sel2_toks_append_br_br _ _ _ []).trans (by rw [← sel2Embed_snoc_idx, sel2_toks_embed]; rfl)
  have := tokenize_pos_pieces _ hp [.br e.text] ⟨e.gBr, trivial⟩
  rw [ht] at this
  simpa [sel2Render, sel2RenderSeg] using this

theorem tokenize_then_pos (T : Str) (k : Str) (rest : Pos) (hp : PlainPos (Seg.key k :: rest)) :
    tokenize (T ++ renderPos (Seg.key k :: rest)) = tokenize T ++ mergedToks (Seg.key k :: rest) := by
  have h1 : renderPos (Seg.key k :: rest) = '/' :: (k ++ renderPos rest) := by simp [renderPos, renderSeg]
  have h2 := tokenize_render (Seg.key k :: rest) hp
  rw [tokenize_slash, h1, tokenize_slash] at h2
  rw [h1, tokenize_append_slash, h2]

def rowG (es : List IdxSp) : List GSeg := es.map (fun e => .br e.text)

theorem render_rowG (es : List IdxSp) : sel2Render (rowG es) = es.flatMap (fun e => bracket e.text) := by
  induction es with
  | nil => rfl
  | cons e es ih => rw [rowG, List.map_cons, sel2Render_br, List.flatMap_cons, ← ih]; rfl

theorem goodG_rowG : ∀ es : List IdxSp, GoodG (rowG es)
  | [] => trivial
  | e :: es => ⟨e.gBr, goodG_rowG es⟩

theorem sel2Toks_rowG : ∀ es : List IdxSp, sel2Toks (rowG es) = es.map (fun e => bracket e.text)
  | [] => rfl
  | e :: es => by rw [rowG, List.map_cons, sel2Toks_br, List.map_cons, ← sel2Toks_rowG es]; rfl

theorem sel2Toks_append_row (a : List GSeg) (e : Str) : ∀ es : List IdxSp,
    sel2Toks (a ++ .br e :: rowG es) = sel2Toks (a ++ [.br e]) ++ es.map (fun e => bracket e.text)
  | [] => by simp [rowG]
  | e2 :: es => by
    rw [rowG, List.map_cons, sel2_toks_append_br_br, List.map_cons, ← sel2Toks_rowG es]; rfl

/-! ### the walks

The index `e`, denoting `0` or `-1`, attached to the name that holds the value (`…/name[e]`: one token with it) or a token
of its own after the tokens of the position `P` of the value (`…/[e]`, `…[i][e]`). -/

theorem walk_then_hidden {P : Pos} {root old : Val} {e : IdxSp} (hp : PlainPos P) (hP : getAt root P = some old)
    (hs : isList old = false) (he : e.val = 0 ∨ e.val = -1) :
    Walk (1 + P.length) (mergedToks P ++ [bracket e.text]) root P old (renderPos P) true := by
  simpa using (walk_merged hp hP).append rfl (Walk.hidLast e.idxTok hs he) (by simp)

theorem walk_attached_hidden {q : Pos} {root old : Val} {kcls : Cls} {nkvs : List (Str × Val)} {name : Str} {e : IdxSp}
    (hp : PlainPos q) (hget : getAt root q = some (.dict kcls nkvs)) (hn : PlainKey name)
    (hl : lookup name nkvs = some old) (hs : isList old = false) (he : e.val = 0 ∨ e.val = -1) :
    Walk (2 + q.length) (mergedToks q ++ [name ++ bracket e.text]) root (q ++ [Seg.key name]) old
      (renderPos (q ++ [Seg.key name])) true := by
  rw [show renderPos (q ++ [Seg.key name]) = renderPos q ++ (slash ++ name) by simp [renderPos, renderSeg, slash]]
  simpa [List.append_assoc] using
    (walk_merged hp hget).append rfl (Walk.keyIdx (e.keyIdxTok hn) hl (Walk.hidLast e.idxTok hs he)) (by simp)

theorem hidden_walk (root : Val) (q : Pos) (kcls : Cls) (nkvs : List (Str × Val)) (name : Str) (old : Val) (e : IdxSp)
    (rest : List Str) (hp : PlainPos q) (hget : getAt root q = some (.dict kcls nkvs)) (hn : PlainKey name)
    (hl : lookup name nkvs = some old) {fuel k : Nat} (hf : fuel ≥ k + 2 + q.length) :
    ∃ f, fuel = f + k + 2 + q.length ∧
      findD fuel root [] false true (mergedToks q ++ (name ++ bracket e.text) :: rest) (.at []) true slash
        = findD (f + k + 1) root [] false false (bracket e.text :: rest) (.at (q ++ [.key name])) true
            (slash ++ renderPos (q ++ [.key name])) := by
  obtain ⟨f, rfl⟩ := Nat.exists_eq_add_of_le' hf
  refine ⟨f, by rw [← Nat.add_assoc, ← Nat.add_assoc], ?_⟩
  have hwalk := find_walkTo_real root true [] (walk_merged hp hget) ((name ++ bracket e.text) :: rest) (by simp)
    (f + k + 1 + 1) [] slash true rfl
  rw [show f + (k + 2 + q.length) = f + k + 1 + 1 + q.length by rw [← Nat.add_assoc, ← Nat.add_assoc], hwalk, List.nil_append,
    find_keyidx_step_sp (f + k + 1) _ [] false true q _ _ name e.text e.val rest kcls nkvs old hget (e.keyIdxTok hn) hl,
    renderPos_snoc_key]

/-! ### several indexes in a row

Item 0 of the hidden list is the value itself, which is again read as a list of one item, and so on.  `_find` reports the
last hidden list with `found` = the path of `P` followed by the indexes already passed (as `[0]` / `[-1]`); `__setitem__`
resolves that text again and again — one index less each time — until the parent reported is a node of the structure. -/

/-- the index denotes the one item of a hidden list -/
def GoodIdx (e : IdxSp) : Prop := e.val = 0 ∨ e.val = -1

/-- the spelling `_find` itself writes for an index that denotes `0` or `-1`: `0`, `-1` -/
def canonIdx (e : IdxSp) : IdxSp := if e.val = 0 then .lit 0 else .neg 1

theorem canonIdx_good (e : IdxSp) : GoodIdx (canonIdx e) := by
  unfold canonIdx
  split
  · exact Or.inl rfl
  · exact Or.inr rfl

theorem canonIdx_idem (e : IdxSp) : canonIdx (canonIdx e) = canonIdx e := by
  unfold canonIdx
  split <;> rfl

theorem canonIdx_text {e : IdxSp} (h : GoodIdx e) : bracket (intStr e.val) = bracket (canonIdx e).text := by
  rcases h with h | h
  · rw [canonIdx, if_pos h, h]; decide
  · rw [canonIdx, if_neg (by rw [h]; decide), h]; decide

/-- the indexes already passed, the way `_find` appends them to `xpath_found_str`; it is again a row of index steps -/
def rowText (es : List IdxSp) : Str := (es.map canonIdx).flatMap (fun e => bracket e.text)

theorem rowText_cons (e : IdxSp) (es : List IdxSp) : rowText (e :: es) = bracket (canonIdx e).text ++ rowText es := rfl

theorem rowText_canon (es : List IdxSp) : rowText (es.map canonIdx) = rowText es := by
  rw [rowText, List.map_map, show canonIdx ∘ canonIdx = canonIdx from funext canonIdx_idem]
  rfl

theorem walk_row {v : Val} (hv : isList v = false) : ∀ (init : List IdxSp) (l : IdxSp), (∀ e ∈ init, GoodIdx e) → GoodIdx l →
    Walk (init.length + 1) ((init ++ [l]).map (fun e => bracket e.text)) v [] v (rowText init) true
  | [], l, _, hg => .hidLast l.idxTok hv hg
  | e :: init, l, hgi, hg => by
    have ih := walk_row hv init l (fun x hx => hgi x (by simp [hx])) hg
    rw [rowText_cons, ← canonIdx_text (hgi e (by simp))]
    exact .hid e.idxTok hv (hgi e (by simp)) (by simp) ih

/-- the first index is one token with the name when `P` ends with a name -/
theorem walk_row_text (root : Val) (P : Pos) (old : Val) (init : List IdxSp) (l : IdxSp)
    (hp : PlainPos P) (hne : P ≠ []) (hP : getAt root P = some old) (hs : isList old = false)
    (hgi : ∀ e ∈ init, GoodIdx e) (hg : GoodIdx l) :
    ∃ toks, tokenize (slash ++ renderPos P ++ (init ++ [l]).flatMap (fun e => bracket e.text)) = toks ∧ toks ≠ [] ∧
      Walk (init.length + 1 + P.length) toks root P old (renderPos P ++ rowText init) true := by
  have hrow := walk_row hs init l hgi hg
  rcases List.eq_nil_or_concat P with h | ⟨q, s, h⟩
  · exact absurd h hne
  · rw [List.concat_eq_append] at h
    subst h
    cases s with
    | key name =>
      have hpq : PlainPos q := hp.prefix
      have hn : PlainKey name := hp.last_key
      rw [getAt_snoc] at hP
      cases hq : getAt root q with
      | none => simp [hq] at hP
      | some qv =>
        simp only [hq, Option.bind] at hP
        obtain ⟨kcls, nkvs, rfl, hl⟩ := child_key_some hP
        -- the name and the first index are one token
        obtain ⟨e, rest, hes⟩ : ∃ e rest, init ++ [l] = e :: rest := by
          cases init with
          | nil => exact ⟨l, [], rfl⟩
          | cons a r => exact ⟨a, r ++ [l], rfl⟩
        rw [hes] at hrow ⊢
        refine ⟨mergedToks q ++ (name ++ bracket e.text) :: rest.map (fun e => bracket e.text), ?_, by simp, ?_⟩
        · rw [← render_rowG, tokenize_pos_pieces _ hp _ (goodG_rowG _).piecesOk, sel2_embed_append, List.append_assoc]
          exact (sel2_toks_append_key_br _ name e.text (rowG rest)).trans (by rw [sel2_toks_embed, sel2Toks_rowG])
        · rw [show renderPos (q ++ [Seg.key name]) = renderPos q ++ (slash ++ name) by simp [renderPos, renderSeg, slash],
            List.append_assoc, List.append_assoc]
          have := (walk_merged hpq hq).append rfl (Walk.keyIdx (e.keyIdxTok hn) hl hrow) (by simp)
          simpa [List.append_assoc, Nat.add_comm, Nat.add_left_comm] using this
    | idx i =>
      refine ⟨mergedToks (q ++ [Seg.idx i]) ++ (init ++ [l]).map (fun e => bracket e.text), ?_, by simp, ?_⟩
      · rw [← render_rowG, tokenize_pos_pieces _ hp _ (goodG_rowG _).piecesOk, sel2Embed_snoc_idx, List.append_assoc]
        exact (sel2Toks_append_row _ _ _).trans (by rw [← sel2Embed_snoc_idx, sel2_toks_embed])
      · simpa using (walk_merged hp hP).append rfl hrow (by simp)

/-- The loop of `__setitem__`: each round is the search for a row with one index less, because the text `_find` writes is a
row of index steps itself. -/
theorem refinds_row (root : Val) (P : Pos) (old : Val) (fuel : Nat)
    (hp : PlainPos P) (hne : P ≠ []) (hP : getAt root P = some old) (hs : isList old = false) (k : Nat) :
    ∀ (n : Nat) (is : List IdxSp), is.length = n → fuel ≥ n + P.length →
      Refinds fuel root P old (n + k) (slash ++ (renderPos P ++ rowText is))
  | 0, is, hlen, hf => by
    have : is = [] := List.eq_nil_of_length_eq_zero hlen
    subst this
    rw [show rowText [] = [] from rfl, List.append_nil, Nat.zero_add]
    exact refinds_canonical hp hne hP (Nat.le_trans (Nat.le_add_left _ _) hf) k
  | n + 1, is, hlen, hf => by
    rcases List.eq_nil_or_concat is with h | ⟨init, l, h⟩
    · subst h; simp at hlen
    · rw [List.concat_eq_append] at h
      subst h
      have hil : init.length = n := by simpa using hlen
      obtain ⟨toks, htok, hne', hw⟩ := walk_row_text root P old (init.map canonIdx) (canonIdx l) hp hne hP hs
        (fun e he => by obtain ⟨a, _, rfl⟩ := List.mem_map.mp he; exact canonIdx_good a) (canonIdx_good l)
      rw [rowText_canon, List.length_map, hil] at hw
      rw [Nat.add_right_comm]
      refine refinds_hidden hw ?_ hne' hf (n + k) (refinds_row root P old fuel hp hne hP hs k n init hil
        (Nat.le_trans (Nat.add_le_add_right (Nat.le_succ n) _) hf))
      rw [← htok, ← List.append_assoc]
      simp [rowText]

end N0.XPath
