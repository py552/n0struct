import N0Verif.Proofs.XPathHidden
import N0Verif.Proofs.XPathDeleteRec
/-!
  Item access, `delete` and `pop` through a hidden-list spelling (`name[0]`, `name[-1]`, `name[last()]`, …) on the single
  value of a key, and through `…h[i][e]` on an element of a list.  The first round of `delete` removes `name` from the
  dict where it really is (`delete_hidden_first`); with `recursively=True` the rest of the loop is `pruneUp` over the real
  ancestors, the tree `delete` of the canonical path yields.  An index written after an element of a list is passed over.
-/
namespace N0.XPath
open N0 N0.Py N0.Val

theorem getItem_hidden (cls : Cls) (kvs : List (Str × Val)) (q : Pos) (kcls : Cls) (nkvs : List (Str × Val))
    (name : Str) (old : Val) (e : IdxSp) (fuel : Nat)
    (hp : PlainPos q) (hget : getAt (.dict cls kvs) q = some (.dict kcls nkvs)) (hn : PlainKey name)
    (hl : lookup name nkvs = some old) (hs : isList old = false) (he : e.val = 0 ∨ e.val = -1)
    (hf : fuel ≥ 2 * q.length + 2) :
    getItem fuel (.dict cls kvs) (slash ++ renderPos q ++ slash ++ (name ++ bracket e.text)) = (.dict cls kvs, .ok old) :=
  getItem_walk (walk_attached_hidden hp hget hn hl hs he) (tokenize_attached q hp hn e) (by simp) (slash_noQ _)
    (slash_hasPathChar _) (fuel_walk hf)

theorem delete_hidden_first (cls : Cls) (kvs : List (Str × Val)) (q : Pos) (kcls : Cls) (nkvs : List (Str × Val))
    (name : Str) (old : Val) (e : IdxSp) (t' : Val) (fuel : Nat) (r : Bool)
    (hp : PlainPos q) (hget : getAt (.dict cls kvs) q = some (.dict kcls nkvs)) (hn : PlainKey name)
    (hl : lookup name nkvs = some old) (hs : isList old = false) (he : e.val = 0 ∨ e.val = -1)
    (hdel : delAt (.dict cls kvs) (q ++ [.key name]) = some t') (hf : fuel ≥ 2 * q.length + 2) :
    delete fuel (.dict cls kvs) (slash ++ renderPos q ++ slash ++ (name ++ bracket e.text)) r
      = deleteLoop fuel (mergedToks q) r t' (mergedToks q).length false := by
  obtain ⟨r1, hr1, hfound⟩ := find_canonical (.dict cls kvs) (hp.append (show PlainPos [Seg.key name] from ⟨hn, trivial⟩))
    (by simp) (getAt_snoc_key hget hl) (by rw [List.length_append]; exact hf)
  rw [delete_of_tokens (tokenize_attached q hp hn e) (slash_noQ _)]
  exact deleteLoop_first_attached (walk_attached_hidden hp hget hn hl hs he) (e.keyIdxTok hn) hr1 hfound hdel (fuel_walk hf)

theorem delete_hidden (cls : Cls) (kvs : List (Str × Val)) (q : Pos) (kcls : Cls) (nkvs : List (Str × Val))
    (name : Str) (old : Val) (e : IdxSp) (t' : Val) (fuel : Nat) (r : Bool)
    (hp : PlainPos q) (hget : getAt (.dict cls kvs) q = some (.dict kcls nkvs)) (hn : PlainKey name)
    (hl : lookup name nkvs = some old) (hs : isList old = false) (he : e.val = 0 ∨ e.val = -1)
    (hdel : delAt (.dict cls kvs) (q ++ [.key name]) = some t') (hf : fuel ≥ 2 * q.length + 2) :
    delete fuel (.dict cls kvs) (slash ++ renderPos q ++ slash ++ (name ++ bracket e.text)) r
      = ((if r then pruneUp t' q q.length else t'), .ok ()) := by
  rw [delete_hidden_first cls kvs q kcls nkvs name old e t' fuel r hp hget hn hl hs he hdel hf]
  -- what is left are the prefixes of the path of the parent, in the tree without `name`
  have hsp := spells_merged q t' _ hp (getAt_delAt_key_parent hget (kvHas_of_lookup hl) hdel)
  have hf' := two_mul_le_fuel (mergedToks_length_le q) (Nat.le_trans (Nat.le_add_right _ 2) hf)
  exact deleteLoop_prune fuel r _ (mergedToks q) t' q _ rfl hsp hf'

theorem pop_hidden (cls : Cls) (kvs : List (Str × Val)) (q : Pos) (kcls : Cls) (nkvs : List (Str × Val))
    (name : Str) (old d : Val) (e : IdxSp) (t' : Val) (fuel : Nat) (r : Bool)
    (hp : PlainPos q) (hget : getAt (.dict cls kvs) q = some (.dict kcls nkvs)) (hn : PlainKey name)
    (hl : lookup name nkvs = some old) (hs : isList old = false) (he : e.val = 0 ∨ e.val = -1)
    (hdel : delAt (.dict cls kvs) (q ++ [.key name]) = some t') (hf : fuel ≥ 2 * q.length + 2) :
    pop fuel (.dict cls kvs) (slash ++ renderPos q ++ slash ++ (name ++ bracket e.text)) d r
      = .ok (if r then pruneUp t' q q.length else t', old) :=
  pop_of_hit d (getItem_hidden cls kvs q kcls nkvs name old e fuel hp hget hn hl hs he hf)
    (delete_hidden cls kvs q kcls nkvs name old e t' fuel r hp hget hn hl hs he hdel hf) (slash_noQ _)

theorem getItem_hidden_elem (cls : Cls) (kvs : List (Str × Val)) (q0 : Pos) (i : Nat) (old : Val) (e : IdxSp) (fuel : Nat)
    (hp : PlainPos (q0 ++ [Seg.idx i])) (hget : getAt (.dict cls kvs) (q0 ++ [Seg.idx i]) = some old)
    (hs : isList old = false) (he : e.val = 0 ∨ e.val = -1) (hf : fuel ≥ 2 * (q0.length + 1) + 1) :
    getItem fuel (.dict cls kvs) (slash ++ renderPos (q0 ++ [Seg.idx i]) ++ bracket e.text) = (.dict cls kvs, .ok old) :=
  getItem_walk (walk_then_hidden hp hget hs he) (hidden_elem_tokenize q0 i e hp) (by simp) (slash_noQ _)
    (slash_hasPathChar _) (fuel_walk (by rw [List.length_append]; exact hf))

/-- the index step on the hidden list is passed over and the loop goes on with the shorter path, still as its first round -/
theorem delete_hidden_elem (cls : Cls) (kvs : List (Str × Val)) (q0 : Pos) (i : Nat) (old : Val) (e : IdxSp) (fuel : Nat)
    (r : Bool)
    (hp : PlainPos (q0 ++ [Seg.idx i])) (hget : getAt (.dict cls kvs) (q0 ++ [Seg.idx i]) = some old)
    (hs : isList old = false) (he : e.val = 0 ∨ e.val = -1) (hf : fuel ≥ 2 * (q0.length + 1) + 1) :
    delete fuel (.dict cls kvs) (slash ++ renderPos (q0 ++ [Seg.idx i]) ++ bracket e.text) r
      = delete fuel (.dict cls kvs) (slash ++ renderPos (q0 ++ [Seg.idx i])) r := by
  rw [delete_of_tokens (hidden_elem_tokenize q0 i e hp) (slash_noQ _),
    delete_of_tokens (xp := slash ++ renderPos (q0 ++ [Seg.idx i])) (tokenize_render (q0 ++ [Seg.idx i]) hp) (slash_noQ _)]
  exact deleteLoop_hidden_skip (walk_then_hidden hp hget hs he) e.idxTok (fuel_walk (by rw [List.length_append]; exact hf))

end N0.XPath
