import N0Verif.Proofs.XPathHidden
import N0Verif.Proofs.XPathCreate
/-!
  `__setitem__` through a hidden-list spelling (fix C03-e) on the single value at a plain position `P`.  An index `0` / `-1`
  as the last step, in any spelling, is a walk that ends hidden: the value at `P` is replaced (`setItem_walk_hidden`); in the
  middle of a path it changes nothing (`setItem_walk`).  Any other index is a miss on the hidden list: `1` on the value of a
  name wraps the value and appends (`setItem_hidden_wrapped`), everything else is refused (`setItem_hidden_refused`).
-/
namespace N0.XPath
open N0 N0.Py N0.Val

theorem intStr_one : intStr 1 = ['1'] := by decide

theorem intStr_ne_one {i : Int} (h : i ≠ 1) : intStr i ≠ ['1'] := by
  intro heq
  have h1 := n0eval_intStr i
  rw [heq] at h1
  have h2 : n0eval ['1'] = .ok (.int 1) := by decide
  rw [h2] at h1
  cases h1
  exact h rfl

/-- item `[1]` of a hidden list: `__setitem__` resolves the text found once more (`r1`).  When the place reported for it is
the key `k` of a dict, the item is the miss of `k[new()]` in that dict; otherwise (an element of a list, the root) the
report stays as it is, and `_add` refuses it -/
theorem hidden_place_one {fuel : Nat} {root : Val} {F : Str} {r1 : Res} (par : PRef) (tok : Str) (rest : List Str)
    (hr1 : findD fuel root [] false true (tokenize F) (.at []) true slash = .ok (root, r1)) :
    hiddenPlace fuel root ⟨.wrap par, some (bracket (intStr 1)), Val.none, F, some (tok :: rest)⟩
      = .ok (match valOf root r1.parent, r1.nameIdx with
        | some (.dict ..), some k => ⟨r1.parent, Option.none, Val.none, F, some ((k ++ bracket sNew) :: rest)⟩
        | _, _ => ⟨.wrap par, some (bracket (intStr 1)), Val.none, F, some (tok :: rest)⟩) := by
  simp only [hiddenPlace, isWrap, intStr_one, List.isEmpty_cons, Bool.false_or, decide_true, Bool.and_self,
    ↓reduceIte, hr1, Bool.false_eq_true, List.drop_succ_cons, List.drop_zero]
  cases valOf root r1.parent with
  | none => rfl
  | some pv => cases pv <;> cases r1.nameIdx <;> rfl

theorem hidden_place_other (fuel : Nat) (root : Val) (par : PRef) (i : Int) (val : Val) (found tok : Str) (rest : List Str)
    (hi : i ≠ 1) :
    hiddenPlace fuel root ({ parent := par, nameIdx := some (bracket (intStr i)), value := val, found := found, notFound := some (tok :: rest) } : Res)
      = .ok ({ parent := par, nameIdx := some (bracket (intStr i)), value := val, found := found, notFound := some (tok :: rest) } : Res) := by
  have h1 : (some (bracket (intStr i)) = some (bracket ['1'])) = False := by
    simp only [Option.some.injEq, eq_iff_iff, iff_false]
    intro h
    have h2 : intStr i ++ [']'] = ['1'] ++ [']'] := by simpa [bracket] using h
    exact intStr_ne_one hi (List.append_cancel_right h2)
  simp only [hiddenPlace, List.isEmpty_cons, Bool.false_or, h1, decide_false, Bool.and_false, Bool.false_eq_true,
    ↓reduceIte]

theorem intStr_ne_new_last (i : Int) : intStr i ≠ sNew ∧ intStr i ≠ sLast := by
  refine ⟨(term_intStr_ne i).2.1, fun h => ?_⟩
  rcases intStr_cases i with ⟨n, _, hn⟩ | ⟨n, _, hn⟩
  · rw [hn] at h
    have := natStr_digits n
    rw [h, sLast_eq] at this
    have := this.2 'l' (by simp)
    simp [isAsciiDigit] at this
  · rw [hn, sLast_eq] at h; cases h

/-- the first level of `_add` on a hidden list (a tuple: nothing is added to it, fix C03-e): `SyntaxError`, whatever the
index `i` and the index token `[e]` -/
theorem hidden_addStep_refused {root : Val} {r : PRef} {pv : Val} (hv : valOf root (.wrap r) = some pv) (i : Int) (e : IdxSp) :
    addStep root (.wrap r) (some (bracket (intStr i))) (bracket e.text) = .error .SyntaxError := by
  obtain ⟨h1, h2⟩ := intStr_ne_new_last i
  have hb : (bracket (intStr i)).isEmpty = false := by simp [bracket]
  -- the tests of `_add` in the order it makes them (a `simp` over the whole unfolded body walks every branch and is slow to check)
  unfold addStep
  dsimp only
  rw [hb, if_neg Bool.false_ne_true, split_bracket_intStr]
  dsimp only [ok_bind]
  rw [e.idxTok.split]
  dsimp only [ok_bind]
  rw [if_neg (by decide), if_neg (by decide), hv]
  dsimp only
  rw [if_neg h1, if_neg h2]
  rfl

theorem hidden_cleanIdx (e : IdxSp) : CleanIdx e.text := fun c hc => ⟨e.noRB c hc, e.noSlash c hc⟩

theorem tokenize_bracket (e : Str) (he : CleanIdx e) : tokenize (bracket e) = [bracket e] := by
  have := tokenize_tail [.br e] ⟨he.gBr, trivial⟩
  simpa [sel2Render, sel2RenderSeg, sel2Toks] using this

theorem fuel_pred {fuel n : Nat} (hf : fuel ≥ n + 1) : fuel = fuel - 1 + 1 :=
  (Nat.succ_pred_eq_of_pos (Nat.lt_of_lt_of_le (Nat.succ_pos n) hf)).symm

theorem setItem_hidden_replace (cls : Cls) (kvs : List (Str × Val)) (q : Pos) (kcls : Cls) (nkvs : List (Str × Val))
    (name : Str) (old : Val) (e : IdxSp) (v t' : Val) (fuel : Nat)
    (hp : PlainPos q) (hget : getAt (.dict cls kvs) q = some (.dict kcls nkvs)) (hn : PlainKey name)
    (hl : lookup name nkvs = some old) (hs : isList old = false) (he : e.val = 0 ∨ e.val = -1)
    (hset : setAt (.dict cls kvs) (q ++ [.key name]) v = some t') (hf : fuel ≥ 2 * q.length + 2) :
    setItem fuel (.dict cls kvs) (slash ++ renderPos q ++ slash ++ (name ++ bracket e.text)) v = (t', .ok ()) :=
  setItem_walk_hidden (k := fuel - 1) (walk_attached_hidden hp hget hn hl hs he) (tokenize_attached q hp hn e) (by simp)
    (slash_noQ _) (slash_hasPathChar _) (hp.append (show PlainPos [Seg.key name] from ⟨hn, trivial⟩)) hset (fuel_walk hf)
    (fuel_pred hf)
    (refinds_canonical (hp.append (show PlainPos [Seg.key name] from ⟨hn, trivial⟩)) (by simp) (getAt_snoc_key hget hl)
      (by rw [List.length_append]
          exact Nat.le_trans (Nat.le_succ _) (Nat.le_trans (Nat.le_of_eq (Nat.add_comm _ 2)) (fuel_walk hf))) _)

theorem setItem_hidden_toks (cls : Cls) (kvs : List (Str × Val)) (P : Pos) (old : Val) (e : IdxSp) (v t' : Val)
    (xp : Str) (fuel : Nat)
    (hp : PlainPos P) (hne : P ≠ []) (hP : getAt (.dict cls kvs) P = some old) (hs : isList old = false)
    (he : e.val = 0 ∨ e.val = -1) (hset : setAt (.dict cls kvs) P v = some t')
    (hq : startsWith xp ['?'] = false) (hpc : hasPathChar xp = true)
    (htok : tokenize xp = mergedToks P ++ [bracket e.text]) (hf : fuel ≥ 2 * P.length + 1) :
    setItem fuel (.dict cls kvs) xp v = (t', .ok ()) :=
  setItem_walk_hidden (k := fuel - 1) (walk_then_hidden hp hP hs he) htok (by simp) hq hpc hp hset (fuel_walk hf) (fuel_pred hf)
    (refinds_canonical hp hne hP (Nat.le_trans (Nat.le_add_left _ _) (fuel_walk hf)) _)

/-- The index `1` on the single value of a name is the next item of the hidden list: for `__setitem__` the same miss as
`name[new()]`, so `_add` makes `old` the first item of a new list and appends what the fresh names `tail` describe. -/
theorem setItem_hidden_wrapped {cls : Cls} {kvs : List (Str × Val)} {xp : Str} {q : Pos} {kcls : Cls}
    {nkvs : List (Str × Val)} {name : Str} {old v t' : Val} {e : IdxSp} {tail : List Str} {fuel f : Nat} {en : Bool}
    (hq : startsWith xp ['?'] = false) (hpc : hasPathChar xp = true)
    (harr : findD fuel (.dict cls kvs) [] false true (tokenize xp) (.at []) true slash
      = findD (f + 1) (.dict cls kvs) [] false en (bracket e.text :: tail) (.at (q ++ [.key name])) true
          (slash ++ renderPos (q ++ [.key name])))
    (hp : PlainPos q) (hget : getAt (.dict cls kvs) q = some (.dict kcls nkvs)) (hn : PlainKey name)
    (hl : lookup name nkvs = some old) (hs : isList old = false) (he : e.val = 1) (ht : ∀ x ∈ tail, PlainKey x)
    (hset : setAt (.dict cls kvs) (q ++ [.key name]) (.list .n0 [old, chain tail v]) = some t')
    (hf : fuel ≥ 2 * (q.length + 1)) :
    setItem fuel (.dict cls kvs) xp v = (t', .ok ()) := by
  rw [hidden_find_miss f _ en true _ _ _ _ _ old tail (getAt_snoc_key hget hl) hs e.idxTok (Or.inl (by rw [he]; decide)),
    he] at harr
  obtain ⟨r1, hr1, hpar, hni, _⟩ := hidden_resolve fuel (.dict cls kvs) q kcls nkvs name old hp hn hget hl hf
  have hhid := hidden_place_one (.at (q ++ [.key name])) (bracket e.text) tail hr1
  simp only [hpar, hni, valOf_at, hget] at hhid
  have hadd := addStores_wrap (.dict cls kvs) q kcls nkvs name old (tail.map .name) v t' hget hn hl (laterW_names ht)
    (GW_names tail) (by rw [fill_names]; exact hset)
  rw [stepTok_names] at hadd
  exact setItem_of_place hq hpc rfl harr hhid rfl (by simp) hadd

theorem setItem_hidden_wrap (cls : Cls) (kvs : List (Str × Val)) (q : Pos) (kcls : Cls) (nkvs : List (Str × Val))
    (name : Str) (old : Val) (e : IdxSp) (tail : List Str) (v t' : Val) (fuel : Nat)
    (hp : PlainPos q) (hget : getAt (.dict cls kvs) q = some (.dict kcls nkvs)) (hn : PlainKey name)
    (hl : lookup name nkvs = some old) (hs : isList old = false) (he : e.val = 1) (ht : ∀ x ∈ tail, PlainKey x)
    (hset : setAt (.dict cls kvs) (q ++ [.key name]) (.list .n0 [old, chain tail v]) = some t')
    (hf : fuel ≥ 2 * q.length + 2) :
    setItem fuel (.dict cls kvs)
      (slash ++ renderPos q ++ slash ++ (name ++ bracket e.text) ++ renderPos (tail.map Seg.key)) v = (t', .ok ()) := by
  obtain ⟨f, _, hwalk⟩ := hidden_walk (.dict cls kvs) q kcls nkvs name old e tail hp hget hn hl (k := 0) (fuel_walk hf)
  exact setItem_hidden_wrapped (slash_noQ _) (slash_hasPathChar _)
    (by rw [tokenize_elem_path q hp hn (hidden_cleanIdx e) tail ht]; exact hwalk) hp hget hn hl hs he ht hset hf

/-- `hstay`: `__setitem__` has no other place for the index (only the index `1` can have one), so `_add` gets the hidden
list and refuses it. -/
theorem setItem_hidden_refused {cls : Cls} {kvs : List (Str × Val)} {xp : Str} {P : Pos} {old v : Val} {e : IdxSp}
    {tail : List Str} {fuel f : Nat} {en : Bool} {F : Str}
    (hq : startsWith xp ['?'] = false) (hpc : hasPathChar xp = true)
    (harr : findD fuel (.dict cls kvs) [] false true (tokenize xp) (.at []) true slash
      = findD (f + 1) (.dict cls kvs) [] false en (bracket e.text :: tail) (.at P) true F)
    (hP : getAt (.dict cls kvs) P = some old) (hs : isList old = false) (he : e.val ≥ 1 ∨ e.val < -1)
    (hstay : e.val = 1 → hiddenPlace fuel (.dict cls kvs)
        ⟨.wrap (.at P), some (bracket (intStr 1)), Val.none, F, some (bracket e.text :: tail)⟩
      = .ok ⟨.wrap (.at P), some (bracket (intStr 1)), Val.none, F, some (bracket e.text :: tail)⟩) :
    setItem fuel (.dict cls kvs) xp v = (.dict cls kvs, .error .SyntaxError) := by
  rw [hidden_find_miss f _ en true _ _ _ _ _ old tail hP hs e.idxTok he] at harr
  have hhid : hiddenPlace fuel (.dict cls kvs)
        ⟨.wrap (.at P), some (bracket (intStr e.val)), Val.none, F, some (bracket e.text :: tail)⟩
      = .ok ⟨.wrap (.at P), some (bracket (intStr e.val)), Val.none, F, some (bracket e.text :: tail)⟩ := by
    by_cases h1 : e.val = 1
    · rw [h1]; exact hstay h1
    · exact hidden_place_other fuel _ _ e.val Val.none _ _ tail h1
  have hadd : add (.dict cls kvs) (.wrap (.at P)) (some (bracket (intStr e.val))) (bracket e.text :: tail)
      = (.dict cls kvs, .error .SyntaxError) := by
    have hv : valOf (.dict cls kvs) (.wrap (.at P)) = some (.list .plain [old]) := by simp [valOf, hP]
    simp [add, hidden_addStep_refused hv e.val e]
  exact setItem_after_refused hq hpc harr hhid rfl hadd

theorem setItem_hidden_middle_toks (cls : Cls) (kvs : List (Str × Val)) (P : Pos) (old : Val) (e : IdxSp) (k2 : Str)
    (p2 : Pos) (c v t' : Val) (xp : Str) (fuel : Nat)
    (hp : PlainPos P) (hP : getAt (.dict cls kvs) P = some old) (hs : isList old = false)
    (he : e.val = 0 ∨ e.val = -1) (hp2 : PlainPos (Seg.key k2 :: p2)) (hc : getAt old (Seg.key k2 :: p2) = some c)
    (hset : setAt (.dict cls kvs) (P ++ Seg.key k2 :: p2) v = some t')
    (hq : startsWith xp ['?'] = false) (hpc : hasPathChar xp = true)
    (htok : tokenize xp = mergedToks P ++ bracket e.text :: mergedToks (Seg.key k2 :: p2))
    (hf : fuel ≥ 2 * P.length + 2 * p2.length + 4) :
    setItem fuel (.dict cls kvs) xp v = (t', .ok ()) := by
  exact setItem_walk
    ((walk_merged hp hP).append rfl (.hid e.idxTok hs he (mergedToks_ne_nil _ (by simp)) (walk_merged hp2 hc)) (by simp))
    htok (by simp) hq hpc (hp.append hp2) hset (by simp only [List.length_cons]; omega)

/-! The index `1` written as a step of its own on a single value wraps and appends as `name[1]` does; an index `0` / `-1` in
the middle of a creation path changes nothing; every other index on a single value that no key holds (an element of a
list, the root) is refused with `SyntaxError` and the tree unchanged. -/

theorem tokenize_own_step {P : Pos} (hp : PlainPos P) {e : Str} (he : CleanIdx e) {tail : List Str}
    (ht : ∀ m ∈ tail, PlainKey m) :
    tokenize (slash ++ renderPos P ++ slash ++ bracket e ++ renderPos (tail.map Seg.key)) = mergedToks P ++ bracket e :: tail := by
  have := tokenize_pos_pieces P hp (.key [] :: .br e :: tail.map GSeg.key)
    ⟨Or.inr ⟨rfl, _, _, rfl⟩, he.gBr, (goodG_keys tail ht).piecesOk⟩
  rw [sel2_toks_append_key_br, sel2_toks_embed, sel2Toks_keys] at this
  rw [← sel2_render_embed (tail.map Seg.key), sel2Embed_keys]
  simpa [sel2Render_key, sel2Render_br, slash, List.append_assoc] using this

theorem tokenize_elem_idx {q0 : Pos} {i : Nat} (hp : PlainPos (q0 ++ [Seg.idx i])) {e : Str} (he : CleanIdx e)
    {tail : List Str} (ht : ∀ m ∈ tail, PlainKey m) :
    tokenize (slash ++ renderPos (q0 ++ [Seg.idx i]) ++ bracket e ++ renderPos (tail.map Seg.key))
      = mergedToks (q0 ++ [Seg.idx i]) ++ bracket e :: tail := by
  have htk : sel2Toks (sel2Embed (q0 ++ [Seg.idx i]) ++ .br e :: tail.map GSeg.key)
      = mergedToks (q0 ++ [Seg.idx i]) ++ bracket e :: tail := by
    rw [sel2Embed_snoc_idx, List.append_assoc]
    exact (sel2_toks_append_br_br _ _ _ _).trans (by rw [← sel2Embed_snoc_idx, sel2_toks_embed, sel2Toks_keys])
  have := tokenize_pos_pieces _ hp (.br e :: tail.map GSeg.key) ⟨he.gBr, (goodG_keys tail ht).piecesOk⟩
  rw [htk] at this
  rw [← sel2_render_embed (tail.map Seg.key), sel2Embed_keys]
  simpa [sel2Render_br, List.append_assoc] using this

theorem setItem_hidden_wrap_toks (cls : Cls) (kvs : List (Str × Val)) (q : Pos) (kcls : Cls) (nkvs : List (Str × Val))
    (name : Str) (old : Val) (e : IdxSp) (tail : List Str) (v t' : Val) (xp : Str) (fuel : Nat)
    (hp : PlainPos q) (hget : getAt (.dict cls kvs) q = some (.dict kcls nkvs)) (hn : PlainKey name)
    (hl : lookup name nkvs = some old) (hs : isList old = false) (he : e.val = 1) (ht : ∀ x ∈ tail, PlainKey x)
    (hset : setAt (.dict cls kvs) (q ++ [.key name]) (.list .n0 [old, chain tail v]) = some t')
    (hq : startsWith xp ['?'] = false) (hpc : hasPathChar xp = true)
    (htok : tokenize xp = mergedToks (q ++ [.key name]) ++ bracket e.text :: tail)
    (hf : fuel ≥ 2 * q.length + 3) :
    setItem fuel (.dict cls kvs) xp v = (t', .ok ()) := by
  obtain ⟨f, _, hwalk⟩ := find_walk_pos (.dict cls kvs) true (hp.append (show PlainPos [Seg.key name] from ⟨hn, trivial⟩))
    (getAt_snoc_key hget hl) (bracket e.text :: tail) (by simp) 1
    (fuel_walk (by rw [List.length_append]; exact hf))
  exact setItem_hidden_wrapped hq hpc (by rw [htok]; exact hwalk) hp hget hn hl hs he ht hset
    (Nat.le_of_succ_le hf)

theorem setItem_hidden_create_middle_toks (cls : Cls) (kvs : List (Str × Val)) (P : Pos) (ocls : Cls)
    (okvs : List (Str × Val)) (e : IdxSp) (n : Str) (ns : List Str) (v t' : Val) (xp : Str) (fuel : Nat)
    (hp : PlainPos P) (hP : getAt (.dict cls kvs) P = some (.dict ocls okvs)) (he : e.val = 0 ∨ e.val = -1)
    (hfresh : lookup n okvs = Option.none) (hnn : PlainKey n) (hns : ∀ m ∈ ns, PlainKey m)
    (hset : setAt (.dict cls kvs) (P ++ [.key n]) (chain ns v) = some t')
    (hq : startsWith xp ['?'] = false) (hpc : hasPathChar xp = true)
    (htok : tokenize xp = mergedToks P ++ bracket e.text :: n :: ns)
    (hf : fuel ≥ 2 * P.length + 2) :
    setItem fuel (.dict cls kvs) xp v = (t', .ok ()) := by
  exact setItem_create_names_toks cls kvs P ocls okvs n ns v t' xp fuel (walk_then_hidden hp hP rfl he) hfresh hnn hns hset hq hpc
    (by rw [htok, List.append_assoc]; rfl) (by rw [← Nat.add_assoc]; exact fuel_walk hf)

theorem setItem_hidden_elem_refuse_toks (cls : Cls) (kvs : List (Str × Val)) (q0 : Pos) (i : Nat) (old : Val) (e : IdxSp)
    (tail : List Str) (v : Val) (xp : Str) (fuel : Nat)
    (hp : PlainPos (q0 ++ [Seg.idx i])) (hP : getAt (.dict cls kvs) (q0 ++ [Seg.idx i]) = some old)
    (hs : isList old = false) (he : e.val ≥ 1 ∨ e.val < -1)
    (hq : startsWith xp ['?'] = false) (hpc : hasPathChar xp = true)
    (htok : tokenize xp = mergedToks (q0 ++ [Seg.idx i]) ++ bracket e.text :: tail)
    (hf : fuel ≥ 2 * (q0.length + 1) + 1) :
    setItem fuel (.dict cls kvs) xp v = (.dict cls kvs, .error .SyntaxError) := by
  obtain ⟨f, _, hwalk⟩ := find_walk_pos (.dict cls kvs) true hp hP (bracket e.text :: tail) (by simp) 1
    (fuel_walk (by rw [List.length_append]; exact hf))
  refine setItem_hidden_refused hq hpc (by rw [htok]; exact hwalk) hP hs he (fun _ => ?_)
  -- item `[1]`: the place `_find` reports for the value is a list, not a key of a dict, so the hidden list stays
  have hlen := mergedToks_length_le (q0 ++ [Seg.idx i])
  simp only [List.length_append, List.length_cons, List.length_nil] at hlen
  obtain ⟨r1, hr1, hfound⟩ := find_spells _ true (spells_merged _ _ old hp hP) (mergedToks_ne_nil _ (by simp)) fuel [] slash true
    rfl (by omega)
  obtain ⟨pv, ni, hpar, hpv, hni, hname⟩ := hfound.at_snoc
  simp only [List.nil_append] at hpar hpv
  cases hname
  rw [hidden_place_one _ _ _ (by rw [show tokenize (slash ++ renderPos (q0 ++ [Seg.idx i])) = _ from tokenize_render _ hp]; exact hr1),
    hpar, valOf_at, hpv]

theorem tokenize_slash_nil : tokenize slash = [] := by decide

theorem setItem_hidden_root_refuse_toks (cls : Cls) (kvs : List (Str × Val)) (e : IdxSp) (tail : List Str) (v : Val)
    (xp : Str) (fuel : Nat) (he : e.val ≥ 1 ∨ e.val < -1)
    (hq : startsWith xp ['?'] = false) (hpc : hasPathChar xp = true)
    (htok : tokenize xp = bracket e.text :: tail) (hf : fuel ≥ 1) :
    setItem fuel (.dict cls kvs) xp v = (.dict cls kvs, .error .SyntaxError) := by
  obtain ⟨f, rfl⟩ := Nat.exists_eq_add_of_le' hf
  exact setItem_hidden_refused (P := []) (old := .dict cls kvs) hq hpc (by rw [htok]) rfl rfl he
    (fun _ => (hidden_place_one _ _ _ (by rw [tokenize_slash_nil]; exact findD_nil_slash rfl rfl)).trans rfl)

end N0.XPath
