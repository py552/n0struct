import N0Verif.Proofs.XPathCreate
import N0Verif.Proofs.XPathDeleteRec
/-!
  Mixed histories: any finite interleaving of C02 writes to existing nodes, C03 creations (a `CStep` path below an existing
  dict node or, first step `[new()]`/`[len]`, below a list), C05 deletions and pops, each addressed by the canonical path text
  of the *current* state.  Reference side: `setAt`, `createIn`, `delAt`, `pruneUp`; model side: `setItem` / `delete` / `pop` on
  the text.  Only the keys on the **path** of an operation must be plain names: written values are arbitrary as long as no
  later operation walks through a key that is not plain.
  `ValidOps.cons (t' := …)` wants the tree after each step named, with `applyOp t op = some t'`: `rfl` on a closed tree, `simp`
  over the reference definitions (`Hist.applyOp`, `createRef`, `delRef`, `createIn`, `fill`, Model/Tree) on a schematic one.
  The create row of `ValidOp` for plain names closes by `simp [Hist.ValidOp, PlainPos, CStep.first, CStep.later, GOk,
  CStep.isName, ha, hb]`; its last two conjuncts are read by no proof (`runOp_ok` binds both to `_`).
-/
namespace N0.XPath.Hist
open N0 N0.Py N0.Val N0.XPath

inductive Op
  /-- `d[path(p)] = v` for an existing node `p` (C02) -/
  | write (p : Pos) (v : Val)
  /-- `d[path(q) ++ steps] = v`: creation below the existing node `q` — a dict, or (first step
  `[new()]`/`[len]`) a list (C03) -/
  | create (q : Pos) (s : CStep) (steps : List CStep) (v : Val)
  /-- `d.delete(path(p), recursively)` for an existing node `p` (C05) -/
  | del (p : Pos) (recursively : Bool)
  /-- `d.pop(path(p), dflt, recursively)` for an existing node `p` (C05) -/
  | pop (p : Pos) (dflt : Val) (recursively : Bool)

/-- reference semantics of a deletion: the node disappears; with `recursively` the emptied
dictionary ancestors disappear as well (deepest first) -/
def delRef (t : Val) (p : Pos) (r : Bool) : Option Val :=
  (delAt t p).map (fun t' => if r then pruneUp t' p.dropLast (p.length - 1) else t')

def createRef (t : Val) (q : Pos) (steps : List CStep) (v : Val) : Option Val :=
  (getAt t q).bind (fun cur => (createIn cur steps v).bind (fun cur' => setAt t q cur'))

def applyOp (t : Val) : Op → Option Val
  | .write p v => setAt t p v
  | .create q s steps v => createRef t q (s :: steps) v
  | .del p r => delRef t p r
  | .pop p _ r => delRef t p r

/-- what the call returns in the reference model: `pop` returns the node, everything else nothing -/
def obsOp (t : Val) : Op → Option Val
  | .pop p _ _ => getAt t p
  | _ => Option.none

def opPath : Op → Str
  | .write p _ => slash ++ renderPos p
  | .create q s steps _ => slash ++ renderPos q ++ (s :: steps).flatMap renderCStep
  | .del p _ => slash ++ renderPos p
  | .pop p _ _ => slash ++ renderPos p

def runOp (fuel : Nat) (t : Val) (op : Op) : Val × PyM (Option Val) :=
  match op with
  | .write _ v | .create _ _ _ v =>
    match setItem fuel t (opPath op) v with
    | (t', .ok _) => (t', .ok Option.none)
    | (t', .error e) => (t', .error e)
  | .del _ r =>
    match delete fuel t (opPath op) r with
    | (t', .ok _) => (t', .ok Option.none)
    | (t', .error e) => (t', .error e)
  | .pop _ d r =>
    match pop fuel t (opPath op) d r with
    | .ok (t', x) => (t', .ok (some x))
    | .error e => (t, .error e)

/-- the operation is inside the quantifier of C02/C03/C05 **in the state `t`** -/
def ValidOp (t : Val) : Op → Prop
  | .write p _ => PlainPos p ∧ p ≠ [] ∧ ∃ c, getAt t p = some c
  | .create q s steps _ =>
    PlainPos q ∧ s.first ∧ (∀ x ∈ steps, x.later) ∧ GOk (s :: steps) ∧
      (s = .idx sNew → ¬ PlainListEncloses t q)
  | .del p _ => PlainPos p ∧ p ≠ [] ∧ ∃ c, getAt t p = some c
  | .pop p _ _ => PlainPos p ∧ p ≠ [] ∧ ∃ c, getAt t p = some c

/-- fuel that suffices for one operation (linear in the depth of the addressed node) -/
def opFuel : Op → Nat
  | .write p _ => 2 * p.length
  | .create q _ _ _ => 4 * (q.length + 1)
  | .del p _ => 2 * p.length
  | .pop p _ _ => 2 * p.length

def applyOps : Val → List Op → Option (Val × List (Option Val))
  | t, [] => some (t, [])
  | t, op :: ops =>
    (applyOp t op).bind (fun t' => (applyOps t' ops).map (fun r => (r.1, obsOp t op :: r.2)))

/-- model run of a history (stops at the first exception) -/
def runOps (fuel : Nat) : Val → List Op → Val × PyM (List (Option Val))
  | t, [] => (t, .ok [])
  | t, op :: ops =>
    match runOp fuel t op with
    | (t', .error e) => (t', .error e)
    | (t', .ok o) =>
      match runOps fuel t' ops with
      | (t'', .ok os) => (t'', .ok (o :: os))
      | (t'', .error e) => (t'', .error e)

/-- every operation of the history is valid *in the state it is applied to*, and the reference
semantics is defined on it (a creation may be refused by `createIn`: fresh names only) -/
inductive ValidOps : Val → List Op → Prop
  | nil (t : Val) : ValidOps t []
  | cons {t t' : Val} {op : Op} {ops : List Op} :
      ValidOp t op → applyOp t op = some t' → ValidOps t' ops → ValidOps t (op :: ops)

theorem delAt_dict_root (cls : Cls) (kvs : List (Str × Val)) : ∀ (p : Pos) (t' : Val),
    delAt (.dict cls kvs) p = some t' → ∃ kvs', t' = .dict cls kvs'
  | [], _, h => by simp [delAt] at h
  | [s], t', h => by
      cases s with
      | key k =>
        simp only [delAt, delChild] at h
        split at h
        · cases h; exact ⟨_, rfl⟩
        · cases h
      | idx i => simp [delAt, delChild] at h
  | s :: s2 :: rest, t', h => by
      rw [delAt] at h
      · cases hc : child (.dict cls kvs) s with
        | none => simp [hc, bind, Option.bind] at h
        | some c =>
          cases hd : delAt c (s2 :: rest) with
          | none => simp [hc, hd, bind, Option.bind] at h
          | some c' =>
            simp only [hc, hd, bind, Option.bind] at h
            cases s with
            | key k => simp [setChild] at h; exact ⟨_, h.symm⟩
            | idx i => simp [setChild] at h
      · intro hh; cases hh

theorem pruneStep_dict_root (cls : Cls) (kvs : List (Str × Val)) (q : Pos) :
    ∃ kvs', pruneStep (.dict cls kvs) q = .dict cls kvs' := by
  unfold pruneStep
  cases getAt (.dict cls kvs) q with
  | none => exact ⟨_, rfl⟩
  | some v =>
    simp only
    split
    · cases hd : delAt (.dict cls kvs) q with
      | none => exact ⟨_, rfl⟩
      | some t' =>
        obtain ⟨kvs', rfl⟩ := delAt_dict_root cls kvs q t' hd
        exact ⟨_, rfl⟩
    · exact ⟨_, rfl⟩

theorem pruneUp_dict_root (cls : Cls) (q : Pos) : ∀ (k : Nat) (kvs : List (Str × Val)),
    ∃ kvs', pruneUp (.dict cls kvs) q k = .dict cls kvs'
  | 0, kvs => ⟨kvs, rfl⟩
  | k + 1, kvs => by
      rw [pruneUp]
      obtain ⟨kvs1, h1⟩ := pruneStep_dict_root cls kvs (q.take (k + 1))
      rw [h1]
      exact pruneUp_dict_root cls q k kvs1

theorem delRef_dict_root (cls : Cls) (kvs : List (Str × Val)) (p : Pos) (r : Bool) (t' : Val)
    (h : delRef (.dict cls kvs) p r = some t') : ∃ kvs', t' = .dict cls kvs' := by
  unfold delRef at h
  cases hd : delAt (.dict cls kvs) p with
  | none => simp [hd] at h
  | some t1 =>
    obtain ⟨kvs1, rfl⟩ := delAt_dict_root cls kvs p t1 hd
    simp only [hd, Option.map_some, Option.some.injEq] at h
    cases r with
    | false => exact ⟨kvs1, by simpa using h.symm⟩
    | true =>
      obtain ⟨kvs2, h2⟩ := pruneUp_dict_root cls p.dropLast (p.length - 1) kvs1
      exact ⟨kvs2, by rw [← h2]; simpa using h.symm⟩

theorem createRef_dict_root (cls : Cls) (kvs : List (Str × Val)) (q : Pos) (steps : List CStep) (v t' : Val)
    (h : createRef (.dict cls kvs) q steps v = some t') : ∃ kvs', t' = .dict cls kvs' := by
  unfold createRef at h
  cases hg : getAt (.dict cls kvs) q with
  | none => simp [hg] at h
  | some cur =>
    cases hc : createIn cur steps v with
    | none => simp [hg, hc] at h
    | some cur' =>
      simp only [hg, hc, Option.bind] at h
      cases q with
      | nil =>
        simp only [getAt, Option.some.injEq] at hg
        subst hg
        simp only [setAt, Option.some.injEq] at h
        subst h
        exact createIn_dict cls kvs steps v cur' hc
      | cons s q' => exact setAt_dict_root cls kvs (s :: q') cur' t' (by simp) h

theorem applyOp_dict_root (cls : Cls) (kvs : List (Str × Val)) (op : Op) (t' : Val)
    (hv : ValidOp (.dict cls kvs) op) (h : applyOp (.dict cls kvs) op = some t') :
    ∃ kvs', t' = .dict cls kvs' := by
  cases op with
  | write p v => exact setAt_dict_root cls kvs p v t' hv.2.1 h
  | create q s steps v => exact createRef_dict_root cls kvs q (s :: steps) v t' h
  | del p r => exact delRef_dict_root cls kvs p r t' h
  | pop p d r => exact delRef_dict_root cls kvs p r t' h

theorem runOp_ok (cls : Cls) (kvs : List (Str × Val)) (op : Op) (t' : Val) (fuel : Nat)
    (hv : ValidOp (.dict cls kvs) op) (ha : applyOp (.dict cls kvs) op = some t') (hf : fuel ≥ opFuel op) :
    runOp fuel (.dict cls kvs) op = (t', .ok (obsOp (.dict cls kvs) op)) := by
  cases op with
  | write p v =>
    obtain ⟨hp, hne, c, hget⟩ := hv
    have h1 := setItem_existing cls kvs p c v t' hp hne hget ha fuel hf
    simp only [runOp, opPath, h1, obsOp]
  | create q s steps v =>
    obtain ⟨hp, hfirst, hsteps, _, _⟩ := hv
    simp only [applyOp, createRef] at ha
    cases hget : getAt (.dict cls kvs) q with
    | none => simp [hget] at ha
    | some cur =>
      cases hc : createIn cur (s :: steps) v with
      | none => simp [hget, hc] at ha
      | some cur' =>
        simp only [hget, hc, Option.bind] at ha
        have h1 := setItem_create_canon cls kvs q cur cur' s steps v t' fuel hp hget hfirst
          (fun x hx => CStep.laterW_of_later (hsteps x hx)) (GW_of_later s steps hsteps) hc ha hf
        simp only [runOp, opPath, h1, obsOp]
  | del p r =>
    obtain ⟨hp, hne, c, hget⟩ := hv
    simp only [applyOp, delRef] at ha
    cases hd : delAt (.dict cls kvs) p with
    | none => simp [hd] at ha
    | some t1 =>
      simp only [hd, Option.map_some, Option.some.injEq] at ha
      have h1 := XPath.delete_canonical r hp hne hget hd hf
      simp only [runOp, opPath, h1, obsOp, ha]
  | pop p d r =>
    obtain ⟨hp, hne, c, hget⟩ := hv
    simp only [applyOp, delRef] at ha
    cases hd : delAt (.dict cls kvs) p with
    | none => simp [hd] at ha
    | some t1 =>
      simp only [hd, Option.map_some, Option.some.injEq] at ha
      have h3 := pop_of_hit d (getItem_canonical cls kvs p c fuel hp hne hget hf) (XPath.delete_canonical r hp hne hget hd hf)
        (slash_noQ _)
      simp only [runOp, opPath, h3, obsOp, ha, hget]

theorem history (fuel : Nat) : ∀ (ops : List Op) (cls : Cls) (kvs : List (Str × Val)),
    ValidOps (.dict cls kvs) ops → (∀ op ∈ ops, fuel ≥ opFuel op) →
    ∃ t' obs, applyOps (.dict cls kvs) ops = some (t', obs) ∧
      runOps fuel (.dict cls kvs) ops = (t', .ok obs)
  | [], cls, kvs, _, _ => ⟨_, _, rfl, rfl⟩
  | op :: ops, cls, kvs, hv, hf => by
    cases hv with
    | @cons _ t1 _ _ hop ha hrest =>
      obtain ⟨kvs1, rfl⟩ := applyOp_dict_root cls kvs op t1 hop ha
      have h1 := runOp_ok cls kvs op _ fuel hop ha (hf op (by simp))
      obtain ⟨t2, obs, ha2, hr2⟩ := history fuel ops cls kvs1 hrest (fun o hm => hf o (by simp [hm]))
      refine ⟨t2, obsOp (.dict cls kvs) op :: obs, ?_, ?_⟩
      · simp [applyOps, ha, ha2]
      · simp only [runOps, h1, hr2]

theorem validOps_cons_iff (t : Val) (op : Op) (ops : List Op) :
    ValidOps t (op :: ops) ↔ ValidOp t op ∧ ∃ t', applyOp t op = some t' ∧ ValidOps t' ops := by
  constructor
  · intro h
    cases h with
    | cons hop ha hrest => exact ⟨hop, _, ha, hrest⟩
  · rintro ⟨hop, t', ha, hrest⟩
    exact .cons hop ha hrest

/-- gives `PlainPos` and `≠ []` per write only: two of the clauses of `C02.ValidOps` -/
theorem validOps_writes (t : Val) : ∀ (ws : List (Pos × Val)),
    ValidOps t (ws.map (fun pv => Op.write pv.1 pv.2)) →
    ∀ pv ∈ ws, PlainPos pv.1 ∧ pv.1 ≠ []
  | [], _, _, hm => by simp at hm
  | (p, v) :: ws, h, pv, hm => by
    cases h with
    | cons hop ha hrest =>
      simp only [List.mem_cons] at hm
      rcases hm with rfl | hm
      · exact ⟨hop.1, hop.2.1⟩
      · exact validOps_writes _ ws hrest pv hm

end N0.XPath.Hist
