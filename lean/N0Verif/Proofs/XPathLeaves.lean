import N0Verif.Proofs.XPathRender
/-! Document-order leaves of a tree, and the `xpath()` enumeration: it IS the list `leaves`, each leaf under its canonical path
(`enumVal_eq`), and every pair of `leaves` sits in the tree at its position (`leaves_sound`; `mem_xpathEnum_dict` is the form the
resolution theorems take their hypotheses in).  That the list has each leaf once and all of them is how `leaves` is built, not a
theorem: no `Nodup`, no diverging positions, no completeness is proved. -/
namespace N0.XPath
open N0 N0.Py N0.Val

mutual
/-- scalar leaves with their positions, in document order (depth-first, left to right) -/
def leaves : Val → List (Pos × Val)
  | .list _ xs => leavesList 0 xs
  | .dict _ kvs => leavesKvs kvs
  | .none => [([], .none)]
  | .bool b => [([], .bool b)]
  | .int i => [([], .int i)]
  | .flt r => [([], .flt r)]
  | .str s => [([], .str s)]
def leavesList (i : Nat) : List Val → List (Pos × Val)
  | [] => []
  | x :: xs => (leaves x).map (fun pv => (Seg.idx i :: pv.1, pv.2)) ++ leavesList (i + 1) xs
def leavesKvs : List (Str × Val) → List (Pos × Val)
  | [] => []
  | (k, x) :: kvs => (leaves x).map (fun pv => (Seg.key k :: pv.1, pv.2)) ++ leavesKvs kvs
end

mutual
/-- every key in the tree is a plain name and keys are unique within each dict (C01's trees).  `N0.C04.PlainTree` (`Props/C04.lean`)
is plain keys WITHOUT the uniqueness; `N0.FindAll.KeysOkV` (`Proofs/FindAllWalk.lean`) is this predicate again with a `Decidable`
instance; no lemma between any two of the three -/
def PlainTree : Val → Prop
  | .list _ xs => PlainList xs
  | .dict _ kvs => PlainKvs kvs
  | _ => True
def PlainList : List Val → Prop
  | [] => True
  | x :: xs => PlainTree x ∧ PlainList xs
def PlainKvs : List (Str × Val) → Prop
  | [] => True
  | (k, x) :: kvs => PlainKey k ∧ lookup k kvs = Option.none ∧ PlainTree x ∧ PlainKvs kvs
end

mutual
/-- `xpath()` lists exactly the leaves, each with its canonical path, in document order -/
theorem enumVal_eq (path : Str) : ∀ v : Val,
    enumVal path v = (leaves v).map (fun pv => (path ++ renderPos pv.1, pv.2))
  | .list _ xs => by simp only [enumVal, leaves]; exact enumList_eq path 0 xs
  | .dict _ kvs => by simp only [enumVal, leaves]; exact enumKvs_eq path kvs
  | .none => by simp [enumVal, leaves, renderPos]
  | .bool _ => by simp [enumVal, leaves, renderPos]
  | .int _ => by simp [enumVal, leaves, renderPos]
  | .flt _ => by simp [enumVal, leaves, renderPos]
  | .str _ => by simp [enumVal, leaves, renderPos]
theorem enumList_eq (path : Str) (i : Nat) : ∀ xs : List Val,
    enumList path i xs = (leavesList i xs).map (fun pv => (path ++ renderPos pv.1, pv.2))
  | [] => by simp [enumList, leavesList]
  | x :: xs => by
    simp only [enumList, leavesList, List.map_append, List.map_map]
    rw [enumVal_eq (path ++ bracket (natStr i)) x, enumList_eq path (i + 1) xs]
    congr 1
    apply List.map_congr_left
    intro pv _
    simp [renderPos_cons, renderSeg]
theorem enumKvs_eq (path : Str) : ∀ kvs : List (Str × Val),
    enumKvs path kvs = (leavesKvs kvs).map (fun pv => (path ++ renderPos pv.1, pv.2))
  | [] => by simp [enumKvs, leavesKvs]
  | (k, x) :: kvs => by
    simp only [enumKvs, leavesKvs, List.map_append, List.map_map]
    rw [enumVal_eq (path ++ slash ++ k) x, enumKvs_eq path kvs]
    congr 1
    apply List.map_congr_left
    intro pv _
    simp [renderPos_cons, renderSeg, slash]
end

theorem leaf_sound {v c : Val} {p : Pos} (hm : (p, c) ∈ [(([] : Pos), v)]) (hv : v.isScalar = true) :
    getAt v p = some c ∧ PlainPos p ∧ c.isScalar = true := by
  obtain ⟨rfl, rfl⟩ : p = [] ∧ c = v := by simpa using hm
  exact ⟨rfl, trivial, hv⟩

mutual
/-- every listed leaf sits at its position, the position uses plain keys only, the value is scalar -/
theorem leaves_sound : ∀ (v : Val), PlainTree v → ∀ p c, (p, c) ∈ leaves v →
    getAt v p = some c ∧ PlainPos p ∧ c.isScalar = true
  | .list _ xs, h, p, c, hm => by
      simp only [leaves] at hm
      obtain ⟨n, q, rfl, hlt, hq⟩ := leavesList_sound xs h 0 p c hm
      refine ⟨?_, hq.2.1, hq.2.2⟩
      obtain ⟨y, hy, hg⟩ := hq.1
      simp only [Nat.sub_zero] at hy
      simp [getAt, child, hy, hg]
  | .dict _ kvs, h, p, c, hm => by
      simp only [leaves] at hm
      obtain ⟨k, q, rfl, hk, y, hy, hg, hpp, hs⟩ := leavesKvs_sound kvs h p c hm
      refine ⟨?_, ⟨hk, hpp⟩, hs⟩
      simp [getAt, child, hy, hg]
  | .none, _, p, c, hm => leaf_sound hm rfl
  | .bool _, _, p, c, hm => leaf_sound hm rfl
  | .int _, _, p, c, hm => leaf_sound hm rfl
  | .flt _, _, p, c, hm => leaf_sound hm rfl
  | .str _, _, p, c, hm => leaf_sound hm rfl
theorem leavesList_sound : ∀ (xs : List Val), PlainList xs → ∀ (i : Nat) p c, (p, c) ∈ leavesList i xs →
    ∃ n q, p = Seg.idx n :: q ∧ i ≤ n ∧ ((∃ y, xs[n - i]? = some y ∧ getAt y q = some c) ∧ PlainPos q ∧ c.isScalar = true)
  | [], _, i, p, c, hm => by simp [leavesList] at hm
  | x :: xs, h, i, p, c, hm => by
      simp only [leavesList, List.mem_append, List.mem_map] at hm
      rcases hm with ⟨⟨q, c'⟩, hq, heq⟩ | hm
      · simp only [Prod.mk.injEq] at heq
        obtain ⟨rfl, rfl⟩ := heq
        have := leaves_sound x h.1 q c' hq
        exact ⟨i, q, rfl, Nat.le_refl _, ⟨x, by simp, this.1⟩, this.2.1, this.2.2⟩
      · obtain ⟨n, q, rfl, hle, ⟨y, hy, hg⟩, hpp, hs⟩ := leavesList_sound xs h.2 (i + 1) p c hm
        refine ⟨n, q, rfl, by omega, ⟨y, ?_, hg⟩, hpp, hs⟩
        have : n - i = (n - (i + 1)) + 1 := by omega
        rw [this]; simpa using hy
theorem leavesKvs_sound : ∀ (kvs : List (Str × Val)), PlainKvs kvs → ∀ p c, (p, c) ∈ leavesKvs kvs →
    ∃ k q, p = Seg.key k :: q ∧ PlainKey k ∧ ∃ y, lookup k kvs = some y ∧ getAt y q = some c ∧ PlainPos q ∧ c.isScalar = true
  | [], _, p, c, hm => by simp [leavesKvs] at hm
  | (k, x) :: kvs, h, p, c, hm => by
      simp only [leavesKvs, List.mem_append, List.mem_map] at hm
      rcases hm with ⟨⟨q, c'⟩, hq, heq⟩ | hm
      · simp only [Prod.mk.injEq] at heq
        obtain ⟨rfl, rfl⟩ := heq
        have := leaves_sound x h.2.2.1 q c' hq
        exact ⟨k, q, rfl, h.1, x, by simp [lookup], this.1, this.2.1, this.2.2⟩
      · obtain ⟨k', q, rfl, hk', y, hy, hg, hpp, hs⟩ := leavesKvs_sound kvs h.2.2.2 p c hm
        refine ⟨k', q, rfl, hk', y, ?_, hg, hpp, hs⟩
        have hne : k' ≠ k := by
          intro heq; subst heq
          rw [h.2.1] at hy; cases hy
        simp [lookup, hne, hy]
end

/-- what `xpath()` lists for a dict-rooted tree with plain keys: the scalar leaves, each at a plain position that is not
the root, under its canonical path -/
theorem mem_xpathEnum_dict {cls : Cls} {kvs : List (Str × Val)} (ht : PlainTree (.dict cls kvs)) {xp : Str} {v : Val}
    (h : (xp, v) ∈ xpathEnum (.dict cls kvs)) :
    ∃ p, xp = slash ++ renderPos p ∧ getAt (.dict cls kvs) p = some v ∧ PlainPos p ∧ p ≠ [] ∧ v.isScalar = true := by
  rw [xpathEnum, enumVal_eq] at h
  simp only [List.mem_map] at h
  obtain ⟨⟨p, c⟩, hm, heq⟩ := h
  simp only [Prod.mk.injEq] at heq
  obtain ⟨rfl, rfl⟩ := heq
  obtain ⟨hg, hpp, hsc⟩ := leaves_sound _ ht p c hm
  refine ⟨p, rfl, hg, hpp, ?_, hsc⟩
  simp only [leaves] at hm
  obtain ⟨k, q, rfl, _⟩ := leavesKvs_sound kvs ht p c hm
  simp

end N0.XPath
