import N0Verif.Proofs.XPathWalk
import N0Verif.Proofs.XPathGetEq
/-!
  List-rooted containers (`n0list._find`): a leading index token is walked by `findL`, which hands a
  dict element to `n0dict._find` with `self` = the list the search started from (`dispatchD`, fix C06-f: `sp` stays the
  position of the root; it was the element's position); and `_get` on a path text whose tokens spell a position, for
  a list and for a dict receiver.
-/
namespace N0.XPath
open N0 N0.Py N0.Val

theorem findL_idx_step_dict (fuel : Nat) (root : Val) (sp : Pos) (rl : Bool) (q : Pos) (found tok e : Str)
    (i : Int) (rest : List Str) (hrest : rest ≠ []) (cls : Cls) (xs : List Val) (n : Nat)
    (dc : Cls) (kvs : List (Str × Val))
    (hq : getAt root q = some (.list cls xs)) (hk : IdxTok tok e i)
    (hn : normIdx i xs.length = some n) (hx : xs[n]? = some (.dict dc kvs)) :
    findL (fuel + 1) root sp (tok :: rest) (.at q) rl found
      = findD fuel root sp false true rest (.at (q ++ [Seg.idx n])) rl (found ++ bracket (intStr i)) := by
  rw [findL_idx_step (par := .at q) hq hk hn hrest, getD_of_getElem? hx]
  rfl

theorem findL_idx_step_list (fuel : Nat) (root : Val) (sp : Pos) (rl : Bool) (q : Pos) (found tok e : Str)
    (i : Int) (rest : List Str) (hrest : rest ≠ []) (cls : Cls) (xs : List Val) (n : Nat)
    (lc : Cls) (ys : List Val)
    (hq : getAt root q = some (.list cls xs)) (hk : IdxTok tok e i)
    (hn : normIdx i xs.length = some n) (hx : xs[n]? = some (.list lc ys)) :
    findL (fuel + 1) root sp (tok :: rest) (.at q) rl found
      = findL fuel root sp rest (.at (q ++ [Seg.idx n])) rl (found ++ bracket (intStr i)) := by
  rw [findL_idx_step (par := .at q) hq hk hn hrest, getD_of_getElem? hx]
  rfl

/-- **Tree layer for a list node.**  A token list that spells position `p` below the *list* at `q`
makes `n0list._find` return exactly the node at `q ++ p`: index tokens are walked by `findL`
itself (also through nested lists), the first dict element is handed to `n0dict._find`. -/
theorem findL_spells (root : Val) (rl : Bool) (sp : Pos) {toks : List Str} {v : Val} {p : Pos} {c : Val}
    (h : Spells toks v p c) : toks ≠ [] → ∀ (fuel : Nat) (q : Pos) (found : Str),
      (∃ cls xs, v = .list cls xs) → getAt root q = some v → fuel ≥ 2 * toks.length →
      ∃ r, findL fuel root sp toks (.at q) rl found = .ok (root, r) ∧ FoundAt root q p c r := by
  induction h with
  | nil v => intro h; exact absurd rfl h
  | key _ _ _ _ => intro _ _ _ _ hl; obtain ⟨_, _, h⟩ := hl; cases h
  | keyIdx _ _ _ _ _ _ => intro _ _ _ _ hl; obtain ⟨_, _, h⟩ := hl; cases h
  | @idx tok e i rest cls xs n c p d hk hn hx hs ih =>
    intro _ fuel q found _ hq hf
    obtain ⟨f, rfl⟩ : ∃ f, fuel = f + 1 := fuel_succ hf
    by_cases hrest : rest = []
    · subst hrest
      obtain ⟨rfl, rfl⟩ := hs.nil_inv
      rw [← getD_of_getElem? hx]
      exact ⟨_, findL_idx_last hq hk hn, .last hq (.idx hn)⟩
    · have hq' := getAt_snoc_idx hq hx
      have hf' : f ≥ 2 * rest.length := fuel_rest hf
      cases c with
      | dict dc kvs =>
        rw [findL_idx_step_dict f root sp rl q found tok e i rest hrest cls xs n dc kvs hq hk hn hx]
        obtain ⟨r, hr, hfound⟩ := find_spells_sp root rl sp hs hrest f (q ++ [Seg.idx n]) _ true hq' hf'
        exact ⟨r, hr, hfound.cons⟩
      | list lc ys =>
        rw [findL_idx_step_list f root sp rl q found tok e i rest hrest cls xs n lc ys hq hk hn hx]
        obtain ⟨r, hr, hfound⟩ := ih hrest f (q ++ [Seg.idx n]) _ ⟨lc, ys, rfl⟩ hq' hf'
        exact ⟨r, hr, hfound.cons⟩
      | _ => cases hs; exact absurd rfl hrest

/-- list receiver: any text (not starting with '?', containing '/' or '[') whose tokens spell `p` -/
theorem getCore_list_path (fuel : Nat) (cls : Cls) (xs : List Val) (xp : Str) (d : Val) (raise rl : Bool)
    (p : Pos) (c : Val)
    (hq : startsWith xp ['?'] = false) (hpc : hasPathChar xp = true)
    (hs : Spells (tokenize xp) (.list cls xs) p c) (hne : tokenize xp ≠ [])
    (hf : fuel ≥ 2 * (tokenize xp).length) :
    getCore fuel (.list cls xs) xp d raise rl = (.list cls xs, .ok c) := by
  obtain ⟨r, hr, hv, hnf, _⟩ := findL_spells (.list cls xs) rl [] hs hne fuel [] slash ⟨cls, xs, rfl⟩ rfl hf
  rw [getCore_of_rootFind (root := .list cls xs) d raise hq hpc rfl hr, hv]
  simp [Res.isFound, hnf]

/-- dict receiver: the same statement through `n0dict._find` -/
theorem getCore_dict_path (fuel : Nat) (cls : Cls) (kvs : List (Str × Val)) (xp : Str) (d : Val) (raise rl : Bool)
    (p : Pos) (c : Val)
    (hq : startsWith xp ['?'] = false) (hpc : hasPathChar xp = true)
    (hs : Spells (tokenize xp) (.dict cls kvs) p c) (hne : tokenize xp ≠ [])
    (hf : fuel ≥ 2 * (tokenize xp).length) :
    getCore fuel (.dict cls kvs) xp d raise rl = (.dict cls kvs, .ok c) := by
  obtain ⟨r, hr, hv, hnf, _⟩ := find_spells (.dict cls kvs) rl hs hne fuel [] slash true rfl hf
  rw [getCore_of_rootFind (root := .dict cls kvs) d raise hq hpc rfl hr, hv]
  simp [Res.isFound, hnf]

/-- list receiver, bare index text (no '/' and no '['): `n0eval` and plain Python indexing -/
theorem getCore_list_bare (fuel : Nat) (cls : Cls) (xs : List Val) (xp : Str) (d : Val) (raise rl : Bool)
    (i : Int) (n : Nat) (c : Val)
    (hxe : xp ≠ []) (hq : startsWith xp ['?'] = false) (hpc : hasPathChar xp = false)
    (hev : n0eval xp = .ok (.int i)) (hn : normIdx i xs.length = some n) (hx : xs[n]? = some c) :
    getCore fuel (.list cls xs) xp d raise rl = (.list cls xs, .ok c) := by
  have hxe' : xp.isEmpty = false := isEmpty_false_of_ne hxe
  simp only [getCore, hxe', Bool.false_eq_true, if_false, hq, hpc, hev, hn]
  simp [hx]

/-- characters of the bare index spellings: digits, `-`, `+` and the letters of `last()` -/
def bareChar (c : Char) : Bool :=
  isAsciiDigit c || c = '-' || c = '+' || c = 'l' || c = 'a' || c = 's' || c = 't' || c = '(' || c = ')'

theorem bareChar_ne {c : Char} (h : bareChar c = true) : c ≠ '/' ∧ c ≠ '[' ∧ c ≠ '?' := by
  refine ⟨?_, ?_, ?_⟩ <;> (intro heq; subst heq; revert h; decide)

theorem bareChar_digit {c : Char} (h : isAsciiDigit c = true) : bareChar c = true := by
  simp [bareChar, h]

theorem bare_facts {s : Str} (hne : s ≠ []) (h : ∀ c ∈ s, bareChar c = true) :
    startsWith s ['?'] = false ∧ hasPathChar s = false := by
  constructor
  · cases s with
    | nil => exact absurd rfl hne
    | cons c s =>
      have := (bareChar_ne (h c (by simp))).2.2
      simp [startsWith, this]
  · unfold hasPathChar
    rw [contains_false_of_forall s '/' (fun c hc => (bareChar_ne (h c hc)).1),
      contains_false_of_forall s '[' (fun c hc => (bareChar_ne (h c hc)).2.1)]
    rfl

theorem natStr_bare (n : Nat) : ∀ c ∈ natStr n, bareChar c = true :=
  fun c hc => bareChar_digit (natDigits_all_digit n c hc)

end N0.XPath
