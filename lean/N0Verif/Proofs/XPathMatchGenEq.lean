import N0Verif.Model.Compare
import N0Verif.Py.Lemmas
import N0Verif.Gen.XPathMatch
/-!
  The definitions that `harness/translate_py_cmp.py` regenerates from the Python source of `xpath_match`
  (`Gen/XPathMatch.lean`) are equal to the hand-written model (`Compare.xpathMatch`, `xpathMatchFrom`, `matchOne`) for
  every path text and every `PatArg`, through characterisations of one iteration of the inner and the outer loop
  (`innerView`, `outerView`) that do not follow the shape of the generated text.  Depended on: the captured names come
  first among the parameters of the generated steps (`xpath_parts`, `i`); the inner loop is `<Fn>.step`, the outer
  `<Fn>.step2`; both specialisations are translated from the same two loop bodies (`xmgen_step2Seq`).
-/
-- the simp sets below name every spelling of the tests the translator may emit; the ones the current text does not
-- use would each be reported
set_option linter.unusedSimpArgs false
namespace N0.XPathMatchGenEq
open N0 N0.Py N0.Compare N0.Gen.XPathMatch

/-- inside the range, every spelling of "the `k`-th item from the end" (`xs[-1 - k]`, `xs[-(k + 1)]`,
`xs[len(xs) - 1 - k]`, …) reads the `k`-th item of the reversed list: the normalised index is `len(xs) - 1 - k` -/
theorem xmgen_idxE_rev_in {α : Type} (xs : List α) (k : Nat) (hk : k < xs.reverse.length) (i : Int)
    (hi : i = -(1 : Int) - (k : Int) ∨ i = (xs.length : Int) - 1 - (k : Int)) :
    idxE xs i = .ok xs.reverse[k] := by
  have hk' : k < xs.length := by simpa using hk
  have hj : (if i < 0 then i + Int.ofNat xs.length else i) = ((xs.length - 1 - k : Nat) : Int) := by
    rw [Int.ofNat_eq_natCast]
    rcases hi with rfl | rfl <;> split <;> omega
  unfold idxE
  simp only [hj]
  rw [if_neg (by omega), Int.toNat_natCast, List.getElem?_eq_getElem (by omega), List.getElem_reverse]

/-- how one iteration of the inner loop (`for j, part in enumerate(reversed(xpath_itm_parts))`) ends: `p` = pattern part, `k` = its position from the end, `xs` = parts of the
path, `i` = position of the pattern.  `.exit (.inl n)` = `return n`, `.exit (.inr ())` = `break`, `.next ()` = go on -/
def innerView (xs : List Str) (i : Int) (p : Str) (k : Nat) : Ctl (Int ⊕ Unit) Unit :=
  if p.isEmpty then .exit (.inl (i + 1))
  else match xs.reverse[k]? with
    | none => .exit (.inr ())
    | some x => if p ≠ ['*'] ∧ Py.lower p ≠ Py.lower x then .exit (.inr ()) else .next ()

/-- the whole inner loop over the reversed pattern parts `ps` against the remaining reversed path parts `ys` -/
def innerRes (i : Int) : List Str → List Str → Ctl (Int ⊕ Unit) Unit
  | [], _ => .next ()
  | p :: ps, ys =>
    if p.isEmpty then .exit (.inl (i + 1))
    else match ys with
      | [] => .exit (.inr ())
      | y :: ys' => if p ≠ ['*'] ∧ Py.lower p ≠ Py.lower y then .exit (.inr ()) else innerRes i ps ys'

theorem xmgen_inner_fold (xs : List Str) (i : Int)
    (f : Unit → Str × Nat → Except PyErr (Ctl (Int ⊕ Unit) Unit))
    (hf : ∀ p k, f () (p, k) = .ok (innerView xs i p k)) :
    ∀ (ps : List Str) (k : Nat), foldC f () (List.zipIdx ps k) = .ok (innerRes i ps (xs.reverse.drop k)) := by
  intro ps
  induction ps with
  | nil => intro k; simp [foldC, innerRes]
  | cons p ps ih =>
    intro k
    simp only [List.zipIdx_cons, foldC, hf, innerView, innerRes]
    by_cases hp : p.isEmpty = true
    · simp [hp]
    · simp only [hp, if_false, Bool.false_eq_true]
      by_cases hk : k < xs.reverse.length
      · rw [List.getElem?_eq_getElem hk, List.drop_eq_getElem_cons hk]
        simp only
        by_cases hc : p ≠ ['*'] ∧ Py.lower p ≠ Py.lower xs.reverse[k]
        · rw [if_pos hc, if_pos hc]
        · rw [if_neg hc, if_neg hc]
          exact ih (k + 1)
      · have h1 : xs.reverse[k]? = none := List.getElem?_eq_none (by omega)
        have h2 : xs.reverse.drop k = [] := List.drop_eq_nil_of_le (by omega)
        simp [h1, h2]

/-- the inner loop ends with `break` exactly when the model's `matchParts` says "no match"; otherwise it ends with
`return i + 1` (an empty part) or runs to its `else:` -/
theorem xmgen_innerRes_match (i : Int) : ∀ (ps ys : List Str),
    (matchParts ps ys = true → innerRes i ps ys = .next () ∨ innerRes i ps ys = .exit (.inl (i + 1))) ∧
      (matchParts ps ys = false → innerRes i ps ys = .exit (.inr ()))
  | [], ys => by simp [matchParts, innerRes]
  | p :: ps, ys => by
    by_cases hp : p.isEmpty = true
    · simp [matchParts, innerRes, hp]
    · cases ys with
      | nil => simp [matchParts, innerRes, hp]
      | cons y ys' =>
        have ih := xmgen_innerRes_match i ps ys'
        simp only [matchParts, innerRes, hp, if_false, Bool.false_eq_true]
        split
        · simp
        · exact ih

/-- how one iteration of the outer loop (`for i, xpath_itm in enumerate(xpath_list)`) ends: `return i + 1` when the pattern matches, next pattern otherwise -/
def outerView (xs : List Str) (pat : Str) (i : Nat) : Ctl Int Unit :=
  if matchParts (splitChar '/' pat).reverse xs.reverse then .exit (Int.ofNat i + 1) else .next ()

/-- what the outer step does with the result of the inner loop, for each arm of the inner result (`hr : r = innerRes …`) -/
theorem xmgen_outer_of_inner (xs : List Str) (pat : Str) (i : Nat) (r : Ctl (Int ⊕ Unit) Unit)
    (hr : r = innerRes (Int.ofNat i) (splitChar '/' pat).reverse xs.reverse) :
    (match (.ok r : Except PyErr (Ctl (Int ⊕ Unit) Unit)) with
      | .error e => (.error e : Except PyErr (Ctl Int Unit))
      | .ok (.exit (.inl v)) => .ok (.exit v)
      | .ok (.exit (.inr _)) => .ok (.next ())
      | .ok (.next _) => .ok (.exit (Int.ofNat i + 1))) = .ok (outerView xs pat i) := by
  have h := xmgen_innerRes_match (Int.ofNat i) (splitChar '/' pat).reverse xs.reverse
  unfold outerView
  cases hm : matchParts (splitChar '/' pat).reverse xs.reverse with
  | true =>
    rcases h.1 hm with h1 | h1 <;> (rw [hr, h1]; simp)
  | false =>
    rw [hr, h.2 hm]; simp

theorem xmgen_outer_fold (x : Str)
    (f : Unit → Str × Nat → Except PyErr (Ctl Int Unit))
    (hf : ∀ pat i, f () (pat, i) = .ok (outerView (splitChar '/' x) pat i)) :
    ∀ (pats : List Str) (i : Nat), foldC f () (List.zipIdx pats i) =
      .ok (match xpathMatchFrom x i pats with | 0 => .next () | n + 1 => .exit (Int.ofNat (n + 1))) := by
  intro pats
  induction pats with
  | nil => intro i; simp [foldC, xpathMatchFrom]
  | cons p ps ih =>
    intro i
    have hv : ∀ i, outerView (splitChar '/' x) p i =
        if matchOne x p = true then .exit (Int.ofNat i + 1) else .next () := fun _ => rfl
    simp only [List.zipIdx_cons, foldC, hf, hv, xpathMatchFrom]
    by_cases hm : matchOne x p = true
    · rw [if_pos hm, if_pos hm]
      simp only [Int.ofNat_eq_natCast]
      congr 2
    · rw [if_neg hm, if_neg hm]
      exact ih (i + 1)

/-- the inner step decides its tests (`j >= len(xs)` in any of its four spellings, emptiness in any spelling, `"*"`,
the two `lower()`s, the index expression in any of the spellings of `xmgen_idxE_rev_in`) as `innerView` says -/
theorem xmgen_stepStr (xs : List Str) (i : Int) :
    ∀ p k, XpathMatchStr.step xs i () (p, k) = .ok (innerView xs i p k) := by
  intro p k
  unfold XpathMatchStr.step innerView
  simp only [Int.ofNat_eq_natCast]
  by_cases hp : p.isEmpty = true
  · have hp' : p = [] := List.isEmpty_iff.mp hp
    subst hp'
    simp
  · have hp1 : p ≠ [] := fun h => hp (List.isEmpty_iff.mpr h)
    have hp2 : ¬ ((p.length : Int) = 0) := by
      have : p.length ≠ 0 := fun h => hp1 (List.eq_nil_of_length_eq_zero h)
      omega
    have hp3 : (p == []) = false := by cases p with | nil => exact absurd rfl hp1 | cons _ _ => rfl
    by_cases hk : k < xs.length
    · have hk' : k < xs.reverse.length := by simpa using hk
      have hge : ¬ ((k : Int) ≥ xs.length) := by omega
      have hle : ¬ ((xs.length : Int) ≤ k) := by omega
      have hgt : ((xs.length : Int) > k) := by omega
      have hlt : ((k : Int) < xs.length) := by omega
      have hidx := xmgen_idxE_rev_in xs k hk'
      rw [List.getElem?_eq_getElem hk']
      by_cases hs : p = ['*'] <;> by_cases hl : Py.lower p = Py.lower xs.reverse[k] <;>
        simp (disch := omega) only [hp, hp1, hp2, hp3, hge, hle, hgt, hlt, hs, hl, hidx, Bool.not_not, Bool.false_eq_true, ↓reduceIte,
          decide_false, decide_true, bne_self_eq_false, ne_eq, not_true_eq_false, not_false_eq_true, and_self,
          and_false, false_and, and_true, true_and, bne_iff_ne, Bool.not_true, Bool.not_false,
          Bool.and_true, Bool.true_and, Bool.and_false, Bool.false_and, Bool.or_true, Bool.true_or,
          Bool.or_false, Bool.false_or, Bool.and_eq_true, Bool.or_eq_true, beq_iff_eq, decide_eq_true_eq,
          decide_not, bne_eq_false_iff_eq, beq_eq_false_iff_ne, reduceCtorEq, List.cons_ne_nil] <;> rfl
    · have h1 : xs.reverse[k]? = none := List.getElem?_eq_none (by simpa using Nat.le_of_not_lt hk)
      have hge : ((k : Int) ≥ xs.length) := by omega
      have hle : ((xs.length : Int) ≤ k) := by omega
      have hgt : ¬ ((xs.length : Int) > k) := by omega
      have hlt : ¬ ((k : Int) < xs.length) := by omega
      simp only [hp, hp1, hp2, hp3, h1, hge, hle, hgt, hlt, Bool.not_not, Bool.false_eq_true, ↓reduceIte,
        decide_false, decide_true, Bool.not_true, Bool.not_false, ne_eq, not_false_eq_true, not_true_eq_false,
        decide_not, beq_iff_eq]

theorem xmgen_step2Str (xs : List Str) (pat : Str) (i : Nat) :
    XpathMatchStr.step2 xs () (pat, i) = .ok (outerView xs pat i) := by
  unfold XpathMatchStr.step2
  simp only [split_single]
  have h := xmgen_inner_fold xs (Int.ofNat i) _ (xmgen_stepStr xs (Int.ofNat i)) (splitChar '/' pat).reverse 0
  rw [List.drop_zero] at h
  rw [h]
  exact xmgen_outer_of_inner xs pat i _ rfl

/-- both specialisations are translated from the same two loop bodies -/
theorem xmgen_step2Seq (xs : List Str) (pat : Str) (i : Nat) :
    XpathMatchSeq.step2 xs () (pat, i) = .ok (outerView xs pat i) :=
  xmgen_step2Str xs pat i

theorem xmgen_fromRes (n : Nat) :
    (match (.ok (match n with | 0 => Ctl.next () | m + 1 => Ctl.exit (Int.ofNat (m + 1))) : Except PyErr (Ctl Int Unit)) with
      | .error e => (.error e : Except PyErr Int)
      | .ok (.exit r) => .ok r
      | .ok (.next _) => .ok (0 : Int)) = .ok (Int.ofNat n) := by
  cases n <;> rfl

theorem xmgen_seq_eq (x : Str) (l : List Str) :
    xpathMatchSeq x l = .ok (Int.ofNat (xpathMatchFrom x 0 l)) := by
  unfold xpathMatchSeq
  simp only [split_single]
  rw [xmgen_outer_fold x _ (fun pat i => xmgen_step2Seq (splitChar '/' x) pat i) l 0]
  exact xmgen_fromRes _

theorem xmgen_str_eq (x s : Str) :
    xpathMatchStr x s = .ok (Int.ofNat (xpathMatchFrom x 0 [s])) := by
  unfold xpathMatchStr
  simp only [split_single]
  rw [xmgen_outer_fold x _ (fun pat i => xmgen_step2Str (splitChar '/' x) pat i) [s] 0]
  exact xmgen_fromRes _

theorem xmgen_xpathMatch_eq (x : Str) (a : PatArg) :
    Gen.XPathMatch.xpathMatch x a = .ok (Int.ofNat (Compare.xpathMatch x a)) := by
  cases a with
  | one s => exact xmgen_str_eq x s
  | many l => exact xmgen_seq_eq x l

end N0.XPathMatchGenEq
