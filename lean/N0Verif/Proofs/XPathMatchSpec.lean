import N0Verif.Model.Compare
import N0Verif.Py.ListLemmas
/-!
What `xpath_match` computes: a pattern matches a path iff its parts after the last empty part equal, case-insensitively
and with `*` for any one part, the last parts of the path (`specMatch`); the result is the 1-based index of the first
matching pattern, `0` if there is none.
-/
namespace N0.Compare
open N0

def partMatch (p x : Str) : Bool := p == ['*'] || Py.lower p == Py.lower x

/-- tail-anchored: only the pattern parts after its last empty part count, against the last parts of the path -/
def specMatch (xpath pat : Str) : Bool :=
  let pp := Py.splitChar '/' pat
  let xp := Py.splitChar '/' xpath
  let tail := (pp.reverse.takeWhile (fun s => !s.isEmpty)).reverse
  decide (tail.length ≤ xp.length) && (List.zipWith partMatch tail (xp.drop (xp.length - tail.length))).all id

theorem matchParts_eq : ∀ (ps xs : List Str), matchParts ps xs =
    (decide ((ps.takeWhile (fun s => !s.isEmpty)).length ≤ xs.length) &&
      (List.zipWith partMatch (ps.takeWhile (fun s => !s.isEmpty)) xs).all id)
  | [], xs => by simp [matchParts]
  | p :: ps, xs => by
    by_cases hp : p.isEmpty = true
    · simp [matchParts, hp]
    · cases xs with
      | nil => simp [matchParts, hp]
      | cons x xs' =>
        simp only [matchParts, hp, List.takeWhile_cons, matchParts_eq ps xs']
        by_cases h1 : p = ['*'] <;> by_cases h2 : Py.lower p = Py.lower x <;> simp [h1, h2, partMatch]

theorem matchOne_spec (xpath pat : Str) : matchOne xpath pat = specMatch xpath pat := by
  simp only [matchOne, specMatch, matchParts_eq, List.length_reverse]
  by_cases h : ((Py.splitChar '/' pat).reverse.takeWhile (fun s => !s.isEmpty)).length ≤ (Py.splitChar '/' xpath).length
  · simp only [h, decide_true, Bool.true_and]
    have := Py.zipWith_tail_rev partMatch _ _ h
    simpa using this.symm
  · simp [h]

theorem xpathMatchFrom_eq (x : Str) : ∀ (ps : List Str) (n : Nat),
    xpathMatchFrom x n ps = (ps.findIdx? (matchOne x)).elim 0 (n + · + 1)
  | [], _ => rfl
  | p :: ps, n => by
    rw [xpathMatchFrom, List.findIdx?_cons, xpathMatchFrom_eq x ps (n + 1)]
    cases matchOne x p <;> cases ps.findIdx? (matchOne x) <;> simp <;> omega

theorem xpathMatch_zero (xpath : Str) (a : PatArg) :
    xpathMatch xpath a = 0 ↔ ∀ p ∈ a.pats, specMatch xpath p = false := by
  simp only [← matchOne_spec]
  rw [xpathMatch, xpathMatchFrom_eq, ← List.findIdx?_eq_none_iff (p := matchOne xpath)]
  cases a.pats.findIdx? (matchOne xpath) <;> simp

theorem xpathMatch_pos (xpath : Str) (a : PatArg) (i : Nat) :
    xpathMatch xpath a = i + 1 ↔
      (∃ p, a.pats[i]? = some p ∧ specMatch xpath p = true) ∧
        ∀ j < i, ∀ q, a.pats[j]? = some q → specMatch xpath q = false := by
  have h : xpathMatch xpath a = i + 1 ↔ a.pats.findIdx? (matchOne xpath) = some i := by
    rw [xpathMatch, xpathMatchFrom_eq]
    cases a.pats.findIdx? (matchOne xpath) <;> simp
  simp only [← matchOne_spec, h, List.findIdx?_eq_some_iff_getElem, Bool.not_eq_true, List.getElem?_eq_some_iff,
    forall_exists_index, forall_apply_eq_imp_iff]
  exact ⟨fun ⟨h, hp, hj⟩ => ⟨⟨_, ⟨h, rfl⟩, hp⟩, fun j hji _ => hj j hji⟩,
    fun ⟨⟨_, ⟨h, rfl⟩, hp⟩, hj⟩ => ⟨h, hp, fun j hji => hj j hji (Nat.lt_trans hji h)⟩⟩

theorem xpathMatch_str_eq_tuple (xpath s : Str) : xpathMatch xpath (.one s) = xpathMatch xpath (.many [s]) := rfl

end N0.Compare
