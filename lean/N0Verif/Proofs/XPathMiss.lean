import N0Verif.Proofs.XPathSpellings
import N0Verif.Proofs.XPathDelete
import N0Verif.Proofs.XPathFirst
/-!
  Missing paths (C05, C01): the path of an existing node followed by
  (a) a name step whose key the dict node does not have, (b) a name step below a scalar leaf, (c) an index that is out of
  range on a list.  `_find` walks along the existing prefix and then reports NOT FOUND at the dict (a), raises
  `IndexError` (b), or reports NOT FOUND at the list with the index as the name (c); item access raises `IndexError` in
  all three cases, `get` / `first` / `pop` give the default, `delete` raises `KeyError` (a: `del parent_node[None]`) /
  `IndexError` (b: the exception of `_find` passes through; c: `del parent_node[i]`).
-/
namespace N0.XPath
open N0 N0.Py N0.Val

structure NameTok (tok name : Str) (idx : Idx) : Prop where
  split : splitNameIndex tok = .ok (name, idx)
  ne : name ≠ []
  notUp : name ≠ ['.', '.']
  notStar : name ≠ ['*']

theorem KeyTok.nameTok {tok : Str} (h : KeyTok tok) : NameTok tok tok .none :=
  ⟨h.split, h.ne, h.notUp, h.notStar⟩

theorem KeyIdxTok.nameTok {tok k e : Str} {i : Int} (h : KeyIdxTok tok k e i) : NameTok tok k (.str e) :=
  ⟨h.split, h.kne, h.notUp, h.notStar⟩

theorem isFound_notFound_cons (r : Res) (t : Str) (ts : List Str) (h : r.notFound = some (t :: ts)) :
    r.isFound = false := by
  simp [Res.isFound, h]

/-- what `_find` answers for an unknown key below an existing dict node -/
def UnknownAt (p : Pos) (toks : List Str) (r : Res) : Prop :=
  r.parent = .at p ∧ r.nameIdx = Option.none ∧ r.notFound = some toks

theorem UnknownAt.isFound {p : Pos} {tok : Str} {rest : List Str} {r : Res}
    (h : UnknownAt p (tok :: rest) r) : r.isFound = false :=
  isFound_notFound_cons r tok rest h.2.2

theorem find_miss_unknown (root : Val) (rl : Bool) {toks : List Str} {p : Pos} {cls : Cls} {kvs : List (Str × Val)}
    (h : Spells toks root p (.dict cls kvs)) {tok name : Str} {idx : Idx} (rest : List Str)
    (hk : NameTok tok name idx) (hl : lookup name kvs = Option.none) (fuel : Nat) (entry : Bool) (found : Str)
    (hf : fuel ≥ 2 * toks.length + 1) :
    ∃ r, findD fuel root [] false entry (toks ++ tok :: rest) (.at []) rl found = .ok (root, r) ∧
      UnknownAt p (tok :: rest) r := by
  obtain ⟨w, hw⟩ := h.exF
  exact ⟨_, find_walk_miss root rl hw tok name idx rest hk.split hk.ne hk.notUp hk.notStar hl fuel [] found entry rfl hf,
    rfl, rfl, rfl⟩

theorem find_miss_leaf (root : Val) (rl : Bool) {toks : List Str} {p : Pos} {c : Val}
    (h : Spells toks root p c) (hnl : isList c = false) (hnd : isDict c = false)
    {tok name : Str} {idx : Idx} (rest : List Str) (hk : NameTok tok name idx)
    (fuel : Nat) (entry : Bool) (found : Str) (hf : fuel ≥ 2 * toks.length + 1) :
    findD fuel root [] false entry (toks ++ tok :: rest) (.at []) rl found = .error .IndexError := by
  obtain ⟨w, hw⟩ := h.exF
  obtain ⟨f, rfl⟩ := Nat.exists_eq_add_of_le' (Nat.le_trans (Nat.add_le_add_right hw.length_le 1) hf)
  rw [Nat.add_comm p.length, ← Nat.add_assoc]
  exact find_walkTo_leaf root rl [] hw.walk hnl hnd tok name idx rest hk.split hk.ne hk.notUp f [] found entry rfl

/-- Python raises `IndexError` for `xs[i]` on a list of length `len` -/
def OutOfRange (i : Int) (len : Nat) : Prop := i ≥ (len : Int) ∨ i < -(len : Int)

theorem outOfRange_of_normIdx_none {i : Int} {len : Nat} (h : normIdx i len = Option.none) : OutOfRange i len := by
  unfold normIdx at h
  unfold OutOfRange
  split at h
  · split at h
    · cases h
    · omega
  · split at h
    · cases h
    · omega

theorem normIdx_none_of_outOfRange {i : Int} {len : Nat} (h : OutOfRange i len) : normIdx i len = Option.none := by
  cases hn : normIdx i len with
  | none => rfl
  | some n => exact absurd h (normIdx_range hn)

/-- the tokens walk along existing nodes and then hit an index that is out of range; a token `key[index]` is a key step
followed by the index token `[index]` on the list under the key -/
inductive MissAt : List Str → Val → Prop
  | idx {tok e i rest cls xs} : IdxTok tok e i → OutOfRange i xs.length → MissAt (tok :: rest) (.list cls xs)
  | stepIdx {tok e i rest cls xs n c} : IdxTok tok e i → normIdx i xs.length = some n → xs[n]? = some c →
      MissAt rest c → MissAt (tok :: rest) (.list cls xs)
  | stepKey {tok rest cls kvs c} : KeyTok tok → lookup tok kvs = some c → MissAt rest c →
      MissAt (tok :: rest) (.dict cls kvs)
  | keyIdx {tok k e i rest cls kvs cls' xs} : KeyIdxTok tok k e i → lookup k kvs = some (.list cls' xs) →
      MissAt (bracket e :: rest) (.list cls' xs) → MissAt (tok :: rest) (.dict cls kvs)

theorem MissAt.ne_nil {toks : List Str} {v : Val} (h : MissAt toks v) : toks ≠ [] := by
  cases h <;> simp

/-- what `_find` answers for an index that is out of range on an existing list: the list is the parent reported, the
bracketed index the name -/
def OutAt (root : Val) (r : Res) : Prop :=
  ∃ q cls xs i, r.parent = .at q ∧ getAt root q = some (.list cls xs) ∧ r.nameIdx = some (bracket (intStr i)) ∧
    OutOfRange i xs.length ∧ r.isFound = false

theorem OutAt.isFound {root : Val} {r : Res} (h : OutAt root r) : r.isFound = false :=
  let ⟨_, _, _, _, _, _, _, _, hnf⟩ := h
  hnf

/-- Two units of fuel per token suffice: a key step and a `key[index]` token take them, an index token on a list takes
one, which is why a list may be entered with one unit less. -/
theorem find_miss_out (root : Val) (rl : Bool) (sp : Pos) {toks : List Str} {v : Val} (h : MissAt toks v) :
    ∀ (fuel : Nat) (q : Pos) (found : Str) (entry : Bool), getAt root q = some v →
      fuel + (if isList v then 1 else 0) ≥ 2 * toks.length →
      ∃ r, findD fuel root sp false entry toks (.at q) rl found = .ok (root, r) ∧ OutAt root r := by
  induction h with
  | @idx tok e i rest cls xs hk ho =>
    intro fuel q found entry hq hf
    obtain ⟨f, hf1, _⟩ := fuel_cons (show fuel + 1 ≥ 2 * (tok :: rest).length from hf)
    cases (Nat.succ.inj hf1 : fuel = f + 1)
    rw [findD_idx_out (ps := false) (par := .at q) rfl hq hk ho]
    exact ⟨_, rfl, q, cls, xs, i, rfl, hq, rfl, ho, isFound_notFound_cons _ _ _ rfl⟩
  | @stepIdx tok e i rest cls xs n c hk hn hx hm ih =>
    intro fuel q found entry hq hf
    obtain ⟨f, hf1, hf'⟩ := fuel_cons (show fuel + 1 ≥ 2 * (tok :: rest).length from hf)
    cases (Nat.succ.inj hf1 : fuel = f + 1)
    rw [find_idx_step_sp f root sp entry rl q found tok e i rest hm.ne_nil cls xs n hq hk hn]
    exact ih f _ _ false (getAt_snoc_idx hq hx) (Nat.le_trans hf' (Nat.le_add_right _ _))
  | @stepKey tok rest cls kvs c hk hl hm ih =>
    intro fuel q found entry hq hf
    obtain ⟨f, rfl, hf'⟩ := fuel_cons (show fuel ≥ 2 * (tok :: rest).length from hf)
    rw [find_key_step_sp (f + 1) root sp entry rl q found tok rest cls kvs c hm.ne_nil hq hk hl]
    exact ih (f + 1) _ _ false (getAt_snoc_key hq hl) (Nat.le_trans hf' (Nat.le_trans (Nat.le_succ f) (Nat.le_add_right _ _)))
  | @keyIdx tok k e i rest cls kvs cls' xs hk hl hm ih =>
    intro fuel q found entry hq hf
    obtain ⟨f, rfl, _⟩ := fuel_cons (show fuel ≥ 2 * (tok :: rest).length from hf)
    rw [find_keyidx_step_sp (f + 1) root sp entry rl q found tok k e i rest cls kvs _ hq hk hl]
    exact ih (f + 1) _ _ false (getAt_snoc_key hq hl) hf

theorem findL_miss (root : Val) (rl : Bool) (sp : Pos) {toks : List Str} {v : Val} (h : MissAt toks v) :
    ∀ (fuel : Nat) (q : Pos) (found : Str), (∃ cls xs, v = .list cls xs) → getAt root q = some v →
      fuel ≥ 2 * toks.length →
      ∃ r, findL fuel root sp toks (.at q) rl found = .ok (root, r) ∧ r.isFound = false := by
  induction h with
  | @idx tok e i rest cls xs hk ho =>
    intro fuel q found _ hq hf
    obtain ⟨f, rfl, _⟩ := fuel_cons hf
    rw [findL_idx_out (par := .at q) hq hk ho]
    exact ⟨_, rfl, isFound_notFound_cons _ _ _ rfl⟩
  | stepKey _ _ _ _ => intro _ _ _ hl; obtain ⟨_, _, h⟩ := hl; cases h
  | keyIdx _ _ _ _ => intro _ _ _ hl; obtain ⟨_, _, h⟩ := hl; cases h
  | @stepIdx tok e i rest cls xs n c hk hn hx hm ih =>
    intro fuel q found _ hq hf
    obtain ⟨f, rfl, hf'⟩ := fuel_cons hf
    have hq' : getAt root (q ++ [.idx n]) = some c := getAt_snoc_idx hq hx
    have hf1 : f + 1 ≥ 2 * rest.length := Nat.le_succ_of_le hf'
    cases c with
    | dict dc kvs =>
      rw [findL_idx_step_dict (f + 1) root sp rl q found tok e i rest hm.ne_nil cls xs n dc kvs hq hk hn hx]
      obtain ⟨r, hr, ho⟩ := find_miss_out root rl sp hm (f + 1) (q ++ [Seg.idx n]) _ true hq' hf1
      exact ⟨r, hr, ho.isFound⟩
    | list lc ys =>
      rw [findL_idx_step_list (f + 1) root sp rl q found tok e i rest hm.ne_nil cls xs n lc ys hq hk hn hx]
      exact ih (f + 1) (q ++ [Seg.idx n]) _ ⟨lc, ys, rfl⟩ hq' hf1
    | _ => cases hm

/-- the one miss this names: the steps walk along existing nodes and then index a list out of range -/
def stepsMiss : Val → List StepSp → Bool
  | .dict _ kvs, .key k :: rest =>
    match lookup k kvs with
    | some c => stepsMiss c rest
    | Option.none => false
  | .list _ xs, .idx e _ :: rest =>
    match normIdx e.val xs.length with
    | Option.none => true
    | some n =>
      match xs[n]? with
      | some c => stepsMiss c rest
      | Option.none => false
  | _, _ => false

theorem stepsMiss_key_inv {v : Val} {k : Str} {rest : List StepSp} (h : stepsMiss v (.key k :: rest) = true) :
    ∃ cls kvs x, v = .dict cls kvs ∧ lookup k kvs = some x ∧ stepsMiss x rest = true := by
  cases v with
  | dict cls kvs =>
    simp only [stepsMiss] at h
    cases hl : lookup k kvs with
    | none => simp [hl] at h
    | some x => exact ⟨cls, kvs, x, rfl, hl, by simpa [hl] using h⟩
  | _ => cases h

theorem stepsMiss_idx_inv {v : Val} {e : IdxSp} {sep : Bool} {rest : List StepSp}
    (h : stepsMiss v (.idx e sep :: rest) = true) :
    ∃ cls xs, v = .list cls xs ∧ (OutOfRange e.val xs.length ∨
      ∃ n y, normIdx e.val xs.length = some n ∧ xs[n]? = some y ∧ stepsMiss y rest = true) := by
  cases v with
  | list cls xs =>
    simp only [stepsMiss] at h
    refine ⟨cls, xs, rfl, ?_⟩
    cases hn : normIdx e.val xs.length with
    | none => exact Or.inl (outOfRange_of_normIdx_none hn)
    | some n =>
      cases hx : xs[n]? with
      | none => simp [hn, hx] at h
      | some y => exact Or.inr ⟨n, y, rfl, hx, by simpa [hn, hx] using h⟩
  | _ => cases h

theorem stepsMiss_nil (v : Val) : stepsMiss v [] = false := by
  cases v <;> rfl

theorem missAt_steps : ∀ (steps : List StepSp) (v : Val), PlainSteps steps → stepsMiss v steps = true →
    MissAt (toksOf steps) v
  | [], v, _, h => by rw [stepsMiss_nil] at h; cases h
  | [.key k], v, hp, h => by
    obtain ⟨cls, kvs, x, rfl, hl, hr⟩ := stepsMiss_key_inv h
    rw [stepsMiss_nil] at hr; cases hr
  | .key k :: .key k2 :: rest, v, hp, h => by
    obtain ⟨cls, kvs, x, rfl, hl, hr⟩ := stepsMiss_key_inv h
    have ih := missAt_steps (.key k2 :: rest) x hp.2 hr
    rw [toksOf_key_key]
    exact .stepKey hp.1.keyTok hl ih
  | .key k :: .idx e true :: rest, v, hp, h => by
    obtain ⟨cls, kvs, x, rfl, hl, hr⟩ := stepsMiss_key_inv h
    have ih := missAt_steps (.idx e true :: rest) x hp.2 hr
    rw [toksOf_key_sep]
    exact .stepKey hp.1.keyTok hl ih
  | .key k :: .idx e false :: rest, v, hp, h => by
    obtain ⟨cls, kvs, x, rfl, hl, hr⟩ := stepsMiss_key_inv h
    obtain ⟨cls', xs, rfl, ho | ⟨n, y, hn, hx, hr2⟩⟩ := stepsMiss_idx_inv hr
    · exact .keyIdx (e.keyIdxTok hp.1) hl (.idx e.idxTok ho)
    · exact .keyIdx (e.keyIdxTok hp.1) hl (.stepIdx e.idxTok hn hx (missAt_steps rest y hp.2 hr2))
  | .idx e sep :: rest, v, hp, h => by
    obtain ⟨cls', xs, rfl, ho | ⟨n, y, hn, hx, hr2⟩⟩ := stepsMiss_idx_inv h
    · exact .idx e.idxTok ho
    · exact .stepIdx e.idxTok hn hx (missAt_steps rest y hp hr2)

/-- what `_get` does with a miss: item access raises IndexError, `get`/`first` give the default -/
def missResult (root dflt : Val) (raise : Bool) : Val × PyM Val :=
  if raise then (root, .error .IndexError) else (root, .ok dflt)

theorem getCore_notFound {fuel : Nat} {root : Val} {xp : Str} {rl : Bool} {r : Res} (d : Val) (raise : Bool)
    (hq : startsWith xp ['?'] = false) (hpc : hasPathChar xp = true)
    (hfind : rootFind fuel root (tokenize xp) rl = .ok (root, r)) (hnf : r.isFound = false) :
    getCore fuel root xp d raise rl = missResult root d raise := by
  rw [getCore_of_rootFind d raise hq hpc rfl hfind, hnf]
  cases raise <;> rfl

/-- `del parent_node[None]` is a KeyError -/
theorem delete_unknown (fuel : Nat) (cls : Cls) (kvs : List (Str × Val)) (xp : Str) (rec : Bool)
    (hq : startsWith xp ['?'] = false) (p : Pos) (cls' : Cls) (kvs' : List (Str × Val))
    (hp : getAt (.dict cls kvs) p = some (.dict cls' kvs')) (tok : Str) (rest : List Str) (r : Res)
    (hne : tokenize xp ≠ [])
    (hfind : findD fuel (.dict cls kvs) [] false true (tokenize xp) (.at []) true slash = .ok (.dict cls kvs, r))
    (hr : UnknownAt p (tok :: rest) r) :
    delete fuel (.dict cls kvs) xp rec = (.dict cls kvs, .error .KeyError) := by
  obtain ⟨hpar, hni, _⟩ := hr
  rw [delete_of_tokens rfl hq]
  refine deleteLoop_del_error hne hfind (fun tok => delPlace_at _ _ tok _ _ hpar) ?_
  simp only [delThrough, hpar, isWrap, Bool.false_eq_true, ↓reduceIte, hni, valOf_at, hp]

theorem delete_find_error (fuel : Nat) (cls : Cls) (kvs : List (Str × Val)) (xp : Str) (rec : Bool) (e : PyErr)
    (hq : startsWith xp ['?'] = false) (hne : tokenize xp ≠ [])
    (hfind : findD fuel (.dict cls kvs) [] false true (tokenize xp) (.at []) true slash = .error e) :
    delete fuel (.dict cls kvs) xp rec = (.dict cls kvs, .error e) := by
  rw [delete_of_tokens rfl hq]
  exact deleteLoop_find_error hne hfind

theorem pop_of_indexError (fuel : Nat) (t : Val) (xp : Str) (d : Val) (rec : Bool)
    (hq : startsWith xp ['?'] = false) (h : getItem fuel t xp = (t, .error .IndexError)) :
    pop fuel t xp d rec = .ok (t, d) := by
  unfold pop
  rw [stripQ_noQ _ hq, h]

theorem api_of_miss (fuel : Nat) (t : Val) (xp : Str) (hq : startsWith xp ['?'] = false)
    (h : ∀ d raise rl, getCore fuel t xp d raise rl = missResult t d raise) (d : Val) (rec : Bool) :
    getItem fuel t xp = (t, .error .IndexError) ∧ get fuel t xp d = (t, .ok d) ∧ first fuel t xp d = (t, .ok d) ∧
    pop fuel t xp d rec = .ok (t, d) := by
  have hgi : getItem fuel t xp = (t, .error .IndexError) := by rw [getItem, h]; rfl
  refine ⟨hgi, ?_, first_of_miss (fun d' => ?_) d, pop_of_indexError fuel t xp d rec hq hgi⟩
  · rw [XPath.get, h]; rfl
  · rw [h]; rfl

theorem toksOf_key_head (k : Str) (tail : List StepSp) (hk : PlainKey k) :
    ∃ tok idx rest, toksOf (.key k :: tail) = tok :: rest ∧ NameTok tok k idx := by
  cases tail with
  | nil => exact ⟨k, .none, [], rfl, hk.keyTok.nameTok⟩
  | cons s r =>
    cases s with
    | key k2 => exact ⟨k, .none, _, toksOf_key_key k k2 r, hk.keyTok.nameTok⟩
    | idx e sep =>
      cases sep with
      | true => exact ⟨k, .none, _, toksOf_key_sep k e r, hk.keyTok.nameTok⟩
      | false => exact ⟨k ++ bracket e.text, .str e.text, toksOf r, rfl, (e.keyIdxTok hk).nameTok⟩

theorem two_steps_of (steps tail : List StepSp) (k : Str) (h : steps ≠ [] ∨ tail ≠ []) :
    ∃ s s2 r, steps ++ .key k :: tail = s :: s2 :: r := by
  cases steps with
  | nil =>
    cases tail with
    | nil => rcases h with h | h <;> exact absurd rfl h
    | cons s2 r => exact ⟨_, s2, r, rfl⟩
  | cons s st =>
    cases st with
    | nil => exact ⟨s, .key k, tail, rfl⟩
    | cons s2 r => exact ⟨s, s2, r ++ .key k :: tail, rfl⟩

theorem toks_split (steps tail : List StepSp) (k : Str) (lead : Lead) (hp : PlainSteps (steps ++ .key k :: tail)) :
    ∃ tok idx rest, tokenize (renderSp lead (steps ++ .key k :: tail)) = toksOf steps ++ tok :: rest ∧
      NameTok tok k idx := by
  obtain ⟨_, hk, _⟩ : PlainSteps steps ∧ PlainKey k ∧ PlainSteps tail := by
    have := (plainSteps_append steps (.key k :: tail)).1 hp
    exact ⟨this.1, this.2.1, this.2.2⟩
  obtain ⟨tok, idx, rest, ht, hn⟩ := toksOf_key_head k tail hk
  exact ⟨tok, idx, rest, by rw [tokenize_renderSp lead _ hp, toksOf_append_key, ht], hn⟩

theorem miss_unknown_key (fuel : Nat) (cls : Cls) (kvs : List (Str × Val)) (lead : Lead) (steps tail : List StepSp)
    (k : Str) (cls' : Cls) (kvs' : List (Str × Val)) (hp : PlainSteps (steps ++ .key k :: tail))
    (hget : stepsGet (.dict cls kvs) steps = some (.dict cls' kvs')) (hl : lookup k kvs' = Option.none)
    (hlead : lead ≠ .rel ∨ steps ≠ [] ∨ tail ≠ []) (hf : fuel ≥ 2 * steps.length + 1) :
    (∀ d raise rl, getCore fuel (.dict cls kvs) (renderSp lead (steps ++ .key k :: tail)) d raise rl
        = missResult (.dict cls kvs) d raise) ∧
    (∀ rec, delete fuel (.dict cls kvs) (renderSp lead (steps ++ .key k :: tail)) rec
        = (.dict cls kvs, .error .KeyError)) := by
  have hps : PlainSteps steps := ((plainSteps_append steps _).1 hp).1
  have hs := spells_steps steps _ _ hps hget
  have hf' : fuel ≥ 2 * (toksOf steps).length + 1 :=
    Nat.le_trans (Nat.succ_le_succ (Nat.mul_le_mul_left 2 (toksOf_length_le steps))) hf
  obtain ⟨tok, idx, rest, htok, hn⟩ := toks_split steps tail k lead hp
  have hq := renderSp_noQ lead (steps ++ .key k :: tail) hp (by simp)
  have hpc := hasPathChar_renderSp lead (steps ++ .key k :: tail)
    (hlead.imp_right (two_steps_of steps tail k))
  refine ⟨fun d raise rl => ?_, fun rec => ?_⟩
  · obtain ⟨r, hr, hu⟩ := find_miss_unknown (.dict cls kvs) rl hs rest hn hl fuel true slash hf'
    exact getCore_notFound (root := .dict cls kvs) d raise hq hpc (by rw [htok]; exact hr) hu.isFound
  · obtain ⟨r, hr, hu⟩ := find_miss_unknown (.dict cls kvs) true hs rest hn hl fuel true slash hf'
    exact delete_unknown fuel cls kvs _ rec hq _ cls' kvs' hs.getAt tok rest r (by rw [htok]; simp)
      (by rw [htok]; exact hr) hu

theorem miss_below_leaf (fuel : Nat) (cls : Cls) (kvs : List (Str × Val)) (lead : Lead) (steps tail : List StepSp)
    (k : Str) (c : Val) (hp : PlainSteps (steps ++ .key k :: tail))
    (hget : stepsGet (.dict cls kvs) steps = some c) (hnl : isList c = false) (hnd : isDict c = false)
    (hf : fuel ≥ 2 * steps.length + 1) :
    (∀ d raise rl, getCore fuel (.dict cls kvs) (renderSp lead (steps ++ .key k :: tail)) d raise rl
        = missResult (.dict cls kvs) d raise) ∧
    (∀ rec, delete fuel (.dict cls kvs) (renderSp lead (steps ++ .key k :: tail)) rec
        = (.dict cls kvs, .error .IndexError)) := by
  have hps : PlainSteps steps := ((plainSteps_append steps _).1 hp).1
  have hs := spells_steps steps _ _ hps hget
  have hf' : fuel ≥ 2 * (toksOf steps).length + 1 :=
    Nat.le_trans (Nat.succ_le_succ (Nat.mul_le_mul_left 2 (toksOf_length_le steps))) hf
  have hne : steps ≠ [] := by
    rintro rfl
    simp only [stepsGet, Option.some.injEq] at hget
    subst hget; simp [isDict] at hnd
  obtain ⟨tok, idx, rest, htok, hn⟩ := toks_split steps tail k lead hp
  have hq := renderSp_noQ lead (steps ++ .key k :: tail) hp (by simp)
  have hpc := hasPathChar_renderSp lead (steps ++ .key k :: tail) (Or.inr (two_steps_of steps tail k (Or.inl hne)))
  refine ⟨fun d raise rl => ?_, fun rec => ?_⟩
  · rw [getCore_of_find_err cls kvs _ _ d raise rl fuel hq hpc htok
      (find_miss_leaf (.dict cls kvs) rl hs hnl hnd rest hn fuel true slash hf')]
    cases raise <;> rfl
  · exact delete_find_error fuel cls kvs _ rec _ hq (by rw [htok]; simp)
      (by rw [htok]; exact find_miss_leaf (.dict cls kvs) true hs hnl hnd rest hn fuel true slash hf')

theorem getCore_miss_dict (fuel : Nat) (cls : Cls) (kvs : List (Str × Val)) (lead : Lead)
    (steps : List StepSp) (d : Val) (raise rl : Bool)
    (hp : PlainSteps steps) (hmiss : stepsMiss (.dict cls kvs) steps = true)
    (hf : fuel ≥ 2 * steps.length) :
    getCore fuel (.dict cls kvs) (renderSp lead steps) d raise rl = missResult (.dict cls kvs) d raise := by
  have hm := missAt_steps steps _ hp hmiss
  have htok := tokenize_renderSp lead steps hp
  have hlen := toksOf_length_le steps
  obtain ⟨r, hr, ho⟩ := find_miss_out (.dict cls kvs) rl [] hm fuel [] slash true rfl (two_mul_le_fuel hlen hf)
  obtain ⟨k, s2, r2, rfl⟩ : ∃ k s2 r2, steps = .key k :: s2 :: r2 := by
    cases steps with
    | nil => rw [stepsMiss_nil] at hmiss; cases hmiss
    | cons s r0 =>
      cases s with
      | idx e sep => cases hmiss
      | key k =>
        cases r0 with
        | nil =>
          obtain ⟨_, _, _, _, _, h0⟩ := stepsMiss_key_inv hmiss
          rw [stepsMiss_nil] at h0; cases h0
        | cons s2 r2 => exact ⟨k, s2, r2, rfl⟩
  exact getCore_notFound (root := .dict cls kvs) d raise (renderSp_noQ lead _ hp (by simp))
    (hasPathChar_renderSp lead _ (Or.inr ⟨_, _, _, rfl⟩)) (by rw [htok]; exact hr) ho.isFound

theorem getCore_miss_list (fuel : Nat) (cls : Cls) (xs : List Val) (lead : Lead)
    (steps : List StepSp) (d : Val) (raise rl : Bool)
    (hp : PlainSteps steps) (hmiss : stepsMiss (.list cls xs) steps = true)
    (hf : fuel ≥ 2 * steps.length) :
    getCore fuel (.list cls xs) (renderSp lead steps) d raise rl = missResult (.list cls xs) d raise := by
  have hm := missAt_steps steps _ hp hmiss
  have htok := tokenize_renderSp lead steps hp
  have hlen := toksOf_length_le steps
  obtain ⟨r, hr, hnf⟩ := findL_miss (.list cls xs) rl [] hm fuel [] slash ⟨cls, xs, rfl⟩ rfl (two_mul_le_fuel hlen hf)
  obtain ⟨e, sep, r0, rfl⟩ : ∃ e sep r0, steps = .idx e sep :: r0 := by
    cases steps with
    | nil => rw [stepsMiss_nil] at hmiss; cases hmiss
    | cons s r0 =>
      cases s with
      | key k => cases hmiss
      | idx e sep => exact ⟨e, sep, r0, rfl⟩
  exact getCore_notFound (root := .list cls xs) d raise (renderSp_noQ lead _ hp (by simp))
    (hasPathChar_renderSp_idx lead _ ⟨e, sep, r0, rfl⟩) (by rw [htok]; exact hr) hnf

theorem delete_out_of_range (fuel : Nat) (cls : Cls) (kvs : List (Str × Val)) (lead : Lead) (steps : List StepSp)
    (rec : Bool) (hp : PlainSteps steps) (hmiss : stepsMiss (.dict cls kvs) steps = true)
    (hf : fuel ≥ 2 * steps.length) :
    delete fuel (.dict cls kvs) (renderSp lead steps) rec = (.dict cls kvs, .error .IndexError) := by
  have hm := missAt_steps steps _ hp hmiss
  have htok := tokenize_renderSp lead steps hp
  have hlen := toksOf_length_le steps
  have hne : steps ≠ [] := by rintro rfl; rw [stepsMiss_nil] at hmiss; cases hmiss
  have hq := renderSp_noQ lead steps hp hne
  obtain ⟨r, hr, q, lc, xs, i, hpar, hgq, hni, ho, hnf⟩ :=
    find_miss_out (.dict cls kvs) true [] hm fuel [] slash true rfl (two_mul_le_fuel hlen hf)
  rw [delete_of_tokens htok hq]
  refine deleteLoop_del_error hm.ne_nil hr (fun tok => delPlace_at _ _ tok _ _ hpar) ?_
  simp only [delThrough, hpar, isWrap, Bool.false_eq_true, ↓reduceIte, hni, valOf_at, hgq, startsWith_bracket,
    endsWith_bracket, Bool.and_self, Bool.not_true, bracket_inner, n0eval_intStr, normIdx_none_of_outOfRange ho]

end N0.XPath
