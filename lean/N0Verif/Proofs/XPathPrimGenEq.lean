import N0Verif.Proofs.XPathTokShape
import N0Verif.Gen.XPathPrim
import N0Verif.Py.Lemmas
/-!
  The definitions that `harness/translate_py_xp.py` regenerates from the Python source of `n0eval` and
  `split_name_index` (`Gen/XPathPrim.lean`) are equal to the hand-written model (`XPath.n0eval`,
  `XPath.splitNameIndex` of `Model/XPath.lean`), for every string, exception classes included.

  The proofs are written against *characterisations* of the generated pieces (what one iteration of a loop
  returns, what the comprehension keeps) that are established by `simp`/case analysis, not by following the syntactic
  shape of the generated text.  What they depend on: the order of the parameters, the order of the fields of the
  generated state structures and the order of the names a `break` exports.
-/
set_option linter.unusedSimpArgs false
namespace N0.XPathPrimGenEq
open N0 N0.Py N0.XPath N0.Gen.XPathPrim

/-! ### spellings of "is empty" (`not s`, `s == ""`, `len(s) == 0`, …) -/

theorem xpgen_beq_nil (l : Str) : (l == []) = l.isEmpty := by cases l <;> rfl
theorem xpgen_bne_nil (l : Str) : (l != []) = !l.isEmpty := by cases l <;> rfl
theorem xpgen_len_beq_zero {α : Type} (l : List α) : (Int.ofNat l.length == 0) = l.isEmpty := by cases l <;> rfl
theorem xpgen_len_bne_zero {α : Type} (l : List α) : (Int.ofNat l.length != 0) = !l.isEmpty := by cases l <;> rfl
theorem xpgen_len_pos {α : Type} (l : List α) : decide (Int.ofNat l.length > 0) = !l.isEmpty := by
  cases l with
  | nil => rfl
  | cons a t =>
    simp only [List.length_cons, List.isEmpty_cons, Bool.not_false, decide_eq_true_eq, Int.ofNat_eq_natCast]
    omega

/-! ### `n0eval`: `my_split` -/

/-- a comprehension over `enumerate(parts)` that keeps the pieces that are not blank, stripped, the later ones
prefixed by the delimiter (unless it is '+'), is the model's `mySplit.go` -/
theorem xpgen_filterMap_go (d : Char) (F : Str × Nat → Option Str)
    (hF : ∀ p i, F (p, i) = if (stripWs p).isEmpty then none
      else some ((if d ≠ '+' && i ≠ 0 then [d] else []) ++ stripWs p))
    (l : List Str) (n : Nat) : List.filterMap F (List.zipIdx l n) = mySplit.go d n l := by
  induction l generalizing n with
  | nil => rfl
  | cons p ps ih =>
    rw [List.zipIdx_cons, List.filterMap_cons, hF, mySplit.go, ih]
    cases (stripWs p).isEmpty <;> rfl

/-- the nested function `my_split(_str, d)` for a one-character `d` is the model's `mySplit` -/
theorem xpgen_mySplit_eq (d : Char) (s : Str) : N0eval.mySplit s [d] = .ok (XPath.mySplit d s) := by
  simp only [N0eval.mySplit, splitE, List.isEmpty_cons, Bool.false_eq_true, if_false, split_single]
  rw [XPath.mySplit]
  refine congrArg Except.ok (xpgen_filterMap_go d _ ?_ _ 0)
  intro p i
  cases hp : (stripWs p).isEmpty <;> simp [hp]

/-! ### `n0eval`: the two loops -/

theorem xpgen_step1 (acc : List Str) (c : Str) :
    N0eval.step ⟨acc⟩ c = .ok ⟨acc ++ XPath.mySplit '-' c⟩ := by
  simp [N0eval.step, xpgen_mySplit_eq]

/-- first loop: `second_split.extend(my_split(item, '-'))` for every item -/
theorem xpgen_fold1 (l : List Str) (acc : List Str) :
    foldE N0eval.step ⟨acc⟩ l = .ok ⟨acc ++ l.flatMap (XPath.mySplit '-')⟩ := by
  induction l generalizing acc with
  | nil => simp [foldE]
  | cons c l ih =>
    rw [foldE, xpgen_step1]
    simp only []
    rw [ih, List.append_assoc, List.flatMap_cons]

/-- what the caller of a loop makes of one iteration: an error or a `return` ends it, otherwise `k` goes on from the
new state -/
def viewStep (k : N0eval.State2 → PyM EvalRes) : Except PyErr (Ctl EvalRes N0eval.State2) → PyM EvalRes
  | .error e => .error e
  | .ok (.exit r) => .ok r
  | .ok (.next st) => k st

/-- what the caller sees of the second loop -/
def viewLoop2 : Except PyErr (Ctl EvalRes N0eval.State2) → PyM EvalRes := viewStep fun st => .ok (.int st.f0)

theorem xpgen_viewLoop2_cons (f : N0eval.State2 → Str → Except PyErr (Ctl EvalRes N0eval.State2)) (st : N0eval.State2)
    (item : Str) (rest : List Str) :
    viewLoop2 (foldC f st (item :: rest)) = viewStep (fun st' => viewLoop2 (foldC f st' rest)) (f st item) := by
  rw [foldC]
  cases f st item with
  | error e => rfl
  | ok c => cases c <;> rfl

/-- one iteration of the second loop, in the words of `n0evalItems` -/
theorem xpgen_step2 (k : N0eval.State2 → PyM EvalRes) (w : Str) (acc : Int) (item : Str) :
    viewStep k (N0eval.step2 w ⟨acc⟩ item) =
      if item = sNew then .ok (.str w)
      else if item = sLast then k ⟨acc - 1⟩
      else if item.contains '.' then (if item.all floatish then .error .Unsupported else .ok (.str w))
      else if item.any (fun c => c.toNat ≥ 128) then .error .Unsupported
      else match pyInt item with
        | some i => k ⟨acc + i⟩
        | none => .ok (.str w) := by
  rw [sNew_eq, sLast_eq]
  simp only [N0eval.step2, pyFloatE, pyIntE, isInfix_single, Int.sub_eq_add_neg, beq_iff_eq]
  by_cases h1 : item = ['n', 'e', 'w', '(', ')']
  · rw [if_pos h1, if_pos h1]
    rfl
  rw [if_neg h1, if_neg h1]
  by_cases h2 : item = ['l', 'a', 's', 't', '(', ')']
  · rw [if_pos h2, if_pos h2]
    rfl
  rw [if_neg h2, if_neg h2]
  cases item.contains '.'
  · cases item.any fun c => decide (c.toNat ≥ 128)
    · cases pyInt item <;> rfl
    · rfl
  · cases item.all floatish <;> rfl

theorem xpgen_fold2 (w : Str) (items : List Str) (acc : Int) :
    viewLoop2 (foldC (N0eval.step2 w) ⟨acc⟩ items) = n0evalItems items acc w := by
  induction items generalizing acc with
  | nil => rfl
  | cons item rest ih =>
    rw [xpgen_viewLoop2_cons, xpgen_step2, n0evalItems]
    simp only [ih]
    -- the `match pyInt item` of the two sides are two auxiliary definitions with the same value
    rfl

/-- `n0eval`: the translated source is the hand-written model -/
theorem xpgen_n0eval_eq (s : Str) : Gen.XPathPrim.n0eval s = XPath.n0eval s := by
  simp only [Gen.XPathPrim.n0eval, XPath.n0eval, replace_single_nil, xpgen_mySplit_eq, xpgen_fold1, List.nil_append,
    xpgen_beq_nil, xpgen_bne_nil, xpgen_len_beq_zero, xpgen_len_bne_zero, xpgen_len_pos]
  cases h : (lower (s.filter (· ≠ ' '))).isEmpty
  · simp only [Bool.not_false, Bool.not_true, Bool.false_eq_true, if_false]
    rw [← xpgen_fold2]
    cases foldC (N0eval.step2 (lower (s.filter (· ≠ ' ')))) ⟨0⟩ ((XPath.mySplit '+' (lower (s.filter (· ≠ ' ')))).flatMap (XPath.mySplit '-')) with
    | error e => rfl
    | ok r => cases r <;> rfl
  · simp

/-! ### `split_name_index`: library primitives -/

theorem xpgen_normBound_neg_one (len : Nat) : normBound len (-(1 : Int)) = len - 1 := by
  rw [normBound, if_pos (by decide), Int.add_comm, ← Int.sub_eq_add_neg]
  exact Int.toNat_sub len 1

theorem xpgen_sliceTo_neg_one {α : Type} (s : List α) : sliceTo s (-(1 : Int)) = s.dropLast := by
  simp [sliceTo, List.dropLast_eq_take]

/-- `s[n:-1]` -/
theorem xpgen_sliceFromTo_neg_one {α : Type} (s : List α) (n : Nat) :
    sliceFromTo s (n : Int) (-(1 : Int)) = (s.drop n).dropLast := by
  rw [sliceFromTo, normBound_natCast (nb := normBound) (fun _ _ => rfl), xpgen_normBound_neg_one, List.dropLast_eq_take, List.length_drop,
    Nat.sub_right_comm]

/-- `a, b = s.split(sep, 1)` -/
theorem xpgen_unpack_split1L (sep s : Str) :
    unpack2E (split1L sep s) = match splitOnce sep s with
      | none => .error .ValueError
      | some p => .ok p := by
  rw [split1L]
  cases splitOnce sep s <;> rfl

/-- `s.split(sep, 1)[1]` -/
theorem xpgen_idx1_split1L (sep s : Str) :
    idxE (split1L sep s) (1 : Int) = match splitOnce sep s with
      | none => .error .IndexError
      | some p => .ok p.2 := by
  rw [split1L]
  cases splitOnce sep s <;> rfl

/-- a separator that occurs is found by `split(sep, 1)` -/
theorem xpgen_split1_of_isInfix (sep : Str) (hsep : sep ≠ []) (s : Str) :
    ∀ (fuel : Nat) (acc : Str), s.length < fuel → isInfix sep s = true → (split1 sep fuel acc s).isSome = true := by
  induction s with
  | nil =>
    intro fuel acc _ h
    cases sep with
    | nil => exact absurd rfl hsep
    | cons c t => simp [isInfix] at h
  | cons c s ih =>
    intro fuel acc hf h
    cases fuel with
    | zero => simp at hf
    | succ k =>
      rw [split1]
      cases hs : startsWith (c :: s) sep with
      | true => rfl
      | false =>
        rw [isInfix, hs, Bool.false_or] at h
        exact ih k (c :: acc) (by simpa using hf) h

theorem xpgen_splitOnce_of_isInfix (sep : Str) (hsep : sep ≠ []) (s : Str) (h : isInfix sep s = true) :
    ∃ p, splitOnce sep s = some p :=
  Option.isSome_iff_exists.mp (xpgen_split1_of_isInfix sep hsep s (s.length + 1) [] (Nat.lt_succ_self _) h)

/-! ### `split_name_index`: the loop over the operator table -/

/-- `=` and `~` are reported as `==` and `~~` -/
def fixDelim (d : Str) : Str := if d = ['='] then ['=', '='] else if d = ['~'] then ['~', '~'] else d

/-- one iteration: the first delimiter of the table that occurs splits the text (exported by `break`: operator,
name, value).  A delimiter that occurs always splits, so the error of the `none` case is never seen; it is the one
`parseCond` has there. -/
theorem xpgen_stepS (idx d : Str) (hd : d ≠ []) :
    SplitNameIndex.step idx () d =
      if isInfix d idx then
        match splitOnce d idx with
        | none => .error .SyntaxError
        | some (k, v) => .ok (.exit (fixDelim d, stripWs k, stripWs v))
      else .ok (.next ()) := by
  have hde : d.isEmpty = false := by simpa using hd
  rw [SplitNameIndex.step]
  cases hi : isInfix d idx with
  | false => rfl
  | true =>
    obtain ⟨⟨k, v⟩, hp⟩ := xpgen_splitOnce_of_isInfix d hd idx hi
    simp only [split1E, hde, split1L, hp, unpack2E, Bool.false_eq_true, if_false]
    -- by cases on `d`, so that neither the order nor the nesting of the two operator tests in the source matters
    by_cases h1 : d = ['=']
    · subst h1; rfl
    · by_cases h2 : d = ['~']
      · subst h2; rfl
      · simp [fixDelim, h1, h2]

theorem xpgen_foldS (idx : Str) (ds : List Str) (hne : ∀ d ∈ ds, d ≠ []) :
    foldC (SplitNameIndex.step idx) () ds =
      match firstDelim idx ds with
      | none => .ok (.next ())
      | some d =>
        match splitOnce d idx with
        | none => .error .SyntaxError
        | some (k, v) => .ok (.exit (fixDelim d, stripWs k, stripWs v)) := by
  induction ds with
  | nil => rfl
  | cons d ds ih =>
    rw [foldC, xpgen_stepS idx d (hne d List.mem_cons_self), firstDelim]
    cases isInfix d idx with
    | true =>
      simp only [if_true]
      cases splitOnce d idx <;> rfl
    | false => exact ih fun d' hd' => hne d' (List.mem_cons_of_mem d hd')

/-- the loop over the operator table, seen through the model's `firstDelim` / `splitOnce` -/
theorem xpgen_loopS (idx : Str) :
    foldC (SplitNameIndex.step idx) () condDelims =
      match firstDelim idx condDelims with
      | none => .ok (.next ())
      | some d =>
        match splitOnce d idx with
        | none => .error .SyntaxError
        | some (k, v) => .ok (.exit (fixDelim d, stripWs k, stripWs v)) :=
  xpgen_foldS idx condDelims (by decide)

/-! ### `split_name_index` -/

/-- a step that contains '[' and ends with ']' has a '[' in front of the last character -/
theorem xpgen_bracket_split (tok : Str) (h1 : tok.contains '[' = true) (h2 : endsWith tok [']'] = true) :
    ∃ p, splitOnce ['['] tok.dropLast = some p := by
  apply xpgen_splitOnce_of_isInfix _ (by simp)
  rw [isInfix_single]
  simp only [endsWith, List.reverse_cons, List.reverse_nil, List.nil_append, startsWith_single] at h2
  cases hr : tok.reverse with
  | nil => simp [hr] at h2
  | cons c r =>
    have hc : c = ']' := by simpa [hr] using h2
    have ht : tok = r.reverse ++ [']'] := by
      have := congrArg List.reverse hr
      simpa [hc] using this
    subst ht
    simp only [List.dropLast_concat]
    simpa using h1

theorem xpgen_textTilde : "text()~~".toList = ['t', 'e', 'x', 't', '(', ')', '~', '~'] := String.toList_ofList
theorem xpgen_condDelims : [['=', '='], ['!', '='], ['~', '~'], ['!', '~'], ['~'], ['=']] = condDelims := rfl

theorem xpgen_slice_8 {α : Type} (s : List α) : sliceFromTo s (8 : Int) (-(1 : Int)) = (s.drop 8).dropLast :=
  xpgen_sliceFromTo_neg_one s 8
theorem xpgen_slice_1 {α : Type} (s : List α) : sliceFromTo s (1 : Int) (-(1 : Int)) = (s.drop 1).dropLast :=
  xpgen_sliceFromTo_neg_one s 1

/-- `split_name_index`: the translated source is the hand-written model -/
theorem xpgen_split_eq (tok : Str) : Gen.XPathPrim.splitNameIndex tok = XPath.splitNameIndex tok := by
  simp only [Gen.XPathPrim.splitNameIndex, XPath.splitNameIndex, isInfix_single, xpgen_sliceTo_neg_one,
    xpgen_unpack_split1L, xpgen_idx1_split1L, xpgen_condDelims, xpgen_loopS, sContains_eq, sText_eq,
    xpgen_textTilde, xpgen_slice_8, xpgen_beq_nil, xpgen_bne_nil, xpgen_len_beq_zero, xpgen_len_bne_zero, xpgen_len_pos]
  cases hA : (tok.contains '[' && endsWith tok [']'])
  · simp
  · have ⟨hA1, hA2⟩ := Bool.and_eq_true_iff.mp hA
    obtain ⟨⟨name, idx⟩, hp⟩ := xpgen_bracket_split tok hA1 hA2
    simp only [hp, if_true]
    cases hE : (stripWs idx).isEmpty
    · simp only [Bool.not_false, if_true, Bool.false_eq_true, if_false]
      -- Both sides are `match t with | .error e => .error e | .ok r => c r`: `t` the index text, in which
      -- `contains(text(), v)` has become `text()~~v`, and `c` the condition part.  First the arm: the translated
      -- condition part is `parseCond`, whatever `r`; what is left are the two index texts.
      refine (congrArg _ (funext fun r => (?_ : _ = (parseCond r).map fun i => (stripWs name, i)))).trans ?_
      · rw [parseCond]
        cases (r.contains '=' || r.contains '~')
        · rfl
        · rw [if_pos rfl, if_pos rfl]
          cases firstDelim r condDelims with
          | none => rfl
          | some d =>
            simp only []
            cases splitOnce d r with
            | none => rfl
            | some p =>
              obtain ⟨k, v⟩ := p
              simp only [fixDelim, sTrue_eq, sFalse_eq, unquoteE, xpgen_slice_1, beq_iff_eq]
              by_cases ht : lower (stripWs v) = ['t', 'r', 'u', 'e', '(', ')']
              · rw [if_pos ht, if_pos ht]
                rfl
              rw [if_neg ht, if_neg ht]
              by_cases hf : lower (stripWs v) = ['f', 'a', 'l', 's', 'e', '(', ')']
              · rw [if_pos hf, if_pos hf]
                rfl
              rw [if_neg hf, if_neg hf]
              cases (startsWith (stripWs v) ['"'] && endsWith (stripWs v) ['"'] ||
                  startsWith (stripWs v) ['\''] && endsWith (stripWs v) ['\''])
              · rfl
              · cases hasPercent ((stripWs v).drop 1).dropLast <;> rfl
      · cases (startsWith (lower (stripWs idx)) ['c', 'o', 'n', 't', 'a', 'i', 'n', 's'] && endsWith (stripWs idx) [')'])
        · rfl
        · simp only [if_true]
          cases splitOnce ['('] (stripWs ((stripWs idx).drop 8).dropLast) with
          | none => rfl
          | some p1 =>
            simp only []
            cases splitOnce [','] p1.2 with
            | none => rfl
            | some p2 =>
              simp only []
              cases startsWith (lower p2.1) ['t', 'e', 'x', 't'] <;> rfl
    · have he : stripWs idx = [] := by simpa using hE
      simp [he]

end N0.XPathPrimGenEq
