import N0Verif.Model.XPathApi
import N0Verif.Proofs.Digits
import N0Verif.Py.Lemmas
import N0Verif.Proofs.XPathTok
/-!
  C04, string layer: a *safety predicate* `P` on strings (`SafePred`) is inherited by every token the resolver
  synthesises (tokenising, splitting a token into name and index, the fixed pieces, decimal numbers).
  Instances: `NoW` (the letter w does not occur), `NoNew` (`new()` does not occur as a substring) and the
  always-true predicate (`XPathPureApi`).
-/
namespace N0.XPath
open N0 N0.Py N0.Val

class SafePred (P : Str → Prop) : Prop where
  sub : ∀ {s t : Str}, t <:+: s → P s → P t
  /-- every string without the letter `w` is safe (all fixed pieces, all decimal numbers) -/
  noW : ∀ {s : Str}, 'w' ∉ s → P s
  /-- gluing two safe strings with a character that does not occur in `new()` -/
  glue : ∀ {a b : Str} {c : Char}, c ∉ sNew → P a → P b → P (a ++ c :: b)
  /-- `replace("][", "]/[")` -/
  fixBr : ∀ {s : Str}, P s → P (fixBr s)

section generic
variable {P : Str → Prop} [SafePred P]

theorem P_nil : P [] := SafePred.noW (by simp)

theorem P_snoc {a : Str} {c : Char} (hc : c ∉ sNew) (ha : P a) : P (a ++ [c]) :=
  SafePred.glue hc ha P_nil

theorem P_cons {a : Str} {c : Char} (hc : c ∉ sNew) (ha : P a) : P (c :: a) := by
  have := SafePred.glue (P := P) (a := []) hc P_nil ha
  simpa using this

theorem P_bracket {s : Str} (h : P s) : P (bracket s) := by
  unfold bracket
  have h1 : P ('[' :: s) := P_cons (by decide) h
  have := P_snoc (P := P) (c := ']') (by decide) h1
  simpa using this

theorem P_slash : P slash := SafePred.noW (P := P) (by decide)

theorem P_append_slash {a b : Str} (ha : P a) (hb : P b) : P (a ++ slash ++ b) := by
  have := SafePred.glue (P := P) (c := '/') (by decide) ha hb
  simpa [slash] using this

theorem P_found_idx {a b : Str} (ha : P a) (hb : P b) : P (a ++ bracket b) := by
  unfold bracket
  have h1 : P (a ++ '[' :: b) := SafePred.glue (by decide) ha hb
  have := P_snoc (P := P) (c := ']') (by decide) h1
  simpa using this

theorem dropWhile_suffix' {α} (p : α → Bool) (l : List α) : l.dropWhile p <:+ l :=
  List.dropWhile_suffix p

theorem P_stripWs {s : Str} (h : P s) : P (stripWs s) := SafePred.sub (stripWs_infix s) h

theorem P_dropLast {s : Str} (h : P s) : P s.dropLast :=
  SafePred.sub (List.dropLast_prefix s).isInfix h

theorem P_drop {s : Str} (n : Nat) (h : P s) : P (s.drop n) :=
  SafePred.sub (List.drop_suffix n s).isInfix h

theorem P_splitOnce {sep s k v : Str} (h : splitOnce sep s = some (k, v)) (hs : P s) : P k ∧ P v :=
  ⟨SafePred.sub (splitOnce_infix h).1 hs, SafePred.sub (splitOnce_infix h).2 hs⟩

/-- the pieces of `found` the `..` branch resolves again -/
theorem P_upToks {s : Str} (h : P s) :
    ∀ t ∈ ((splitChar '/' (XPath.fixBr s)).filter (fun t => !t.isEmpty)).dropLast, P t := by
  intro t ht
  have h1 := (List.dropLast_sublist _).subset ht
  have h2 := (List.mem_filter.1 h1).1
  exact SafePred.sub (splitChar_infix _ _ _ h2) (SafePred.fixBr h)

theorem P_tokenize {s : Str} (h : P s) : ∀ t ∈ tokenize s, P t := by
  intro t ht
  unfold tokenize at ht
  obtain ⟨u, hu, rfl⟩ := List.mem_map.1 ht
  have h2 := (List.mem_filter.1 hu).1
  exact P_stripWs (SafePred.sub (splitChar_infix _ _ _ h2) (SafePred.fixBr h))

def ops4 : List Str := [['=', '='], ['!', '='], ['~', '~'], ['!', '~']]

def PCv (P : Str → Prop) : CondVal → Prop
  | .str s => P s
  | .bool _ => True

def PIdx (P : Str → Prop) : Idx → Prop
  | .none => True
  | .str s => P s
  | .cond k op v => P k ∧ op ∈ ops4 ∧ PCv P v

theorem P_condValStr {v : CondVal} (h : PCv P v) : P (condValStr v) := by
  cases v with
  | str s => exact h
  | bool b => cases b <;> exact SafePred.noW (by decide)

theorem firstDelim_mem {s : Str} : ∀ {ds : List Str} {d : Str}, firstDelim s ds = some d → d ∈ ds
  | [], d, h => by simp [firstDelim] at h
  | x :: ds, d, h => by
    simp only [firstDelim] at h
    split at h
    · simp only [Option.some.injEq] at h; simp [h]
    · simp [firstDelim_mem h]

theorem normOp_mem {d : Str} (h : d ∈ condDelims) :
    (if d = ['='] then ['=', '='] else if d = ['~'] then ['~', '~'] else d) ∈ ops4 := by
  simp only [condDelims, List.mem_cons, List.not_mem_nil, or_false] at h
  rcases h with rfl | rfl | rfl | rfl | rfl | rfl <;> decide

/-- errors the tokeniser of one step can raise: all funnelled by `_get`, or model-only -/
def okErr (e : PyErr) : Bool :=
  e = .ValueError || e = .IndexError || e = .TypeError || e = .SyntaxError || e = .OutOfFuel || e = .Unsupported

/-- the value part of a condition: `true()`/`false()`, a quoted text (without `%`), or the text as it stands -/
theorem condVal_cases {k op v : Str} {r : PyM Idx}
    (h : (if lower v = sTrue then .ok (.cond k op (.bool true))
          else if lower v = sFalse then .ok (.cond k op (.bool false))
          else if (startsWith v ['"'] && endsWith v ['"']) || (startsWith v ['\''] && endsWith v ['\'']) then
            if hasPercent ((v.drop 1).dropLast) then .error .Unsupported
            else .ok (.cond k op (.str ((v.drop 1).dropLast)))
          else .ok (.cond k op (.str v))) = r) :
    r = .error .Unsupported ∨ ∃ cv, r = .ok (.cond k op cv) ∧
      ((∃ b, cv = .bool b) ∨ cv = .str ((v.drop 1).dropLast) ∨ cv = .str v) := by
  subst h
  by_cases h1 : lower v = sTrue
  · rw [if_pos h1]; exact Or.inr ⟨_, rfl, Or.inl ⟨_, rfl⟩⟩
  rw [if_neg h1]
  by_cases h2 : lower v = sFalse
  · rw [if_pos h2]; exact Or.inr ⟨_, rfl, Or.inl ⟨_, rfl⟩⟩
  rw [if_neg h2]
  by_cases h3 : ((startsWith v ['"'] && endsWith v ['"']) || (startsWith v ['\''] && endsWith v ['\''])) = true
  · rw [if_pos h3]
    by_cases h4 : hasPercent ((v.drop 1).dropLast) = true
    · rw [if_pos h4]; exact Or.inl rfl
    · rw [if_neg h4]; exact Or.inr ⟨_, rfl, Or.inr (Or.inl rfl)⟩
  · rw [if_neg h3]; exact Or.inr ⟨_, rfl, Or.inr (Or.inr rfl)⟩

theorem parseCond_ok {s : Str} {i : Idx} (hs : P s) (h : parseCond s = .ok i) : PIdx P i := by
  unfold parseCond at h
  by_cases hc : (s.contains '=' || s.contains '~') = true
  · rw [if_pos hc] at h
    cases hd : firstDelim s condDelims with
    | none => rw [hd] at h; cases h
    | some d =>
      cases hkv : splitOnce d s with
      | none => simp only [hd, hkv] at h; cases h
      | some p =>
        obtain ⟨k, v⟩ := p
        simp only [hd, hkv] at h
        obtain ⟨hk, hv⟩ := P_splitOnce (P := P) hkv hs
        have hv' := P_stripWs hv
        rcases condVal_cases h with h' | ⟨cv, h', hcv⟩
        · cases h'
        · cases h'
          refine ⟨P_stripWs hk, normOp_mem (firstDelim_mem hd), ?_⟩
          rcases hcv with ⟨b, rfl⟩ | rfl | rfl
          · trivial
          · exact P_dropLast (P_drop 1 hv')
          · exact hv'
  · rw [if_neg hc] at h; cases h; exact hs

theorem parseCond_err {s : Str} {e : PyErr} (h : parseCond s = .error e) : caught e = true ∨ e = .Unsupported := by
  unfold parseCond at h
  by_cases hc : (s.contains '=' || s.contains '~') = true
  · rw [if_pos hc] at h
    cases hd : firstDelim s condDelims with
    | none => rw [hd] at h; cases h; exact Or.inl rfl
    | some d =>
      cases hkv : splitOnce d s with
      | none => simp only [hd, hkv] at h; cases h; exact Or.inl rfl
      | some p =>
        simp only [hd, hkv] at h
        rcases condVal_cases h with h' | ⟨cv, h', _⟩
        · cases h'; exact Or.inr rfl
        · cases h'
  · rw [if_neg hc] at h; cases h

theorem okErr_of_caught {e : PyErr} (h : caught e = true ∨ e = .Unsupported) : okErr e = true := by
  revert h
  cases e <;> decide

theorem ne_outOfFuel_of_caught {e : PyErr} (h : caught e = true ∨ e = .Unsupported) : e ≠ .OutOfFuel := by
  rintro rfl
  rcases h with h | h <;> cases h

theorem P_textTilde {p2 : Str} (h : P p2) : P ("text()~~".toList ++ p2) := by
  have h1 : P ['t', 'e', 'x', 't', '(', ')', '~'] := SafePred.noW (by decide)
  have := SafePred.glue (P := P) (c := '~') (by decide) h1 h
  have e : "text()~~".toList = ['t', 'e', 'x', 't', '(', ')', '~', '~'] := String.toList_ofList
  rw [e]; simpa using this

theorem splitNameIndex_ok {tok name : Str} {idx : Idx} (ht : P tok)
    (h : splitNameIndex tok = .ok (name, idx)) : P name ∧ PIdx P idx := by
  unfold splitNameIndex at h
  by_cases hc : (tok.contains '[' && endsWith tok [']']) = true
  · rw [if_pos hc] at h
    cases hsp : splitOnce ['['] tok.dropLast with
    | none => rw [hsp] at h; cases h
    | some p =>
      obtain ⟨nm, ix⟩ := p
      simp only [hsp] at h
      obtain ⟨hnm, hix⟩ := P_splitOnce (P := P) hsp (P_dropLast ht)
      have hnm' := P_stripWs hnm
      have hix' := P_stripWs hix
      by_cases he : (stripWs ix).isEmpty = true
      · rw [if_pos he] at h; cases h; exact ⟨hnm', P_nil⟩
      · rw [if_neg he] at h
        split at h
        · cases h
        · rename_i idx' hidx'
          -- the index text is the bracket's content, or `text()~~v` for `contains(text(), v)`
          have hP : P idx' := by
            split at hidx'
            · split at hidx'
              · cases hidx'
              · rename_i a args hargs
                split at hidx'
                · cases hidx'
                · rename_i p1 p2 hp
                  have hbody : P (stripWs ((List.drop 8 (stripWs ix)).dropLast)) :=
                    P_stripWs (P_dropLast (P_drop 8 hix'))
                  have hp2 := (P_splitOnce (P := P) hp (P_splitOnce (P := P) hargs hbody).2).2
                  split at hidx'
                  · cases hidx'; exact P_textTilde hp2
                  · cases hidx'; exact hix'
            · cases hidx'; exact hix'
          cases hpc : parseCond idx' with
          | error e => rw [hpc] at h; cases h
          | ok i => rw [hpc] at h; cases h; exact ⟨hnm', parseCond_ok hP hpc⟩
  · rw [if_neg hc] at h; cases h; exact ⟨ht, trivial⟩

theorem splitNameIndex_err {tok : Str} {e : PyErr} (h : splitNameIndex tok = .error e) :
    caught e = true ∨ e = .Unsupported := by
  unfold splitNameIndex at h
  by_cases hc : (tok.contains '[' && endsWith tok [']']) = true
  · rw [if_pos hc] at h
    cases hsp : splitOnce ['['] tok.dropLast with
    | none => rw [hsp] at h; cases h; exact Or.inr rfl
    | some p =>
      obtain ⟨nm, ix⟩ := p
      simp only [hsp] at h
      by_cases he : (stripWs ix).isEmpty = true
      · rw [if_pos he] at h; cases h
      · rw [if_neg he] at h
        split at h
        · rename_i e' he'
          cases h
          repeat' split at he'
          all_goals cases he' <;> exact Or.inl rfl
        · rename_i idx' _
          cases hpc : parseCond idx' with
          | error e' => rw [hpc] at h; cases h; exact parseCond_err hpc
          | ok i => rw [hpc] at h; cases h
  · rw [if_neg hc] at h; cases h

theorem splitNameIndex_name {tok name : Str} {idx : Idx}
    (h : splitNameIndex tok = .ok (name, idx)) : splitNameIndex name = .ok (name, .none) := by
  unfold splitNameIndex at h
  by_cases hc : (tok.contains '[' && endsWith tok [']']) = true
  · rw [if_pos hc] at h
    cases hsp : splitOnce ['['] tok.dropLast with
    | none => rw [hsp] at h; cases h
    | some p =>
      obtain ⟨nm, ix⟩ := p
      simp only [hsp] at h
      -- the name stands before the first `[`
      have hno : '[' ∉ stripWs nm := fun hm => splitOnce_char_notin hsp ((stripWs_infix nm).subset hm)
      have hres : splitNameIndex (stripWs nm) = .ok (stripWs nm, .none) := by
        have hc' : (stripWs nm).contains '[' = false := by simpa using hno
        unfold splitNameIndex; rw [hc', Bool.false_and, if_neg Bool.false_ne_true]
      by_cases he : (stripWs ix).isEmpty = true
      · rw [if_pos he] at h; cases h; exact hres
      · rw [if_neg he] at h
        split at h
        · cases h
        · rename_i idx' _
          cases hpc : parseCond idx' with
          | error e => rw [hpc] at h; cases h
          | ok i => rw [hpc] at h; cases h; exact hres
  · rw [if_neg hc] at h
    cases h
    unfold splitNameIndex
    rw [if_neg hc]

theorem n0evalItems_err : ∀ (items : List Str) (acc : Int) (whole : Str) (e : PyErr),
    n0evalItems items acc whole = .error e → e = .Unsupported
  | [], _, _, _, h => by rw [n0evalItems] at h; cases h
  | item :: rest, acc, whole, e, h => by
    rw [n0evalItems] at h
    by_cases h1 : item = sNew
    · rw [if_pos h1] at h; cases h
    rw [if_neg h1] at h
    by_cases h2 : item = sLast
    · rw [if_pos h2] at h; exact n0evalItems_err _ _ _ _ h
    rw [if_neg h2] at h
    by_cases h3 : item.contains '.' = true
    · rw [if_pos h3] at h
      split at h
      · cases h; rfl
      · cases h
    rw [if_neg h3] at h
    split at h
    · cases h; rfl
    · split at h
      · exact n0evalItems_err _ _ _ _ h
      · cases h

theorem n0eval_err {s : Str} {e : PyErr} (h : n0eval s = .error e) : e = .Unsupported := by
  unfold n0eval at h
  simp only at h
  split at h
  · cases h
  · exact n0evalItems_err _ _ _ _ h

theorem P_natStr (n : Nat) : P (natStr n) := by
  apply SafePred.noW
  intro hm
  have := natDigits_all_digit n _ hm
  revert this; decide

theorem P_intStr (i : Int) : P (intStr i) := by
  cases i with
  | ofNat n => exact P_natStr n
  | negSucc n => exact P_cons (c := '-') (by decide) (P_natStr (n + 1))

theorem P_starTok : P (bracket ['*']) := SafePred.noW (by decide)
theorem P_upTok : P ['.', '.'] := SafePred.noW (by decide)

theorem P_append_op {a b op : Str} (hop : op ∈ ops4) (ha : P a) (hb : P b) : P (a ++ op ++ b) := by
  simp only [ops4, List.mem_cons, List.not_mem_nil, or_false] at hop
  have key : ∀ c d : Char, c ∉ sNew → d ∉ sNew → P (a ++ [c, d] ++ b) := by
    intro c d hc hd
    have := SafePred.glue (P := P) hd (P_snoc hc ha) hb
    simpa using this
  rcases hop with rfl | rfl | rfl | rfl
  · exact key _ _ (by decide) (by decide)
  · exact key _ _ (by decide) (by decide)
  · exact key _ _ (by decide) (by decide)
  · exact key _ _ (by decide) (by decide)

/-- the token `[k op 'v']` a key step hands down for a condition -/
theorem P_condTok {k op : Str} {v : CondVal} (hk : P k) (hop : op ∈ ops4) (hv : PCv P v) :
    P (bracket (k ++ op ++ ['\''] ++ condValStr v ++ ['\''])) := by
  apply P_bracket
  have h1 : P (k ++ op ++ []) := P_append_op hop hk P_nil
  have h2 : P ((k ++ op ++ []) ++ '\'' :: condValStr v) := SafePred.glue (by decide) h1 (P_condValStr hv)
  have h3 := P_snoc (P := P) (c := '\'') (by decide) h2
  simpa using h3

/-- the token `[text() op v]` a condition on a child hands down -/
theorem P_textTok {op : Str} {v : CondVal} (hop : op ∈ ops4) (hv : PCv P v) :
    P (bracket (sTextFn ++ op ++ condValStr v)) := by
  apply P_bracket
  exact P_append_op hop (SafePred.noW (by decide)) (P_condValStr hv)

end generic

def NoW (s : Str) : Prop := 'w' ∉ s

instance : DecidablePred NoW := fun s => inferInstanceAs (Decidable ('w' ∉ s))

instance : SafePred NoW where
  sub := fun hi hs hm => hs (hi.subset hm)
  noW := fun h => h
  glue := by
    intro a b c hc ha hb hm
    simp only [List.mem_append, List.mem_cons] at hm
    rcases hm with hm | rfl | hm
    · exact ha hm
    · exact hc (by decide)
    · exact hb hm
  fixBr := by
    intro s hs hm
    rcases mem_fixBr hm with h | h
    · exact hs h
    · cases h

/-! ### the substring instance

It is weaker than `NoW`, so the theorems instantiated with it are stronger. -/

def NoNew (s : Str) : Prop := ¬ sNew <:+: s

theorem prefix_of_prefix_glue {c : Char} : ∀ {l p b : Str}, c ∉ p → p <+: l ++ c :: b → p <+: l
  | [], p, b, hc, h => by
    simp only [List.nil_append] at h
    rcases List.prefix_cons_iff.1 h with rfl | ⟨t, rfl, _⟩
    · exact List.prefix_refl _
    · exact absurd (List.mem_cons_self) hc
  | y :: l, p, b, hc, h => by
    simp only [List.cons_append] at h
    rcases List.prefix_cons_iff.1 h with rfl | ⟨t, rfl, ht⟩
    · exact List.nil_prefix
    · have hct : c ∉ t := fun hm => hc (List.mem_cons_of_mem _ hm)
      exact (List.prefix_cons_inj y).2 (prefix_of_prefix_glue hct ht)

theorem infix_glue {c : Char} {p : Str} (hc : c ∉ p) : ∀ {a b : Str}, p <:+: a ++ c :: b → p <:+: a ∨ p <:+: b
  | [], b, h => by
    simp only [List.nil_append] at h
    rcases List.infix_cons_iff.1 h with h | h
    · rcases List.prefix_cons_iff.1 h with rfl | ⟨t, rfl, _⟩
      · exact Or.inr List.nil_infix
      · exact absurd (List.mem_cons_self) hc
    · exact Or.inr h
  | x :: a, b, h => by
    simp only [List.cons_append] at h
    rcases List.infix_cons_iff.1 h with h | h
    · left
      have : p <+: (x :: a) ++ c :: b := by simpa using h
      exact (prefix_of_prefix_glue hc this).isInfix
    · rcases infix_glue hc h with h | h
      · exact Or.inl (h.trans (List.suffix_cons x a).isInfix)
      · exact Or.inr h

theorem prefix_fixBr : ∀ {l q : Str}, ']' ∉ q → q <+: fixBr l → q <+: l
  | [], q, _, h => by simpa [fixBr] using h
  | [x], q, _, h => by rw [fixBr_single] at h; exact h
  | x :: y :: rest, q, hq, h => by
    by_cases hxy : x = ']' ∧ y = '['
    · obtain ⟨rfl, rfl⟩ := hxy
      simp only [fixBr] at h
      rcases List.prefix_cons_iff.1 h with rfl | ⟨t, rfl, _⟩
      · exact List.nil_prefix
      · exact absurd (List.mem_cons_self) hq
    · rw [fixBr_cons_cons x y rest hxy] at h
      rcases List.prefix_cons_iff.1 h with rfl | ⟨t, rfl, ht⟩
      · exact List.nil_prefix
      · have hqt : ']' ∉ t := fun hm => hq (List.mem_cons_of_mem _ hm)
        exact (List.prefix_cons_inj x).2 (prefix_fixBr hqt ht)

theorem infix_fixBr {p : Str} (hne : p ≠ []) (h1 : ']' ∉ p) (h2 : p.head? ≠ some '/') (h3 : p.head? ≠ some '[') :
    ∀ {l : Str}, p <:+: fixBr l → p <:+: l
  | [], h => by simpa [fixBr] using h
  | [x], h => by rw [fixBr_single] at h; exact h
  | x :: y :: rest, h => by
    have notpre : ∀ (d : Char) (l : Str), p.head? ≠ some d → ¬ p <+: d :: l := by
      intro d l hd hp
      rcases List.prefix_cons_iff.1 hp with rfl | ⟨t, rfl, _⟩
      · exact hne rfl
      · exact hd rfl
    have hrb : p.head? ≠ some ']' := by
      intro hh
      cases p with
      | nil => exact hne rfl
      | cons a p' => simp only [List.head?_cons, Option.some.injEq] at hh; subst hh; exact h1 (List.mem_cons_self)
    by_cases hxy : x = ']' ∧ y = '['
    · obtain ⟨rfl, rfl⟩ := hxy
      simp only [fixBr] at h
      rcases List.infix_cons_iff.1 h with h | h
      · exact absurd h (notpre _ _ hrb)
      · rcases List.infix_cons_iff.1 h with h | h
        · exact absurd h (notpre _ _ h2)
        · rcases List.infix_cons_iff.1 h with h | h
          · exact absurd h (notpre _ _ h3)
          · have := infix_fixBr hne h1 h2 h3 h
            exact this.trans ((List.suffix_cons _ _).trans (List.suffix_cons _ _)).isInfix
    · rw [fixBr_cons_cons x y rest hxy] at h
      rcases List.infix_cons_iff.1 h with h | h
      · have h' : p <+: fixBr (x :: y :: rest) := by rw [fixBr_cons_cons x y rest hxy]; exact h
        exact (prefix_fixBr h1 h').isInfix
      · exact (infix_fixBr hne h1 h2 h3 h).trans (List.suffix_cons _ _).isInfix

instance : SafePred NoNew where
  sub := fun hi hs hp => hs (hp.trans hi)
  noW := fun h hp => h (hp.subset (by decide))
  glue := by
    intro a b c hc ha hb hp
    rcases infix_glue hc hp with h | h
    · exact ha h
    · exact hb h
  fixBr := by
    intro s hs hp
    exact hs (infix_fixBr (by decide) (by decide) (by decide) (by decide) hp)

theorem NoNew_of_NoW {s : Str} (h : NoW s) : NoNew s := fun hp => h (hp.subset (by decide))

instance : DecidablePred NoNew := fun s => inferInstanceAs (Decidable (¬ sNew <:+: s))

end N0.XPath
