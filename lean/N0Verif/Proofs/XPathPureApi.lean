import N0Verif.Proofs.XPathPureFind
import N0Verif.Proofs.XPathGetEq
/-!
  C04, entry points: `_get` (`getCore`) on dict and list roots returns the tree unchanged and lets only
  `OutOfFuel`/`Unsupported` (model-only outcomes) escape when `raise = false` — for every path and every tree:
  the `new()` step of the search writes nothing (fix C04-a), so the always-true predicate is a safety predicate.
-/
namespace N0.XPath
open N0 N0.Py N0.Val

theorem okErr_not_caught {e : PyErr} (h : okErr e = true) (hc : ¬ caught e = true) :
    e = .OutOfFuel ∨ e = .Unsupported := by
  revert h hc
  cases e <;> decide

def AnyStr : Str → Prop := fun _ => True

instance : SafePred AnyStr where
  sub := fun _ _ => trivial
  noW := fun _ => trivial
  glue := fun _ _ _ => trivial
  fixBr := fun _ => trivial

mutual
theorem safeKeys_any : ∀ (v : Val), SafeKeys AnyStr v
  | .list _ xs => by rw [SafeKeys]; exact safeKeysL_any xs
  | .dict _ kvs => by rw [SafeKeys]; exact safeKeysK_any kvs
  | .none => by simp [SafeKeys]
  | .bool _ => by simp [SafeKeys]
  | .int _ => by simp [SafeKeys]
  | .flt _ => by simp [SafeKeys]
  | .str _ => by simp [SafeKeys]
theorem safeKeysL_any : ∀ (xs : List Val), SafeKeysL AnyStr xs
  | [] => by rw [SafeKeysL]; trivial
  | x :: xs => by rw [SafeKeysL]; exact ⟨safeKeys_any x, safeKeysL_any xs⟩
theorem safeKeysK_any : ∀ (kvs : List (Str × Val)), SafeKeysK AnyStr kvs
  | [] => by rw [SafeKeysK]; trivial
  | (k, v) :: kvs => by rw [SafeKeysK]; exact ⟨trivial, safeKeys_any v, safeKeysK_any kvs⟩
end

theorem findD_any (fuel : Nat) (root : Val) (sp : Pos) (entry rl : Bool) (toks : List Str) (par : PRef) (found : Str) :
    Post AnyStr root (findD fuel root sp false entry toks par rl found) :=
  (find_post (P := AnyStr) root (safeKeys_any root) fuel).1 sp entry toks par rl found
    (fun v _ => safeKeys_any v) (fun _ _ => trivial) trivial

theorem findL_any (fuel : Nat) (root : Val) (sp : Pos) (rl : Bool) (toks : List Str) (par : PRef) (found : Str) :
    Post AnyStr root (findL fuel root sp toks par rl found) :=
  (findL_post (P := AnyStr) root (safeKeys_any root) fuel).1 sp toks par rl found
    (fun v _ => safeKeys_any v) (fun _ _ => trivial) trivial

theorem rootFind_any (fuel : Nat) (root : Val) (toks : List Str) (rl : Bool) :
    Post AnyStr root (rootFind fuel root toks rl) := by
  unfold rootFind
  split
  · exact findD_any ..
  · exact findL_any ..
  · exact Post_err rfl

/-- `_get` on **any** path and **any** tree: the tree is unchanged; an exception is a model-only
outcome, or (only when the caller asked for exceptions) a funnelled class or KeyError -/
theorem getCore_any (fuel : Nat) (root : Val) (xp : Str) (dflt : Val) (raise rl : Bool) :
    (getCore fuel root xp dflt raise rl).1 = root ∧
    ∀ e, (getCore fuel root xp dflt raise rl).2 = .error e →
      (raise = true ∧ startsWith xp ['?'] = false ∧ (caught e = true ∨ e = .KeyError)) ∨
        e = .OutOfFuel ∨ e = .Unsupported := by
  -- after the `?` prefix: the search is pure, and what it raises and `_get` lets through is model-only
  have body : ∀ xp dflt raise, (getBody id fuel root xp dflt raise rl).1 = root ∧
      ∀ e, (getBody id fuel root xp dflt raise rl).2 = .error e →
        (raise = true ∧ (caught e = true ∨ e = .KeyError)) ∨ e = .OutOfFuel ∨ e = .Unsupported := by
    intro xp dflt raise
    have hpost := rootFind_any fuel root (tokenize xp) rl
    refine ⟨getBody_fst fun root' r hx => ?_, fun e he => ?_⟩
    · rw [hx] at hpost; exact hpost.1
    · rcases getBody_err he with h | h | ⟨hc, hx⟩
      · exact Or.inl h
      · exact Or.inr (Or.inr h)
      · rw [hx] at hpost
        exact Or.inr (okErr_not_caught hpost (by simp [hc]))
  rw [getCore_eq]
  unfold getG
  split
  · exact ⟨rfl, fun e he => by cases he⟩
  · split
    · refine ⟨(body _ _ _).1, fun e he => ?_⟩
      rcases (body _ _ _).2 e he with ⟨hr, _⟩ | h
      · cases hr
      · exact Or.inr h
    · rename_i hq
      refine ⟨(body _ _ _).1, fun e he => ?_⟩
      rcases (body _ _ _).2 e he with ⟨hr, hc⟩ | h
      · exact Or.inl ⟨hr, by simpa using hq, hc⟩
      · exact Or.inr h

/-! ### a search that never ends

A dict key that is literally `*` makes a `*` step of a lookup recurse for ever (`[next_node_name] + xpath_list`
re-inserts the wildcard): the model runs out of fuel for every fuel; the implementation recurses to the interpreter's
limit (`RecursionError`, which `_get` turns into a miss since fix C04-e). -/

def starTree : Val := .dict .n0 [(['*'], .int 1)]

/-- the token lists `*`, `*/*`, `*/*/*` … followed by `x` -/
def starToks (n : Nat) : List Str := List.replicate (n + 1) ['*'] ++ [['x']]

theorem splitNameIndex_star : splitNameIndex ['*'] = .ok (['*'], .none) := by decide

theorem star_diverges : ∀ fuel : Nat,
    (∀ n entry rl, findD fuel starTree [] false entry (starToks n) (.at []) rl slash = .error .OutOfFuel) ∧
    (∀ n rl acc fst, starKeys fuel starTree [] false [['*']] (starToks n) (.at []) rl slash acc fst = .error .OutOfFuel) := by
  intro fuel
  induction fuel with
  | zero => exact ⟨fun _ _ _ => findD_zero, fun _ _ _ _ => starKeys_zero⟩
  | succ fuel ih =>
    constructor
    · -- the `*` step starts the loop over the one key `*`, with the same tokens
      intro n entry rl
      have e : starToks n = ['*'] :: (List.replicate n ['*'] ++ [['x']]) := by
        simp [starToks, List.replicate_succ]
      have h := ih.2 n rl [] Option.none
      rw [e] at h ⊢
      rw [findD_star_keys rfl (cls := .n0) (kvs := [(['*'], .int 1)]) rfl splitNameIndex_star]
      exact h
    · -- the loop puts the key `*` in front of the tokens: one more wildcard
      intro n rl acc fst
      have e : starToks (n + 1) = ['*'] :: starToks n := by
        simp [starToks, List.replicate_succ]
      rw [starKeys_cons, ← e, ih.1 (n + 1) false rl]

end N0.XPath
