import N0Verif.Proofs.XPathPure
import N0Verif.Proofs.TreeLemmas
import N0Verif.Proofs.XPathFindEq
import N0Verif.Proofs.XPathFanLoop
/-!
  C04, tree layer: the resolver (`findD`, `starKeys`, `starIdx`, `findL`) returns the root unchanged (purity)
  and can only fail with one of the classes `_get` funnels, or with the model-only outcomes
  `OutOfFuel`/`Unsupported` (totality); a predicate `P` that holds of the tokens, of `found` and of every dict
  key of the tree holds of everything a result reports (`Good`).  `Linked` is what keeps `parent[name]` of the
  `'..'` step from raising `KeyError`.  Two inductions on the fuel (`find_post`, then `findL_post` using it); every case is the
  equation of its branch (`Proofs/XPathFindEq.lean`) followed by the induction hypothesis at the callee's arguments.
-/
namespace N0.XPath
open N0 N0.Py N0.Val

mutual
/-- every dict key anywhere in the value satisfies `P` -/
def SafeKeys (P : Str → Prop) : Val → Prop
  | .list _ xs => SafeKeysL P xs
  | .dict _ kvs => SafeKeysK P kvs
  | _ => True
def SafeKeysL (P : Str → Prop) : List Val → Prop
  | [] => True
  | x :: xs => SafeKeys P x ∧ SafeKeysL P xs
def SafeKeysK (P : Str → Prop) : List (Str × Val) → Prop
  | [] => True
  | (k, v) :: kvs => P k ∧ SafeKeys P v ∧ SafeKeysK P kvs
end

section
variable {P : Str → Prop}

theorem SafeKeysK_mem {kvs : List (Str × Val)} (hs : SafeKeysK P kvs) {kv : Str × Val} (h : kv ∈ kvs) :
    P kv.1 ∧ SafeKeys P kv.2 :=
  allRecP_mem (f := fun kv : Str × Val => P kv.1 ∧ SafeKeys P kv.2) (fL := SafeKeysK P)
    (fun ⟨k, v⟩ kvs => (and_assoc (a := P k) (b := SafeKeys P v) (c := SafeKeysK P kvs)).symm) hs h

theorem SafeKeysK_lookup {k : Str} {v : Val} : ∀ {kvs : List (Str × Val)},
    SafeKeysK P kvs → lookup k kvs = some v → SafeKeys P v :=
  fun hs h => (SafeKeysK_mem hs (lookup_mem h)).2

theorem SafeKeysK_keys : ∀ {kvs : List (Str × Val)}, SafeKeysK P kvs → ∀ k ∈ kvs.map Prod.fst, P k :=
  fun hs _ h => by
    obtain ⟨kv, hkv, rfl⟩ := List.mem_map.1 h
    exact (SafeKeysK_mem hs hkv).1

theorem SafeKeysL_mem : ∀ {xs : List Val}, SafeKeysL P xs → ∀ v ∈ xs, SafeKeys P v :=
  fun hs _ h => allRecP_mem (fL := SafeKeysL P) (fun _ _ => Iff.rfl) hs h

theorem SafeKeys_child {v c : Val} {s : Seg} (hv : SafeKeys P v) (h : child v s = some c) : SafeKeys P c := by
  cases s with
  | key k =>
    obtain ⟨cl, kvs, rfl, hl⟩ := child_key_some h
    exact SafeKeysK_lookup (by simpa only [SafeKeys] using hv) hl
  | idx i =>
    obtain ⟨cl, xs, rfl, hx, _⟩ := child_idx_some h
    exact SafeKeysL_mem (by simpa only [SafeKeys] using hv) c (List.mem_of_getElem? hx)

theorem SafeKeys_getAt {p : Pos} {v c : Val} : SafeKeys P v → getAt v p = some c → SafeKeys P c :=
  getAt_closed SafeKeys_child

def SafeRef (P : Str → Prop) (root : Val) (r : PRef) : Prop := ∀ v, valOf root r = some v → SafeKeys P v

theorem SafeRef_at {root : Val} (h : SafeKeys P root) (p : Pos) : SafeRef P root (.at p) :=
  fun _ hv => SafeKeys_getAt h hv

theorem SafeRef_wrap {root : Val} {r : PRef} (h : SafeRef P root r) : SafeRef P root (.wrap r) := by
  intro v hv
  simp only [valOf] at hv
  cases hr : valOf root r with
  | none => simp [hr] at hv
  | some x =>
    simp only [hr, Option.map_some, Option.some.injEq] at hv
    subst hv
    simp only [SafeKeys, SafeKeysL, and_true]
    exact h x hr

/-- what a child reference denotes: the child of what the reference denotes, or `None` -/
theorem childRef_val {root : Val} {r : PRef} {s : Seg} {c : Val} (hc : valOf root (childRef root r s) = some c) :
    c = Val.none ∨ ∃ pv, valOf root r = some pv ∧ child pv s = some c := by
  -- a detached child is the child itself, or `None` when there is none
  have hdet : valOf root (match (valOf root r).bind (fun v => child v s) with
      | some c => PRef.det c | Option.none => PRef.det Val.none) = some c →
      c = Val.none ∨ ∃ pv, valOf root r = some pv ∧ child pv s = some c := by
    intro hv
    cases hb : (valOf root r).bind (fun v => child v s) with
    | none => rw [hb] at hv; exact Or.inl (Option.some.inj hv).symm
    | some y =>
      rw [hb] at hv
      cases Option.some.inj hv
      exact Or.inr (Option.bind_eq_some_iff.1 hb)
  cases r with
  | «at» p =>
    simp only [childRef, valOf] at hc
    rw [getAt_snoc] at hc
    exact Or.inr (Option.bind_eq_some_iff.1 hc)
  | wrap r' =>
    cases s with
    | key k => exact hdet hc
    | idx i =>
      cases i with
      | zero =>
        simp only [childRef] at hc
        exact Or.inr ⟨.list .plain [c], by simp [valOf, hc], rfl⟩
      | succ n => exact hdet hc
  | det v => exact hdet hc

theorem SafeRef_child {root : Val} {r : PRef} (h : SafeRef P root r) (s : Seg) :
    SafeRef P root (childRef root r s) := by
  intro c hc
  rcases childRef_val hc with rfl | ⟨pv, hpv, hch⟩
  · simp [SafeKeys]
  · exact SafeKeys_child (h pv hpv) hch

/-- the name/index a result reports really addresses a child of the reported parent: a dict
parent has the reported key (and the key is a plain token), otherwise the parent is a list.
This is what keeps `parent[name]` in the `..` branch from raising KeyError. -/
def Linked (root : Val) (r : Res) : Prop :=
  ∀ ni, r.nameIdx = some ni → ∀ cpv, valOf root r.parent = some cpv →
    (∃ c kvs x, cpv = .dict c kvs ∧ lookup ni kvs = some x ∧ splitNameIndex ni = .ok (ni, .none) ∧ ni ≠ []) ∨
    isList cpv = true

structure Good (P : Str → Prop) (root : Val) (r : Res) : Prop where
  par : SafeRef P root r.parent
  found : P r.found
  ni : ∀ ni, r.nameIdx = some ni → P ni
  linked : Linked root r

/-- postcondition of a search on `root`: the root is returned unchanged with a good result, or
the search fails with a funnelled class (or a model-only outcome) -/
def Post (P : Str → Prop) (root : Val) : PyM (Val × Res) → Prop
  | .ok (root', r) => root' = root ∧ Good P root r
  | .error e => okErr e = true

/-- `Post` is the `Outcome` (`Proofs/XPathFanLoop.lean`) with error class `okErr` and result predicate `Good`, constructor by
constructor: that is why the `Outcome_…` lemmas are applied to `Post` goals and hypotheses below without a rewrite -/
example (P : Str → Prop) (root : Val) : Post P root = Outcome (okErr · = true) (Good P root) root := by
  funext x; cases x <;> rfl

/-- the statement of the purity induction at one fuel, for the dict-side search: from a safe reference, safe tokens and a safe
`found`, the outcome is a `Post`; `IHK`, `IHI` the same for the two `*` loops (any collected values, a good first hit) -/
def IHD (P : Str → Prop) (root : Val) (fuel : Nat) : Prop :=
  ∀ sp entry toks par rl found, SafeRef P root par → (∀ t ∈ toks, P t) → P found →
    Post P root (findD fuel root sp false entry toks par rl found)

def IHK (P : Str → Prop) (root : Val) (fuel : Nat) : Prop :=
  ∀ sp keys toks par rl found acc fst, SafeRef P root par → (∀ k ∈ keys, P k) → (∀ t ∈ toks, P t) → P found →
    (∀ f, fst = some f → Good P root f) →
    Post P root (starKeys fuel root sp false keys toks par rl found acc fst)

def IHI (P : Str → Prop) (root : Val) (fuel : Nat) : Prop :=
  ∀ sp n i rest par rl found acc fst all, SafeRef P root par → (∀ t ∈ rest, P t) → P found →
    (∀ f, fst = some f → Good P root f) →
    Post P root (starIdx fuel root sp false n i rest par rl found acc fst all)

theorem Post_err {root : Val} {e : PyErr} (h : okErr e = true) : Post P root (.error e) := h

theorem Good_mk_none {root : Val} {par : PRef} {found : Str} {v : Val} {nf : Option (List Str)}
    (hpar : SafeRef P root par) (hf : P found) :
    Good P root { parent := par, nameIdx := Option.none, value := v, found := found, notFound := nf } :=
  { par := hpar, found := hf, ni := fun _ h => (by cases h), linked := fun _ h => (by cases h) }

theorem Good.fstClosed {root : Val} : FstClosed (Good P root) :=
  fun _ _ h => { par := h.par, found := h.found, ni := h.ni, linked := h.linked }

/-- the found text `'..'` continues with (fix C06-b puts the index of an index result back) is safe -/
theorem Good.upFound [SafePred P] {root : Val} {r : Res} (h : Good P root r) : P (upFound r) := by
  unfold XPath.upFound
  split
  · rename_i ni hni
    split
    · exact h.found
    · split
      · rename_i cn s hsp
        split
        · exact P_found_idx h.found (splitNameIndex_ok (P := P) (h.ni ni hni) hsp).2
        · exact h.found
      · exact h.found
  · exact h.found

/-- the outcomes of a pure index step `[s]`, `n0eval s = i`: a record whose parent is the list (the one-element list
built around a single value), or the walk goes on at one of its elements -/
theorem findD_idx_cases (f : Nat) {root : Val} (sp : Pos) (entry rl : Bool) {par : PRef} (found : Str) {tok s : Str} {i : Int}
    (rest : List Str) {pv : Val} (hpv : valOf root par = some pv) (hk : IdxTok tok s i) :
    (∃ v nf, findD (f + 1) root sp false entry (tok :: rest) par rl found =
        .ok (root, { parent := idxRef par pv, nameIdx := some (bracket (intStr i)), value := v, found := found, notFound := nf })) ∨
     (∃ n, rest ≠ [] ∧ findD (f + 1) root sp false entry (tok :: rest) par rl found =
        findD f root sp false false rest (childRef root (idxRef par pv) (.idx n)) rl (found ++ bracket (intStr i))) := by
  have hrest : rest = [] ∨ rest ≠ [] := by cases rest <;> simp
  by_cases hl : isList pv = true
  · obtain ⟨c, xs, rfl⟩ := isList_inv hl
    by_cases hout : i ≥ (xs.length : Int) ∨ i < -(xs.length : Int)
    · exact Or.inl ⟨_, _, findD_idx_out rfl hpv hk hout⟩
    · obtain ⟨n, hn⟩ := normIdx_inRange hout
      rcases hrest with rfl | hr
      · exact Or.inl ⟨_, _, findD_idx_last rfl hpv hk hn⟩
      · exact Or.inr ⟨n, hr, findD_idx_step rfl hpv hk hn hr⟩
  · have hl : isList pv = false := Bool.eq_false_iff.2 hl
    rw [idxRef_single hl]
    by_cases hout : i ≥ 1 ∨ i < -1
    · exact Or.inl ⟨_, _, findD_idx_out_single rfl hpv hl hk hout⟩
    · have hi : i = 0 ∨ i = -1 := by omega
      rcases hrest with rfl | hr
      · exact Or.inl ⟨_, _, findD_idx_last_single rfl hpv hl hk hi⟩
      · exact Or.inr ⟨0, hr, findD_idx_step_single rfl hpv hl hk hi hr⟩

theorem idxParent_isList {root : Val} {par : PRef} {pv : Val} (hpv : valOf root par = some pv) :
    ∀ x, valOf root (idxRef par pv) = some x → isList x = true := by
  intro x hx
  rcases idxRef_cases par pv with ⟨hl, e⟩ | ⟨_, e⟩ <;> rw [e] at hx
  · rw [hpv] at hx; cases hx; exact hl
  · simp only [valOf, hpv, Option.map_some, Option.some.injEq] at hx
    subst hx; rfl

theorem SafeRef_idxParent {root : Val} {par : PRef} {pv : Val} (hpar : SafeRef P root par) :
    SafeRef P root (idxRef par pv) := by
  rcases idxRef_cases par pv with ⟨_, e⟩ | ⟨_, e⟩ <;> rw [e]
  · exact hpar
  · exact SafeRef_wrap hpar

/-- the record of an index step: its parent holds a list, its index text is a decimal number -/
theorem Good_idx [SafePred P] {root : Val} {par : PRef} {pv v : Val} {found : Str} {i : Int} {nf : Option (List Str)}
    (hpv : valOf root par = some pv) (hpar : SafeRef P root par) (hfound : P found) :
    Good P root { parent := idxRef par pv, nameIdx := some (bracket (intStr i)), value := v, found := found, notFound := nf } :=
  { par := SafeRef_idxParent hpar, found := hfound, ni := fun _ h => by cases h; exact P_bracket (P_intStr i),
    linked := fun _ _ cpv hcpv => Or.inr (idxParent_isList hpv cpv hcpv) }

theorem textRes_err {pv : Val} {op : Str} {v : CondVal} {e : PyErr} (h : textRes pv op v = .error e) : e = .SyntaxError := by
  unfold textRes at h
  split at h
  · rename_i e' hc
    cases h
    unfold textCmp at hc
    repeat' split at hc
    all_goals cases hc
    rfl
  · repeat' split at h
    all_goals cases h
    rfl

theorem upNext_ref {root : Val} {cur : Res} {cpv : Val} {nxt : PRef} (h : upNext root cur cpv = .ok nxt) :
    nxt = cur.parent ∨ ∃ s, nxt = childRef root cur.parent s := by
  unfold upNext at h
  repeat' split at h
  all_goals first
    | (cases h; done)
    | (cases h; exact Or.inl rfl)
    | (cases h; exact Or.inr ⟨_, rfl⟩)

/-- for a linked result `parent[name]` does not raise `KeyError`: what remains is funnelled or model-only -/
theorem upNext_okErr {root : Val} {cur : Res} {cpv : Val} {e : PyErr} (hl : Linked root cur)
    (hcpv : valOf root cur.parent = some cpv) (h : upNext root cur cpv = .error e) : okErr e = true := by
  cases hni : cur.nameIdx with
  | none => rw [upNext_root hni] at h; cases h
  | some ni =>
    rcases hl ni hni cpv hcpv with ⟨c, kvs, x, rfl, hlk, hsn, hne⟩ | hL
    · rw [upNext_key hni hne hsn hne hlk] at h; cases h
    · -- a list: a name raises `TypeError`, an index `IndexError` or `TypeError`
      cases cpv <;> simp only [isList, Bool.false_eq_true] at hL
      unfold upNext at h
      simp only [hni] at h
      split at h
      · cases h
      · split at h
        · rename_i e' hsp; cases h; exact okErr_of_caught (splitNameIndex_err hsp)
        · split at h
          · simp only [pyGetKey] at h; cases h; rfl
          · split at h
            · split at h
              · rename_i e' hev; cases h; rw [n0eval_err hev]; rfl
              · split at h
                · rename_i ev _ _ e' hgi
                  cases h
                  cases ev <;> simp only [pyGetIdx] at hgi
                  · split at hgi
                    · cases hgi
                    · cases hgi; rfl
                  · cases hgi; rfl
                · cases h
                · split at h
                  · cases h
                  · cases h; rfl
            · cases h; rfl

theorem findD_step [SafePred P] (root : Val) (hroot : SafeKeys P root) (fuel : Nat)
    (ihD : IHD P root fuel) (ihK : IHK P root fuel) (ihI : IHI P root fuel) : IHD P root (fuel + 1) := by
  intro sp entry toks par rl found hpar htoks hfound
  have hself : SafeRef P root (.at sp) := SafeRef_at hroot sp
  cases toks with
  | nil =>
    by_cases hf : found = slash
    · subst hf
      cases hpv : valOf root par with
      | none => rw [findD_nil_slash_noParent rfl hpv]; exact Post_err rfl
      | some pv => rw [findD_nil_slash rfl hpv]; exact ⟨rfl, Good_mk_none hpar hfound⟩
    · rw [findD_nil_retok rfl hf]
      exact ihD _ _ _ _ _ _ hself (P_tokenize hfound) P_slash
  | cons tok rest =>
    have htok : P tok := htoks tok (by simp)
    have hrest : ∀ t ∈ rest, P t := fun t ht => htoks t (by simp [ht])
    have hcons : ∀ {t : Str} {ts : List Str}, P t → (∀ x ∈ ts, P x) → ∀ x ∈ t :: ts, P x := by
      intro t ts ht hts x hx
      rcases List.mem_cons.1 hx with rfl | hx
      · exact ht
      · exact hts x hx
    cases hpv : valOf root par with
    | none => rw [findD_noParent rfl hpv]; exact Post_err rfl
    | some pv =>
    have hpvS : SafeKeys P pv := hpar pv hpv
    cases hs : splitNameIndex tok with
    | error e => rw [findD_split_error rfl hpv hs]; exact Post_err (okErr_of_caught (splitNameIndex_err hs))
    | ok p =>
    obtain ⟨name, idx⟩ := p
    obtain ⟨hname, hidx⟩ := splitNameIndex_ok (P := P) htok hs
    -- the same token list below a supplied `[*]`
    have hfan : Post P root (findD fuel root sp false false (bracket ['*'] :: tok :: rest) par rl found) :=
      ihD _ _ _ _ _ _ hpar (hcons P_starTok htoks) hfound
    by_cases hne : name = []
    · subst hne
      cases idx with
      | none => rw [findD_noStep rfl hpv hs rfl rfl]; exact Post_err rfl
      | str s =>
        by_cases hs0 : s = []
        · subst hs0; rw [findD_noStep rfl hpv hs rfl rfl]; exact Post_err rfl
        by_cases hnew : s = sNew
        · -- `[new()]` (fix C04-a): `found` is resolved again; the step writes nothing and is a miss below that node
          subst hnew
          rw [findD_new rfl hpv hs]
          refine Outcome_bind (ihD sp false _ (.at sp) rl slash hself (P_tokenize hfound) P_slash) fun cur hg => ?_
          show Post P root _
          cases hcpv : valOf root cur.parent with
          | none => exact Post_err rfl
          | some cpv =>
            simp only [newMiss]
            repeat' split
            all_goals first
              | exact Post_err rfl
              | exact ⟨rfl, Good_mk_none hg.par hg.found⟩
              | exact ⟨rfl, Good_mk_none (SafeRef_child hg.par _) hg.found⟩
        by_cases hstar : s = ['*']
        · subst hstar
          cases pv with
          | list c xs =>
            rw [findD_star_idx rfl hpv hs]
            exact ihI _ _ _ _ _ _ _ _ _ _ hpar hrest hfound (fun _ h => by cases h)
          | _ =>
            rw [findD_star_idx_single rfl hpv rfl hs]
            exact ihI _ _ _ _ _ _ _ _ _ _ (SafeRef_wrap hpar) hrest hfound (fun _ h => by cases h)
        cases hev : n0eval s with
        | error e => rw [findD_idx_evalError rfl hpv hs hs0 hnew hstar hev, n0eval_err hev]; exact Post_err rfl
        | ok ev =>
          cases ev with
          | str t => rw [findD_idx_evalStr rfl hpv hs hs0 hnew hstar hev]; exact Post_err rfl
          | int i =>
            rcases findD_idx_cases fuel sp entry rl found rest hpv ⟨hs, hs0, hnew, hstar, hev⟩ with ⟨v, nf, he⟩ | ⟨n, _, he⟩
            · rw [he]; exact ⟨rfl, Good_idx hpv hpar hfound⟩
            · rw [he]
              exact ihD _ _ _ _ _ _ (SafeRef_child (SafeRef_idxParent hpar) _) hrest (P_found_idx hfound (P_intStr i))
      | cond k op v =>
        obtain ⟨hk, hop, hv⟩ := hidx
        by_cases htext : k = sTextFn
        · subst htext
          cases hg : textGuard pv v with
          | true => rw [findD_text_guard rfl hpv hs hg]; exact Post_err rfl
          | false =>
            rw [findD_text rfl hpv hs hg]
            cases hres : textRes pv op v with
            | error e => exact Post_err (textRes_err hres ▸ rfl)
            | ok b =>
              cases b with
              | true => exact ihD _ _ _ _ _ _ hpar hrest hfound
              | false => exact ⟨rfl, Good_mk_none hpar hfound⟩
        cases pv with
        | list c xs => rw [findD_cond_on_list rfl hpv hs htext]; exact hfan
        | dict c kvs =>
          cases hl : lookup k kvs with
          | none => rw [findD_cond_miss rfl hpv hs htext hl]; exact ⟨rfl, Good_mk_none hpar hfound⟩
          | some kv =>
            rw [findD_cond_step rfl hpv hs htext hl]
            exact ihD _ _ _ _ _ _ (SafeRef_child hpar _) (hcons (P_textTok hop hv) (hcons P_upTok hrest))
              (P_append_slash hfound hk)
        | _ => rw [findD_cond_on_single rfl hpv rfl rfl hs htext]; exact ⟨rfl, Good_mk_none hpar hfound⟩
    · by_cases hup : name = ['.', '.']
      · -- `'..'`: `found` minus its last piece is resolved again, the walk goes on at the node that result stands for
        subst hup
        rw [findD_up rfl hpv hs]
        refine Outcome_bind (ihD sp false _ (.at sp) rl slash hself (P_upToks hfound) P_slash) fun cur hg => ?_
        show Post P root _
        cases hcpv : valOf root cur.parent with
        | none => exact Post_err rfl
        | some cpv =>
          simp only
          cases hn : upNext root cur cpv with
          | error e => exact Post_err (upNext_okErr hg.linked hcpv hn)
          | ok nxt =>
            have hnxt : SafeRef P root nxt := by
              rcases upNext_ref hn with rfl | ⟨s, rfl⟩
              · exact hg.par
              · exact SafeRef_child hg.par _
            simp only
            unfold upCont
            split
            · -- an index or more tokens follow: the search goes on at `nxt`
              split
              · split
                · exact ihD _ _ _ _ _ _ hnxt (hcons (P_bracket hidx) hrest) hg.upFound
                · exact Post_err rfl
              · exact ihD _ _ _ _ _ _ hnxt hrest hg.upFound
            · -- `'..'` is the last token: the result is the node gone up to
              split
              · rename_i ni nv hni hnv
                split
                · exact Post_err rfl
                · exact ⟨rfl, { par := hg.par, found := P_append_slash hfound (hg.ni ni hni),
                                ni := fun _ h => by cases h; exact hg.ni ni hni,
                                linked := fun _ h cpv' hcpv' => by cases h; exact hg.linked ni hni cpv' hcpv' }⟩
              · split     -- `'..'` surfaced to the root (fix C04-g)
                · exact ⟨rfl, Good_mk_none hg.par hg.found⟩
                · exact Post_err rfl
              · exact Post_err rfl
              · exact Post_err rfl
      cases pv with
      | list c xs => rw [findD_name_on_list rfl hpv hs hne hup]; exact hfan
      | dict c kvs =>
        by_cases hstar : name = ['*']
        · subst hstar
          rw [findD_star_keys rfl hpv hs]
          exact ihK _ _ _ _ _ _ _ _ hpar (SafeKeysK_keys hpvS) htoks hfound (fun _ h => by cases h)
        have hcref : SafeRef P root (childRef root par (Seg.key name)) := SafeRef_child hpar _
        have hf' : P (found ++ slash ++ name) := P_append_slash hfound hname
        cases hl : lookup name kvs with
        | none => rw [findD_key_miss rfl hpv hs hne hup hstar hl]; exact ⟨rfl, Good_mk_none hpar hfound⟩
        | some cv =>
          cases idx with
          | none =>
            cases rest with
            | nil =>
              rw [findD_key_last rfl hpv hs hne hup hstar hl]
              refine ⟨rfl, { par := hpar, found := hf', ni := fun _ h => by cases h; exact hname, linked := ?_ }⟩
              intro ni hni cpv hcpv
              cases hni
              rw [hpv] at hcpv
              cases hcpv
              exact Or.inl ⟨c, kvs, cv, rfl, hl, splitNameIndex_name hs, hne⟩
            | cons t ts =>
              rw [findD_key_step rfl hpv hs hne hup hstar hl (by simp)]
              exact ihD _ _ _ _ _ _ hcref hrest hf'
          | str s =>
            rw [findD_keyidx_step rfl hpv hs hne hup hstar hl]
            exact ihD _ _ _ _ _ _ hcref (hcons (P_bracket hidx) hrest) hf'
          | cond k op v =>
            rw [findD_keycond_step rfl hpv hs hne hup hstar hl]
            exact ihD _ _ _ _ _ _ hcref (hcons (P_condTok hidx.1 hidx.2.1 hidx.2.2) hrest) hf'
      | _ => rw [findD_name_on_single rfl hpv hs hne hup rfl rfl]; exact Post_err rfl

theorem starKeys_step [SafePred P] (root : Val) (fuel : Nat)
    (ihD : IHD P root fuel) (ihK : IHK P root fuel) : IHK P root (fuel + 1) := by
  intro sp keys toks par rl found acc fst hpar hkeys htoks hfound hfst
  cases keys with
  | nil => rw [starKeys_nil]; exact Outcome_loopEnd Good.fstClosed (Good_mk_none hpar hfound) hfst
  | cons k ks =>
    have hks : ∀ x ∈ ks, P x := fun x hx => hkeys x (by simp [hx])
    rw [starKeys_cons]
    refine Outcome_bind (ihD sp false (k :: toks) par rl found hpar ?_ hfound) fun r hg => ?_
    · intro t ht
      rcases List.mem_cons.1 ht with rfl | ht
      · exact hkeys _ (by simp)
      · exact htoks t ht
    · split
      · exact ihK _ _ _ _ _ _ _ _ hpar hks htoks hfound (Outcome_fst hfst hg)
      · exact ihK _ _ _ _ _ _ _ _ hpar hks htoks hfound hfst

theorem starIdx_step [SafePred P] (root : Val) (fuel : Nat)
    (ihD : IHD P root fuel) (ihI : IHI P root fuel) : IHI P root (fuel + 1) := by
  intro sp n i rest par rl found acc fst all hpar hrest hfound hfst
  by_cases hi : i ≥ n
  · rw [starIdx_end hi]; exact Outcome_loopEnd Good.fstClosed (Good_mk_none hpar hfound) hfst
  · rw [starIdx_next (Nat.lt_of_not_ge hi)]
    refine Outcome_bind (ihD sp false (bracket (natStr i) :: rest) par rl found hpar ?_ hfound) fun r hg => ?_
    · intro t ht
      rcases List.mem_cons.1 ht with rfl | ht
      · exact P_bracket (P_natStr i)
      · exact hrest t ht
    · split
      · exact ihI _ _ _ _ _ _ _ _ _ _ hpar hrest hfound (Outcome_fst hfst hg)
      · exact ihI _ _ _ _ _ _ _ _ _ _ hpar hrest hfound hfst

/-- **Purity and error classes** of `findD`, `starKeys`, `starIdx` -/
theorem find_post [SafePred P] (root : Val) (hroot : SafeKeys P root) :
    ∀ fuel, IHD P root fuel ∧ IHK P root fuel ∧ IHI P root fuel := by
  intro fuel
  induction fuel with
  | zero =>
    refine ⟨?_, ?_, ?_⟩
    · intro sp entry toks par rl found _ _ _; rw [findD_zero]; exact Post_err rfl
    · intro sp keys toks par rl found acc fst _ _ _ _ _; rw [starKeys_zero]; exact Post_err rfl
    · intro sp n i rest par rl found acc fst all _ _ _ _; rw [starIdx_zero]; exact Post_err rfl
  | succ fuel ih =>
    obtain ⟨ihD, ihK, ihI⟩ := ih
    exact ⟨findD_step root hroot fuel ihD ihK ihI, starKeys_step root fuel ihD ihK, starIdx_step root fuel ihD ihI⟩

/-- the induction hypothesis, as `IHD`, for the list-side search `findL` and (`IHLoop`) its loop over the elements -/
def IHL (P : Str → Prop) (root : Val) (fuel : Nat) : Prop :=
  ∀ sp toks par rl found, SafeRef P root par → (∀ t ∈ toks, P t) → P found →
    Post P root (findL fuel root sp toks par rl found)

def IHLoop (P : Str → Prop) (root : Val) (fuel : Nat) : Prop :=
  ∀ sp par rl found tok rest i items acc fst, SafeRef P root par → (∀ t ∈ rest, P t) → P found →
    (∀ f, fst = some f → Good P root f) →
    Post P root (findL.loop sp par rl found tok rest fuel root i items acc fst)

/-- the outcomes of a pure index step of `n0list._find`: as for `findD_idx_cases`, the walk going on through `elemFind` -/
theorem findL_idx_cases (f : Nat) {root : Val} (sp : Pos) (rl : Bool) {par : PRef} (found : Str) {tok s : Str} {i : Int}
    (rest : List Str) {pv : Val} (hpv : valOf root par = some pv) (hk : IdxTok tok s i) :
    (∃ v nf, findL (f + 1) root sp (tok :: rest) par rl found =
        .ok (root, { parent := idxRef par pv, nameIdx := some (bracket (intStr i)), value := v, found := found, notFound := nf })) ∨
     (∃ n it, rest ≠ [] ∧ findL (f + 1) root sp (tok :: rest) par rl found =
        elemFind f root sp (childRef root (idxRef par pv) (.idx n)) it rest rl (found ++ bracket (intStr i))) := by
  have hrest : rest = [] ∨ rest ≠ [] := by cases rest <;> simp
  by_cases hl : isList pv = true
  · obtain ⟨c, xs, rfl⟩ := isList_inv hl
    by_cases hout : i ≥ (xs.length : Int) ∨ i < -(xs.length : Int)
    · exact Or.inl ⟨_, _, findL_idx_out hpv hk hout⟩
    · obtain ⟨n, hn⟩ := normIdx_inRange hout
      rcases hrest with rfl | hr
      · exact Or.inl ⟨_, _, findL_idx_last hpv hk hn⟩
      · exact Or.inr ⟨n, _, hr, findL_idx_step hpv hk hn hr⟩
  · have hl : isList pv = false := Bool.eq_false_iff.2 hl
    rw [idxRef_single hl]
    by_cases hout : i ≥ 1 ∨ i < -1
    · exact Or.inl ⟨_, _, findL_idx_out_single hpv hl hk hout⟩
    · have hi : i = 0 ∨ i = -1 := by omega
      rcases hrest with rfl | hr
      · exact Or.inl ⟨_, _, findL_idx_last_single hpv hl hk hi⟩
      · exact Or.inr ⟨0, _, hr, findL_idx_step_single hpv hl hk hi hr⟩

theorem elemFind_post [SafePred P] (root : Val) (hroot : SafeKeys P root) (fuel : Nat) (ihL : IHL P root fuel) (sp : Pos)
    (eref : PRef) (it : Val) (rest : List Str) (rl : Bool) (found : Str) (heref : SafeRef P root eref)
    (hrest : ∀ t ∈ rest, P t) (hfound : P found) : Post P root (elemFind fuel root sp eref it rest rl found) := by
  unfold elemFind
  split
  · unfold dispatchD
    split
    · exact (find_post root hroot fuel).1 _ _ _ _ _ _ heref hrest hfound
    · exact Post_err rfl
  · exact ihL sp rest _ rl _ heref hrest hfound
  · exact Post_err rfl

theorem findL_loop_step [SafePred P] (root : Val) (hroot : SafeKeys P root) (fuel : Nat)
    (ihL : IHL P root fuel) (ihLoop : IHLoop P root fuel) : IHLoop P root (fuel + 1) := by
  intro sp par rl found tok rest i items acc fst hpar hrest hfound hfst
  cases items with
  | nil => rw [findL_loop_nil]; exact Outcome_loopEnd Good.fstClosed (Good_mk_none hpar hfound) hfst
  | cons it its =>
    rw [findL_loop_cons]
    refine Outcome_bind (elemFind_post root hroot fuel ihL sp _ it rest rl _ (SafeRef_child hpar _) hrest
      (P_found_idx hfound (P_natStr i))) fun r hg => ?_
    split
    · exact ihLoop _ _ _ _ _ _ _ _ _ _ hpar hrest hfound (Outcome_fst hfst hg)
    · exact ihLoop _ _ _ _ _ _ _ _ _ _ hpar hrest hfound hfst

theorem findL_step [SafePred P] (root : Val) (hroot : SafeKeys P root) (fuel : Nat)
    (ihL : IHL P root fuel) (ihLoop : IHLoop P root fuel) : IHL P root (fuel + 1) := by
  intro sp toks par rl found hpar htoks hfound
  cases toks with
  | nil =>
    by_cases hf : found = slash
    · subst hf
      cases hpv : valOf root par with
      | none => rw [findL_nil_slash_noParent hpv]; exact Post_err rfl
      | some pv => rw [findL_nil_slash hpv]; exact ⟨rfl, Good_mk_none hpar hfound⟩
    · rw [findL_nil_retok hf]
      exact ihL _ _ _ _ _ (SafeRef_at hroot sp) (P_tokenize hfound) P_slash
  | cons tok rest =>
    have hrest : ∀ t ∈ rest, P t := fun t ht => htoks t (by simp [ht])
    -- a name or a condition is handed to the dict-side search (fix C06-f)
    have hdeleg : Post P root (findD fuel root sp false true (tok :: rest) par rl found) :=
      (find_post root hroot fuel).1 _ _ _ _ _ _ hpar htoks hfound
    cases hpv : valOf root par with
    | none => rw [findL_noParent hpv]; exact Post_err rfl
    | some pv =>
    cases hs : splitNameIndex tok with
    | error e => rw [findL_split_error hpv hs]; exact Post_err (okErr_of_caught (splitNameIndex_err hs))
    | ok p =>
    obtain ⟨name, idx⟩ := p
    by_cases hne : name = []
    · subst hne
      cases idx with
      | none => rw [findL_noIdx hpv hs]; exact Post_err rfl
      | cond k op v => rw [findL_cond hpv hs]; exact hdeleg
      | str s =>
        by_cases hstar : s = ['*']
        · subst hstar
          rw [findL_star hpv hs]
          cases hit : loopItems pv with
          | error e =>
            have : e = .TypeError := by unfold loopItems at hit; split at hit <;> cases hit; rfl
            subst this; exact Post_err rfl
          | ok items => exact ihLoop _ _ _ _ _ _ _ _ _ _ hpar hrest hfound (fun _ h => by cases h)
        cases hev : n0eval s with
        | error e => rw [findL_idx_evalError hpv hs hstar hev, n0eval_err hev]; exact Post_err rfl
        | ok ev =>
          cases ev with
          | str t => rw [findL_idx_evalStr hpv hs hstar hev]; exact Post_err rfl
          | int i =>
            rcases findL_idx_cases fuel sp rl found rest hpv (.of_eval hs hstar hev) with ⟨v, nf, he⟩ | ⟨n, it, _, he⟩
            · rw [he]; exact ⟨rfl, Good_idx hpv hpar hfound⟩
            · rw [he]
              exact elemFind_post root hroot fuel ihL sp _ it rest rl _ (SafeRef_child (SafeRef_idxParent hpar) _) hrest
                (P_found_idx hfound (P_intStr i))
    · rw [findL_name hpv hs hne]; exact hdeleg

theorem findL_post [SafePred P] (root : Val) (hroot : SafeKeys P root) :
    ∀ fuel, IHL P root fuel ∧ IHLoop P root fuel := by
  intro fuel
  induction fuel with
  | zero =>
    refine ⟨?_, ?_⟩
    · intro sp toks par rl found _ _ _; rw [findL_zero]; exact Post_err rfl
    · intro sp par rl found tok rest i items acc fst _ _ _ _; rw [findL_loop_zero]; exact Post_err rfl
  | succ fuel ih =>
    exact ⟨findL_step root hroot fuel ih.1 ih.2, findL_loop_step root hroot fuel ih.1 ih.2⟩

end
end N0.XPath
