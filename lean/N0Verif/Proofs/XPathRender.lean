import N0Verif.Proofs.XPathGText
import N0Verif.Proofs.TreeLemmas
/-!
  Rendering of positions as canonical xpaths (what `xpath()` enumerates): as a text of pieces (`sel2Embed`), from which its
  tokenisation (`tokenize_render`) and the fact that its tokens spell the position (`spellsF_merged`) are read off;
  the text determines a position with plain keys (`renderPos_inj`).
-/
namespace N0.XPath
open N0 N0.Py N0.Val

def renderSeg : Seg → Str
  | .key k => '/' :: k
  | .idx n => bracket (natStr n)

/-- path text below the root prefix: `/a/b[0][1]/c` -/
def renderPos (p : Pos) : Str := p.flatMap renderSeg

theorem renderPos_cons (s : Seg) (p : Pos) : renderPos (s :: p) = renderSeg s ++ renderPos p := by
  simp [renderPos]

/-- how the text begins: `a/b` (`rel`: no prefix, "prefix none" in the docstrings), `/a/b` (`one`), `//a/b` (`two`) -/
inductive Lead | rel | one | two
  deriving Repr, DecidableEq

def leadStr : Lead → Str
  | .rel => []
  | .one => ['/']
  | .two => ['/', '/']

/-- the prefix does not matter to the tokeniser: a relative text `a/b…` has the tokens of `/a/b…` and of `//a/b…` -/
theorem tokenize_leadStr (lead : Lead) (s : Str) : tokenize (leadStr lead ++ s) = tokenize s := by
  cases lead <;> simp [leadStr, tokenize_slash]

/-- the tokens `_find` works on for a canonical path: a key followed by an index is one token -/
def mergedToks : Pos → List Str
  | [] => []
  | .key k :: .idx n :: rest => (k ++ bracket (natStr n)) :: mergedToks rest
  | .key k :: rest => k :: mergedToks rest
  | .idx n :: rest => bracket (natStr n) :: mergedToks rest

def PlainPos : Pos → Prop
  | [] => True
  | .key k :: rest => PlainKey k ∧ PlainPos rest
  | .idx _ :: rest => PlainPos rest

theorem PlainPos.append {p r : Pos} (hp : PlainPos p) (hr : PlainPos r) : PlainPos (p ++ r) := by
  induction p with
  | nil => simpa using hr
  | cons s p ih =>
    cases s with
    | key k => exact ⟨hp.1, ih hp.2⟩
    | idx n => exact ih hp

theorem PlainPos.prefix {p r : Pos} (h : PlainPos (p ++ r)) : PlainPos p := by
  induction p with
  | nil => trivial
  | cons s p ih =>
    cases s with
    | key k => exact ⟨h.1, ih h.2⟩
    | idx n => exact ih h

theorem PlainPos.last_key {pp : Pos} {k : Str} (h : PlainPos (pp ++ [.key k])) : PlainKey k := by
  induction pp with
  | nil => exact h.1
  | cons s pp ih =>
    cases s with
    | key k' => exact ih h.2
    | idx n => exact ih h

theorem plainPos_idx (i : Nat) : PlainPos [Seg.idx i] := trivial

theorem plainPos_keys : ∀ (ns : List Str), (∀ m ∈ ns, PlainKey m) → PlainPos (ns.map Seg.key)
  | [], _ => trivial
  | n :: ns, h => ⟨h n (by simp), plainPos_keys ns (fun m hm => h m (by simp [hm]))⟩

theorem bracket_noSlash (n : Nat) : ∀ c ∈ bracket (natStr n), c ≠ '/' := by
  intro c hc
  simp only [bracket, List.mem_cons, List.mem_append, List.not_mem_nil, or_false] at hc
  rcases hc with (hc | hc) | hc
  · subst hc; decide
  · exact natStr_noSlash n c hc
  · subst hc; decide

/-- the canonical path of a position as a text of pieces -/
def sel2Embed : Pos → List GSeg
  | [] => []
  | .key k :: rest => .key k :: sel2Embed rest
  | .idx n :: rest => .br (natStr n) :: sel2Embed rest

theorem sel2_embed_append (p q : Pos) : sel2Embed (p ++ q) = sel2Embed p ++ sel2Embed q := by
  induction p with
  | nil => rfl
  | cons s r ih => cases s <;> simp [sel2Embed, ih]

theorem sel2_render_embed (p : Pos) : sel2Render (sel2Embed p) = renderPos p := by
  induction p with
  | nil => rfl
  | cons s r ih =>
    cases s with
    | key k =>
      have : sel2Render (.key k :: sel2Embed r) = '/' :: k ++ sel2Render (sel2Embed r) := by simp [sel2Render, sel2RenderSeg]
      rw [sel2Embed, this, ih]; simp [renderPos, renderSeg]
    | idx n =>
      have : sel2Render (.br (natStr n) :: sel2Embed r) = bracket (natStr n) ++ sel2Render (sel2Embed r) := by
        simp [sel2Render, sel2RenderSeg]
      rw [sel2Embed, this, ih]; simp [renderPos, renderSeg]

theorem sel2_good_embed (p : Pos) (hp : PlainPos p) : GoodG (sel2Embed p) := by
  induction p with
  | nil => trivial
  | cons s r ih =>
    cases s with
    | key k => exact ⟨hp.1.gKey, ih hp.2⟩
    | idx n => exact ⟨sel2_gBr_nat n, ih hp⟩

theorem sel2_toks_embed (p : Pos) : sel2Toks (sel2Embed p) = mergedToks p := by
  induction p using mergedToks.induct with
  | case1 => rfl
  | case2 k n rest ih => simp [sel2Embed, sel2Toks, mergedToks, ih]
  | case3 k rest hne ih =>
    cases rest with
    | nil => simp [sel2Embed, sel2Toks, mergedToks]
    | cons s r =>
      cases s with
      | key k2 =>
        rw [mergedToks]
        · simp only [sel2Embed] at ih ⊢
          rw [sel2Toks, ih]
          intro e r' h; cases h
        · intro n r' h; cases h
      | idx n => exact absurd rfl (hne n r)
  | case4 n rest ih => simp [sel2Embed, sel2Toks, mergedToks, ih]

theorem sel2_renderPos_append (p q : Pos) : renderPos (p ++ q) = renderPos p ++ renderPos q := by
  simp [renderPos]

theorem sel2_slash_render (p : Pos) : slash ++ renderPos p = '/' :: renderPos p := rfl

theorem sel2Embed_keys (ns : List Str) : sel2Embed (ns.map Seg.key) = ns.map GSeg.key := by
  induction ns with
  | nil => rfl
  | cons n ns ih => rw [List.map_cons, List.map_cons, sel2Embed, ih]

/-- **A canonical path followed by pieces** is a text of pieces: its tokens are those of the pieces of the path and the
pieces that follow (the empty key before a bracket, `/[e]`, included) -/
theorem tokenize_pos_pieces (P : Pos) (hp : PlainPos P) (gs : List GSeg) (hg : PiecesOk gs) :
    tokenize (slash ++ renderPos P ++ sel2Render gs) = sel2Toks (sel2Embed P ++ gs) := by
  rw [← sel2_render_embed, List.append_assoc, ← sel2_render_append, show slash ++ sel2Render (sel2Embed P ++ gs)
    = '/' :: sel2Render (sel2Embed P ++ gs) from rfl, tokenize_slash]
  exact tokenize_pieces _ ((sel2_good_embed P hp).piecesOk.append hg)

/-- **Tokenisation of a canonical path.**  `"/" ++ renderPos p` is what `xpath()` lists. -/
theorem tokenize_render (p : Pos) (hp : PlainPos p) :
    tokenize ('/' :: renderPos p) = mergedToks p := by
  rw [← sel2_render_embed, sel2_tokenize _ (sel2_good_embed p hp), sel2_toks_embed]

/-- the same for a path that starts with an index and is written without the leading slash -/
theorem tokenize_render_idx (n : Nat) (rest : Pos) (hp : PlainPos rest) :
    tokenize (renderPos (.idx n :: rest)) = mergedToks (.idx n :: rest) := by
  rw [← sel2_render_embed, tokenize_tail _ (sel2_good_embed (.idx n :: rest) hp), sel2_toks_embed]

theorem sel3_norm_canon : ∀ (p : Pos) (v c : Val), PlainPos p → getAt v p = some c → Sel3Norm (sel2Embed p) v p c
  | [], v, c, _, h => by simp [getAt] at h; subst h; exact .nil v
  | .key k :: rest, v, c, hp, h => by
    obtain ⟨x, hc, hr⟩ := getAt_cons_some h
    obtain ⟨cls, kvs, rfl, hl⟩ := child_key_some hc
    exact .key hp.1 hl (sel3_norm_canon rest x c hp.2 hr)
  | .idx n :: rest, v, c, hp, h => by
    obtain ⟨y, hc2, hr2⟩ := getAt_cons_some h
    obtain ⟨cls', xs, rfl, hx, hlt⟩ := child_idx_some hc2
    exact .idx (i := (n : Int)) (normIdx_nat hlt) hx (sel3_norm_canon rest y c hp hr2)

theorem Sel3Norm.plain {gs v p c} (h : Sel3Norm gs v p c) : PlainPos p := by
  induction h with
  | nil v => trivial
  | key hk _ _ ih => exact ⟨hk, ih⟩
  | idx _ _ _ ih => exact ih

theorem spellsF_merged (p : Pos) (v c : Val) (hp : PlainPos p) (h : getAt v p = some c) :
    SpellsF (mergedToks p) v p c (renderPos p) := by
  rw [← sel2_toks_embed, ← sel2_render_embed]
  exact sel3_norm_spellsF _ v p c (sel3_norm_canon p v c hp h)

theorem spells_merged (p : Pos) (v c : Val) (hp : PlainPos p) (h : getAt v p = some c) : Spells (mergedToks p) v p c :=
  (spellsF_merged p v c hp h).spells

theorem mergedToks_length_le (p : Pos) : (mergedToks p).length ≤ p.length := by
  induction p using mergedToks.induct with
  | case1 => simp [mergedToks]
  | case2 k n rest ih => simp [mergedToks]; omega
  | case3 k rest hne ih => rw [mergedToks]; simp; omega; exact hne
  | case4 n rest ih => simp [mergedToks]; omega

theorem mergedToks_ne_nil (p : Pos) (h : p ≠ []) : mergedToks p ≠ [] := by
  cases p with
  | nil => exact absurd rfl h
  | cons s r =>
    cases s with
    | key k =>
      cases r with
      | nil => simp [mergedToks]
      | cons s2 r2 => cases s2 <;> simp [mergedToks]
    | idx n => simp [mergedToks]

/-- a key step is never merged with what precedes it -/
theorem mergedToks_append_key (p : Pos) (k : Str) (r : Pos) :
    mergedToks (p ++ .key k :: r) = mergedToks p ++ mergedToks (.key k :: r) := by
  rw [← sel2_toks_embed, sel2_embed_append, show sel2Embed (.key k :: r) = .key k :: sel2Embed r from rfl,
    sel2_toks_append_key, sel2_toks_embed, ← sel2_toks_embed (.key k :: r)]
  rfl

theorem mergedToks_keys : ∀ (ns : List Str), mergedToks (ns.map Seg.key) = ns
  | [] => rfl
  | [n] => by simp [mergedToks]
  | n :: m :: ns => by
    have := mergedToks_keys (m :: ns)
    simp only [List.map_cons] at this ⊢
    simp [mergedToks, this]

theorem renderPos_keys_cons (x : Str) (ms : List Str) :
    renderPos ((x :: ms).map Seg.key) = '/' :: (x ++ renderPos (ms.map Seg.key)) := by
  simp [renderPos, renderSeg]

theorem renderPos_snoc_key (q : Pos) (name : Str) :
    slash ++ renderPos q ++ slash ++ name = slash ++ renderPos (q ++ [Seg.key name]) := by
  simp [renderPos, renderSeg, slash]

theorem renderPos_snoc_idx (q0 : Pos) (i : Nat) :
    slash ++ renderPos (q0 ++ [Seg.idx i]) = ('/' :: renderPos q0 ++ '[' :: natStr i) ++ [']'] := by
  simp [renderPos, renderSeg, slash, bracket]

/-- two texts that stop at the first character of a kind, followed by texts that begin with one: equal wholes have equal parts -/
theorem prefix_unique (P : Char → Prop) : ∀ (a b x y : Str), (∀ c ∈ a, ¬ P c) → (∀ c ∈ b, ¬ P c) →
    (∀ c, x.head? = some c → P c) → (∀ c, y.head? = some c → P c) → a ++ x = b ++ y → a = b ∧ x = y := by
  intro a
  induction a with
  | nil =>
    intro b x y _ hb hx _ h
    cases b with
    | nil => exact ⟨rfl, h⟩
    | cons c b =>
      simp only [List.nil_append, List.cons_append] at h
      exact absurd (hx c (by rw [h]; rfl)) (hb c (by simp))
  | cons d a ih =>
    intro b x y ha hb hx hy h
    cases b with
    | nil =>
      simp only [List.nil_append, List.cons_append] at h
      exact absurd (hy d (by rw [← h]; rfl)) (ha d (by simp))
    | cons c b =>
      simp only [List.cons_append, List.cons.injEq] at h
      obtain ⟨rfl, h⟩ := h
      obtain ⟨rfl, rfl⟩ := ih b x y (fun c hc => ha c (by simp [hc])) (fun c hc => hb c (by simp [hc])) hx hy h
      exact ⟨rfl, rfl⟩

theorem renderPos_head (p : Pos) : ∀ c, (renderPos p).head? = some c → c = '/' ∨ c = '[' := by
  intro c h
  cases p with
  | nil => simp [renderPos] at h
  | cons s r =>
    cases s with
    | key k => simp [renderPos, renderSeg] at h; exact Or.inl h.symm
    | idx n => simp [renderPos, renderSeg, bracket] at h; exact Or.inr h.symm

/-- the canonical text of a position with plain keys determines it -/
theorem renderPos_inj : ∀ (p q : Pos), PlainPos p → PlainPos q → renderPos p = renderPos q → p = q := by
  intro p
  induction p with
  | nil =>
    intro q _ _ h
    cases q with
    | nil => rfl
    | cons s r => cases s <;> simp [renderPos, renderSeg, bracket] at h
  | cons s r ih =>
    intro q hp hq h
    cases q with
    | nil => cases s <;> simp [renderPos, renderSeg, bracket] at h
    | cons s' r' =>
      rw [renderPos_cons, renderPos_cons] at h
      cases s with
      | key k =>
        cases s' with
        | key k' =>
          simp only [renderSeg, List.cons_append, List.cons.injEq, true_and] at h
          obtain ⟨hk, hr⟩ := hp
          obtain ⟨hk', hr'⟩ := hq
          obtain ⟨rfl, h2⟩ := prefix_unique (fun c => c = '/' ∨ c = '[') k k' _ _
            (fun c hc hP => hP.elim (hk.noSlash c hc) (PlainKey.noLB hk c hc))
            (fun c hc hP => hP.elim (hk'.noSlash c hc) (PlainKey.noLB hk' c hc))
            (renderPos_head r) (renderPos_head r') h
          rw [ih r' hr hr' h2]
        | idx n => simp [renderSeg, bracket] at h
      | idx n =>
        cases s' with
        | key k' => simp [renderSeg, bracket] at h
        | idx n' =>
          simp only [renderSeg, bracket, List.cons_append, List.cons.injEq, true_and, List.append_assoc,
            List.nil_append] at h
          obtain ⟨h1, h2⟩ := prefix_unique (fun c => c = ']') (natStr n) (natStr n') _ _
            (fun c hc hP => natStr_noRB n c hc hP) (fun c hc hP => natStr_noRB n' c hc hP)
            (by intro c hc; simp at hc; exact hc.symm) (by intro c hc; simp at hc; exact hc.symm) h
          simp only [List.cons.injEq, true_and] at h2
          rw [natDigits_inj h1, ih r' hp hq h2]

end N0.XPath
