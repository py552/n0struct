import N0Verif.Proofs.XPathTok
import N0Verif.Py.Lemmas
/-!
  `split_name_index` on a predicate step `nm[k op v]`: the operator as written or normalised (`OpSpell`), the literal
  bare or quoted (`LitSpell`), field names and literals made of plain characters (`CondKey`, `PlainLit`) — `split_cond`;
  and the condition tokens `findD` writes back (`split_cond_reemit`, `split_text_bare`, `split_text_quoted`).
-/
namespace N0.XPath
open N0 N0.Py N0.Val

theorem contains_true_of_mem (s : Str) (c : Char) (h : c ∈ s) : s.contains c = true := by
  simp [h]

/-- the comparison operators of the property: as written (`=`, `==`, `!=`, `~`, `~~`) and as the
tokenizer normalises them -/
inductive OpSpell : Str → Str → Prop
  | eq1 : OpSpell ['='] ['=', '=']
  | eq2 : OpSpell ['=', '='] ['=', '=']
  | ne : OpSpell ['!', '='] ['!', '=']
  | in1 : OpSpell ['~'] ['~', '~']
  | in2 : OpSpell ['~', '~'] ['~', '~']

/-- a field name that can stand on the left of a condition: plain characters, no `!`, not starting
with `contains` (any letter case) -/
structure CondKey (k : Str) : Prop where
  ne : k ≠ []
  chars : ∀ c ∈ k, plainChar c = true ∧ c ≠ '!'
  notContains : startsWith (lower k) sContains = false

/-- a literal value: plain characters (no blanks, quotes, brackets, `/`, `=`, `~`, `*`, `?`), no `%`
(url-unquoting), not the bool spellings `true()` / `false()`; it may be empty -/
structure PlainLit (v : Str) : Prop where
  chars : ∀ c ∈ v, plainChar c = true ∧ c ≠ '%'
  notTrue : lower v ≠ sTrue
  notFalse : lower v ≠ sFalse

/-- the literal as written in the step: bare, or in single or double quotes -/
inductive LitSpell : Str → Str → Prop
  | bare (v : Str) : LitSpell v v
  | sq (v : Str) : LitSpell ('\'' :: v ++ ['\'']) v
  | dq (v : Str) : LitSpell ('"' :: v ++ ['"']) v

theorem plainChar_ne2 {c : Char} (h : plainChar c = true) : c ≠ '=' ∧ c ≠ '~' ∧ c ≠ '"' ∧ c ≠ '\'' := by
  simp only [plainChar, Bool.not_eq_true', Bool.or_eq_false_iff, decide_eq_false_iff_not] at h
  obtain ⟨⟨⟨⟨⟨⟨⟨⟨⟨_, _⟩, _⟩, _⟩, _⟩, h6⟩, h7⟩, h8⟩, h9⟩, _⟩ := h
  exact ⟨h6, h7, h8, h9⟩

theorem CondKey.no (k : Str) (h : CondKey k) : ∀ c ∈ k, c ≠ '=' ∧ c ≠ '~' ∧ c ≠ '!' ∧ c ≠ '[' ∧ isPySpace c = false :=
  fun c hc => ⟨(plainChar_ne2 (h.chars c hc).1).1, (plainChar_ne2 (h.chars c hc).1).2.1, (h.chars c hc).2,
    (plainChar_ne (h.chars c hc).1).2.1, (plainChar_ne (h.chars c hc).1).2.2.2.2⟩

theorem LitSpell.no {vq v : Str} (h : LitSpell vq v) (hv : PlainLit v) :
    ∀ c ∈ vq, c ≠ '=' ∧ c ≠ '~' ∧ c ≠ '[' ∧ c ≠ ']' ∧ c ≠ '/' ∧ isPySpace c = false := by
  have hp : ∀ c ∈ v, c ≠ '=' ∧ c ≠ '~' ∧ c ≠ '[' ∧ c ≠ ']' ∧ c ≠ '/' ∧ isPySpace c = false := fun c hc =>
    ⟨(plainChar_ne2 (hv.chars c hc).1).1, (plainChar_ne2 (hv.chars c hc).1).2.1, (plainChar_ne (hv.chars c hc).1).2.1,
      (plainChar_ne (hv.chars c hc).1).2.2.1, (plainChar_ne (hv.chars c hc).1).1, (plainChar_ne (hv.chars c hc).1).2.2.2.2⟩
  cases h with
  | bare => exact hp
  | sq =>
    intro c hc
    simp only [List.mem_cons, List.mem_append, List.not_mem_nil, or_false] at hc
    rcases hc with (rfl | hc) | rfl
    · decide
    · exact hp c hc
    · decide
  | dq =>
    intro c hc
    simp only [List.mem_cons, List.mem_append, List.not_mem_nil, or_false] at hc
    rcases hc with (rfl | hc) | rfl
    · decide
    · exact hp c hc
    · decide

theorem OpSpell.cases' {opx op : Str} (h : OpSpell opx op) :
    opx ≠ [] ∧ (∀ c ∈ opx, c = '=' ∨ c = '!' ∨ c = '~') ∧
    (if opx = ['='] then ['=', '='] else if opx = ['~'] then ['~', '~'] else opx) = op := by
  cases h <;> simp

/-- which delimiter the tokenizer picks: the operator as written.  Every delimiter of the table starts with `=`, `!`
or `~` (none of which is in `k`) and ends with `=` or `~` (neither of which is in `vq`), so it occurs in the text exactly
when it occurs in `opx`. -/
theorem firstDelim_spell (k opx op vq : Str) (hk : ∀ c ∈ k, c ≠ '=' ∧ c ≠ '~' ∧ c ≠ '!')
    (hv : ∀ c ∈ vq, c ≠ '=' ∧ c ≠ '~') (h : OpSpell opx op) :
    firstDelim (k ++ opx ++ vq) condDelims = some opx := by
  have hkeq : ∀ c ∈ k, c ≠ '=' := fun c hc => (hk c hc).1
  have hktl : ∀ c ∈ k, c ≠ '~' := fun c hc => (hk c hc).2.1
  have hkbg : ∀ c ∈ k, c ≠ '!' := fun c hc => (hk c hc).2.2
  have hveq : '=' ∉ vq := fun hc => (hv _ hc).1 rfl
  have hvtl : '~' ∉ vq := fun hc => (hv _ hc).2 rfl
  have r2 : ∀ a b : Char, (∀ c ∈ k, c ≠ a) → b ∉ vq → isInfix [a, b] (k ++ opx ++ vq) = isInfix [a, b] opx :=
    fun a b ha hb => by
      rw [List.append_assoc, isInfix_skip a [b] k _ ha]; exact isInfix_append_notMem [a] b opx vq hb
  have r1 : ∀ a : Char, (∀ c ∈ k, c ≠ a) → a ∉ vq → isInfix [a] (k ++ opx ++ vq) = isInfix [a] opx :=
    fun a ha hb => by
      rw [List.append_assoc, isInfix_skip a [] k _ ha]; exact isInfix_append_notMem [] a opx vq hb
  simp only [firstDelim, condDelims, r2 '=' '=' hkeq hveq, r2 '!' '=' hkbg hveq, r2 '~' '~' hktl hvtl,
    r2 '!' '~' hkbg hvtl, r1 '~' hktl hvtl, r1 '=' hkeq hveq]
  cases h <;> rfl

theorem splitOnce_spell (k opx op vq : Str) (hk : ∀ c ∈ k, c ≠ '=' ∧ c ≠ '~' ∧ c ≠ '!') (h : OpSpell opx op) :
    splitOnce opx (k ++ opx ++ vq) = some (k, vq) := by
  obtain ⟨hne, hch, _⟩ := h.cases'
  unfold splitOnce
  have := split1_found opx k vq [] ((k ++ opx ++ vq).length + 1) hne
    (by
      intro pre suf hps hsne
      cases suf with
      | nil => exact absurd rfl hsne
      | cons c suf =>
        have hc : c ∈ k := by rw [hps]; simp
        have hck := hk c hc
        cases opx with
        | nil => exact absurd rfl hne
        | cons o opx' =>
          have ho := hch o (by simp)
          have : c ≠ o := by
            rcases ho with rfl | rfl | rfl
            · exact hck.1
            · exact hck.2.2
            · exact hck.2.1
          simp [startsWith, this])
    (by simp)
  simpa using this

theorem PlainLit.noPercent {v : Str} (hv : PlainLit v) : hasPercent v = false :=
  contains_false_of_forall v '%' (fun c hc => (hv.chars c hc).2)

theorem quoted_facts (q : Char) (v : Str) (hq : toLowerAscii q ≠ 't' ∧ toLowerAscii q ≠ 'f') :
    lower (q :: v ++ [q]) ≠ sTrue ∧ lower (q :: v ++ [q]) ≠ sFalse ∧ startsWith (q :: v ++ [q]) [q] = true ∧
    endsWith (q :: v ++ [q]) [q] = true ∧ ((q :: v ++ [q]).drop 1).dropLast = v := by
  refine ⟨?_, ?_, by simp [startsWith, startsWith_nil], ?_, by simp⟩
  · rw [List.cons_append, lower_cons]; intro h; injection h with h _; exact hq.1 h
  · rw [List.cons_append, lower_cons]; intro h; injection h with h _; exact hq.2 h
  · rw [show q :: v ++ [q] = (q :: v) ++ [q] from rfl]; exact endsWith_snoc _ _

theorem parseCond_spell (k opx op vq v : Str) (hk : CondKey k) (hop : OpSpell opx op) (hl : LitSpell vq v)
    (hv : PlainLit v) : parseCond (k ++ opx ++ vq) = .ok (.cond k op (.str v)) := by
  have hkn := CondKey.no k hk
  have hvn := hl.no hv
  have hk3 : ∀ c ∈ k, c ≠ '=' ∧ c ≠ '~' ∧ c ≠ '!' := fun c hc => ⟨(hkn c hc).1, (hkn c hc).2.1, (hkn c hc).2.2.1⟩
  have hv2 : ∀ c ∈ vq, c ≠ '=' ∧ c ≠ '~' := fun c hc => ⟨(hvn c hc).1, (hvn c hc).2.1⟩
  have hcont : ((k ++ opx ++ vq).contains '=' || (k ++ opx ++ vq).contains '~') = true := by
    cases hop <;> simp
  have hks : stripWs k = k := stripWs_of_all k (fun c hc => (hkn c hc).2.2.2.2)
  have hvs : stripWs vq = vq := stripWs_of_all vq (fun c hc => (hvn c hc).2.2.2.2.2)
  obtain ⟨_, _, hcanon⟩ := hop.cases'
  unfold parseCond
  simp only [hcont, if_true, firstDelim_spell k opx op vq hk3 hv2 hop, splitOnce_spell k opx op vq hk3 hop, hks, hvs,
    hcanon]
  cases hl with
  | bare =>
    have hq1 : startsWith vq ['"'] = false := by
      cases vq with
      | nil => rfl
      | cons c v' =>
        have := (plainChar_ne2 (hv.chars c (by simp)).1).2.2.1
        simp [startsWith, this]
    have hq2 : startsWith vq ['\''] = false := by
      cases vq with
      | nil => rfl
      | cons c v' =>
        have := (plainChar_ne2 (hv.chars c (by simp)).1).2.2.2
        simp [startsWith, this]
    simp only [hv.notTrue, hv.notFalse, if_false, hq1, hq2, Bool.false_and, Bool.or_self, Bool.false_eq_true]
  | sq =>
    obtain ⟨h1, h2, h3, h4, h5⟩ := quoted_facts '\'' v (by decide)
    simp only [h1, h2, if_false, h3, h4, Bool.and_self, Bool.or_true, if_true, h5, hv.noPercent, Bool.false_eq_true]
  | dq =>
    obtain ⟨h1, h2, h3, h4, h5⟩ := quoted_facts '"' v (by decide)
    simp only [h1, h2, if_false, h3, h4, Bool.and_self, Bool.true_or, if_true, h5, hv.noPercent, Bool.false_eq_true]

theorem cond_notContains (k opx op vq : Str) (hk : CondKey k) (hop : OpSpell opx op) :
    startsWith (lower (k ++ opx ++ vq)) sContains = false := by
  cases h : startsWith (lower (k ++ opx ++ vq)) sContains with
  | false => rfl
  | true =>
    exfalso
    have hnc := hk.notContains
    obtain ⟨o, opx', rfl⟩ : ∃ o opx', opx = o :: opx' := by cases hop <;> exact ⟨_, _, rfl⟩
    have ho : ∀ c ∈ sContains, c ≠ toLowerAscii o := by
      cases hop <;> decide
    have := startsWith_lower_append k (opx' ++ vq) sContains o ho (by simpa [List.append_assoc] using h)
    rw [this] at hnc; cases hnc

/-- **`split_name_index` on a predicate step** `nm[k op v]` -/
theorem split_cond (nm k opx op vq v : Str) (hnm : nm = [] ∨ PlainKey nm) (hk : CondKey k) (hop : OpSpell opx op)
    (hl : LitSpell vq v) (hv : PlainLit v) :
    splitNameIndex (nm ++ bracket (k ++ opx ++ vq)) = .ok (nm, .cond k op (.str v)) := by
  have hkn := CondKey.no k hk
  have hvn := hl.no hv
  obtain ⟨hopne, hopch, _⟩ := hop.cases'
  have hnmb : ∀ c ∈ nm, c ≠ '[' := by
    rcases hnm with h | h
    · subst h; simp
    · exact fun c hc => (plainChar_ne (h.chars c hc)).2.1
  have hnms : stripWs nm = nm := by
    rcases hnm with h | h
    · subst h; rfl
    · exact h.stripWs
  have hesp : ∀ c ∈ k ++ opx ++ vq, isPySpace c = false := by
    intro c hc
    simp only [List.mem_append] at hc
    rcases hc with (hc | hc) | hc
    · exact (hkn c hc).2.2.2.2
    · rcases hopch c hc with rfl | rfl | rfl <;> decide
    · exact (hvn c hc).2.2.2.2.2
  have hes : stripWs (k ++ opx ++ vq) = k ++ opx ++ vq := stripWs_of_all _ hesp
  have hene : (k ++ opx ++ vq).isEmpty = false := by
    apply isEmpty_false_of_ne; intro h; simp at h; exact hk.ne h.1
  have hform : nm ++ bracket (k ++ opx ++ vq) = (nm ++ '[' :: (k ++ opx ++ vq)) ++ [']'] := by simp [bracket]
  have hcont : (nm ++ bracket (k ++ opx ++ vq)).contains '[' = true := by simp [bracket]
  have hends : endsWith (nm ++ bracket (k ++ opx ++ vq)) [']'] = true := by rw [hform]; exact endsWith_snoc _ _
  have hdrop : (nm ++ bracket (k ++ opx ++ vq)).dropLast = nm ++ '[' :: (k ++ opx ++ vq) := by
    rw [hform, List.dropLast_concat]
  unfold splitNameIndex
  simp only [hcont, hends, Bool.and_self, if_true, hdrop, splitOnce_bracket nm _ hnmb, hnms, hes, hene,
    Bool.false_eq_true, if_false, cond_notContains k opx op vq hk hop, Bool.false_and,
    parseCond_spell k opx op vq v hk hop hl hv]
  rfl

theorem condKey_text : CondKey sTextFn where
  ne := by decide
  chars := by decide
  notContains := by decide

theorem opSpell_canon {opx op : Str} (h : OpSpell opx op) : OpSpell op op := by
  cases h
  · exact .eq2
  · exact .eq2
  · exact .ne
  · exact .in2
  · exact .in2

theorem opSpell_self_cases {op : Str} (h : OpSpell op op) : op = ['=', '='] ∨ op = ['!', '='] ∨ op = ['~', '~'] := by
  generalize ho : op = op' at h
  cases h <;> simp_all

/-- a field name usable in both predicate forms: the hypothesis to ask of a field name (`CondKey` alone is what `split_cond` needs,
and holds of `text()` too) -/
structure FieldKey (k : Str) : Prop where
  plain : PlainKey k
  cond : CondKey k
  notText : k ≠ sTextFn

/-- a one-character name is too short to start with `contains` or to be `text()` (the field names of the test trees) -/
theorem FieldKey.single (c : Char) (h : plainChar c = true := by decide) (hb : c ≠ '!' := by decide) : FieldKey [c] where
  plain := .single c h
  cond := ⟨by simp, fun x hx => by cases List.mem_singleton.mp hx; exact ⟨h, hb⟩, by rw [sContains_eq]; simp [lower, startsWith]⟩
  notText := by rw [show sTextFn = ['t', 'e', 'x', 't', '(', ')'] from String.toList_ofList]; simp

/-- a one-character literal is too short to be `true()` / `false()` -/
theorem PlainLit.single (c : Char) (h : plainChar c = true := by decide) (hp : c ≠ '%' := by decide) : PlainLit [c] where
  chars := fun x hx => by cases List.mem_singleton.mp hx; exact ⟨h, hp⟩
  notTrue := by rw [sTrue_eq]; simp [lower]
  notFalse := by rw [sFalse_eq]; simp [lower]

theorem condValStr_str (s : Str) : condValStr (.str s) = s := rfl

/-- the token `findD` re-emits for `nm[k op v]` (normalised operator, quoted value) is the condition again -/
theorem split_cond_reemit (k op v : Str) (hk : FieldKey k) (hop : OpSpell op op) (hv : PlainLit v) :
    splitNameIndex (bracket (k ++ op ++ ['\''] ++ condValStr (.str v) ++ ['\''])) = .ok ([], .cond k op (.str v)) := by
  have := split_cond [] k op op _ v (Or.inl rfl) hk.cond hop (.sq v) hv
  simpa [condValStr_str, List.append_assoc] using this

/-- the `text()` token re-emitted for `[k op v]` (bare value) … -/
theorem split_text_bare (op v : Str) (hop : OpSpell op op) (hv : PlainLit v) :
    splitNameIndex (bracket (sTextFn ++ op ++ condValStr (.str v))) = .ok ([], .cond sTextFn op (.str v)) := by
  have := split_cond [] sTextFn op op _ v (Or.inl rfl) condKey_text hop (.bare v) hv
  simpa [condValStr_str, List.append_assoc] using this

/-- … and for `k[text() op v]` (quoted value) -/
theorem split_text_quoted (op v : Str) (hop : OpSpell op op) (hv : PlainLit v) :
    splitNameIndex (bracket (sTextFn ++ op ++ ['\''] ++ condValStr (.str v) ++ ['\''])) = .ok ([], .cond sTextFn op (.str v)) := by
  have := split_cond [] sTextFn op op _ v (Or.inl rfl) condKey_text hop (.sq v) hv
  simpa [condValStr_str, List.append_assoc] using this

theorem cond_text_chars (k opx op vq v : Str) (hk : CondKey k) (hop : OpSpell opx op) (hlit : LitSpell vq v) (hv : PlainLit v) :
    ∀ c ∈ k ++ opx ++ vq, c ≠ ']' ∧ c ≠ '/' := by
  obtain ⟨_, hopch, _⟩ := hop.cases'
  have hvn := hlit.no hv
  intro c hc
  simp only [List.mem_append] at hc
  rcases hc with (hc | hc) | hc
  · have := plainChar_ne (hk.chars c hc).1
    exact ⟨this.2.2.1, this.1⟩
  · rcases hopch c hc with rfl | rfl | rfl <;> exact ⟨by decide, by decide⟩
  · exact ⟨(hvn c hc).2.2.2.1, (hvn c hc).2.2.2.2.1⟩

theorem star_idxExpr : IdxExpr ['*'] where
  ne := by simp
  head := by intro c hc; simp at hc; subst hc; decide
  last := by intro c hc; simp at hc; subst hc; decide
  notContains := by decide
  noEq := by intro c hc; simp at hc; subst hc; exact ⟨by decide, by decide⟩

end N0.XPath
