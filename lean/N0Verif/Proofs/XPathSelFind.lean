import N0Verif.Proofs.XPathSelSpec
import N0Verif.Proofs.XPathFound
/-!
  `_find` computes the specification: at any node, the tokens of a selecting tail `ss` have the outcome `selD rl ss x`
  (`find_selD`, by recursion on the steps with one lemma per kind of step: `'..'`, a condition at a dict node, the `[*]`
  loop with any continuation, a key).
-/
namespace N0.XPath
open N0 N0.Py N0.Val

/-- **`'..'` from a field `k` of the node at `p`** (the root, a list element or the value of a key): the text of the walk
loses its last piece, the rest resolves to the node again and the walk continues there with the same text
(`find_up_good` at a text that ends in a key). -/
theorem up_node (root : Val) (entry rl : Bool) (pp : Pos) (pv : Val) (gs : List GSeg) (p : Pos) (x : Val) (k : Str) (rest : List Str)
    (hn : Sel3Norm gs root p x) (hk : PlainKey k) (hpar : getAt root pp = some pv) (hrest : rest ≠ [])
    (fuel : Nat) (hfuel : fuel ≥ max p.length 1) :
    findD (fuel + 1) root [] false entry (['.', '.'] :: rest) (.at pp) rl ('/' :: sel2Render (gs ++ [.key k]))
      = findD fuel root [] false false rest (.at p) rl ('/' :: sel2Render gs) := by
  have := find_up_good root rl entry (hn.good.append (show GoodG [GSeg.key k] from ⟨hk.gKey, trivial⟩)) ((upG_key gs k).symm ▸ hn) pp hpar
    rest hrest fuel (by rw [Nat.max_comm]; exact hfuel)
  rwa [upG_key] at this

/-- **`'..'` from the field `k` of record `j` of the list at `p`**: `up_node` at a list element -/
theorem sel3_up_record (root : Val) (entry rl : Bool) (pp : Pos) (pv : Val) (gs : List GSeg) (p : Pos) (k : Str) (lc : Cls)
    (rs : List Val) (j : Nat) (rec : Val) (rest : List Str) (hn : Sel3Norm gs root p (.list lc rs)) (hk : PlainKey k)
    (hpar : getAt root pp = some pv) (hj : rs[j]? = some rec)
    (hrest : rest ≠ []) (fuel : Nat) (hfuel : fuel ≥ 2 * (p.length + 1)) :
    findD (fuel + 1) root [] false entry (['.', '.'] :: rest) (.at pp) rl ('/' :: sel2Render (gs ++ [.br (natStr j), .key k]))
      = findD fuel root [] false false rest (.at (p ++ [Seg.idx j])) rl ('/' :: sel2Render (gs ++ [.br (natStr j)])) := by
  have := up_node root entry rl pp pv _ _ rec k rest (hn.snoc_idx hj) hk hpar hrest fuel
    (by rw [List.length_append, List.length_singleton]; omega)
  rwa [List.append_assoc] at this

/-- **`'..'` from the field `k` of the dict under the key `name` of the dict at `q`** -/
theorem sel3_up_field (root : Val) (entry rl : Bool) (pp : Pos) (pv : Val) (gs : List GSeg) (q : Pos) (name k : Str) (cls : Cls)
    (kvs : List (Str × Val)) (inner : Val) (rest : List Str) (hn : Sel3Norm gs root q (.dict cls kvs)) (hname : PlainKey name)
    (hl : lookup name kvs = some inner) (hk : PlainKey k) (hpar : getAt root pp = some pv)
    (hrest : rest ≠ []) (fuel : Nat) (hfuel : fuel ≥ 2 * (q.length + 1)) :
    findD (fuel + 1) root [] false entry (['.', '.'] :: rest) (.at pp) rl ('/' :: sel2Render (gs ++ [.key name, .key k]))
      = findD fuel root [] false false rest (.at (q ++ [Seg.key name])) rl ('/' :: sel2Render (gs ++ [.key name])) := by
  have := up_node root entry rl pp pv _ _ inner k rest (hn.snoc_key hname hl) hk hpar hrest fuel
    (by rw [List.length_append, List.length_singleton]; omega)
  rwa [List.append_assoc] at this

section test
variable (root : Val) (rl : Bool) (gs : List GSeg) (p : Pos) (cl : Cls) (kvs : List (Str × Val)) (k op : Str) (v : CondVal)
  (rest : List Str) (out : Option Val) (F : Nat)

/-- `[text() op v]`, `'..'`, further steps at the value of the field `k` of the dict at `p`: the steps run at the dict when
the value passes the comparison -/
theorem text_up_at {T : Str} {kv : Val} (hn : Sel3Norm gs root p (.dict cl kvs)) (hk : PlainKey k)
    (hlk : lookup k kvs = some kv) (hs : splitNameIndex T = .ok ([], .cond sTextFn op v)) (hop : OpSpell op op)
    (hg : textGuard kv v = false) (hrest : rest ≠ [])
    (hcont : ∀ fu ≥ F, Sel2Out root (findD fu root [] false false rest (.at p) rl ('/' :: sel2Render gs)) out)
    (fuel : Nat) (hfuel : fuel ≥ max F p.length + 2) :
    Sel2Out root (findD fuel root [] false false (T :: ['.', '.'] :: rest) (.at (p ++ [.key k])) rl ('/' :: sel2Render (gs ++ [.key k])))
      (if condTest op v kv then out else Option.none) := by
  obtain ⟨g, rfl⟩ : ∃ g, fuel = g + 2 := ⟨fuel - 2, by omega⟩
  have hq2 : getAt root (p ++ [.key k]) = some kv := getAt_snoc_key hn.getAt hlk
  rw [find_text_step hq2 hs hop hg]
  cases hc : condTest op v kv with
  | false =>
    simp only [Bool.false_eq_true, if_false]
    exact sel2Out_notFound root _ _ _ _ _ (by simp)
  | true =>
    simp only [if_true]
    by_cases hg1 : g ≥ 1
    · rw [up_node root false rl _ kv gs p _ k rest hn hk hq2 hrest g (by omega)]
      exact hcont g (by omega)
    · have hg0 : g = 0 := by omega
      subst hg0
      obtain ⟨r, hr, _⟩ := hcont 0 (by omega)
      rw [findD_zero] at hr; cases hr

/-- **`[k op v]` at a dict node, any continuation** (a member of a list, the value of a key, the root): the node passes the
gate, then the further steps run at the node itself.  `T` is the token as written, or as `findD` re-emits it for `name[k op v]`. -/
theorem cond_at_dict {T : Str} (hn : Sel3Norm gs root p (.dict cl kvs)) (hk : PlainKey k) (hkt : k ≠ sTextFn)
    (hs1 : splitNameIndex T = .ok ([], .cond k op v))
    (hs2 : splitNameIndex (bracket (sTextFn ++ op ++ condValStr v)) = .ok ([], .cond sTextFn op v)) (hop : OpSpell op op)
    (hg : ∀ kv, lookup k kvs = some kv → textGuard kv v = false) (hrest : rest ≠ [])
    (hcont : ∀ fu ≥ F, Sel2Out root (findD fu root [] false false rest (.at p) rl ('/' :: sel2Render gs)) out)
    (fuel : Nat) (hfuel : fuel ≥ max F p.length + 3) :
    Sel2Out root (findD fuel root [] false false (T :: rest) (.at p) rl ('/' :: sel2Render gs)) (sel2Gate k op v (.dict cl kvs) out) := by
  obtain ⟨g, rfl⟩ : ∃ g, fuel = g + 1 := ⟨fuel - 1, by omega⟩
  cases hlk : lookup k kvs with
  | none =>
    rw [findD_cond_miss (par := .at p) rfl hn.getAt hs1 hkt hlk]
    simpa [sel2Gate, hlk] using sel2Out_notFound root _ _ _ _ _ (by simp)
  | some kv =>
    rw [findD_cond_step (par := .at p) rfl hn.getAt hs1 hkt hlk, childRef_at, sel3_fnd_key]
    simpa [sel2Gate, hlk] using text_up_at root rl gs p cl kvs k op v rest out F hn hk hlk hs2 hop (hg kv hlk) hrest hcont g (by omega)

/-- **`k[text() op v]`, `'..'` at a dict node, any continuation**: the same outcome as `[k op v]` -/
theorem text_at_dict {T : Str} (hn : Sel3Norm gs root p (.dict cl kvs)) (hk : PlainKey k)
    (hs1 : splitNameIndex T = .ok (k, .cond sTextFn op v))
    (hs2 : splitNameIndex (bracket (sTextFn ++ op ++ ['\''] ++ condValStr v ++ ['\''])) = .ok ([], .cond sTextFn op v))
    (hop : OpSpell op op) (hg : ∀ kv, lookup k kvs = some kv → textGuard kv v = false) (hrest : rest ≠ [])
    (hcont : ∀ fu ≥ F, Sel2Out root (findD fu root [] false false rest (.at p) rl ('/' :: sel2Render gs)) out)
    (fuel : Nat) (hfuel : fuel ≥ max F p.length + 3) :
    Sel2Out root (findD fuel root [] false false (T :: ['.', '.'] :: rest) (.at p) rl ('/' :: sel2Render gs))
      (sel2Gate k op v (.dict cl kvs) out) := by
  obtain ⟨g, rfl⟩ : ∃ g, fuel = g + 1 := ⟨fuel - 1, by omega⟩
  cases hlk : lookup k kvs with
  | none =>
    rw [findD_key_miss (par := .at p) rfl hn.getAt hs1 hk.ne hk.notUp hk.keyTok.notStar hlk]
    simpa [sel2Gate, hlk] using sel2Out_notFound root _ _ _ _ _ (by simp)
  | some kv =>
    rw [findD_keycond_step (par := .at p) rfl hn.getAt hs1 hk.ne hk.notUp hk.keyTok.notStar hlk, childRef_at, sel3_fnd_key]
    simpa [sel2Gate, hlk] using text_up_at root rl gs p cl kvs k op v rest out F hn hk hlk hs2 hop (hg kv hlk) hrest hcont g (by omega)

end test

section loops
variable (root : Val) (rl : Bool) {q : Pos} {lc : Cls} {rs : List Val} {found : Str}

/-- the loop over the members of the list at `q`: the outcomes of the further tokens at the members, collected -/
theorem fan_loop (hq : getAt root q = some (.list lc rs)) (toks : List Str) (htoks : toks ≠ []) (all : List Str) (hall : all ≠ [])
    (o : Val → Option Val) (F : Nat)
    (helem : ∀ (j : Nat) (rec : Val), rs[j]? = some rec → ∀ fu ≥ F, Sel2Out root
      (findD fu root [] false false toks (.at (q ++ [.idx j])) rl (found ++ bracket (intStr (j : Int)))) (o rec))
    (fuel : Nat) (hfuel : fuel ≥ F + rs.length + 2) :
    Sel2Out root (starIdx fuel root [] false rs.length 0 toks (.at q) rl found [] Option.none all) (fan rl (rs.map o)) := by
  refine (starIdx_records root [] false toks _ rl _ all hall rs o (F + 1) ?_ fuel (by omega)).out
  intro j rec hj fu hfu
  obtain ⟨h, rfl⟩ : ∃ h, fu = h + 1 := ⟨fu - 1, by omega⟩
  rw [find_idx_step_sp h root [] false rl q _ _ (natStr j) (j : Int) toks htoks lc rs j hq (natStr_idxTok j)
    (normIdx_nat (lt_of_getElem?_eq_some hj))]
  exact helem j rec hj h (by omega)

/-- `[*]` written out -/
theorem star_list (hq : getAt root q = some (.list lc rs)) (rest : List Str) (hrest : rest ≠ []) (o : Val → Option Val) (F : Nat)
    (helem : ∀ (j : Nat) (rec : Val), rs[j]? = some rec → ∀ fu ≥ F, Sel2Out root
      (findD fu root [] false false rest (.at (q ++ [.idx j])) rl (found ++ bracket (intStr (j : Int)))) (o rec))
    (fuel : Nat) (hfuel : fuel ≥ F + rs.length + 3) :
    Sel2Out root (findD fuel root [] false false (bracket ['*'] :: rest) (.at q) rl found) (fan rl (rs.map o)) := by
  obtain ⟨g, rfl⟩ : ∃ g, fuel = g + 1 := ⟨fuel - 1, by omega⟩
  rw [findD_star_idx (par := .at q) rfl hq split_star]
  exact fan_loop root rl hq rest hrest _ (by simp) o F helem g (by omega)

/-- a name or a condition applied to the list at `q` (`hon`: the engine supplies the `[*]`): applied to every member -/
theorem lift_list (hq : getAt root q = some (.list lc rs)) (T : Str) (rest : List Str)
    (hon : ∀ fuel, findD (fuel + 1) root [] false false (T :: rest) (.at q) rl found
      = findD fuel root [] false false (bracket ['*'] :: T :: rest) (.at q) rl found)
    (o : Val → Option Val) (F : Nat)
    (helem : ∀ (j : Nat) (rec : Val), rs[j]? = some rec → ∀ fu ≥ F, Sel2Out root
      (findD fu root [] false false (T :: rest) (.at (q ++ [.idx j])) rl (found ++ bracket (intStr (j : Int)))) (o rec))
    (fuel : Nat) (hfuel : fuel ≥ F + rs.length + 4) :
    Sel2Out root (findD fuel root [] false false (T :: rest) (.at q) rl found) (fan rl (rs.map o)) := by
  obtain ⟨g, rfl⟩ : ∃ g, fuel = g + 1 := ⟨fuel - 1, by omega⟩
  rw [hon]
  exact star_list root rl hq _ (by simp) o F helem g (by omega)

end loops

/-- the tokens `toks` have, at every node where the steps `ss` make sense, the outcome the steps specify -/
def Claim (root : Val) (rl : Bool) (ss : List SelStep) (toks : List Str) : Prop :=
  ∀ (gs : List GSeg) (p : Pos) (x : Val), Sel3Norm gs root p x → SelOK ss x → ∀ (fu : Nat), SelFuel ss p.length x fu →
    Sel2Out root (findD fu root [] false false toks (.at p) rl ('/' :: sel2Render gs)) (selD rl ss x)

section claims
variable (root : Val) (rl : Bool)

theorem claim_star (ss : List SelStep) (hss : selToks ss ≠ []) (ih : Claim root rl ss (selToks ss)) :
    Claim root rl (.star :: ss) (selToks (.star :: ss)) := by
  intro gs p x hn hok fu hfu
  obtain ⟨lc, rs, rfl, hrs⟩ := hok
  obtain ⟨F, hmem, hlen⟩ : ∃ F, (∀ r ∈ rs, SelFuel ss (p.length + 1) r F) ∧ fu ≥ F + rs.length + 3 := hfu
  rw [selToks_star]
  refine star_list root rl hn.getAt _ hss (selD rl ss) F (fun j rec hj fu' hfu' => ?_) fu hlen
  have hm := List.mem_of_getElem? hj
  rw [sel3_fnd_idx]
  exact ih _ _ rec (hn.snoc_idx hj) (hrs rec hm) fu'
    (by rw [List.length_append]; exact (hmem rec hm).mono hfu')

/-- a test (`[k op v]` with the token `T`, or the `text()` form) followed by `ss`: `hD` is the step at a dict node, `hon` says
that the engine supplies `[*]` at a list -/
theorem claim_test {c : CondSp} (ss : List SelStep) (T : Str) (rest : List Str)
    (hon : ∀ {gs p lc rs}, Sel3Norm gs root p (.list lc rs) → ∀ fuel,
      findD (fuel + 1) root [] false false (T :: rest) (.at p) rl ('/' :: sel2Render gs)
        = findD fuel root [] false false (bracket ['*'] :: T :: rest) (.at p) rl ('/' :: sel2Render gs))
    (hD : ∀ (gs : List GSeg) (p : Pos) (cl : Cls) (kvs : List (Str × Val)), Sel3Norm gs root p (.dict cl kvs) →
      (∀ kv, lookup c.k kvs = some kv → textGuard kv (.str c.v) = false) → SelOK ss (.dict cl kvs) → ∀ (fu : Nat),
      stepFuelD (.cond c) (SelFuel ss) p.length (.dict cl kvs) fu →
      Sel2Out root (findD fu root [] false false (T :: rest) (.at p) rl ('/' :: sel2Render gs)) (gateAt c (selD rl ss) (.dict cl kvs)))
    (gs : List GSeg) (p : Pos) (x : Val) (hn : Sel3Norm gs root p x)
    (hmem : ∀ r ∈ members x, ∃ cl kvs, r = Val.dict cl kvs ∧
      (∀ kv, lookup c.k kvs = some kv → textGuard kv (.str c.v) = false) ∧ SelOK ss r)
    (fu : Nat) (hfu : stepFuel (.cond c) (SelFuel ss) p.length x fu) :
    Sel2Out root (findD fu root [] false false (T :: rest) (.at p) rl ('/' :: sel2Render gs)) (onList rl (gateAt c (selD rl ss)) x) := by
  cases x with
  | list lc rs =>
    obtain ⟨F, hrs, hlen⟩ : ∃ F, (∀ r ∈ rs, stepFuelD (.cond c) (SelFuel ss) (p.length + 1) r F) ∧ fu ≥ F + rs.length + 4 := hfu
    refine lift_list root rl hn.getAt T rest (hon hn) _ F (fun j rec hj fu' hfu' => ?_) fu hlen
    have hm := List.mem_of_getElem? hj
    rw [sel3_fnd_idx]
    obtain ⟨cl, kvs, rfl, hg, hok⟩ := hmem rec hm
    exact hD _ _ cl kvs (hn.snoc_idx hj) hg hok fu' (by rw [List.length_append]; exact stepFuelD_mono (hrs _ hm) hfu')
  | dict cl kvs =>
    obtain ⟨cl', kvs', h, hg, hok⟩ := hmem _ (List.mem_singleton.mpr rfl)
    cases h
    exact hD gs p cl kvs hn hg hok fu hfu
  | _ => obtain ⟨_, _, h, _⟩ := hmem _ (List.mem_singleton.mpr rfl); cases h

theorem claim_cond (c : CondSp) (hc : c.OK) (T : Str) (hT : splitNameIndex T = .ok ([], .cond c.k c.op (.str c.v)))
    (ss : List SelStep) (hss : selToks ss ≠ []) (ih : Claim root rl ss (selToks ss))
    (gs : List GSeg) (p : Pos) (x : Val) (hn : Sel3Norm gs root p x)
    (hmem : ∀ r ∈ members x, ∃ cl kvs, r = Val.dict cl kvs ∧
      (∀ kv, lookup c.k kvs = some kv → textGuard kv (.str c.v) = false) ∧ SelOK ss r)
    (fu : Nat) (hfu : stepFuel (.cond c) (SelFuel ss) p.length x fu) :
    Sel2Out root (findD fu root [] false false (T :: selToks ss) (.at p) rl ('/' :: sel2Render gs)) (onList rl (gateAt c (selD rl ss)) x) := by
  have hopc := opSpell_canon hc.op
  refine claim_test root rl (c := c) ss T (selToks ss)
    (fun hn' fuel => findD_cond_on_list rfl hn'.getAt hT hc.key.notText) (fun gs p cl kvs hn hg hok fu ⟨F, hF, h1, h2⟩ => ?_) gs p x hn hmem fu hfu
  exact cond_at_dict root rl gs p cl kvs c.k c.op (.str c.v) (selToks ss) _ F hn hc.key.plain hc.key.notText hT
    (split_text_bare c.op c.v hopc hc.plain) hopc hg hss (fun fu' hfu' => ih gs p _ hn hok fu' (hF.mono hfu')) fu
    (by omega)

theorem claim_text (c : CondSp) (hc : c.OK) (ss : List SelStep) (hss : selToks ss ≠ []) (ih : Claim root rl ss (selToks ss))
    (htoks : selToks (.text c :: ss) = (c.k ++ bracket (sTextFn ++ c.opx ++ c.vq)) :: ['.', '.'] :: selToks ss) :
    Claim root rl (.text c :: ss) (selToks (.text c :: ss)) := by
  intro gs p x hn hmem fu hfu
  have hopc := opSpell_canon hc.op
  have hs1 := split_cond c.k sTextFn c.opx c.op c.vq c.v (Or.inr hc.key.plain) condKey_text hc.op hc.lit hc.plain
  rw [htoks]
  refine claim_test root rl (c := c) ss _ _
    (fun hn' fuel => findD_name_on_list rfl hn'.getAt hs1 hc.key.plain.ne hc.key.plain.notUp)
    (fun gs p cl kvs hn hg hok fu ⟨F, hF, h1, h2⟩ => ?_) gs p x hn hmem fu ((stepFuel_text c _ _ x fu).mp hfu)
  exact text_at_dict root rl gs p cl kvs c.k c.op (.str c.v) (selToks ss) _ F hn hc.key.plain hs1
    (split_text_quoted c.op c.v hopc hc.plain) hopc hg hss (fun fu' hfu' => ih gs p _ hn hok fu' (hF.mono hfu')) fu
    (by omega)

/-- a key followed by `ss`; `hsome` is the step into the value of the key at a dict node (the last key, a key of its own, a
key with `[*]` or a condition attached) -/
theorem claim_key (n : Str) (hname : PlainKey n) (ss : List SelStep) (T : Str) (idx : Idx) (rest : List Str)
    (hT : splitNameIndex T = .ok (n, idx))
    (hsome : ∀ (gs : List GSeg) (p : Pos) (cl : Cls) (kvs : List (Str × Val)) (y : Val), Sel3Norm gs root p (.dict cl kvs) →
      lookup n kvs = some y → SelOK ss y → ∀ (g : Nat), SelFuel ss (p.length + 1) y g →
      Sel2Out root (findD (g + 1) root [] false false (T :: rest) (.at p) rl ('/' :: sel2Render gs)) (selD rl ss y)) :
    Claim root rl (.key n :: ss) (T :: rest) := by
  have hD : ∀ (gs : List GSeg) (p : Pos) (cl : Cls) (kvs : List (Str × Val)), Sel3Norm gs root p (.dict cl kvs) →
      (∀ y, lookup n kvs = some y → SelOK ss y) → ∀ (fu : Nat),
      stepFuelD (.key n) (SelFuel ss) p.length (.dict cl kvs) fu →
      Sel2Out root (findD fu root [] false false (T :: rest) (.at p) rl ('/' :: sel2Render gs)) (keyAt n (selD rl ss) (.dict cl kvs)) := by
    intro gs p cl kvs hn hok fu hfu
    obtain ⟨F, h2, h1⟩ : ∃ F, (∀ y, lookup n kvs = some y → SelFuel ss (p.length + 1) y F) ∧ fu ≥ F + 1 := hfu
    obtain ⟨g, rfl⟩ : ∃ g, fu = g + 1 := ⟨fu - 1, (Nat.sub_add_cancel (Nat.le_trans (Nat.le_add_left 1 F) h1)).symm⟩
    show Sel2Out root _ ((lookup n kvs).bind (selD rl ss))
    cases hl : lookup n kvs with
    | none =>
      rw [findD_key_miss (par := .at p) rfl hn.getAt hT hname.ne hname.notUp hname.keyTok.notStar hl]
      exact sel2Out_notFound root _ _ _ _ _ (by simp)
    | some y => exact hsome gs p cl kvs y hn hl (hok y hl) g ((h2 y hl).mono (Nat.le_of_succ_le_succ h1))
  intro gs p x hn hmem fu hfu
  cases x with
  | list lc rs =>
    obtain ⟨F, hrs, hlen⟩ : ∃ F, (∀ r ∈ rs, stepFuelD (.key n) (SelFuel ss) (p.length + 1) r F) ∧ fu ≥ F + rs.length + 4 := hfu
    refine lift_list root rl hn.getAt T rest (fun fuel => findD_name_on_list rfl hn.getAt hT hname.ne hname.notUp) _
      F (fun j rec hj fu' hfu' => ?_) fu hlen
    have hm := List.mem_of_getElem? hj
    rw [sel3_fnd_idx]
    obtain ⟨cl, kvs, rfl, hoky⟩ := hmem rec hm
    refine hD _ _ cl kvs (hn.snoc_idx hj) hoky fu' ?_
    rw [List.length_append]
    exact stepFuelD_mono (hrs _ hm) hfu'
  | dict cl kvs =>
    obtain ⟨cl', kvs', h, hoky⟩ := hmem _ (List.mem_singleton.mpr rfl)
    cases h
    exact hD gs p cl kvs hn hoky fu hfu
  | _ => obtain ⟨_, _, h, _⟩ := hmem _ (List.mem_singleton.mpr rfl); cases h

end claims

/-- **Selection, node level.**  At any node `x` (position `p`; the walk to it has written `gs`), the tokens of the steps
`s :: ss` have the outcome `selD rl (s :: ss) x`; the tree is unchanged. -/
theorem find_selD (root : Val) (rl : Bool) : ∀ (s : SelStep) (ss : List SelStep), SelWF (s :: ss) → Claim root rl (s :: ss) (selToks (s :: ss))
  | .key n, [], hw => by
    refine claim_key root rl n hw.1 [] n .none [] hw.1.keyTok.split (fun gs p cl kvs y hn hl _ g _ => ?_)
    rw [find_key_last g root false rl p _ n cl kvs y hn.getAt hw.1.keyTok hl]
    exact sel2Out_found root _ _ _ _
  | .key n, .key m :: ss, hw => by
    refine claim_key root rl n hw.1 _ n .none (selToks (.key m :: ss)) hw.1.keyTok.split (fun gs p cl kvs y hn hl hoky g hg => ?_)
    rw [find_key_step_sp g root [] false rl p _ n _ cl kvs y (selToks_ne_nil _ _) hn.getAt hw.1.keyTok hl, sel3_fnd_key]
    exact find_selD root rl (.key m) ss hw.2 _ _ y (hn.snoc_key hw.1 hl) hoky g (by rw [List.length_append]; exact hg)
  | .key n, .text c :: ss, hw => by
    refine claim_key root rl n hw.1 _ n .none (selToks (.text c :: ss)) hw.1.keyTok.split (fun gs p cl kvs y hn hl hoky g hg => ?_)
    rw [find_key_step_sp g root [] false rl p _ n _ cl kvs y (selToks_ne_nil _ _) hn.getAt hw.1.keyTok hl, sel3_fnd_key]
    exact find_selD root rl (.text c) ss hw.2 _ _ y (hn.snoc_key hw.1 hl) hoky g (by rw [List.length_append]; exact hg)
  | .key n, .star :: ss, hw => by
    have hT := split_bracket n ['*'] (Or.inr hw.1) star_idxExpr
    refine claim_key root rl n hw.1 _ (n ++ bracket ['*']) (.str ['*']) (selToks ss) hT (fun gs p cl kvs y hn hl hoky g hg => ?_)
    rw [findD_keyidx_step (par := .at p) rfl hn.getAt hT hw.1.ne hw.1.notUp hw.1.keyTok.notStar hl, childRef_at, sel3_fnd_key, ← selToks_star]
    exact find_selD root rl .star ss hw.2 _ _ y (hn.snoc_key hw.1 hl) hoky g (by rw [List.length_append]; exact hg)
  | .key n, [.cond c], hw => absurd rfl hw.2.2.1
  | .key n, .cond c :: s :: ss, hw => by
    obtain ⟨hname, hc, _, hw'⟩ := hw
    have hT : splitNameIndex (n ++ bracket c.text) = .ok (n, .cond c.k c.op (.str c.v)) :=
      split_cond n c.k c.opx c.op c.vq c.v (Or.inr hname) hc.key.cond hc.op hc.lit hc.plain
    refine claim_key root rl n hname _ (n ++ bracket c.text) _ (selToks (s :: ss)) hT (fun gs p cl kvs y hn hl hoky g hg => ?_)
    rw [findD_keycond_step (par := .at p) rfl hn.getAt hT hname.ne hname.notUp hname.keyTok.notStar hl, childRef_at, sel3_fnd_key]
    exact claim_cond root rl c hc _ (split_cond_reemit c.k c.op c.v hc.key (opSpell_canon hc.op) hc.plain) (s :: ss) (selToks_ne_nil s ss)
      (find_selD root rl s ss hw') _ _ y (hn.snoc_key hname hl) hoky g
      (by rw [List.length_append]; exact hg)
  | .star, [], hw => absurd rfl hw.1
  | .star, s :: ss, hw => claim_star root rl (s :: ss) (selToks_ne_nil s ss) (find_selD root rl s ss hw.2)
  | .cond c, [], hw => absurd rfl hw.2.1
  | .cond c, s :: ss, hw => by
    intro gs p x hn hmem fu hfu
    rw [selToks_cond]
    exact claim_cond root rl c hw.1 _
      (by simpa [CondSp.text] using split_cond [] c.k c.opx c.op c.vq c.v (Or.inl rfl) hw.1.key.cond hw.1.op hw.1.lit hw.1.plain)
      (s :: ss) (selToks_ne_nil s ss) (find_selD root rl s ss hw.2.2) gs p x hn hmem fu hfu
  | .text c, [], hw => by obtain ⟨_, ⟨_, _, h, _⟩, _⟩ := hw; cases h
  | .text c, .key m :: ss, hw =>
    claim_text root rl c hw.1 (.key m :: ss) (selToks_ne_nil _ _) (find_selD root rl (.key m) ss hw.2.2) (selToks_text_key c m ss)
  | .text c, .text c' :: ss, hw =>
    claim_text root rl c hw.1 (.text c' :: ss) (selToks_ne_nil _ _) (find_selD root rl (.text c') ss hw.2.2) (selToks_text_text c c' ss)
  | .text c, .star :: ss, hw => by obtain ⟨_, ⟨_, _, h, hs⟩, _⟩ := hw; cases h; cases hs
  | .text c, .cond _ :: ss, hw => by obtain ⟨_, ⟨_, _, h, hs⟩, _⟩ := hw; cases h; cases hs

end N0.XPath
