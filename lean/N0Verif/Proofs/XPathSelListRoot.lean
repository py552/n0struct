import N0Verif.Proofs.XPathSelPaths
/-!
  Selecting paths in an **n0list-rooted** tree (fix C06-f).  `n0list._find` keeps itself as `self` when it hands a dict element
  to `n0dict._find` (`dispatchD`: `sp` stays the root), and a name or a condition applied to a list is handed to `n0dict._find`
  as it is (which supplies the skipped `[*]`); so `find_selD`, which only assumes `sp = []`, applies.  The three families of
  selecting tails for a record list that is the root list itself or sits below it are instances of `Proofs/XPathSelPaths.lean`.
  Prefixes: `xa_` the star and predicate tails on a record list that IS the root (and the `findL` branches of `XPathSelSteps`);
  `xld_` the record list below the root, reached by `xld_walk`, and the chained tail in both places; `xlds_` the same at string
  level, any spelling of the walk.
-/
namespace N0.XPath
open N0 N0.Py N0.Val

/-- **Fan-out on a list root, token level.**  `t` is an n0list of dict records.  `n0list._find` on `["[*]", f]` (its own loop over
the elements) and on `[f]` (the shorthand: the name is handed to `n0dict._find`, which supplies the `[*]`) finds exactly
`[r[f] for r in rs if f in r]`, for both values of `return_lists`; the tree is unchanged. -/
theorem xa_star_list_root (lc : Cls) (rs : List Val) (rl : Bool) (f : Str) (hrs : ∀ r ∈ rs, isDict r = true) (hf : PlainKey f)
    (fuel : Nat) (hfuel : fuel ≥ rs.length + 6) :
    ∀ toks ∈ [[bracket ['*'], f], [f]],
      Sel2Coll (.list lc rs) rl (findL fuel (.list lc rs) [] toks (.at []) rl slash) (somes (rs.map (fieldOf f))) := by
  intro toks htoks
  simp only [List.mem_cons, List.not_mem_nil, or_false] at htoks
  rcases htoks with rfl | rfl
  · exact select_coll_list (.list lc rs) rl (.nil _) ⟨lc, rs, rfl⟩ (star_case hrs hf) fuel (by simp only [List.length_nil]; omega) _ (.plain _)
  · exact select_coll_list (.list lc rs) rl (.nil _) ⟨lc, rs, rfl⟩ (key_case hrs hf) fuel (by simp only [List.length_nil]; omega) _ (.plain _)

/-- **Predicates on a list root, token level.**  `t` is an n0list of dict records.  `n0list._find` on `["[k op v]", f]` and on
`["k[text() op v]", "..", f]` - a condition / a name applied to the list: handed to `n0dict._find` with `self` = the list, so
that the `'..'` of the rewritten condition (`findD` re-emits `[k op v]` at a record as `k[text() op v]`, `'..'`) resolves `/[j]`
from the list again - finds `f` of exactly the records whose `k` passes the comparison, for both values of `return_lists`; the
tree is unchanged. -/
theorem xa_pred_list_root (lc : Cls) (rs : List Val) (rl : Bool) (k f opx op vq v : Str)
    (hk : FieldKey k) (hf : PlainKey f) (hop : OpSpell opx op) (hlit : LitSpell vq v) (hv : PlainLit v)
    (hrs : ∀ r ∈ rs, isDict r = true)
    (hg : ∀ c kvs' kv, Val.dict c kvs' ∈ rs → lookup k kvs' = some kv → textGuard kv (.str v) = false)
    (fuel : Nat) (hfuel : fuel ≥ rs.length + 12) :
    ∀ toks ∈ [[bracket (k ++ opx ++ vq), f], [k ++ bracket (sTextFn ++ opx ++ vq), ['.', '.'], f]],
      Sel2Coll (.list lc rs) rl (findL fuel (.list lc rs) [] toks (.at []) rl slash)
        (somes (rs.map (condOutcome k f op (.str v)))) := by
  intro toks htoks
  let c : CondSp := ⟨k, opx, op, vq, v⟩
  have hc : c.OK := ⟨hk, hop, hlit, hv⟩
  simp only [List.mem_cons, List.not_mem_nil, or_false] at htoks
  rcases htoks with rfl | rfl
  · exact select_coll_list (.list lc rs) rl (.nil _) ⟨lc, rs, rfl⟩ (cond_case hrs hc hf hg) fuel (by simp only [List.length_nil]; omega) _
      (.plain _)
  · exact select_coll_list (.list lc rs) rl (.nil _) ⟨lc, rs, rfl⟩ (text_case hrs hc hf hg) fuel (by simp only [List.length_nil]; omega) _
      (.plain _)

theorem xa_getCore_of_findL (lc : Cls) (xs : List Val) (xp : Str) (toks : List Str) (d : Val) (raise rl : Bool)
    (fuel : Nat) (r : Res)
    (hq : startsWith xp ['?'] = false) (hpc : hasPathChar xp = true) (htok : tokenize xp = toks)
    (hr : findL fuel (.list lc xs) [] toks (.at []) rl slash = .ok (.list lc xs, r)) :
    getCore fuel (.list lc xs) xp d raise rl
      = (.list lc xs, if r.isFound then .ok r.value else if raise then .error .IndexError else .ok d) :=
  getCore_of_rootFind d raise hq hpc htok hr

/-- **API layer, list receiver**: `select_api_root` for an n0list root, one list of values for both `return_lists` -/
theorem xa_select_api (lc : Cls) (xs : List Val) (xp : Str) (toks : List Str) (vals : List Val) (d : Val)
    (fuel : Nat) (hq : startsWith xp ['?'] = false) (hpc : hasPathChar xp = true) (htok : tokenize xp = toks)
    (hfind : ∀ rl, Sel2Coll (.list lc xs) rl (findL fuel (.list lc xs) [] toks (.at []) rl slash) vals) :
    get fuel (.list lc xs) xp d = (.list lc xs, .ok (if vals.isEmpty then d else .list .n0 vals)) ∧
    getItem fuel (.list lc xs) xp = (.list lc xs, if vals.isEmpty then .error .IndexError else .ok (.list .n0 vals)) ∧
    first fuel (.list lc xs) xp d = (.list lc xs, .ok (firstOf vals d)) :=
  select_api_root (.list lc xs) xp toks vals vals d fuel hq hpc htok (hfind true) (hfind false)


/-- **Fan-out below a list root, token level.**  `t` is an n0list; `toksP` (plain keys, index steps in any spelling) spell the
position of a list of dict records below it.  `toksP ++ ["[*]", f]`, `toksP ++ [f]` and - when the last token of `toksP` is a key
`name` - the merged `… "name[*]", f` select `[r[f] for r in rs if f in r]`, for both values of `return_lists`. -/
theorem xld_star_spelled (t : Val) (rl : Bool) {toksP : List Str} {p : Pos} {lc : Cls} {rs : List Val} (f : Str)
    (hroot : ∃ cls xs, t = .list cls xs)
    (hs : Sel3Spells toksP t p (.list lc rs)) (hne : toksP ≠ []) (hrs : ∀ r ∈ rs, isDict r = true) (hf : PlainKey f)
    (fuel : Nat) (hfuel : fuel ≥ 2 * toksP.length + rs.length + 6) :
    (∀ tail ∈ [[bracket ['*'], f], [f]],
      Sel2Coll t rl (findL fuel t [] (toksP ++ tail) (.at []) rl slash) (somes (rs.map (fieldOf f)))) ∧
    (∀ toks' name, toksP = toks' ++ [name] → PlainKey name → toks' ≠ [] →
      Sel2Coll t rl (findL fuel t [] (toks' ++ [name ++ bracket ['*'], f]) (.at []) rl slash) (somes (rs.map (fieldOf f)))) := by
  have hpl := hs.pos_length
  refine ⟨fun tail htail => ?_, fun toks' name htoks hname _ => ?_⟩
  · simp only [List.mem_cons, List.not_mem_nil, or_false] at htail
    rcases htail with rfl | rfl
    · exact select_coll_list t rl hs hroot (star_case hrs hf) fuel (by omega) _ (.plain _)
    · exact select_coll_list t rl hs hroot (key_case hrs hf) fuel (by omega) _ (.plain _)
  · exact select_coll_list t rl hs hroot (star_case hrs hf) fuel (by omega) _ (.merged htoks hname)

/-- **Predicates below a list root, token level.**  As `xld_star_spelled` for `toksP ++ ["[k op v]", f]`,
`toksP ++ ["k[text() op v]", "..", f]` and the merged `… "name[k op v]", f`: `f` of exactly the records whose `k` passes.  The
`'..'` of the (rewritten) condition re-resolves the `found` text - the canonical path of `P[j]/k`, starting with the index of
the root list - from `self` = the root list. -/
theorem xld_pred_spelled (t : Val) (rl : Bool) {toksP : List Str} {p : Pos} {lc : Cls} {rs : List Val} (k f opx op vq v : Str)
    (hroot : ∃ cls xs, t = .list cls xs)
    (hs : Sel3Spells toksP t p (.list lc rs)) (hne : toksP ≠ []) (hk : FieldKey k) (hf : PlainKey f) (hop : OpSpell opx op)
    (hlit : LitSpell vq v) (hv : PlainLit v) (hrs : ∀ r ∈ rs, isDict r = true)
    (hg : ∀ c kvs' kv, Val.dict c kvs' ∈ rs → lookup k kvs' = some kv → textGuard kv (.str v) = false)
    (fuel : Nat) (hfuel : fuel ≥ 6 * toksP.length + rs.length + 14) :
    (∀ tail ∈ [[bracket (k ++ opx ++ vq), f], [k ++ bracket (sTextFn ++ opx ++ vq), ['.', '.'], f]],
      Sel2Coll t rl (findL fuel t [] (toksP ++ tail) (.at []) rl slash) (somes (rs.map (condOutcome k f op (.str v))))) ∧
    (∀ toks' name, toksP = toks' ++ [name] → PlainKey name → toks' ≠ [] →
      Sel2Coll t rl (findL fuel t [] (toks' ++ [name ++ bracket (k ++ opx ++ vq), f]) (.at []) rl slash)
        (somes (rs.map (condOutcome k f op (.str v))))) := by
  let c : CondSp := ⟨k, opx, op, vq, v⟩
  have hc : c.OK := ⟨hk, hop, hlit, hv⟩
  have hpl := hs.pos_length
  have h1 := fun toks ht => select_coll_list t rl hs hroot (cond_case hrs hc hf hg) fuel (by omega) toks ht
  refine ⟨fun tail htail => ?_, fun toks' name htoks hname _ => h1 _ (.merged htoks hname)⟩
  simp only [List.mem_cons, List.not_mem_nil, or_false] at htail
  rcases htail with rfl | rfl
  · exact h1 _ (.plain _)
  · exact select_coll_list t rl hs hroot (text_case hrs hc hf hg) fuel (by omega) _ (.plain _)

/-- **Selection on the root list itself, string level.**  The root n0list is the record list of a family of tails.  The text of the
tail as it is rendered (`[*]/f`, `/f`), the same with one more slash in front, and — when the tail starts with a name that something
follows — the text without its leading slash (`k[text() op v]/../f`): `get` and item access return the values (the default /
`IndexError` when there are none), `first` the unwrapped `return_lists = False` ones. -/
theorem select_root_string {lc : Cls} {rs : List Val} {s : SelStep} {ss : List SelStep} {B : Nat → Nat} {vals : Bool → List Val}
    (h : SelCase lc rs s ss B vals) (d : Val) (fuel : Nat) (hfuel : fuel ≥ B 0 + 1) (xp : Str)
    (hxp : xp = sel2Render (selG (s :: ss)) ∨ xp = '/' :: sel2Render (selG (s :: ss)) ∨
      ∃ k g G, selG (s :: ss) = .key k :: g :: G ∧ xp = k ++ sel2Render (g :: G)) :
    get fuel (.list lc rs) xp d = (.list lc rs, .ok (if (vals true).isEmpty then d else .list .n0 (vals true))) ∧
    getItem fuel (.list lc rs) xp = (.list lc rs, if (vals true).isEmpty then .error .IndexError else .ok (.list .n0 (vals true))) ∧
    first fuel (.list lc rs) xp d = (.list lc rs, .ok (firstOf (vals false) d)) := by
  have hg := selG_good _ h.wf
  have hsel := fun rl => select_coll_list (.list lc rs) rl (.nil _) ⟨lc, rs, rfl⟩ h fuel (by simp only [List.length_nil]; omega) _ (.plain _)
  refine select_api_root (.list lc rs) xp _ _ _ d fuel ?_ ?_ ?_ (hsel true) (hsel false)
  all_goals rcases hxp with rfl | rfl | ⟨k, g, G, hG, rfl⟩
  · cases s <;> simp [selG, SelStep.segs, sel2Render_key, sel2Render_br, bracket, startsWith]
  · exact slash_noQ _
  · have hk : PlainKey k := by
      cases s with
      | key n => cases (List.cons.inj hG).1; exact h.wf.1
      | text c => cases (List.cons.inj hG).1; exact h.wf.1.key.plain
      | star => cases (List.cons.inj hG).1
      | cond c => cases (List.cons.inj hG).1
    exact hk.head_ne_q _
  · cases s <;> simp [selG, SelStep.segs, sel2Render_key, sel2Render_br, bracket, hasPathChar]
  · exact slash_hasPathChar _
  · cases g <;> simp [sel2Render_key, sel2Render_br, bracket, hasPathChar]
  · exact tokenize_tail _ hg
  · exact sel2_tokenize _ hg
  · rw [hG] at hg ⊢
    exact (tokenize_slash _).symm.trans (tokenize_tail _ hg)

/-- API layer, list receiver, when the two values of `return_lists` collect different lists (chained selections) -/
theorem xld_select_api2 (lc : Cls) (xs : List Val) (xp : Str) (toks : List Str) (valsT valsF : List Val) (d : Val)
    (fuel : Nat) (hq : startsWith xp ['?'] = false) (hpc : hasPathChar xp = true) (htok : tokenize xp = toks)
    (hT : Sel2Coll (.list lc xs) true (findL fuel (.list lc xs) [] toks (.at []) true slash) valsT)
    (hF : Sel2Coll (.list lc xs) false (findL fuel (.list lc xs) [] toks (.at []) false slash) valsF) :
    get fuel (.list lc xs) xp d = (.list lc xs, .ok (if valsT.isEmpty then d else .list .n0 valsT)) ∧
    getItem fuel (.list lc xs) xp = (.list lc xs, if valsT.isEmpty then .error .IndexError else .ok (.list .n0 valsT)) ∧
    first fuel (.list lc xs) xp d = (.list lc xs, .ok (firstOf valsF d)) :=
  select_api_root (.list lc xs) xp toks valsT valsF d fuel hq hpc htok hT hF

/-- **Chained selection on a list root that is itself the outer record list, token level** -/
theorem xld_chained_root (lc : Cls) (rs : List Val) (rl : Bool) (k1 opx1 op1 vq1 v1 items k2 opx2 op2 vq2 v2 f : Str)
    (hk1 : FieldKey k1) (hop1 : OpSpell opx1 op1) (hlit1 : LitSpell vq1 v1)
    (hv1 : PlainLit v1) (hitems : PlainKey items) (hk2 : FieldKey k2) (hop2 : OpSpell opx2 op2) (hlit2 : LitSpell vq2 v2)
    (hv2 : PlainLit v2) (hf : PlainKey f) (hrs : ∀ r ∈ rs, isDict r = true)
    (hg : ∀ c kvs' kv, Val.dict c kvs' ∈ rs → lookup k1 kvs' = some kv → textGuard kv (.str v1) = false)
    (hin : Sel3InnerOK items k2 (.str v2) rs)
    (fuel : Nat) (hfuel : fuel ≥ rs.length + (rs.map (sel2InnerLen items)).sum + 26) :
    Sel2Coll (.list lc rs) rl
      (findL fuel (.list lc rs) [] [bracket (k1 ++ opx1 ++ vq1), items ++ bracket (k2 ++ opx2 ++ vq2), f] (.at []) rl slash)
      (sel3Chained k1 op1 (.str v1) items k2 f op2 (.str v2) rl rs) := by
  let c1 : CondSp := ⟨k1, opx1, op1, vq1, v1⟩
  let c2 : CondSp := ⟨k2, opx2, op2, vq2, v2⟩
  exact select_coll_list (.list lc rs) rl (.nil _) ⟨lc, rs, rfl⟩
    (chained_case (c1 := c1) (c2 := c2) hrs ⟨hk1, hop1, hlit1, hv1⟩ ⟨hk2, hop2, hlit2, hv2⟩ hitems hf hg hin) fuel
    (by simp only [List.length_nil]; omega) _ (.plain _)

/-- **Chained selection below a list root, token level** (`toksP` any spelling of the position of the outer record list; the
merged form when it ends in a key) -/
theorem xld_chained_spelled (t : Val) (rl : Bool) {toksP : List Str} {p : Pos} {lc : Cls} {rs : List Val}
    (k1 opx1 op1 vq1 v1 items k2 opx2 op2 vq2 v2 f : Str) (hroot : ∃ cls xs, t = .list cls xs)
    (hs : Sel3Spells toksP t p (.list lc rs)) (hne : toksP ≠ []) (hk1 : FieldKey k1) (hop1 : OpSpell opx1 op1)
    (hlit1 : LitSpell vq1 v1)
    (hv1 : PlainLit v1) (hitems : PlainKey items) (hk2 : FieldKey k2) (hop2 : OpSpell opx2 op2) (hlit2 : LitSpell vq2 v2)
    (hv2 : PlainLit v2) (hf : PlainKey f) (hrs : ∀ r ∈ rs, isDict r = true)
    (hg : ∀ c kvs' kv, Val.dict c kvs' ∈ rs → lookup k1 kvs' = some kv → textGuard kv (.str v1) = false)
    (hin : Sel3InnerOK items k2 (.str v2) rs)
    (fuel : Nat) (hfuel : fuel ≥ 10 * toksP.length + rs.length + (rs.map (sel2InnerLen items)).sum + 30) :
    Sel2Coll t rl
      (findL fuel t [] (toksP ++ [bracket (k1 ++ opx1 ++ vq1), items ++ bracket (k2 ++ opx2 ++ vq2), f]) (.at []) rl slash)
      (sel3Chained k1 op1 (.str v1) items k2 f op2 (.str v2) rl rs) ∧
    (∀ toks' name, toksP = toks' ++ [name] → PlainKey name → toks' ≠ [] →
      Sel2Coll t rl
        (findL fuel t [] (toks' ++ [name ++ bracket (k1 ++ opx1 ++ vq1), items ++ bracket (k2 ++ opx2 ++ vq2), f])
          (.at []) rl slash)
        (sel3Chained k1 op1 (.str v1) items k2 f op2 (.str v2) rl rs)) := by
  let c1 : CondSp := ⟨k1, opx1, op1, vq1, v1⟩
  let c2 : CondSp := ⟨k2, opx2, op2, vq2, v2⟩
  have hpl := hs.pos_length
  have h1 := fun toks ht => select_coll_list t rl hs hroot
    (chained_case (c1 := c1) (c2 := c2) hrs ⟨hk1, hop1, hlit1, hv1⟩ ⟨hk2, hop2, hlit2, hv2⟩ hitems hf hg hin) fuel (by omega) toks ht
  exact ⟨h1 _ (.plain _), fun toks' name htoks hname _ => h1 _ (.merged htoks hname)⟩

/-- `xld_chained_api` (below) for the root list being the outer record list itself: `[k1 op v1]/items[k2 op v2]/f`, `/[k1 op v1]/items[…]/f` -/
theorem xld_chained_root_api (lc : Cls) (rs : List Val)
    (k1 opx1 op1 vq1 v1 items k2 opx2 op2 vq2 v2 f : Str) (d : Val)
    (hk1 : FieldKey k1) (hop1 : OpSpell opx1 op1) (hlit1 : LitSpell vq1 v1)
    (hv1 : PlainLit v1) (hitems : PlainKey items) (hk2 : FieldKey k2) (hop2 : OpSpell opx2 op2) (hlit2 : LitSpell vq2 v2)
    (hv2 : PlainLit v2) (hf : PlainKey f) (hrs : ∀ r ∈ rs, isDict r = true)
    (hg : ∀ c kvs' kv, Val.dict c kvs' ∈ rs → lookup k1 kvs' = some kv → textGuard kv (.str v1) = false)
    (hin : Sel3InnerOK items k2 (.str v2) rs)
    (fuel : Nat) (hfuel : fuel ≥ rs.length + (rs.map (sel2InnerLen items)).sum + 26)
    (lead : Str) (hlead : lead ∈ [[], slash]) :
    let xp := lead ++ bracket (k1 ++ opx1 ++ vq1) ++ slash ++ items ++ bracket (k2 ++ opx2 ++ vq2) ++ slash ++ f
    let valsT := sel3Chained k1 op1 (.str v1) items k2 f op2 (.str v2) true rs
    let valsF := sel3Chained k1 op1 (.str v1) items k2 f op2 (.str v2) false rs
    get fuel (.list lc rs) xp d = (.list lc rs, .ok (if valsT.isEmpty then d else .list .n0 valsT)) ∧
    getItem fuel (.list lc rs) xp = (.list lc rs, if valsT.isEmpty then .error .IndexError else .ok (.list .n0 valsT)) ∧
    first fuel (.list lc rs) xp d = (.list lc rs, .ok (firstOf valsF d)) := by
  intro xp valsT valsF
  let c1 : CondSp := ⟨k1, opx1, op1, vq1, v1⟩
  let c2 : CondSp := ⟨k2, opx2, op2, vq2, v2⟩
  have hcase := chained_case (lc := lc) (c1 := c1) (c2 := c2) hrs ⟨hk1, hop1, hlit1, hv1⟩ ⟨hk2, hop2, hlit2, hv2⟩ hitems hf hg hin
  simp only [List.mem_cons, List.not_mem_nil, or_false] at hlead
  rcases hlead with rfl | rfl
  · exact select_root_string hcase d fuel (by omega) _
      (.inl (by simp [xp, selG, SelStep.segs, CondSp.text, c1, c2, sel2Render_br, sel2Render_key, sel2Render_nil, slash]))
  · exact select_root_string hcase d fuel (by omega) _
      (.inr (.inl (by simp [xp, selG, SelStep.segs, CondSp.text, c1, c2, sel2Render_br, sel2Render_key, sel2Render_nil, slash])))

/-- **`P[*]/f` and `P/f` below a list root, any spelling of `P`**, string level -/
theorem xlds_star_string (cls : Cls) (xs : List Val) (lead : Lead) (steps : List StepSp) (f : Str) (lc : Cls)
    (rs : List Val) (d : Val) (hp : PlainSteps steps) (hne : steps ≠ [])
    (hget : stepsGet (.list cls xs) steps = some (.list lc rs)) (hf : PlainKey f) (hrs : ∀ r ∈ rs, isDict r = true)
    (fuel : Nat) (hfuel : fuel ≥ 2 * steps.length + rs.length + 6) :
    ∀ xp ∈ [renderSp lead steps ++ bracket ['*'] ++ slash ++ f, renderSp lead steps ++ slash ++ f],
      let vals := somes (rs.map (fieldOf f))
      get fuel (.list cls xs) xp d = (.list cls xs, .ok (if vals.isEmpty then d else .list .n0 vals)) ∧
      getItem fuel (.list cls xs) xp = (.list cls xs, if vals.isEmpty then .error .IndexError else .ok (.list .n0 vals)) ∧
      first fuel (.list cls xs) xp d = (.list cls xs, .ok (firstOf vals d)) := by
  intro xp hxp vals
  exact star_string (.list cls xs) lead steps d hp hne hget (Or.inr rfl) hrs f hf fuel (by simp only [walkCost]; omega) xp hxp

/-- **`P[k op v]/f` and `P/k[text() op v]/../f` below a list root, any spelling of `P`**, string level -/
theorem xlds_pred_string (cls : Cls) (xs : List Val) (lead : Lead) (steps : List StepSp) (k f opx op vq v : Str) (lc : Cls)
    (rs : List Val) (d : Val) (hp : PlainSteps steps) (hne : steps ≠ [])
    (hget : stepsGet (.list cls xs) steps = some (.list lc rs)) (hk : FieldKey k) (hf : PlainKey f) (hop : OpSpell opx op)
    (hlit : LitSpell vq v) (hv : PlainLit v) (hrs : ∀ r ∈ rs, isDict r = true)
    (hg : ∀ c kvs' kv, Val.dict c kvs' ∈ rs → lookup k kvs' = some kv → textGuard kv (.str v) = false)
    (fuel : Nat) (hfuel : fuel ≥ 6 * steps.length + rs.length + 14) :
    ∀ xp ∈ [renderSp lead steps ++ bracket (k ++ opx ++ vq) ++ slash ++ f,
            renderSp lead steps ++ slash ++ k ++ bracket (sTextFn ++ opx ++ vq) ++ slash ++ ['.', '.'] ++ slash ++ f],
      let vals := somes (rs.map (condOutcome k f op (.str v)))
      get fuel (.list cls xs) xp d = (.list cls xs, .ok (if vals.isEmpty then d else .list .n0 vals)) ∧
      getItem fuel (.list cls xs) xp = (.list cls xs, if vals.isEmpty then .error .IndexError else .ok (.list .n0 vals)) ∧
      first fuel (.list cls xs) xp d = (.list cls xs, .ok (firstOf vals d)) := by
  intro xp hxp vals
  exact pred_string (.list cls xs) lead steps d hp hne hget (Or.inr rfl) hrs ⟨k, opx, op, vq, v⟩ ⟨hk, hop, hlit, hv⟩ f hf hg fuel
    (by simp only [walkCost]; omega) xp hxp

/-- **Chained selection `P[k1 op v1]/items[k2 op v2]/f` below a list root, any spelling of `P`**, string level: `get` / item access
return the `return_lists = True` selection, `first` the unwrapped `return_lists = False` one -/
theorem xlds_chained_string (cls : Cls) (xs : List Val) (lead : Lead) (steps : List StepSp)
    (k1 opx1 op1 vq1 v1 items k2 opx2 op2 vq2 v2 f : Str) (lc : Cls) (rs : List Val) (d : Val)
    (hp : PlainSteps steps) (hne : steps ≠ []) (hget : stepsGet (.list cls xs) steps = some (.list lc rs))
    (hk1 : FieldKey k1) (hop1 : OpSpell opx1 op1) (hlit1 : LitSpell vq1 v1)
    (hv1 : PlainLit v1) (hitems : PlainKey items) (hk2 : FieldKey k2) (hop2 : OpSpell opx2 op2) (hlit2 : LitSpell vq2 v2)
    (hv2 : PlainLit v2) (hf : PlainKey f) (hrs : ∀ r ∈ rs, isDict r = true)
    (hg : ∀ c kvs' kv, Val.dict c kvs' ∈ rs → lookup k1 kvs' = some kv → textGuard kv (.str v1) = false)
    (hin : Sel3InnerOK items k2 (.str v2) rs)
    (fuel : Nat) (hfuel : fuel ≥ 10 * steps.length + rs.length + (rs.map (sel2InnerLen items)).sum + 30) :
    let xp := renderSp lead steps ++ bracket (k1 ++ opx1 ++ vq1) ++ slash ++ items ++ bracket (k2 ++ opx2 ++ vq2) ++ slash ++ f
    let valsT := sel3Chained k1 op1 (.str v1) items k2 f op2 (.str v2) true rs
    let valsF := sel3Chained k1 op1 (.str v1) items k2 f op2 (.str v2) false rs
    get fuel (.list cls xs) xp d = (.list cls xs, .ok (if valsT.isEmpty then d else .list .n0 valsT)) ∧
    getItem fuel (.list cls xs) xp = (.list cls xs, if valsT.isEmpty then .error .IndexError else .ok (.list .n0 valsT)) ∧
    first fuel (.list cls xs) xp d = (.list cls xs, .ok (firstOf valsF d)) := by
  exact chained_string (.list cls xs) lead steps d hp hne hget (Or.inr rfl) hrs ⟨k1, opx1, op1, vq1, v1⟩ ⟨hk1, hop1, hlit1, hv1⟩ items hitems
    ⟨k2, opx2, op2, vq2, v2⟩ ⟨hk2, hop2, hlit2, hv2⟩ f hf hg hin fuel (by simp only [walkCost]; omega)

/-- **`P[*]/f` and `P/f` below a list root** (`P` canonical, starting with an index; with or without the leading '/') -/
theorem xld_star_api (cls : Cls) (xs : List Val) (p : Pos) (f : Str) (lc : Cls) (rs : List Val) (d : Val)
    (hp : PlainPos p) (hhead : ∃ n rest, p = .idx n :: rest) (hf : PlainKey f)
    (hget : getAt (.list cls xs) p = some (.list lc rs)) (hrs : ∀ r ∈ rs, isDict r = true)
    (fuel : Nat) (hfuel : fuel ≥ 2 * p.length + rs.length + 6) (lead : Str) (hlead : lead ∈ [[], slash]) :
    ∀ xp ∈ [lead ++ renderPos p ++ bracket ['*'] ++ slash ++ f, lead ++ renderPos p ++ slash ++ f],
      let vals := somes (rs.map (fieldOf f))
      get fuel (.list cls xs) xp d = (.list cls xs, .ok (if vals.isEmpty then d else .list .n0 vals)) ∧
      getItem fuel (.list cls xs) xp = (.list cls xs, if vals.isEmpty then .error .IndexError else .ok (.list .n0 vals)) ∧
      first fuel (.list cls xs) xp d = (.list cls xs, .ok (firstOf vals d)) := by
  obtain ⟨n, rest, rfl⟩ := hhead
  have h := fun ld => xlds_star_string cls xs ld (canonSteps (.idx n :: rest)) f lc rs d (plainSteps_canon _ hp)
    (canonSteps_ne_nil _ (by simp)) (stepsGet_canon _ _ _ hget) hf hrs fuel (by rw [canonSteps_length]; exact hfuel)
  simp only [List.mem_cons, List.not_mem_nil, or_false] at hlead
  rcases hlead with rfl | rfl
  · have := h .rel; rwa [(xlds_canon n rest).1] at this
  · have := h .one; rwa [(xlds_canon n rest).2] at this

/-- **`P[k op v]/f` and `P/k[text() op v]/../f` below a list root** -/
theorem xld_pred_api (cls : Cls) (xs : List Val) (p : Pos) (k f opx op vq v : Str) (lc : Cls) (rs : List Val) (d : Val)
    (hp : PlainPos p) (hhead : ∃ n rest, p = .idx n :: rest) (hk : FieldKey k) (hf : PlainKey f) (hop : OpSpell opx op)
    (hlit : LitSpell vq v) (hv : PlainLit v)
    (hget : getAt (.list cls xs) p = some (.list lc rs)) (hrs : ∀ r ∈ rs, isDict r = true)
    (hg : ∀ c kvs' kv, Val.dict c kvs' ∈ rs → lookup k kvs' = some kv → textGuard kv (.str v) = false)
    (fuel : Nat) (hfuel : fuel ≥ 6 * p.length + rs.length + 14) (lead : Str) (hlead : lead ∈ [[], slash]) :
    ∀ xp ∈ [lead ++ renderPos p ++ bracket (k ++ opx ++ vq) ++ slash ++ f,
            lead ++ renderPos p ++ slash ++ k ++ bracket (sTextFn ++ opx ++ vq) ++ slash ++ ['.', '.'] ++ slash ++ f],
      let vals := somes (rs.map (condOutcome k f op (.str v)))
      get fuel (.list cls xs) xp d = (.list cls xs, .ok (if vals.isEmpty then d else .list .n0 vals)) ∧
      getItem fuel (.list cls xs) xp = (.list cls xs, if vals.isEmpty then .error .IndexError else .ok (.list .n0 vals)) ∧
      first fuel (.list cls xs) xp d = (.list cls xs, .ok (firstOf vals d)) := by
  obtain ⟨n, rest, rfl⟩ := hhead
  have h := fun ld => xlds_pred_string cls xs ld (canonSteps (.idx n :: rest)) k f opx op vq v lc rs d (plainSteps_canon _ hp)
    (canonSteps_ne_nil _ (by simp)) (stepsGet_canon _ _ _ hget) hk hf hop hlit hv hrs hg fuel
    (by rw [canonSteps_length]; exact hfuel)
  simp only [List.mem_cons, List.not_mem_nil, or_false] at hlead
  rcases hlead with rfl | rfl
  · have := h .rel; rwa [(xlds_canon n rest).1] at this
  · have := h .one; rwa [(xlds_canon n rest).2] at this

/-- **`P[k1 op v1]/items[k2 op v2]/f` in an n0list-rooted tree** (`P` canonical, starting with an index; with or
without the leading '/') through `get`, item access and `first` -/
theorem xld_chained_api (cls : Cls) (xs : List Val) (p : Pos)
    (k1 opx1 op1 vq1 v1 items k2 opx2 op2 vq2 v2 f : Str) (lc : Cls) (rs : List Val) (d : Val)
    (hp : PlainPos p) (hhead : ∃ n rest, p = .idx n :: rest) (hk1 : FieldKey k1) (hop1 : OpSpell opx1 op1)
    (hlit1 : LitSpell vq1 v1)
    (hv1 : PlainLit v1) (hitems : PlainKey items) (hk2 : FieldKey k2) (hop2 : OpSpell opx2 op2) (hlit2 : LitSpell vq2 v2)
    (hv2 : PlainLit v2) (hf : PlainKey f)
    (hget : getAt (.list cls xs) p = some (.list lc rs)) (hrs : ∀ r ∈ rs, isDict r = true)
    (hg : ∀ c kvs' kv, Val.dict c kvs' ∈ rs → lookup k1 kvs' = some kv → textGuard kv (.str v1) = false)
    (hin : Sel3InnerOK items k2 (.str v2) rs)
    (fuel : Nat) (hfuel : fuel ≥ 10 * p.length + rs.length + (rs.map (sel2InnerLen items)).sum + 30)
    (lead : Str) (hlead : lead ∈ [[], slash]) :
    let xp := lead ++ renderPos p ++ bracket (k1 ++ opx1 ++ vq1) ++ slash ++ items ++ bracket (k2 ++ opx2 ++ vq2) ++ slash ++ f
    let valsT := sel3Chained k1 op1 (.str v1) items k2 f op2 (.str v2) true rs
    let valsF := sel3Chained k1 op1 (.str v1) items k2 f op2 (.str v2) false rs
    get fuel (.list cls xs) xp d = (.list cls xs, .ok (if valsT.isEmpty then d else .list .n0 valsT)) ∧
    getItem fuel (.list cls xs) xp = (.list cls xs, if valsT.isEmpty then .error .IndexError else .ok (.list .n0 valsT)) ∧
    first fuel (.list cls xs) xp d = (.list cls xs, .ok (firstOf valsF d)) := by
  obtain ⟨n, rest, rfl⟩ := hhead
  have h := fun ld => xlds_chained_string cls xs ld (canonSteps (.idx n :: rest)) k1 opx1 op1 vq1 v1 items k2 opx2 op2 vq2 v2 f lc rs d
    (plainSteps_canon _ hp) (canonSteps_ne_nil _ (by simp)) (stepsGet_canon _ _ _ hget) hk1 hop1 hlit1 hv1 hitems hk2 hop2
    hlit2 hv2 hf hrs hg hin fuel (by rw [canonSteps_length]; exact hfuel)
  simp only [List.mem_cons, List.not_mem_nil, or_false] at hlead
  rcases hlead with rfl | rfl
  · have := h .rel; rwa [(xlds_canon n rest).1] at this
  · have := h .one; rwa [(xlds_canon n rest).2] at this


end N0.XPath
