import N0Verif.Proofs.XPathSelFind
import N0Verif.Proofs.XPathListRoot
/-!
  Selection behind a spelled path.  The walk along the tokens of the path ends at the node the tail is applied to, in the
  dict-side search or — from a list root, through indexes only — still in the list-side one (`xld_walk`, `findL_selD`);
  there `find_selD` applies: token level (`select_spelled*`), on whichever token list the text has (`select_tail*`: a final key of
  the path and a leading bracket of the tail are one token), string level at a `SelCase` (`select_string`).  `F` is any fuel that
  suffices for the tail (`SelFuel`); the walk to its node comes on top.
-/
namespace N0.XPath
open N0 N0.Py N0.Val

/-- **Walk from a list node.**  Tokens that spell `p` below the LIST at `q`, followed by further tokens: `n0list._find` arrives at
`q ++ p` with the remaining tokens, the same root and `found` extended by the text of the walk - in the dict-side search, or (only
when the node reached is a list) still in the list-side search. -/
theorem xld_walk (root : Val) (rl : Bool) {toks : List Str} {v : Val} {p : Pos} {c : Val} {w : Str}
    (h : SpellsF toks v p c w) (rest : List Str) (hrest : rest ≠ []) :
    toks ≠ [] → (∃ cls xs, v = .list cls xs) → (isList c = true ∨ isDict c = true) →
    ∀ (fuel : Nat) (q : Pos) (found : Str), getAt root q = some v → fuel ≥ 2 * toks.length →
      ∃ fuel', fuel ≤ fuel' + 2 * toks.length ∧ fuel' ≤ fuel ∧
        ((∃ e', findL fuel root [] (toks ++ rest) (.at q) rl found
            = findD fuel' root [] false e' rest (.at (q ++ p)) rl (found ++ w)) ∨
         (isList c = true ∧ findL fuel root [] (toks ++ rest) (.at q) rl found
            = findL fuel' root [] rest (.at (q ++ p)) rl (found ++ w))) := by
  induction h with
  | nil v => intro h; exact absurd rfl h
  | key _ _ _ _ => intro _ hl; obtain ⟨_, _, h⟩ := hl; cases h
  | keyIdx _ _ _ _ _ _ => intro _ hl; obtain ⟨_, _, h⟩ := hl; cases h
  | @idx tok e i rest0 cls xs n c0 p d w hk hn hx hs ih =>
    intro _ _ hc fuel q found hq hf
    simp only [List.length_cons] at hf ⊢
    obtain ⟨f, rfl⟩ : ∃ f, fuel = f + 1 := ⟨fuel - 1, by omega⟩
    have hne : rest0 ++ rest ≠ [] := by simp [hrest]
    have hq' : getAt root (q ++ [.idx n]) = some c0 := getAt_snoc_idx hq hx
    cases c0 with
    | dict dc kvs =>
      rw [List.cons_append, findL_idx_step_dict f root [] rl q found tok e i (rest0 ++ rest) hne cls xs n dc kvs hq hk hn hx]
      have hle := hs.length_le
      obtain ⟨f', rfl⟩ := Nat.exists_eq_add_of_le' (Nat.le_trans hle (by omega : 2 * rest0.length ≤ f))
      refine ⟨f', by omega, by omega, Or.inl ⟨false, ?_⟩⟩
      rw [find_walkTo_real root rl [] hs.walk rest hrest f' _ _ true hq']; simp [List.append_assoc]
    | list lc ys =>
      rw [List.cons_append, findL_idx_step_list f root [] rl q found tok e i (rest0 ++ rest) hne cls xs n lc ys hq hk hn hx]
      by_cases hr0 : rest0 = []
      · subst hr0
        cases hs
        refine ⟨f, by simp, by omega, Or.inr ⟨rfl, ?_⟩⟩
        simp
      · obtain ⟨f', h1, h2, hres⟩ := ih hr0 ⟨lc, ys, rfl⟩ hc f (q ++ [.idx n]) (found ++ bracket (intStr i)) hq'
          (by omega)
        refine ⟨f', by omega, by omega, ?_⟩
        rcases hres with ⟨e', heq⟩ | ⟨hl, heq⟩
        · exact Or.inl ⟨e', by rw [heq]; simp [List.append_assoc]⟩
        · exact Or.inr ⟨hl, by rw [heq]; simp [List.append_assoc]⟩
    | _ =>
      cases hs
      rcases hc with hc | hc <;> simp [isList, isDict] at hc


/-- the first token of a tail that does not start with `[*]` is a name (with or without brackets) or a condition -/
theorem selToks_first : ∀ (s : SelStep) (ss : List SelStep), SelWF (s :: ss) → s ≠ .star →
    ∃ T rest nm idx, selToks (s :: ss) = T :: rest ∧ splitNameIndex T = .ok (nm, idx) ∧
      (nm ≠ [] ∨ ∃ k op v, nm = [] ∧ idx = .cond k op v)
  | .key n, [], hw, _ => ⟨n, [], n, .none, rfl, hw.1.keyTok.split, Or.inl hw.1.ne⟩
  | .key n, .key m :: ss, hw, _ => ⟨n, _, n, .none, selToks_key_key n m ss, hw.1.keyTok.split, Or.inl hw.1.ne⟩
  | .key n, .text c :: ss, hw, _ => ⟨n, _, n, .none, selToks_key_text n c ss, hw.1.keyTok.split, Or.inl hw.1.ne⟩
  | .key n, .star :: ss, hw, _ =>
    ⟨_, _, n, _, selToks_key_star n ss, split_bracket n ['*'] (Or.inr hw.1) star_idxExpr, Or.inl hw.1.ne⟩
  | .key n, .cond c :: ss, hw, _ =>
    ⟨_, _, n, _, selToks_key_cond n c ss,
      split_cond n c.k c.opx c.op c.vq c.v (Or.inr hw.1) hw.2.1.key.cond hw.2.1.op hw.2.1.lit hw.2.1.plain, Or.inl hw.1.ne⟩
  | .star, _, _, h => absurd rfl h
  | .cond c, ss, hw, _ =>
    ⟨_, _, [], _, selToks_cond c ss,
      by simpa [CondSp.text] using split_cond [] c.k c.opx c.op c.vq c.v (Or.inl rfl) hw.1.key.cond hw.1.op hw.1.lit hw.1.plain,
      Or.inr ⟨_, _, _, rfl, rfl⟩⟩
  | .text c, ss, hw, _ =>
    ⟨_, _, c.k, _, rfl, split_cond c.k sTextFn c.opx c.op c.vq c.v (Or.inr hw.1.key.plain) condKey_text hw.1.op hw.1.lit hw.1.plain,
      Or.inl hw.1.key.plain.ne⟩

/-- **Selection at a list node through `n0list._find`**: a name or a condition is handed to `n0dict._find`, which supplies the
`[*]`; `[*]` is the list-side loop, which hands every dict member over. -/
theorem findL_selD (root : Val) (rl : Bool) (s : SelStep) (ss : List SelStep) (hw : SelWF (s :: ss)) (gs : List GSeg) (p : Pos)
    (lc : Cls) (rs : List Val) (hn : Sel3Norm gs root p (.list lc rs)) (hok : SelOK (s :: ss) (.list lc rs))
    (hrs : s = .star → ∀ r ∈ rs, isDict r = true) (F : Nat) (hF : SelFuel (s :: ss) p.length (.list lc rs) F) (fu : Nat)
    (hfu : fu ≥ F + 1) :
    Sel2Out root (findL fu root [] (selToks (s :: ss)) (.at p) rl ('/' :: sel2Render gs)) (selD rl (s :: ss) (.list lc rs)) := by
  by_cases hs : s = .star
  · subst hs
    obtain ⟨_, _, h, hoks⟩ := hok
    cases h
    cases ss with
    | nil => exact absurd rfl hw.1
    | cons s' ss' =>
      rw [selToks_star]
      obtain ⟨F0, hmem, hlen⟩ : ∃ F0, (∀ r ∈ rs, SelFuel (s' :: ss') (p.length + 1) r F0) ∧ F ≥ F0 + rs.length + 3 := hF
      refine (xa_findL_star root p rl _ _ _ lc rs (selD rl (s' :: ss')) F0 hn.getAt (hrs rfl)
        split_star (fun j rec hj fu' hfu' => ?_) fu (by omega)).out
      have hm := List.mem_of_getElem? hj
      rw [show ('/' :: sel2Render gs) ++ bracket (natStr j) = '/' :: sel2Render (gs ++ [.br (natStr j)]) by
        rw [sel2_render_append]; simp [sel2Render, sel2RenderSeg]]
      rw [findD_entry _ _ _ true false]
      exact find_selD root rl s' ss' hw.2 _ _ rec (hn.snoc_idx hj) (hoks rec hm) fu'
        (by rw [List.length_append]; exact (hmem rec hm).mono hfu')
  · obtain ⟨T, rest, nm, idx, htoks, hT, hni⟩ := selToks_first s ss hw hs
    obtain ⟨g, rfl⟩ : ∃ g, fu = g + 1 := ⟨fu - 1, by omega⟩
    rw [htoks]
    rcases hni with hne | ⟨k, op, v, rfl, rfl⟩
    · rw [findL_name (par := .at p) hn.getAt hT hne, ← htoks, findD_entry _ _ _ true false]
      exact find_selD root rl s ss hw gs p _ hn hok g (hF.mono (by omega))
    · rw [findL_cond (par := .at p) hn.getAt hT, ← htoks, findD_entry _ _ _ true false]
      exact find_selD root rl s ss hw gs p _ hn hok g (hF.mono (by omega))

/-- **Selection behind any spelled path, token level**, through `n0dict._find` from any root: the walk takes a unit of fuel per
segment of the position -/
theorem select_spelled (t : Val) (rl : Bool) {toksP : List Str} {p : Pos} {c : Val} (hs : Sel3Spells toksP t p c)
    (s : SelStep) (ss : List SelStep) (hw : SelWF (s :: ss)) (hok : SelOK (s :: ss) c)
    (F : Nat) (hF : SelFuel (s :: ss) p.length c F) (fuel : Nat) (hfuel : fuel ≥ p.length + F) :
    Sel2Out t (findD fuel t [] false true (toksP ++ selToks (s :: ss)) (.at []) rl slash) (selD rl (s :: ss) c) := by
  obtain ⟨gs, hsf, hn⟩ := sel3_spells_norm hs
  obtain ⟨g, rfl⟩ : ∃ g, fuel = g + p.length := ⟨fuel - p.length, by omega⟩
  rw [find_walkTo_real t rl [] hsf.walk (selToks (s :: ss)) (selToks_ne_nil s ss) g [] slash true rfl]
  exact find_selD _ rl s ss hw gs p c hn hok g (hF.mono (by omega))

/-- … through `n0list._find` from a list root (`[*]` at a record list reached by indexes only is the list-side loop, which takes
dict members) -/
theorem select_spelled_list (t : Val) (rl : Bool) {toksP : List Str} {p : Pos} {c : Val} (hs : Sel3Spells toksP t p c)
    (hroot : ∃ cls xs, t = .list cls xs) (s : SelStep) (ss : List SelStep) (hw : SelWF (s :: ss)) (hok : SelOK (s :: ss) c)
    (hc : isDict c = true ∨ ∃ lc rs, c = .list lc rs ∧ (s = .star → ∀ r ∈ rs, isDict r = true))
    (F : Nat) (hF : SelFuel (s :: ss) p.length c F) (fuel : Nat) (hfuel : fuel ≥ 2 * toksP.length + 1 + F) :
    Sel2Out t (findL fuel t [] (toksP ++ selToks (s :: ss)) (.at []) rl slash) (selD rl (s :: ss) c) := by
  obtain ⟨gs, hsf, hn⟩ := sel3_spells_norm hs
  by_cases hne : toksP = []
  · subst hne
    cases hs
    cases hn
    obtain ⟨cls, xs, rfl⟩ := hroot
    rcases hc with h | ⟨lc, rs, h, hrs⟩
    · cases h
    · cases h
      exact findL_selD _ rl s ss hw [] [] _ _ (.nil _) hok hrs F hF fuel (by simp at hfuel ⊢; omega)
  · rcases hc with hd | ⟨lc, rs, rfl, hrs⟩
    · obtain ⟨fuel', h1, h2, hres⟩ := xld_walk t rl hsf (selToks (s :: ss)) (selToks_ne_nil s ss) hne hroot
        (Or.inr hd) fuel [] slash rfl (by omega)
      rcases hres with ⟨e', heq⟩ | ⟨hl, _⟩
      · rw [heq, findD_entry _ _ _ e' false]
        exact find_selD _ rl s ss hw gs p c hn hok fuel' (hF.mono (by omega))
      · cases c <;> simp [isList, isDict] at hl hd
    · obtain ⟨fuel', h1, h2, hres⟩ := xld_walk t rl hsf (selToks (s :: ss)) (selToks_ne_nil s ss) hne hroot
        (Or.inl rfl) fuel [] slash rfl (by omega)
      rcases hres with ⟨e', heq⟩ | ⟨_, heq⟩
      · rw [heq, findD_entry _ _ _ e' false]
        exact find_selD _ rl s ss hw gs p _ hn hok fuel' (hF.mono (by omega))
      · rw [heq]
        exact findL_selD _ rl s ss hw gs p lc rs hn hok hrs F hF fuel' (by omega)

/-- the token list of a path text followed by a tail: the tokens of the path followed by those of the tail, or — the path ends in
a key `name`, the tail starts with `[*]` or a condition — the tokens of the shorter path followed by those of `key name :: tail`,
which selects the same at the parent dict -/
theorem tailToks_cases {t : Val} {toksP : List Str} {p : Pos} {c : Val} (hs : Sel3Spells toksP t p c) (s : SelStep) (ss : List SelStep)
    (hw : SelWF (s :: ss)) (hok : SelOK (s :: ss) c) {toks : List Str} (ht : TailToks toksP (selG (s :: ss)) toks) :
    toks = toksP ++ selToks (s :: ss) ∨
    ∃ toks' name p' cls kvs, toksP = toks' ++ [name] ∧ p = p' ++ [Seg.key name] ∧ Sel3Spells toks' t p' (.dict cls kvs) ∧
      toks = toks' ++ selToks (.key name :: s :: ss) ∧ SelWF (.key name :: s :: ss) ∧ SelOK (.key name :: s :: ss) (.dict cls kvs) ∧
      (∀ rl, selD rl (.key name :: s :: ss) (.dict cls kvs) = selD rl (s :: ss) c) ∧
      ∀ F, SelFuel (s :: ss) (p'.length + 1) c F → SelFuel (.key name :: s :: ss) p'.length (.dict cls kvs) (F + 1) := by
  generalize hG : selG (s :: ss) = G at ht
  cases ht with
  | plain => left; rw [← hG]; rfl
  | @merged toks' name cc gs' htoks hname =>
    right
    subst htoks
    obtain ⟨p', cls, kvs, rfl, hs', hl⟩ := sel3_spells_snoc_key_inv name hname toks' _ _ _ hs
    refine ⟨toks', name, p', cls, kvs, rfl, rfl, hs', ?_, ⟨hname, hw⟩,
      SelOK.key_dict fun y hy => Option.some.inj (hl.symm.trans hy) ▸ hok, fun rl => by rw [selD_key_dict, hl]; rfl,
      fun F hF => SelFuel.key_dict F (fun y hy => Option.some.inj (hl.symm.trans hy) ▸ hF) (Nat.le_refl _)⟩
    show _ = toks' ++ sel2Toks (.key name :: selG (s :: ss))
    rw [hG]; rfl

theorem select_tail (t : Val) (rl : Bool) {toksP : List Str} {p : Pos} {c : Val} (hs : Sel3Spells toksP t p c)
    (s : SelStep) (ss : List SelStep) (hw : SelWF (s :: ss)) (hok : SelOK (s :: ss) c)
    (F : Nat) (hF : SelFuel (s :: ss) p.length c F) (fuel : Nat) (hfuel : fuel ≥ p.length + F) (toks : List Str)
    (ht : TailToks toksP (selG (s :: ss)) toks) :
    Sel2Out t (findD fuel t [] false true toks (.at []) rl slash) (selD rl (s :: ss) c) := by
  rcases tailToks_cases hs s ss hw hok ht with rfl | ⟨toks', name, p', cls, kvs, rfl, rfl, hs', rfl, hw', hok', hv, hfu⟩
  · exact select_spelled t rl hs s ss hw hok F hF fuel hfuel
  · rw [← hv rl]
    rw [List.length_append, List.length_singleton] at hF hfuel
    exact select_spelled t rl hs' _ _ hw' hok' _ (hfu _ hF) fuel (by omega)

theorem select_tail_list (t : Val) (rl : Bool) {toksP : List Str} {p : Pos} {c : Val} (hs : Sel3Spells toksP t p c)
    (hroot : ∃ cls xs, t = .list cls xs) (s : SelStep) (ss : List SelStep) (hw : SelWF (s :: ss)) (hok : SelOK (s :: ss) c)
    (hc : isDict c = true ∨ ∃ lc rs, c = .list lc rs ∧ (s = .star → ∀ r ∈ rs, isDict r = true))
    (F : Nat) (hF : SelFuel (s :: ss) p.length c F) (fuel : Nat) (hfuel : fuel ≥ 2 * toksP.length + 1 + F)
    (toks : List Str) (ht : TailToks toksP (selG (s :: ss)) toks) :
    Sel2Out t (findL fuel t [] toks (.at []) rl slash) (selD rl (s :: ss) c) := by
  rcases tailToks_cases hs s ss hw hok ht with rfl | ⟨toks', name, p', cls, kvs, rfl, rfl, hs', rfl, hw', hok', hv, hfu⟩
  · exact select_spelled_list t rl hs hroot s ss hw hok hc F hF fuel hfuel
  · rw [← hv rl]
    rw [List.length_append, List.length_singleton] at hF hfuel
    exact select_spelled_list t rl hs' hroot _ _ hw' hok' (Or.inl rfl) _ (hfu _ hF) fuel
      (by omega)

/-- a family of tails below a spelled path, token level, dict root: at a record list the outcome is the collection of its values -/
theorem select_coll (t : Val) (rl : Bool) {toksP : List Str} {p : Pos} {lc : Cls} {rs : List Val} (hs : Sel3Spells toksP t p (.list lc rs))
    {s : SelStep} {ss : List SelStep} {B : Nat → Nat} {vals : Bool → List Val} (h : SelCase lc rs s ss B vals)
    (fuel : Nat) (hfuel : fuel ≥ p.length + B p.length) (toks : List Str) (ht : TailToks toksP (selG (s :: ss)) toks) :
    Sel2Coll t rl (findD fuel t [] false true toks (.at []) rl slash) (vals rl) := by
  have := select_tail t rl hs s ss h.wf h.ok _ (h.fuel _) fuel hfuel toks ht
  rw [selD_list] at this
  exact h.val rl ▸ fan_out this

/-- the same from a list root -/
theorem select_coll_list (t : Val) (rl : Bool) {toksP : List Str} {p : Pos} {lc : Cls} {rs : List Val}
    (hs : Sel3Spells toksP t p (.list lc rs)) (hroot : ∃ cls xs, t = .list cls xs)
    {s : SelStep} {ss : List SelStep} {B : Nat → Nat} {vals : Bool → List Val} (h : SelCase lc rs s ss B vals)
    (fuel : Nat) (hfuel : fuel ≥ 2 * toksP.length + 1 + B p.length) (toks : List Str) (ht : TailToks toksP (selG (s :: ss)) toks) :
    Sel2Coll t rl (findL fuel t [] toks (.at []) rl slash) (vals rl) := by
  have := select_tail_list t rl hs hroot s ss h.wf h.ok (Or.inr ⟨lc, rs, rfl, h.star⟩) _ (h.fuel _) fuel hfuel toks ht
  rw [selD_list] at this
  exact h.val rl ▸ fan_out this

/-- **Fan-out below a path spelled with any key tokens** (`Spells`: names that are not plain included); no `'..'` follows, so
the text the walk writes does not matter -/
theorem fanout_spelled (t : Val) (rl : Bool) {toksP : List Str} {p : Pos} {lc : Cls} {rs : List Val} (f : Str)
    (hs : Spells toksP t p (.list lc rs)) (hrs : ∀ r ∈ rs, isDict r = true) (hf : PlainKey f)
    (fuel : Nat) (hfuel : fuel ≥ p.length + rs.length + 5) :
    ∀ tail ∈ [[bracket ['*'], f], [f]],
      Sel2Coll t rl (findD fuel t [] false true (toksP ++ tail) (.at []) rl slash) (somes (rs.map (fieldOf f))) := by
  intro tail htail
  obtain ⟨w, hsf⟩ := hs.exF
  obtain ⟨g, rfl⟩ : ∃ g, fuel = g + p.length := ⟨fuel - p.length, by omega⟩
  have heq := find_walkTo_real t rl [] hsf.walk tail (by rintro rfl; simp at htail) g [] slash true rfl
  have hq : getAt t ([] ++ p) = some (.list lc rs) := hs.getAt
  have helem : ∀ (found : Str) (j : Nat) (rec : Val), rs[j]? = some rec → ∀ fu ≥ 1,
      Sel2Out t (findD fu t [] false false [f] (.at ([] ++ p ++ [.idx j])) rl found) (fieldOf f rec) := fun found j rec hj fu hfu => by
    obtain ⟨cl, kvs, rfl⟩ := dicts_members hrs (List.mem_of_getElem? hj)
    exact sel2_field_cont t rl _ cl kvs f _ (getAt_snoc_idx hq hj) hf.keyTok fu hfu
  rw [heq]
  simp only [List.mem_cons, List.not_mem_nil, or_false] at htail
  rcases htail with rfl | rfl
  · exact fan_out (star_list t rl hq [f] (by simp) (fieldOf f) 1 (fun j rec hj => helem _ j rec hj) g (by omega))
  · exact fan_out (lift_list t rl hq f [] (fun fuel => findD_name_on_list rfl hq hf.keyTok.split hf.ne hf.notUp) (fieldOf f) 1
      (fun j rec hj => helem _ j rec hj) g (by omega))

/-- fuel of the walk along a path of `n` steps -/
def walkCost (root : Val) (n : Nat) : Nat :=
  match root with
  | .list .. => 2 * n + 1
  | _ => n

theorem selG_good : ∀ (ss : List SelStep), SelWF ss → GoodG (selG ss)
  | [], _ => trivial
  | .key _ :: ss, hw => ⟨hw.1.gKey, selG_good ss hw.2⟩
  | .star :: ss, hw => ⟨sel2_gBr_star, selG_good ss hw.2⟩
  | .cond c :: ss, hw => ⟨sel2_gBr_cond c.k c.opx c.op c.vq c.v hw.1.key.cond hw.1.op hw.1.lit hw.1.plain, selG_good ss hw.2.2⟩
  | .text c :: ss, hw =>
    ⟨hw.1.key.plain.gKey, sel2_gBr_cond sTextFn c.opx c.op c.vq c.v condKey_text hw.1.op hw.1.lit hw.1.plain, sel2_gKey_up,
      selG_good ss hw.2.2⟩

/-- **Selection over a record list, string level.**  `steps` is any spelling of a path plain Python indexing follows from the
root to the list `rs`; for the text of the path followed by the text of the tail, `get` and item access return the list of what
the members contribute (the default / `IndexError` when there is nothing), `first` the unwrapped `return_lists = False` list.
(`simp [selG, SelStep.segs, sel2Render_key, sel2Render_br, sel2Render_nil, slash]` turns the text of the tail into its literal.) -/
theorem select_string (root : Val) (lead : Lead) (steps : List StepSp) {lc : Cls} {rs : List Val} {s : SelStep} {ss : List SelStep}
    {B : Nat → Nat} {vals : Bool → List Val} (d : Val) (fuel : Nat) (hp : PlainSteps steps) (hne : steps ≠ [])
    (hget : stepsGet root steps = some (.list lc rs)) (hroot : isDict root = true ∨ isList root = true)
    (h : SelCase lc rs s ss B vals) (hfuel : fuel ≥ walkCost root steps.length + B steps.length) :
    get fuel root (renderSp lead steps ++ sel2Render (selG (s :: ss))) d
      = (root, .ok (if (vals true).isEmpty then d else .list .n0 (vals true))) ∧
    getItem fuel root (renderSp lead steps ++ sel2Render (selG (s :: ss)))
      = (root, if (vals true).isEmpty then .error .IndexError else .ok (.list .n0 (vals true))) ∧
    first fuel root (renderSp lead steps ++ sel2Render (selG (s :: ss))) d = (root, .ok (firstOf (vals false) d)) := by
  have hs := sel3_spells_steps steps _ _ hp hget
  have hpl := posOf_length steps _ _ hget
  have htl := toksOf_length_le steps
  refine sel3_tail_api root lead steps _ (selG (s :: ss)) vals d fuel hp hne hget
    (selG_good _ h.wf) (by cases s <;> simp [selG, SelStep.segs]) (fun rl toks ht => ?_)
  have : Sel2Out root (rootFind fuel root toks rl) (selD rl (s :: ss) (.list lc rs)) := by
    cases root with
    | dict cls kvs => exact select_tail _ rl hs s ss h.wf h.ok _ (h.fuel _) fuel (by rw [hpl]; exact hfuel) toks ht
    | list cls xs =>
      exact select_tail_list _ rl hs ⟨cls, xs, rfl⟩ s ss h.wf h.ok (Or.inr ⟨lc, rs, rfl, h.star⟩) _ (h.fuel _) fuel
        (by rw [hpl]; simp only [walkCost] at hfuel; omega) toks ht
    | _ => rcases hroot with h | h <;> cases h
  rw [selD_list] at this
  exact h.val rl ▸ fan_out this

/-! ## the three families of tails over a list of dict records, string level, from a dict or a list root -/

section families
variable (root : Val) (lead : Lead) (steps : List StepSp) {lc : Cls} {rs : List Val} (d : Val) (hp : PlainSteps steps) (hne : steps ≠ [])
  (hget : stepsGet root steps = some (.list lc rs)) (hroot : isDict root = true ∨ isList root = true)
  (hrs : ∀ r ∈ rs, isDict r = true)
include hp hne hget hroot hrs

/-- **`P[*]/f` and `P/f` behind any spelling of `P`** -/
theorem star_string (f : Str) (hf : PlainKey f) (fuel : Nat) (hfuel : fuel ≥ walkCost root steps.length + rs.length + 5) :
    ∀ xp ∈ [renderSp lead steps ++ bracket ['*'] ++ slash ++ f, renderSp lead steps ++ slash ++ f],
      get fuel root xp d = (root, .ok (if (somes (rs.map (fieldOf f))).isEmpty then d else .list .n0 (somes (rs.map (fieldOf f))))) ∧
      getItem fuel root xp = (root, if (somes (rs.map (fieldOf f))).isEmpty then .error .IndexError
                                    else .ok (.list .n0 (somes (rs.map (fieldOf f))))) ∧
      first fuel root xp d = (root, .ok (firstOf (somes (rs.map (fieldOf f))) d)) := by
  intro xp hxp
  simp only [List.mem_cons, List.not_mem_nil, or_false] at hxp
  rcases hxp with rfl | rfl
  · have := select_string root lead steps d fuel hp hne hget hroot (star_case hrs hf) (by omega)
    rwa [show renderSp lead steps ++ bracket ['*'] ++ slash ++ f = renderSp lead steps ++ sel2Render (selG [.star, .key f]) by
      simp [selG, SelStep.segs, sel2Render_key, sel2Render_br, sel2Render_nil, slash]]
  · have := select_string root lead steps d fuel hp hne hget hroot (key_case hrs hf) (by omega)
    rwa [show renderSp lead steps ++ slash ++ f = renderSp lead steps ++ sel2Render (selG [.key f]) by
      simp [selG, SelStep.segs, sel2Render_key, sel2Render_nil, slash]]

/-- **`P[k op v]/f` and `P/k[text() op v]/../f` behind any spelling of `P`** -/
theorem pred_string (c : CondSp) (hc : c.OK) (f : Str) (hf : PlainKey f)
    (hg : ∀ cl kvs kv, Val.dict cl kvs ∈ rs → lookup c.k kvs = some kv → textGuard kv (.str c.v) = false)
    (fuel : Nat) (hfuel : fuel ≥ walkCost root steps.length + steps.length + rs.length + 8) :
    ∀ xp ∈ [renderSp lead steps ++ bracket (c.k ++ c.opx ++ c.vq) ++ slash ++ f,
            renderSp lead steps ++ slash ++ c.k ++ bracket (sTextFn ++ c.opx ++ c.vq) ++ slash ++ ['.', '.'] ++ slash ++ f],
      get fuel root xp d = (root, .ok (if (somes (rs.map (condOutcome c.k f c.op (.str c.v)))).isEmpty then d
                                        else .list .n0 (somes (rs.map (condOutcome c.k f c.op (.str c.v)))))) ∧
      getItem fuel root xp = (root, if (somes (rs.map (condOutcome c.k f c.op (.str c.v)))).isEmpty then .error .IndexError
                                    else .ok (.list .n0 (somes (rs.map (condOutcome c.k f c.op (.str c.v)))))) ∧
      first fuel root xp d = (root, .ok (firstOf (somes (rs.map (condOutcome c.k f c.op (.str c.v)))) d)) := by
  intro xp hxp
  simp only [List.mem_cons, List.not_mem_nil, or_false] at hxp
  rcases hxp with rfl | rfl
  · have := select_string root lead steps d fuel hp hne hget hroot (cond_case hrs hc hf hg) (by omega)
    rwa [show renderSp lead steps ++ bracket (c.k ++ c.opx ++ c.vq) ++ slash ++ f
        = renderSp lead steps ++ sel2Render (selG [.cond c, .key f]) by
      simp [selG, SelStep.segs, CondSp.text, sel2Render_key, sel2Render_br, sel2Render_nil, slash]]
  · have := select_string root lead steps d fuel hp hne hget hroot (text_case hrs hc hf hg) (by omega)
    rwa [show renderSp lead steps ++ slash ++ c.k ++ bracket (sTextFn ++ c.opx ++ c.vq) ++ slash ++ ['.', '.'] ++ slash ++ f
        = renderSp lead steps ++ sel2Render (selG [.text c, .key f]) by
      simp [selG, SelStep.segs, sel2Render_key, sel2Render_br, sel2Render_nil, slash]]

/-- **`P[k1 op v1]/items[k2 op v2]/f` behind any spelling of `P`**: `get` / item access return the `return_lists = True`
selection, `first` the unwrapped `return_lists = False` one -/
theorem chained_string (c1 : CondSp) (hc1 : c1.OK) (items : Str) (hitems : PlainKey items) (c2 : CondSp) (hc2 : c2.OK) (f : Str)
    (hf : PlainKey f) (hg : ∀ cl kvs kv, Val.dict cl kvs ∈ rs → lookup c1.k kvs = some kv → textGuard kv (.str c1.v) = false)
    (hin : Sel3InnerOK items c2.k (.str c2.v) rs)
    (fuel : Nat) (hfuel : fuel ≥ walkCost root steps.length + steps.length + rs.length + (rs.map (sel2InnerLen items)).sum + 18) :
    let xp := renderSp lead steps ++ bracket (c1.k ++ c1.opx ++ c1.vq) ++ slash ++ items ++ bracket (c2.k ++ c2.opx ++ c2.vq) ++ slash ++ f
    let valsT := sel3Chained c1.k c1.op (.str c1.v) items c2.k f c2.op (.str c2.v) true rs
    let valsF := sel3Chained c1.k c1.op (.str c1.v) items c2.k f c2.op (.str c2.v) false rs
    get fuel root xp d = (root, .ok (if valsT.isEmpty then d else .list .n0 valsT)) ∧
    getItem fuel root xp = (root, if valsT.isEmpty then .error .IndexError else .ok (.list .n0 valsT)) ∧
    first fuel root xp d = (root, .ok (firstOf valsF d)) := by
  intro xp valsT valsF
  have := select_string root lead steps d fuel hp hne hget hroot (chained_case hrs hc1 hc2 hitems hf hg hin) (by omega)
  rwa [show xp = renderSp lead steps ++ sel2Render (selG [.cond c1, .key items, .cond c2, .key f]) by
    simp [xp, selG, SelStep.segs, CondSp.text, sel2Render_key, sel2Render_br, sel2Render_nil, slash]]

end families

end N0.XPath
