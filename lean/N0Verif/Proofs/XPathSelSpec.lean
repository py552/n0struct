import N0Verif.Proofs.XPathSelect
/-!
  THE specification of a selecting tail.  A tail is a list of steps (`SelStep`: a key, `[*]`, a condition in either of its
  forms); `selD rl ss x` is what the steps select at the node `x`: a list fans out and collects, a key looks up, a
  condition gates.  `fieldOf`, `condOutcome`, `sel3Chained` (`XPathSelSteps`, `XPathSelect`) are its values on the three families
  `[*]/f`, `[k op v]/f`, `[k1 op v1]/items[k2 op v2]/f` (`selMember_*`); the list comprehensions of `Props/C06.lean` equal those by
  `selectF_eq`, `selectWhere_eq`, `chainedG_eq` there.  `SelOK` says where the engine computes `selD`, `SelFuel` how much fuel suffices.
-/
namespace N0.XPath
open N0 N0.Py N0.Val

/-- a condition as it is written (`opx`, `vq`) and as `split_name_index` reads it (`op`, `v`) -/
structure CondSp where
  k : Str
  opx : Str
  op : Str
  vq : Str
  v : Str

/-- a condition of the covered spellings: field name, operator, literal as `split_cond` takes them -/
structure CondSp.OK (c : CondSp) : Prop where
  key : FieldKey c.k
  op : OpSpell c.opx c.op
  lit : LitSpell c.vq c.v
  plain : PlainLit c.v

/-- the text between the brackets -/
def CondSp.text (c : CondSp) : Str := c.k ++ c.opx ++ c.vq

/-- one step of a selecting tail: `n`, `[*]`, `[k op v]`, `k[text() op v]/..` -/
inductive SelStep
  | key (n : Str)
  | star
  | cond (c : CondSp)
  | text (c : CondSp)

/-- the pieces of the path text of a step -/
def SelStep.segs : SelStep → List GSeg
  | .key n => [.key n]
  | .star => [.br ['*']]
  | .cond c => [.br c.text]
  | .text c => [.key c.k, .br (sTextFn ++ c.opx ++ c.vq), .key ['.', '.']]

/-- the pieces of the path text of a tail -/
def selG (ss : List SelStep) : List GSeg := ss.flatMap SelStep.segs

/-- the tokens of a tail: a key followed by `[*]` or a condition is one token -/
def selToks (ss : List SelStep) : List Str := sel2Toks (selG ss)

theorem selToks_key_key (n m : Str) (ss : List SelStep) : selToks (.key n :: .key m :: ss) = n :: selToks (.key m :: ss) := rfl
theorem selToks_key_text (n : Str) (c : CondSp) (ss : List SelStep) :
    selToks (.key n :: .text c :: ss) = n :: selToks (.text c :: ss) := rfl
theorem selToks_key_star (n : Str) (ss : List SelStep) : selToks (.key n :: .star :: ss) = (n ++ bracket ['*']) :: selToks ss := rfl
theorem selToks_key_cond (n : Str) (c : CondSp) (ss : List SelStep) :
    selToks (.key n :: .cond c :: ss) = (n ++ bracket c.text) :: selToks ss := rfl
theorem selToks_star (ss : List SelStep) : selToks (.star :: ss) = bracket ['*'] :: selToks ss := rfl
theorem selToks_cond (c : CondSp) (ss : List SelStep) : selToks (.cond c :: ss) = bracket c.text :: selToks ss := rfl
theorem selToks_text_key (c : CondSp) (n : Str) (ss : List SelStep) :
    selToks (.text c :: .key n :: ss) = (c.k ++ bracket (sTextFn ++ c.opx ++ c.vq)) :: ['.', '.'] :: selToks (.key n :: ss) := rfl
theorem selToks_text_text (c c' : CondSp) (ss : List SelStep) :
    selToks (.text c :: .text c' :: ss) = (c.k ++ bracket (sTextFn ++ c.opx ++ c.vq)) :: ['.', '.'] :: selToks (.text c' :: ss) := rfl

theorem selToks_ne_nil : ∀ (s : SelStep) (ss : List SelStep), selToks (s :: ss) ≠ []
  | .key _, [] | .key _, .key _ :: _ | .key _, .star :: _ | .key _, .cond _ :: _ | .key _, .text _ :: _
  | .star, _ | .cond _, _ | .text _, _ => List.cons_ne_nil _ _

/-- a step whose text starts with a name -/
def SelStep.named : SelStep → Bool
  | .key _ | .text _ => true
  | _ => false

/-- what a fan-out makes of the outcomes of its members: a miss when none is found -/
def fan (rl : Bool) (os : List (Option Val)) : Option Val :=
  if (somes os).isEmpty then Option.none else some (collect rl (somes os))

/-- a name or a condition applied to a list is applied to its members (the engine supplies the `[*]`) -/
def onList (rl : Bool) (g : Val → Option Val) : Val → Option Val
  | .list _ xs => fan rl (xs.map g)
  | x => g x

/-- `[*]` at a list: its members.  (On a single value the engine loops over the one-element hidden list; `SelOK` asks for a
list, so that case is outside what `selD` is claimed for.) -/
def starAt (rl : Bool) (g : Val → Option Val) : Val → Option Val
  | .list _ xs => fan rl (xs.map g)
  | _ => Option.none

/-- a name at a dict: its value, if it has the key.  (At a single value the engine raises `IndexError`; `SelOK` asks for a dict.) -/
def keyAt (n : Str) (g : Val → Option Val) : Val → Option Val
  | .dict _ kvs => (lookup n kvs).bind g
  | _ => Option.none

/-- a condition at a record: the record itself goes on if its field passes the comparison -/
def gateAt (c : CondSp) (g : Val → Option Val) (r : Val) : Option Val := sel2Gate c.k c.op (.str c.v) r (g r)

/-- **The specification of selection**: the outcome of the steps `ss` at the node `x` for `return_lists = rl`. -/
def selD (rl : Bool) : List SelStep → Val → Option Val
  | [], x => some x
  | .key n :: ss, x => onList rl (keyAt n (selD rl ss)) x
  | .star :: ss, x => starAt rl (selD rl ss) x
  | .cond c :: ss, x => onList rl (gateAt c (selD rl ss)) x
  | .text c :: ss, x => onList rl (gateAt c (selD rl ss)) x

/-- the nodes a name or a condition is applied to at `x` -/
def members : Val → List Val
  | .list _ xs => xs
  | x => [x]

/-- tails the theorem speaks of: plain names, conditions of the covered spellings, a condition followed by a further step
(`'..'` as the last token returns the record itself), the `text()` form followed by a name (`..[*]` is one token) -/
def SelWF : List SelStep → Prop
  | [] => True
  | .key n :: ss => PlainKey n ∧ SelWF ss
  | .star :: ss => ss ≠ [] ∧ SelWF ss
  | .cond c :: ss => c.OK ∧ ss ≠ [] ∧ SelWF ss
  | .text c :: ss => c.OK ∧ (∃ s ss', ss = s :: ss' ∧ s.named = true) ∧ SelWF ss

/-- where the engine computes `selD`: names and conditions meet dicts (a name applied to a single value is `IndexError`,
which leaves every loop), `[*]` meets a list, conditions compare values the model compares (`textGuard`) -/
def SelOK : List SelStep → Val → Prop
  | [], _ => True
  | .key n :: ss, x => ∀ r ∈ members x, ∃ cl kvs, r = .dict cl kvs ∧ ∀ y, lookup n kvs = some y → SelOK ss y
  | .star :: ss, x => ∃ lc xs, x = .list lc xs ∧ ∀ r ∈ xs, SelOK ss r
  | .cond c :: ss, x => ∀ r ∈ members x, ∃ cl kvs, r = .dict cl kvs ∧
      (∀ kv, lookup c.k kvs = some kv → textGuard kv (.str c.v) = false) ∧ SelOK ss r
  | .text c :: ss, x => ∀ r ∈ members x, ∃ cl kvs, r = .dict cl kvs ∧
      (∀ kv, lookup c.k kvs = some kv → textGuard kv (.str c.v) = false) ∧ SelOK ss r

/-- fuel for a step at a single node at depth `d` (the length of its position); `P` says what suffices for the further steps: a
key descends, and `F` must serve its value; a condition descends to the field, tests it and walks back with `'..'` along the
`d` segments of the position, and `F` must serve the further steps at the node itself -/
def stepFuelD (s : SelStep) (P : Nat → Val → Nat → Prop) (d : Nat) (r : Val) (fu : Nat) : Prop :=
  match s, r with
  | .key n, .dict _ kvs => ∃ F, (∀ y, lookup n kvs = some y → P (d + 1) y F) ∧ fu ≥ F + 1
  | .key _, _ => fu ≥ 1
  | _, r => ∃ F, P d r F ∧ fu ≥ F + 3 ∧ fu ≥ d + 3

/-- fuel for a step at any node: a loop over a list takes a round per member and three or four more (a name or a condition
first has the `[*]` supplied), and there is an `F` that serves every member -/
def stepFuel (s : SelStep) (P : Nat → Val → Nat → Prop) (d : Nat) (x : Val) (fu : Nat) : Prop :=
  match s, x with
  | .star, .list _ xs => ∃ F, (∀ r ∈ xs, P (d + 1) r F) ∧ fu ≥ F + xs.length + 3
  | .star, _ => fu ≥ 1
  | s, .list _ xs => ∃ F, (∀ r ∈ xs, stepFuelD s P (d + 1) r F) ∧ fu ≥ F + xs.length + 4
  | s, x => stepFuelD s P d x fu

/-- **`fu` units of fuel suffice for the steps `ss` at the node `x` at depth `d`** -/
def SelFuel : List SelStep → Nat → Val → Nat → Prop
  | [], _, _, _ => True
  | s :: ss, d, x, fu => stepFuel s (SelFuel ss) d x fu

theorem stepFuelD_mono {s : SelStep} {P : Nat → Val → Nat → Prop} {d : Nat} {r : Val} {a b : Nat}
    (h : stepFuelD s P d r a) (hab : a ≤ b) : stepFuelD s P d r b := by
  cases s with
  | key n =>
    cases r with
    | dict cl kvs => obtain ⟨F, hF, ha⟩ := h; exact ⟨F, hF, Nat.le_trans ha hab⟩
    | _ => exact Nat.le_trans h hab
  | _ => obtain ⟨F, hF, h1, h2⟩ := h; exact ⟨F, hF, Nat.le_trans h1 hab, Nat.le_trans h2 hab⟩

theorem stepFuel_mono {s : SelStep} {P : Nat → Val → Nat → Prop} {d : Nat} {x : Val} {a b : Nat}
    (h : stepFuel s P d x a) (hab : a ≤ b) : stepFuel s P d x b := by
  cases x with
  | list lc xs =>
    cases s <;> (obtain ⟨F, hF, ha⟩ := h; exact ⟨F, hF, Nat.le_trans ha hab⟩)
  | _ =>
    cases s with
    | star => exact Nat.le_trans h hab
    | _ => simp only [stepFuel] at h ⊢; exact stepFuelD_mono h hab

theorem SelFuel.mono {ss : List SelStep} {d : Nat} {x : Val} {a b : Nat} (h : SelFuel ss d x a) (hab : a ≤ b) : SelFuel ss d x b := by
  cases ss with
  | nil => trivial
  | cons s ss => exact stepFuel_mono h hab

theorem stepFuelD_text (c : CondSp) (P : Nat → Val → Nat → Prop) : stepFuelD (.text c) P = stepFuelD (.cond c) P := by
  funext d r fu; rfl

theorem stepFuel_text (c : CondSp) (P : Nat → Val → Nat → Prop) (d : Nat) (x : Val) (fu : Nat) :
    stepFuel (.text c) P d x fu = stepFuel (.cond c) P d x fu := by
  cases x <;> simp only [stepFuel, stepFuelD_text]

/-- what a member of a list contributes to the steps `s :: ss` -/
def selMember (rl : Bool) (s : SelStep) (ss : List SelStep) : Val → Option Val :=
  match s with
  | .key n => keyAt n (selD rl ss)
  | .star => selD rl ss
  | .cond c => gateAt c (selD rl ss)
  | .text c => gateAt c (selD rl ss)

theorem selD_list (rl : Bool) (s : SelStep) (ss : List SelStep) (lc : Cls) (rs : List Val) :
    selD rl (s :: ss) (.list lc rs) = fan rl (rs.map (selMember rl s ss)) := by
  cases s <;> rfl

theorem selD_key_dict (rl : Bool) (n : Str) (ss : List SelStep) (cl : Cls) (kvs : List (Str × Val)) :
    selD rl (.key n :: ss) (.dict cl kvs) = (lookup n kvs).bind (selD rl ss) := rfl

theorem fan_out {root : Val} {rl : Bool} {x : PyM (Val × Res)} {os : List (Option Val)} (h : Sel2Out root x (fan rl os)) :
    Sel2Coll root rl x (somes os) := by
  obtain ⟨r, hr, h1, h2⟩ := h
  refine ⟨r, hr, ?_, ?_⟩
  · rw [h1]; unfold fan; cases (somes os).isEmpty <;> rfl
  · intro hf
    rw [h1] at hf
    unfold fan at hf h2
    cases he : (somes os).isEmpty with
    | true => simp [he] at hf
    | false => simp only [he, Bool.false_eq_true, if_false] at h2; exact h2 _ rfl

theorem map_congr_dicts {β : Type} {g h : Val → β} {rs : List Val} (hrs : ∀ r ∈ rs, isDict r = true)
    (hgh : ∀ cl kvs, g (.dict cl kvs) = h (.dict cl kvs)) : rs.map g = rs.map h := by
  apply List.map_congr_left
  intro r hr
  have := hrs r hr
  cases r with
  | dict cl kvs => exact hgh cl kvs
  | _ => simp [isDict] at this

theorem dicts_members {rs : List Val} (hrs : ∀ r ∈ rs, isDict r = true) {r : Val} (hr : r ∈ rs) : ∃ cl kvs, r = Val.dict cl kvs := by
  have := hrs r hr
  cases r with
  | dict cl kvs => exact ⟨cl, kvs, rfl⟩
  | _ => simp [isDict] at this

/-! ## one step at a time

`SelOK` and `SelFuel` at a step, from the further steps at the nodes the step leads to: the forms through which proofs use the two
definitions (`fu` is any fuel at least the bound). -/

theorem SelOK.star {ss : List SelStep} {lc : Cls} {xs : List Val} (h : ∀ r ∈ xs, SelOK ss r) : SelOK (.star :: ss) (.list lc xs) :=
  ⟨lc, xs, rfl, h⟩

theorem SelOK.key_dict {n : Str} {ss : List SelStep} {cl : Cls} {kvs : List (Str × Val)}
    (h : ∀ y, lookup n kvs = some y → SelOK ss y) : SelOK (.key n :: ss) (.dict cl kvs) :=
  fun r hr => by cases List.mem_singleton.mp hr; exact ⟨cl, kvs, rfl, h⟩

theorem SelOK.cond_dict {c : CondSp} {ss : List SelStep} {cl : Cls} {kvs : List (Str × Val)}
    (hg : ∀ kv, lookup c.k kvs = some kv → textGuard kv (.str c.v) = false) (h : SelOK ss (.dict cl kvs)) :
    SelOK (.cond c :: ss) (.dict cl kvs) ∧ SelOK (.text c :: ss) (.dict cl kvs) :=
  ⟨fun r hr => by cases List.mem_singleton.mp hr; exact ⟨cl, kvs, rfl, hg, h⟩,
   fun r hr => by cases List.mem_singleton.mp hr; exact ⟨cl, kvs, rfl, hg, h⟩⟩

theorem SelOK.list {s : SelStep} {ss : List SelStep} {lc : Cls} {rs : List Val} (hs : s ≠ .star) (hrs : ∀ r ∈ rs, isDict r = true)
    (h : ∀ r ∈ rs, SelOK (s :: ss) r) : SelOK (s :: ss) (.list lc rs) := by
  cases s with
  | star => exact absurd rfl hs
  | _ =>
    intro r hr
    obtain ⟨cl, kvs, rfl⟩ := dicts_members hrs hr
    exact h _ hr _ (List.mem_singleton.mpr rfl)

theorem SelFuel.star {ss : List SelStep} {d : Nat} {lc : Cls} {xs : List Val} {fu : Nat} (F : Nat)
    (h : ∀ r ∈ xs, SelFuel ss (d + 1) r F) (hfu : fu ≥ F + xs.length + 3) : SelFuel (.star :: ss) d (.list lc xs) fu :=
  ⟨F, h, hfu⟩

theorem SelFuel.key_dict {n : Str} {ss : List SelStep} {d : Nat} {cl : Cls} {kvs : List (Str × Val)} {fu : Nat} (F : Nat)
    (h : ∀ y, lookup n kvs = some y → SelFuel ss (d + 1) y F) (hfu : fu ≥ F + 1) : SelFuel (.key n :: ss) d (.dict cl kvs) fu :=
  ⟨F, h, hfu⟩

/-- a condition at a dict at depth `d`: three units beyond the further steps, and `d + 3` for the way back -/
theorem SelFuel.cond_dict {c : CondSp} {ss : List SelStep} {d : Nat} {cl : Cls} {kvs : List (Str × Val)} {fu : Nat} (F : Nat)
    (h : SelFuel ss d (.dict cl kvs) F) (h1 : fu ≥ F + 3) (h2 : fu ≥ d + 3) : SelFuel (.cond c :: ss) d (.dict cl kvs) fu :=
  ⟨F, h, h1, h2⟩

/-- a name or a condition at a list of dict records: a round per record and four more, and an `F` that serves every record -/
theorem SelFuel.list {s : SelStep} {ss : List SelStep} {d : Nat} {lc : Cls} {rs : List Val} {fu : Nat} (hs : s ≠ .star)
    (hrs : ∀ r ∈ rs, isDict r = true) (F : Nat) (h : ∀ r ∈ rs, SelFuel (s :: ss) (d + 1) r F) (hfu : fu ≥ F + rs.length + 4) :
    SelFuel (s :: ss) d (.list lc rs) fu := by
  cases s with
  | star => exact absurd rfl hs
  | _ => exact ⟨F, fun r hr => by obtain ⟨cl, kvs, rfl⟩ := dicts_members hrs hr; exact h _ hr, hfu⟩

/-! ### `[*]/f` and the shorthand `f` -/

theorem selD_field (rl : Bool) (f : Str) (cl : Cls) (kvs : List (Str × Val)) :
    selD rl [.key f] (.dict cl kvs) = fieldOf f (.dict cl kvs) := by
  show (lookup f kvs).bind (fun x => some x) = lookup f kvs
  cases lookup f kvs <;> rfl

theorem selMember_star (rl : Bool) (f : Str) {rs : List Val} (hrs : ∀ r ∈ rs, isDict r = true) :
    rs.map (selMember rl .star [.key f]) = rs.map (fieldOf f) ∧ rs.map (selMember rl (.key f) []) = rs.map (fieldOf f) :=
  ⟨map_congr_dicts hrs (selD_field rl f), map_congr_dicts hrs (selD_field rl f)⟩

theorem selOK_field (f : Str) {x : Val} (h : ∀ r ∈ members x, isDict r = true) : SelOK [.key f] x :=
  fun _ hr => by obtain ⟨cl, kvs, rfl⟩ := dicts_members h hr; exact ⟨cl, kvs, rfl, fun _ _ => trivial⟩

theorem selOK_star_field (f : Str) {lc : Cls} {rs : List Val} (hrs : ∀ r ∈ rs, isDict r = true) :
    SelOK [.star, .key f] (.list lc rs) ∧ SelOK [.key f] (.list lc rs) :=
  ⟨SelOK.star fun r hr => selOK_field f (fun r' hr' => by
      obtain ⟨cl, kvs, rfl⟩ := dicts_members hrs hr; cases List.mem_singleton.mp hr'; rfl), selOK_field f hrs⟩

/-- a last key at a dict: one unit -/
theorem selFuel_field (f : Str) (d : Nat) (cl : Cls) (kvs : List (Str × Val)) : SelFuel [.key f] d (.dict cl kvs) 1 :=
  SelFuel.key_dict 0 (fun _ _ => trivial) (Nat.le_refl _)

theorem selFuel_star_field (f : Str) (d : Nat) {lc : Cls} {rs : List Val} (hrs : ∀ r ∈ rs, isDict r = true) :
    SelFuel [.star, .key f] d (.list lc rs) (rs.length + 4) ∧ SelFuel [.key f] d (.list lc rs) (rs.length + 5) := by
  have h : ∀ r ∈ rs, SelFuel [.key f] (d + 1) r 1 := fun r hr => by
    obtain ⟨cl, kvs, rfl⟩ := dicts_members hrs hr; exact selFuel_field f _ cl kvs
  exact ⟨SelFuel.star 1 h (by omega), SelFuel.list (by simp) hrs 1 h (by omega)⟩

/-! ### `[k op v]/f` and `k[text() op v]/../f` -/

theorem selMember_pred (rl : Bool) (c : CondSp) (f : Str) {rs : List Val} (hrs : ∀ r ∈ rs, isDict r = true) :
    rs.map (selMember rl (.cond c) [.key f]) = rs.map (condOutcome c.k f c.op (.str c.v)) ∧
    rs.map (selMember rl (.text c) [.key f]) = rs.map (condOutcome c.k f c.op (.str c.v)) := by
  have h : ∀ cl kvs, gateAt c (selD rl [.key f]) (.dict cl kvs) = condOutcome c.k f c.op (.str c.v) (.dict cl kvs) :=
    fun cl kvs => by rw [← sel2_gate_fieldOf, gateAt, selD_field]
  exact ⟨map_congr_dicts hrs h, map_congr_dicts hrs h⟩

theorem selOK_pred (c : CondSp) (f : Str) {lc : Cls} {rs : List Val} (hrs : ∀ r ∈ rs, isDict r = true)
    (hg : ∀ cl kvs kv, Val.dict cl kvs ∈ rs → lookup c.k kvs = some kv → textGuard kv (.str c.v) = false) :
    SelOK [.cond c, .key f] (.list lc rs) ∧ SelOK [.text c, .key f] (.list lc rs) := by
  have h : ∀ r ∈ rs, SelOK [.cond c, .key f] r ∧ SelOK [.text c, .key f] r := fun r hr => by
    obtain ⟨cl, kvs, rfl⟩ := dicts_members hrs hr
    exact SelOK.cond_dict (fun kv hkv => hg cl kvs kv hr hkv) (selOK_field f (fun r' hr' => by cases List.mem_singleton.mp hr'; rfl))
  exact ⟨SelOK.list (by simp) hrs fun r hr => (h r hr).1, SelOK.list (by simp) hrs fun r hr => (h r hr).2⟩

/-- a condition at a dict record at depth `d + 1` followed by a last key: `d + 4` (depth 0 is not covered) -/
theorem selFuel_gate_field (c : CondSp) (f : Str) (d : Nat) (cl : Cls) (kvs : List (Str × Val)) :
    SelFuel [.cond c, .key f] (d + 1) (.dict cl kvs) (d + 4) :=
  SelFuel.cond_dict 1 (selFuel_field f _ cl kvs) (Nat.le_add_left ..) (Nat.le_refl _)

theorem selFuel_pred (c : CondSp) (f : Str) (d : Nat) {lc : Cls} {rs : List Val} (hrs : ∀ r ∈ rs, isDict r = true) :
    SelFuel [.cond c, .key f] d (.list lc rs) (d + rs.length + 8) ∧ SelFuel [.text c, .key f] d (.list lc rs) (d + rs.length + 8) := by
  have h : SelFuel [.cond c, .key f] d (.list lc rs) (d + rs.length + 8) :=
    SelFuel.list (by simp) hrs (d + 4) (fun r hr => by obtain ⟨cl, kvs, rfl⟩ := dicts_members hrs hr; exact selFuel_gate_field c f d cl kvs)
      (by omega)
  exact ⟨h, (stepFuel_text c (SelFuel [.key f]) d (.list lc rs) _).mpr h⟩

/-! ### `[k1 op v1]/items[k2 op v2]/f` -/

section chained
variable (rl : Bool) (c1 : CondSp) (items : Str) (c2 : CondSp) (f : Str) {lc : Cls} {rs : List Val}

theorem selD_inner (cl : Cls) (kvs : List (Str × Val)) (hin : ∀ x, lookup items kvs = some x → Sel3ItemOK c2.k (.str c2.v) x) :
    selD rl [.key items, .cond c2, .key f] (.dict cl kvs) = sel3Inner items c2.k f c2.op (.str c2.v) rl (.dict cl kvs) := by
  show (lookup items kvs).bind (onList rl (gateAt c2 (selD rl [.key f]))) = _
  cases hl : lookup items kvs with
  | none => simp [sel3Inner, hl]
  | some x =>
    rcases hin x hl with ⟨lc', xs, rfl, hds, _⟩ | ⟨c2', kvs2, rfl, _⟩
    · simp only [Option.bind_some, onList, sel3Inner, hl, (selMember_pred rl c2 f hds).1.symm, fan, selMember]
    · simp only [Option.bind_some, onList, sel3Inner, hl, gateAt, selD_field, sel2_gate_fieldOf]

theorem selMember_chained (hrs : ∀ r ∈ rs, isDict r = true) (hin : Sel3InnerOK items c2.k (.str c2.v) rs) :
    somes (rs.map (selMember rl (.cond c1) [.key items, .cond c2, .key f]))
      = sel3Chained c1.k c1.op (.str c1.v) items c2.k f c2.op (.str c2.v) rl rs := by
  show _ = somes (rs.map fun r => sel2Gate c1.k c1.op (.str c1.v) r (sel3Inner items c2.k f c2.op (.str c2.v) rl r))
  congr 1
  apply List.map_congr_left
  intro r hr
  obtain ⟨cl, kvs, rfl⟩ := dicts_members hrs hr
  show gateAt c1 (selD rl [.key items, .cond c2, .key f]) (.dict cl kvs) = _
  rw [gateAt, selD_inner rl items c2 f cl kvs (fun x hx => hin cl kvs x hr hx)]

theorem selOK_inner (cl : Cls) (kvs : List (Str × Val)) (hin : ∀ x, lookup items kvs = some x → Sel3ItemOK c2.k (.str c2.v) x) :
    SelOK [.key items, .cond c2, .key f] (.dict cl kvs) := by
  refine SelOK.key_dict fun y hy => ?_
  rcases hin y hy with ⟨lc', xs, rfl, hds, hg⟩ | ⟨c2', kvs2, rfl, hg⟩
  · exact (selOK_pred c2 f hds hg).1
  · exact (SelOK.cond_dict hg (selOK_field f (fun r'' hr'' => by cases List.mem_singleton.mp hr''; rfl))).1

theorem selOK_chained (hrs : ∀ r ∈ rs, isDict r = true)
    (hg : ∀ cl kvs kv, Val.dict cl kvs ∈ rs → lookup c1.k kvs = some kv → textGuard kv (.str c1.v) = false)
    (hin : Sel3InnerOK items c2.k (.str c2.v) rs) : SelOK [.cond c1, .key items, .cond c2, .key f] (.list lc rs) := by
  refine SelOK.list (by simp) hrs fun r hr => ?_
  obtain ⟨cl, kvs, rfl⟩ := dicts_members hrs hr
  exact (SelOK.cond_dict (fun kv hkv => hg cl kvs kv hr hkv) (selOK_inner items c2 f cl kvs (fun x hx => hin cl kvs x hr hx))).1

theorem selFuel_inner (d : Nat) (cl : Cls) (kvs : List (Str × Val)) (hin : ∀ x, lookup items kvs = some x → Sel3ItemOK c2.k (.str c2.v) x) :
    SelFuel [.key items, .cond c2, .key f] d (.dict cl kvs) (d + sel2InnerLen items (.dict cl kvs) + 10) := by
  refine SelFuel.key_dict (d + sel2InnerLen items (.dict cl kvs) + 9) (fun y hy => ?_) (Nat.le_refl _)
  rcases hin y hy with ⟨lc', xs, rfl, hds, _⟩ | ⟨c2', kvs2, rfl, _⟩
  · simp only [sel2InnerLen, hy]
    exact (selFuel_pred c2 f (d + 1) (lc := lc') hds).1.mono (by omega)
  · exact (selFuel_gate_field c2 f d c2' kvs2).mono (by omega)

theorem selFuel_chained (d : Nat) (hrs : ∀ r ∈ rs, isDict r = true) (hin : Sel3InnerOK items c2.k (.str c2.v) rs) :
    SelFuel [.cond c1, .key items, .cond c2, .key f] d (.list lc rs) (d + rs.length + (rs.map (sel2InnerLen items)).sum + 18) := by
  refine SelFuel.list (by simp) hrs (d + (rs.map (sel2InnerLen items)).sum + 14) (fun r hr => ?_) (by omega)
  obtain ⟨cl, kvs, rfl⟩ := dicts_members hrs hr
  obtain ⟨j, hj⟩ := List.getElem?_of_mem hr
  have h2 := le_sum_map_of_getElem? (sel2InnerLen items) rs j _ hj
  exact SelFuel.cond_dict (d + 1 + sel2InnerLen items (.dict cl kvs) + 10)
    (selFuel_inner items c2 f (d + 1) cl kvs (fun x hx => hin cl kvs x hr hx)) (by omega) (by omega)

end chained

/-! ## a family of tails

What the general theorems (`select_string`, `select_coll`, `select_root_string`) ask of a tail over a list of records — that it is
well formed, that the engine computes `selD` on the records, the fuel at every depth — and the value it has there.  The five tails
of the property follow. -/

/-- the tail `s :: ss` over the records `rs`: the engine selects `vals rl`, with fuel `bound d` at depth `d` -/
structure SelCase (lc : Cls) (rs : List Val) (s : SelStep) (ss : List SelStep) (bound : Nat → Nat) (vals : Bool → List Val) : Prop where
  wf : SelWF (s :: ss)
  ok : SelOK (s :: ss) (.list lc rs)
  /-- from a list root `[*]` at the record list is the loop of `n0list._find`, which takes dict members (`findL_selD`) -/
  star : s = .star → ∀ r ∈ rs, isDict r = true
  fuel : ∀ d, SelFuel (s :: ss) d (.list lc rs) (bound d)
  val : ∀ rl, somes (rs.map (selMember rl s ss)) = vals rl

section cases
variable {lc : Cls} {rs : List Val} (hrs : ∀ r ∈ rs, isDict r = true)
include hrs

/-- `[*]/f` -/
theorem star_case {f : Str} (hf : PlainKey f) :
    SelCase lc rs .star [.key f] (fun _ => rs.length + 4) (fun _ => somes (rs.map (fieldOf f))) :=
  ⟨⟨by simp, hf, trivial⟩, (selOK_star_field f hrs).1, fun _ => hrs, fun d => (selFuel_star_field f d hrs).1,
    fun rl => congrArg somes (selMember_star rl f hrs).1⟩

/-- the shorthand `f` -/
theorem key_case {f : Str} (hf : PlainKey f) :
    SelCase lc rs (.key f) [] (fun _ => rs.length + 5) (fun _ => somes (rs.map (fieldOf f))) :=
  ⟨⟨hf, trivial⟩, (selOK_star_field f hrs).2, (fun h => by cases h), fun d => (selFuel_star_field f d hrs).2,
    fun rl => congrArg somes (selMember_star rl f hrs).2⟩

section pred
variable {c : CondSp} (hc : c.OK) {f : Str} (hf : PlainKey f)
  (hg : ∀ cl kvs kv, Val.dict cl kvs ∈ rs → lookup c.k kvs = some kv → textGuard kv (.str c.v) = false)
include hc hf hg

/-- `[k op v]/f` -/
theorem cond_case : SelCase lc rs (.cond c) [.key f] (fun d => d + rs.length + 8)
    (fun _ => somes (rs.map (condOutcome c.k f c.op (.str c.v)))) :=
  ⟨⟨hc, by simp, hf, trivial⟩, (selOK_pred c f hrs hg).1, (fun h => by cases h), fun d => (selFuel_pred c f d hrs).1,
    fun rl => congrArg somes (selMember_pred rl c f hrs).1⟩

/-- `k[text() op v]/../f` -/
theorem text_case : SelCase lc rs (.text c) [.key f] (fun d => d + rs.length + 8)
    (fun _ => somes (rs.map (condOutcome c.k f c.op (.str c.v)))) :=
  ⟨⟨hc, ⟨_, _, rfl, rfl⟩, hf, trivial⟩, (selOK_pred c f hrs hg).2, (fun h => by cases h), fun d => (selFuel_pred c f d hrs).2,
    fun rl => congrArg somes (selMember_pred rl c f hrs).2⟩

end pred

/-- `[k1 op v1]/items[k2 op v2]/f` -/
theorem chained_case {c1 c2 : CondSp} (hc1 : c1.OK) (hc2 : c2.OK) {items f : Str} (hitems : PlainKey items) (hf : PlainKey f)
    (hg : ∀ cl kvs kv, Val.dict cl kvs ∈ rs → lookup c1.k kvs = some kv → textGuard kv (.str c1.v) = false)
    (hin : Sel3InnerOK items c2.k (.str c2.v) rs) :
    SelCase lc rs (.cond c1) [.key items, .cond c2, .key f] (fun d => d + rs.length + (rs.map (sel2InnerLen items)).sum + 18)
      (fun rl => sel3Chained c1.k c1.op (.str c1.v) items c2.k f c2.op (.str c2.v) rl rs) :=
  ⟨⟨hc1, by simp, hitems, hc2, by simp, hf, trivial⟩, selOK_chained c1 items c2 f hrs hg hin, (fun h => by cases h),
    fun d => selFuel_chained c1 items c2 f d hrs hin, fun rl => selMember_chained rl c1 items c2 f hrs hin⟩

end cases

end N0.XPath
