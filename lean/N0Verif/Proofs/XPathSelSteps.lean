import N0Verif.Proofs.XPathTree
import N0Verif.Proofs.XPathSelCond
import N0Verif.Proofs.XPathFanLoop
/-!
  The outcome of a selecting search (`Sel2Out`, `Sel2Coll`), the `text()` test at a position of the root (`find_text_step`), and the
  two `[*]` loops (`starIdx`, the loop of `n0list._find`) for any per-element outcome.
-/
namespace N0.XPath
open N0 N0.Py N0.Val

/-- the value a fan-out returns for the list of found values (`return_lists` = `rl`) -/
def collect (rl : Bool) (vals : List Val) : Val :=
  if !rl && vals.length = 1 then vals.headD Val.none else .list .n0 vals

def somes : List (Option Val) → List Val
  | [] => []
  | some v :: os => v :: somes os
  | Option.none :: os => somes os

theorem somes_cons_toList (o : Option Val) (os : List (Option Val)) : somes (o :: os) = o.toList ++ somes os := by
  cases o <;> rfl

/-- a lookup outcome: the search leaves the tree unchanged and is found exactly when `out` is `some v`, then
with value `v` -/
def Sel2Out (root : Val) (x : PyM (Val × Res)) (out : Option Val) : Prop :=
  ∃ r, x = .ok (root, r) ∧ r.isFound = out.isSome ∧ ∀ v, out = some v → r.value = v

theorem sel2Out_notFound (root : Val) (par : PRef) (ni : Option Str) (v : Val) (found : Str) (nf : List Str) (hnf : nf ≠ []) :
    Sel2Out root (.ok (root, { parent := par, nameIdx := ni, value := v, found := found, notFound := some nf })) Option.none :=
  ⟨_, rfl, by simp [Res.isFound, isEmpty_false_of_ne hnf], by intro x hx; cases hx⟩

theorem sel2Out_found (root : Val) (par : PRef) (ni : Option Str) (v : Val) (found : Str) :
    Sel2Out root (.ok (root, { parent := par, nameIdx := ni, value := v, found := found, notFound := Option.none })) (some v) :=
  ⟨_, rfl, rfl, by intro x hx; cases hx; rfl⟩

/-- a selecting lookup: found exactly when something is selected, then the collected list -/
def Sel2Coll (root : Val) (rl : Bool) (x : PyM (Val × Res)) (vals : List Val) : Prop :=
  ∃ r, x = .ok (root, r) ∧ r.isFound = !vals.isEmpty ∧ (r.isFound = true → r.value = collect rl vals)

theorem Sel2Coll.out {root : Val} {rl : Bool} {x : PyM (Val × Res)} {vals : List Val} (h : Sel2Coll root rl x vals) :
    Sel2Out root x (if vals.isEmpty then Option.none else some (collect rl vals)) := by
  obtain ⟨r, hr, h1, h2⟩ := h
  refine ⟨r, hr, ?_, ?_⟩
  · cases hv : vals.isEmpty <;> simp [h1, hv]
  · intro x hx
    cases hv : vals.isEmpty with
    | true => simp [hv] at hx
    | false =>
      simp only [hv, Bool.false_eq_true, if_false, Option.some.injEq] at hx
      rw [← hx]; exact h2 (by simp [h1, hv])

theorem somes_map {α : Type} (o : α → Option Val) : ∀ (as : List α), somes (as.map o) = as.filterMap o
  | [] => rfl
  | a :: as => by rw [List.map_cons, somes_cons_toList, somes_map o as, List.filterMap_cons]; cases o a <;> rfl

/-- **The `[*]` loop over the members of a list** collects the members' outcomes in order (an instance of `fanLoop_coll`) -/
theorem starIdx_records (root : Val) (sp : Pos) (ps : Bool) (per : List Str) (par : PRef) (rl : Bool) (found : Str)
    (all : List Str) (hall : all ≠ []) (rs : List Val) (o : Val → Option Val) (F : Nat)
    (helem : ∀ (j : Nat) (rec : Val), rs[j]? = some rec → ∀ fu ≥ F,
      Sel2Out root (findD fu root sp ps false (bracket (natStr j) :: per) par rl found) (o rec))
    (fuel : Nat) (hfuel : fuel ≥ F + rs.length + 1) :
    Sel2Coll root rl (starIdx fuel root sp ps rs.length 0 per par rl found [] Option.none all) (somes (rs.map o)) := by
  have hmap : rs.map o = (List.range' 0 rs.length).map (fun j => (rs[j]?).bind o) := by
    apply List.ext_getElem?
    intro j
    simp only [List.getElem?_map]
    rcases Nat.lt_or_ge j rs.length with h | h
    · simp [h]
    · simp [h]
  rw [starIdx_eq_fanLoop rs.length 0 rs.length fuel root _ _ (Nat.zero_add _).symm, hmap, somes_map]
  refine fanLoop_coll rl _ (by simp [fanMiss, Res.isFound, isEmpty_false_of_ne hall]) _ root _ F _ [] Option.none fuel
    (fun j hj fu hfu => ?_) (by rw [List.length_range']; exact hfuel) rfl
  have hj' : j < rs.length := by simpa [List.mem_range'] using hj
  rw [List.getElem?_eq_getElem hj']
  exact helem j rs[j] (List.getElem?_eq_getElem hj') fu hfu

/-- the comparison made by the `text()` branch for the normalised operator `op` -/
def condTest (op : Str) (v : CondVal) (kv : Val) : Bool :=
  let b := if op.drop 1 = ['='] then textEqCond kv v else pyInCond v kv
  if op.take 1 = ['!'] then !b else b

theorem pyEqCond_str (x : Val) (v : Str) : pyEqCond x (.str v) = (x == Val.str v) := by
  cases x with
  | str s =>
    show decide (s = v) = Val.beq (.str s) (.str v)
    by_cases h : s = v <;> simp [Val.beq, h]
  | _ => rfl

section steps
variable {fuel : Nat} {root : Val} {entry rl : Bool} {p : Pos} {found : Str} {rest : List Str}

theorem find_text_step {kv : Val} {tok op : Str} {v : CondVal} (hp : getAt root p = some kv)
    (hs : splitNameIndex tok = .ok ([], .cond sTextFn op v)) (hop : OpSpell op op) (hg : textGuard kv v = false) :
    findD (fuel + 1) root [] false entry (tok :: rest) (.at p) rl found
      = if condTest op v kv then findD fuel root [] false false rest (.at p) rl found
        else .ok (root, { parent := .at p, nameIdx := Option.none, value := Val.none, found := found, notFound := some (tok :: rest) }) := by
  rw [findD_text (ps := false) (par := .at p) rfl hp hs hg]
  rcases opSpell_self_cases hop with rfl | rfl | rfl
  · rw [textRes_eq]; cases hc : textEqCond kv v <;> simp [condTest, hc]
  · rw [textRes_ne]; cases hc : textEqCond kv v <;> simp [condTest, hc]
  · rw [textRes_in]; cases hc : pyInCond v kv <;> simp [condTest, hc]

end steps

/-- the field `f` of a record (a non-dict has none) -/
def fieldOf (f : Str) : Val → Option Val
  | .dict _ kvs => lookup f kvs
  | _ => Option.none

theorem sel2_field_cont (root : Val) (rl : Bool) (pos : Pos) (c : Cls) (kvs' : List (Str × Val)) (f found : Str) {entry : Bool}
    (hq : getAt root pos = some (.dict c kvs')) (hf : KeyTok f) (fu : Nat) (hfu : fu ≥ 1) :
    Sel2Out root (findD fu root [] false entry [f] (.at pos) rl found) (fieldOf f (.dict c kvs')) := by
  obtain ⟨g, rfl⟩ : ∃ g, fu = g + 1 := ⟨fu - 1, by omega⟩
  show Sel2Out root _ (lookup f kvs')
  cases hl : lookup f kvs' with
  | none =>
    rw [findD_key_miss (par := .at pos) rfl hq hf.split hf.ne hf.notUp hf.notStar hl]
    exact sel2Out_notFound root _ _ _ _ [f] (by simp)
  | some x =>
    rw [find_key_last g root entry rl _ _ f c kvs' x hq hf hl]
    exact sel2Out_found root _ _ _ _

theorem xa_findL_name (fuel : Nat) (root : Val) (sp : Pos) (rl : Bool) (par : PRef) (pv : Val) (found tok nm : Str) (idx : Idx)
    (rest : List Str) (hpv : valOf root par = some pv) (ht : splitNameIndex tok = .ok (nm, idx)) (hne : nm ≠ []) :
    findL (fuel + 1) root sp (tok :: rest) par rl found = findD fuel root sp false true (tok :: rest) par rl found :=
  findL_name hpv ht hne

theorem xa_findL_cond (fuel : Nat) (root : Val) (sp : Pos) (rl : Bool) (par : PRef) (pv : Val) (found tok k op : Str) (v : CondVal)
    (rest : List Str) (hpv : valOf root par = some pv) (ht : splitNameIndex tok = .ok ([], .cond k op v)) :
    findL (fuel + 1) root sp (tok :: rest) par rl found = findD fuel root sp false true (tok :: rest) par rl found :=
  findL_cond hpv ht

/-- **the `[*]` loop of `n0list._find`** over dict records, from any index `i` and accumulator: `todo[j]` is the outcome of record
`i + j` -/
theorem xa_findL_loop (root : Val) (sp : Pos) (q : Pos) (rl : Bool) (found tok : Str) (rest : List Str) (F0 : Nat) :
    ∀ (items : List Val) (todo : List (Option Val)) (i : Nat) (acc : List Val) (fst : Option Res) (fuel : Nat),
      todo.length = items.length → (∀ it ∈ items, isDict it = true) →
      (∀ j (hj : j < todo.length), ∀ fu ≥ F0, ∃ r,
          findD fu root sp false true rest (.at (q ++ [.idx (i + j)])) rl (found ++ bracket (natStr (i + j))) = .ok (root, r)
          ∧ r.isFound = (todo[j]).isSome ∧ ∀ v, todo[j] = some v → r.value = v) →
      fuel ≥ F0 + todo.length + 1 →
      fst.isSome = !acc.isEmpty →
      ∃ r, findL.loop sp (.at q) rl found tok rest fuel root i items acc fst = .ok (root, r) ∧
        r.isFound = !(acc ++ somes todo).isEmpty ∧
        (r.isFound = true → r.value = collect rl (acc ++ somes todo)) := by
  intro items todo i acc fst fuel hlen hd hel hf hfst
  have hsel : ∀ (items : List Val) (todo : List (Option Val)) (i : Nat), todo.length = items.length →
      (items.zipIdx i).filterMap (fun a => (todo[a.2 - i]?).join) = somes todo := by
    intro items
    induction items with
    | nil => intro todo i h; cases todo with | nil => rfl | cons _ _ => cases h
    | cons it its ih =>
      intro todo i h
      cases todo with
      | nil => cases h
      | cons o todo =>
        rw [List.zipIdx_cons, List.filterMap_cons, somes_cons_toList, ← ih todo (i + 1) (Nat.succ.inj h)]
        have : (its.zipIdx (i + 1)).filterMap (fun a => ((o :: todo)[a.2 - i]?).join)
            = (its.zipIdx (i + 1)).filterMap (fun a => (todo[a.2 - (i + 1)]?).join) := by
          apply N0.Py.filterMap_congr
          intro a ha
          have hge : i + 1 ≤ a.2 := (List.mem_zipIdx ha).1
          rw [show a.2 - i = (a.2 - (i + 1)) + 1 by omega, List.getElem?_cons_succ]
        rw [this, Nat.sub_self]
        cases o <;> rfl
  rw [findL_loop_eq_fanLoop, ← hsel items todo i hlen]
  refine fanLoop_coll rl _ rfl _ root _ F0 _ acc fst fuel (fun a ha fu hfu => ?_) (by rw [List.length_zipIdx, ← hlen]; exact hf) hfst
  obtain ⟨it, k⟩ := a
  obtain ⟨hge, hlt, hit⟩ := List.mem_zipIdx ha
  obtain ⟨c, kvs', rfl⟩ : ∃ c kvs', it = Val.dict c kvs' := by
    have hdi : isDict it = true := hd it (hit ▸ List.getElem_mem _)
    cases it with
    | dict c kvs' => exact ⟨c, kvs', rfl⟩
    | _ => simp [isDict] at hdi
  have hj : k - i < todo.length := by rw [hlen]; omega
  obtain ⟨r, hr, h1, h2⟩ := hel (k - i) hj fu hfu
  rw [show i + (k - i) = k by omega] at hr
  refine ⟨r, ?_, ?_, ?_⟩
  · rw [childRef_at, elemFind_dict]; exact hr
  · rw [h1, List.getElem?_eq_getElem hj]; rfl
  · intro v hv
    rw [List.getElem?_eq_getElem hj] at hv
    exact h2 v hv

theorem xa_findL_star (root : Val) (q : Pos) (rl : Bool) (found tok : Str) (rest : List Str) (lc : Cls) (rs : List Val)
    (o : Val → Option Val) (F0 : Nat)
    (hq : getAt root q = some (.list lc rs)) (hrs : ∀ r ∈ rs, isDict r = true)
    (ht : splitNameIndex tok = .ok ([], .str ['*']))
    (helem : ∀ (j : Nat) (rec : Val), rs[j]? = some rec → ∀ fu ≥ F0,
      Sel2Out root (findD fu root [] false true rest (.at (q ++ [.idx j])) rl (found ++ bracket (natStr j))) (o rec))
    (fuel : Nat) (hfuel : fuel ≥ F0 + rs.length + 2) :
    Sel2Coll root rl (findL fuel root [] (tok :: rest) (.at q) rl found) (somes (rs.map o)) := by
  obtain ⟨g, rfl⟩ : ∃ g, fuel = g + 1 := ⟨fuel - 1, by omega⟩
  rw [findL_star_list (par := .at q) hq ht]
  have := xa_findL_loop root [] q rl found tok rest F0 rs (rs.map o) 0 [] Option.none g (List.length_map _) hrs
    (fun j hj fu hfu => by
      have hj' : j < rs.length := by rwa [List.length_map] at hj
      rw [Nat.zero_add, List.getElem_map]
      exact helem j rs[j] (List.getElem?_eq_getElem hj') fu hfu)
    (by rw [List.length_map]; omega) rfl
  rwa [List.nil_append] at this

end N0.XPath
