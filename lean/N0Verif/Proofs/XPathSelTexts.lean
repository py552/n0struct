import N0Verif.Proofs.XPathGText
import N0Verif.Proofs.XPathSelCond
import N0Verif.Proofs.XPathSpellings
/-!
  The text of a spelled path followed by a selecting tail of `/key` and `[text]` pieces: its tokens are those of the path
  followed by those of the tail, except that a final key of the path and a leading bracket of the tail are one token
  (`TailToks`, `sel3_tokenize_sp_tail`); such a text does not start with `?` and has a path character.  The canonical path
  as a spelling (`canonSteps`), and index tokens padded with blanks.
-/
namespace N0.XPath
open N0 N0.Py N0.Val

theorem sel2_gBr_cond (k opx op vq v : Str) (hk : CondKey k) (hop : OpSpell opx op) (hlit : LitSpell vq v) (hv : PlainLit v) :
    GBr (k ++ opx ++ vq) :=
  ⟨fun c hc => (cond_text_chars k opx op vq v hk hop hlit hv c hc).1, fun c hc => (cond_text_chars k opx op vq v hk hop hlit hv c hc).2⟩

theorem sel3_dropSlash_append (s Y : Str) (hs : s ≠ []) : dropSlash s ++ Y = dropSlash (s ++ Y) := by
  cases s with
  | nil => exact absurd rfl hs
  | cons c s' => by_cases h : c = '/' <;> simp [dropSlash, h]

theorem sel3_renderSteps_ne_nil (steps : List StepSp) (hne : steps ≠ []) : renderSteps steps ≠ [] := by
  cases steps with
  | nil => exact absurd rfl hne
  | cons s r =>
    obtain ⟨ch, rs, hrs, _⟩ := renderStep_head s
    rw [renderSteps_cons, hrs]; simp

theorem sel3_tokenize_sp (lead : Lead) (steps : List StepSp) (Y : Str) (hne : steps ≠ []) :
    tokenize (renderSp lead steps ++ Y) = tokenize (renderSteps steps ++ Y) := by
  unfold renderSp
  rw [List.append_assoc, tokenize_leadStr, sel3_dropSlash_append _ _ (sel3_renderSteps_ne_nil steps hne), tokenize_dropSlash]

theorem sel3_tokenize_sp_key (lead : Lead) (steps : List StepSp) (k : Str) (gs : List GSeg) (hp : PlainSteps steps)
    (hne : steps ≠ []) (hg : GoodG (.key k :: gs)) :
    tokenize (renderSp lead steps ++ sel2Render (.key k :: gs)) = toksOf steps ++ sel2Toks (.key k :: gs) := by
  rw [sel3_tokenize_sp _ _ _ hne, tokenize_steps_tail steps _ hp hg, sel2_toks_append_key, toks_gsOf]

theorem sel3_tokenize_sp_key_br (lead : Lead) (steps' : List StepSp) (name c : Str) (gs : List GSeg)
    (hp : PlainSteps (steps' ++ [.key name])) (hg : GoodG (.br c :: gs)) :
    tokenize (renderSp lead (steps' ++ [.key name]) ++ sel2Render (.br c :: gs))
      = toksOf steps' ++ (name ++ bracket c) :: sel2Toks gs := by
  rw [sel3_tokenize_sp _ _ _ (by simp), tokenize_steps_tail _ _ hp hg, ← toks_gsOf steps', gsOf, gsOf, List.flatMap_append,
    List.append_assoc]
  exact sel2_toks_append_key_br (List.flatMap embedS steps') name c gs

theorem sel3_tokenize_sp_idx_br (lead : Lead) (steps' : List StepSp) (e : IdxSp) (sep : Bool) (c : Str) (gs : List GSeg)
    (hp : PlainSteps (steps' ++ [.idx e sep])) (hg : GoodG (.br c :: gs)) :
    tokenize (renderSp lead (steps' ++ [.idx e sep]) ++ sel2Render (.br c :: gs))
      = toksOf (steps' ++ [.idx e sep]) ++ bracket c :: sel2Toks gs := by
  rw [sel3_tokenize_sp _ _ _ (by simp), tokenize_steps_tail _ _ hp hg, ← toks_gsOf, gsOf, List.flatMap_append]
  cases sep with
  | false => simpa [embedS] using sel2_toks_append_br_br (List.flatMap embedS steps') e.text c gs
  | true =>
    have := sel2_toks_append_br_br (List.flatMap embedS steps' ++ [.key []]) e.text c gs
    simp only [List.append_assoc, List.cons_append, List.nil_append] at this
    simpa [embedS] using this

/-- a spelling followed by a bracket piece: the bracket joins the last token when that is a key, and is a token
of its own after an index -/
theorem sel3_tokenize_sp_br (lead : Lead) (steps : List StepSp) (c : Str) (gs : List GSeg) (hp : PlainSteps steps)
    (hne : steps ≠ []) (hg : GoodG (.br c :: gs)) :
    tokenize (renderSp lead steps ++ sel2Render (.br c :: gs)) = toksOf steps ++ bracket c :: sel2Toks gs ∨
    ∃ toks' name, toksOf steps = toks' ++ [name] ∧ PlainKey name ∧
      tokenize (renderSp lead steps ++ sel2Render (.br c :: gs)) = toks' ++ (name ++ bracket c) :: sel2Toks gs := by
  obtain ⟨steps', s, rfl⟩ : ∃ steps' s, steps = steps' ++ [s] :=
    ⟨steps.dropLast, steps.getLast hne, (List.dropLast_concat_getLast hne).symm⟩
  cases s with
  | key name =>
    right
    exact ⟨toksOf steps', name, toksOf_append_key name [] steps', ((plainSteps_append _ _).1 hp).2.1,
      sel3_tokenize_sp_key_br lead steps' name c gs hp hg⟩
  | idx e sep =>
    left
    exact sel3_tokenize_sp_idx_br lead steps' e sep c gs hp hg

/-- the tokens of `spelling ++ tail`: those of the spelling followed by those of the tail, or — the spelling ends in a key `name`,
the tail starts with a bracket piece `[c]` — with `name[c]` as one token.  Stated on tokens and not on pieces through `find_gwalkTo`:
that theorem asks `IdxExpr` of a following bracket, which a condition is not, and `_find` writes the condition of a glued
`name[k op v]` anew as `[k op 'v']`; so the glued token is read as the key step at the parent dict (`tailToks_cases`). -/
inductive TailToks (toksP : List Str) : List GSeg → List Str → Prop
  | plain (tailG : List GSeg) : TailToks toksP tailG (toksP ++ sel2Toks tailG)
  | merged {toks' : List Str} {name c : Str} {gs : List GSeg} : toksP = toks' ++ [name] → PlainKey name →
      TailToks toksP (.br c :: gs) (toks' ++ (name ++ bracket c) :: sel2Toks gs)

theorem sel3_tokenize_sp_tail (lead : Lead) (steps : List StepSp) (tailG : List GSeg) (hp : PlainSteps steps)
    (hne : steps ≠ []) (hg : GoodG tailG) (hne' : tailG ≠ []) :
    TailToks (toksOf steps) tailG (tokenize (renderSp lead steps ++ sel2Render tailG)) := by
  cases tailG with
  | nil => exact absurd rfl hne'
  | cons s gs =>
    cases s with
    | key k => rw [sel3_tokenize_sp_key lead steps k gs hp hne hg]; exact .plain _
    | br c =>
      rcases sel3_tokenize_sp_br lead steps c gs hp hne hg with h | ⟨toks', name, ht, hname, h⟩
      · rw [h]; exact .plain (.br c :: gs)
      · rw [h]; exact .merged ht hname

/-- a spelling that plain indexing follows from a container: below a dict it starts with a plain key, below a list with
`[` — not with `?` -/
theorem sel3_sp_noQ (root : Val) (lead : Lead) (steps : List StepSp) (c : Val) (Y : Str)
    (hp : PlainSteps steps) (hne : steps ≠ []) (hget : stepsGet root steps = some c) :
    startsWith (renderSp lead steps ++ Y) ['?'] = false := by
  cases steps with
  | nil => exact absurd rfl hne
  | cons s r =>
    cases s with
    | idx e sep =>
      have hbody : dropSlash (renderSteps (.idx e sep :: r)) = '[' :: (e.text ++ ']' :: renderSteps r) := by
        cases sep <;> simp [renderSteps_cons, renderStep, dropSlash, bracket]
      unfold renderSp; rw [hbody]
      cases lead <;> simp [leadStr, startsWith]
    | key k =>
      obtain ⟨hk, _⟩ := hp
      have hbody : dropSlash (renderSteps (.key k :: r)) = k ++ renderSteps r := by
        simp [renderSteps_cons, renderStep, dropSlash]
      obtain ⟨x, k', rfl⟩ : ∃ x k', k = x :: k' := by
        cases k with
        | nil => exact absurd rfl hk.ne
        | cons x k' => exact ⟨x, k', rfl⟩
      have hxq : x ≠ '?' := plainChar_ne_q (hk.chars x (by simp))
      unfold renderSp; rw [hbody]
      cases lead <;> simp [leadStr, startsWith, hxq]

theorem sel3_sp_pathChar (lead : Lead) (steps : List StepSp) (tailG : List GSeg) (hne : tailG ≠ []) :
    hasPathChar (renderSp lead steps ++ sel2Render tailG) = true := by
  cases tailG with
  | nil => exact absurd rfl hne
  | cons s gs =>
    cases s with
    | key k => exact hasPathChar_of_mem (ch := '/') (by simp [sel2Render_key]) (Or.inl rfl)
    | br e => exact hasPathChar_of_mem (ch := '[') (by simp [sel2Render_br, bracket]) (Or.inr rfl)


theorem renderSp_rel_key (name : Str) : renderSp .rel [.key name] = name := by
  simp [renderSp, renderSteps, renderStep, dropSlash, leadStr]

theorem stepsGet_key {cls : Cls} {kvs : List (Str × Val)} {name : Str} {c : Val} (hl : lookup name kvs = some c) :
    stepsGet (.dict cls kvs) [.key name] = some c := by
  simp [stepsGet, hl]

theorem canonSteps_ne_nil (p : Pos) (hne : p ≠ []) : canonSteps p ≠ [] := by
  rw [Ne, ← List.length_eq_zero_iff, canonSteps_length, List.length_eq_zero_iff]
  exact hne

/-- the canonical path `//a/b[0]…` is the spelling with prefix `//`, attached indexes written as plain numbers -/
theorem renderSp_canon_dict (cls : Cls) (kvs : List (Str × Val)) (p : Pos) (c : Val) (hne : p ≠ [])
    (hget : getAt (.dict cls kvs) p = some c) : renderSp .two (canonSteps p) = slash ++ renderPos p := by
  obtain ⟨k, r, rfl⟩ := pos_head_key hget hne
  exact renderSp_canon k r

theorem xlds_canon (n : Nat) (rest : Pos) :
    renderSp .rel (canonSteps (.idx n :: rest)) = [] ++ renderPos (.idx n :: rest) ∧
    renderSp .one (canonSteps (.idx n :: rest)) = slash ++ renderPos (.idx n :: rest) := by
  unfold renderSp
  rw [renderSteps_canon]
  constructor <;> simp [renderPos, renderSeg, bracket, dropSlash, leadStr, slash]


/-! `split_name_index` strips the text between the brackets, so a padded index token is an index token for the same
expression: every token-level theorem over `Spells` / `Sel3Spells` token lists covers such spellings. -/

theorem split_bracket_pad (k e wl wr : Str) (hk : k = [] ∨ PlainKey k) (he : IdxExpr e)
    (hwl : ∀ c ∈ wl, isPySpace c = true) (hwr : ∀ c ∈ wr, isPySpace c = true) :
    splitNameIndex (k ++ bracket (wl ++ e ++ wr)) = .ok (k, .str e) := by
  have hkb : ∀ c ∈ k, c ≠ '[' := by
    rcases hk with hk | hk
    · subst hk; simp
    · exact fun c hc => (plainChar_ne (hk.chars c hc)).2.1
  have hks : stripWs k = k := by
    rcases hk with hk | hk
    · subst hk; rfl
    · exact hk.stripWs
  have hes : stripWs (wl ++ e ++ wr) = e := stripWs_pad wl wr e hwl hwr he.head he.last
  have hform : k ++ bracket (wl ++ e ++ wr) = (k ++ '[' :: (wl ++ e ++ wr)) ++ [']'] := by simp [bracket]
  have hcont : (k ++ bracket (wl ++ e ++ wr)).contains '[' = true := by simp [bracket]
  have hends : endsWith (k ++ bracket (wl ++ e ++ wr)) [']'] = true := by rw [hform]; exact endsWith_snoc _ _
  have hdrop : (k ++ bracket (wl ++ e ++ wr)).dropLast = k ++ '[' :: (wl ++ e ++ wr) := by
    rw [hform, List.dropLast_concat]
  have hne : e.isEmpty = false := isEmpty_false_of_ne he.ne
  unfold splitNameIndex
  simp only [hcont, hends, Bool.and_self, if_true, hdrop, splitOnce_bracket k (wl ++ e ++ wr) hkb, hks, hes, hne,
    Bool.false_eq_true, if_false, he.notContains, Bool.false_and, he.parseCond]
  rfl

theorem IdxSp.idxTok_pad (e : IdxSp) (wl wr : Str) (hwl : ∀ c ∈ wl, isPySpace c = true) (hwr : ∀ c ∈ wr, isPySpace c = true) :
    IdxTok (bracket (wl ++ e.text ++ wr)) e.text e.val where
  split := by simpa using split_bracket_pad [] e.text wl wr (Or.inl rfl) (bare_idxExpr e.text_ne e.text_bare) hwl hwr
  ne := e.text_ne
  notNew := (bare_ne_special e.text_bare).1
  notStar := (bare_ne_special e.text_bare).2
  eval := e.eval

theorem IdxSp.keyIdxTok_pad (e : IdxSp) {k : Str} (hk : PlainKey k) (wl wr : Str) (hwl : ∀ c ∈ wl, isPySpace c = true)
    (hwr : ∀ c ∈ wr, isPySpace c = true) : KeyIdxTok (k ++ bracket (wl ++ e.text ++ wr)) k e.text e.val where
  split := split_bracket_pad k e.text wl wr (Or.inr hk) (bare_idxExpr e.text_ne e.text_bare) hwl hwr
  kne := hk.ne
  notUp := hk.notUp
  notStar := hk.keyTok.notStar
  inner := e.idxTok


end N0.XPath
