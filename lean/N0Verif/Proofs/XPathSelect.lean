import N0Verif.Proofs.XPathSelSteps
import N0Verif.Proofs.XPathFirst
import N0Verif.Proofs.XPathSelTexts
/-!
  From `_find` to `get` / item access / `first` (`select_api_root`, `sel3_tail_api`), and the selections a predicate step and a
  chained selection make over a list of dict records (`condOutcome`, `sel2Gate`, `sel3Inner`, `sel3Chained`): values of the
  specification `selD` of `Proofs/XPathSelSpec.lean`, written out.
-/
namespace N0.XPath
open N0 N0.Py N0.Val

/-- what `get` / item access return for the selected values `vals`: the default (or the error) when nothing is selected -/
def selResult (vals : List Val) (dflt : PyM Val) : PyM Val := if vals.isEmpty then dflt else .ok (.list .n0 vals)

/-- what `first` returns for the selected values `vals` (default `d`): the caller's default **as it is** when nothing
is selected (fix C04-f), a single match unwrapped once more by `first`'s final step (`unwrap1`, `Model/XPathApi.lean`:
a one-element list is replaced by its element), the list of the matches when there are several -/
def firstOf (vals : List Val) (d : Val) : Val :=
  match vals with
  | [] => d
  | [v] => unwrap1 v
  | vs => .list .n0 vs

/-- `first` from what the `return_lists=False` lookup gives for every default (`b`: something was selected) -/
theorem first_of_collect {fuel : Nat} {root t' : Val} {xp : Str} {b : Bool} {val : Val} (vals : List Val)
    (h : ∀ d, getCore fuel root xp d false false = (t', if b then .ok val else .ok d))
    (hb : b = !vals.isEmpty) (hv : b = true → val = collect false vals) (d : Val) :
    first fuel root xp d = (t', .ok (firstOf vals d)) := by
  rw [first_of_ite h d]
  cases vals with
  | nil =>
    have : b = false := by simp [hb]
    simp [this, firstOf]
  | cons v vs =>
    have hbt : b = true := by simp [hb]
    have hv' := hv hbt
    subst hbt
    simp only [if_true, hv']
    cases vs with
    | nil => simp [collect, firstOf]
    | cons v2 vs => simp [collect, firstOf, unwrap1]

/-- **API layer.**  `get` and item access run `_find` with `return_lists=True`, `first` with `False`: from what `_find` selects on
the tokens of `xp` in the two modes to the three results; the tree is unchanged. -/
theorem select_api_root (root : Val) (xp : Str) (toks : List Str) (valsT valsF : List Val) (d : Val) (fuel : Nat)
    (hq : startsWith xp ['?'] = false) (hpc : hasPathChar xp = true) (htok : tokenize xp = toks)
    (hT : Sel2Coll root true (rootFind fuel root toks true) valsT)
    (hF : Sel2Coll root false (rootFind fuel root toks false) valsF) :
    get fuel root xp d = (root, .ok (if valsT.isEmpty then d else .list .n0 valsT)) ∧
    getItem fuel root xp = (root, if valsT.isEmpty then .error .IndexError else .ok (.list .n0 valsT)) ∧
    first fuel root xp d = (root, .ok (firstOf valsF d)) := by
  obtain ⟨r1, hr1, hf1, hv1⟩ := hT
  obtain ⟨r0, hr0, hf0, hv0⟩ := hF
  have key : ∀ (raise : Bool) (d : Val), getCore fuel root xp d raise true
      = (root, if valsT.isEmpty then (if raise then .error .IndexError else .ok d) else .ok (.list .n0 valsT)) := by
    intro raise d
    rw [getCore_of_rootFind d raise hq hpc htok hr1]
    cases he : valsT.isEmpty with
    | true => simp [hf1, he]
    | false =>
      have : r1.isFound = true := by simp [hf1, he]
      simp [this, hv1 this, collect]
  refine ⟨?_, ?_, ?_⟩
  · rw [get, key false d]; cases valsT.isEmpty <;> rfl
  · rw [getItem, key true Val.none]; cases valsT.isEmpty <;> rfl
  · exact first_of_collect valsF (fun d' => getCore_of_rootFind d' false hq hpc htok hr0) hf0 hv0 d

/-- API layer when `_find` raises `IndexError`: the same observable result as a miss -/
theorem select_api_err (cls : Cls) (kvs : List (Str × Val)) (xp : Str) (toks : List Str) (d : Val)
    (fuel : Nat) (hq : startsWith xp ['?'] = false) (hpc : hasPathChar xp = true) (htok : tokenize xp = toks)
    (hfind : ∀ rl, findD fuel (.dict cls kvs) [] false true toks (.at []) rl slash = .error .IndexError) :
    get fuel (.dict cls kvs) xp d = (.dict cls kvs, .ok d) ∧
    getItem fuel (.dict cls kvs) xp = (.dict cls kvs, .error .IndexError) ∧
    first fuel (.dict cls kvs) xp d = (.dict cls kvs, .ok (firstOf [] d)) := by
  refine ⟨?_, ?_, ?_⟩
  · rw [get, getCore_of_find_err cls kvs xp toks d false true fuel hq hpc htok (hfind true)]; rfl
  · rw [getItem, getCore_of_find_err cls kvs xp toks Val.none true true fuel hq hpc htok (hfind true)]; rfl
  · exact first_of_miss
      (fun d' => by rw [getCore_of_find_err cls kvs xp toks d' false false fuel hq hpc htok (hfind false)]; rfl) d

/-- what a record contributes to a predicate selection -/
def condOutcome (k f op : Str) (v : CondVal) : Val → Option Val
  | .dict _ kvs' =>
    match lookup k kvs' with
    | Option.none => Option.none
    | some kv => if condTest op v kv then lookup f kvs' else Option.none
  | _ => Option.none

/-- what a record contributes to a predicate step followed by further steps: their outcome `out`, if the record has `k` and its
value passes the comparison.  The condition step of `selD`: `gateAt c g r = sel2Gate c.k c.op (.str c.v) r (g r)`. -/
def sel2Gate (k op : Str) (v : CondVal) (rec : Val) (out : Option Val) : Option Val :=
  match rec with
  | .dict _ kvs' =>
    match lookup k kvs' with
    | Option.none => Option.none
    | some kv => if condTest op v kv then out else Option.none
  | _ => Option.none

theorem sel2Gate_bind (k op : Str) (v : CondVal) (r : Val) (out : Option Val) (g : Val → Option Val) :
    (sel2Gate k op v r out).bind g = sel2Gate k op v r (out.bind g) := by
  cases r with
  | dict c kvs =>
    cases hk : lookup k kvs with
    | none => simp [sel2Gate, hk]
    | some kv => cases ht : condTest op v kv <;> simp [sel2Gate, hk, ht]
  | _ => rfl

theorem sel2_gate_fieldOf (k f op : Str) (v : CondVal) (rec : Val) :
    sel2Gate k op v rec (fieldOf f rec) = condOutcome k f op v rec := by
  cases rec with
  | dict c kvs' => cases h : lookup k kvs' <;> simp [sel2Gate, condOutcome, fieldOf, h]
  | _ => simp [sel2Gate, condOutcome]

/-- the selection a predicate step makes over `rs` when the further steps have outcome `o rec` in record `rec` -/
def sel2Sel (k op : Str) (v : CondVal) (o : Val → Option Val) (rs : List Val) : List Val :=
  somes (rs.map (fun rec => sel2Gate k op v rec (o rec)))

/-- length of the inner list of an outer record (fuel bound) -/
def sel2InnerLen (items : Str) (rec : Val) : Nat :=
  match rec with
  | .dict _ kvs' => (match lookup items kvs' with | some (.list _ xs) => xs.length | _ => 0)
  | _ => 0

/-- a spelled token list that ends in a plain name: the name is a key step of its own -/
theorem sel3_spells_snoc_key_inv (name : Str) (hname : PlainKey name) : ∀ (toks : List Str) (v : Val) (p : Pos) (c : Val),
    Sel3Spells (toks ++ [name]) v p c →
    ∃ p' cls kvs, p = p' ++ [.key name] ∧ Sel3Spells toks v p' (.dict cls kvs) ∧ lookup name kvs = some c
  | [], v, p, c, h => by
    have hsplit := hname.keyTok.split
    cases h with
    | key hk hl hr => cases hr; exact ⟨[], _, _, rfl, .nil _, hl⟩
    | idx hk _ _ _ =>
      have := hk.split
      rw [hsplit] at this
      simp only [Except.ok.injEq, Prod.mk.injEq] at this
      exact absurd this.2 (by simp)
    | keyIdx hk _ _ _ _ _ =>
      have := hk.split
      rw [hsplit] at this
      simp only [Except.ok.injEq, Prod.mk.injEq] at this
      exact absurd this.2 (by simp)
  | t :: ts, v, p, c, h => by
    cases h with
    | key hk hl hr =>
      obtain ⟨p', cls, kvs, rfl, hs, hl'⟩ := sel3_spells_snoc_key_inv name hname ts _ _ _ hr
      exact ⟨_ :: p', cls, kvs, rfl, .key hk hl hs, hl'⟩
    | idx hk hn hx hr =>
      obtain ⟨p', cls, kvs, rfl, hs, hl'⟩ := sel3_spells_snoc_key_inv name hname ts _ _ _ hr
      exact ⟨_ :: p', cls, kvs, rfl, .idx hk hn hx hs, hl'⟩
    | keyIdx hk hpk hl hn hx hr =>
      obtain ⟨p', cls, kvs, rfl, hs, hl'⟩ := sel3_spells_snoc_key_inv name hname ts _ _ _ hr
      exact ⟨_ :: _ :: p', cls, kvs, rfl, .keyIdx hk hpk hl hn hx hs, hl'⟩

/-- what the steps `items[k2 op v2]`, `f` yield in an outer record: the collected inner selection when `items` is a
list (nothing when it is empty), the value of `f` of the record itself when `items` is one dict record that passes.  It is
`selD rl [.key items, .cond c2, .key f]` at the record (`selD_inner`). -/
def sel3Inner (items k2 f op2 : Str) (v2 : CondVal) (rl : Bool) (rec : Val) : Option Val :=
  match rec with
  | .dict _ kvs' =>
    match lookup items kvs' with
    | some (.list _ xs) =>
      if (somes (xs.map (condOutcome k2 f op2 v2))).isEmpty then Option.none
      else some (collect rl (somes (xs.map (condOutcome k2 f op2 v2))))
    | some (.dict c2 kvs2) => condOutcome k2 f op2 v2 (.dict c2 kvs2)
    | _ => Option.none
  | _ => Option.none

/-- an `items` value the chained theorems cover: a list of dict records, or one dict record -/
def Sel3ItemOK (k2 : Str) (v2 : CondVal) (x : Val) : Prop :=
  (∃ lc xs, x = .list lc xs ∧ (∀ y ∈ xs, isDict y = true) ∧
      ∀ c2 kvs2 kv, Val.dict c2 kvs2 ∈ xs → lookup k2 kvs2 = some kv → textGuard kv v2 = false) ∨
  (∃ c2 kvs2, x = .dict c2 kvs2 ∧ ∀ kv, lookup k2 kvs2 = some kv → textGuard kv v2 = false)

def Sel3InnerOK (items k2 : Str) (v2 : CondVal) (rs : List Val) : Prop :=
  ∀ c kvs' x, Val.dict c kvs' ∈ rs → lookup items kvs' = some x → Sel3ItemOK k2 v2 x

/-- the selection of a chained lookup (for `return_lists` = `rl`) -/
def sel3Chained (k1 op1 : Str) (v1 : CondVal) (items k2 f op2 : Str) (v2 : CondVal) (rl : Bool) (rs : List Val) : List Val :=
  sel2Sel k1 op1 v1 (sel3Inner items k2 f op2 v2 rl) rs

/-- **From token level to string level.**  `steps` is a spelling plain indexing follows from the root, `tailG` the selecting
tail; if `_find` selects `vals rl` on whichever token list the text has, `get`, item access and `first` return it. -/
theorem sel3_tail_api (root : Val) (lead : Lead) (steps : List StepSp) (c : Val) (tailG : List GSeg) (vals : Bool → List Val)
    (d : Val) (fuel : Nat) (hp : PlainSteps steps) (hne : steps ≠ []) (hget : stepsGet root steps = some c)
    (hg : GoodG tailG) (hne' : tailG ≠ [])
    (hsel : ∀ rl toks, TailToks (toksOf steps) tailG toks → Sel2Coll root rl (rootFind fuel root toks rl) (vals rl)) :
    get fuel root (renderSp lead steps ++ sel2Render tailG) d
      = (root, .ok (if (vals true).isEmpty then d else .list .n0 (vals true))) ∧
    getItem fuel root (renderSp lead steps ++ sel2Render tailG)
      = (root, if (vals true).isEmpty then .error .IndexError else .ok (.list .n0 (vals true))) ∧
    first fuel root (renderSp lead steps ++ sel2Render tailG) d = (root, .ok (firstOf (vals false) d)) :=
  have ht := sel3_tokenize_sp_tail lead steps tailG hp hne hg hne'
  select_api_root root _ _ _ _ d fuel (sel3_sp_noQ root lead steps c _ hp hne hget) (sel3_sp_pathChar lead steps tailG hne')
    rfl (hsel true _ ht) (hsel false _ ht)

end N0.XPath
