import N0Verif.Proofs.XPathListRoot
/-!
  String-level spellings of a path: prefix none / `/` / `//`, an index step attached (`a[0]`,
  `[0][1]`) or written as a separate step (`a/[0]`, `[0]/[1]`), and per index the spellings
  `i`, `-k`, `last()`, `last()-k`, `i+j`.  The tokens of the rendered text spell (`Spells`) the position plain Python
  indexing reaches; the canonical path `xpath()` lists is the member `canonSteps` of the family.
  That the position is plain comes through `Sel3Spells`: `sel3_spells_steps`, `sel3_spells_norm`, `Sel3Norm.plain`.
  Every spelling but the relative one-key one goes through `_find` (`renderSp_noPathChar`); `delete` does not branch there.
-/
namespace N0.XPath
open N0 N0.Py N0.Val

/-- the spellings of a list index: what `n0eval` takes for an integer -/
inductive IdxSp
  | lit (n : Nat)            -- `n`
  | neg (k : Nat)            -- `-k`
  | last                     -- `last()`
  | lastMinus (k : Nat)      -- `last()-k`
  | plus (a b : Nat)         -- `a+b`
  deriving Repr, DecidableEq

def IdxSp.text : IdxSp → Str
  | .lit n => natStr n
  | .neg k => '-' :: natStr k
  | .last => sLast
  | .lastMinus k => sLast ++ '-' :: natStr k
  | .plus a b => natStr a ++ '+' :: natStr b

/-- the Python integer the text denotes (`last()` is `-1`) -/
def IdxSp.val : IdxSp → Int
  | .lit n => n
  | .neg k => -(k : Int)
  | .last => -1
  | .lastMinus k => -1 - (k : Int)
  | .plus a b => (a : Int) + b

theorem IdxSp.eval (e : IdxSp) : n0eval e.text = .ok (.int e.val) := by
  cases e with
  | lit n => exact n0eval_nat n
  | neg k =>
    have := n0eval_neg (natStr_digits k)
    rwa [show natOfDigits (natStr k) = k from natOfDigits_natDigits _] at this
  | last => exact n0eval_last
  | lastMinus k =>
    have := n0eval_last_minus (natStr_digits k)
    rwa [show natOfDigits (natStr k) = k from natOfDigits_natDigits _] at this
  | plus a b =>
    have := n0eval_plus (natStr_digits a) (natStr_digits b)
    rwa [show natOfDigits (natStr a) = a from natOfDigits_natDigits _,
      show natOfDigits (natStr b) = b from natOfDigits_natDigits _] at this

theorem sLast_bare : ∀ ch ∈ sLast, bareChar ch = true := by rw [sLast_eq]; decide

theorem IdxSp.text_bare (e : IdxSp) : ∀ c ∈ e.text, bareChar c = true := by
  cases e with
  | lit n => exact natStr_bare n
  | neg k =>
    intro c hc
    simp only [IdxSp.text, List.mem_cons] at hc
    rcases hc with rfl | hc
    · decide
    · exact natStr_bare _ c hc
  | last => exact sLast_bare
  | lastMinus k =>
    intro c hc
    simp only [IdxSp.text, List.mem_append, List.mem_cons] at hc
    rcases hc with hc | rfl | hc
    · exact sLast_bare c hc
    · decide
    · exact natStr_bare _ c hc
  | plus a b =>
    intro c hc
    simp only [IdxSp.text, List.mem_append, List.mem_cons] at hc
    rcases hc with hc | rfl | hc
    · exact natStr_bare _ c hc
    · decide
    · exact natStr_bare _ c hc

theorem IdxSp.text_ne (e : IdxSp) : e.text ≠ [] := by
  cases e with
  | lit n => exact natDigits_ne_nil n
  | neg k => simp [IdxSp.text]
  | last => rw [IdxSp.text, sLast_eq]; simp
  | lastMinus k => simp [IdxSp.text]
  | plus a b => simp [IdxSp.text]

/-- what a character of a bare index text (`bareChar`) is not: nothing the tokeniser, `split_name_index` or `n0eval` treats
specially -/
structure BareProps (c : Char) : Prop where
  noRB : c ≠ ']'
  noSlash : c ≠ '/'
  noLB : c ≠ '['
  noEq : c ≠ '='
  noTilde : c ≠ '~'
  noStar : c ≠ '*'
  noN : c ≠ 'n'
  space : isPySpace c = false
  lowerC : toLowerAscii c ≠ 'c'

theorem bareChar_props {c : Char} (h : bareChar c = true) : BareProps c := by
  by_cases hd : isAsciiDigit c = true
  · have d := digit_ne hd
    have ne : ∀ x : Char, isAsciiDigit x = false → c ≠ x := by
      intro x hx heq; subst heq; rw [hd] at hx; cases hx
    exact ⟨d.2.2.2.2.2.2.1, d.2.2.2.2.2.2.2.1, d.2.2.2.2.2.1, d.2.2.2.2.2.2.2.2.1, d.2.2.2.2.2.2.2.2.2.1,
      d.2.2.2.2.2.2.2.2.2.2.1, ne 'n' (by decide), d.2.2.2.2.2.2.2.2.2.2.2.1,
      by rw [d.2.2.2.2.2.2.2.2.2.2.2.2.1]; exact ne 'c' (by decide)⟩
  · simp only [bareChar, hd, Bool.false_or, Bool.or_eq_true, decide_eq_true_eq] at h
    rcases h with ((((((h | h) | h) | h) | h) | h) | h) | h <;> subst h <;>
      exact ⟨by decide, by decide, by decide, by decide, by decide, by decide, by decide, by decide, by decide⟩

theorem bare_idxExpr {e : Str} (hne : e ≠ []) (h : ∀ c ∈ e, bareChar c = true) : IdxExpr e where
  ne := hne
  head := fun c hc => (bareChar_props (h c (List.mem_of_mem_head? hc))).space
  last := fun c hc => (bareChar_props (h c (List.mem_of_getLast? hc))).space
  notContains := by
    cases e with
    | nil => exact absurd rfl hne
    | cons c e =>
      have := (bareChar_props (h c (by simp))).lowerC
      rw [sContains_eq]
      simp [Py.lower, startsWith, this]
  noEq := fun c hc => ⟨(bareChar_props (h c hc)).noEq, (bareChar_props (h c hc)).noTilde⟩

theorem bare_ne_special {e : Str} (h : ∀ c ∈ e, bareChar c = true) : e ≠ sNew ∧ e ≠ ['*'] := by
  constructor
  · intro heq
    have hm : 'n' ∈ e := by rw [heq]; decide
    exact (bareChar_props (h _ hm)).noN rfl
  · intro heq
    have hm : '*' ∈ e := by rw [heq]; simp
    exact (bareChar_props (h _ hm)).noStar rfl

theorem IdxSp.den (e : IdxSp) : IdxDen e.text e.val :=
  ⟨bare_idxExpr e.text_ne e.text_bare, (bare_ne_special e.text_bare).1, (bare_ne_special e.text_bare).2, e.eval⟩

theorem IdxSp.idxTok (e : IdxSp) : IdxTok (bracket e.text) e.text e.val := e.den.idxTok

theorem IdxSp.keyIdxTok (e : IdxSp) {k : Str} (hk : PlainKey k) : KeyIdxTok (k ++ bracket e.text) k e.text e.val :=
  e.den.keyIdxTok hk

theorem IdxSp.noRB (e : IdxSp) : ∀ c ∈ e.text, c ≠ ']' := fun c hc => (bareChar_props (e.text_bare c hc)).noRB
theorem IdxSp.noSlash (e : IdxSp) : ∀ c ∈ e.text, c ≠ '/' := fun c hc => (bareChar_props (e.text_bare c hc)).noSlash

theorem IdxSp.normIdx_neg {len n : Nat} (hn : n < len) : normIdx (IdxSp.neg (len - n)).val len = some n :=
  normIdx_sub_len hn (by rw [IdxSp.val, Int.ofNat_sub (Nat.le_of_lt hn), Int.neg_sub])

theorem IdxSp.normIdx_last {len n : Nat} (hn : n < len) (hl : n = len - 1) : normIdx IdxSp.last.val len = some n :=
  normIdx_sub_len hn (by simp only [IdxSp.val]; omega)

theorem IdxSp.normIdx_lastMinus {len n : Nat} (hn : n < len) :
    normIdx (IdxSp.lastMinus (len - 1 - n)).val len = some n :=
  normIdx_sub_len hn (by simp only [IdxSp.val]; omega)

theorem IdxSp.normIdx_plus {len n a b : Nat} (hn : n < len) (hab : a + b = n) :
    normIdx (IdxSp.plus a b).val len = some n := by
  subst hab
  exact normIdx_nat hn

theorem getCore_list_idxSp (fuel : Nat) (cls : Cls) (xs : List Val) (e : IdxSp) (d : Val) (raise rl : Bool)
    {n : Nat} {c : Val} (hn : normIdx e.val xs.length = some n) (hx : xs[n]? = some c) :
    getCore fuel (.list cls xs) e.text d raise rl = (.list cls xs, .ok c) :=
  let ⟨hq, hpc⟩ := bare_facts e.text_ne e.text_bare
  getCore_list_bare fuel cls xs e.text d raise rl e.val n c e.text_ne hq hpc e.eval hn hx

/-- one step: a key, or an index in one of its spellings; `sep` says that the index is written as
a step of its own (`/[i]`) instead of attached to what precedes it (`[i]`) -/
inductive StepSp
  | key (k : Str)
  | idx (e : IdxSp) (sep : Bool)
  deriving Repr

def PlainSteps : List StepSp → Prop
  | [] => True
  | .key k :: rest => PlainKey k ∧ PlainSteps rest
  | .idx _ _ :: rest => PlainSteps rest

def renderStep : StepSp → Str
  | .key k => '/' :: k
  | .idx e false => bracket e.text
  | .idx e true => '/' :: bracket e.text

def renderSteps (steps : List StepSp) : Str := steps.flatMap renderStep

/-- a relative path has no leading slash -/
def dropSlash (s : Str) : Str := if s.head? = some '/' then s.drop 1 else s

/-- the text of a spelling: `a/b[0]`, `/a/b/[0]`, `//a/b[last()]`, `[0]/a`, … -/
def renderSp (lead : Lead) (steps : List StepSp) : Str := leadStr lead ++ dropSlash (renderSteps steps)

/-- the tokens `_find` works on: a key followed by an *attached* index is one token -/
def toksOf : List StepSp → List Str
  | [] => []
  | .key k :: .idx e false :: rest => (k ++ bracket e.text) :: toksOf rest
  | .key k :: rest => k :: toksOf rest
  | .idx e _ :: rest => bracket e.text :: toksOf rest

theorem toksOf_key_nil (k : Str) : toksOf [.key k] = [k] := rfl

theorem toksOf_key_key (k k2 : Str) (rest : List StepSp) :
    toksOf (.key k :: .key k2 :: rest) = k :: toksOf (.key k2 :: rest) := rfl

theorem toksOf_key_sep (k : Str) (e : IdxSp) (rest : List StepSp) :
    toksOf (.key k :: .idx e true :: rest) = k :: toksOf (.idx e true :: rest) := rfl

theorem toksOf_key_att (k : Str) (e : IdxSp) (rest : List StepSp) :
    toksOf (.key k :: .idx e false :: rest) = (k ++ bracket e.text) :: toksOf rest := rfl

theorem toksOf_idx (e : IdxSp) (sep : Bool) (rest : List StepSp) :
    toksOf (.idx e sep :: rest) = bracket e.text :: toksOf rest := rfl

theorem plainSteps_append : ∀ (a b : List StepSp), PlainSteps (a ++ b) ↔ PlainSteps a ∧ PlainSteps b
  | [], b => by simp [PlainSteps]
  | .key k :: a, b => by
    simp only [List.cons_append, PlainSteps, plainSteps_append a b, and_assoc]
  | .idx _ _ :: a, b => by
    simp only [List.cons_append, PlainSteps, plainSteps_append a b]

/-- Python `xs[i]` for an `int` -/
def pyIndex (xs : List Val) (i : Int) : Option Val := (normIdx i xs.length).bind (fun n => xs[n]?)

/-- plain Python indexing along the steps: `t['a']['b'][-1]…` -/
def stepsGet : Val → List StepSp → Option Val
  | v, [] => some v
  | .dict _ kvs, .key k :: rest => (lookup k kvs).bind (fun c => stepsGet c rest)
  | .list _ xs, .idx e _ :: rest => (pyIndex xs e.val).bind (fun c => stepsGet c rest)
  | _, _ => Option.none

theorem stepsGet_nil (v : Val) : stepsGet v [] = some v := by cases v <;> rfl

theorem stepsGet_key_one (c : Cls) (kvs : List (Str × Val)) (k : Str) :
    stepsGet (.dict c kvs) [.key k] = lookup k kvs := by
  simp only [stepsGet]
  cases lookup k kvs with
  | none => rfl
  | some x => exact stepsGet_nil x

theorem stepsGet_idx_one (c : Cls) (xs : List Val) (e : IdxSp) (s : Bool) :
    stepsGet (.list c xs) [.idx e s] = pyIndex xs e.val := by
  simp only [stepsGet]
  cases pyIndex xs e.val with
  | none => rfl
  | some x => exact stepsGet_nil x

theorem stepsGet_append : ∀ (a b : List StepSp) (v : Val),
    stepsGet v (a ++ b) = (stepsGet v a).bind (fun n => stepsGet n b)
  | [], b, v => by simp [stepsGet_nil]
  | .key k :: r, b, v => by
    cases v with
    | dict c kvs =>
      simp only [List.cons_append, stepsGet]
      cases lookup k kvs with
      | none => rfl
      | some x => simp only [Option.bind_some]; exact stepsGet_append r b x
    | _ => rfl
  | .idx e s :: r, b, v => by
    cases v with
    | list c xs =>
      simp only [List.cons_append, stepsGet]
      cases pyIndex xs e.val with
      | none => rfl
      | some x => simp only [Option.bind_some]; exact stepsGet_append r b x
    | _ => rfl

theorem renderSteps_cons (s : StepSp) (r : List StepSp) : renderSteps (s :: r) = renderStep s ++ renderSteps r := by
  simp [renderSteps]

theorem bracketSp_noSlash (e : IdxSp) : ∀ c ∈ bracket e.text, c ≠ '/' := by
  intro c hc
  simp only [bracket, List.mem_cons, List.mem_append, List.not_mem_nil, or_false] at hc
  rcases hc with (hc | hc) | hc
  · subst hc; decide
  · exact e.noSlash c hc
  · subst hc; decide

/-- the pieces of a step: an index written as a step of its own (`/[e]`) is the empty key and the bracket -/
def embedS : StepSp → List GSeg
  | .key k => [.key k]
  | .idx e false => [.br e.text]
  | .idx e true => [.key [], .br e.text]

def gsOf (steps : List StepSp) : List GSeg := steps.flatMap embedS

theorem gsOf_cons (s : StepSp) (r : List StepSp) : gsOf (s :: r) = embedS s ++ gsOf r := by simp [gsOf]

theorem render_gsOf (steps : List StepSp) : sel2Render (gsOf steps) = renderSteps steps := by
  induction steps with
  | nil => rfl
  | cons s r ih =>
    rw [gsOf_cons, sel2_render_append, ih, renderSteps_cons]
    cases s with
    | key k => simp [embedS, sel2Render, sel2RenderSeg, renderStep]
    | idx e sep => cases sep <;> simp [embedS, sel2Render, sel2RenderSeg, renderStep]

theorem toks_gsOf : ∀ steps : List StepSp, sel2Toks (gsOf steps) = toksOf steps
  | [] => rfl
  | [.key k] => rfl
  | .key k :: .key k2 :: rest => by
    have ih := toks_gsOf (.key k2 :: rest)
    rw [gsOf_cons] at ih ⊢
    rw [toksOf_key_key, ← ih]
    exact sel2_toks_key_key k k2 _
  | .key k :: .idx e true :: rest => by
    have ih := toks_gsOf (.idx e true :: rest)
    rw [gsOf_cons] at ih ⊢
    rw [toksOf_key_sep, ← ih]
    exact sel2_toks_key_key k [] _
  | .key k :: .idx e false :: rest => by
    have ih := toks_gsOf rest
    rw [gsOf_cons, gsOf_cons, toksOf_key_att, ← ih]
    rfl
  | .idx e false :: rest => by
    have ih := toks_gsOf rest
    rw [gsOf_cons, toksOf_idx, ← ih]
    rfl
  | .idx e true :: rest => by
    have ih := toks_gsOf rest
    rw [gsOf_cons, toksOf_idx, ← ih]
    rfl

theorem toksOf_append_key (k : Str) (tail : List StepSp) (steps : List StepSp) :
    toksOf (steps ++ .key k :: tail) = toksOf steps ++ toksOf (.key k :: tail) := by
  rw [← toks_gsOf, ← toks_gsOf, ← toks_gsOf, gsOf, List.flatMap_append, List.flatMap_cons]
  exact sel2_toks_append_key _ k _

theorem good_gsOf : ∀ steps : List StepSp, PlainSteps steps → PiecesOk (gsOf steps)
  | [], _ => trivial
  | .key _ :: rest, hp => ⟨Or.inl hp.1.gKey, good_gsOf rest hp.2⟩
  | .idx e false :: rest, hp => ⟨⟨e.noRB, e.noSlash⟩, good_gsOf rest hp⟩
  | .idx e true :: rest, hp => ⟨Or.inr ⟨rfl, _, _, rfl⟩, ⟨e.noRB, e.noSlash⟩, good_gsOf rest hp⟩

theorem tokenize_steps (steps : List StepSp) (hp : PlainSteps steps) :
    tokenize (renderSteps steps) = toksOf steps := by
  rw [← render_gsOf, tokenize_pieces _ (good_gsOf steps hp), toks_gsOf]

theorem tokenize_steps_tail (steps : List StepSp) (tail : List GSeg) (hp : PlainSteps steps) (hg : GoodG tail) :
    tokenize (renderSteps steps ++ sel2Render tail) = sel2Toks (gsOf steps ++ tail) := by
  rw [← render_gsOf, ← sel2_render_append]
  exact tokenize_pieces _ ((good_gsOf steps hp).append hg.piecesOk)

theorem tokenize_dropSlash (s : Str) : tokenize (dropSlash s) = tokenize s := by
  unfold dropSlash
  split
  · rename_i h
    cases s with
    | nil => simp at h
    | cons c s =>
      simp only [List.head?_cons, Option.some.injEq] at h
      subst h
      simp [tokenize_slash]
  · rfl

theorem tokenize_renderSp (lead : Lead) (steps : List StepSp) (hp : PlainSteps steps) :
    tokenize (renderSp lead steps) = toksOf steps := by
  rw [renderSp, tokenize_leadStr, tokenize_dropSlash, tokenize_steps steps hp]

theorem stepsGet_key_inv {v c : Val} {k : Str} {rest : List StepSp} (h : stepsGet v (.key k :: rest) = some c) :
    ∃ cls kvs x, v = .dict cls kvs ∧ lookup k kvs = some x ∧ stepsGet x rest = some c := by
  cases v with
  | dict cls kvs =>
    simp only [stepsGet] at h
    cases hl : lookup k kvs with
    | none => simp [hl] at h
    | some x => exact ⟨cls, kvs, x, rfl, hl, by simpa [hl] using h⟩
  | _ => cases h

theorem stepsGet_idx_inv {v c : Val} {e : IdxSp} {sep : Bool} {rest : List StepSp}
    (h : stepsGet v (.idx e sep :: rest) = some c) :
    ∃ cls xs n y, v = .list cls xs ∧ normIdx e.val xs.length = some n ∧ xs[n]? = some y ∧
      stepsGet y rest = some c := by
  cases v with
  | list cls xs =>
    simp only [stepsGet, pyIndex] at h
    cases hn : normIdx e.val xs.length with
    | none => simp [hn] at h
    | some n =>
      cases hx : xs[n]? with
      | none => simp [hn, hx] at h
      | some y => exact ⟨cls, xs, n, y, rfl, hn, hx, by simpa [hn, hx] using h⟩
  | _ => cases h

/-- the position the steps walk to (normalised indexes); `[]` when the walk fails -/
def posOf : Val → List StepSp → Pos
  | _, [] => []
  | .dict _ kvs, .key k :: rest =>
    match lookup k kvs with
    | some c => .key k :: posOf c rest
    | Option.none => []
  | .list _ xs, .idx e _ :: rest =>
    match normIdx e.val xs.length with
    | some n =>
      match xs[n]? with
      | some c => .idx n :: posOf c rest
      | Option.none => []
    | Option.none => []
  | _, _ => []

theorem posOf_key {cls : Cls} {kvs : List (Str × Val)} {k : Str} {x : Val} (rest : List StepSp)
    (hl : lookup k kvs = some x) : posOf (.dict cls kvs) (.key k :: rest) = .key k :: posOf x rest := by
  simp [posOf, hl]

theorem posOf_idx {cls : Cls} {xs : List Val} {e : IdxSp} {sep : Bool} {n : Nat} {y : Val} (rest : List StepSp)
    (hn : normIdx e.val xs.length = some n) (hx : xs[n]? = some y) :
    posOf (.list cls xs) (.idx e sep :: rest) = .idx n :: posOf y rest := by
  simp [posOf, hn, hx]

theorem posOf_length : ∀ (steps : List StepSp) (v c : Val), stepsGet v steps = some c → (posOf v steps).length = steps.length
  | [], _, _, _ => rfl
  | .key k :: rest, v, c, h => by
    obtain ⟨cls, kvs, x, rfl, hl, hr⟩ := stepsGet_key_inv h
    rw [posOf_key _ hl, List.length_cons, List.length_cons, posOf_length rest x c hr]
  | .idx e sep :: rest, v, c, h => by
    obtain ⟨cls', xs, n, y, rfl, hn, hx, hr2⟩ := stepsGet_idx_inv h
    rw [posOf_idx _ hn hx, List.length_cons, List.length_cons, posOf_length rest y c hr2]

/-- `Spells` with plain key names (what the pieces of a '/'-split text are): the class of token lists the
`'..'` step can re-resolve -/
inductive Sel3Spells : List Str → Val → Pos → Val → Prop
  | nil (v : Val) : Sel3Spells [] v [] v
  | key {tok rest cls kvs c p d} :
      PlainKey tok → lookup tok kvs = some c → Sel3Spells rest c p d →
      Sel3Spells (tok :: rest) (.dict cls kvs) (.key tok :: p) d
  | idx {tok e i rest cls xs n c p d} :
      IdxTok tok e i → normIdx i xs.length = some n → xs[n]? = some c → Sel3Spells rest c p d →
      Sel3Spells (tok :: rest) (.list cls xs) (.idx n :: p) d
  | keyIdx {tok k e i rest cls kvs cls' xs n c p d} :
      KeyIdxTok tok k e i → PlainKey k → lookup k kvs = some (.list cls' xs) →
      normIdx i xs.length = some n → xs[n]? = some c → Sel3Spells rest c p d →
      Sel3Spells (tok :: rest) (.dict cls kvs) (.key k :: .idx n :: p) d

theorem Sel3Spells.spells {toks v p c} (h : Sel3Spells toks v p c) : Spells toks v p c := by
  induction h with
  | nil v => exact .nil v
  | key hk hl _ ih => exact .key hk.keyTok hl ih
  | idx hk hn hx _ ih => exact .idx hk hn hx ih
  | keyIdx hk _ hl hn hx _ ih => exact .keyIdx hk hl hn hx ih

theorem Sel3Spells.pos_length {toks v p c} (h : Sel3Spells toks v p c) : p.length ≤ 2 * toks.length :=
  h.spells.pos_length

theorem sel3_spells_norm {toks v p c} (h : Sel3Spells toks v p c) :
    ∃ gs, SpellsF toks v p c (sel2Render gs) ∧ Sel3Norm gs v p c := by
  induction h with
  | nil v => exact ⟨[], .nil v, .nil v⟩
  | key hk hl _ ih =>
    obtain ⟨gs, hs, hn⟩ := ih
    refine ⟨.key _ :: gs, ?_, .key hk hl hn⟩
    rw [sel2Render_key_slash]; exact .key hk.keyTok hl hs
  | idx hk hn' hx _ ih =>
    obtain ⟨gs, hs, hn⟩ := ih
    refine ⟨.br (intStr _) :: gs, ?_, .idx hn' hx hn⟩
    rw [sel2Render_br]; exact .idx hk hn' hx hs
  | keyIdx hk hpk hl hn' hx _ ih =>
    obtain ⟨gs, hs, hn⟩ := ih
    refine ⟨.key _ :: .br (intStr _) :: gs, ?_, .key hpk hl (.idx hn' hx hn)⟩
    rw [sel2Render_key_br]; exact .keyIdx hk hl hn' hx hs

theorem sel3_spells_steps : ∀ (steps : List StepSp) (v c : Val), PlainSteps steps → stepsGet v steps = some c →
    Sel3Spells (toksOf steps) v (posOf v steps) c
  | [], v, c, _, h => by
    simp [stepsGet] at h; subst h; exact .nil v
  | [.key k], v, c, hp, h => by
    obtain ⟨cls, kvs, x, rfl, hl, hr⟩ := stepsGet_key_inv h
    simp [stepsGet] at hr; subst hr
    rw [posOf_key _ hl]
    exact .key hp.1 hl (.nil _)
  | .key k :: .key k2 :: rest, v, c, hp, h => by
    obtain ⟨cls, kvs, x, rfl, hl, hr⟩ := stepsGet_key_inv h
    have ih := sel3_spells_steps (.key k2 :: rest) x c hp.2 hr
    rw [toksOf_key_key, posOf_key _ hl]
    exact .key hp.1 hl ih
  | .key k :: .idx e true :: rest, v, c, hp, h => by
    obtain ⟨cls, kvs, x, rfl, hl, hr⟩ := stepsGet_key_inv h
    have ih := sel3_spells_steps (.idx e true :: rest) x c hp.2 hr
    rw [toksOf_key_sep, posOf_key _ hl]
    exact .key hp.1 hl ih
  | .key k :: .idx e false :: rest, v, c, hp, h => by
    obtain ⟨cls, kvs, x, rfl, hl, hr⟩ := stepsGet_key_inv h
    obtain ⟨cls', xs, n, y, rfl, hn, hx, hr2⟩ := stepsGet_idx_inv hr
    have ih := sel3_spells_steps rest y c hp.2 hr2
    rw [posOf_key _ hl, posOf_idx _ hn hx]
    exact .keyIdx (e.keyIdxTok hp.1) hp.1 hl hn hx ih
  | .idx e sep :: rest, v, c, hp, h => by
    obtain ⟨cls', xs, n, y, rfl, hn, hx, hr2⟩ := stepsGet_idx_inv h
    have ih := sel3_spells_steps rest y c hp hr2
    rw [posOf_idx _ hn hx]
    exact .idx e.idxTok hn hx ih

theorem spells_steps (steps : List StepSp) (v c : Val) (hp : PlainSteps steps) (h : stepsGet v steps = some c) :
    Spells (toksOf steps) v (posOf v steps) c :=
  (sel3_spells_steps steps v c hp h).spells

theorem toksOf_length_le (steps : List StepSp) : (toksOf steps).length ≤ steps.length := by
  induction steps using toksOf.induct with
  | case1 => simp [toksOf]
  | case2 k e rest ih => simp [toksOf]; omega
  | case3 k rest hne ih => rw [toksOf]; simp; omega; exact hne
  | case4 e sep rest ih => simp [toksOf]; omega

theorem toksOf_ne_nil (steps : List StepSp) (h : steps ≠ []) : toksOf steps ≠ [] := by
  cases steps with
  | nil => exact absurd rfl h
  | cons s r =>
    cases s with
    | idx e sep => exact List.cons_ne_nil _ _
    | key k =>
      cases r with
      | nil => exact List.cons_ne_nil _ _
      | cons s2 r2 =>
        cases s2 with
        | key k2 => exact List.cons_ne_nil _ _
        | idx e sep => cases sep <;> exact List.cons_ne_nil _ _

theorem renderStep_head (s : StepSp) : ∃ ch rest, renderStep s = ch :: rest ∧ (ch = '/' ∨ ch = '[') := by
  cases s with
  | key k => exact ⟨'/', k, rfl, Or.inl rfl⟩
  | idx e sep =>
    cases sep with
    | false => exact ⟨'[', _, rfl, Or.inr rfl⟩
    | true => exact ⟨'/', _, rfl, Or.inl rfl⟩

theorem hasPathChar_of_mem {s : Str} {ch : Char} (hm : ch ∈ s) (h : ch = '/' ∨ ch = '[') : hasPathChar s = true := by
  unfold hasPathChar
  rcases h with rfl | rfl
  · simp [hm]
  · simp [hm]

theorem dropSlash_renderSteps_idx (e : IdxSp) (sep : Bool) (r : List StepSp) :
    dropSlash (renderSteps (.idx e sep :: r)) = '[' :: (e.text ++ ']' :: renderSteps r) := by
  cases sep <;> simp [renderSteps_cons, renderStep, dropSlash, bracket]

theorem dropSlash_renderSteps_key (k : Str) (r : List StepSp) :
    dropSlash (renderSteps (.key k :: r)) = k ++ renderSteps r := by
  simp [renderSteps_cons, renderStep, dropSlash]

theorem renderSp_noQ (lead : Lead) (steps : List StepSp) (hp : PlainSteps steps) (hne : steps ≠ []) :
    startsWith (renderSp lead steps) ['?'] = false := by
  cases steps with
  | nil => exact absurd rfl hne
  | cons s r =>
    cases s with
    | idx e sep =>
      rw [renderSp, dropSlash_renderSteps_idx]
      cases lead <;> rfl
    | key k =>
      obtain ⟨x, k', rfl⟩ : ∃ x k', k = x :: k' := by
        cases k with
        | nil => exact absurd rfl hp.1.ne
        | cons x k' => exact ⟨x, k', rfl⟩
      have hxq : x ≠ '?' := plainChar_ne_q (hp.1.chars x (by simp))
      rw [renderSp, dropSlash_renderSteps_key]
      cases lead <;> simp [leadStr, startsWith, hxq]

theorem hasPathChar_renderSp (lead : Lead) (steps : List StepSp)
    (h : lead ≠ .rel ∨ ∃ s s2 r, steps = s :: s2 :: r) : hasPathChar (renderSp lead steps) = true := by
  cases lead with
  | one => exact hasPathChar_of_mem (ch := '/') (by simp [renderSp, leadStr]) (Or.inl rfl)
  | two => exact hasPathChar_of_mem (ch := '/') (by simp [renderSp, leadStr]) (Or.inl rfl)
  | rel =>
    rcases h with h | ⟨s, s2, r, rfl⟩
    · exact absurd rfl h
    · obtain ⟨c0, body, hs, _⟩ := renderStep_head s
      obtain ⟨ch, rs, hrs, hch⟩ := renderStep_head s2
      refine hasPathChar_of_mem (ch := ch) ?_ hch
      unfold renderSp
      rw [renderSteps_cons, renderSteps_cons, hs, hrs]
      simp only [leadStr, List.nil_append, dropSlash, List.cons_append, List.head?_cons]
      by_cases h0 : some c0 = some '/'
      · simp [h0]
      · simp [h0]

theorem hasPathChar_renderSp_idx (lead : Lead) (steps : List StepSp) (h : ∃ e sep r, steps = .idx e sep :: r) :
    hasPathChar (renderSp lead steps) = true := by
  obtain ⟨e, sep, r, rfl⟩ := h
  refine hasPathChar_of_mem (ch := '[') ?_ (Or.inr rfl)
  rw [renderSp, dropSlash_renderSteps_idx]
  simp

/-- `_get` and `__setitem__` look a text without `/` and `[` up as a plain key instead of handing it to `_find`; of all
spellings only the relative one-key one is such a text -/
theorem renderSp_noPathChar {lead : Lead} {steps : List StepSp} (hne : steps ≠ [])
    (hpc : hasPathChar (renderSp lead steps) = false) :
    ∃ k, lead = .rel ∧ steps = [.key k] ∧ renderSp lead steps = k := by
  have hpc' : ¬ hasPathChar (renderSp lead steps) = true := by rw [hpc]; exact Bool.false_ne_true
  cases steps with
  | nil => exact absurd rfl hne
  | cons s r =>
    cases s with
    | idx e sep => exact absurd (hasPathChar_renderSp_idx lead _ ⟨e, sep, r, rfl⟩) hpc'
    | key k =>
      cases r with
      | cons s2 r2 => exact absurd (hasPathChar_renderSp lead _ (Or.inr ⟨_, s2, r2, rfl⟩)) hpc'
      | nil =>
        cases lead with
        | rel => exact ⟨k, rfl, rfl, by simp [renderSp, leadStr, renderSteps, renderStep, dropSlash]⟩
        | one => exact absurd (hasPathChar_renderSp .one _ (Or.inl (by decide))) hpc'
        | two => exact absurd (hasPathChar_renderSp .two _ (Or.inl (by decide))) hpc'

theorem getCore_spelling_dict (fuel : Nat) (cls : Cls) (kvs : List (Str × Val)) (lead : Lead)
    (steps : List StepSp) (c d : Val) (raise rl : Bool)
    (hp : PlainSteps steps) (hne : steps ≠ []) (hget : stepsGet (.dict cls kvs) steps = some c)
    (hf : fuel ≥ 2 * steps.length) :
    getCore fuel (.dict cls kvs) (renderSp lead steps) d raise rl = (.dict cls kvs, .ok c) := by
  have hq := renderSp_noQ lead steps hp hne
  have htok := tokenize_renderSp lead steps hp
  have hlen := toksOf_length_le steps
  by_cases hpc : hasPathChar (renderSp lead steps) = true
  · exact getCore_dict_path fuel cls kvs _ d raise rl _ c hq hpc (by rw [htok]; exact spells_steps steps _ c hp hget)
      (by rw [htok]; exact toksOf_ne_nil _ hne) (by rw [htok]; exact two_mul_le_fuel hlen hf)
  · obtain ⟨k, rfl, rfl, htext⟩ := renderSp_noPathChar hne (Bool.eq_false_iff.2 hpc)
    obtain ⟨_, _, y, hv, hlk, hy⟩ := stepsGet_key_inv hget
    cases hv
    simp only [stepsGet, Option.some.injEq] at hy
    subst hy
    rw [htext] at hpc hq ⊢
    simp only [getCore, hq, Bool.false_eq_true, ↓reduceIte, hpc, hlk]

theorem getCore_spelling_list (fuel : Nat) (cls : Cls) (xs : List Val) (lead : Lead)
    (steps : List StepSp) (c d : Val) (raise rl : Bool)
    (hp : PlainSteps steps) (hne : steps ≠ []) (hget : stepsGet (.list cls xs) steps = some c)
    (hf : fuel ≥ 2 * steps.length) :
    getCore fuel (.list cls xs) (renderSp lead steps) d raise rl = (.list cls xs, .ok c) := by
  have htok := tokenize_renderSp lead steps hp
  have hlen := toksOf_length_le steps
  exact getCore_list_path fuel cls xs _ d raise rl _ c (renderSp_noQ lead steps hp hne)
    (hasPathChar_renderSp_idx lead steps (by
      cases steps with
      | nil => exact absurd rfl hne
      | cons s r =>
        cases s with
        | idx e sep => exact ⟨e, sep, r, rfl⟩
        | key k => cases hget))
    (by rw [htok]; exact spells_steps steps _ c hp hget) (by rw [htok]; exact toksOf_ne_nil _ hne) (by rw [htok]; exact two_mul_le_fuel hlen hf)

theorem getCore_canonical (fuel : Nat) (cls : Cls) (kvs : List (Str × Val)) (p : Pos) (c d : Val) (raise rl : Bool)
    (hp : PlainPos p) (hne : p ≠ []) (hget : getAt (.dict cls kvs) p = some c) (hf : fuel ≥ 2 * p.length) :
    getCore fuel (.dict cls kvs) (slash ++ renderPos p) d raise rl = (.dict cls kvs, .ok c) := by
  have htok : tokenize (slash ++ renderPos p) = mergedToks p := tokenize_render p hp
  have hlen := mergedToks_length_le p
  exact getCore_dict_path fuel cls kvs _ d raise rl p c (slash_noQ _) (slash_hasPathChar _)
    (by rw [htok]; exact spells_merged p _ c hp hget) (by rw [htok]; exact mergedToks_ne_nil p hne) (by rw [htok]; exact two_mul_le_fuel hlen hf)

/-- the steps of the canonical path of a position: keys, literal indexes attached to what precedes them -/
def canonSteps : Pos → List StepSp
  | [] => []
  | .key k :: p => .key k :: canonSteps p
  | .idx n :: p => .idx (.lit n) false :: canonSteps p

theorem canonSteps_length (p : Pos) : (canonSteps p).length = p.length := by
  induction p with
  | nil => rfl
  | cons s p ih => cases s <;> simp [canonSteps, ih]

theorem canonSteps_append (p q : Pos) : canonSteps (p ++ q) = canonSteps p ++ canonSteps q := by
  induction p with
  | nil => rfl
  | cons s p ih => cases s <;> simp [canonSteps, ih]

theorem renderSteps_canon (p : Pos) : renderSteps (canonSteps p) = renderPos p := by
  induction p with
  | nil => rfl
  | cons s p ih =>
    cases s with
    | key k => simp only [canonSteps, renderSteps_cons, ih, renderStep]; simp [renderPos, renderSeg]
    | idx n => simp only [canonSteps, renderSteps_cons, ih, renderStep, IdxSp.text]; simp [renderPos, renderSeg]

theorem renderSp_canon (k : Str) (p : Pos) :
    renderSp .two (canonSteps (.key k :: p)) = slash ++ renderPos (.key k :: p) := by
  unfold renderSp
  rw [renderSteps_canon]
  simp [renderPos, renderSeg, dropSlash, leadStr, slash]

theorem plainSteps_canon : ∀ p : Pos, PlainPos p → PlainSteps (canonSteps p)
  | [], _ => trivial
  | .key _ :: p, h => ⟨h.1, plainSteps_canon p h.2⟩
  | .idx _ :: p, h => plainSteps_canon p h

theorem stepsGet_canon : ∀ (p : Pos) (t c : Val), getAt t p = some c → stepsGet t (canonSteps p) = some c
  | [], t, c, h => by
    cases (show some t = some c from h)
    exact stepsGet_nil t
  | .key k :: p, t, c, h => by
    obtain ⟨x, hc, hr⟩ := getAt_cons_some h
    obtain ⟨cls, kvs, rfl, hl⟩ := child_key_some hc
    show (lookup k kvs).bind (fun c' => stepsGet c' (canonSteps p)) = some c
    rw [hl]
    exact stepsGet_canon p x c hr
  | .idx n :: p, t, c, h => by
    obtain ⟨x, hc, hr⟩ := getAt_cons_some h
    obtain ⟨cls, xs, rfl, hx, hlt⟩ := child_idx_some hc
    show (pyIndex xs (n : Int)).bind (fun c' => stepsGet c' (canonSteps p)) = some c
    rw [pyIndex, normIdx_nat hlt, Option.bind_some, hx]
    exact stepsGet_canon p x c hr

theorem pos_head_key {cls : Cls} {kvs : List (Str × Val)} {p : Pos} {c : Val}
    (h : getAt (.dict cls kvs) p = some c) (hne : p ≠ []) : ∃ k r, p = .key k :: r := by
  cases p with
  | nil => exact absurd rfl hne
  | cons s r =>
    cases s with
    | key k => exact ⟨k, r, rfl⟩
    | idx n => simp [getAt, child] at h

theorem canon_path (cls : Cls) (kvs : List (Str × Val)) (p : Pos) (c : Val) (k : Str)
    (h : getAt (.dict cls kvs) p = some c) :
    renderSp .two (canonSteps p ++ .key k :: []) = slash ++ renderPos p ++ '/' :: k := by
  have h2 : ∃ k' r, p ++ [.key k] = .key k' :: r := by
    by_cases hne : p = []
    · subst hne; exact ⟨k, [], rfl⟩
    · obtain ⟨k', r, rfl⟩ := pos_head_key h hne
      exact ⟨k', r ++ [Seg.key k], rfl⟩
  obtain ⟨k', r, he⟩ := h2
  have : canonSteps p ++ [.key k] = canonSteps (p ++ [.key k]) := by rw [canonSteps_append]; rfl
  rw [this, he, renderSp_canon, ← he]
  simp [renderPos, renderSeg]

end N0.XPath

