import N0Verif.Proofs.XPathWalk
import N0Verif.Proofs.XPathGetEq
/-! `__setitem__` once the outcome of the search, of the hidden-list step and of `_add` is known; on an existing node the
store through the parent reference is `setAt`.  `Refinds`: the text found by a walk that ends with a hidden-list step,
resolved again, leads to the node with its real parent. -/
namespace N0.XPath
open N0 N0.Py N0.Val

theorem modRef_at (root : Val) (pp : Pos) (f : Val → Val) (pv : Val) (h : getAt root pp = some pv) :
    (modRef root (.at pp) f).1 = (setAt root pp (f pv)).getD root := by
  simp [modRef, valOf, h, writeRef]

theorem NameFor.inv {pv : Val} {s : Seg} {ni : Str} (h : NameFor pv s ni) :
    (∃ cls kvs k, pv = .dict cls kvs ∧ s = .key k ∧ ni = k) ∨
    (∃ cls xs n i, pv = .list cls xs ∧ s = .idx n ∧ ni = bracket (intStr i) ∧ normIdx i xs.length = some n) := by
  cases h with
  | key => exact Or.inl ⟨_, _, _, rfl, rfl, rfl⟩
  | idx hn => exact Or.inr ⟨_, _, _, _, rfl, rfl, rfl, hn⟩

/-- `storeAt` splits the reported name again, so the last key must split as itself: hence `PlainPos p`. -/
theorem storeAt_found (root : Val) (p : Pos) (c : Val) (r : Res) (v t' : Val)
    (hf : FoundAt root [] p c r) (hp : PlainPos p) (hset : setAt root p v = some t') :
    storeAt root r.parent r.nameIdx v = .ok t' := by
  obtain ⟨hv, hnf, pp, s, pv, ni, rfl, hpar, hpv, hni, hname⟩ := hf
  simp only [List.nil_append] at hpar hpv
  rw [hpar, hni]
  rcases hname.inv with ⟨cls, kvs, k, rfl, rfl, hnik⟩ | ⟨cls, xs, n, i, rfl, rfl, hnii, hn⟩
  · rw [hnik]
    have hk : PlainKey k := hp.last_key
    have hsnoc := setAt_snoc pp root (Seg.key k) v (Val.dict cls kvs) (Val.dict cls (kvSet k v kvs)) hpv (by simp [setChild])
    rw [hsnoc] at hset
    unfold storeAt
    simp only [hk.keyTok.split, valOf_at, hpv, Idx.truthy, Bool.false_eq_true, if_false]
    rw [modRef_at root pp _ _ hpv]
    simp [hset]
  · rw [hnii]
    have hlt := normIdx_lt hn
    have hsnoc := setAt_snoc pp root (Seg.idx n) v (Val.list cls xs) (Val.list cls (xs.set n v)) hpv (by simp [setChild, hlt])
    rw [hsnoc] at hset
    unfold storeAt
    simp only [split_bracket_intStr, valOf_at, hpv, List.isEmpty_nil, Bool.not_true, Bool.false_eq_true,
      if_false, n0eval_intStr, hn]
    rw [modRef_at root pp _ _ hpv]
    simp [hset]

theorem FoundAt.parent_at {root : Val} {q p : Pos} {c : Val} {r : Res} (h : FoundAt root q p c r) : ∃ pp, r.parent = .at pp :=
  let ⟨_, _, pp, _, _, _, _, hpar, _⟩ := h
  ⟨q ++ pp, hpar⟩

theorem foundAt_snoc_key {root : Val} {q : Pos} {name : Str} {c : Val} {r : Res} {kcls : Cls}
    {nkvs : List (Str × Val)} (h : FoundAt root [] (q ++ [.key name]) c r)
    (hq : getAt root q = some (.dict kcls nkvs)) : r.parent = .at q ∧ r.nameIdx = some name := by
  obtain ⟨pv, ni, hpar, hpv, hni, hname⟩ := h.at_snoc
  simp only [List.nil_append] at hpar hpv
  rw [hq] at hpv
  cases hpv
  cases hname
  exact ⟨hpar, hni⟩

/-- `__setitem__` looks for another place only when `_find` reported a hidden list (fix C03-e) -/
theorem hiddenPlace_notWrap (fuel : Nat) (root : Val) (r : Res) (h : isWrap r.parent = false) :
    hiddenPlace fuel root r = .ok r := by
  simp [hiddenPlace, h]

theorem hiddenPlace_at (fuel : Nat) (root : Val) (r : Res) (q : Pos) (h : r.parent = .at q) :
    hiddenPlace fuel root r = .ok r :=
  hiddenPlace_notWrap fuel root r (by rw [h]; rfl)

theorem delPlace_notWrap (fuel : Nat) (root : Val) (tok : Str) (r : Res) (h : isWrap r.parent = false) :
    delPlace fuel root tok r = .ok (some r) := by
  simp [delPlace, h]

theorem delPlace_at (fuel : Nat) (root : Val) (tok : Str) (r : Res) (q : Pos) (h : r.parent = .at q) :
    delPlace fuel root tok r = .ok (some r) :=
  delPlace_notWrap fuel root tok r (by rw [h]; rfl)

theorem isWrap_at (q : Pos) : isWrap (.at q) = false := rfl

theorem hasPathChar_render (p : Pos) : hasPathChar (slash ++ renderPos p) = true := slash_hasPathChar _

theorem setItem_after_find {fuel : Nat} {cls : Cls} {kvs : List (Str × Val)} {xp : Str} {v root t' : Val} {r r' : Res}
    (hq : startsWith xp ['?'] = false) (hpc : hasPathChar xp = true)
    (hfind : findD fuel (.dict cls kvs) [] false true (tokenize xp) (.at []) true slash = .ok (root, r))
    (hhid : hiddenPlace fuel root r = .ok r') (hnf : r'.notFound = Option.none)
    (hst : storeAt root r'.parent r'.nameIdx v = .ok t') :
    setItem fuel (.dict cls kvs) xp v = (t', .ok ()) := by
  simp only [setItem, hq, Bool.false_and, Bool.false_eq_true, ↓reduceIte, hpc, hfind, hhid, hnf, List.isEmpty_nil,
    Bool.not_true, hst]

theorem setItem_after_add {fuel : Nat} {cls : Cls} {kvs : List (Str × Val)} {xp : Str} {v root root1 t' : Val} {r r' : Res}
    {tok ni : Str} {rest : List Str} {par : PRef}
    (hq : startsWith xp ['?'] = false) (hpc : hasPathChar xp = true)
    (hfind : findD fuel (.dict cls kvs) [] false true (tokenize xp) (.at []) true slash = .ok (root, r))
    (hhid : hiddenPlace fuel root r = .ok r') (hnf : r'.notFound = some (tok :: rest))
    (hadd : add root r'.parent r'.nameIdx (tok :: rest) = (root1, .ok (par, ni)))
    (hst : storeAt root1 par (some ni) v = .ok t') :
    setItem fuel (.dict cls kvs) xp v = (t', .ok ()) := by
  simp only [setItem, hq, Bool.false_and, Bool.false_eq_true, ↓reduceIte, hpc, hfind, hhid, hnf, List.isEmpty_cons,
    Bool.not_false, hadd, hst]

theorem setItem_after_refused {fuel : Nat} {cls : Cls} {kvs : List (Str × Val)} {xp : Str} {v root root1 : Val} {r r' : Res}
    {tok : Str} {rest : List Str} {e : PyErr}
    (hq : startsWith xp ['?'] = false) (hpc : hasPathChar xp = true)
    (hfind : findD fuel (.dict cls kvs) [] false true (tokenize xp) (.at []) true slash = .ok (root, r))
    (hhid : hiddenPlace fuel root r = .ok r') (hnf : r'.notFound = some (tok :: rest))
    (hadd : add root r'.parent r'.nameIdx (tok :: rest) = (root1, .error e)) :
    setItem fuel (.dict cls kvs) xp v = (root, .error e) := by
  simp only [setItem, hq, Bool.false_and, Bool.false_eq_true, ↓reduceIte, hpc, hfind, hhid, hnf, List.isEmpty_cons,
    Bool.not_false, hadd]

theorem setItem_of_foundAt {fuel : Nat} {cls : Cls} {kvs : List (Str × Val)} {xp : Str} {p : Pos} {c v t' : Val} {r : Res}
    (hq : startsWith xp ['?'] = false) (hpc : hasPathChar xp = true)
    (hfind : findD fuel (.dict cls kvs) [] false true (tokenize xp) (.at []) true slash = .ok (.dict cls kvs, r))
    (hfound : FoundAt (.dict cls kvs) [] p c r) (hp : PlainPos p) (hset : setAt (.dict cls kvs) p v = some t') :
    setItem fuel (.dict cls kvs) xp v = (t', .ok ()) := by
  obtain ⟨pp, hpar⟩ := hfound.parent_at
  exact setItem_after_find hq hpc hfind (hiddenPlace_at _ _ _ _ hpar) hfound.2.1 (storeAt_found (.dict cls kvs) p c r v t' hfound hp hset)

/-- Hidden-list steps anywhere.  `hpc`: `_get` hands only a text with `/` or `[` to `_find`; one without is looked up as a
plain key. -/
theorem getItem_walk {fuel n : Nat} {cls : Cls} {kvs : List (Str × Val)} {xp : Str} {toks : List Str} {p : Pos} {c : Val}
    {w : Str} {hl : Bool} (hw : Walk n toks (.dict cls kvs) p c w hl) (htok : tokenize xp = toks) (hne : toks ≠ [])
    (hq : startsWith xp ['?'] = false) (hpc : hasPathChar xp = true) (hf : fuel ≥ n) :
    getItem fuel (.dict cls kvs) xp = (.dict cls kvs, .ok c) := by
  obtain ⟨f, rfl⟩ := Nat.exists_eq_add_of_le' hf
  obtain ⟨r, hr, hpl⟩ := find_walkEnd (.dict cls kvs) true [] hw hne f [] slash true rfl
  rw [getItem, getCore_of_find cls kvs xp toks _ true true _ r hq hpc htok hr, hpl.value.1, hpl.value.2]
  rfl

/-- `getItem_walk` on `Spells` -/
theorem getItem_spelled (cls : Cls) (kvs : List (Str × Val)) (xp : Str) (toks : List Str) (p : Pos) (c : Val)
    (fuel : Nat) (hq : startsWith xp ['?'] = false) (hpc : hasPathChar xp = true) (htok : tokenize xp = toks)
    (hs : Spells toks (.dict cls kvs) p c) (hne : toks ≠ []) (hf : fuel ≥ 2 * toks.length) :
    getItem fuel (.dict cls kvs) xp = (.dict cls kvs, .ok c) := by
  obtain ⟨w, hw⟩ := hs.exF
  exact getItem_walk hw.walk htok hne hq hpc (Nat.le_trans hw.length_le hf)

/-- The walk ends with a real step (`false`); hidden-list steps on the way change nothing.  `hp`: the store splits the
reported name again, so the last key must split as itself (`storeAt_found`). -/
theorem setItem_walk {fuel n : Nat} {cls : Cls} {kvs : List (Str × Val)} {xp : Str} {toks : List Str} {p : Pos} {c v t' : Val}
    {w : Str} (hw : Walk n toks (.dict cls kvs) p c w false) (htok : tokenize xp = toks) (hne : toks ≠ [])
    (hq : startsWith xp ['?'] = false) (hpc : hasPathChar xp = true) (hp : PlainPos p)
    (hset : setAt (.dict cls kvs) p v = some t') (hf : fuel ≥ n) :
    setItem fuel (.dict cls kvs) xp v = (t', .ok ()) := by
  obtain ⟨f, rfl⟩ := Nat.exists_eq_add_of_le' hf
  obtain ⟨r, hr, hpl⟩ := find_walkEnd (.dict cls kvs) true [] hw hne f [] slash true rfl
  exact setItem_of_foundAt hq hpc (htok ▸ hr) (hpl.1 rfl).1 hp hset

theorem realPlace_at (fuel : Nat) (root : Val) (k : Nat) (r : Res) (q : Pos) (h : r.parent = .at q) :
    realPlace fuel root (k + 1) r = .ok r := by
  simp [realPlace, h, isWrap]

/-- `Refinds fuel root P c k F`: resolving the text `F` again, and then again while the parent reported is a hidden list
(at most `k` times: the loop of `__setitem__`, `realPlace`), ends at the node at `P` with its real parent.  In the model the
bound of that loop is the fuel (`hiddenPlace` calls `realPlace fuel root fuel r1`), hence `fuel = k + 1` where this is used. -/
def Refinds (fuel : Nat) (root : Val) (P : Pos) (c : Val) (k : Nat) (F : Str) : Prop :=
  ∃ r1 r0, findD fuel root [] false true (tokenize F) (.at []) true slash = .ok (root, r1) ∧
    realPlace fuel root (k + 1) r1 = .ok r0 ∧ FoundAt root [] P c r0

theorem refinds_real {fuel n : Nat} {root : Val} {F : Str} {toks : List Str} {P : Pos} {c : Val} {w : Str}
    (hw : Walk n toks root P c w false) (htok : tokenize F = toks) (hne : toks ≠ []) (hf : fuel ≥ n) (k : Nat) :
    Refinds fuel root P c k F := by
  obtain ⟨f, rfl⟩ := Nat.exists_eq_add_of_le' hf
  obtain ⟨r, hr, hpl⟩ := find_walkEnd root true [] hw hne f [] slash true rfl
  have hfound := (hpl.1 rfl).1
  obtain ⟨pp, hpar⟩ := hfound.parent_at
  exact ⟨r, r, htok ▸ hr, realPlace_at _ root k r _ hpar, hfound⟩

theorem refinds_hidden {fuel n : Nat} {root : Val} {F : Str} {toks : List Str} {P : Pos} {c : Val} {w : Str}
    (hw : Walk n toks root P c w true) (htok : tokenize F = toks) (hne : toks ≠ []) (hf : fuel ≥ n) (k : Nat)
    (hnext : Refinds fuel root P c k (slash ++ w)) :
    Refinds fuel root P c (k + 1) F := by
  obtain ⟨f, rfl⟩ := Nat.exists_eq_add_of_le' hf
  obtain ⟨r, hr, hpl⟩ := find_walkEnd root true [] hw hne f [] slash true rfl
  obtain ⟨i, _, rfl⟩ := hpl.2 rfl
  obtain ⟨r1, r0, h1, h2, h3⟩ := hnext
  refine ⟨_, r0, htok ▸ hr, ?_, h3⟩
  rw [realPlace]
  simp only [isWrap, ↓reduceIte, h1, h2]

/-- The walk ENDS with a hidden-list step (`true`): the value at `p` is replaced once the text found resolves to it
(`Refinds`).  A hidden-list step before the last token is `setItem_walk`. -/
theorem setItem_walk_hidden {fuel n k : Nat} {cls : Cls} {kvs : List (Str × Val)} {xp : Str} {toks : List Str} {p : Pos}
    {c v t' : Val} {w : Str} (hw : Walk n toks (.dict cls kvs) p c w true) (htok : tokenize xp = toks) (hne : toks ≠ [])
    (hq : startsWith xp ['?'] = false) (hpc : hasPathChar xp = true) (hp : PlainPos p)
    (hset : setAt (.dict cls kvs) p v = some t') (hf : fuel ≥ n) (hk : fuel = k + 1)
    (hnext : Refinds fuel (.dict cls kvs) p c k (slash ++ w)) :
    setItem fuel (.dict cls kvs) xp v = (t', .ok ()) := by
  obtain ⟨f, hfn⟩ := Nat.exists_eq_add_of_le' hf
  obtain ⟨r, hr, hpl⟩ := find_walkEnd (.dict cls kvs) true [] hw hne f [] slash true rfl
  obtain ⟨i, _, rfl⟩ := hpl.2 rfl
  obtain ⟨r1, r0, h1, h2, hfound⟩ := hnext
  rw [← hfn, ← htok] at hr
  rw [← hk] at h2
  refine setItem_after_find hq hpc hr (r' := ⟨r0.parent, r0.nameIdx, c, slash ++ w, Option.none⟩) ?_ rfl
    (storeAt_found (.dict cls kvs) p c r0 v t' hfound hp hset)
  simp only [hiddenPlace, isWrap, List.isEmpty_nil, Bool.true_or, Bool.and_self, ↓reduceIte, h1, h2]

theorem getItem_canonical (cls : Cls) (kvs : List (Str × Val)) (p : Pos) (c : Val) (fuel : Nat)
    (hp : PlainPos p) (hne : p ≠ []) (hget : getAt (.dict cls kvs) p = some c) (hf : fuel ≥ 2 * p.length) :
    getItem fuel (.dict cls kvs) (slash ++ renderPos p) = (.dict cls kvs, .ok c) :=
  getItem_walk (walk_merged hp hget) (tokenize_render p hp) (mergedToks_ne_nil p hne) (slash_noQ _)
    (hasPathChar_render _) (Nat.le_trans (Nat.le_mul_of_pos_left _ (by decide)) hf)

theorem setItem_existing (cls : Cls) (kvs : List (Str × Val)) (p : Pos) (c v t' : Val)
    (hp : PlainPos p) (hne : p ≠ []) (hget : getAt (.dict cls kvs) p = some c)
    (hset : setAt (.dict cls kvs) p v = some t') (fuel : Nat) (hf : fuel ≥ 2 * p.length) :
    setItem fuel (.dict cls kvs) (slash ++ renderPos p) v = (t', .ok ()) := by
  exact setItem_walk (walk_merged hp hget) (tokenize_render p hp) (mergedToks_ne_nil p hne) (slash_noQ _) (slash_hasPathChar _)
    hp hset (Nat.le_trans (Nat.le_mul_of_pos_left _ (by decide)) hf)

end N0.XPath
