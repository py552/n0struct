import N0Verif.Model.XPathFuel
import N0Verif.Proofs.XPathTok
import N0Verif.Proofs.XPathTree
import N0Verif.Proofs.XPathPureFind
import N0Verif.Proofs.XPathFanLoop
/-!
  C04, termination of the resolver: measures on trees (the height `termHgt`: a search descends at most that many levels
  without consuming a token; the width `termWd`: a loop has at most that many rounds), the bounded-reference invariant,
  what "a call ends" means (`TermOut`), and the macro steps the inductions use: the `[*]` loop (`starIdx`), the `*` loop
  (`starKeys`) and the implicit fan-out over a list (`[*]` inserted in front of a token).
-/
namespace N0.XPath
open N0 N0.Py N0.Val

/-! ### fuel arithmetic

What is left for the callee after one step: the caller's bound `z` reserves `c ≥ 1` on top of the callee's `b`
(`fuel_step`), or `w + 4` when a loop of `n ≤ w` rounds and up to two supplied `[*]` steps lie in between (`fuel_loop`;
`fuel_loop'` is the consequence `term_starIdx` / `term_starKeys` ask for, `a + 1 + n + 1 ≤ f`, one unit less;
`fuel_loopL` for the loop of `n0list._find`, which reserves `w + 3`). -/

theorem fuel_step {a b c z f : Nat} (hc : 0 < c) (hab : a ≤ b) (hz : c + b ≤ z) (hf : z ≤ f + 1) : a ≤ f := by omega

theorem fuel_loop {a b n w z f : Nat} (hn : n ≤ w) (hab : a ≤ b) (hz : (w + 4) + b ≤ z) (hf : z ≤ f + 1) :
    a + n + 3 ≤ f := by omega

theorem fuel_loopL {b n w z f : Nat} (hn : n ≤ w) (hz : (w + 3) + b ≤ z) (hf : z ≤ f + 1) : b + n + 1 ≤ f := by omega

theorem fuel_loop' {a b n w z f : Nat} (hn : n ≤ w) (hab : a ≤ b) (hz : (w + 4) + b ≤ z) (hf : z ≤ f + 1) :
    a + 1 + n + 1 ≤ f := by omega

/-- an element is no higher and no wider than the list it stands in -/
theorem term_L_mem : ∀ {xs : List Val} {i : Nat} {c : Val}, xs[i]? = some c →
    termHgt c ≤ termHgtL xs ∧ termWd c ≤ termWdL xs
  | [], i, c, h => by simp at h
  | x :: xs, 0, c, h => by
    simp only [List.getElem?_cons_zero, Option.some.injEq] at h; subst h
    exact ⟨Nat.le_max_left _ _, Nat.le_max_left _ _⟩
  | x :: xs, i + 1, c, h => by
    simp only [List.getElem?_cons_succ] at h
    exact ⟨Nat.le_trans (term_L_mem h).1 (Nat.le_max_right _ _), Nat.le_trans (term_L_mem h).2 (Nat.le_max_right _ _)⟩

/-- … nor a value than the dictionary -/
theorem term_K_lookup {k : Str} {c : Val} : ∀ {kvs : List (Str × Val)}, lookup k kvs = some c →
    termHgt c ≤ termHgtK kvs ∧ termWd c ≤ termWdK kvs
  | [], h => by simp [lookup] at h
  | (k', x) :: kvs, h => by
    simp only [lookup] at h
    split at h
    · cases h; exact ⟨Nat.le_max_left _ _, Nat.le_max_left _ _⟩
    · exact ⟨Nat.le_trans (term_K_lookup h).1 (Nat.le_max_right _ _), Nat.le_trans (term_K_lookup h).2 (Nat.le_max_right _ _)⟩

theorem term_child {v c : Val} {s : Seg} (h : child v s = some c) : termHgt c < termHgt v ∧ termWd c ≤ termWd v := by
  cases s with
  | key k =>
    obtain ⟨cl, kvs, rfl, hl⟩ := child_key_some h
    exact ⟨Nat.lt_succ_of_le (term_K_lookup hl).1, Nat.le_trans (term_K_lookup hl).2 (Nat.le_max_right _ _)⟩
  | idx i =>
    obtain ⟨cl, xs, rfl, hx, _⟩ := child_idx_some h
    exact ⟨Nat.lt_succ_of_le (term_L_mem hx).1, Nat.le_trans (term_L_mem hx).2 (Nat.le_max_right _ _)⟩

theorem term_getAt : ∀ {p : Pos} {v c : Val}, getAt v p = some c → termHgt c ≤ termHgt v ∧ termWd c ≤ termWd v := by
  intro p v c h
  refine getAt_closed (Q := fun x => termHgt x ≤ termHgt v ∧ termWd x ≤ termWd v) ?_ ⟨Nat.le_refl _, Nat.le_refl _⟩ h
  intro x y s hx hc
  have := term_child hc
  exact ⟨Nat.le_trans (Nat.le_of_lt this.1) hx.1, Nat.le_trans this.2 hx.2⟩

/-- the one-element list built around a value is one level higher -/
theorem termHgt_singleton (c : Cls) (v : Val) : termHgt (.list c [v]) = termHgt v + 1 := by
  rw [termHgt, termHgtL, termHgtL, Nat.max_zero]

/-- the values a search can stand on: sub-values of the root (height ≤ `H`, width ≤ `W`) and the
one-element list `[v]` the index steps build around a non-list sub-value (height ≤ `H + 1`) -/
structure TermBnd (H W : Nat) (v : Val) : Prop where
  hgt : termHgt v ≤ H + 1
  wd : termWd v ≤ W
  nonList : isList v = false → termHgt v ≤ H

def TermRef (H W : Nat) (root : Val) (r : PRef) : Prop := ∀ v, valOf root r = some v → TermBnd H W v

theorem TermBnd.list_len {H W : Nat} {c : Cls} {xs : List Val} (hb : TermBnd H W (.list c xs)) : xs.length ≤ W := by
  have := hb.wd; rw [termWd] at this
  exact Nat.le_trans (Nat.le_max_left _ _) this

theorem TermBnd.dict_len {H W : Nat} {c : Cls} {kvs : List (Str × Val)} (hb : TermBnd H W (.dict c kvs)) : kvs.length ≤ W := by
  have := hb.wd; rw [termWd] at this
  exact Nat.le_trans (Nat.le_max_left _ _) this

theorem TermBnd.child {H W : Nat} {v c : Val} {s : Seg} (hv : TermBnd H W v) (h : child v s = some c) :
    TermBnd H W c ∧ termHgt c < termHgt v ∧ termHgt c ≤ H := by
  have hc := term_child h
  have hle : termHgt c ≤ H := by have := hv.hgt; omega
  exact ⟨⟨by omega, by have := hv.wd; omega, fun _ => hle⟩, hc.1, hle⟩

theorem TermBnd.none {H W : Nat} : TermBnd H W Val.none :=
  ⟨by simp [termHgt], by simp [termWd], fun _ => by simp [termHgt]⟩

theorem TermBnd.wrap {H W : Nat} (hW : 1 ≤ W) {v : Val} (hv : TermBnd H W v) (hl : isList v = false) :
    TermBnd H W (Val.list .plain [v]) := by
  refine ⟨?_, ?_, fun h => by simp [isList] at h⟩
  · have := hv.nonList hl; rw [termHgt_singleton]; omega
  · have := hv.wd; simp only [termWd, termWdL, List.length_singleton]; omega

theorem TermRef_at {H W : Nat} {root : Val} (h1 : termHgt root ≤ H) (h2 : termWd root ≤ W) (p : Pos) :
    TermRef H W root (.at p) := by
  intro v hv
  have := term_getAt (show getAt root p = some v from hv)
  exact ⟨by omega, by omega, fun _ => by omega⟩

theorem TermRef_det_none {H W : Nat} {root : Val} : TermRef H W root (.det Val.none) := by
  intro v hv
  simp only [valOf, Option.some.injEq] at hv
  subst hv; exact TermBnd.none

theorem TermRef_wrap {H W : Nat} (hW : 1 ≤ W) {root : Val} {r : PRef} {pv : Val} (h : TermRef H W root r)
    (hpv : valOf root r = some pv) (hl : isList pv = false) : TermRef H W root (.wrap r) := by
  intro v hv
  simp only [valOf, hpv, Option.map_some, Option.some.injEq] at hv
  subst hv
  exact (h pv hpv).wrap hW hl

theorem TermRef_child {H W : Nat} {root : Val} {r : PRef} (h : TermRef H W root r) (s : Seg) :
    TermRef H W root (childRef root r s) := by
  intro c hc
  rcases childRef_val hc with rfl | ⟨pv, hpv, hch⟩
  · exact TermBnd.none
  · exact ((h pv hpv).child hch).1

theorem term_childRef_hgt {H W : Nat} {root : Val} {r : PRef} {s : Seg} {pv c : Val} (hb : TermBnd H W pv)
    (hpv : valOf root r = some pv) (hc : valOf root (childRef root r s) = some c) :
    termHgt c ≤ termHgt pv - 1 ∧ termHgt c ≤ H := by
  rcases childRef_val hc with rfl | ⟨pv', hpv', hch⟩
  · simp [termHgt]
  · cases hpv.symm.trans hpv'
    have := (hb.child hch).2; omega

theorem term_dictKeys_len {pv : Val} : (dictKeys pv).length ≤ termWd pv := by
  cases pv <;> simp only [dictKeys, termWd, List.length_nil, List.length_map, Nat.zero_le] <;> omega

theorem term_hgt_container_pos {pv : Val} (h : isList pv = true ∨ isDict pv = true) : 1 ≤ termHgt pv := by
  cases pv <;> simp [isList, isDict] at h <;> simp [termHgt]

/-- outcome of a search that ended: the root is returned unchanged with a result satisfying `Q`,
or a Python-level (or `Unsupported`) error — anything but `OutOfFuel` -/
def TermOut (Q : Res → Prop) (root : Val) : PyM (Val × Res) → Prop
  | .ok (root', r) => root' = root ∧ Q r
  | .error e => e ≠ .OutOfFuel

theorem TermOut_err {Q : Res → Prop} {root : Val} {e : PyErr} (h : e ≠ .OutOfFuel) : TermOut Q root (.error e) := h

theorem TermOut.mono {Q Q' : Res → Prop} {root : Val} {x : PyM (Val × Res)} (h : TermOut Q root x)
    (hq : ∀ r, Q r → Q' r) : TermOut Q' root x := by
  cases x with
  | error e => exact h
  | ok p => exact ⟨h.1, hq _ h.2⟩

theorem TermOut.ne {Q : Res → Prop} {root : Val} {x : PyM (Val × Res)} (h : TermOut Q root x) :
    x ≠ .error .OutOfFuel := by
  intro hx; subst hx; exact h rfl

theorem TermOut_eq_Outcome (Q : Res → Prop) (root : Val) : TermOut Q root = Outcome (· ≠ .OutOfFuel) Q root := by
  funext x; cases x <;> rfl

/-- the `[*]` loop: if every element call ends within `M`, the loop from `i` ends within
`M + (n - i) + 1` -/
theorem term_starIdx {Q : Res → Prop} (hQ : FstClosed Q) (root : Val) (sp : Pos) (rl : Bool) (n : Nat) (rest : List Str)
    (par : PRef) (found : Str) (all : List Str) (M F : Nat)
    (hsub : ∀ j, j < n → ∀ f, M ≤ f → f < F →
      TermOut Q root (findD f root sp false false (bracket (natStr j) :: rest) par rl found))
    (hnf : Q { parent := par, nameIdx := Option.none, value := Val.none, found := found, notFound := some all }) :
    ∀ (k i : Nat) (acc : List Val) (fst : Option Res) (f : Nat), n - i ≤ k → M + k + 1 ≤ f → f ≤ F →
      (∀ r, fst = some r → Q r) →
      TermOut Q root (starIdx f root sp false n i rest par rl found acc fst all) := by
  intro k i acc fst f hk hf hfF hfst
  by_cases hi : i ≥ n
  · obtain ⟨f', rfl⟩ := Nat.exists_eq_add_of_le' (Nat.le_trans (Nat.le_add_left 1 _) hf)
    rw [starIdx_end hi]
    exact Outcome_loopEnd hQ hnf hfst
  · have hin : n = i + (n - i) := (Nat.add_sub_cancel' (Nat.le_of_lt (Nat.lt_of_not_ge hi))).symm
    rw [starIdx_eq_fanLoop (n - i) i n f root acc fst hin, TermOut_eq_Outcome]
    refine fanLoop_outcome hQ rl _ hnf _ root M F _ acc fst f ?_ hfF (fun j hj f h1 h2 => ?_) hfst
    · rw [List.length_range']
      exact Nat.le_trans (Nat.add_le_add_right (Nat.add_le_add_left hk M) 1) hf
    · exact TermOut_eq_Outcome Q root ▸ hsub j (hin ▸ (List.mem_range'_1.1 hj).2) f h1 h2

theorem term_starKeys {Q : Res → Prop} (hQ : FstClosed Q) (root : Val) (sp : Pos) (rl : Bool) (toks : List Str)
    (par : PRef) (found : Str) (M F : Nat)
    (hnf : Q { parent := par, nameIdx := Option.none, value := Val.none, found := found, notFound := some toks }) :
    ∀ (keys : List Str) (acc : List Val) (fst : Option Res) (f : Nat), M + keys.length + 1 ≤ f → f ≤ F →
      (∀ k ∈ keys, ∀ f, M ≤ f → f < F → TermOut Q root (findD f root sp false false (k :: toks) par rl found)) →
      (∀ r, fst = some r → Q r) →
      TermOut Q root (starKeys f root sp false keys toks par rl found acc fst) := by
  intro keys acc fst f hf hfF hsub hfst
  rw [starKeys_eq_fanLoop, TermOut_eq_Outcome]
  exact fanLoop_outcome hQ rl _ hnf _ root M F keys acc fst f hf hfF
    (fun k hk f h1 h2 => TermOut_eq_Outcome Q root ▸ hsub k hk f h1 h2) hfst

/-- **implicit or explicit `[*]` on a list**: `[*] :: T` ends within `M + len + 3` if `T` ends
within `M` on every element -/
theorem term_fanout {Q : Res → Prop} (hQ : FstClosed Q) (root : Val) (sp : Pos) (entry rl : Bool) (T : List Str) (hT : T ≠ [])
    (par : PRef) (found : Str) (cls : Cls) (xs : List Val) (hpv : valOf root par = some (.list cls xs)) (M F : Nat)
    (hsub : ∀ j, j < xs.length → ∀ f, M ≤ f → f < F →
      TermOut Q root (findD f root sp false false T (childRef root par (.idx j)) rl (found ++ bracket (natStr j))))
    (hnf : Q { parent := par, nameIdx := Option.none, value := Val.none, found := found, notFound := some (bracket ['*'] :: T) })
    (f : Nat) (hf : M + xs.length + 3 ≤ f) (hfF : f ≤ F) :
    TermOut Q root (findD f root sp false entry (bracket ['*'] :: T) par rl found) := by
  obtain ⟨f', rfl⟩ : ∃ f', f = f' + 1 := Nat.exists_eq_succ_of_ne_zero (Nat.ne_of_gt (Nat.lt_of_lt_of_le (Nat.succ_pos _) hf))
  rw [findD_star_idx rfl hpv split_star]
  refine term_starIdx hQ root sp rl xs.length T par found _ (M + 1) F ?_ hnf xs.length 0 [] Option.none f' (Nat.sub_le _ _)
    (by omega) (Nat.le_of_succ_le hfF) (fun _ h => by cases h)
  intro j hj f hf hfF'
  obtain ⟨f'', rfl⟩ : ∃ f'', f = f'' + 1 := Nat.exists_eq_succ_of_ne_zero (Nat.ne_of_gt (Nat.lt_of_lt_of_le (Nat.succ_pos _) hf))
  have hk := natStr_idxTok j
  have hn : normIdx (j : Int) xs.length = some j := normIdx_nat hj
  rw [findD_idx_step rfl hpv hk hn hT]
  exact hsub j hj f'' (Nat.le_of_succ_le_succ hf) (Nat.lt_of_succ_lt hfF')

/-- the value behind the parent of a pure index step, and of the element below it -/
theorem term_idx_parent {H W : Nat} (hW : 1 ≤ W) {root : Val} {par par' : PRef} {pv : Val} (hpv : valOf root par = some pv)
    (hb : TermRef H W root par)
    (hp : (isList pv = true ∧ par' = par) ∨ (isList pv = false ∧ par' = .wrap par)) :
    TermRef H W root par' ∧ ∀ n c, valOf root (childRef root par' (.idx n)) = some c → termHgt c ≤ termHgt pv ∧ termHgt c ≤ H := by
  rcases hp with ⟨_, rfl⟩ | ⟨hl, rfl⟩
  · refine ⟨hb, fun n c hc => ?_⟩
    have := term_childRef_hgt (hb pv hpv) hpv hc
    omega
  · have hw := TermRef_wrap hW hb hpv hl
    refine ⟨hw, fun n c hc => ?_⟩
    have hv : valOf root (.wrap par) = some (Val.list .plain [pv]) := by simp [valOf, hpv]
    have := term_childRef_hgt (hw _ hv) hv hc
    rw [termHgt_singleton] at this
    omega

end N0.XPath
