import N0Verif.Proofs.XPathTermMain
import N0Verif.Proofs.XPathGetEq
/-!
  C04, termination of the resolver: the list-side search (`n0list._find`, `findL`) and the entry points (`getCore`, i.e.
  `get`, item access, `first`).  `termPotL` bounds `findL`: per token one step, one loop over at most `W` elements, then the
  dict-side bound `termPot` for the rest (an element that is a dict) or the list-side bound (an element that is a list).
  `termFuel t s` is the fuel that is enough for the string `s` on the tree `t`.
-/
namespace N0.XPath
open N0 N0.Py N0.Val

theorem termPotL_pos (H W : Nat) (toks : List Str) (g : Nat) : 1 ≤ termPotL H W toks g := by
  cases toks <;> simp only [termPotL] <;> omega

/-- the two ways a token of `n0list._find` proceeds: handed to the dict-side search, or an index step / loop here -/
theorem termPotL_D (H W : Nat) (t : Str) (ts : List Str) (g : Nat) :
    1 + termPot H W (t :: ts) H g ≤ termPotL H W (t :: ts) g := Nat.le_max_left _ _

theorem termPotL_M (H W : Nat) (t : Str) (ts : List Str) (g : Nat) :
    (W + 3) + max (termPot H W ts H (g + 1)) (termPotL H W ts (g + 1)) ≤ termPotL H W (t :: ts) g := Nat.le_max_right _ _

/-- the fuel of the list side suffices for the plain tokens of a `found` text of at most `g` pieces -/
theorem termPotL_enough {H W n g f : Nat} (hn : n ≤ g) (hf : termPotL H W [] g ≤ f + 1) : (W + 4) * H + 3 * n + 1 ≤ f := by
  simp only [termPotL, termR] at hf
  omega

section
variable {H W : Nat} {root : Val}

theorem term_findL_loop (sp : Pos) (par : PRef) (rl : Bool) (found tok : Str) (rest : List Str) (M F : Nat)
    (hE : ∀ i it f, M ≤ f → f < F → TermOut (fun _ => True) root
      (elemFind f root sp (childRef root par (.idx i)) it rest rl (found ++ bracket (natStr i)))) :
    ∀ (items : List Val) (i : Nat) (acc : List Val) (fst : Option Res) (f : Nat), M + items.length + 1 ≤ f → f ≤ F →
      TermOut (fun _ => True) root (findL.loop sp par rl found tok rest f root i items acc fst) := by
  intro items i acc fst f hf hfF
  rw [findL_loop_eq_fanLoop, TermOut_eq_Outcome]
  exact fanLoop_outcome fstClosed_true rl _ trivial _ root M F _ acc fst f (by rw [List.length_zipIdx]; exact hf) hfF
    (fun a _ f h1 h2 => TermOut_eq_Outcome _ root ▸ hE a.2 a.1 f h1 h2) (fun _ _ => trivial)

/-! ### plain tokens on the list side (re-resolution of `found`)

Fuel is `K·H + 3·tokens + 1`: a token handed to the dict side, or an element that is a dict, continues with the
stage-1 fuel `x + 2·m + 1` (`x ≤ K·H`, `m` tokens left); an element that is a list with one token less. -/

theorem plain_fuelL {x y n m f : Nat} (hxy : x ≤ y) (hm : m ≤ n + 1) (hf : y + 3 * (n + 1) + 1 ≤ f + 1) :
    x + 2 * m + 1 ≤ f := by omega

theorem plain_fuelL' {y n f : Nat} (hf : y + 3 * (n + 1) + 1 ≤ f + 1) : y + 3 * n + 1 ≤ f := by omega

def TermSLp (H W : Nat) (root : Val) (sp : Pos) (rl : Bool) (fuel : Nat) : Prop :=
  ∀ (toks : List Str) (par : PRef) (found : Str) (g : Nat),
    (∀ t ∈ toks, TermPTok t) → (toks = [] → found = slash) →
    TermRef H W root par → SafeRef PlainKey root par → TermFound found g → termHgtRef root par ≤ H →
    (W + 4) * H + 3 * toks.length + 1 ≤ fuel →
    TermOut (fun _ => True) root (findL fuel root sp toks par rl found)

theorem term_findL_plain_step (hW : 1 ≤ W) (sp : Pos) (rl : Bool) (fuel : Nat)
    (ih : ∀ m, m < fuel → TermSLp H W root sp rl m) : TermSLp H W root sp rl fuel := by
  intro toks par found g htoks hnil hparB hparK hfd hparH hfuel
  obtain ⟨f, rfl⟩ : ∃ f, fuel = f + 1 :=
    Nat.exists_eq_succ_of_ne_zero (Nat.ne_of_gt (Nat.lt_of_lt_of_le (Nat.succ_pos _) hfuel))
  cases toks with
  | nil =>
    cases hnil rfl
    cases hpv : valOf root par with
    | none => rw [findL_nil_slash_noParent hpv]; exact TermOut_err (by decide)
    | some pv => rw [findL_nil_slash hpv]; exact ⟨rfl, trivial⟩
  | cons tok rest =>
    have htok : TermPTok tok := htoks tok (by simp)
    have hrest : ∀ t ∈ rest, TermPTok t := fun t ht => htoks t (by simp [ht])
    simp only [List.length_cons] at hfuel
    cases hpv : valOf root par with
    | none => rw [findL_noParent hpv]; exact TermOut_err (by decide)
    | some pv =>
      -- a name is handed to the dict-side search (fix C06-f): stage 1
      have hname : ∀ (k : Str) (idx : Idx), k ≠ [] → splitNameIndex tok = .ok (k, idx) →
          TermOut (fun _ => True) root (findL (f + 1) root sp (tok :: rest) par rl found) := by
        intro k idx hk hs
        rw [findL_name hpv hs hk]
        have := term_plain H W hW root sp rl f true (tok :: rest) par found g htoks (fun h => by cases h) hparB hparK hfd
          (plain_fuelL (Nat.mul_le_mul_left _ hparH) (Nat.le_refl _) hfuel)
        exact this.mono (fun _ _ => trivial)
      cases htok with
      | key hk => exact hname tok .none hk.ne hk.keyTok.split
      | @keyIdx k i hk => exact hname k _ hk.ne (split_bracket k (intStr i) (Or.inr hk) (intStr_idxExpr i))
      | idx i =>
        rcases findL_idx_cases f sp rl found rest hpv (intStr_idxTok i) with ⟨v, nf, he⟩ | ⟨n, it, hrne, he⟩
        · rw [he]; exact ⟨rfl, trivial⟩
        · rw [he]
          obtain ⟨h2, h3, h4⟩ := term_idx_elem hW hpv hparK hparB n
          unfold elemFind
          split
          · unfold dispatchD
            split
            · have := term_plain H W hW root sp rl f true rest _ _ (g + 1) hrest (fun h => absurd h hrne) h3 h2 (hfd.idx i)
                (plain_fuelL (Nat.mul_le_mul_left _ h4) (Nat.le_succ _) hfuel)
              exact this.mono (fun _ _ => trivial)
            · exact TermOut_err (by decide)
          · exact ih f (Nat.lt_succ_self f) rest _ _ (g + 1) hrest (fun h => absurd h hrne) h3 h2 (hfd.idx i) h4
              (plain_fuelL' hfuel)
          · exact TermOut_err (by decide)

theorem term_findL_plain (hW : 1 ≤ W) (sp : Pos) (rl : Bool) : ∀ fuel, TermSLp H W root sp rl fuel := by
  intro fuel
  induction fuel using Nat.strongRecOn with
  | ind fuel ih => exact term_findL_plain_step hW sp rl fuel ih

def TermSL (H W : Nat) (root : Val) (sp : Pos) (rl : Bool) (fuel : Nat) : Prop :=
  ∀ (toks : List Str) (par : PRef) (found : Str) (g : Nat),
    SafeRef PlainKey root par → TermRef H W root par → TermFound found g → termHgtRef root par ≤ H →
    termPotL H W toks g ≤ fuel →
    TermOut (fun _ => True) root (findL fuel root sp toks par rl found)

theorem term_findL_step (ctx : TermCtx H W root) (sp : Pos) (rl : Bool) (fuel : Nat)
    (ih : ∀ m, m < fuel → TermSL H W root sp rl m) : TermSL H W root sp rl fuel := by
  intro toks par found g hparK hparB hfd hparH hfuel
  have hW := ctx.hW
  obtain ⟨f, rfl⟩ : ∃ f, fuel = f + 1 :=
    Nat.exists_eq_succ_of_ne_zero (Nat.ne_of_gt (Nat.lt_of_lt_of_le (termPotL_pos H W toks g) hfuel))
  cases toks with
  | nil =>
    by_cases hf : found = slash
    · subst hf
      cases hpv : valOf root par with
      | none => rw [findL_nil_slash_noParent hpv]; exact TermOut_err (by decide)
      | some pv => rw [findL_nil_slash hpv]; exact ⟨rfl, trivial⟩
    · rw [findL_nil_retok hf]
      obtain ⟨ht, _, hl⟩ := hfd.tokens
      exact term_findL_plain hW sp rl f (tokenize found) (.at sp) slash 0 ht (fun _ => rfl)
        (TermRef_at ctx.hgt ctx.wd sp) (SafeRef_at ctx.plain sp) (TermFound_slash 0) (termHgtRef_at_le ctx.hgt sp)
        (termPotL_enough hl hfuel)
  | cons tok rest =>
    have hM : max (termPot H W rest H (g + 1)) (termPotL H W rest (g + 1)) ≤ f :=
      fuel_step (Nat.succ_pos _) (Nat.le_refl _) (termPotL_M H W tok rest g) hfuel
    cases hpv : valOf root par with
    | none => rw [findL_noParent hpv]; exact TermOut_err (by decide)
    | some pv =>
      have hb : TermBnd H W pv := hparB pv hpv
      cases hsplit : splitNameIndex tok with
      | error e => rw [findL_split_error hpv hsplit]; exact TermOut_err (term_okErr_split hsplit)
      | ok p =>
        obtain ⟨name, idx⟩ := p
        -- the search below an element of a list-valued parent
        have helem : ∀ n it j f', f' < f + 1 → max (termPot H W rest H (g + 1)) (termPotL H W rest (g + 1)) ≤ f' →
            TermOut (fun _ => True) root
              (elemFind f' root sp (childRef root (idxRef par pv) (.idx n)) it rest rl (found ++ bracket (intStr j))) := by
          intro n it j f' hf' hle
          obtain ⟨h2, h3, h4⟩ := term_idx_elem hW hpv hparK hparB n
          unfold elemFind
          split
          · unfold dispatchD
            split
            · exact term_main ctx sp rl f' true rest _ _ (g + 1) h2 h3 (hfd.idx j)
                (Nat.le_trans (termPot_mono H W rest _ _ (g + 1) (g + 1) h4 (Nat.le_refl _))
                  (Nat.le_trans (Nat.le_max_left _ _) hle))
            · exact TermOut_err (by decide)
          · exact ih f' hf' rest _ _ (g + 1) h2 h3 (hfd.idx j) h4 (Nat.le_trans (Nat.le_max_right _ _) hle)
          · exact TermOut_err (by decide)
        -- a name / a condition is handed to the dict-side search (fix C06-f)
        have hdeleg : TermOut (fun _ => True) root (findD f root sp false true (tok :: rest) par rl found) := by
          exact term_main ctx sp rl f true (tok :: rest) par found g hparK hparB hfd
            (fuel_step Nat.one_pos (termPot_mono H W (tok :: rest) _ _ g g hparH (Nat.le_refl _)) (termPotL_D H W tok rest g) hfuel)
        by_cases hne : name = []
        · subst hne
          cases idx with
          | none => rw [findL_noIdx hpv hsplit]; exact TermOut_err (by decide)
          | cond k op v => rw [findL_cond hpv hsplit]; exact hdeleg
          | str s =>
            by_cases hstar : s = ['*']
            · -- `[*]`: the loop over the elements (an empty dict or text enumerates as nothing)
              subst hstar
              rw [findL_star hpv hsplit]
              cases hit : loopItems pv with
              | error e =>
                have : e = .TypeError := by unfold loopItems at hit; split at hit <;> cases hit; rfl
                subst this; exact TermOut_err (by decide)
              | ok items =>
                simp only
                have hlen : items.length ≤ W ∧ (items ≠ [] → isList pv = true) := by
                  unfold loopItems at hit
                  split at hit
                  · cases hit; exact ⟨hb.list_len, fun _ => rfl⟩
                  · cases hit; exact ⟨Nat.zero_le _, fun h => absurd rfl h⟩
                  · cases hit; exact ⟨Nat.zero_le _, fun h => absurd rfl h⟩
                  · cases hit
                by_cases hnil : items = []
                · subst hnil
                  obtain ⟨f', rfl⟩ : ∃ f', f = f' + 1 := Nat.exists_eq_succ_of_ne_zero
                    (Nat.ne_of_gt (Nat.lt_of_lt_of_le (Nat.succ_pos _) (fuel_loopL (Nat.zero_le W) (termPotL_M H W tok rest g) hfuel)))
                  rw [findL_loop_nil]
                  exact ⟨rfl, trivial⟩
                · refine term_findL_loop sp par rl found tok rest
                    (max (termPot H W rest H (g + 1)) (termPotL H W rest (g + 1))) f ?_ items 0 [] Option.none f
                    (fuel_loopL hlen.1 (termPotL_M H W tok rest g) hfuel) (Nat.le_refl _)
                  intro i it f' hf' hf'F
                  exact idxRef_list (par := par) (hlen.2 hnil) ▸ helem i it (i : Int) f' (Nat.lt_succ_of_lt hf'F) hf'
            · cases hev : n0eval s with
              | error e => rw [findL_idx_evalError hpv hsplit hstar hev, n0eval_err hev]; exact TermOut_err (by decide)
              | ok ev =>
                cases ev with
                | str t => rw [findL_idx_evalStr hpv hsplit hstar hev]; exact TermOut_err (by decide)
                | int i =>
                  rcases findL_idx_cases f sp rl found rest hpv (.of_eval hsplit hstar hev) with ⟨v, nf, he⟩ | ⟨n, it, _, he⟩
                  · rw [he]; exact ⟨rfl, trivial⟩
                  · rw [he]; exact helem n it i f (Nat.lt_succ_self f) hM
        · rw [findL_name hpv hsplit hne]; exact hdeleg

/-- **The list-side search ends.** -/
theorem term_findL (ctx : TermCtx H W root) (sp : Pos) (rl : Bool) : ∀ fuel, TermSL H W root sp rl fuel := by
  intro fuel
  induction fuel using Nat.strongRecOn with
  | ind fuel ih => exact term_findL_step ctx sp rl fuel ih

end

theorem term_ctx_of {t : Val} (hp : SafeKeys PlainKey t) :
    TermCtx (termHgt t) (max 1 (termWd t)) t :=
  ⟨by omega, Nat.le_refl _, by omega, hp⟩

/-- `_get` of any path text on a tree with plain keys never exhausts the fuel `termFuel` -/
theorem term_getCore (fuel : Nat) (root : Val) (xp : Str) (dflt : Val) (raise rl : Bool)
    (hp : SafeKeys PlainKey root) (hf : termFuel root xp ≤ fuel) :
    (getCore fuel root xp dflt raise rl).2 ≠ .error .OutOfFuel := by
  have ctx := term_ctx_of hp
  -- `_get` raises `OutOfFuel` only if the search does, and neither search does
  have body : ∀ s dflt raise,
      max (termPot (termHgt root) (max 1 (termWd root)) (tokenize s) (termHgt root) 0)
        (termPotL (termHgt root) (max 1 (termWd root)) (tokenize s) 0) ≤ fuel →
      (getBody id fuel root s dflt raise rl).2 ≠ .error .OutOfFuel := by
    intro s dflt raise hle h
    rcases getBody_err h with ⟨_, hc | hc⟩ | hc | ⟨_, hx⟩
    · cases hc
    · cases hc
    · cases hc
    · refine TermOut.ne (Q := fun _ => True) (root := root) ?_ hx
      unfold rootFind
      split
      · refine term_main ctx [] rl fuel true (tokenize s) (.at []) slash 0
          (SafeRef_at ctx.plain []) (TermRef_at ctx.hgt ctx.wd []) (TermFound_slash 0) ?_
        rw [termHgtRef_some (v := _) rfl]
        omega
      · exact term_findL ctx [] rl fuel (tokenize s) (.at []) slash 0
          (SafeRef_at ctx.plain []) (TermRef_at ctx.hgt ctx.wd []) (TermFound_slash 0) (termHgtRef_at_le ctx.hgt [])
          (by omega)
      · exact TermOut_err (by decide)
  unfold termFuel at hf
  rw [getCore_eq]
  unfold getG
  split
  · exact fun h => by cases h
  · split
    · rename_i hq
      simp only [hq, if_true] at hf
      exact body _ _ _ hf
    · rename_i hq
      simp only [hq] at hf
      exact body _ _ _ hf

end N0.XPath
