import N0Verif.Proofs.XPathTermPot
import N0Verif.Proofs.XPathTermPlain
/-!
  C04, termination of the resolver: the dict-side search ends (`term_main`).  For every token list, on a tree whose keys
  are plain names, `findD` run with fuel `≥ termPot H W toks (height of the current node) (pieces of found)` does not answer
  `OutOfFuel` and returns the root unchanged.  Strong induction on the fuel; the `[*]`, `*` and implicit fan-out loops are the
  macro steps of `XPathTerm`, the re-resolutions of `found` (empty token list, `..`) are `term_plain` (`XPathTermPlain`).
-/
namespace N0.XPath
open N0 N0.Py N0.Val

/-- what is assumed about the tree: bounds `H`, `W` and plain keys -/
structure TermCtx (H W : Nat) (root : Val) : Prop where
  hW : 1 ≤ W
  hgt : termHgt root ≤ H
  wd : termWd root ≤ W
  plain : SafeKeys PlainKey root

/-- stage 2, the statement of the termination induction at one fuel: ANY tokens, from a reference with plain keys within the
bounds `H`, `W` and a `found` of at most `g` pieces; fuel at least the potential `termPot` of the tokens at the height of the
reference (`Proofs/XPathTermPot.lean` explains the potential) never gives `OutOfFuel` and returns the root -/
def TermS2 (H W : Nat) (root : Val) (sp : Pos) (rl : Bool) (fuel : Nat) : Prop :=
  ∀ (entry : Bool) (toks : List Str) (par : PRef) (found : Str) (g : Nat),
    SafeRef PlainKey root par → TermRef H W root par → TermFound found g →
    termPot H W toks (termHgtRef root par) g ≤ fuel →
    TermOut (fun _ => True) root (findD fuel root sp false entry toks par rl found)

theorem fstClosed_true : FstClosed (fun _ => True) := fun _ _ _ => trivial

theorem termTokPot_pos (H W : Nat) (tok : Str) {C : TermPotF} (hC : TermMono C) (h g : Nat) : 1 ≤ termTokPot H W tok C h g := by
  cases hs : splitNameIndex tok with
  | error e => simp [termTokPot, hs]
  | ok p =>
    obtain ⟨name, idx⟩ := p
    simp only [termTokPot, hs]
    split
    · exact Nat.le_trans (Nat.le_add_left 1 _) (termZ_ge H W h hC g)
    · split
      · split
        · simp only [termU]; omega
        · simp only [termU0]; omega
      · exact termN_pos H W h C g

theorem termPot_pos (H W : Nat) (toks : List Str) (h g : Nat) : 1 ≤ termPot H W toks h g := by
  cases toks with
  | nil => simp only [termPot, termNil]; omega
  | cons t ts => exact termTokPot_pos H W t (termPot_mono H W ts) h g

theorem termHgtRef_le {H W : Nat} {root : Val} {r : PRef} (h : TermRef H W root r) : termHgtRef root r ≤ H + 1 := by
  unfold termHgtRef
  split
  · rename_i v hv; exact (h v hv).hgt
  · omega

theorem termHgtRef_at_le {H : Nat} {root : Val} (h : termHgt root ≤ H) (p : Pos) : termHgtRef root (.at p) ≤ H := by
  unfold termHgtRef
  split
  · rename_i v hv
    have := term_getAt (show getAt root p = some v from hv)
    omega
  · omega

/-- the fuel of stage 1 suffices for any plain token list of at most `g` tokens resolved from `self` -/
theorem term_R_enough {H W : Nat} {root : Val} (hh : termHgt root ≤ H) (sp : Pos) {n g f : Nat} (hn : n ≤ g)
    (hf : termR H W g ≤ f) : (W + 4) * termHgtRef root (.at sp) + 2 * n + 1 ≤ f := by
  have h1 : (W + 4) * termHgtRef root (.at sp) ≤ (W + 4) * H := Nat.mul_le_mul_left _ (termHgtRef_at_le hh sp)
  unfold termR at hf
  omega

section
variable {H W : Nat} {root : Val}

/-- the `[*]` loop over a list-valued reference whose elements have height `≤ hc` -/
theorem term_star_loop (sp : Pos) (rl : Bool) (f : Nat)
    (ih : ∀ m, m < f → TermS2 H W root sp rl m)
    (par' : PRef) (c : Cls) (xs : List Val) (hpv' : valOf root par' = some (.list c xs))
    (hK : SafeRef PlainKey root par') (hB : TermRef H W root par')
    (rest : List Str) (found : Str) (g : Nat) (hfd : TermFound found g)
    (all : List Str) (hc : Nat) (hhc : termHgt (.list c xs) - 1 ≤ hc)
    (hf : termPot H W rest hc (g + 1) + 1 + xs.length + 1 ≤ f) :
    TermOut (fun _ => True) root (starIdx f root sp false xs.length 0 rest par' rl found [] Option.none all) := by
  refine term_starIdx fstClosed_true root sp rl xs.length rest par' found all (termPot H W rest hc (g + 1) + 1) f ?_ trivial
    xs.length 0 [] Option.none f (Nat.sub_le _ _) hf (Nat.le_refl _) (fun _ h => by cases h)
  intro j hj f' hf' hf'F
  obtain ⟨f'', rfl⟩ : ∃ f'', f' = f'' + 1 :=
    Nat.exists_eq_succ_of_ne_zero (Nat.ne_of_gt (Nat.lt_of_lt_of_le (Nat.succ_pos _) hf'))
  have hk := natStr_idxTok j
  rcases findD_idx_cases f'' sp false rl found rest hpv' hk with ⟨v, nf, he⟩ | ⟨n, hrne, he⟩
  · rw [he]; exact ⟨rfl, trivial⟩
  · rw [he]
    have hch := termHgtRef_child (root := root) (r := par') (.idx n) (hB _ hpv') hpv'
    refine ih f'' (Nat.lt_of_succ_lt hf'F) false rest _ _ (g + 1)
      (SafeRef_child hK _) (TermRef_child hB _) (hfd.idx _) ?_
    exact Nat.le_trans (termPot_mono H W rest _ hc (g + 1) (g + 1) (Nat.le_trans hch hhc) (Nat.le_refl _))
      (Nat.le_of_succ_le_succ hf')

theorem term_main_step (ctx : TermCtx H W root) (sp : Pos) (rl : Bool) (fuel : Nat)
    (ih : ∀ m, m < fuel → TermS2 H W root sp rl m) : TermS2 H W root sp rl fuel := by
  intro entry toks par found g hparK hparB hfd hfuel
  have hW := ctx.hW
  obtain ⟨f, rfl⟩ : ∃ f, fuel = f + 1 :=
    Nat.exists_eq_succ_of_ne_zero (Nat.ne_of_gt (Nat.lt_of_lt_of_le (termPot_pos H W toks _ g) hfuel))
  -- stage 1: plain tokens (pieces of a `found` text) resolved from `self`
  have hre : ∀ ts, (∀ t ∈ ts, TermPTok t) → ts.length ≤ g → termR H W g ≤ f →
      TermOut (TermGoodR H W root (0 + 2 * termHgtRef root (.at sp) + termPws ts)) root
        (findD f root sp false false ts (.at sp) rl slash) :=
    fun ts ht hl hR => term_plain H W hW root sp rl f false ts (.at sp) slash 0 ht (fun _ => rfl)
      (TermRef_at ctx.hgt ctx.wd sp) (SafeRef_at ctx.plain sp) (TermFound_slash 0) (term_R_enough ctx.hgt sp hl hR)
  cases toks with
  | nil =>
    by_cases hf : found = slash
    · subst hf
      cases hpv : valOf root par with
      | none => rw [findD_nil_slash_noParent rfl hpv]; exact TermOut_err (by decide)
      | some pv => rw [findD_nil_slash rfl hpv]; exact ⟨rfl, trivial⟩
    · rw [findD_nil_retok rfl hf]
      obtain ⟨ht, _, hl⟩ := hfd.tokens
      simp only [termPot, termNil] at hfuel
      exact (hre _ ht hl (Nat.le_of_succ_le_succ hfuel)).mono (fun _ _ => trivial)
  | cons tok rest =>
    have hC := termPot_mono H W rest
    cases hpv : valOf root par with
    | none => rw [findD_noParent rfl hpv]; exact TermOut_err (by decide)
    | some pv =>
      have hb : TermBnd H W pv := hparB pv hpv
      have hpvK : SafeKeys PlainKey pv := hparK pv hpv
      rw [termHgtRef_some hpv] at hfuel
      have hchild : ∀ s, SafeRef PlainKey root (childRef root par s) ∧
          TermRef H W root (childRef root par s) ∧ termHgtRef root (childRef root par s) ≤ termHgt pv - 1 :=
        fun s => ⟨SafeRef_child hparK s, TermRef_child hparB s, termHgtRef_child s hb hpv⟩
      cases hsplit : splitNameIndex tok with
      | error e => rw [findD_split_error rfl hpv hsplit]; exact TermOut_err (term_okErr_split hsplit)
      | ok p =>
        obtain ⟨name, idx⟩ := p
        simp only [termPot, termTokPot, hsplit] at hfuel
        -- implicit fan-out over a list: the same token list one level lower
        have hfan : ∀ (cls : Cls) (xs : List Val), pv = .list cls xs → ∀ (M : Nat),
            (∀ hc, hc ≤ termHgt pv - 1 → termPot H W (tok :: rest) hc (g + 1) ≤ M) → M + W + 3 ≤ f →
            TermOut (fun _ => True) root (findD f root sp false false (bracket ['*'] :: tok :: rest) par rl found) := by
          intro cls xs hpvl M hM hMf
          subst hpvl
          refine term_fanout fstClosed_true root sp false rl (tok :: rest) (by simp) par found cls xs hpv M f ?_ trivial f
            (Nat.le_trans (Nat.add_le_add_right (Nat.add_le_add_left hb.list_len M) 3) hMf) (Nat.le_refl _)
          intro j hj f' hf' hf'F
          obtain ⟨h2, h3, h4⟩ := hchild (.idx j)
          exact ih f' (Nat.lt_succ_of_lt hf'F) false (tok :: rest) _ _ (g + 1) h2 h3
            (hfd.idx (j : Int)) (Nat.le_trans (hM _ h4) hf')
        by_cases hne : name = []
        · subst hne
          simp only [List.isEmpty_nil, if_true] at hfuel
          cases idx with
          | none => rw [findD_noStep rfl hpv hsplit rfl rfl]; exact TermOut_err (by decide)
          | str s =>
            by_cases hs0 : s = []
            · subst hs0; rw [findD_noStep rfl hpv hsplit rfl rfl]; exact TermOut_err (by decide)
            · have hb1 := termZ_b1 H W (termHgt pv) (termPot H W rest) g
              by_cases hnew : s = sNew
              · -- `[new()]`: `found` is resolved again, then the search ends (fix C04-a: nothing is written)
                subst hnew
                have hZR := termZ_R H W (termHgt pv) (termPot H W rest) g
                obtain ⟨ht, _, hl⟩ := hfd.tokens
                rw [findD_new rfl hpv hsplit]
                refine Outcome_bind (hre _ ht hl (Nat.le_of_succ_le_succ (Nat.le_trans hZR hfuel))) fun cur _ => ?_
                show TermOut (fun _ => True) root _
                simp only [newMiss]
                repeat' split
                all_goals first
                  | exact ⟨rfl, trivial⟩
                  | exact TermOut_err (by decide)
              by_cases hstar : s = ['*']
              · subst hstar
                by_cases hl : isList pv = true
                · cases pv <;> simp only [isList, Bool.false_eq_true] at hl
                  rename_i cls xs
                  rw [findD_star_idx rfl hpv hsplit]
                  exact term_star_loop sp rl f (fun m hm => ih m (Nat.lt_succ_of_lt hm)) par cls xs hpv hparK hparB rest found g
                    hfd _ (termHgt (Val.list cls xs)) (Nat.sub_le _ _) (fuel_loop' hb.list_len (Nat.le_refl _) hb1 hfuel)
                · have hl' : isList pv = false := by simpa using hl
                  have hw : valOf root (.wrap par) = some (Val.list .plain [pv]) := by simp [valOf, hpv]
                  rw [findD_star_idx_single rfl hpv hl' hsplit]
                  exact term_star_loop sp rl f (fun m hm => ih m (Nat.lt_succ_of_lt hm)) (.wrap par) .plain [pv] hw
                    (SafeRef_wrap hparK) (TermRef_wrap hW hparB hpv hl') rest found g hfd _ (termHgt pv)
                    (by rw [termHgt_singleton]; exact Nat.le_refl _) (fuel_loop' hW (Nat.le_refl _) hb1 hfuel)
              · cases hev : n0eval s with
                | error e =>
                  rw [findD_idx_evalError rfl hpv hsplit hs0 hnew hstar hev, n0eval_err hev]; exact TermOut_err (by decide)
                | ok ev =>
                  cases ev with
                  | str t => rw [findD_idx_evalStr rfl hpv hsplit hs0 hnew hstar hev]; exact TermOut_err (by decide)
                  | int i =>
                    rcases findD_idx_cases f sp entry rl found rest hpv ⟨hsplit, hs0, hnew, hstar, hev⟩ with ⟨v, nf, he⟩ | ⟨n, hrne, he⟩
                    · rw [he]; exact ⟨rfl, trivial⟩
                    · rw [he]
                      obtain ⟨hK', hB', _⟩ := term_idx_elem hW hpv hparK hparB n
                      have hch := (termHgtRef_idx hW hpv hparB n).1
                      refine ih f (Nat.lt_succ_self f) false rest _ _ (g + 1) hK' hB' (hfd.idx i) ?_
                      exact fuel_step (Nat.succ_pos _) (hC _ _ (g + 1) (g + 1) hch (Nat.le_refl _)) hb1 hfuel
          | cond k op v =>
            by_cases htext : k = sTextFn
            · subst htext
              cases hg : textGuard pv v with
              | true => rw [findD_text_guard rfl hpv hsplit hg]; exact TermOut_err (by decide)
              | false =>
                rw [findD_text rfl hpv hsplit hg]
                cases hres : textRes pv op v with
                | error e => rw [textRes_err hres]; exact TermOut_err (by decide)
                | ok b =>
                  cases b with
                  | false => exact ⟨rfl, trivial⟩
                  | true =>
                    refine ih f (Nat.lt_succ_self f) false rest par found g hparK hparB hfd ?_
                    rw [termHgtRef_some hpv]
                    exact Nat.le_of_succ_le_succ (Nat.le_trans (termZ_ge H W (termHgt pv) hC g) hfuel)
            · cases pv with
              | list cls xs =>
                have hpos : 1 ≤ termHgt (Val.list cls xs) := term_hgt_container_pos (Or.inl rfl)
                have hb2 := termZ_b2 H W hpos (termPot H W rest) g
                rw [findD_cond_on_list rfl hpv hsplit htext]
                refine hfan cls xs rfl (termZ H W (termHgt (Val.list cls xs) - 1) (termPot H W rest) (g + 1)) ?_
                  (fuel_loop (Nat.le_refl W) (Nat.le_refl _) hb2 hfuel)
                intro hc hhc
                simp only [termPot, termTokPot, hsplit, List.isEmpty_nil, if_true]
                exact termZ_mono_h H W _ hC _ hhc
              | dict c kvs =>
                have hpos : 1 ≤ termHgt (Val.dict c kvs) := term_hgt_container_pos (Or.inr rfl)
                have hb3 := termZ_b3 H W hpos (termPot H W rest) g
                cases hl : lookup k kvs with
                | none => rw [findD_cond_miss rfl hpv hsplit htext hl]; exact ⟨rfl, trivial⟩
                | some cv =>
                  rw [findD_cond_step rfl hpv hsplit htext hl]
                  have hkP : PlainKey k := term_lookup_key (by simpa [SafeKeys] using hpvK) hl
                  obtain ⟨h2, h3, h4⟩ := hchild (.key k)
                  refine ih f (Nat.lt_succ_self f) false _ _ _ (g + 1) h2 h3 (hfd.key hkP) ?_
                  · simp only [termPot]
                    rw [termTokPot_up]
                    have hU := termU0_mono H W hC
                    have e1 := termTokPot_bracket H W (sTextFn ++ op ++ condValStr v) hU
                      (termHgtRef root (childRef root par (.key k))) (g + 1)
                    have e2 := termZ_mono_h H W _ hU (g + 1) h4
                    exact fuel_step Nat.one_pos (Nat.le_trans e1 e2) hb3 hfuel
              | _ => rw [findD_cond_on_single rfl hpv rfl rfl hsplit htext]; exact ⟨rfl, trivial⟩
        · have hne0 : name.isEmpty = false := isEmpty_false_of_ne hne
          simp only [hne0, Bool.false_eq_true, if_false] at hfuel
          by_cases hup : name = ['.', '.']
          · subst hup
            simp only [if_true] at hfuel
            rw [findD_up rfl hpv hsplit]
            obtain ⟨hupT, hupW, hupL⟩ := hfd.upTokens
            have hRf : termR H W g ≤ f := by
              split at hfuel
              · exact fuel_step Nat.one_pos (Nat.le_refl _) (termU_R H W _ _ g) hfuel
              · exact fuel_step Nat.one_pos (Nat.le_refl _) (termU0_R H W _ _ g) hfuel
            refine Outcome_bind (hre _ hupT hupL hRf) fun cur hgr => ?_
            show TermOut (fun _ => True) root _
            cases hcp : valOf root cur.parent with
            | none => exact TermOut_err (by decide)
            | some cpv =>
              simp only
              cases hn : upNext root cur cpv with
              | error e => exact TermOut_err (upNext_ne_outOfFuel hn)
              | ok nxt =>
                simp only
                have hnxt : SafeRef PlainKey root nxt ∧ TermRef H W root nxt := by
                  rcases upNext_ref hn with rfl | ⟨s, rfl⟩
                  · exact ⟨hgr.keys, hgr.par⟩
                  · exact ⟨SafeRef_child hgr.keys _, TermRef_child hgr.par _⟩
                obtain ⟨hnK, hnB⟩ := hnxt
                have hhn := termHgtRef_le hnB
                have hfd' : TermFound (upFound cur) (g + 2 * H) := by
                  refine hgr.upFound.mono ?_
                  have := termHgtRef_at_le ctx.hgt sp (root := root)
                  omega
                unfold upCont
                split
                · -- an index or more tokens follow: the search goes on at `nxt`
                  split
                  · rename_i htr
                    simp only [htr, if_true] at hfuel
                    split
                    · rename_i s _
                      refine ih f (Nat.lt_succ_self f) false _ _ _ (g + 2 * H) hnK hnB hfd' ?_
                      · simp only [termPot]
                        have e1 := termTokPot_bracket H W s hC (termHgtRef root nxt) (g + 2 * H)
                        have e2 := termZ_mono_h H W _ hC (g + 2 * H) hhn
                        exact fuel_step Nat.one_pos (Nat.le_trans e1 e2) (termU_Z H W _ _ g) hfuel
                    · exact TermOut_err (by decide)
                  · rename_i htr
                    simp only [htr, Bool.false_eq_true, if_false] at hfuel
                    refine ih f (Nat.lt_succ_self f) false _ _ _ (g + 2 * H) hnK hnB hfd' ?_
                    exact fuel_step Nat.one_pos (hC _ _ (g + 2 * H) (g + 2 * H) hhn (Nat.le_refl _)) (termU0_C H W _ _ g) hfuel
                · -- `'..'` is the last token: the result is the node gone up to
                  split
                  · split
                    · exact TermOut_err (by decide)
                    · exact ⟨rfl, trivial⟩
                  · split     -- `'..'` surfaced to the root (fix C04-g)
                    · exact ⟨rfl, trivial⟩
                    · exact TermOut_err (by decide)
                  · exact TermOut_err (by decide)
                  · exact TermOut_err (by decide)
          · simp only [hup, if_false] at hfuel
            cases pv with
            | list cls xs =>
              have hpos : 1 ≤ termHgt (Val.list cls xs) := term_hgt_container_pos (Or.inl rfl)
              have hn1 := termN_b1 H W hpos (termPot H W rest) g
              rw [findD_name_on_list rfl hpv hsplit hne hup]
              refine hfan cls xs rfl (termN H W (termHgt (Val.list cls xs) - 1) (termPot H W rest) (g + 1)) ?_
                (fuel_loop (Nat.le_refl W) (Nat.le_refl _) hn1 hfuel)
              intro hc hhc
              simp only [termPot, termTokPot, hsplit, hne0, Bool.false_eq_true, if_false, hup]
              exact termN_mono_h H W _ hC _ hhc
            | dict c kvs =>
              have hpos : 1 ≤ termHgt (Val.dict c kvs) := term_hgt_container_pos (Or.inr rfl)
              have hn1 := termN_b1 H W hpos (termPot H W rest) g
              have hn2 := termN_b2 H W hpos (termPot H W rest) g
              have hKK : SafeKeysK PlainKey kvs := by simpa [SafeKeys] using hpvK
              by_cases hstar : name = ['*']
              · -- `*`: every key, then the same tokens one level lower
                subst hstar
                rw [findD_star_keys rfl hpv hsplit]
                have hlen : (kvs.map Prod.fst).length ≤ W := by rw [List.length_map]; exact hb.dict_len
                refine term_starKeys fstClosed_true root sp rl (tok :: rest) par found
                  (termN H W (termHgt (Val.dict c kvs) - 1) (termPot H W rest) (g + 1) + 1) f trivial
                  (kvs.map Prod.fst) [] Option.none f (fuel_loop' hlen (Nat.le_refl _) hn1 hfuel) (Nat.le_refl _) ?_
                  (fun _ h => by cases h)
                intro k hk f' hf' hf'F
                obtain ⟨f'', rfl⟩ : ∃ f'', f' = f'' + 1 :=
                  Nat.exists_eq_succ_of_ne_zero (Nat.ne_of_gt (Nat.lt_of_lt_of_le (Nat.succ_pos _) hf'))
                have hkP : PlainKey k := SafeKeysK_keys hKK k hk
                have hkt := hkP.keyTok
                cases hl : lookup k kvs with
                | none => rw [findD_key_miss rfl hpv hkt.split hkt.ne hkt.notUp hkt.notStar hl]; exact ⟨rfl, trivial⟩
                | some cv =>
                  rw [findD_key_step rfl hpv hkt.split hkt.ne hkt.notUp hkt.notStar hl (by simp)]
                  obtain ⟨h2, h3, h4⟩ := hchild (.key k)
                  refine ih f'' (Nat.lt_succ_of_lt (Nat.lt_of_succ_lt hf'F)) false (tok :: rest) _ _ (g + 1) h2 h3
                    (hfd.key hkP) ?_
                  simp only [termPot, termTokPot, hsplit, hne0, Bool.false_eq_true, if_false, hup]
                  exact Nat.le_trans (termN_mono_h H W _ hC (g + 1) h4) (Nat.le_of_succ_le_succ hf')
              · cases hl : lookup name kvs with
                | none => rw [findD_key_miss rfl hpv hsplit hne hup hstar hl]; exact ⟨rfl, trivial⟩
                | some cv =>
                  have hkP : PlainKey name := term_lookup_key hKK hl
                  obtain ⟨h2, h3, h4⟩ := hchild (.key name)
                  have hZ := termZ_mono_h H W _ hC (g + 1) h4
                  cases idx with
                  | none =>
                    cases rest with
                    | nil => rw [findD_key_last rfl hpv hsplit hne hup hstar hl]; exact ⟨rfl, trivial⟩
                    | cons t ts =>
                      rw [findD_key_step rfl hpv hsplit hne hup hstar hl (by simp)]
                      refine ih f (Nat.lt_succ_self f) false _ _ _ (g + 1) h2 h3 (hfd.key hkP) ?_
                      exact fuel_step Nat.one_pos (Nat.le_trans (Nat.le_of_succ_le (termZ_ge H W _ hC (g + 1))) hZ) hn2 hfuel
                  | str s =>
                    rw [findD_keyidx_step rfl hpv hsplit hne hup hstar hl]
                    refine ih f (Nat.lt_succ_self f) false _ _ _ (g + 1) h2 h3 (hfd.key hkP) ?_
                    · simp only [termPot]
                      exact fuel_step Nat.one_pos (Nat.le_trans (termTokPot_bracket H W s hC _ (g + 1)) hZ) hn2 hfuel
                  | cond k op v =>
                    rw [findD_keycond_step rfl hpv hsplit hne hup hstar hl]
                    refine ih f (Nat.lt_succ_self f) false _ _ _ (g + 1) h2 h3 (hfd.key hkP) ?_
                    · simp only [termPot]
                      exact fuel_step Nat.one_pos (Nat.le_trans (termTokPot_bracket H W _ hC _ (g + 1)) hZ) hn2 hfuel
            | _ => rw [findD_name_on_single rfl hpv hsplit hne hup rfl rfl]; exact TermOut_err (by decide)

/-- **The dict-side search ends**: with fuel at least `termPot`, never `OutOfFuel`, root unchanged. -/
theorem term_main (ctx : TermCtx H W root) (sp : Pos) (rl : Bool) : ∀ fuel, TermS2 H W root sp rl fuel := by
  intro fuel
  induction fuel using Nat.strongRecOn with
  | ind fuel ih => exact term_main_step ctx sp rl fuel ih

end
end N0.XPath
