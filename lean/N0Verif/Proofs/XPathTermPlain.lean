import N0Verif.Proofs.XPathTerm
import N0Verif.Proofs.XPathGText
/-!
  C04, termination of the resolver: the text `_find` keeps in `xpath_found_str` (`TermFound found g`: `/` followed by at most
  `g` pieces `/key` or `[i]`, never `..`, `*`, a condition or `text()`; `TermPTok`: the three shapes of its tokens) and its
  re-resolution (`term_plain`, *stage 1* of the termination proof): resolving plain tokens ends within `(W + 4) · height + 2 · #tokens + 1` units of fuel (the first
  summand pays for the implicit fan-out over lists), returns the root unchanged, and reports a `found` text that is again plain
  and at most `2 · height` pieces longer than the tokens resolved.
-/
namespace N0.XPath
open N0 N0.Py N0.Val

/-- a piece `_find` itself writes into `xpath_found_str`: `/key` with a plain key, or `[i]` with a decimal integer -/
def TermPlainSeg : GSeg → Prop
  | .key k => PlainKey k
  | .br e => ∃ i : Int, e = intStr i

def TermPlainG (gs : List GSeg) : Prop := ∀ s ∈ gs, TermPlainSeg s

/-- the text `found` is `/` followed by at most `g` such pieces -/
def TermFound (found : Str) (g : Nat) : Prop :=
  ∃ gs, TermPlainG gs ∧ found = '/' :: sel2Render gs ∧ gs.length ≤ g

theorem TermPlainG.good : ∀ {gs : List GSeg}, TermPlainG gs → GoodG gs
  | [], _ => trivial
  | .key k :: r, h => ⟨(h (.key k) (by simp)).gKey, TermPlainG.good (fun s hs => h s (by simp [hs]))⟩
  | .br e :: r, h => by
    obtain ⟨i, rfl⟩ := h (.br e) (by simp)
    exact ⟨sel2_gBr_int i, TermPlainG.good (fun s hs => h s (by simp [hs]))⟩

theorem TermFound_slash (g : Nat) : TermFound slash g :=
  ⟨[], (fun _ h => absurd h List.not_mem_nil), rfl, Nat.zero_le _⟩

theorem TermFound.mono {found : Str} {g g' : Nat} (h : TermFound found g) (hg : g ≤ g') : TermFound found g' := by
  obtain ⟨gs, h1, h2, h3⟩ := h
  exact ⟨gs, h1, h2, by omega⟩

theorem TermPlainG.snoc {gs : List GSeg} {s : GSeg} (h : TermPlainG gs) (hs : TermPlainSeg s) : TermPlainG (gs ++ [s]) := by
  intro x hx
  simp only [List.mem_append, List.mem_singleton] at hx
  rcases hx with hx | rfl
  · exact h x hx
  · exact hs

theorem TermFound.key {found k : Str} {g : Nat} (h : TermFound found g) (hk : PlainKey k) :
    TermFound (found ++ slash ++ k) (g + 1) := by
  obtain ⟨gs, h1, h2, h3⟩ := h
  refine ⟨gs ++ [.key k], h1.snoc (s := .key k) hk, ?_, by simp; omega⟩
  subst h2
  simp [sel2Render, sel2RenderSeg, slash]

theorem TermFound.idx {found : Str} {g : Nat} (h : TermFound found g) (i : Int) :
    TermFound (found ++ bracket (intStr i)) (g + 1) := by
  obtain ⟨gs, h1, h2, h3⟩ := h
  refine ⟨gs ++ [.br (intStr i)], h1.snoc (s := .br (intStr i)) ⟨i, rfl⟩, ?_, by simp; omega⟩
  subst h2
  simp [sel2Render, sel2RenderSeg]

inductive TermPTok : Str → Prop
  | key {k : Str} : PlainKey k → TermPTok k
  | keyIdx {k : Str} (i : Int) : PlainKey k → TermPTok (k ++ bracket (intStr i))
  | idx (i : Int) : TermPTok (bracket (intStr i))

/-- pieces in a token: `key[i]` has two -/
def termPw (t : Str) : Nat := if t.contains '[' && !(startsWith t ['[']) then 2 else 1

def termPws (ts : List Str) : Nat := (ts.map termPw).sum

theorem termPw_pos (t : Str) : 1 ≤ termPw t := by unfold termPw; split <;> omega

theorem termPw_key {k : Str} (h : PlainKey k) : termPw k = 1 := by
  unfold termPw; rw [h.noBracket]; rfl

theorem termPw_br (e : Str) : termPw (bracket e) = 1 := by
  simp [termPw, bracket, startsWith]

theorem termPws_cons (t : Str) (ts : List Str) : termPws (t :: ts) = termPw t + termPws ts := by
  simp [termPws]

theorem termPws_dropLast : ∀ (ts : List Str), ts ≠ [] → termPws ts.dropLast + 1 ≤ termPws ts
  | [], h => absurd rfl h
  | [t], _ => by simp [termPws]; exact termPw_pos t
  | t :: t2 :: ts, _ => by
    have := termPws_dropLast (t2 :: ts) (by simp)
    simp only [List.dropLast_cons_cons, termPws_cons] at this ⊢
    omega

theorem termPws_dropLast_le (ts : List Str) : termPws ts.dropLast ≤ termPws ts := by
  cases ts with
  | nil => simp
  | cons t r => have := termPws_dropLast (t :: r) (by simp); omega

theorem term_toks_plain : ∀ (gs : List GSeg), TermPlainG gs →
    (∀ t ∈ sel2Toks gs, TermPTok t) ∧ termPws (sel2Toks gs) ≤ gs.length ∧ (sel2Toks gs).length ≤ gs.length
  | [], _ => ⟨fun _ h => by simp [sel2Toks] at h, by simp [sel2Toks, termPws], by simp [sel2Toks]⟩
  | [.key k], h => by
    have hk : PlainKey k := h (.key k) (by simp)
    refine ⟨?_, ?_, ?_⟩
    · intro t ht; simp [sel2Toks] at ht; subst ht; exact .key hk
    · simp [sel2Toks, termPws, termPw_key hk]
    · simp [sel2Toks]
  | .key k :: .key k2 :: rest, h => by
    have hk : PlainKey k := h (.key k) (by simp)
    obtain ⟨i1, i2, i3⟩ := term_toks_plain (.key k2 :: rest) (fun s hs => h s (by simp [hs]))
    rw [sel2_toks_key_key]
    refine ⟨?_, ?_, ?_⟩
    · intro t ht
      simp only [List.mem_cons] at ht
      rcases ht with rfl | ht
      · exact .key hk
      · exact i1 t (by simpa using ht)
    · rw [termPws_cons, termPw_key hk]; simp only [List.length_cons] at i2 ⊢; omega
    · simp only [List.length_cons] at i3 ⊢; omega
  | .key k :: .br e :: rest, h => by
    have hk : PlainKey k := h (.key k) (by simp)
    obtain ⟨i, rfl⟩ := h (.br e) (by simp)
    obtain ⟨i1, i2, i3⟩ := term_toks_plain rest (fun s hs => h s (by simp [hs]))
    simp only [sel2Toks]
    refine ⟨?_, ?_, ?_⟩
    · intro t ht
      simp only [List.mem_cons] at ht
      rcases ht with rfl | ht
      · exact .keyIdx i hk
      · exact i1 t ht
    · rw [termPws_cons]
      have : termPw (k ++ bracket (intStr i)) ≤ 2 := by unfold termPw; split <;> omega
      simp only [List.length_cons]; omega
    · simp only [List.length_cons]; omega
  | .br e :: rest, h => by
    obtain ⟨i, rfl⟩ := h (.br e) (by simp)
    obtain ⟨i1, i2, i3⟩ := term_toks_plain rest (fun s hs => h s (by simp [hs]))
    simp only [sel2Toks]
    refine ⟨?_, ?_, ?_⟩
    · intro t ht
      simp only [List.mem_cons] at ht
      rcases ht with rfl | ht
      · exact .idx i
      · exact i1 t ht
    · rw [termPws_cons, termPw_br]; simp only [List.length_cons]; omega
    · simp only [List.length_cons]; omega

/-- the tokens `_find` re-resolves when the token list is exhausted -/
theorem TermFound.tokens {found : Str} {g : Nat} (h : TermFound found g) :
    (∀ t ∈ tokenize found, TermPTok t) ∧ termPws (tokenize found) ≤ g ∧ (tokenize found).length ≤ g := by
  obtain ⟨gs, h1, rfl, h3⟩ := h
  rw [sel2_tokenize gs h1.good]
  obtain ⟨a, b, c⟩ := term_toks_plain gs h1
  exact ⟨a, by omega, by omega⟩

/-- the tokens the `..` step resolves: one piece less -/
theorem TermFound.upTokens {found : Str} {g : Nat} (h : TermFound found g) :
    let up := ((splitChar '/' (fixBr found)).filter (fun t => !t.isEmpty)).dropLast
    (∀ t ∈ up, TermPTok t) ∧ termPws up ≤ g ∧ up.length ≤ g := by
  obtain ⟨gs, h1, rfl, h3⟩ := h
  simp only
  rw [sel2_upToks gs h1.good]
  obtain ⟨a, b, c⟩ := term_toks_plain gs h1
  refine ⟨fun t ht => a t ((List.dropLast_sublist _).subset ht), ?_, ?_⟩
  · have := termPws_dropLast_le (sel2Toks gs); omega
  · simp only [List.length_dropLast]; omega

/-- result of resolving plain tokens: parent bounded and with plain keys; `found` plain; the name
or index reported is a plain key or `[i]`; `b` bounds the pieces of the text `..` continues with -/
structure TermGoodR (H W : Nat) (root : Val) (b : Nat) (r : Res) : Prop where
  par : TermRef H W root r.parent
  keys : SafeRef PlainKey root r.parent
  shape : ∃ gs, TermPlainG gs ∧ r.found = '/' :: sel2Render gs ∧
    ((r.nameIdx = Option.none ∧ gs.length ≤ b) ∨ (∃ k, r.nameIdx = some k ∧ PlainKey k ∧ gs.length ≤ b) ∨
      (∃ i : Int, r.nameIdx = some (bracket (intStr i)) ∧ gs.length + 1 ≤ b))

theorem TermGoodR.mono {H W : Nat} {root : Val} {b b' : Nat} {r : Res} (h : TermGoodR H W root b r) (hb : b ≤ b') :
    TermGoodR H W root b' r := by
  obtain ⟨gs, h1, h2, h3⟩ := h.shape
  refine ⟨h.par, h.keys, gs, h1, h2, ?_⟩
  rcases h3 with ⟨a, c⟩ | ⟨k, a, c, d⟩ | ⟨i, a, c⟩
  · exact Or.inl ⟨a, by omega⟩
  · exact Or.inr (Or.inl ⟨k, a, c, by omega⟩)
  · exact Or.inr (Or.inr ⟨i, a, by omega⟩)

theorem TermGoodR.fstClosed (H W : Nat) (root : Val) (b : Nat) : FstClosed (TermGoodR H W root b) :=
  fun _ _ h => ⟨h.par, h.keys, h.shape⟩

theorem TermGoodR.mk_none {H W : Nat} {root : Val} {b g : Nat} {par : PRef} {found : Str} {v : Val} {nf : Option (List Str)}
    (hpar : TermRef H W root par) (hkeys : SafeRef PlainKey root par) (hf : TermFound found g) (hg : g ≤ b) :
    TermGoodR H W root b { parent := par, nameIdx := Option.none, value := v, found := found, notFound := nf } := by
  obtain ⟨gs, h1, h2, h3⟩ := hf
  exact ⟨hpar, hkeys, gs, h1, h2, Or.inl ⟨rfl, by omega⟩⟩

theorem TermGoodR.mk_idx {H W : Nat} {root : Val} {b g : Nat} {par : PRef} {found : Str} {v : Val} {nf : Option (List Str)} (i : Int)
    (hpar : TermRef H W root par) (hkeys : SafeRef PlainKey root par) (hf : TermFound found g) (hg : g + 1 ≤ b) :
    TermGoodR H W root b { parent := par, nameIdx := some (bracket (intStr i)), value := v, found := found, notFound := nf } := by
  obtain ⟨gs, h1, h2, h3⟩ := hf
  exact ⟨hpar, hkeys, gs, h1, h2, Or.inr (Or.inr ⟨i, rfl, by omega⟩)⟩

/-- the text `..` continues with after a plain resolution is plain, at most `b` pieces -/
theorem TermGoodR.upFound {H W : Nat} {root : Val} {b : Nat} {r : Res} (h : TermGoodR H W root b r) :
    TermFound (XPath.upFound r) b := by
  obtain ⟨gs, h1, h2, h3⟩ := h.shape
  rcases h3 with ⟨a, c⟩ | ⟨k, a, hk, d⟩ | ⟨i, a, c⟩
  · exact ⟨gs, h1, by simp [XPath.upFound, a, h2], c⟩
  · exact ⟨gs, h1, by rw [upFound_key a hk.keyTok, h2], d⟩
  · rw [upFound_idx a]
    exact (TermFound.idx ⟨gs, h1, h2, Nat.le_refl _⟩ i).mono c

def termHgtRef (root : Val) (r : PRef) : Nat :=
  match valOf root r with
  | some v => termHgt v
  | Option.none => 0

theorem termHgtRef_some {root : Val} {r : PRef} {v : Val} (h : valOf root r = some v) : termHgtRef root r = termHgt v := by
  simp [termHgtRef, h]

theorem termHgtRef_child {H W : Nat} {root : Val} {r : PRef} {pv : Val} (s : Seg) (hb : TermBnd H W pv) (hpv : valOf root r = some pv) :
    termHgtRef root (childRef root r s) ≤ termHgt pv - 1 := by
  unfold termHgtRef
  split
  · rename_i c hc; exact (term_childRef_hgt hb hpv hc).1
  · omega

theorem termHgtRef_idx {H W : Nat} (hW : 1 ≤ W) {root : Val} {par : PRef} {pv : Val} (hpv : valOf root par = some pv)
    (hb : TermRef H W root par) (n : Nat) :
    termHgtRef root (childRef root (idxRef par pv) (.idx n)) ≤ termHgt pv ∧
      termHgtRef root (childRef root (idxRef par pv) (.idx n)) ≤ H := by
  unfold termHgtRef
  split
  · rename_i c hc; exact (term_idx_parent hW hpv hb (idxRef_cases par pv)).2 n c hc
  · exact ⟨Nat.zero_le _, Nat.zero_le _⟩

/-- parent and elements of an index step of either search -/
theorem term_idx_elem {H W : Nat} (hW : 1 ≤ W) {root : Val} {par : PRef} {pv : Val} (hpv : valOf root par = some pv)
    (hparK : SafeRef PlainKey root par) (hparB : TermRef H W root par) (n : Nat) :
    SafeRef PlainKey root (childRef root (idxRef par pv) (.idx n)) ∧
    TermRef H W root (childRef root (idxRef par pv) (.idx n)) ∧ termHgtRef root (childRef root (idxRef par pv) (.idx n)) ≤ H :=
  ⟨SafeRef_child (SafeRef_idxParent hparK) _, TermRef_child (term_idx_parent hW hpv hparB (idxRef_cases par pv)).1 _,
    (termHgtRef_idx hW hpv hparB n).2⟩

def TermS1 (H W : Nat) (root : Val) (sp : Pos) (rl : Bool) (fuel : Nat) : Prop :=
  ∀ (entry : Bool) (toks : List Str) (par : PRef) (found : Str) (g : Nat),
    (∀ t ∈ toks, TermPTok t) → (toks = [] → found = slash) →
    TermRef H W root par → SafeRef PlainKey root par → TermFound found g →
    (W + 4) * termHgtRef root par + 2 * toks.length + 1 ≤ fuel →
    TermOut (TermGoodR H W root (g + 2 * termHgtRef root par + termPws toks)) root
      (findD fuel root sp false entry toks par rl found)

theorem term_mul_pred (K h : Nat) (hh : 1 ≤ h) : K * (h - 1) + K = K * h := by
  obtain ⟨h', rfl⟩ : ∃ h', h = h' + 1 := ⟨h - 1, by omega⟩
  simp [Nat.mul_succ]

/-! The arithmetic of stage 1.  Fuel is `K·height + 2·tokens + 1` (`x`, `y` stand for `K·height` of the callee and
of the caller): a step to a child has `K` to spend and pays for up to one more token, a step on the same level
consumes a token, the fan-out runs `len ≤ w` rounds one level lower.  Pieces of `found`: two per level, so one more
piece is covered when the callee stands lower, or when it has a token less. -/

theorem plain_fuel_down {x y k n m f : Nat} (hk : 0 < k) (hd : x + k ≤ y) (hm : m ≤ n + 1)
    (hf : y + 2 * (n + 1) + 1 ≤ f + 1) : x + 2 * m + 1 ≤ f := by omega

theorem plain_fuel_same {x y n f : Nat} (hxy : x ≤ y) (hf : y + 2 * (n + 1) + 1 ≤ f + 1) : x + 2 * n + 1 ≤ f := by omega

theorem plain_fuel_fan {y' y w n len f : Nat} (hy : y' + (w + 4) = y) (hlen : len ≤ w)
    (hf : y + 2 * (n + 1) + 1 ≤ f + 1) : y' + 2 * (n + 1) + 1 + len + 3 ≤ f := by omega

theorem plain_pieces_down {g hc h p q : Nat} (hch : hc ≤ h - 1) (hpos : 1 ≤ h) (hp : p ≤ q + 1) :
    g + 1 + 2 * hc + p ≤ g + 2 * h + q := by omega

theorem plain_pieces_same {g hc h p q : Nat} (hch : hc ≤ h) (hp : p + 1 ≤ q) :
    g + 1 + 2 * hc + p ≤ g + 2 * h + q := by omega

theorem plain_pieces_none {g a b : Nat} : g ≤ g + a + b := Nat.le_trans (Nat.le_add_right _ _) (Nat.le_add_right _ _)

theorem term_plain_step (H W : Nat) (hW : 1 ≤ W) (root : Val) (sp : Pos) (rl : Bool) (fuel : Nat)
    (ih : ∀ m, m < fuel → TermS1 H W root sp rl m) : TermS1 H W root sp rl fuel := by
  intro entry toks par found g htoks hnil hpar hkeys hfound hfuel
  obtain ⟨f, rfl⟩ : ∃ f, fuel = f + 1 :=
    Nat.exists_eq_succ_of_ne_zero (Nat.ne_of_gt (Nat.lt_of_lt_of_le (Nat.succ_pos _) hfuel))
  cases toks with
  | nil =>
    cases hnil rfl
    cases hpv : valOf root par with
    | none => rw [findD_nil_slash_noParent rfl hpv]; exact TermOut_err (by decide)
    | some pv => rw [findD_nil_slash rfl hpv]; exact ⟨rfl, TermGoodR.mk_none hpar hkeys hfound plain_pieces_none⟩
  | cons tok rest =>
    have htok : TermPTok tok := htoks tok (by simp)
    have hrest : ∀ t ∈ rest, TermPTok t := fun t ht => htoks t (by simp [ht])
    cases hpv : valOf root par with
    | none => rw [findD_noParent rfl hpv]; exact TermOut_err (by decide)
    | some pv =>
      have hb : TermBnd H W pv := hpar pv hpv
      have hh : termHgtRef root par = termHgt pv := termHgtRef_some hpv
      rw [hh] at hfuel ⊢
      simp only [List.length_cons] at hfuel
      have hNF : ∀ (nf : Option (List Str)) (b : Nat), g ≤ b →
          TermGoodR H W root b { parent := par, nameIdx := Option.none, value := Val.none, found := found, notFound := nf } :=
        fun nf b hb' => TermGoodR.mk_none hpar hkeys hfound hb'
      -- one level down below a key of a dict: the potential of the child
      have hdown : ∀ (k : Str), 1 ≤ termHgt pv →
          (W + 4) * termHgtRef root (childRef root par (.key k)) + (W + 4) ≤ (W + 4) * termHgt pv := by
        intro k hpos
        exact Nat.le_trans
          (Nat.add_le_add_right (Nat.mul_le_mul_left (W + 4) (termHgtRef_child (root := root) (r := par) (.key k) hb hpv)) _)
          (Nat.le_of_eq (term_mul_pred (W + 4) _ hpos))
      -- a name token (`k` or `k[i]`): fan-out on a list, lookup on a dict
      have hname : ∀ (k : Str) (idx : Idx), PlainKey k → splitNameIndex tok = .ok (k, idx) → 1 ≤ termPw tok →
          (∀ cv c kvs, pv = .dict c kvs → lookup k kvs = some cv →
            TermOut (TermGoodR H W root (g + 2 * termHgt pv + termPws (tok :: rest))) root
              (findD (f + 1) root sp false entry (tok :: rest) par rl found)) →
          TermOut (TermGoodR H W root (g + 2 * termHgt pv + termPws (tok :: rest))) root
            (findD (f + 1) root sp false entry (tok :: rest) par rl found) := by
        intro k idx hk hsplit hpw hdict
        have hkt := hk.keyTok
        cases pv with
        | list cls xs =>
          rw [findD_name_on_list rfl hpv hsplit hkt.ne hkt.notUp]
          have hpos : 1 ≤ termHgt (Val.list cls xs) := term_hgt_container_pos (Or.inl rfl)
          refine term_fanout (TermGoodR.fstClosed _ _ _ _) root sp false rl (tok :: rest) (by simp) par found cls xs hpv
            ((W + 4) * (termHgt (Val.list cls xs) - 1) + 2 * (rest.length + 1) + 1) f ?_ (hNF _ _ plain_pieces_none) f
            (plain_fuel_fan (term_mul_pred (W + 4) _ hpos) hb.list_len hfuel) (Nat.le_refl _)
          intro j hj f' hf' hf'F
          have hch := termHgtRef_child (root := root) (r := par) (.idx j) hb hpv
          have := ih f' (Nat.lt_succ_of_lt hf'F) false (tok :: rest) (childRef root par (.idx j)) (found ++ bracket (natStr j))
            (g + 1) htoks (by simp) (TermRef_child hpar _) (SafeRef_child hkeys _) (hfound.idx (j : Int))
            (Nat.le_trans (Nat.add_le_add_right (Nat.add_le_add_right (Nat.mul_le_mul_left _ hch) _) _) hf')
          exact this.mono (fun r hr => hr.mono (plain_pieces_down hch hpos (Nat.le_succ _)))
        | dict c kvs =>
          cases hl : lookup k kvs with
          | none => rw [findD_key_miss rfl hpv hsplit hkt.ne hkt.notUp hkt.notStar hl]; exact ⟨rfl, hNF _ _ plain_pieces_none⟩
          | some cv => exact hdict cv c kvs rfl hl
        | _ => rw [findD_name_on_single rfl hpv hsplit hkt.ne hkt.notUp rfl rfl]; exact TermOut_err (by decide)
      cases htok with
      | key hk =>
        have hkt := hk.keyTok
        refine hname tok .none hk hkt.split (termPw_pos _) ?_
        intro cv c kvs hpvd hl
        subst hpvd
        have hpw := termPw_pos tok
        cases rest with
        | nil =>
          rw [findD_key_last rfl hpv hkt.split hkt.ne hkt.notUp hkt.notStar hl]
          obtain ⟨gs, h1, h2, h3⟩ := hfound.key hk
          exact ⟨rfl, hpar, hkeys, gs, h1, h2, Or.inr (Or.inl ⟨tok, rfl, hk, by rw [termPws_cons]; omega⟩)⟩
        | cons t ts =>
          rw [findD_key_step rfl hpv hkt.split hkt.ne hkt.notUp hkt.notStar hl (by simp)]
          have hpos : 1 ≤ termHgt (Val.dict c kvs) := term_hgt_container_pos (Or.inr rfl)
          have hd := hdown tok hpos
          have := ih f (Nat.lt_succ_self f) false (t :: ts) (childRef root par (.key tok)) (found ++ slash ++ tok) (g + 1)
            hrest (by simp) (TermRef_child hpar _) (SafeRef_child hkeys _) (hfound.key hk)
            (plain_fuel_down (Nat.succ_pos _) hd (Nat.le_succ _) hfuel)
          refine this.mono (fun r hr => hr.mono ?_)
          rw [termPws_cons tok]
          exact plain_pieces_down (termHgtRef_child (root := root) (r := par) (.key tok) hb hpv) hpos
            (Nat.le_succ_of_le (Nat.le_add_left _ _))
      | @keyIdx k i hk =>
        have hkt := hk.keyTok
        have hsplit : splitNameIndex (k ++ bracket (intStr i)) = .ok (k, .str (intStr i)) :=
          split_bracket k (intStr i) (Or.inr hk) (intStr_idxExpr i)
        have hpw : termPw (k ++ bracket (intStr i)) = 2 := by
          have h1 : (k ++ bracket (intStr i)).contains '[' = true := by simp [bracket]
          have h2 : startsWith (k ++ bracket (intStr i)) ['['] = false := by
            cases k with
            | nil => exact absurd rfl hk.ne
            | cons x k' =>
              have : x ≠ '[' := (plainChar_ne (hk.chars x (by simp))).2.1
              simp [startsWith, this]
          unfold termPw; rw [h1, h2]; rfl
        refine hname k _ hk hsplit (by rw [hpw]; decide) ?_
        intro cv c kvs hpvd hl
        subst hpvd
        rw [findD_keyidx_step rfl hpv hsplit hkt.ne hkt.notUp hkt.notStar hl]
        have hpos : 1 ≤ termHgt (Val.dict c kvs) := term_hgt_container_pos (Or.inr rfl)
        have hd := hdown k hpos
        have := ih f (Nat.lt_succ_self f) false (bracket (intStr i) :: rest) (childRef root par (.key k)) (found ++ slash ++ k) (g + 1)
          (by intro t ht; simp only [List.mem_cons] at ht; rcases ht with rfl | ht; exact .idx i; exact hrest t ht)
          (by simp) (TermRef_child hpar _) (SafeRef_child hkeys _) (hfound.key hk)
          (plain_fuel_down (Nat.succ_pos _) hd (Nat.le_refl _) hfuel)
        refine this.mono (fun r hr => hr.mono ?_)
        rw [termPws_cons, termPws_cons, hpw, termPw_br]
        exact plain_pieces_down (termHgtRef_child (root := root) (r := par) (.key k) hb hpv) hpos
          (Nat.le_succ_of_le (Nat.add_le_add_right (by decide) _))
      | idx i =>
        have hpar' := (term_idx_parent hW hpv hpar (idxRef_cases par pv)).1
        have hkeys' : SafeRef PlainKey root (idxRef par pv) := SafeRef_idxParent hkeys
        rw [termPws_cons, termPw_br]
        rcases findD_idx_cases f sp entry rl found rest hpv (intStr_idxTok i) with ⟨v, nf, he⟩ | ⟨n, hrne, he⟩
        · rw [he]
          exact ⟨rfl, TermGoodR.mk_idx i hpar' hkeys' hfound (Nat.add_le_add (Nat.le_add_right g _) (Nat.le_add_right 1 _))⟩
        · rw [he]
          have hch := (termHgtRef_idx hW hpv hpar n).1
          have := ih f (Nat.lt_succ_self f) false rest (childRef root (idxRef par pv) (.idx n)) (found ++ bracket (intStr i)) (g + 1)
            hrest (fun h => absurd h hrne) (TermRef_child hpar' _) (SafeRef_child hkeys' _) (hfound.idx i)
            (plain_fuel_same (Nat.mul_le_mul_left _ hch) hfuel)
          exact this.mono (fun r hr => hr.mono (plain_pieces_same hch (Nat.le_of_eq (Nat.add_comm _ _))))

/-- **Stage 1: resolving plain tokens ends**, for every fuel above the bound -/
theorem term_plain (H W : Nat) (hW : 1 ≤ W) (root : Val) (sp : Pos) (rl : Bool) : ∀ fuel, TermS1 H W root sp rl fuel := by
  intro fuel
  induction fuel using Nat.strongRecOn with
  | ind fuel ih => exact term_plain_step H W hW root sp rl fuel ih

end N0.XPath
