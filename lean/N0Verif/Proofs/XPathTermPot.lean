import N0Verif.Model.XPathFuel
import N0Verif.Proofs.XPathPureFind
import N0Verif.Proofs.XPathTok
/-!
  C04, termination of the resolver: the fuel bound `termPot` (defined in `Model/XPathFuel.lean`, because the driver
  evaluates it) is monotone in the height and in the pieces of `found` (`TermMono`), and covers what each branch of a step
  needs (`termZ_b1` … `termU_Z`); errors of the primitives are never `OutOfFuel`.
-/
namespace N0.XPath
open N0 N0.Py N0.Val

/-! `termPot H W toks h g` bounds the recursion depth of `n0dict._find` on the token list `toks`, standing
  on a value of height `h`, with a `found` text of `g` pieces, in a tree of height `≤ H` whose
  containers have `≤ W` children.  It is computed from the tokens alone (their parse by
  `split_name_index`), by recursion on the token list:

  * `termNil`: no token left — one re-resolution of `found` (`termR`);
  * `termZ` (a token without a name: `[*]`, `[i]`, `[cond]`, `[text()…]`): the `[*]` loop, or a pure
    index step, or a condition — which on a list fans out one level lower (recursion on the
    height) and on a dict continues one level lower with `[text()…]`, `..` in front;
  * `termN` (a name token, `*` included): on a list the implicit fan-out, on a dict the `*` loop —
    both one level lower with the same token — or the step into the key;
  * `termU0`/`termU` (`..` without/with an index): the re-resolution of the shortened `found`
    text, then the rest from a node of any height, with `found` grown by at most `2·H` pieces.
-/

/-- a bound grows with the height of the node stood on and with the number of pieces of `found` -/
def TermMono (C : TermPotF) : Prop := ∀ h h' g g', h ≤ h' → g ≤ g' → C h g ≤ C h' g'

theorem max_mono {a b c d : Nat} (h1 : a ≤ b) (h2 : c ≤ d) : max a c ≤ max b d := by omega

theorem termR_mono (H W : Nat) {g g' : Nat} (h : g ≤ g') : termR H W g ≤ termR H W g' := by
  unfold termR; omega

theorem termNil_mono (H W : Nat) : TermMono (termNil H W) :=
  fun _ _ _ _ _ hg => Nat.succ_le_succ (termR_mono H W hg)

theorem termU0_mono (H W : Nat) {C : TermPotF} (hC : TermMono C) : TermMono (termU0 H W C) :=
  fun _ _ _ _ _ hg => Nat.add_le_add_left
    (max_mono (termR_mono H W hg) (hC _ _ _ _ (Nat.le_refl _) (Nat.add_le_add_right hg _))) _

theorem termZ_mono_g (H W : Nat) : ∀ (h : Nat) (C : TermPotF), TermMono C → ∀ g g', g ≤ g' → termZ H W h C g ≤ termZ H W h C g'
  | 0, C, hC, g, g', hg => by
    have h1 := hC 0 0 (g + 1) (g' + 1) (Nat.le_refl _) (Nat.succ_le_succ hg)
    simp only [termZ]
    exact Nat.add_le_add_left (max_mono h1 (termR_mono H W hg)) _
  | h + 1, C, hC, g, g', hg => by
    have hg1 : g + 1 ≤ g' + 1 := Nat.succ_le_succ hg
    have h1 := hC (h + 1) (h + 1) (g + 1) (g' + 1) (Nat.le_refl _) hg1
    have h2 := termZ_mono_g H W h C hC (g + 1) (g' + 1) hg1
    have h3 := termZ_mono_g H W h (termU0 H W C) (termU0_mono H W hC) (g + 1) (g' + 1) hg1
    simp only [termZ]
    exact max_mono (Nat.add_le_add_left (max_mono h1 (termR_mono H W hg)) _)
      (max_mono (Nat.add_le_add_left h2 _) (Nat.add_le_add_left h3 _))

theorem termZ_succ (H W : Nat) (h : Nat) (C : TermPotF) (hC : TermMono C) (g : Nat) : termZ H W h C g ≤ termZ H W (h + 1) C g := by
  have := termZ_mono_g H W h C hC g (g + 1) (Nat.le_succ g)
  simp only [termZ]
  exact Nat.le_trans (Nat.le_trans this (Nat.le_add_left _ _)) (Nat.le_trans (Nat.le_max_left _ _) (Nat.le_max_right _ _))

theorem termZ_mono_h (H W : Nat) (C : TermPotF) (hC : TermMono C) (g : Nat) : ∀ {h h' : Nat}, h ≤ h' → termZ H W h C g ≤ termZ H W h' C g := by
  intro h h' hh
  induction hh with
  | refl => exact Nat.le_refl _
  | step _ ih => exact Nat.le_trans ih (termZ_succ H W _ C hC g)

theorem termZ_mono (H W : Nat) {C : TermPotF} (hC : TermMono C) : TermMono (fun h g => termZ H W h C g) := by
  intro h h' g g' hh hg
  exact Nat.le_trans (termZ_mono_g H W h C hC g g' hg) (termZ_mono_h H W C hC g' hh)

/-- the three ways a nameless token proceeds -/
theorem termZ_b1 (H W : Nat) (h : Nat) (C : TermPotF) (g : Nat) : (W + 4) + C h (g + 1) ≤ termZ H W h C g := by
  cases h with
  | zero => simp only [termZ]; exact Nat.add_le_add_left (Nat.le_max_left _ _) _
  | succ h =>
    simp only [termZ]
    exact Nat.le_trans (Nat.add_le_add_left (Nat.le_max_left _ _) _) (Nat.le_max_left _ _)

/-- a `[new()]` step: one re-resolution of `found` -/
theorem termZ_R (H W : Nat) (h : Nat) (C : TermPotF) (g : Nat) : termR H W g + 1 ≤ termZ H W h C g := by
  have key : ∀ c, termR H W g + 1 ≤ (W + 4) + max c (termR H W g) := fun c => by
    have := Nat.le_max_right c (termR H W g)
    omega
  cases h with
  | zero => simp only [termZ]; exact key _
  | succ h => simp only [termZ]; exact Nat.le_trans (key _) (Nat.le_max_left _ _)

theorem termZ_b2 (H W : Nat) {h : Nat} (hh : 1 ≤ h) (C : TermPotF) (g : Nat) :
    (W + 4) + termZ H W (h - 1) C (g + 1) ≤ termZ H W h C g := by
  obtain ⟨h', rfl⟩ : ∃ h', h = h' + 1 := ⟨h - 1, by omega⟩
  simp only [termZ, Nat.add_sub_cancel]
  exact Nat.le_trans (Nat.le_max_left _ _) (Nat.le_max_right _ _)

theorem termZ_b3 (H W : Nat) {h : Nat} (hh : 1 ≤ h) (C : TermPotF) (g : Nat) :
    1 + termZ H W (h - 1) (termU0 H W C) (g + 1) ≤ termZ H W h C g := by
  obtain ⟨h', rfl⟩ : ∃ h', h = h' + 1 := ⟨h - 1, by omega⟩
  simp only [termZ, Nat.add_sub_cancel]
  exact Nat.le_trans (Nat.le_max_right _ _) (Nat.le_max_right _ _)

theorem termZ_ge (H W : Nat) (h : Nat) {C : TermPotF} (hC : TermMono C) (g : Nat) : C h g + 1 ≤ termZ H W h C g := by
  have h1 := termZ_b1 H W h C g
  have h2 := hC h h g (g + 1) (Nat.le_refl _) (by omega)
  omega

theorem termN_mono_g (H W : Nat) : ∀ (h : Nat) (C : TermPotF), TermMono C → ∀ g g', g ≤ g' → termN H W h C g ≤ termN H W h C g'
  | 0, C, hC, g, g', hg => Nat.le_refl _
  | h + 1, C, hC, g, g', hg => by
    have hg1 : g + 1 ≤ g' + 1 := Nat.succ_le_succ hg
    simp only [termN]
    exact max_mono (Nat.add_le_add_left (termN_mono_g H W h C hC _ _ hg1) _)
      (Nat.add_le_add_left (termZ_mono_g H W h C hC _ _ hg1) _)

theorem termN_pos (H W : Nat) (h : Nat) (C : TermPotF) (g : Nat) : 1 ≤ termN H W h C g := by
  cases h <;> simp only [termN] <;> omega

theorem termN_succ (H W : Nat) (h : Nat) (C : TermPotF) (hC : TermMono C) (g : Nat) : termN H W h C g ≤ termN H W (h + 1) C g := by
  have := termN_mono_g H W h C hC g (g + 1) (by omega)
  simp only [termN]; omega

theorem termN_mono_h (H W : Nat) (C : TermPotF) (hC : TermMono C) (g : Nat) : ∀ {h h' : Nat}, h ≤ h' → termN H W h C g ≤ termN H W h' C g := by
  intro h h' hh
  induction hh with
  | refl => exact Nat.le_refl _
  | step _ ih => exact Nat.le_trans ih (termN_succ H W _ C hC g)

theorem termN_mono (H W : Nat) {C : TermPotF} (hC : TermMono C) : TermMono (fun h g => termN H W h C g) := by
  intro h h' g g' hh hg
  exact Nat.le_trans (termN_mono_g H W h C hC g g' hg) (termN_mono_h H W C hC g' hh)

theorem termN_b1 (H W : Nat) {h : Nat} (hh : 1 ≤ h) (C : TermPotF) (g : Nat) :
    (W + 4) + termN H W (h - 1) C (g + 1) ≤ termN H W h C g := by
  obtain ⟨h', rfl⟩ : ∃ h', h = h' + 1 := ⟨h - 1, by omega⟩
  simp only [termN, Nat.add_sub_cancel]; omega

theorem termN_b2 (H W : Nat) {h : Nat} (hh : 1 ≤ h) (C : TermPotF) (g : Nat) :
    1 + termZ H W (h - 1) C (g + 1) ≤ termN H W h C g := by
  obtain ⟨h', rfl⟩ : ∃ h', h = h' + 1 := ⟨h - 1, by omega⟩
  simp only [termN, Nat.add_sub_cancel]; omega

theorem termU0_R (H W : Nat) (C : TermPotF) (h g : Nat) : 1 + termR H W g ≤ termU0 H W C h g :=
  Nat.add_le_add_left (Nat.le_max_left _ _) 1

theorem termU0_C (H W : Nat) (C : TermPotF) (h g : Nat) : 1 + C (H + 1) (g + 2 * H) ≤ termU0 H W C h g :=
  Nat.add_le_add_left (Nat.le_max_right _ _) 1

theorem termU_R (H W : Nat) (C : TermPotF) (h g : Nat) : 1 + termR H W g ≤ termU H W C h g :=
  Nat.add_le_add_left (Nat.le_max_left _ _) 1

theorem termU_Z (H W : Nat) (C : TermPotF) (h g : Nat) : 1 + termZ H W (H + 1) C (g + 2 * H) ≤ termU H W C h g :=
  Nat.add_le_add_left (Nat.le_max_right _ _) 1

theorem termU_mono (H W : Nat) {C : TermPotF} (hC : TermMono C) : TermMono (termU H W C) :=
  fun _ _ _ _ _ hg => Nat.add_le_add_left
    (max_mono (termR_mono H W hg) (termZ_mono_g H W (H + 1) C hC _ _ (Nat.add_le_add_right hg _))) _

theorem termTokPot_mono (H W : Nat) (tok : Str) {C : TermPotF} (hC : TermMono C) : TermMono (termTokPot H W tok C) := by
  unfold termTokPot
  split
  · intro _ _ _ _ _ _; exact Nat.le_refl _
  · split
    · exact termZ_mono H W hC
    · split
      · split
        · exact termU_mono H W hC
        · exact termU0_mono H W hC
      · exact termN_mono H W hC

theorem termPot_mono (H W : Nat) : ∀ toks, TermMono (termPot H W toks)
  | [] => termNil_mono H W
  | t :: ts => termTokPot_mono H W t (termPot_mono H W ts)

theorem term_split_bracket_name {s name : Str} {idx : Idx} (h : splitNameIndex (bracket s) = .ok (name, idx)) : name = [] := by
  have hc : (bracket s).contains '[' = true := by simp [bracket]
  have hform : bracket s = ('[' :: s) ++ [']'] := by simp [bracket]
  have he : endsWith (bracket s) [']'] = true := by rw [hform]; exact endsWith_snoc _ _
  have hd : (bracket s).dropLast = [] ++ '[' :: s := by rw [hform, List.dropLast_concat]; rfl
  unfold splitNameIndex at h
  simp only [hc, he, Bool.and_self, if_true, hd, splitOnce_bracket [] s (by simp), stripWs_nil] at h
  split at h
  · cases h; rfl
  · split at h
    · cases h
    · rename_i idx' _
      cases hp : parseCond idx' with
      | error e => simp [hp, Except.map] at h
      | ok i => simp only [hp, Except.map, Except.ok.injEq, Prod.mk.injEq] at h; exact h.1.symm

/-- any synthesised bracket token is covered by `termZ` -/
theorem termTokPot_bracket (H W : Nat) (s : Str) {C : TermPotF} (hC : TermMono C) (h g : Nat) :
    termTokPot H W (bracket s) C h g ≤ termZ H W h C g := by
  cases hs : splitNameIndex (bracket s) with
  | error e =>
    simp only [termTokPot, hs]
    have := termZ_ge H W h hC g; omega
  | ok p =>
    obtain ⟨name, idx⟩ := p
    have := term_split_bracket_name hs
    subst this
    simp [termTokPot, hs]

theorem termTokPot_up (H W : Nat) (C : TermPotF) : termTokPot H W ['.', '.'] C = termU0 H W C := by
  unfold termTokPot
  rw [split_up]
  simp [Idx.truthy]

theorem term_lookup_key {P : Str → Prop} {k : Str} {v : Val} : ∀ {kvs : List (Str × Val)},
    SafeKeysK P kvs → lookup k kvs = some v → P k :=
  fun hs h => SafeKeysK_keys hs k (List.mem_map.2 ⟨(k, v), Val.lookup_mem h, rfl⟩)

theorem term_pyGetKey_err {v : Val} {k : Str} {e : PyErr} (h : pyGetKey v k = .error e) : e ≠ .OutOfFuel := by
  unfold pyGetKey at h
  repeat' split at h
  all_goals first | (cases h; done) | (cases h; decide)

theorem term_pyGetIdx_err {v : Val} {ev : EvalRes} {e : PyErr} (h : pyGetIdx v ev = .error e) : e ≠ .OutOfFuel := by
  unfold pyGetIdx at h
  repeat' split at h
  all_goals first | (cases h; done) | (cases h; decide)

theorem term_okErr_split {tok : Str} {e : PyErr} (h : splitNameIndex tok = .error e) : e ≠ .OutOfFuel :=
  ne_outOfFuel_of_caught (splitNameIndex_err h)

/-- the node `'..'` goes up to is computed without recursion -/
theorem upNext_ne_outOfFuel {root : Val} {cur : Res} {cpv : Val} {e : PyErr} (h : upNext root cur cpv = .error e) :
    e ≠ .OutOfFuel := by
  unfold upNext at h
  split at h
  · split at h
    · cases h
    · split at h
      · rename_i e' hs; cases h; exact term_okErr_split hs
      · split at h
        · split at h
          · cases h
          · rename_i e' hk; cases h; exact term_pyGetKey_err hk
        · split at h
          · split at h
            · rename_i e' hev; cases h; rw [n0eval_err hev]; decide
            · split at h
              · rename_i e' hgi; cases h; exact term_pyGetIdx_err hgi
              · cases h
              · split at h
                · cases h
                · cases h; decide
          · cases h; decide
  · cases h

end N0.XPath
