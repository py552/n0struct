import N0Verif.Model.XPath
import N0Verif.Py.Lemmas
/-!
  The laws of `tokenize` on any text: it splits at every `/` and at every `][` (which `replace("][","]/[")` turns into a
  slash), whatever stands on either side, and a text without `/` and `][` is one piece.  `textPieces` names the pieces
  before they are stripped, which is what the `'..'` step of `_find` works on.  With these laws the tokens of a rendered
  path are an induction over its pieces (`Proofs/XPathGText.lean`).
-/
namespace N0.XPath
open N0 N0.Py N0.Val

theorem fixBr_nil : fixBr [] = [] := by rw [fixBr]

theorem fixBr_cons_ne (c : Char) (s : Str) (h : c ≠ ']') : fixBr (c :: s) = c :: fixBr s := by
  rw [fixBr]
  intro rest hc; exact absurd hc h

theorem fixBr_append_noRB (s t : Str) (h : ∀ c ∈ s, c ≠ ']') : fixBr (s ++ t) = s ++ fixBr t := by
  induction s with
  | nil => rfl
  | cons c s ih =>
    rw [List.cons_append, fixBr_cons_ne c _ (h c (by simp)), ih (fun x hx => h x (by simp [hx]))]
    rfl

theorem fixBr_rb_lb (t : Str) : fixBr (']' :: '[' :: t) = ']' :: '/' :: '[' :: fixBr t := by
  rw [fixBr]

theorem fixBr_cons_cons (x y : Char) (rest : Str) (h : ¬ (x = ']' ∧ y = '[')) :
    fixBr (x :: y :: rest) = x :: fixBr (y :: rest) := by
  rw [fixBr]
  intro rest' h1 h2
  simp only [List.cons.injEq] at h2
  exact h ⟨h1, h2.1⟩

theorem fixBr_single (x : Char) : fixBr [x] = [x] := by
  rw [fixBr]
  · rfl
  · intro rest _ hc; simp at hc

theorem fixBr_rb_other (c : Char) (t : Str) (h : c ≠ '[') : fixBr (']' :: c :: t) = ']' :: fixBr (c :: t) :=
  fixBr_cons_cons ']' c t (fun e => h e.2)

theorem mem_fixBr {c : Char} : ∀ {s : Str}, c ∈ fixBr s → c ∈ s ∨ c = '/'
  | [], h => by simp [fixBr] at h
  | [x], h => by rw [fixBr_single] at h; exact Or.inl h
  | x :: y :: rest, h => by
    by_cases hxy : x = ']' ∧ y = '['
    · obtain ⟨rfl, rfl⟩ := hxy
      simp only [fixBr, List.mem_cons] at h
      rcases h with rfl | rfl | rfl | h
      · simp
      · simp
      · simp
      · rcases mem_fixBr h with h | h
        · left; simp [h]
        · right; exact h
    · rw [fixBr_cons_cons x y rest hxy] at h
      simp only [List.mem_cons] at h
      rcases h with rfl | h
      · simp
      · rcases mem_fixBr h with h | h
        · left; simp only [List.mem_cons] at h ⊢; right; exact h
        · right; exact h

theorem fixBr_noRB (s : Str) (h : ∀ c ∈ s, c ≠ ']') : fixBr s = s := by
  have := fixBr_append_noRB s [] h
  rwa [List.append_nil, fixBr_nil, List.append_nil] at this

theorem fixBr_closed (x : Str) (h : ∀ c ∈ x, c ≠ ']') : fixBr (x ++ [']']) = x ++ [']'] := by
  rw [fixBr_append_noRB x _ h, fixBr_single]

/-- `fixBr` works on the two parts of a text separately unless a `][` straddles the cut -/
theorem fixBr_append : ∀ (a t : Str), t.head? ≠ some '[' → fixBr (a ++ t) = fixBr a ++ fixBr t
  | [], t, _ => by rw [List.nil_append, fixBr_nil, List.nil_append]
  | [c], t, h => by
    by_cases hc : c = ']'
    · subst hc
      cases t with
      | nil => rw [List.append_nil, fixBr_nil, List.append_nil]
      | cons d t => rw [show [']'] ++ d :: t = ']' :: d :: t from rfl, fixBr_rb_other d t (fun e => h (e ▸ rfl)), fixBr_single]; rfl
    · rw [show [c] ++ t = c :: t from rfl, fixBr_cons_ne c t hc, fixBr_cons_ne c [] hc, fixBr_nil]; rfl
  | c :: d :: rest, t, h => by
    by_cases hc : c = ']'
    · subst hc
      by_cases hd : d = '['
      · subst hd
        rw [show (']' :: '[' :: rest) ++ t = ']' :: '[' :: (rest ++ t) from rfl, fixBr_rb_lb, fixBr_rb_lb, fixBr_append rest t h]
        rfl
      · rw [show (']' :: d :: rest) ++ t = ']' :: d :: (rest ++ t) from rfl, fixBr_rb_other d _ hd, fixBr_rb_other d _ hd,
          ← List.cons_append, fixBr_append (d :: rest) t h]
        rfl
    · rw [show (c :: d :: rest) ++ t = c :: ((d :: rest) ++ t) from rfl, fixBr_cons_ne c _ hc, fixBr_cons_ne c _ hc,
        fixBr_append (d :: rest) t h]
      rfl

theorem fixBr_append_slash (a b : Str) : fixBr (a ++ '/' :: b) = fixBr a ++ '/' :: fixBr b := by
  rw [fixBr_append a _ (by simp), fixBr_cons_ne '/' b (by decide)]

theorem fixBr_append_rb_lb (X Y : Str) :
    fixBr (X ++ ']' :: '[' :: Y) = fixBr (X ++ [']']) ++ '/' :: '[' :: fixBr Y := by
  rw [fixBr_append X _ (by simp), fixBr_rb_lb, fixBr_append X [']'] (by simp), fixBr_single, List.append_assoc]
  rfl

/-- the non-empty pieces of a text between slashes after `replace("][","]/[")`: the tokens before they are stripped, which is
what the `'..'` step drops the last of -/
def textPieces (s : Str) : List Str := (splitChar '/' (fixBr s)).filter (fun t => !t.isEmpty)

theorem tokenize_eq_map (s : Str) : tokenize s = (textPieces s).map stripWs := rfl

theorem textPieces_nil : textPieces [] = [] := rfl

theorem textPieces_slash (a b : Str) : textPieces (a ++ '/' :: b) = textPieces a ++ textPieces b := by
  unfold textPieces
  rw [fixBr_append_slash, splitChar_append_sep, List.filter_append]

theorem textPieces_rb_lb (a b : Str) : textPieces (a ++ ']' :: '[' :: b) = textPieces (a ++ [']']) ++ textPieces ('[' :: b) := by
  unfold textPieces
  rw [fixBr_append_rb_lb, splitChar_append_sep, List.filter_append, fixBr_cons_ne '[' _ (by decide)]

theorem textPieces_atom {t : Str} (hne : t ≠ []) (hs : ∀ c ∈ t, c ≠ '/') (hfix : fixBr t = t) : textPieces t = [t] := by
  unfold textPieces
  rw [hfix, splitChar_no_delim '/' t hs]
  simp [isEmpty_false_of_ne hne]

theorem ne_of_mem_append {d : Char} {a b : Str} (ha : ∀ c ∈ a, c ≠ d) (hb : ∀ c ∈ b, c ≠ d) : ∀ c ∈ a ++ b, c ≠ d :=
  fun c hc => (List.mem_append.1 hc).elim (ha c) (hb c)

theorem ne_of_mem_cons {d x : Char} {b : Str} (hx : x ≠ d) (hb : ∀ c ∈ b, c ≠ d) : ∀ c ∈ x :: b, c ≠ d :=
  fun c hc => (List.mem_cons.1 hc).elim (fun h => h ▸ hx) (hb c)

theorem textPieces_closed (x : Str) (hs : ∀ c ∈ x, c ≠ '/') (hr : ∀ c ∈ x, c ≠ ']') : textPieces (x ++ [']']) = [x ++ [']']] :=
  textPieces_atom (by simp) (ne_of_mem_append hs (ne_of_mem_cons (by decide) (fun _ h => nomatch h))) (fixBr_closed x hr)

theorem tokenize_append_slash (a b : Str) : tokenize (a ++ '/' :: b) = tokenize a ++ tokenize b := by
  unfold tokenize
  rw [fixBr_append_slash, splitChar_append_sep, List.filter_append, List.map_append]

theorem tokenize_slash (s : Str) : tokenize ('/' :: s) = tokenize s := by
  unfold tokenize
  rw [fixBr_cons_ne '/' _ (by decide)]
  have : splitChar '/' ('/' :: fixBr s) = [] :: splitChar '/' (fixBr s) := by simp [splitChar]
  rw [this]
  simp

end N0.XPath
