import N0Verif.Proofs.Digits
import N0Verif.Py.Lemmas
import N0Verif.Proofs.XPathTokShape
import N0Verif.Model.XPathApi
import N0Verif.Proofs.XPathText
/-!
  Token layer: what `split_name_index` and `n0eval` return on plain names, on `name[e]` and on the index texts
  `i`, `-k`, `last()`, `last()-k`, `i+j`; with them the rendered steps `k`, `k[n]`, `[n]` are the tokens of
  `Proofs/XPathTokShape.lean`; the index texts `str(i)` the engine writes into `found`; brackets and plain keys as pieces of a path
  text (the laws of such texts, `fixBr` included, are in `Proofs/XPathText.lean`).  First what `split(sep, 1)` (`split1`, `splitOnce`)
  returns, for any text: this is the one place for it (the copies in `Proofs/XPathPrimGenEq.lean` are about the translated code).
-/
namespace N0.XPath
open N0 N0.Py N0.Val

theorem stripWs_nil : stripWs [] = [] := rfl

theorem split1_found (sep a b : Str) (acc : Str) (fuel : Nat) (hsep : sep ≠ [])
    (hno : ∀ (pre suf : Str), a = pre ++ suf → suf ≠ [] → startsWith (suf ++ sep ++ b) sep = false)
    (hf : fuel ≥ a.length + sep.length + 1) :
    split1 sep fuel acc (a ++ sep ++ b) = some (acc.reverse ++ a, b) := by
  induction a generalizing acc fuel with
  | nil =>
    obtain ⟨f, rfl⟩ : ∃ f, fuel = f + 1 := ⟨fuel - 1, by omega⟩
    obtain ⟨c, sep', rfl⟩ := List.exists_cons_of_ne_nil hsep
    have hst : startsWith (c :: (sep' ++ b)) (c :: sep') = true := startsWith_append (c :: sep') b
    simp only [List.nil_append, List.cons_append, split1, hst, ↓reduceIte, List.append_nil, List.length_cons,
      List.drop_succ_cons, List.drop_left]
  | cons x a ih =>
    obtain ⟨f, rfl⟩ : ∃ f, fuel = f + 1 := ⟨fuel - 1, by simp only [List.length_cons] at hf; omega⟩
    have h0 : startsWith (x :: (a ++ sep ++ b)) sep = false := hno [] (x :: a) rfl (List.cons_ne_nil x a)
    simp only [List.cons_append, split1, h0, Bool.false_eq_true, ↓reduceIte]
    rw [ih (x :: acc) f (fun pre suf hps hne => hno (x :: pre) suf (by rw [hps, List.cons_append]) hne)
      (by simp only [List.length_cons] at hf; omega)]
    simp only [List.reverse_cons, List.append_assoc, List.singleton_append]

/-- whatever `split(sep, 1)` returns, the text is `k ++ (the separator) ++ v` -/
theorem split1_spec (sep : Str) : ∀ (fuel : Nat) (acc s k v : Str),
    split1 sep fuel acc s = some (k, v) → ∃ m, acc.reverse ++ s = k ++ m ++ v
  | 0, _, _, _, _, h => by simp [split1] at h
  | f + 1, acc, [], k, v, h => by simp [split1] at h
  | f + 1, acc, c :: s, k, v, h => by
    simp only [split1] at h
    split at h
    · simp only [Option.some.injEq, Prod.mk.injEq] at h
      obtain ⟨rfl, rfl⟩ := h
      exact ⟨(c :: s).take sep.length, by simp [List.append_assoc]⟩
    · obtain ⟨m, hm⟩ := split1_spec sep f (c :: acc) s k v h
      exact ⟨m, by simpa using hm⟩

theorem splitOnce_spec {sep s k v : Str} (h : splitOnce sep s = some (k, v)) : ∃ m, s = k ++ m ++ v := by
  obtain ⟨m, hm⟩ := split1_spec sep _ _ _ _ _ h
  exact ⟨m, by simpa using hm⟩

theorem splitOnce_infix {sep s k v : Str} (h : splitOnce sep s = some (k, v)) : k <:+: s ∧ v <:+: s := by
  obtain ⟨m, rfl⟩ := splitOnce_spec h
  exact ⟨⟨[], m ++ v, by simp⟩, ⟨k ++ m, [], by simp⟩⟩

theorem split1_char_notin (d : Char) : ∀ (fuel : Nat) (acc s k v : Str),
    split1 [d] fuel acc s = some (k, v) → d ∉ acc → d ∉ k
  | 0, _, _, _, _, h, _ => by simp [split1] at h
  | f + 1, acc, [], k, v, h, _ => by simp [split1] at h
  | f + 1, acc, c :: s, k, v, h, ha => by
    simp only [split1] at h
    split at h
    · simp only [Option.some.injEq, Prod.mk.injEq] at h
      obtain ⟨rfl, rfl⟩ := h
      simpa using ha
    · rename_i hns
      refine split1_char_notin d f (c :: acc) s k v h ?_
      have hcd : c ≠ d := by
        intro hcd; subst hcd
        apply hns
        cases s <;> simp [startsWith]
      simp only [List.mem_cons, not_or]
      exact ⟨fun h => hcd h.symm, ha⟩

theorem splitOnce_char_notin {d : Char} {s k v : Str} (h : splitOnce [d] s = some (k, v)) : d ∉ k :=
  split1_char_notin d _ _ _ _ _ h (by simp)

theorem splitOnce_bracket (a b : Str) (ha : ∀ c ∈ a, c ≠ '[') :
    splitOnce ['['] (a ++ '[' :: b) = some (a, b) := by
  unfold splitOnce
  have := split1_found ['['] a b [] ((a ++ '[' :: b).length + 1) (by simp)
    (by
      intro pre suf hps hne
      cases suf with
      | nil => exact absurd rfl hne
      | cons c suf =>
        have hc : c ∈ a := by rw [hps]; simp
        have := ha c hc
        simp [startsWith, this])
    (by simp)
  simpa using this

/-- characters a plain name may contain (the property's quantifier: no '/', '[', ']', '*',
'?', '=', '~', quotes or blanks) -/
def plainChar (c : Char) : Bool :=
  !(c = '/' || c = '[' || c = ']' || c = '*' || c = '?' || c = '=' || c = '~' || c = '"' || c = '\''
    || isPySpace c)

structure PlainKey (k : Str) : Prop where
  ne : k ≠ []
  chars : ∀ c ∈ k, plainChar c = true
  notUp : k ≠ ['.', '.']

/-- text between brackets that is not a condition and is already stripped -/
structure IdxExpr (e : Str) : Prop where
  ne : e ≠ []
  head : ∀ c, e.head? = some c → isPySpace c = false
  last : ∀ c, e.getLast? = some c → isPySpace c = false
  notContains : startsWith (lower e) sContains = false
  noEq : ∀ c ∈ e, c ≠ '=' ∧ c ≠ '~'

instance (k : Str) : Decidable (PlainKey k) :=
  decidable_of_iff (k ≠ [] ∧ (∀ c ∈ k, plainChar c = true) ∧ k ≠ ['.', '.'])
    ⟨fun h => ⟨h.1, h.2.1, h.2.2⟩, fun h => ⟨h.ne, h.chars, h.notUp⟩⟩

/-- a one-character name of letters, digits, … is a plain key (the names of the test trees) -/
theorem PlainKey.single (c : Char) (h : plainChar c = true := by decide) : PlainKey [c] :=
  ⟨by simp, by intro x hx; simp at hx; subst hx; exact h, by simp⟩

theorem plainChar_ne {c : Char} (h : plainChar c = true) :
    c ≠ '/' ∧ c ≠ '[' ∧ c ≠ ']' ∧ c ≠ '*' ∧ isPySpace c = false := by
  simp only [plainChar, Bool.not_eq_true', Bool.or_eq_false_iff, decide_eq_false_iff_not] at h
  obtain ⟨⟨⟨⟨⟨⟨⟨⟨⟨h1, h2⟩, h3⟩, h4⟩, _⟩, _⟩, _⟩, _⟩, _⟩, h10⟩ := h
  exact ⟨h1, h2, h3, h4, h10⟩

theorem PlainKey.stripWs {k : Str} (h : PlainKey k) : stripWs k = k :=
  stripWs_eq_self k
    (fun c hc => (plainChar_ne (h.chars c (List.mem_of_mem_head? hc))).2.2.2.2)
    (fun c hc => (plainChar_ne (h.chars c (List.mem_of_getLast? hc))).2.2.2.2)

theorem PlainKey.noBracket {k : Str} (h : PlainKey k) : k.contains '[' = false :=
  contains_false_of_forall k '[' (fun c hc => (plainChar_ne (h.chars c hc)).2.1)

theorem PlainKey.keyTok {k : Str} (h : PlainKey k) : KeyTok k where
  split := by
    unfold splitNameIndex
    simp only [h.noBracket, Bool.false_and, Bool.false_eq_true, if_false]
  ne := h.ne
  notUp := h.notUp
  notStar := by
    intro heq
    have := (plainChar_ne (h.chars '*' (by simp [heq]))).2.2.2.1
    exact this rfl

theorem IdxExpr.parseCond {e : Str} (h : IdxExpr e) : parseCond e = .ok (.str e) := by
  unfold XPath.parseCond
  have h1 : e.contains '=' = false := contains_false_of_forall e '=' (fun c hc => (h.noEq c hc).1)
  have h2 : e.contains '~' = false := contains_false_of_forall e '~' (fun c hc => (h.noEq c hc).2)
  simp only [h1, h2, Bool.or_self, Bool.false_eq_true, if_false]

theorem split_bracket (k e : Str) (hk : k = [] ∨ PlainKey k) (he : IdxExpr e) :
    splitNameIndex (k ++ bracket e) = .ok (k, .str e) := by
  have hkb : ∀ c ∈ k, c ≠ '[' := by
    rcases hk with hk | hk
    · subst hk; simp
    · exact fun c hc => (plainChar_ne (hk.chars c hc)).2.1
  have hks : stripWs k = k := by
    rcases hk with hk | hk
    · subst hk; rfl
    · exact hk.stripWs
  have hes : stripWs e = e := stripWs_eq_self e he.head he.last
  have hform : k ++ bracket e = (k ++ '[' :: e) ++ [']'] := by simp [bracket]
  have hcont : (k ++ bracket e).contains '[' = true := by simp [bracket]
  have hends : endsWith (k ++ bracket e) [']'] = true := by rw [hform]; exact endsWith_snoc _ _
  have hdrop : (k ++ bracket e).dropLast = k ++ '[' :: e := by
    rw [hform, List.dropLast_concat]
  have hne : e.isEmpty = false := isEmpty_false_of_ne he.ne
  unfold splitNameIndex
  simp only [hcont, hends, Bool.and_self, if_true, hdrop, splitOnce_bracket k e hkb, hks, hes, hne,
    Bool.false_eq_true, if_false, he.notContains, Bool.false_and, he.parseCond]
  rfl

/-- **an index text that `_find` takes as the integer `i`**: what may stand between brackets (`IdxExpr`), not `new()`, not `*`,
and `n0eval` answers `i`.  The decimal texts, `-k`, `last()`, `last()-k`, `i+j` are such (`IdxDen.nat`, `IdxDen.int`,
`IdxSp.den`); as a token of its own it is an `IdxTok`, glued to a plain key a `KeyIdxTok` -/
structure IdxDen (e : Str) (i : Int) : Prop where
  expr : IdxExpr e
  notNew : e ≠ sNew
  notStar : e ≠ ['*']
  eval : n0eval e = .ok (.int i)

theorem IdxDen.idxTok {e : Str} {i : Int} (h : IdxDen e i) : IdxTok (bracket e) e i where
  split := by simpa using split_bracket [] e (Or.inl rfl) h.expr
  ne := h.expr.ne
  notNew := h.notNew
  notStar := h.notStar
  eval := h.eval

theorem IdxDen.keyIdxTok {e : Str} {i : Int} (h : IdxDen e i) {k : Str} (hk : PlainKey k) :
    KeyIdxTok (k ++ bracket e) k e i where
  split := split_bracket k e (Or.inr hk) h.expr
  kne := hk.ne
  notUp := hk.notUp
  notStar := hk.keyTok.notStar
  inner := h.idxTok

structure Digits (ds : Str) : Prop where
  ne : ds ≠ []
  all : ∀ c ∈ ds, isAsciiDigit c = true

theorem digits_natDigits (n : Nat) : Digits (natDigits n) := ⟨natDigits_ne_nil n, natDigits_all_digit n⟩

/-- a character that the normalisation of `n0eval` (blanks dropped, lower-cased, pieces stripped) leaves alone -/
abbrev EvalPlain (c : Char) : Prop := c ≠ ' ' ∧ isPySpace c = false ∧ toLowerAscii c = c

theorem Digits.evalPlain {ds : Str} (h : Digits ds) : ∀ c ∈ ds, EvalPlain c := fun c hc =>
  have hd := h.all c hc
  ⟨digit_ne_char hd ' ' (by decide), digit_not_space hd, digit_lower hd⟩

theorem evalPlain_sLast : ∀ c ∈ sLast, EvalPlain c := by rw [sLast_eq]; decide

theorem evalPlain_cons {c : Char} {s : Str} (hc : EvalPlain c) (hs : ∀ x ∈ s, EvalPlain x) :
    ∀ x ∈ c :: s, EvalPlain x := by
  intro x hx
  rcases List.mem_cons.mp hx with rfl | hx
  · exact hc
  · exact hs x hx

theorem evalPlain_append {a b : Str} (ha : ∀ x ∈ a, EvalPlain x) (hb : ∀ x ∈ b, EvalPlain x) :
    ∀ x ∈ a ++ b, EvalPlain x := fun x hx => (List.mem_append.mp hx).elim (ha x) (hb x)

theorem stripWs_evalPlain {s : Str} (h : ∀ c ∈ s, EvalPlain c) : stripWs s = s :=
  stripWs_eq_self s (fun c hc => (h c (List.mem_of_mem_head? hc)).2.1)
    (fun c hc => (h c (List.mem_of_getLast? hc)).2.1)

theorem Digits.stripWs {ds : Str} (h : Digits ds) : stripWs ds = ds := stripWs_evalPlain h.evalPlain

theorem n0eval_evalPlain {s : Str} (hne : s ≠ []) (h : ∀ c ∈ s, EvalPlain c) :
    n0eval s = n0evalItems ((mySplit '+' s).flatMap (mySplit '-')) 0 s := by
  have hf : s.filter (· ≠ ' ') = s := List.filter_eq_self.mpr (fun c hc => by simp [(h c hc).1])
  have hl : lower s = s := (List.map_congr_left (fun c hc => (h c hc).2.2)).trans (List.map_id s)
  unfold n0eval
  simp only [hf, hl, isEmpty_false_of_ne hne, Bool.false_eq_true, if_false]

theorem pyIntDigits_all (ds : Str) (h : ∀ c ∈ ds, isAsciiDigit c = true) (prev : Bool)
    (hp : ds = [] → prev = true) : pyIntDigits ds prev = true := by
  induction ds generalizing prev with
  | nil => simp [pyIntDigits, hp rfl]
  | cons c ds ih =>
    simp only [pyIntDigits, h c (by simp), if_true]
    exact ih (fun x hx => h x (by simp [hx])) true (fun _ => rfl)

theorem Digits.filterUnderscore {ds : Str} (h : Digits ds) : ds.filter (fun x => !decide (x = '_')) = ds :=
  List.filter_eq_self.mpr (fun x hx => by simp [digit_ne_char (h.all x hx) '_' (by decide)])

theorem pyInt_digits {ds : Str} (h : Digits ds) : pyInt ds = some (natOfDigits ds : Int) := by
  unfold pyInt
  rw [h.stripWs]
  have hd : pyIntDigits ds false = true := pyIntDigits_all ds h.all false (fun hnil => absurd hnil h.ne)
  have hfil := h.filterUnderscore
  cases ds with
  | nil => exact absurd rfl h.ne
  | cons c ds =>
    have hc := h.all c (by simp)
    have h1 : c ≠ '-' := digit_ne_char hc '-' (by decide)
    have h2 : c ≠ '+' := digit_ne_char hc '+' (by decide)
    simp [h1, h2, hd, hfil]

theorem pyInt_neg_digits {ds : Str} (h : Digits ds) :
    pyInt ('-' :: ds) = some (-(natOfDigits ds : Int)) := by
  unfold pyInt
  rw [stripWs_evalPlain (evalPlain_cons (by decide) h.evalPlain)]
  have hd : pyIntDigits ds false = true := pyIntDigits_all ds h.all false (fun hnil => absurd hnil h.ne)
  simp [isEmpty_false_of_ne h.ne, hd, h.filterUnderscore]

theorem Digits.mem_ne {ds : Str} (h : Digits ds) (c : Char) (hc : c ∈ ds) :
    c ≠ ' ' ∧ c ≠ '+' ∧ c ≠ '-' ∧ c ≠ '.' ∧ c.toNat < 128 := by
  have hd := h.all c hc
  exact ⟨digit_ne_char hd ' ' (by decide), digit_ne_char hd '+' (by decide), digit_ne_char hd '-' (by decide),
    digit_ne_char hd '.' (by decide), digit_ascii hd⟩

theorem Digits.lower {ds : Str} (h : Digits ds) : lower ds = ds :=
  (List.map_congr_left (fun c hc => (h.evalPlain c hc).2.2)).trans (List.map_id ds)

theorem Digits.noDot {ds : Str} (h : Digits ds) : ds.contains '.' = false :=
  contains_false_of_forall ds '.' (fun c hc => (h.mem_ne c hc).2.2.2.1)

theorem Digits.ascii {ds : Str} (h : Digits ds) : ds.any (fun c => decide (c.toNat ≥ 128)) = false := by
  rw [List.any_eq_false]
  intro c hc
  have := (h.mem_ne c hc).2.2.2.2
  simp; omega

theorem Digits.ne_new {ds : Str} (h : Digits ds) : ds ≠ sNew ∧ ds ≠ sLast :=
  ⟨fun heq => absurd (h.all 'n' (by rw [heq, sNew_eq]; decide)) (by decide),
   fun heq => absurd (h.all 'l' (by rw [heq, sLast_eq]; decide)) (by decide)⟩

theorem mySplit_single (delim : Char) (s : Str) (hne : s ≠ []) (hs : stripWs s = s)
    (h : ∀ x ∈ s, x ≠ delim) : mySplit delim s = [s] := by
  unfold mySplit
  rw [splitChar_no_delim delim s h]
  simp [mySplit.go, hs, isEmpty_false_of_ne hne]

theorem mySplit_plus_single (s : Str) (hne : s ≠ []) (hs : stripWs s = s) (h : ∀ x ∈ s, x ≠ '+') :
    mySplit '+' s = [s] := mySplit_single '+' s hne hs h

/-- two stripped pieces around one delimiter: an empty first piece is dropped, the second keeps its `-` -/
theorem mySplit_pair (delim : Char) (a b : Str) (hb : b ≠ []) (hsa : stripWs a = a) (hsb : stripWs b = b)
    (ha : ∀ x ∈ a, x ≠ delim) (hb' : ∀ x ∈ b, x ≠ delim) :
    mySplit delim (a ++ delim :: b)
      = (if a.isEmpty then [] else [a]) ++ [(if delim ≠ '+' then [delim] else []) ++ b] := by
  unfold mySplit
  rw [splitChar_append delim a b ha, splitChar_no_delim delim b hb']
  cases a with
  | nil => simp [mySplit.go, hsb, isEmpty_false_of_ne hb, stripWs_nil]
  | cons x a => simp [mySplit.go, hsa, hsb, isEmpty_false_of_ne hb]

theorem n0evalItems_digits {ds : Str} (h : Digits ds) (rest : List Str) (acc : Int) (whole : Str) :
    n0evalItems (ds :: rest) acc whole = n0evalItems rest (acc + (natOfDigits ds : Int)) whole := by
  rw [n0evalItems]
  simp only [h.ne_new.1, h.ne_new.2, if_false, h.noDot, Bool.false_eq_true, h.ascii, pyInt_digits h]

theorem n0evalItems_neg_digits {ds : Str} (h : Digits ds) (rest : List Str) (acc : Int) (whole : Str) :
    n0evalItems (('-' :: ds) :: rest) acc whole = n0evalItems rest (acc + -(natOfDigits ds : Int)) whole := by
  have h1 : ('-' :: ds) ≠ sNew := by
    rw [sNew_eq]; exact fun heq => absurd (List.head_eq_of_cons_eq heq) (by decide)
  have h2 : ('-' :: ds) ≠ sLast := by
    rw [sLast_eq]; exact fun heq => absurd (List.head_eq_of_cons_eq heq) (by decide)
  have h3 : ('-' :: ds).contains '.' = false :=
    contains_false_of_forall _ '.' (by
      intro c hc
      rcases List.mem_cons.mp hc with rfl | hc
      · decide
      · exact (h.mem_ne c hc).2.2.2.1)
  have h4 : ('-' :: ds).any (fun c => decide (c.toNat ≥ 128)) = false := by
    rw [List.any_eq_false]
    intro c hc
    rcases List.mem_cons.mp hc with rfl | hc
    · decide
    · have := (h.mem_ne c hc).2.2.2.2
      simp; omega
  rw [n0evalItems]
  simp only [h1, h2, if_false, h3, Bool.false_eq_true, h4, pyInt_neg_digits h]

theorem n0evalItems_last (rest : List Str) (acc : Int) (whole : Str) :
    n0evalItems (sLast :: rest) acc whole = n0evalItems rest (acc - 1) whole := by
  rw [n0evalItems]
  simp only [sLast_ne_sNew, if_false, if_true]

theorem n0evalItems_nil (acc : Int) (whole : Str) : n0evalItems [] acc whole = .ok (.int acc) := by
  rw [n0evalItems]

theorem n0eval_digits {ds : Str} (h : Digits ds) : n0eval ds = .ok (.int (natOfDigits ds)) := by
  rw [n0eval_evalPlain h.ne h.evalPlain, mySplit_single '+' ds h.ne h.stripWs (fun c hc => (h.mem_ne c hc).2.1)]
  simp only [List.flatMap_cons, List.flatMap_nil, List.append_nil]
  rw [mySplit_single '-' ds h.ne h.stripWs (fun c hc => (h.mem_ne c hc).2.2.1), n0evalItems_digits h, n0evalItems_nil,
    Int.zero_add]

theorem n0eval_nat (n : Nat) : n0eval (natStr n) = .ok (.int n) := by
  have := n0eval_digits (digits_natDigits n)
  rw [natOfDigits_natDigits] at this
  exact this

theorem n0eval_last : n0eval sLast = .ok (.int (-1)) := by decide +kernel

theorem filter_append_sp (a b : Str) : (a ++ b).filter (· ≠ ' ') = a.filter (· ≠ ' ') ++ b.filter (· ≠ ' ') :=
  List.filter_append ..

theorem n0eval_neg {ds : Str} (h : Digits ds) : n0eval ('-' :: ds) = .ok (.int (-(natOfDigits ds : Int))) := by
  have hp : ∀ c ∈ '-' :: ds, EvalPlain c := evalPlain_cons (by decide) h.evalPlain
  have hplus : ∀ c ∈ '-' :: ds, c ≠ '+' := by
    intro c hc
    rcases List.mem_cons.mp hc with rfl | hc
    · decide
    · exact (h.mem_ne c hc).2.1
  rw [n0eval_evalPlain (by simp) hp, mySplit_single '+' _ (by simp) (stripWs_evalPlain hp) hplus]
  simp only [List.flatMap_cons, List.flatMap_nil, List.append_nil]
  have hms : mySplit '-' ('-' :: ds) = ['-' :: ds] := by
    simpa using mySplit_pair '-' [] ds h.ne rfl h.stripWs (by simp) (fun c hc => (h.mem_ne c hc).2.2.1)
  rw [hms, n0evalItems_neg_digits h, n0evalItems_nil, Int.zero_add]

theorem n0eval_last_minus {ds : Str} (h : Digits ds) :
    n0eval (sLast ++ '-' :: ds) = .ok (.int (-1 - (natOfDigits ds : Int))) := by
  have hp : ∀ c ∈ sLast ++ '-' :: ds, EvalPlain c :=
    evalPlain_append evalPlain_sLast (evalPlain_cons (by decide) h.evalPlain)
  have hne : sLast ++ '-' :: ds ≠ [] := by simp [sLast]
  have hplus : ∀ c ∈ sLast ++ '-' :: ds, c ≠ '+' := by
    intro c hc
    rcases List.mem_append.mp hc with hc | hc
    · exact (by rw [sLast_eq]; decide : ∀ x ∈ sLast, x ≠ '+') c hc
    · rcases List.mem_cons.mp hc with rfl | hc
      · decide
      · exact (h.mem_ne c hc).2.1
  rw [n0eval_evalPlain hne hp, mySplit_single '+' _ hne (stripWs_evalPlain hp) hplus]
  simp only [List.flatMap_cons, List.flatMap_nil, List.append_nil]
  rw [mySplit_pair '-' sLast ds h.ne (stripWs_evalPlain evalPlain_sLast) h.stripWs (by rw [sLast_eq]; decide)
    (fun c hc => (h.mem_ne c hc).2.2.1)]
  simp only [(by rw [sLast_eq]; rfl : sLast.isEmpty = false), Bool.false_eq_true, if_false, (by decide : '-' ≠ '+'), ne_eq,
    not_false_eq_true, if_true, List.singleton_append]
  rw [n0evalItems_last, n0evalItems_neg_digits h, n0evalItems_nil]
  simp only [Int.sub_eq_add_neg, Int.zero_add]

theorem n0eval_plus {d1 d2 : Str} (h1 : Digits d1) (h2 : Digits d2) :
    n0eval (d1 ++ '+' :: d2) = .ok (.int ((natOfDigits d1 : Int) + natOfDigits d2)) := by
  have hp : ∀ c ∈ d1 ++ '+' :: d2, EvalPlain c :=
    evalPlain_append h1.evalPlain (evalPlain_cons (by decide) h2.evalPlain)
  rw [n0eval_evalPlain (by simp) hp,
    mySplit_pair '+' d1 d2 h2.ne h1.stripWs h2.stripWs (fun c hc => (h1.mem_ne c hc).2.1) (fun c hc => (h2.mem_ne c hc).2.1)]
  simp only [isEmpty_false_of_ne h1.ne, Bool.false_eq_true, if_false, ne_eq, not_true_eq_false, List.nil_append,
    List.singleton_append, List.flatMap_cons, List.flatMap_nil, List.append_nil]
  rw [mySplit_single '-' d1 h1.ne h1.stripWs (fun c hc => (h1.mem_ne c hc).2.2.1),
    mySplit_single '-' d2 h2.ne h2.stripWs (fun c hc => (h2.mem_ne c hc).2.2.1)]
  simp only [List.singleton_append]
  rw [n0evalItems_digits h1, n0evalItems_digits h2, n0evalItems_nil, Int.zero_add]

theorem Digits.idxExpr {ds : Str} (hd : Digits ds) : IdxExpr ds where
  ne := hd.ne
  head := fun c hc => (hd.evalPlain c (List.mem_of_mem_head? hc)).2.1
  last := fun c hc => (hd.evalPlain c (List.mem_of_getLast? hc)).2.1
  notContains := by
    rw [hd.lower]
    cases ds with
    | nil => exact absurd rfl hd.ne
    | cons c ds =>
      have : c ≠ 'c' := by
        intro heq
        have := hd.all c (by simp)
        rw [heq] at this; exact absurd this (by decide)
      rw [sContains_eq]
      simp [startsWith, this]
  noEq := fun c hc =>
    ⟨digit_ne_char (hd.all c hc) '=' (by decide), digit_ne_char (hd.all c hc) '~' (by decide)⟩

theorem natStr_digits (n : Nat) : Digits (natStr n) := digits_natDigits n

theorem natStr_idxExpr (n : Nat) : IdxExpr (natStr n) := (natStr_digits n).idxExpr

theorem natStr_ne_special (n : Nat) : natStr n ≠ sNew ∧ natStr n ≠ ['*'] := by
  have hd := natStr_digits n
  refine ⟨hd.ne_new.1, ?_⟩
  intro heq
  have := hd.all '*' (by rw [heq]; simp)
  exact absurd this (by decide)

theorem IdxDen.nat (n : Nat) : IdxDen (natStr n) (n : Int) :=
  ⟨natStr_idxExpr n, (natStr_ne_special n).1, (natStr_ne_special n).2, n0eval_nat n⟩

theorem natStr_idxTok (n : Nat) : IdxTok (bracket (natStr n)) (natStr n) (n : Int) := (IdxDen.nat n).idxTok

theorem negDigits_idxExpr {ds : Str} (h : Digits ds) : IdxExpr ('-' :: ds) where
  ne := by simp
  head := fun c hc => (evalPlain_cons (by decide) h.evalPlain c (List.mem_of_mem_head? hc)).2.1
  last := fun c hc => (evalPlain_cons (by decide) h.evalPlain c (List.mem_of_getLast? hc)).2.1
  notContains := by
    rw [sContains_eq]
    simp [Py.lower, startsWith, toLowerAscii]
  noEq := by
    intro c hc
    simp at hc
    rcases hc with hc | hc
    · subst hc; exact ⟨by decide, by decide⟩
    · exact ⟨digit_ne_char (h.all c hc) '=' (by decide), digit_ne_char (h.all c hc) '~' (by decide)⟩

theorem intStr_cases (i : Int) :
    (∃ n : Nat, i = n ∧ intStr i = natStr n) ∨ (∃ n : Nat, i = -((n + 1 : Nat) : Int) ∧ intStr i = '-' :: natStr (n + 1)) := by
  cases i with
  | ofNat n => left; exact ⟨n, rfl, rfl⟩
  | negSucc n => right; exact ⟨n, by simp [Int.negSucc_eq], rfl⟩

theorem pyInt_intStr (i : Int) : pyInt (intStr i) = some i := by
  rcases intStr_cases i with ⟨n, hi, h⟩ | ⟨n, hi, h⟩
  · rw [h, hi, pyInt_digits (natStr_digits n),
      show natOfDigits (natStr n) = n from natOfDigits_natDigits _]
  · rw [h, hi, pyInt_neg_digits (natStr_digits (n + 1)),
      show natOfDigits (natStr (n + 1)) = n + 1 from natOfDigits_natDigits _]

theorem intStr_idxExpr (i : Int) : IdxExpr (intStr i) := by
  rcases intStr_cases i with ⟨n, _, h⟩ | ⟨n, _, h⟩
  · rw [h]; exact natStr_idxExpr n
  · rw [h]; exact negDigits_idxExpr (natStr_digits (n + 1))

theorem n0eval_intStr (i : Int) : n0eval (intStr i) = .ok (.int i) := by
  rcases intStr_cases i with ⟨n, hi, h⟩ | ⟨n, hi, h⟩
  · rw [h, hi]; exact n0eval_nat n
  · rw [h, hi]
    have := n0eval_neg (natStr_digits (n + 1))
    rwa [show natOfDigits (natStr (n + 1)) = n + 1 from natOfDigits_natDigits _] at this

theorem term_intStr_ne (i : Int) : intStr i ≠ [] ∧ intStr i ≠ sNew ∧ intStr i ≠ ['*'] := by
  refine ⟨(intStr_idxExpr i).ne, ?_, ?_⟩
  · intro h
    rcases intStr_cases i with ⟨n, _, hn⟩ | ⟨n, _, hn⟩
    · rw [hn] at h; exact (natStr_ne_special n).1 h
    · rw [hn, sNew_eq] at h; cases h
  · intro h
    rcases intStr_cases i with ⟨n, _, hn⟩ | ⟨n, _, hn⟩
    · rw [hn] at h; exact (natStr_ne_special n).2 h
    · rw [hn] at h; cases h

theorem IdxDen.int (i : Int) : IdxDen (intStr i) i :=
  ⟨intStr_idxExpr i, (term_intStr_ne i).2.1, (term_intStr_ne i).2.2, n0eval_intStr i⟩

theorem intStr_idxTok (i : Int) : IdxTok (bracket (intStr i)) (intStr i) i := (IdxDen.int i).idxTok

theorem intStr_keyIdxTok (i : Int) {k : Str} (hk : PlainKey k) : KeyIdxTok (k ++ bracket (intStr i)) k (intStr i) i :=
  (IdxDen.int i).keyIdxTok hk

theorem split_bracket_intStr (i : Int) : splitNameIndex (bracket (intStr i)) = .ok ([], .str (intStr i)) := by
  simpa using split_bracket [] (intStr i) (Or.inl rfl) (intStr_idxExpr i)

theorem intStr_nat (j : Nat) : intStr (j : Int) = natStr j := rfl

/-! the text `'..'` continues with after a result that names a key / an index (the index is put back) -/

theorem upFound_key {r : Res} {tok : Str} (h : r.nameIdx = some tok) (hk : KeyTok tok) : upFound r = r.found := by
  simp only [upFound, h, isEmpty_false_of_ne hk.ne, Bool.false_eq_true, if_false, hk.split]

theorem upFound_idx {r : Res} {i : Int} (h : r.nameIdx = some (bracket (intStr i))) :
    upFound r = r.found ++ bracket (intStr i) := by
  have hbne : (bracket (intStr i)).isEmpty = false := by simp [bracket]
  simp only [upFound, h, hbne, Bool.false_eq_true, if_false, split_bracket_intStr, List.isEmpty_nil, if_true]

theorem split_up : splitNameIndex ['.', '.'] = .ok (['.', '.'], .none) := by decide +kernel

theorem split_star : splitNameIndex (bracket ['*']) = .ok ([], .str ['*']) := by decide +kernel

theorem idxExpr_last : IdxExpr sLast := by
  rw [sLast_eq]
  exact ⟨by decide +kernel, by decide +kernel, by decide +kernel, by decide +kernel, by decide +kernel⟩

theorem idxExpr_new : IdxExpr sNew := by
  rw [sNew_eq]
  exact ⟨by decide +kernel, by decide +kernel, by decide +kernel, by decide +kernel, by decide +kernel⟩

theorem split_bracket_last : splitNameIndex (bracket sLast) = .ok ([], .str sLast) := by
  rw [sLast_eq]; decide +kernel
theorem split_bracket_new : splitNameIndex (bracket sNew) = .ok ([], .str sNew) := by
  rw [sNew_eq]; decide +kernel

theorem startsWith_bracket (s : Str) : startsWith (bracket s) ['['] = true := by
  simp [bracket, startsWith, startsWith_nil]

theorem endsWith_bracket (s : Str) : endsWith (bracket s) [']'] = true := by
  have : bracket s = ('[' :: s) ++ [']'] := by simp [bracket]
  rw [this]; exact endsWith_snoc _ _

theorem bracket_inner (s : Str) : ((bracket s).drop 1).dropLast = s := by
  simp [bracket]

theorem bracket_stripWs (e : Str) : stripWs (bracket e) = bracket e :=
  stripWs_id_of_ends '[' ']' e (by decide) (by decide)

theorem bracket_ne_nil (s : Str) : bracket s ≠ [] := by simp [bracket]

theorem PlainKey.noRB {k : Str} (h : PlainKey k) : ∀ c ∈ k, c ≠ ']' :=
  fun c hc => (plainChar_ne (h.chars c hc)).2.2.1

theorem PlainKey.noSlash {k : Str} (h : PlainKey k) : ∀ c ∈ k, c ≠ '/' :=
  fun c hc => (plainChar_ne (h.chars c hc)).1

theorem natStr_noRB (n : Nat) : ∀ c ∈ natStr n, c ≠ ']' :=
  fun c hc => digit_ne_char (natDigits_all_digit n c hc) ']' (by decide)

theorem natStr_noSlash (n : Nat) : ∀ c ∈ natStr n, c ≠ '/' :=
  fun c hc => digit_ne_char (natDigits_all_digit n c hc) '/' (by decide)

theorem textPieces_key {k : Str} (hk : PlainKey k) : textPieces k = [k] :=
  textPieces_atom hk.ne hk.noSlash (fixBr_noRB k hk.noRB)

theorem plainChar_ne_q {c : Char} (h : plainChar c = true) : c ≠ '?' := by
  intro heq; subst heq; revert h; decide

theorem PlainKey.head_ne_q {k : Str} (hk : PlainKey k) (s : Str) : startsWith (k ++ s) ['?'] = false := by
  cases k with
  | nil => exact absurd rfl hk.ne
  | cons x k => simp [startsWith, plainChar_ne_q (hk.chars x (by simp)), startsWith_nil]

theorem PlainKey.noSlash' {k : Str} (h : PlainKey k) : ∀ c ∈ k, c ≠ '/' := h.noSlash

theorem PlainKey.noLB {k : Str} (h : PlainKey k) : ∀ c ∈ k, c ≠ '[' :=
  fun c hc => (plainChar_ne (h.chars c hc)).2.1

theorem PlainKey.head_ne {k : Str} (hk : PlainKey k) : ∃ c r, k = c :: r ∧ c ≠ '/' ∧ c ≠ '[' := by
  cases k with
  | nil => exact absurd rfl hk.ne
  | cons c r =>
    have := plainChar_ne (hk.chars c (by simp))
    exact ⟨c, r, rfl, this.1, this.2.1⟩

theorem hasPathChar_slash (a b : Str) : hasPathChar (a ++ slash ++ b) = true := by
  simp [hasPathChar, slash]

/-- a text that begins with '/' (`slash ++ …`) does not begin with '?' and goes through `_find` -/
theorem slash_noQ (s : Str) : startsWith ('/' :: s) ['?'] = false := by simp [startsWith]

theorem slash_hasPathChar (s : Str) : hasPathChar ('/' :: s) = true := by simp [hasPathChar]

end N0.XPath
