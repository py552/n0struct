import N0Verif.Model.XPath
/-!
  The shapes of a token as `_find` sees it (`KeyTok`, `IdxTok`, `KeyIdxTok`: what `split_name_index` and `n0eval` return
  for it), as hypotheses of the tree layer (`Proofs/XPathTree.lean`) that the token layer (`Proofs/XPathTok.lean`)
  discharges for rendered paths; the model's string constants as character lists; what `normIdx` answers.
-/
namespace N0.XPath
open N0 N0.Py N0.Val

/-- the string constants of `Model/XPath.lean` as character lists: facts about them are decided on these -/
theorem sNew_eq : sNew = ['n', 'e', 'w', '(', ')'] := String.toList_ofList

theorem sLast_eq : sLast = ['l', 'a', 's', 't', '(', ')'] := String.toList_ofList

theorem sContains_eq : sContains = ['c', 'o', 'n', 't', 'a', 'i', 'n', 's'] := String.toList_ofList

theorem sTextFn_eq : sTextFn = ['t', 'e', 'x', 't', '(', ')'] := String.toList_ofList

theorem sText_eq : sText = ['t', 'e', 'x', 't'] := String.toList_ofList

theorem sTrue_eq : sTrue = ['t', 'r', 'u', 'e', '(', ')'] := String.toList_ofList

theorem sFalse_eq : sFalse = ['f', 'a', 'l', 's', 'e', '(', ')'] := String.toList_ofList

theorem sLast_ne_sNew : sLast ≠ sNew := by rw [sLast_eq, sNew_eq]; decide

theorem star_ne_sNew : (['*'] : Str) ≠ sNew := by rw [sNew_eq]; decide

/-- token `tok` is a plain key step -/
structure KeyTok (tok : Str) : Prop where
  split : splitNameIndex tok = .ok (tok, .none)
  ne : tok ≠ []
  notUp : tok ≠ ['.', '.']
  notStar : tok ≠ ['*']

/-- token `tok` is a pure index step denoting the integer `i` -/
structure IdxTok (tok : Str) (e : Str) (i : Int) : Prop where
  split : splitNameIndex tok = .ok ([], .str e)
  ne : e ≠ []
  notNew : e ≠ sNew
  notStar : e ≠ ['*']
  eval : n0eval e = .ok (.int i)

/-- an index text that evaluates to an integer is neither empty nor `new()` (both evaluate to themselves) -/
theorem IdxTok.of_eval {tok e : Str} {i : Int} (hs : splitNameIndex tok = .ok ([], .str e)) (hstar : e ≠ ['*'])
    (he : n0eval e = .ok (.int i)) : IdxTok tok e i where
  split := hs
  ne := by
    rintro rfl
    rw [show n0eval [] = .ok (.str []) by decide +kernel] at he; cases he
  notNew := by
    rintro rfl
    rw [sNew_eq, show n0eval ['n', 'e', 'w', '(', ')'] = .ok (.str ['n', 'e', 'w', '(', ')']) by decide +kernel] at he; cases he
  notStar := hstar
  eval := he

/-- token `tok` is `key[index]` -/
structure KeyIdxTok (tok : Str) (k : Str) (e : Str) (i : Int) : Prop where
  split : splitNameIndex tok = .ok (k, .str e)
  kne : k ≠ []
  notUp : k ≠ ['.', '.']
  notStar : k ≠ ['*']
  inner : IdxTok (bracket e) e i

/-! ### `normIdx`: an integer index against a length -/

theorem normIdx_spec {i : Int} {len n : Nat} (h : normIdx i len = some n) :
    n < len ∧ ¬ (i ≥ (len : Int) ∨ i < -(len : Int)) := by
  unfold normIdx at h
  by_cases h0 : 0 ≤ i
  · rw [if_pos h0] at h
    by_cases h1 : i.toNat < len
    · rw [if_pos h1] at h; cases h; omega
    · rw [if_neg h1] at h; cases h
  · rw [if_neg h0] at h
    by_cases h1 : (-i).toNat ≤ len
    · rw [if_pos h1] at h; cases h; omega
    · rw [if_neg h1] at h; cases h

theorem normIdx_lt {i : Int} {len n : Nat} (h : normIdx i len = some n) : n < len := (normIdx_spec h).1

theorem normIdx_range {i : Int} {len n : Nat} (h : normIdx i len = some n) :
    ¬ (i ≥ (len : Int) ∨ i < -(len : Int)) := (normIdx_spec h).2

theorem normIdx_nat {n len : Nat} (h : n < len) : normIdx (n : Int) len = some n := by
  unfold normIdx
  simp [h]

theorem normIdx_last (len : Nat) (h : 0 < len) : normIdx (-1) len = some (len - 1) := by
  unfold normIdx
  simp
  omega

/-- a negative index counts from the end -/
theorem normIdx_sub_len {i : Int} {len n : Nat} (hn : n < len) (hi : i = (n : Int) - len) : normIdx i len = some n := by
  have h0 : ¬ 0 ≤ i := by rw [hi]; exact Int.not_le.mpr (Int.sub_neg_of_lt (Int.ofNat_lt.mpr hn))
  have h1 : (-i).toNat = len - n := by
    rw [hi, Int.neg_sub, ← Int.ofNat_sub (Nat.le_of_lt hn), Int.toNat_natCast]
  have h2 : len - n ≤ len := Nat.sub_le _ _
  simp only [normIdx, h0, if_false, h1, h2, if_true, Nat.sub_sub_self (Nat.le_of_lt hn)]

theorem normIdx_inRange {i : Int} {len : Nat} (h : ¬ (i ≥ (len : Int) ∨ i < -(len : Int))) :
    ∃ n, normIdx i len = some n := by
  unfold normIdx
  split
  · exact ⟨_, if_pos (by omega)⟩
  · exact ⟨_, if_pos (by omega)⟩

end N0.XPath
