import N0Verif.Proofs.XPathFindEq
/-!
  Tree layer of the xpath engine proofs: what it means that a token list *spells* a position (`Spells`, `SpellsF` with the
  text `_find` writes), what `_find` returns for a found node (`FoundAt`), and the steps of `findD` along existing nodes
  for tokens whose shape (`KeyTok`, `IdxTok`, `KeyIdxTok`: what `split_name_index` and `n0eval` return for them) is a
  hypothesis here (the shapes are defined in `Proofs/XPathTokShape.lean`) and discharged for the rendered spellings in
  `Proofs/XPathTok.lean`.  The walks are in `Proofs/XPathWalk.lean`.
-/
namespace N0.XPath
open N0 N0.Py N0.Val

/-- `Spells toks v p c`: starting at node `v`, the tokens walk along position `p` to node `c` -/
inductive Spells : List Str → Val → Pos → Val → Prop
  | nil (v : Val) : Spells [] v [] v
  | key {tok rest cls kvs c p d} :
      KeyTok tok → lookup tok kvs = some c → Spells rest c p d →
      Spells (tok :: rest) (.dict cls kvs) (.key tok :: p) d
  | idx {tok e i rest cls xs n c p d} :
      IdxTok tok e i → normIdx i xs.length = some n → xs[n]? = some c → Spells rest c p d →
      Spells (tok :: rest) (.list cls xs) (.idx n :: p) d
  | keyIdx {tok k e i rest cls kvs cls' xs n c p d} :
      KeyIdxTok tok k e i → lookup k kvs = some (.list cls' xs) →
      normIdx i xs.length = some n → xs[n]? = some c → Spells rest c p d →
      Spells (tok :: rest) (.dict cls kvs) (.key k :: .idx n :: p) d

theorem Spells.getAt {toks v p c} (h : Spells toks v p c) : Val.getAt v p = some c := by
  induction h with
  | nil v => rfl
  | key _ hl _ ih => simp [Val.getAt, child, hl, ih]
  | idx _ _ hx _ ih => simp [Val.getAt, child, hx, ih]
  | keyIdx _ hl _ hx _ ih => simp [Val.getAt, child, hl, hx, ih]

/-- `Spells` together with the text the walk appends to `xpath_found_str` -/
inductive SpellsF : List Str → Val → Pos → Val → Str → Prop
  | nil (v : Val) : SpellsF [] v [] v []
  | key {tok rest cls kvs c p d w} :
      KeyTok tok → lookup tok kvs = some c → SpellsF rest c p d w →
      SpellsF (tok :: rest) (.dict cls kvs) (.key tok :: p) d (slash ++ tok ++ w)
  | idx {tok e i rest cls xs n c p d w} :
      IdxTok tok e i → normIdx i xs.length = some n → xs[n]? = some c → SpellsF rest c p d w →
      SpellsF (tok :: rest) (.list cls xs) (.idx n :: p) d (bracket (intStr i) ++ w)
  | keyIdx {tok k e i rest cls kvs cls' xs n c p d w} :
      KeyIdxTok tok k e i → lookup k kvs = some (.list cls' xs) →
      normIdx i xs.length = some n → xs[n]? = some c → SpellsF rest c p d w →
      SpellsF (tok :: rest) (.dict cls kvs) (.key k :: .idx n :: p) d (slash ++ k ++ bracket (intStr i) ++ w)

theorem SpellsF.spells {toks v p c w} (h : SpellsF toks v p c w) : Spells toks v p c := by
  induction h with
  | nil v => exact .nil v
  | key hk hl _ ih => exact .key hk hl ih
  | idx hk hn hx _ ih => exact .idx hk hn hx ih
  | keyIdx hk hl hn hx _ ih => exact .keyIdx hk hl hn hx ih

theorem Spells.exF {toks v p c} (h : Spells toks v p c) : ∃ w, SpellsF toks v p c w := by
  induction h with
  | nil v => exact ⟨_, .nil v⟩
  | key hk hl _ ih => obtain ⟨w, hw⟩ := ih; exact ⟨_, .key hk hl hw⟩
  | idx hk hn hx _ ih => obtain ⟨w, hw⟩ := ih; exact ⟨_, .idx hk hn hx hw⟩
  | keyIdx hk hl hn hx _ ih => obtain ⟨w, hw⟩ := ih; exact ⟨_, .keyIdx hk hl hn hx hw⟩

theorem SpellsF.getAt {toks v p c w} (h : SpellsF toks v p c w) : Val.getAt v p = some c := h.spells.getAt

/-- the `node_name_index` the engine reports for the last segment of a path -/
inductive NameFor : Val → Seg → Str → Prop
  | key {cls kvs k} : NameFor (.dict cls kvs) (.key k) k
  | idx {cls xs n i} : normIdx i xs.length = some n → NameFor (.list cls xs) (.idx n) (bracket (intStr i))

/-- what `_find` returns when it has found the node at `q ++ p` -/
def FoundAt (root : Val) (q p : Pos) (c : Val) (r : Res) : Prop :=
  r.value = c ∧ r.notFound = Option.none ∧
  ∃ pp s pv ni, p = pp ++ [s] ∧ r.parent = .at (q ++ pp) ∧ getAt root (q ++ pp) = some pv ∧
    r.nameIdx = some ni ∧ NameFor pv s ni

/-- what `FoundAt` says about the last segment: the parent reported is the node above, the name is that of the segment -/
theorem FoundAt.snoc_inv {root : Val} {q p : Pos} {c : Val} {r : Res} (h : FoundAt root q p c r) :
    ∃ pp s pv ni, p = pp ++ [s] ∧ r.parent = .at (q ++ pp) ∧ getAt root (q ++ pp) = some pv ∧ r.nameIdx = some ni ∧
      NameFor pv s ni :=
  h.2.2

/-- … when the position is given as `pp ++ [s]` -/
theorem FoundAt.at_snoc {root : Val} {q pp : Pos} {s : Seg} {c : Val} {r : Res} (h : FoundAt root q (pp ++ [s]) c r) :
    ∃ pv ni, r.parent = .at (q ++ pp) ∧ getAt root (q ++ pp) = some pv ∧ r.nameIdx = some ni ∧ NameFor pv s ni := by
  obtain ⟨pp', s', pv, ni, hp, hpar, hpv, hni, hname⟩ := h.snoc_inv
  obtain ⟨rfl, hs⟩ := List.append_inj' hp rfl
  cases hs
  exact ⟨pv, ni, hpar, hpv, hni, hname⟩

theorem valOf_at (root : Val) (q : Pos) : valOf root (.at q) = getAt root q := rfl

theorem find_key_last (fuel : Nat) (root : Val) (entry rl : Bool) (q : Pos) (found tok : Str)
    (cls : Cls) (kvs : List (Str × Val)) (c : Val)
    (hq : getAt root q = some (.dict cls kvs)) (hk : KeyTok tok) (hl : lookup tok kvs = some c) :
    findD (fuel + 1) root [] false entry [tok] (.at q) rl found
      = .ok (root, { parent := .at q, nameIdx := some tok, value := c, found := found ++ slash ++ tok, notFound := Option.none }) :=
  findD_key_last rfl hq hk.split hk.ne hk.notUp hk.notStar hl

theorem find_key_step_sp (fuel : Nat) (root : Val) (sp : Pos) (entry rl : Bool) (q : Pos) (found tok : Str)
    (rest : List Str) (cls : Cls) (kvs : List (Str × Val)) (c : Val) (hrest : rest ≠ [])
    (hq : getAt root q = some (.dict cls kvs)) (hk : KeyTok tok) (hl : lookup tok kvs = some c) :
    findD (fuel + 1) root sp false entry (tok :: rest) (.at q) rl found
      = findD fuel root sp false false rest (.at (q ++ [Seg.key tok])) rl (found ++ slash ++ tok) :=
  findD_key_step rfl hq hk.split hk.ne hk.notUp hk.notStar hl hrest

theorem find_keyidx_step_sp (fuel : Nat) (root : Val) (sp : Pos) (entry rl : Bool) (q : Pos) (found tok k e : Str)
    (i : Int) (rest : List Str) (cls : Cls) (kvs : List (Str × Val)) (c : Val)
    (hq : getAt root q = some (.dict cls kvs)) (hk : KeyIdxTok tok k e i) (hl : lookup k kvs = some c) :
    findD (fuel + 1) root sp false entry (tok :: rest) (.at q) rl found
      = findD fuel root sp false false (bracket e :: rest) (.at (q ++ [Seg.key k])) rl (found ++ slash ++ k) :=
  findD_keyidx_step rfl hq hk.split hk.kne hk.notUp hk.notStar hl

theorem getD_of_getElem? {xs : List Val} {n : Nat} {c : Val} (hx : xs[n]? = some c) : xs.getD n Val.none = c := by
  rw [List.getD_eq_getElem?_getD, hx]
  rfl

theorem find_idx_step_sp (fuel : Nat) (root : Val) (sp : Pos) (entry rl : Bool) (q : Pos) (found tok e : Str)
    (i : Int) (rest : List Str) (hrest : rest ≠ [])
    (cls : Cls) (xs : List Val) (n : Nat)
    (hq : getAt root q = some (.list cls xs)) (hk : IdxTok tok e i)
    (hn : normIdx i xs.length = some n) :
    findD (fuel + 1) root sp false entry (tok :: rest) (.at q) rl found
      = findD fuel root sp false false rest (.at (q ++ [Seg.idx n])) rl (found ++ bracket (intStr i)) :=
  findD_idx_step rfl hq hk hn hrest

/-! Two units of fuel per token always suffice: a `key[index]` token takes two steps of `findD`, the others one.  This is the
bound of the theorems that do NOT go through `Walk` (which counts its steps exactly, `Proofs/XPathWalk.lean`): the list-side
walk `findL_spells` (`Proofs/XPathListRoot.lean`), the misses over `MissAt` (`Proofs/XPathMiss.lean`) and the theorems stated
with `fuel ≥ 2 * toks.length` (`two_mul_le_fuel` brings a shorter token list under the same bound). -/

theorem fuel_succ {fuel n : Nat} (h : fuel ≥ 2 * (n + 1)) : ∃ f, fuel = f + 1 :=
  ⟨fuel - 1, (Nat.sub_add_cancel (Nat.lt_of_lt_of_le (Nat.mul_pos (by decide) (Nat.succ_pos n)) h)).symm⟩

theorem fuel_rest {f n : Nat} (h : f + 1 ≥ 2 * (n + 1)) : f ≥ 2 * n :=
  Nat.le_of_succ_le (Nat.le_of_succ_le_succ (by rw [Nat.mul_succ] at h; exact h))

theorem two_mul_le_fuel {a b fuel : Nat} (h : a ≤ b) (hf : fuel ≥ 2 * b) : fuel ≥ 2 * a :=
  Nat.le_trans (Nat.mul_le_mul_left 2 h) hf

theorem fuel_cons {α} {fuel : Nat} {a : α} {l : List α} (hf : fuel ≥ 2 * (a :: l).length) :
    ∃ f, fuel = f + 2 ∧ f ≥ 2 * l.length := by
  rw [List.length_cons, Nat.mul_succ] at hf
  exact ⟨fuel - 2, (Nat.sub_add_cancel (Nat.le_trans (Nat.le_add_left _ _) hf)).symm, Nat.le_sub_of_add_le hf⟩

theorem Spells.nil_inv {v p c} (h : Spells [] v p c) : p = [] ∧ c = v := by
  cases h; exact ⟨rfl, rfl⟩

theorem FoundAt.last {root : Val} {q : Pos} {s : Seg} {pv c : Val} {ni found : Str}
    (hq : getAt root q = some pv) (hn : NameFor pv s ni) :
    FoundAt root q [s] c { parent := .at q, nameIdx := some ni, value := c, found := found, notFound := Option.none } :=
  ⟨rfl, rfl, [], s, pv, ni, rfl, by simp, by simpa using hq, rfl, hn⟩

theorem FoundAt.cons {root : Val} {q : Pos} {s : Seg} {p : Pos} {c : Val} {r : Res}
    (h : FoundAt root (q ++ [s]) p c r) : FoundAt root q (s :: p) c r := by
  obtain ⟨hv, hnf, pp, s', pv, ni, hp, hpar, hpv, hni, hname⟩ := h
  exact ⟨hv, hnf, s :: pp, s', pv, ni, by simp [hp], by simpa using hpar, by simpa using hpv, hni, hname⟩

theorem Spells.append {a b : List Str} {v c d : Val} {p p' : Pos} (h1 : Spells a v p c) (h2 : Spells b c p' d) :
    Spells (a ++ b) v (p ++ p') d := by
  induction h1 with
  | nil v => simpa using h2
  | key hk hl _ ih => exact .key hk hl (ih h2)
  | idx hk hn hx _ ih => exact .idx hk hn hx (ih h2)
  | keyIdx hk hl hn hx _ ih => exact .keyIdx hk hl hn hx (ih h2)

end N0.XPath
