import N0Verif.Proofs.XPathTok
import N0Verif.Proofs.XPathFindEq
import N0Verif.Proofs.XPathGetEq
/-!
  `'..'` that surfaces to the ROOT as the last step of a path (fix C04-g): the root is found, the way an empty
  xpath finds it (parent = the root, no name, value = the root, found text `/`).  Before the fix the branch built the
  found text from the missing name (`str + None`): `TypeError`, i.e. a miss for a path that resolves.
-/
namespace N0.XPath
open N0 N0.Py N0.Val

/-- the result `_find` reports for the root -/
def upRootRes (root : Val) : Res :=
  { parent := .at [], nameIdx := Option.none, value := root, found := slash, notFound := Option.none }

theorem upRoot_find_nil (fuel : Nat) (root : Val) (rl : Bool) :
    findD (fuel + 1) root [] false false [] (.at []) rl slash = .ok (root, upRootRes root) :=
  findD_nil_slash rfl rfl

/-- the found text `//k` minus its last piece is the empty path -/
theorem upRoot_split (k : Str) (hk : PlainKey k) :
    ((splitChar '/' (fixBr (slash ++ slash ++ k))).filter (fun t => !t.isEmpty)).dropLast = [] := by
  have : textPieces (slash ++ slash ++ k) = [k] := by
    rw [show slash ++ slash ++ k = [] ++ '/' :: ([] ++ '/' :: k) from rfl, textPieces_slash, textPieces_slash, textPieces_nil,
      textPieces_key hk]
    rfl
  exact congrArg List.dropLast this

/-- **`k/..` on a dict root** (token level): the key step goes down, `'..'` re-resolves the empty path from the root
and — being the last step — reports the root as found -/
theorem upRoot_find (fuel : Nat) (cls : Cls) (kvs : List (Str × Val)) (k : Str) (c : Val) (entry rl : Bool)
    (hk : PlainKey k) (hl : lookup k kvs = some c) :
    findD (fuel + 3) (.dict cls kvs) [] false entry [k, ['.', '.']] (.at []) rl slash
      = .ok (.dict cls kvs, upRootRes (.dict cls kvs)) := by
  have hkt := hk.keyTok
  rw [findD_key_step rfl (cls := cls) (kvs := kvs) rfl hkt.split hkt.ne hkt.notUp hkt.notStar hl (by simp),
    findD_up rfl (pv := c) (by simp [valOf, childRef, getAt, child, hl]) split_up, upRoot_split k hk,
    upRoot_find_nil fuel (.dict cls kvs) rl]
  exact upCont_last_root rfl rfl rfl

theorem upRoot_tokenize (k : Str) (hk : PlainKey k) : tokenize (k ++ slash ++ ['.', '.']) = [k, ['.', '.']] := by
  rw [show k ++ slash ++ ['.', '.'] = k ++ '/' :: ['.', '.'] by simp [slash], tokenize_append_slash, tokenize_eq_map k,
    textPieces_key hk]
  simp only [List.map_cons, List.map_nil, hk.stripWs]
  rfl

/-- **`k/..` through every lookup entry point**: the root itself, for every default and both flags -/
theorem upRoot_getCore (fuel : Nat) (cls : Cls) (kvs : List (Str × Val)) (k : Str) (c d : Val) (raise rl : Bool)
    (hk : PlainKey k) (hl : lookup k kvs = some c) :
    getCore (fuel + 3) (.dict cls kvs) (k ++ slash ++ ['.', '.']) d raise rl = (.dict cls kvs, .ok (.dict cls kvs)) := by
  rw [getCore_of_find cls kvs _ [k, ['.', '.']] d raise rl (fuel + 3) (upRootRes (.dict cls kvs))
    (by simpa [List.append_assoc] using hk.head_ne_q (slash ++ ['.', '.'])) (hasPathChar_slash _ _) (upRoot_tokenize k hk)
    (upRoot_find fuel cls kvs k c true rl hk hl)]
  simp [upRootRes, Res.isFound]

end N0.XPath
