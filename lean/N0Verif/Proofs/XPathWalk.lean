import N0Verif.Proofs.XPathTree
import N0Verif.Proofs.XPathRender
/-!
  The walk of `_find` along existing nodes, as one relation with its exact cost: key steps, index steps, `key[index]`
  tokens and index steps on a value that is not a list (the *hidden list*, fix C03-e).  `find_walkTo` says where `_find`
  stands after the walk when tokens follow, `find_walkEnd` what it reports when the walk uses up the tokens (`Place`).
  Of `delete` only the search of each round is a walk; its rounds after the first are proved on `Spells` (`XPathDelete`).
  A theorem about what `_find` does with tokens is stated on `Walk` (every other relation maps into it: `SpellsF.walk`,
  `GWalk.walk`), one about path texts on the pieces (`Sel3Norm` for a text `_find` wrote, `GWalk` for one the caller wrote);
  a lemma is stated on `Spells`, `SpellsF`, `Sel3Spells` only where a statement of Props or the rounds of `delete` need that form.
  Write a walk down as a term and leave its text index `w` to unification; in a tactic `have`, state `∃ w, Walk …`.
-/
namespace N0.XPath
open N0 N0.Py N0.Val

/-- `Walk n toks v p c w hl`: `n` steps of `_find` on the tokens `toks`, started at the node `v`, arrive at the node `c`
at position `p` below `v`, and `w` is what they have appended to `xpath_found_str` when `_find` reports.  An index that
denotes `0` / `-1` on a value that is not a list stays where it is (`hid`: item 0 of the tuple around the value is the
value); a `key[index]` token is the key step, which re-emits the index as a token of its own (`keyIdx`).  `hl` says that
the walk ends with such a hidden-list step (`hidLast`); the text reported then does not include that last index.  An index
on a value that IS a list is `idx`, also when it is written as a step of its own (`h/[1]`): that is no hidden-list step. -/
inductive Walk : Nat → List Str → Val → Pos → Val → Str → Bool → Prop
  | nil (v : Val) : Walk 0 [] v [] v [] false
  | key {n tok rest cls kvs c p d w hl} :
      KeyTok tok → lookup tok kvs = some c → Walk n rest c p d w hl →
      Walk (n + 1) (tok :: rest) (.dict cls kvs) (.key tok :: p) d (slash ++ tok ++ w) hl
  | idx {n tok e i rest cls xs m c p d w hl} :
      IdxTok tok e i → normIdx i xs.length = some m → xs[m]? = some c → Walk n rest c p d w hl →
      Walk (n + 1) (tok :: rest) (.list cls xs) (.idx m :: p) d (bracket (intStr i) ++ w) hl
  | hid {n tok e i rest v p d w hl} :
      IdxTok tok e i → isList v = false → (i = 0 ∨ i = -1) → rest ≠ [] → Walk n rest v p d w hl →
      Walk (n + 1) (tok :: rest) v p d (bracket (intStr i) ++ w) hl
  | hidLast {tok e i v} :
      IdxTok tok e i → isList v = false → (i = 0 ∨ i = -1) → Walk 1 [tok] v [] v [] true
  | keyIdx {n tok k e i rest cls kvs c p d w hl} :
      KeyIdxTok tok k e i → lookup k kvs = some c → Walk n (bracket e :: rest) c p d w hl →
      Walk (n + 1) (tok :: rest) (.dict cls kvs) (.key k :: p) d (slash ++ k ++ w) hl

theorem Walk.getAt {n toks v p c w hl} (h : Walk n toks v p c w hl) : Val.getAt v p = some c := by
  induction h with
  | nil v => rfl
  | key _ hl _ ih => simp [Val.getAt, child, hl, ih]
  | idx _ _ hx _ ih => simp [Val.getAt, child, hx, ih]
  | hid _ _ _ _ _ ih => exact ih
  | hidLast => rfl
  | keyIdx _ hl _ ih => simp [Val.getAt, child, hl, ih]

theorem Walk.append {n m : Nat} {a b : List Str} {v c d : Val} {p p' : Pos} {w w' : Str} {h h' : Bool}
    (h1 : Walk n a v p c w h) (hfl : h = false) (h2 : Walk m b c p' d w' h') (hb : b ≠ []) :
    Walk (m + n) (a ++ b) v (p ++ p') d (w ++ w') h' := by
  induction h1 with
  | nil v => simpa using h2
  | key hk hl _ ih => rw [List.append_assoc]; exact Walk.key hk hl (ih hfl h2)
  | idx hk hn hx _ ih => rw [List.append_assoc]; exact Walk.idx hk hn hx (ih hfl h2)
  | hid hk hs hi _ _ ih => rw [List.append_assoc]; exact Walk.hid hk hs hi (by simp [hb]) (ih hfl h2)
  | hidLast => cases hfl
  | keyIdx hk hl _ ih => rw [List.append_assoc]; exact Walk.keyIdx hk hl (ih hfl h2)

theorem SpellsF.walk {toks v p c w} (h : SpellsF toks v p c w) : Walk p.length toks v p c w false := by
  induction h with
  | nil v => exact .nil v
  | key hk hl _ ih => exact .key hk hl ih
  | idx hk hn hx _ ih => exact .idx hk hn hx ih
  | keyIdx hk hl hn hx _ ih =>
    rw [List.append_assoc]
    exact .keyIdx hk hl (.idx hk.inner hn hx ih)

theorem walk_merged {p : Pos} {v c : Val} (hp : PlainPos p) (h : getAt v p = some c) :
    Walk p.length (mergedToks p) v p c (renderPos p) false :=
  (spellsF_merged p v c hp h).walk

/-- two units of fuel per segment pay for a walk, which takes one per step -/
theorem fuel_walk {fuel a b : Nat} (hf : fuel ≥ 2 * a + b) : fuel ≥ b + a :=
  Nat.le_trans (by rw [Nat.add_comm, Nat.two_mul, Nat.add_assoc]; exact Nat.le_add_left _ _) hf

/-- For any position `sp` of `self`: the steps of a walk do not look at it.  When the walk ends with a hidden-list step and
tokens follow, `_find` goes on at the same node and has written that index too (`u`). -/
theorem find_walkTo (root : Val) (rl : Bool) (sp : Pos) {n : Nat} {toks : List Str} {v : Val} {p : Pos} {c : Val} {w : Str}
    {hl : Bool} (h : Walk n toks v p c w hl) (rest : List Str) (hrest : rest ≠ []) :
    ∀ (f : Nat) (q : Pos) (found : Str) (entry : Bool), getAt root q = some v →
      ∃ u, (hl = false → u = []) ∧
        findD (f + n) root sp false entry (toks ++ rest) (.at q) rl found
          = findD f root sp false false rest (.at (q ++ p)) rl (found ++ (w ++ u)) := by
  induction h with
  | nil v =>
    intro f q found entry _
    exact ⟨[], fun _ => rfl, by simpa using findD_entry f root sp entry false rest (.at q) rl found⟩
  | @key n tok rest0 cls kvs c p d w _ hk hl _ ih =>
    intro f q found entry hq
    obtain ⟨u, hu, heq⟩ := ih f (q ++ [Seg.key tok]) (found ++ slash ++ tok) false (getAt_snoc_key hq hl)
    refine ⟨u, hu, ?_⟩
    rw [List.cons_append, ← Nat.add_assoc,
      find_key_step_sp (f + n) root sp entry rl q found tok (rest0 ++ rest) cls kvs c (by simp [hrest]) hq hk hl, heq]
    simp only [List.append_assoc, List.cons_append, List.nil_append]
  | @idx n tok e i rest0 cls xs m c p d w _ hk hn hx _ ih =>
    intro f q found entry hq
    obtain ⟨u, hu, heq⟩ := ih f (q ++ [Seg.idx m]) (found ++ bracket (intStr i)) false (getAt_snoc_idx hq hx)
    refine ⟨u, hu, ?_⟩
    rw [List.cons_append, ← Nat.add_assoc,
      find_idx_step_sp (f + n) root sp entry rl q found tok e i (rest0 ++ rest) (by simp [hrest]) cls xs m hq hk hn, heq]
    simp only [List.append_assoc, List.cons_append, List.nil_append]
  | @hid n tok e i rest0 v p d w _ hk hl hi _ _ ih =>
    intro f q found entry hq
    obtain ⟨u, hu, heq⟩ := ih f q (found ++ bracket (intStr i)) false hq
    refine ⟨u, hu, ?_⟩
    rw [List.cons_append, ← Nat.add_assoc,
      findD_idx_step_single (ps := false) (par := .at q) rfl hq hl hk hi
        (by simp [hrest] : rest0 ++ rest ≠ []), heq]
    simp only [List.append_assoc]
  | @hidLast tok e i v hk hl hi =>
    intro f q found entry hq
    refine ⟨bracket (intStr i), nofun, ?_⟩
    rw [List.cons_append, List.nil_append,
      findD_idx_step_single (ps := false) (par := .at q) rfl hq hl hk hi hrest]
    simp
  | @keyIdx n tok k e i rest0 cls kvs c p d w _ hk hl _ ih =>
    intro f q found entry hq
    obtain ⟨u, hu, heq⟩ := ih f (q ++ [Seg.key k]) (found ++ slash ++ k) false (getAt_snoc_key hq hl)
    refine ⟨u, hu, ?_⟩
    rw [List.cons_append, ← Nat.add_assoc,
      find_keyidx_step_sp (f + n) root sp entry rl q found tok k e i (rest0 ++ rest) cls kvs c hq hk hl,
      ← List.cons_append, heq]
    simp only [List.append_assoc, List.cons_append, List.nil_append]

theorem find_walkTo_real (root : Val) (rl : Bool) (sp : Pos) {n : Nat} {toks : List Str} {v : Val} {p : Pos} {c : Val}
    {w : Str} (h : Walk n toks v p c w false) (rest : List Str) (hrest : rest ≠ [])
    (f : Nat) (q : Pos) (found : Str) (entry : Bool) (hq : getAt root q = some v) :
    findD (f + n) root sp false entry (toks ++ rest) (.at q) rl found
      = findD f root sp false false rest (.at (q ++ p)) rl (found ++ w) := by
  obtain ⟨u, hu, heq⟩ := find_walkTo root rl sp h rest hrest f q found entry hq
  rw [hu rfl, List.append_nil] at heq
  exact heq

/-- what `_find` reports when the last step was an index on a single value at `P`: the value as an item of the tuple
around it (`PRef.wrap`), under the index as the engine writes it; `F` is the text found -/
def HiddenAt (P : Pos) (c : Val) (F : Str) (r : Res) : Prop :=
  ∃ i : Int, (i = 0 ∨ i = -1) ∧
    r = { parent := .wrap (.at P), nameIdx := some (bracket (intStr i)), value := c, found := F, notFound := Option.none }

/-- what `_find` reports at the end of a walk from the node at `q`: the node with its real parent (`FoundAt`; the text
`'..'` would go on with, `upFound`, is the text of the whole walk), or after a hidden-list step the hidden list around it
(`HiddenAt`) -/
def Place (root : Val) (q p : Pos) (c : Val) (found w : Str) (hl : Bool) (r : Res) : Prop :=
  (hl = false → FoundAt root q p c r ∧ upFound r = found ++ w) ∧ (hl = true → HiddenAt (q ++ p) c (found ++ w) r)

theorem Place.cons {root : Val} {q p : Pos} {s : Seg} {c : Val} {found u w : Str} {hl : Bool} {r : Res}
    (h : Place root (q ++ [s]) p c (found ++ u) w hl r) : Place root q (s :: p) c found (u ++ w) hl r :=
  ⟨fun e => ⟨(h.1 e).1.cons, by rw [(h.1 e).2, List.append_assoc]⟩, fun e => by simpa [List.append_assoc] using h.2 e⟩

theorem Place.value {root : Val} {q p : Pos} {c : Val} {found w : Str} {hl : Bool} {r : Res}
    (h : Place root q p c found w hl r) : r.isFound = true ∧ r.value = c := by
  cases hl with
  | false => obtain ⟨⟨hv, hnf, _⟩, _⟩ := h.1 rfl; exact ⟨by rw [Res.isFound, hnf], hv⟩
  | true => obtain ⟨_, _, rfl⟩ := h.2 rfl; exact ⟨rfl, rfl⟩

theorem find_walkEnd (root : Val) (rl : Bool) (sp : Pos) {n : Nat} {toks : List Str} {v : Val} {p : Pos} {c : Val} {w : Str}
    {hl : Bool} (h : Walk n toks v p c w hl) : toks ≠ [] → ∀ (f : Nat) (q : Pos) (found : Str) (entry : Bool),
      getAt root q = some v →
      ∃ r, findD (f + n) root sp false entry toks (.at q) rl found = .ok (root, r) ∧ Place root q p c found w hl r := by
  induction h with
  | nil v => intro h; exact absurd rfl h
  | @key n tok rest cls kvs c p d w hl hk hlk hs ih =>
    intro _ f q found entry hq
    by_cases hrest : rest = []
    · subst hrest
      cases hs
      exact ⟨_, findD_key_last rfl hq hk.split hk.ne hk.notUp hk.notStar hlk,
        fun _ => ⟨.last hq .key, by rw [upFound_key rfl hk]; simp⟩, nofun⟩
    · obtain ⟨r, hr, hpl⟩ := ih hrest f (q ++ [Seg.key tok]) (found ++ (slash ++ tok)) false (getAt_snoc_key hq hlk)
      rw [← Nat.add_assoc, find_key_step_sp (f + n) root sp entry rl q found tok rest cls kvs c hrest hq hk hlk,
        List.append_assoc]
      exact ⟨r, hr, hpl.cons⟩
  | @idx n tok e i rest cls xs m c p d w hl hk hn hx hs ih =>
    intro _ f q found entry hq
    by_cases hrest : rest = []
    · subst hrest
      cases hs
      rw [← getD_of_getElem? hx]
      exact ⟨_, findD_idx_last rfl hq hk hn,
        fun _ => ⟨.last hq (.idx hn), by rw [upFound_idx rfl]; simp⟩, nofun⟩
    · obtain ⟨r, hr, hpl⟩ := ih hrest f (q ++ [Seg.idx m]) (found ++ bracket (intStr i)) false (getAt_snoc_idx hq hx)
      rw [← Nat.add_assoc, find_idx_step_sp (f + n) root sp entry rl q found tok e i rest hrest cls xs m hq hk hn]
      exact ⟨r, hr, hpl.cons⟩
  | @hid n tok e i rest v p d w hl hk hs hi hrest hw ih =>
    intro _ f q found entry hq
    obtain ⟨r, hr, hpl⟩ := ih hrest f q (found ++ bracket (intStr i)) false hq
    rw [← Nat.add_assoc,
      findD_idx_step_single (ps := false) (par := .at q) rfl hq hs hk hi hrest]
    exact ⟨r, hr, fun e => by simpa [List.append_assoc] using hpl.1 e, fun e => by simpa [List.append_assoc] using hpl.2 e⟩
  | @hidLast tok e i v hk hs hi =>
    intro _ f q found entry hq
    exact ⟨_, findD_idx_last_single (ps := false) (par := .at q) rfl hq hs hk hi,
      nofun, fun _ => ⟨i, hi, by simp⟩⟩
  | @keyIdx n tok k e i rest cls kvs c p d w hl hk hlk hs ih =>
    intro _ f q found entry hq
    obtain ⟨r, hr, hpl⟩ := ih (by simp) f (q ++ [Seg.key k]) (found ++ (slash ++ k)) false (getAt_snoc_key hq hlk)
    rw [← Nat.add_assoc, find_keyidx_step_sp (f + n) root sp entry rl q found tok k e i rest cls kvs c hq hk hlk,
      List.append_assoc]
    exact ⟨r, hr, hpl.cons⟩

theorem find_walkTo_miss (root : Val) (rl : Bool) (sp : Pos) {n : Nat} {toks0 : List Str} {v : Val} {p : Pos} {cls : Cls}
    {kvs : List (Str × Val)} {w : Str} {hl : Bool} (h : Walk n toks0 v p (.dict cls kvs) w hl)
    (tok k : Str) (idx : Idx) (rest : List Str) (hsplit : splitNameIndex tok = .ok (k, idx))
    (hne : k ≠ []) (hup : k ≠ ['.', '.']) (hstar : k ≠ ['*']) (hlk : lookup k kvs = Option.none)
    (f : Nat) (q : Pos) (found : Str) (entry : Bool) (hq : getAt root q = some v) :
    ∃ u, (hl = false → u = []) ∧
      findD (f + 1 + n) root sp false entry (toks0 ++ tok :: rest) (.at q) rl found
        = .ok (root, { parent := .at (q ++ p), nameIdx := Option.none, value := Val.none, found := found ++ (w ++ u),
                       notFound := some (tok :: rest) }) := by
  obtain ⟨u, hu, heq⟩ := find_walkTo root rl sp h (tok :: rest) (by simp) (f + 1) q found entry hq
  have hq' : getAt root (q ++ p) = some (.dict cls kvs) := by rw [getAt_append, hq]; simpa using h.getAt
  exact ⟨u, hu, by rw [heq, findD_key_miss (ps := false) (par := .at (q ++ p)) rfl hq' hsplit hne hup hstar hlk]⟩

theorem find_walkTo_leaf (root : Val) (rl : Bool) (sp : Pos) {n : Nat} {toks0 : List Str} {v : Val} {p : Pos} {c : Val}
    {w : Str} {hl : Bool} (h : Walk n toks0 v p c w hl) (hnl : isList c = false) (hnd : isDict c = false)
    (tok k : Str) (idx : Idx) (rest : List Str) (hsplit : splitNameIndex tok = .ok (k, idx))
    (hne : k ≠ []) (hup : k ≠ ['.', '.'])
    (f : Nat) (q : Pos) (found : Str) (entry : Bool) (hq : getAt root q = some v) :
    findD (f + 1 + n) root sp false entry (toks0 ++ tok :: rest) (.at q) rl found = .error .IndexError := by
  obtain ⟨u, _, heq⟩ := find_walkTo root rl sp h (tok :: rest) (by simp) (f + 1) q found entry hq
  have hq' : getAt root (q ++ p) = some c := by rw [getAt_append, hq]; simpa using h.getAt
  rw [heq, findD_name_on_single (ps := false) (par := .at (q ++ p)) rfl hq' hsplit hne hup hnl hnd]

/-- a token spells at most two segments (`key[index]`) -/
theorem Spells.pos_length {toks v p c} (h : Spells toks v p c) : p.length ≤ 2 * toks.length := by
  induction h with
  | nil v => exact Nat.le_refl _
  | key _ _ _ ih => exact Nat.succ_le_succ (Nat.le_succ_of_le ih)
  | idx _ _ _ _ ih => exact Nat.succ_le_succ (Nat.le_succ_of_le ih)
  | keyIdx _ _ _ _ _ ih => exact Nat.succ_le_succ (Nat.succ_le_succ ih)

theorem SpellsF.length_le {toks v p c w} (h : SpellsF toks v p c w) : p.length ≤ 2 * toks.length := h.spells.pos_length

/-- One unit of fuel per segment.  What `'..'` would continue with afterwards is `found ++ w`, the text of the walk, the
index of a final index step included (fix C06-b).  The position `sp` of `self` plays no part: only the `'..'`, `new()`
and empty-token branches use it, and a spelling never reaches them. -/
theorem find_spellsF (root : Val) (rl : Bool) (sp : Pos) {toks : List Str} {v : Val} {p : Pos} {c : Val} {w : Str}
    (h : SpellsF toks v p c w) : toks ≠ [] → ∀ (fuel : Nat) (q : Pos) (found : Str) (entry : Bool),
      getAt root q = some v → fuel ≥ p.length →
      ∃ r, findD fuel root sp false entry toks (.at q) rl found = .ok (root, r) ∧ FoundAt root q p c r ∧
        upFound r = found ++ w := by
  intro hne fuel q found entry hq hf
  obtain ⟨f, rfl⟩ := Nat.exists_eq_add_of_le' hf
  obtain ⟨r, hr, hpl⟩ := find_walkEnd root rl sp h.walk hne f q found entry hq
  exact ⟨r, hr, (hpl.1 rfl).1, (hpl.1 rfl).2⟩

/-- `find_spellsF` on `Spells` (no text), at two units of fuel per token -/
theorem find_spells_sp (root : Val) (rl : Bool) (sp : Pos) {toks : List Str} {v : Val} {p : Pos} {c : Val}
    (h : Spells toks v p c) : toks ≠ [] → ∀ (fuel : Nat) (q : Pos) (found : Str) (entry : Bool),
      getAt root q = some v → fuel ≥ 2 * toks.length →
      ∃ r, findD fuel root sp false entry toks (.at q) rl found = .ok (root, r) ∧ FoundAt root q p c r := by
  intro hne fuel q found entry hq hf
  obtain ⟨w, hw⟩ := h.exF
  obtain ⟨r, hr, hfound, _⟩ := find_spellsF root rl sp hw hne fuel q found entry hq (Nat.le_trans hw.length_le hf)
  exact ⟨r, hr, hfound⟩

theorem find_spells (root : Val) (rl : Bool) {toks : List Str} {v : Val} {p : Pos} {c : Val}
    (h : Spells toks v p c) : toks ≠ [] → ∀ (fuel : Nat) (q : Pos) (found : Str) (entry : Bool),
      getAt root q = some v → fuel ≥ 2 * toks.length →
      ∃ r, findD fuel root [] false entry toks (.at q) rl found = .ok (root, r) ∧ FoundAt root q p c r :=
  find_spells_sp root rl [] h

/-- resolving the canonical path of an existing node again, as `__setitem__` and `delete` do with the text `found` -/
theorem find_canonical (root : Val) {P : Pos} {old : Val} {fuel : Nat} (hp : PlainPos P) (hne : P ≠ [])
    (hP : getAt root P = some old) (hf : fuel ≥ 2 * P.length) :
    ∃ r, findD fuel root [] false true (tokenize (slash ++ renderPos P)) (.at []) true slash = .ok (root, r) ∧
      FoundAt root [] P old r := by
  rw [show slash ++ renderPos P = '/' :: renderPos P from rfl, tokenize_render P hp]
  exact find_spells root true (spells_merged P root old hp hP) (mergedToks_ne_nil P hne) fuel [] slash true rfl
    (two_mul_le_fuel (mergedToks_length_le P) hf)

/-- `find_walkTo_miss` with a bound on the fuel -/
theorem find_walk_miss (root : Val) (rl : Bool) {toks0 : List Str} {v : Val} {p : Pos} {cls : Cls}
    {kvs : List (Str × Val)} {w : Str} (h : SpellsF toks0 v p (.dict cls kvs) w)
    (tok k : Str) (idx : Idx) (rest : List Str) (hsplit : splitNameIndex tok = .ok (k, idx))
    (hne : k ≠ []) (hup : k ≠ ['.', '.']) (hstar : k ≠ ['*']) (hl : lookup k kvs = Option.none)
    (fuel : Nat) (q : Pos) (found : Str) (entry : Bool) (hq : getAt root q = some v)
    (hf : fuel ≥ 2 * toks0.length + 1) :
    findD fuel root [] false entry (toks0 ++ tok :: rest) (.at q) rl found
      = .ok (root, { parent := .at (q ++ p), nameIdx := Option.none, value := Val.none, found := found ++ w,
                     notFound := some (tok :: rest) }) := by
  obtain ⟨f, rfl⟩ := Nat.exists_eq_add_of_le' (Nat.le_trans (Nat.add_le_add_right h.length_le 1) hf)
  obtain ⟨u, hu, heq⟩ := find_walkTo_miss root rl [] h.walk tok k idx rest hsplit hne hup hstar hl f q found entry hq
  rw [hu rfl, List.append_nil] at heq
  rw [Nat.add_comm p.length, ← Nat.add_assoc]
  exact heq

/-- the walk along the canonical path of a node, with `k` units of fuel left for what follows -/
theorem find_walk_pos (root : Val) (rl : Bool) {q : Pos} {c : Val} (hp : PlainPos q) (hget : getAt root q = some c)
    (rest : List Str) (hrest : rest ≠ []) (k : Nat) {fuel : Nat} (hf : fuel ≥ k + q.length) :
    ∃ f, fuel = f + k + q.length ∧
      findD fuel root [] false true (mergedToks q ++ rest) (.at []) rl slash
        = findD (f + k) root [] false false rest (.at q) rl (slash ++ renderPos q) := by
  obtain ⟨f, rfl⟩ := Nat.exists_eq_add_of_le' hf
  refine ⟨f, (Nat.add_assoc _ _ _).symm, ?_⟩
  rw [← Nat.add_assoc, find_walkTo_real root rl [] (walk_merged hp hget) rest hrest (f + k) [] slash true rfl,
    List.nil_append]

end N0.XPath
