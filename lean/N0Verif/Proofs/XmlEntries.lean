import N0Verif.Proofs.XmlRead
/-!
  C12, what the writer emits for one entry (`EntryOut`), for the entries of a dict (`EntriesOut`) and
  for the items of a repeated element (`RepeatOut`; fix C12-b: one element per item), and how
  `xmltodict`'s `push_data` reads them back (a repeated key becomes a plain list, a single one stays
  the element itself).  The proofs are carried by two parts of these: `ElemsOut`, the layout that `EntriesOut` and `RepeatOut`
  share, and `ItemElems`, what the elements of a repeated key have in common with its items.
  The parameter `ne : Bool` of `EntriesOut`, `ElemsOut` and `RepeatOut` is the `nonEmpty` of `xmlEntries`/`xmlRepeat`: whether the writer's `result` holds
  something already, in which case (and only then) the piece may begin with a line break.
-/
namespace N0.Xml
open N0 N0.Py

theorem valOf_leaf (k d : Str) :
    valOf (Elem.mk k d []) = if (stripWs d).isEmpty then Val.none else Val.str (stripWs d) := by
  simp [valOf, kidsOf]

theorem kidsOf_cons (n d : Str) (ks es : List Elem) (acc : List (Str × Val)) :
    kidsOf (Elem.mk n d ks :: es) acc = kidsOf es (pushData n (valOf (Elem.mk n d ks)) acc) := by
  simp [kidsOf]

theorem valOf_node (k d : Str) (ks : List Elem) (hne : kidsOf ks [] ≠ []) (hd : stripWs d = []) :
    valOf (Elem.mk k d ks) = Val.dict .n0 (kidsOf ks []) := by
  cases h : kidsOf ks [] with
  | nil => exact absurd h hne
  | cons p kvs => simp [valOf, h, hd]

theorem pushData_fresh (k : Str) (v : Val) (acc : List (Str × Val)) (h : ∀ q ∈ acc, q.1 ≠ k) :
    pushData k v acc = acc ++ [(k, v)] := by
  induction acc with
  | nil => rfl
  | cons q acc ih =>
    obtain ⟨k', v'⟩ := q
    have hq : k' ≠ k := h (k', v') (by simp)
    simp only [pushData, hq, if_false, List.cons_append]
    rw [ih (fun q hq' => h q (by simp [hq']))]

theorem valOf_num (k r : Str) (h : NumLex r) : valOf (Elem.mk k r []) = Val.str r := by
  rw [valOf_leaf, h.strip]
  have : r.isEmpty = false := by cases r with
    | nil => exact absurd rfl h.1
    | cons _ _ => rfl
  simp [this]

/-- the text written for `(k, v)`: optional indent, then one element that reads as `normalise v` -/
def EntryOut (cfg : Cfg) (k : Str) (v : Val) (indent : Nat) (body : Str) : Prop :=
  ∃ bpre tl d ks, body = bpre ++ ('<' :: k ++ tl ++ ['>']) ∧ (bpre = [] ∨ bpre = spaces indent) ∧
    ReadsElem ('<' :: k ++ tl ++ ['>']) (Elem.mk k d ks) ∧ valOf (Elem.mk k d ks) = normalise cfg v

/-- the text written for the entries `kvs` when `result` was non-empty or not before (`ne`): blanks, then elements separated by
blanks, whose `xmltodict` reading appends `normKvs kvs` -/
def EntriesOut (cfg : Cfg) (kvs : List (Str × Val)) (ne : Bool) (out : Str) : Prop :=
  ∃ pre core w ks, out = pre ++ core ∧ (∀ c ∈ pre, c = ' ' ∨ (ne = true ∧ c = '\n')) ∧
    (kvs = [] → out = []) ∧ (kvs ≠ [] → ∃ tl, core = '<' :: tl) ∧ Blank w ∧ ReadsIn core w ks ∧
    (∀ acc, (∀ p ∈ kvs, ∀ q ∈ acc, q.1 ≠ p.1) → kidsOf ks acc = acc ++ normKvs cfg kvs)

/-- the layout part of `EntriesOut`, shared with the items of a repeated element: `out` is blanks, then elements separated by blanks,
which read inside an open element as the children `ks`; it is empty exactly when `isNil` -/
def ElemsOut (isNil : Prop) (ne : Bool) (out : Str) (ks : List Elem) : Prop :=
  ∃ pre core w, out = pre ++ core ∧ (∀ c ∈ pre, c = ' ' ∨ (ne = true ∧ c = '\n')) ∧
    (isNil → out = []) ∧ (¬ isNil → ∃ tl, core = '<' :: tl) ∧ Blank w ∧ ReadsIn core w ks

theorem EntriesOut_iff {cfg : Cfg} {kvs : List (Str × Val)} {ne : Bool} {out : Str} :
    EntriesOut cfg kvs ne out ↔ ∃ ks, ElemsOut (kvs = []) ne out ks ∧
      ∀ acc, (∀ p ∈ kvs, ∀ q ∈ acc, q.1 ≠ p.1) → kidsOf ks acc = acc ++ normKvs cfg kvs :=
  ⟨fun ⟨pre, core, w, ks, h1, h2, h3, h4, h5, h6, h7⟩ => ⟨ks, ⟨pre, core, w, h1, h2, h3, h4, h5, h6⟩, h7⟩,
   fun ⟨ks, ⟨pre, core, w, h1, h2, h3, h4, h5, h6⟩, h7⟩ => ⟨pre, core, w, ks, h1, h2, h3, h4, h5, h6, h7⟩⟩

theorem openclose_shape (k inner : Str) :
    openTag k [] ++ inner ++ closeTag k = '<' :: k ++ ('>' :: inner ++ '<' :: '/' :: k) ++ ['>'] := by
  simp [openTag, closeTag]

theorem empty_shape (k : Str) : emptyTag k [] = '<' :: k ++ ['/'] ++ ['>'] := by
  simp [emptyTag]

/-- so the loop's `result` is non-empty afterwards -/
theorem EntryOut.isEmpty_append {cfg : Cfg} {k : Str} {v : Val} {indent : Nat} {body : Str}
    (h : EntryOut cfg k v indent body) (p : Str) : (p ++ body).isEmpty = false := by
  obtain ⟨bpre, tl, d, ks, rfl, _⟩ := h
  cases p <;> cases bpre <;> rfl

theorem EntryOut.elem {cfg : Cfg} {k : Str} {v : Val} {indent : Nat} {bpre txt d : Str} {ks : List Elem}
    (hb : bpre = [] ∨ bpre = spaces indent) (hk : isName k = true) (hr : ReadsIn txt d ks)
    (hv : valOf (Elem.mk k d ks) = normalise cfg v) :
    EntryOut cfg k v indent (bpre ++ (openTag k [] ++ txt ++ closeTag k)) := by
  refine ⟨bpre, '>' :: txt ++ '<' :: '/' :: k, d, ks, ?_, hb, ?_, hv⟩
  · rw [openclose_shape]
  · rw [← openclose_shape]
    exact ReadsElem.elem hk hr

theorem EntryOut.leaf {cfg : Cfg} {k : Str} {v : Val} {indent : Nat} {txt r : Str} (hk : isName k = true)
    (hr : ReadsIn txt r []) (hv : valOf (Elem.mk k r []) = normalise cfg v) :
    EntryOut cfg k v indent (openTag k [] ++ txt ++ closeTag k) :=
  EntryOut.elem (bpre := []) (Or.inl rfl) hk hr hv

theorem EntryOut.emptyElem {cfg : Cfg} {k : Str} {v : Val} {indent : Nat} (hk : isName k = true)
    (hv : normalise cfg v = Val.none) : EntryOut cfg k v indent (emptyTag k []) := by
  refine ⟨[], ['/'], [], [], ?_, Or.inl rfl, ?_, ?_⟩
  · rw [empty_shape]; rfl
  · rw [← empty_shape]; exact ReadsElem.empty hk
  · rw [hv, valOf_leaf]; rfl

theorem EntryOut.num {cfg : Cfg} {k : Str} {v : Val} {indent : Nat} {r : Str} (hk : isName k = true)
    (hr : NumLex r) (hv : normalise cfg v = Val.str r) :
    EntryOut cfg k v indent (openTag k [] ++ r ++ closeTag k) :=
  EntryOut.leaf hk hr.reads (by rw [valOf_num k r hr, hv])

theorem EntryOut.str {cfg : Cfg} (hcfg : cfgOk cfg = true) {k : Str} {indent inc : Nat} {s : Str}
    (hk : isName k = true) (hs : isXmlText s = true) :
    EntryOut cfg k (Val.str s) indent (strElem cfg inc k indent s) := by
  have htb : tableOk cfg.table = true := by
    simp only [cfgOk, Bool.and_eq_true] at hcfg; exact hcfg.1.1
  unfold strElem
  by_cases hc : isCdataValue cfg s = true
  · simp only [hc, if_true]
    obtain ⟨a, b, ha, hb, hread⟩ := ReadsIn.cdataValue hcfg hc hs
    have h1 : ReadsIn (['\n'] ++ spaces (indent + inc)) (['\n'] ++ spaces (indent + inc)) [] :=
      ReadsIn.blank (blank_nl.append (blank_spaces _))
    have h2 : ReadsIn (['\n'] ++ spaces indent) (['\n'] ++ spaces indent) [] :=
      ReadsIn.blank (blank_nl.append (blank_spaces _))
    have h := ReadsIn.append (ReadsIn.append h1 hread) h2
    have hshape : ['\n'] ++ spaces (indent + inc) ++ s ++ ['\n'] ++ spaces indent
        = (['\n'] ++ spaces (indent + inc) ++ s) ++ (['\n'] ++ spaces indent) := by simp [List.append_assoc]
    rw [hshape]
    refine EntryOut.leaf hk h ?_
    have hsur : stripWs ((['\n'] ++ spaces (indent + inc)) ++ (a ++ cdataInner (stripWs s) ++ b) ++ (['\n'] ++ spaces indent))
        = stripWs (cdataInner (stripWs s)) := by
      have := stripWs_surround ((['\n'] ++ spaces (indent + inc)) ++ a) (cdataInner (stripWs s)) (b ++ (['\n'] ++ spaces indent))
        ((blank_nl.append (blank_spaces _)).allSpace.append ha) (hb.append (blank_nl.append (blank_spaces _)).allSpace)
      simpa [List.append_assoc] using this
    rw [valOf_leaf, hsur]
    simp [normalise, normText, hc]
  · have hc' : isCdataValue cfg s = false := by simpa using hc
    simp only [hc', Bool.false_eq_true, if_false]
    refine EntryOut.leaf hk (ReadsIn.escape htb s hs) ?_
    rw [valOf_leaf]
    simp [normalise, normText, hc']

theorem isAttrKey_name {k : Str} (hk : isName k = true) : isAttrKey k = false := by
  obtain ⟨c, cs, rfl, hc, _⟩ := isName_cons hk
  have : c ≠ '@' := by intro h'; subst h'; revert hc; decide
  simp [isAttrKey, startsWith, this]

theorem attribs_shaped {lists : Bool} {kvs : List (Str × Val)} (h : shapedKvs lists kvs = true) : attribs kvs = .ok [] := by
  induction kvs with
  | nil => rfl
  | cons p kvs ih =>
    obtain ⟨k, v⟩ := p
    simp only [shapedKvs, Bool.and_eq_true] at h
    simp only [attribs, isAttrKey_name h.1.1, Bool.false_eq_true, if_false]
    exact ih h.2

theorem normKvs_ne_nil {cfg : Cfg} {kvs : List (Str × Val)} (h : kvs ≠ []) : normKvs cfg kvs ≠ [] := by
  cases kvs with
  | nil => exact absurd rfl h
  | cons p kvs => obtain ⟨k, v⟩ := p; simp [normKvs]

/-- XML cannot tell `<a>x</a>` from a one-item repetition -/
theorem normalise_one_item (cfg : Cfg) (c : Cls) (x : Val) : normalise cfg (.list c [x]) = normalise cfg x := by
  simp [normalise, normList]

theorem normalise_repeated (cfg : Cfg) (c : Cls) (x y : Val) (xs : List Val) :
    normalise cfg (.list c (x :: y :: xs)) = .list .plain (normalise cfg x :: normalise cfg y :: normList cfg xs) := by
  simp [normalise, normList]

theorem EntryOut.dict {cfg : Cfg} {k : Str} {c : Cls} {kvs : List (Str × Val)} {indent : Nat} {sub : Str}
    (hk : isName k = true) (hsub : EntriesOut cfg kvs false sub) :
    EntryOut cfg k (Val.dict c kvs) indent (dictElem cfg k indent sub []) := by
  obtain ⟨pre, core, w, ks, hout, hpre, hnil, hcons, hw, hread, hkids⟩ := hsub
  by_cases hkv : kvs = []
  · have hs0 : sub = [] := hnil hkv
    subst hkv
    rw [hs0]
    simp only [dictElem, List.isEmpty_nil, Bool.not_true, Bool.false_eq_true, if_false]
    exact EntryOut.emptyElem hk (by simp [normalise])
  · obtain ⟨tl, hcore⟩ := hcons hkv
    have hpre' : ∀ c ∈ pre, c = ' ' := by
      intro c hc
      rcases hpre c hc with h | h
      · exact h
      · exact absurd h.1 (by simp)
    have hpreB : Blank pre := fun c hc => Or.inl (hpre' c hc)
    have hsubne : sub.isEmpty = false := by
      rw [hout, hcore]; cases pre <;> simp
    have hk0 : kidsOf ks [] = normKvs cfg kvs := by
      have := hkids [] (by intro p _ q hq; simp at hq)
      simpa using this
    have hnorm : normalise cfg (Val.dict c kvs) = Val.dict .n0 (normKvs cfg kvs) := by
      have : kvs.isEmpty = false := List.isEmpty_eq_false_iff.2 hkv
      simp [normalise, this]
    have hval : ∀ d, Blank d → valOf (Elem.mk k d ks) = normalise cfg (Val.dict c kvs) := fun d hd => by
      rw [hnorm, ← hk0]
      exact valOf_node _ _ _ (hk0 ▸ normKvs_ne_nil hkv) (stripWs_allSpace hd.allSpace)
    simp only [dictElem, hsubne, Bool.not_false, if_true]
    by_cases hnl : sub.contains '\n' = true
    · simp only [hnl, if_true]
      have hin : ReadsIn (['\n'] ++ sub ++ (['\n'] ++ spaces indent))
          (['\n'] ++ (pre ++ w) ++ (['\n'] ++ spaces indent)) ks := by
        rw [hout]
        simpa using ReadsIn.append (ReadsIn.append (ReadsIn.blank blank_nl) (ReadsIn.append (ReadsIn.blank hpreB) hread))
          (ReadsIn.blank (blank_nl.append (blank_spaces indent)))
      have := EntryOut.elem (cfg := cfg) (v := Val.dict c kvs) (indent := indent) (bpre := []) (Or.inl rfl) hk hin
        (hval _ ((blank_nl.append (hpreB.append hw)).append (blank_nl.append (blank_spaces indent))))
      simpa [List.append_assoc] using this
    · simp only [hnl]
      have hdrop : sub.dropWhile isPySpace = core := by
        rw [hout, List.dropWhile_append_of_pos (fun c hc => by rw [hpre' c hc]; decide), hcore]
        simp [show isPySpace '<' = false by decide]
      have := EntryOut.elem (cfg := cfg) (v := Val.dict c kvs) (indent := indent)
        (bpre := if cfg.parm.contains k then spaces indent else [])
        (by split
            · exact Or.inr rfl
            · exact Or.inl rfl) hk hread (hval w hw)
      simpa [hdrop, List.append_assoc] using this

theorem ElemsOut.nil {isNil : Prop} (h : isNil) (ne : Bool) : ElemsOut isNil ne [] [] :=
  ⟨[], [], [], rfl, fun _ hc => absurd hc List.not_mem_nil, fun _ => rfl, fun hn => absurd h hn, blank_nil,
    ReadsIn.nil⟩

theorem EntriesOut.nil (cfg : Cfg) (ne : Bool) : EntriesOut cfg [] ne [] :=
  EntriesOut_iff.2 ⟨[], ElemsOut.nil rfl ne, by intro acc _; simp [kidsOf, normKvs]⟩

theorem entryPrefix_chars (cfg : Cfg) (k : Str) (indent : Nat) (ne : Bool) :
    ∀ c ∈ entryPrefix cfg k indent ne, c = ' ' ∨ (ne = true ∧ c = '\n') := by
  intro c hc
  unfold entryPrefix at hc
  split at hc
  · rcases List.mem_append.1 hc with h | h
    · cases ne with
      | true => simp at h; exact Or.inr ⟨rfl, h⟩
      | false => simp at h
    · exact Or.inl (List.mem_replicate.1 h).2
  · simp at hc

theorem ElemsOut.append {P Q R : Prop} {ne : Bool} {s r : Str} {es ks2 : List Elem}
    (h1 : ElemsOut P ne s es) (hP : ¬ P) (h2 : ElemsOut Q true r ks2) (hR : ¬ R) :
    ElemsOut R ne (s ++ r) (es ++ ks2) := by
  obtain ⟨pre1, core1, w1, hout1, hpre1, _, hcons1, hw1, hread1⟩ := h1
  obtain ⟨pre2, core2, w2, hout2, hpre2, _, _, hw2, hread2⟩ := h2
  have hpre2B : Blank pre2 := by
    intro c hc
    rcases hpre2 c hc with h | h
    · exact Or.inl h
    · exact Or.inr h.2
  obtain ⟨tl1, hcore1⟩ := hcons1 hP
  exact ⟨pre1, core1 ++ (pre2 ++ core2), w1 ++ (pre2 ++ w2), by rw [hout1, hout2]; simp [List.append_assoc], hpre1,
    fun h => absurd h hR, fun _ => ⟨tl1 ++ (pre2 ++ core2), by rw [hcore1]; simp⟩,
    hw1.append (hpre2B.append hw2), ReadsIn.append hread1 (ReadsIn.append (ReadsIn.blank hpre2B) hread2)⟩

theorem ElemsOut.single {cfg : Cfg} {k : Str} {v : Val} {indent : Nat} {ne : Bool} {body : Str}
    (hb : EntryOut cfg k v indent body) :
    ∃ d ks, valOf (Elem.mk k d ks) = normalise cfg v ∧
      ElemsOut False ne (entryPrefix cfg k indent ne ++ body) [Elem.mk k d ks] := by
  obtain ⟨bpre, tl, d, ks, hbody, hbpre, hre, hval⟩ := hb
  refine ⟨d, ks, hval, entryPrefix cfg k indent ne ++ bpre, '<' :: k ++ tl ++ ['>'], [], ?_, ?_, fun h => h.elim,
    fun _ => ⟨k ++ tl ++ ['>'], by simp⟩, blank_nil, hre.readsIn⟩
  · rw [hbody]; simp [List.append_assoc]
  · intro c hc
    rcases List.mem_append.1 hc with h | h
    · exact entryPrefix_chars cfg k indent ne c h
    · rcases hbpre with h0 | h0
      · rw [h0] at h; simp at h
      · rw [h0] at h; exact Or.inl (List.mem_replicate.1 h).2

theorem ElemsOut.cons {cfg : Cfg} {k : Str} {v : Val} {indent : Nat} {ne : Bool} {body r : Str}
    {P Q : Prop} {ks2 : List Elem} (hb : EntryOut cfg k v indent body) (hr : ElemsOut P true r ks2) (hQ : ¬ Q) :
    ∃ d ks, valOf (Elem.mk k d ks) = normalise cfg v ∧
      ElemsOut Q ne (entryPrefix cfg k indent ne ++ body ++ r) (Elem.mk k d ks :: ks2) := by
  obtain ⟨d, ks, hval, h1⟩ := ElemsOut.single (ne := ne) hb
  exact ⟨d, ks, hval, ElemsOut.append h1 not_false hr hQ⟩

theorem EntriesOut.cons {cfg : Cfg} {k : Str} {v : Val} {rest : List (Str × Val)} {indent : Nat} {ne : Bool}
    {body r : Str} (hb : EntryOut cfg k v indent body) (hr : EntriesOut cfg rest true r)
    (hfresh : ∀ p ∈ rest, p.1 ≠ k) :
    EntriesOut cfg ((k, v) :: rest) ne (entryPrefix cfg k indent ne ++ body ++ r) := by
  obtain ⟨ks2, hr2, hkids2⟩ := EntriesOut_iff.1 hr
  obtain ⟨d, ks, hval, hout⟩ := ElemsOut.cons (ne := ne) hb hr2 (List.cons_ne_nil _ _)
  refine EntriesOut_iff.2 ⟨_, hout, ?_⟩
  intro acc hacc
  rw [kidsOf_cons, hval]
  rw [pushData_fresh k _ acc (fun q hq => hacc (k, v) (by simp) q hq)]
  rw [hkids2 (acc ++ [(k, normalise cfg v)])]
  · simp [normKvs, List.append_assoc]
  · intro p hp q hq
    rcases List.mem_append.1 hq with h | h
    · exact hacc p (by simp [hp]) q h
    · have : q = (k, normalise cfg v) := by simpa using h
      rw [this]
      exact fun h' => hfresh p hp h'.symm

theorem keysNodup_cons {k : Str} {v : Val} {rest : List (Str × Val)} (h : keysNodup ((k, v) :: rest) = true) :
    (∀ p ∈ rest, p.1 ≠ k) ∧ keysNodup rest = true := by
  simp only [keysNodup, Bool.and_eq_true, Bool.not_eq_true', List.any_eq_false, decide_eq_true_eq] at h
  exact ⟨fun p hp => h.1 p hp, h.2⟩

theorem valOf_not_list (e : Elem) (c : Cls) (ys : List Val) : valOf e ≠ .list c ys := by
  cases e with
  | mk n d ks =>
    intro h
    simp only [valOf] at h
    split at h
    · split at h <;> cases h
    · cases h

theorem pushData_second (k : Str) (v' v : Val) (acc : List (Str × Val)) (hfresh : ∀ q ∈ acc, q.1 ≠ k)
    (hv' : ∀ c xs, v' ≠ .list c xs) :
    pushData k v (acc ++ [(k, v')]) = acc ++ [(k, .list .plain [v', v])] := by
  induction acc with
  | nil =>
    cases v' with
    | list c xs => exact absurd rfl (hv' c xs)
    | _ => simp [pushData]
  | cons q acc ih =>
    obtain ⟨k', w⟩ := q
    have hq : k' ≠ k := hfresh (k', w) (by simp)
    simp only [List.cons_append, pushData, hq, if_false]
    rw [ih (fun q hq' => hfresh q (by simp [hq']))]

theorem pushData_more (k : Str) (ys : List Val) (v : Val) (acc : List (Str × Val)) (hfresh : ∀ q ∈ acc, q.1 ≠ k) :
    pushData k v (acc ++ [(k, .list .plain ys)]) = acc ++ [(k, .list .plain (ys ++ [v]))] := by
  induction acc with
  | nil => simp [pushData]
  | cons q acc ih =>
    obtain ⟨k', w⟩ := q
    have hq : k' ≠ k := hfresh (k', w) (by simp)
    simp only [List.cons_append, pushData, hq, if_false]
    rw [ih (fun q hq' => hfresh q (by simp [hq']))]

theorem kidsOf_nil (acc : List (Str × Val)) : kidsOf [] acc = acc := by simp [kidsOf]

theorem kidsOf_append (a b : List Elem) (acc : List (Str × Val)) : kidsOf (a ++ b) acc = kidsOf b (kidsOf a acc) := by
  induction a generalizing acc with
  | nil => simp [kidsOf_nil]
  | cons e a ih =>
    cases e with
    | mk n d ks => simp only [List.cons_append, kidsOf_cons, ih]

/-- the elements read for the items `xs` of a repeated element `k`: all named `k`, each with the
normalised item as its value -/
def ItemElems (cfg : Cfg) (k : Str) : List Val → List Elem → Prop
  | [], [] => True
  | x :: xs, e :: es => (∃ d ks, e = Elem.mk k d ks ∧ valOf (Elem.mk k d ks) = normalise cfg x) ∧ ItemElems cfg k xs es
  | _, _ => False

theorem kidsOf_items_more (cfg : Cfg) (k : Str) : ∀ (xs : List Val) (es : List Elem), ItemElems cfg k xs es →
    ∀ (ys : List Val) (acc : List (Str × Val)), (∀ q ∈ acc, q.1 ≠ k) →
      kidsOf es (acc ++ [(k, .list .plain ys)]) = acc ++ [(k, .list .plain (ys ++ normList cfg xs))]
  | [], [], _, ys, acc, _ => by simp [kidsOf_nil, normList]
  | [], _ :: _, h, _, _, _ => by simp [ItemElems] at h
  | _ :: _, [], h, _, _, _ => by simp [ItemElems] at h
  | x :: xs, e :: es, h, ys, acc, hf => by
    obtain ⟨⟨d, ks, rfl, hval⟩, hrest⟩ := h
    rw [kidsOf_cons, hval, pushData_more k ys _ acc hf, kidsOf_items_more cfg k xs es hrest _ acc hf]
    simp [normList]

/-- **the xmltodict convention for repeated elements**: the elements written for a non-empty list
load back as the item itself (one item) or as the plain list of the items (two or more) -/
theorem kidsOf_items (cfg : Cfg) (k : Str) (c : Cls) (xs : List Val) (es : List Elem) (hne : xs ≠ [])
    (h : ItemElems cfg k xs es) (acc : List (Str × Val)) (hf : ∀ q ∈ acc, q.1 ≠ k) :
    kidsOf es acc = acc ++ [(k, normalise cfg (.list c xs))] := by
  cases xs with
  | nil => exact absurd rfl hne
  | cons x1 xs1 =>
    cases es with
    | nil => simp [ItemElems] at h
    | cons e1 es1 =>
      obtain ⟨⟨d1, ks1, rfl, hval1⟩, h1⟩ := h
      rw [kidsOf_cons, hval1, pushData_fresh k _ acc hf]
      cases xs1 with
      | nil =>
        cases es1 with
        | nil => rw [kidsOf_nil, normalise_one_item]
        | cons _ _ => simp [ItemElems] at h1
      | cons x2 xs2 =>
        cases es1 with
        | nil => simp [ItemElems] at h1
        | cons e2 es2 =>
          obtain ⟨⟨d2, ks2, rfl, hval2⟩, h2⟩ := h1
          have hnl : ∀ c ys, normalise cfg x1 ≠ .list c ys := by
            intro c ys; rw [← hval1]; exact valOf_not_list _ c ys
          rw [kidsOf_cons, hval2, pushData_second k _ _ acc hf hnl,
            kidsOf_items_more cfg k xs2 es2 h2 _ acc hf, normalise_repeated]
          rfl

/-- the text written for the entries `(k, x)`, `x ∈ xs`: blanks, then elements named `k`
separated by blanks, one per item -/
def RepeatOut (cfg : Cfg) (k : Str) (xs : List Val) (ne : Bool) (out : Str) : Prop :=
  ∃ es, ElemsOut (xs = []) ne out es ∧ ItemElems cfg k xs es

theorem RepeatOut.nil (cfg : Cfg) (k : Str) (ne : Bool) : RepeatOut cfg k [] ne [] :=
  ⟨[], ElemsOut.nil rfl ne, trivial⟩

theorem RepeatOut.cons {cfg : Cfg} {k : Str} {x : Val} {xs : List Val} {indent : Nat} {ne : Bool}
    {body r : Str} (hb : EntryOut cfg k x indent body) (hr : RepeatOut cfg k xs true r) :
    RepeatOut cfg k (x :: xs) ne (entryPrefix cfg k indent ne ++ body ++ r) := by
  obtain ⟨es2, hr2, hitems2⟩ := hr
  obtain ⟨d, ks, hval, hout⟩ := ElemsOut.cons (ne := ne) hb hr2 (List.cons_ne_nil _ _)
  exact ⟨_, hout, ⟨d, ks, rfl, hval⟩, hitems2⟩

theorem EntriesOut.consList {cfg : Cfg} {k : Str} {c : Cls} {xs : List Val} {rest : List (Str × Val)} {ne : Bool}
    {s r : Str} (hs : RepeatOut cfg k xs ne s) (hr : EntriesOut cfg rest true r) (hne : xs ≠ [])
    (hfresh : ∀ p ∈ rest, p.1 ≠ k) :
    EntriesOut cfg ((k, .list c xs) :: rest) ne (s ++ r) := by
  obtain ⟨es, hs1, hitems⟩ := hs
  obtain ⟨ks2, hr2, hkids2⟩ := EntriesOut_iff.1 hr
  refine EntriesOut_iff.2 ⟨_, ElemsOut.append hs1 hne hr2 (List.cons_ne_nil _ _), ?_⟩
  intro acc hacc
  rw [kidsOf_append, kidsOf_items cfg k c xs es hne hitems acc (fun q hq => hacc (k, .list c xs) (by simp) q hq)]
  rw [hkids2 (acc ++ [(k, normalise cfg (.list c xs))])]
  · simp [normKvs, List.append_assoc]
  · intro p hp q hq
    rcases List.mem_append.1 hq with h | h
    · exact hacc p (by simp [hp]) q h
    · have : q = (k, normalise cfg (.list c xs)) := by simpa using h
      rw [this]
      exact fun h' => hfresh p hp h'.symm

end N0.Xml
