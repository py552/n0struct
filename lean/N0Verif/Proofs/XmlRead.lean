import N0Verif.Model.Xml
import N0Verif.Proofs.Digits
import N0Verif.Py.Lemmas
/-!
  C12, the reader: the character machine `run` on the fragments the writer emits (tags, escaped text,
  CDATA sections, number lexemes), the declaration line and the document level.
-/
namespace N0.Xml
open N0 N0.Py

theorem run_eq_foldlM (st : RSt) (s : Str) : run st s = s.foldlM step st := by
  induction s generalizing st with
  | nil => rfl
  | cons c s ih => simp only [run, List.foldlM_cons, ih]; cases step st c <;> rfl

theorem run_append_ok {st st' : RSt} {a : Str} (b : Str) (h : run st a = .ok st') :
    run st (a ++ b) = run st' b := by
  simp_all only [run_eq_foldlM, List.foldlM_append]; rfl

/-- character data that the machine copies as is -/
def Plain (c : Char) : Prop := isXmlChar c = true ∧ c ≠ '<' ∧ c ≠ '&' ∧ c ≠ '>'

/-- what the writer puts between elements -/
def Blank (w : Str) : Prop := ∀ c ∈ w, c = ' ' ∨ c = '\n'

theorem plain_space : Plain ' ' := by unfold Plain; decide
theorem plain_nl : Plain '\n' := by unfold Plain; decide

theorem Blank.plain {w : Str} (h : Blank w) : ∀ c ∈ w, Plain c := by
  intro c hc
  rcases h c hc with rfl | rfl
  · exact plain_space
  · exact plain_nl

theorem Blank.append {a b : Str} (ha : Blank a) (hb : Blank b) : Blank (a ++ b) := by
  intro c hc
  rcases List.mem_append.1 hc with h | h
  · exact ha c h
  · exact hb c h

theorem blank_spaces (n : Nat) : Blank (spaces n) := by
  intro c hc
  left
  exact (List.mem_replicate.1 hc).2

theorem blank_nl : Blank ['\n'] := by
  intro c hc; right; simpa using hc

theorem blank_nil : Blank [] := by intro c hc; simp at hc

/-- `s`, read as content of an open element, adds `w` to its character data and `ks` to its children -/
def ReadsIn (s w : Str) (ks : List Elem) : Prop :=
  ∀ (cur : Frame) (stack : List Frame) (rb : Nat), stack ≠ [] →
    ∃ rb', run ⟨cur, stack, .text rb⟩ s = .ok ⟨⟨cur.name, cur.data ++ w, cur.kids ++ ks⟩, stack, .text rb'⟩

/-- `s` is one element `e`, wherever an element may start -/
def ReadsElem (s : Str) (e : Elem) : Prop :=
  ∀ (cur : Frame) (stack : List Frame) (rb : Nat), (stack = [] → cur.kids = []) →
    run ⟨cur, stack, .text rb⟩ s = .ok ⟨⟨cur.name, cur.data, cur.kids ++ [e]⟩, stack, .text 0⟩

theorem ReadsIn.nil : ReadsIn [] [] [] := by
  intro cur stack rb _
  exact ⟨rb, by simp [run]⟩

theorem ReadsIn.append {s1 s2 w1 w2 : Str} {k1 k2 : List Elem}
    (h1 : ReadsIn s1 w1 k1) (h2 : ReadsIn s2 w2 k2) : ReadsIn (s1 ++ s2) (w1 ++ w2) (k1 ++ k2) := by
  intro cur stack rb hs
  obtain ⟨rb1, e1⟩ := h1 cur stack rb hs
  obtain ⟨rb2, e2⟩ := h2 ⟨cur.name, cur.data ++ w1, cur.kids ++ k1⟩ stack rb1 hs
  refine ⟨rb2, ?_⟩
  rw [run_append_ok _ e1, e2]
  simp [List.append_assoc]

theorem ReadsElem.readsIn {s : Str} {e : Elem} (h : ReadsElem s e) : ReadsIn s [] [e] := by
  intro cur stack rb hs
  refine ⟨0, ?_⟩
  rw [h cur stack rb (fun h0 => absurd h0 hs)]
  simp

theorem step_text_plain (cur : Frame) (stack : List Frame) (rb : Nat) (hs : stack ≠ []) (c : Char) (hc : Plain c) :
    ∃ rb', step ⟨cur, stack, .text rb⟩ c = .ok ⟨⟨cur.name, cur.data ++ [c], cur.kids⟩, stack, .text rb'⟩ := by
  obtain ⟨hx, h1, h2, h3⟩ := hc
  have hne : stack.isEmpty = false := List.isEmpty_eq_false_iff.2 hs
  have hcr : c ≠ '\r' := by
    intro h; subst h; revert hx; decide
  by_cases hb : c = ']'
  · exact ⟨rb + 1, by simp [step, stepText, hne, hb, addData]⟩
  · exact ⟨0, by simp [step, stepText, h1, h2, h3, hne, hb, hcr, hx, addData]⟩

theorem ReadsIn.plain (s : Str) (h : ∀ c ∈ s, Plain c) : ReadsIn s s [] := by
  induction s with
  | nil => exact ReadsIn.nil
  | cons c s ih =>
    intro cur stack rb hs
    obtain ⟨rb1, e1⟩ := step_text_plain cur stack rb hs c (h c (by simp))
    obtain ⟨rb2, e2⟩ := ih (fun d hd => h d (by simp [hd])) ⟨cur.name, cur.data ++ [c], cur.kids⟩ stack rb1 hs
    refine ⟨rb2, ?_⟩
    simp only [run, e1, e2]
    simp [List.append_assoc]

theorem ReadsIn.blank {w : Str} (h : Blank w) : ReadsIn w w [] := ReadsIn.plain w h.plain

theorem isName_cons {k : Str} (h : isName k = true) :
    ∃ c cs, k = c :: cs ∧ isNameStart c = true ∧ ∀ d ∈ cs, isNameChar d = true := by
  cases k with
  | nil => simp [isName] at h
  | cons c cs =>
    refine ⟨c, cs, rfl, ?_, ?_⟩
    · simp only [isName, Bool.and_eq_true] at h
      simpa [isNameStart] using h.1
    · intro d hd
      simp only [isName, Bool.and_eq_true, List.all_eq_true] at h
      have := h.2 d hd
      simp only [isNameChar, isNameStart]
      simp only [Bool.or_eq_true, decide_eq_true_eq] at this ⊢
      rcases this with (((h1 | h1) | h1) | h1) | h1
      · exact Or.inl (Or.inl (Or.inl (Or.inl h1)))
      · exact Or.inl (Or.inl (Or.inr h1))
      · exact Or.inl (Or.inl (Or.inl (Or.inr h1)))
      · exact Or.inl (Or.inr h1)
      · exact Or.inr h1

theorem run_nameChars (cur : Frame) (stack : List Frame) (m : Str → Mode)
    (hm : ∀ acc d, acc ≠ [] → isNameChar d = true → step ⟨cur, stack, m acc⟩ d = .ok ⟨cur, stack, m (acc ++ [d])⟩)
    (acc cs rest : Str) (hacc : acc ≠ []) (h : ∀ d ∈ cs, isNameChar d = true) :
    run ⟨cur, stack, m acc⟩ (cs ++ rest) = run ⟨cur, stack, m (acc ++ cs)⟩ rest := by
  induction cs generalizing acc with
  | nil => simp
  | cons c cs ih =>
    rw [List.cons_append, run, hm acc c hacc (h c (by simp))]
    simp only
    rw [ih (acc ++ [c]) (by simp) (fun d hd => h d (by simp [hd]))]
    simp [List.append_assoc]

theorem run_otag (cur : Frame) (stack : List Frame) (acc cs rest : Str) (hacc : acc ≠ [])
    (h : ∀ d ∈ cs, isNameChar d = true) :
    run ⟨cur, stack, .otag acc⟩ (cs ++ rest) = run ⟨cur, stack, .otag (acc ++ cs)⟩ rest :=
  run_nameChars cur stack .otag (fun _ d _ hd => by simp [step, stepOtag, hd]) acc cs rest hacc h

theorem run_ctag (cur : Frame) (stack : List Frame) (acc cs rest : Str) (hacc : acc ≠ [])
    (h : ∀ d ∈ cs, isNameChar d = true) :
    run ⟨cur, stack, .ctag acc⟩ (cs ++ rest) = run ⟨cur, stack, .ctag (acc ++ cs)⟩ rest :=
  run_nameChars cur stack .ctag (fun _ d _ hd => by simp [step, stepCtag, hd]) acc cs rest hacc h

theorem isNameStart_ne {c : Char} (h : isNameStart c = true) : c ≠ '/' ∧ c ≠ '!' ∧ c ≠ '?' := by
  refine ⟨?_, ?_, ?_⟩ <;> (intro hc; subst hc; revert h; decide)

theorem run_open (cur : Frame) (stack : List Frame) (rb : Nat) (k rest : Str) (hk : isName k = true)
    (hroot : stack = [] → cur.kids = []) :
    run ⟨cur, stack, .text rb⟩ (openTag k [] ++ rest) = run ⟨⟨k, [], []⟩, cur :: stack, .text 0⟩ rest := by
  obtain ⟨c, cs, rfl, hc, hcs⟩ := isName_cons hk
  obtain ⟨n1, n2, n3⟩ := isNameStart_ne hc
  have hpush : (stack.isEmpty && !cur.kids.isEmpty) = false := by
    cases stack with
    | nil => simp [hroot rfl]
    | cons a b => simp
  simp only [openTag, List.cons_append, List.append_nil, run, step, stepText, ↓reduceIte, stepLt, n1, n2, n3, hc]
  rw [List.append_assoc, run_otag cur stack [c] cs _ (by simp) hcs]
  have hgt : isNameChar '>' = false := by decide
  simp [run, step, stepOtag, hgt, pushElem, hpush]

theorem run_empty (cur : Frame) (stack : List Frame) (rb : Nat) (k rest : Str) (hk : isName k = true)
    (hroot : stack = [] → cur.kids = []) :
    run ⟨cur, stack, .text rb⟩ (emptyTag k [] ++ rest)
      = run ⟨⟨cur.name, cur.data, cur.kids ++ [Elem.mk k [] []]⟩, stack, .text 0⟩ rest := by
  obtain ⟨c, cs, rfl, hc, hcs⟩ := isName_cons hk
  obtain ⟨n1, n2, n3⟩ := isNameStart_ne hc
  have hpush : (stack.isEmpty && !cur.kids.isEmpty) = false := by
    cases stack with
    | nil => simp [hroot rfl]
    | cons a b => simp
  simp only [emptyTag, List.cons_append, List.append_nil, run, step, stepText, ↓reduceIte, stepLt, n1, n2, n3, hc]
  rw [List.append_assoc, run_otag cur stack [c] cs _ (by simp) hcs]
  have hsl : isNameChar '/' = false := by decide
  simp [run, step, stepOtag, hsl, stepOslash, emptyElem, hpush]

theorem run_close (k d : Str) (ks : List Elem) (parent : Frame) (stack : List Frame) (rb : Nat) (rest : Str)
    (hk : isName k = true) :
    run ⟨⟨k, d, ks⟩, parent :: stack, .text rb⟩ (closeTag k ++ rest)
      = run ⟨⟨parent.name, parent.data, parent.kids ++ [Elem.mk k d ks]⟩, stack, .text 0⟩ rest := by
  obtain ⟨c, cs, rfl, hc, hcs⟩ := isName_cons hk
  simp only [closeTag, List.cons_append, run, step, stepText, ↓reduceIte, stepLt, stepCtag0, hc]
  rw [List.append_assoc, run_ctag _ _ [c] cs _ (by simp) hcs]
  have hgt : isNameChar '>' = false := by decide
  simp [run, step, stepCtag, hgt, popElem]

theorem ReadsElem.elem {k body w : Str} {ks : List Elem} (hk : isName k = true) (hb : ReadsIn body w ks) :
    ReadsElem (openTag k [] ++ body ++ closeTag k) (Elem.mk k w ks) := by
  intro cur stack rb hroot
  rw [List.append_assoc, run_open cur stack rb k _ hk hroot]
  obtain ⟨rb', e⟩ := hb ⟨k, [], []⟩ (cur :: stack) 0 (by simp)
  rw [run_append_ok _ e]
  have := run_close k ([] ++ w) ([] ++ ks) cur stack rb' [] hk
  simp only [List.append_nil] at this
  rw [this]
  simp [run]

theorem ReadsElem.empty {k : Str} (hk : isName k = true) : ReadsElem (emptyTag k []) (Elem.mk k [] []) := by
  intro cur stack rb hroot
  have := run_empty cur stack rb k [] hk hroot
  simp only [List.append_nil] at this
  rw [this]
  simp [run]

theorem lookupTab_mem {n : Nat} {tb : List (Nat × Str)} {e : Str} (h : lookupTab n tb = some e) : (n, e) ∈ tb := by
  induction tb with
  | nil => simp [lookupTab] at h
  | cons p tb ih =>
    obtain ⟨k, e'⟩ := p
    simp only [lookupTab] at h
    split at h
    · rename_i hk
      simp at h; subst h; subst hk; simp
    · exact List.mem_cons_of_mem _ (ih h)

theorem predefined_ok : ∀ q ∈ predefined, isName q.1 = true ∧ decodeEnt q.1 predefined = some q.2 := by
  decide

theorem ReadsIn.entity (name : Str) (ch : Char) (hname : isName name = true)
    (hdec : decodeEnt name predefined = some ch) :
    ReadsIn ('&' :: name ++ [';']) [ch] [] := by
  obtain ⟨c0, cs, rfl, h0, hcs⟩ := isName_cons hname
  intro cur stack rb hs
  refine ⟨0, ?_⟩
  have hne : stack.isEmpty = false := List.isEmpty_eq_false_iff.2 hs
  have hsemi0 : c0 ≠ ';' := by intro h; subst h; revert h0; decide
  have hhash0 : c0 ≠ '#' := by intro h; subst h; revert h0; decide
  have hm : ∀ acc d, acc ≠ [] → isNameChar d = true →
      step ⟨cur, stack, .ent acc⟩ d = .ok ⟨cur, stack, .ent (acc ++ [d])⟩ := by
    intro acc d hacc hdn
    have hsemi : d ≠ ';' := by intro h; subst h; revert hdn; decide
    have hhash : d ≠ '#' := by intro h; subst h; revert hdn; decide
    have hae : acc.isEmpty = false := List.isEmpty_eq_false_iff.2 hacc
    simp [step, stepEnt, hsemi, hae, hdn, hhash]
  have hs1 : step ⟨cur, stack, .text rb⟩ '&' = .ok ⟨cur, stack, .ent []⟩ := by
    simp [step, stepText, hne]
  have hs2 : step ⟨cur, stack, .ent []⟩ c0 = .ok ⟨cur, stack, .ent [c0]⟩ := by
    simp [step, stepEnt, hsemi0, hhash0, h0]
  rw [List.cons_append, run, hs1]
  simp only
  rw [List.cons_append, run, hs2]
  simp only
  rw [run_nameChars cur stack .ent hm [c0] cs [';'] (by simp) hcs]
  simp [run, step, stepEnt, hdec, addData]

theorem ReadsIn.of_escChar {tb : List (Nat × Str)} (htb : tableOk tb = true) (c : Char) (hc : isXmlChar c = true) :
    ReadsIn (escChar tb c) [c] [] := by
  simp only [tableOk, Bool.and_eq_true, List.all_eq_true] at htb
  obtain ⟨⟨⟨hall, hlt⟩, hamp⟩, hgt⟩ := htb
  unfold Xml.escChar
  cases hl : lookupTab c.toNat tb with
  | some e =>
    simp only
    have hok := hall _ (lookupTab_mem hl)
    unfold entryOk at hok
    obtain ⟨q, hq, hqe⟩ := List.any_eq_true.1 hok
    simp only [Bool.and_eq_true, decide_eq_true_eq] at hqe
    obtain ⟨hn, rfl⟩ := hqe
    obtain rfl : c = q.2 := (Char.toNat_inj.1 hn).symm
    exact ReadsIn.entity q.1 q.2 (predefined_ok q hq).1 (predefined_ok q hq).2
  | none =>
    simp only
    apply ReadsIn.plain
    intro d hd
    have : d = c := by simpa using hd
    subst this
    refine ⟨hc, ?_, ?_, ?_⟩
    · intro h; subst h; have h' : lookupTab 0x3C tb = none := hl; rw [h'] at hlt; simp at hlt
    · intro h; subst h; have h' : lookupTab 0x26 tb = none := hl; rw [h'] at hamp; simp at hamp
    · intro h; subst h; have h' : lookupTab 0x3E tb = none := hl; rw [h'] at hgt; simp at hgt

theorem ReadsIn.escape {tb : List (Nat × Str)} (htb : tableOk tb = true) (s : Str) (hs : isXmlText s = true) :
    ReadsIn (escape tb s) s [] := by
  induction s with
  | nil => exact ReadsIn.nil
  | cons c s ih =>
    simp only [isXmlText, List.all_cons, Bool.and_eq_true] at hs
    have h1 := ReadsIn.of_escChar htb c hs.1
    have h2 := ih (by simpa [isXmlText] using hs.2)
    have := ReadsIn.append h1 h2
    simpa [Xml.escape] using this

def AllSpace (w : Str) : Prop := ∀ c ∈ w, isPySpace c = true

theorem AllSpace.append {a b : Str} (ha : AllSpace a) (hb : AllSpace b) : AllSpace (a ++ b) := by
  intro c hc
  rcases List.mem_append.1 hc with h | h
  · exact ha c h
  · exact hb c h

theorem Blank.allSpace {w : Str} (h : Blank w) : AllSpace w := by
  intro c hc
  rcases h c hc with rfl | rfl <;> decide

theorem dropWhile_head_false {α} (p : α → Bool) (m : List α) (x : α) (r : List α)
    (h : m.dropWhile p = x :: r) : p x = false :=
  Py.dropWhile_head_not p m x r h

theorem isInfix_head {p : Str} {c : Char} {s : Str} (h : isInfix p (c :: s) = false) : startsWith (c :: s) p = false :=
  Py.isInfix_head h

/-- the `rb` pending `]` are data unless `>` follows two of them -/
theorem run_cdata (cur : Frame) (stack : List Frame) (inner : Str) (rb : Nat)
    (hx : ∀ c ∈ inner, isXmlChar c = true)
    (hno : isInfix [']', ']', '>'] (List.replicate rb ']' ++ inner) = false) :
    run ⟨cur, stack, .cdata rb⟩ (inner ++ [']', ']', '>'])
      = .ok ⟨⟨cur.name, cur.data ++ (List.replicate rb ']' ++ inner), cur.kids⟩, stack, .text 0⟩ := by
  induction inner generalizing cur rb with
  | nil =>
    simp [run, step, stepCdata, addData]
  | cons c inner ih =>
    have hxc := hx c (by simp)
    have hx' : ∀ d ∈ inner, isXmlChar d = true := fun d hd => hx d (by simp [hd])
    by_cases hb : c = ']'
    · subst hb
      have hstep : step ⟨cur, stack, .cdata rb⟩ ']' = .ok ⟨cur, stack, .cdata (rb + 1)⟩ := by
        simp [step, stepCdata]
      rw [List.cons_append, run, hstep]
      simp only
      have hrep : List.replicate rb ']' ++ ']' :: inner = List.replicate (rb + 1) ']' ++ inner := by
        rw [List.replicate_succ', List.append_assoc]; rfl
      rw [ih cur (rb + 1) hx' (by rw [← hrep]; exact hno), hrep]
    · have hcr : c ≠ '\r' := by intro h; subst h; revert hxc; decide
      have hgt : ¬ (c = '>' ∧ rb ≥ 2) := by
        rintro ⟨rfl, h2⟩
        -- `]]>` would start at position rb - 2
        obtain ⟨n, rfl⟩ : ∃ n, rb = n + 2 := ⟨rb - 2, by omega⟩
        rw [← List.replicate_append_replicate, List.append_assoc] at hno
        have := isInfix_suffix hno
        simp [isInfix, startsWith] at this
      have hstep : step ⟨cur, stack, .cdata rb⟩ c
          = .ok ⟨⟨cur.name, cur.data ++ (List.replicate rb ']' ++ [c]), cur.kids⟩, stack, .cdata 0⟩ := by
        by_cases h1 : c = '>'
        · subst h1
          have : ¬ rb ≥ 2 := fun h => hgt ⟨rfl, h⟩
          simp [step, stepCdata, this, addData, hxc]
        · simp [step, stepCdata, hb, h1, hcr, hxc, addData]
      rw [List.cons_append, run, hstep]
      simp only
      have hno' : isInfix [']', ']', '>'] (List.replicate 0 ']' ++ inner) = false :=
        isInfix_tail (isInfix_suffix hno)
      rw [ih _ 0 hx' hno']
      simp [List.append_assoc]

theorem isPySpace_plain {c : Char} (h1 : isPySpace c = true) (h2 : isXmlChar c = true) : Plain c := by
  refine ⟨h2, ?_, ?_, ?_⟩ <;> (intro h; subst h; revert h1; decide)

theorem cdata_shape {cfg : Cfg} (hcfg : cfgOk cfg = true) {s : Str} (h : isCdataValue cfg s = true) :
    ∃ a inner b, s = a ++ (cfg.copen ++ inner ++ cfg.cclose) ++ b ∧ AllSpace a ∧ AllSpace b
      ∧ cdataInner (stripWs s) = inner ∧ isInfix [']', ']', '>'] inner = false := by
  simp only [cfgOk, Bool.and_eq_true, decide_eq_true_eq] at hcfg
  obtain ⟨⟨_, ho⟩, hc⟩ := hcfg
  simp only [isCdataValue, Bool.and_eq_true, Bool.not_eq_true'] at h
  obtain ⟨⟨h1, h2⟩, h3⟩ := h
  obtain ⟨a, b, hs, ha, hb⟩ := stripWs_decomp s
  obtain ⟨r, hr⟩ := startsWith_eq_append _ _ h1
  rw [ho] at hr
  -- the closing marker lies inside `r`: with fewer than three characters after the opening marker the
  -- text would have to end in `[`, `A[` or `TA[`
  have hr3 : ∃ inner, r = inner ++ [']', ']', '>'] := by
    rw [hr, hc] at h2
    simp only [endsWith, List.reverse_cons, List.reverse_nil, List.nil_append, List.cons_append] at h2
    rcases hrr : r.reverse with _ | ⟨x, _ | ⟨y, _ | ⟨z, t⟩⟩⟩ <;> rw [hrr] at h2
    · simp [startsWith] at h2
    · simp [startsWith] at h2
    · simp [startsWith] at h2
    · simp only [List.cons_append, startsWith, Bool.and_eq_true, beq_iff_eq] at h2
      refine ⟨t.reverse, ?_⟩
      have := congrArg List.reverse hrr
      simp only [List.reverse_reverse, List.reverse_cons, List.append_assoc, List.cons_append, List.nil_append] at this
      rw [this, h2.1, h2.2.1, h2.2.2.1]
  obtain ⟨inner, hin⟩ := hr3
  have hinner : cdataInner (stripWs s) = inner := by
    rw [hr, hin]
    simp [cdataInner]
  refine ⟨a, inner, b, ?_, ha, hb, hinner, ?_⟩
  · rw [ho, hc]
    rw [hr, hin] at hs
    simpa [List.append_assoc] using hs
  · rw [hinner, hc] at h3
    exact h3

theorem ReadsIn.cdataValue {cfg : Cfg} (hcfg : cfgOk cfg = true) {s : Str} (h : isCdataValue cfg s = true)
    (hx : isXmlText s = true) :
    ∃ a b, AllSpace a ∧ AllSpace b ∧ ReadsIn s (a ++ cdataInner (stripWs s) ++ b) [] := by
  obtain ⟨a, inner, b, hs, ha, hb, hinner, hno⟩ := cdata_shape hcfg h
  simp only [cfgOk, Bool.and_eq_true, decide_eq_true_eq] at hcfg
  obtain ⟨⟨_, ho⟩, hc⟩ := hcfg
  have hxall : ∀ c ∈ s, isXmlChar c = true := by simpa [isXmlText] using hx
  refine ⟨a, b, ha, hb, ?_⟩
  rw [hinner]
  have hxs : ∀ c ∈ a ++ (cfg.copen ++ inner ++ cfg.cclose) ++ b, isXmlChar c = true := by rw [← hs]; exact hxall
  have hA : ReadsIn a a [] := ReadsIn.plain a (fun c hc => isPySpace_plain (ha c hc) (hxs c (by simp [hc])))
  have hB : ReadsIn b b [] := ReadsIn.plain b (fun c hc => isPySpace_plain (hb c hc) (hxs c (by simp [hc])))
  have hM : ReadsIn (cfg.copen ++ inner ++ cfg.cclose) inner [] := by
    intro cur stack rb hst
    refine ⟨0, ?_⟩
    have hne : stack.isEmpty = false := List.isEmpty_eq_false_iff.2 hst
    rw [ho, hc]
    have hpre : run ⟨cur, stack, .text rb⟩ (['<', '!', '[', 'C', 'D', 'A', 'T', 'A', '['] ++ (inner ++ [']', ']', '>']))
        = run ⟨cur, stack, .cdata 0⟩ (inner ++ [']', ']', '>']) := by
      simp [run, step, stepText, stepLt, stepBang, bangTarget, hne]
    rw [List.append_assoc, hpre]
    rw [run_cdata cur stack inner 0 (fun c hc' => hxs c (by simp [hc'])) (by simpa using hno)]
    simp
  have := ReadsIn.append (ReadsIn.append hA hM) hB
  rw [hs]
  simpa using this

/-- a lexeme that is written raw, read back as is, and unchanged by `strip()` -/
def NumLex (r : Str) : Prop := r ≠ [] ∧ ∀ c ∈ r, Plain c ∧ isPySpace c = false

theorem NumLex.reads {r : Str} (h : NumLex r) : ReadsIn r r [] := ReadsIn.plain r (fun c hc => (h.2 c hc).1)

theorem NumLex.strip {r : Str} (h : NumLex r) : stripWs r = r := stripWs_of_all r (fun c hc => (h.2 c hc).2)

theorem isAsciiDigit_plain {c : Char} (h : isAsciiDigit c = true) : Plain c ∧ isPySpace c = false := by
  have hb := digit_range h
  refine ⟨⟨?_, digit_ne_char h _ (by decide), digit_ne_char h _ (by decide), digit_ne_char h _ (by decide)⟩, digit_not_space h⟩
  simp only [isXmlChar, Bool.or_eq_true, decide_eq_true_eq, Bool.and_eq_true]
  right; refine ⟨⟨?_, ?_⟩, ?_⟩ <;> omega

theorem numLex_natRepr (n : Nat) : NumLex (natRepr n) := by
  refine ⟨natDigits_ne_nil n, ?_⟩
  intro c hc
  exact isAsciiDigit_plain (natDigits_all_digit n c hc)

theorem numLex_intRepr (i : Int) : NumLex (intRepr i) := by
  cases i with
  | ofNat n => exact numLex_natRepr n
  | negSucc n =>
    refine ⟨by simp [intRepr], ?_⟩
    intro c hc
    simp only [intRepr, List.mem_cons] at hc
    rcases hc with rfl | hc
    · exact ⟨by unfold Plain; decide, by decide⟩
    · exact (numLex_natRepr (n + 1)).2 c hc

theorem floatLetter_plain : ∀ c ∈ ['.', '-', '+', 'e', 'i', 'n', 'f', 'a'], Plain c ∧ isPySpace c = false := by
  unfold Plain; decide +kernel

theorem numLex_float {r : Str} (h : isFloatLexeme r = true) : NumLex r := by
  simp only [isFloatLexeme, Bool.and_eq_true, Bool.not_eq_true', List.all_eq_true] at h
  refine ⟨List.isEmpty_eq_false_iff.1 h.1, ?_⟩
  intro c hc
  have := h.2 c hc
  by_cases hd : isAsciiDigit c = true
  · exact isAsciiDigit_plain hd
  · apply floatLetter_plain
    simpa [hd, or_assoc] using this

theorem numLex_true : NumLex ['T', 'r', 'u', 'e'] := by unfold NumLex Plain; decide +kernel

theorem numLex_false : NumLex ['F', 'a', 'l', 's', 'e'] := by unfold NumLex Plain; decide +kernel

theorem dropPrefix?_append (p r : Str) : dropPrefix? (p ++ r) p = some r := by
  induction p with
  | nil => cases r <;> rfl
  | cons c p ih => simp [dropPrefix?, ih]

theorem stripDecl_nodecl (c : Char) (tl : Str) (hc : c ≠ '?') : stripDecl ('<' :: c :: tl) = .ok ('<' :: c :: tl) := by
  simp [stripDecl, dropPrefix?, hc]

theorem stripDecl_decl (q e0 : Char) (es X : Str) (hq : q = '"' ∨ q = '\'') (he0 : isEncStart e0 = true)
    (hes : ∀ c ∈ es, isEncChar c = true) :
    stripDecl (declHead ++ [q] ++ ['1', '.', '0'] ++ [q] ++ declEnc ++ [q] ++ (e0 :: es) ++ [q] ++ ['?', '>', '\n'] ++ X)
      = .ok ('\n' :: X) := by
  have hqenc : isEncChar q = false := by rcases hq with rfl | rfl <;> decide
  have he0c : isEncChar e0 = true := by
    simp only [isEncStart] at he0
    simp [isEncChar, he0]
  have hall : ∀ c ∈ e0 :: es, isEncChar c = true := by
    intro c hc
    rcases List.mem_cons.1 hc with rfl | h
    · exact he0c
    · exact hes c h
  obtain ⟨ht, hd⟩ := takeWhile_append_stop isEncChar (e0 :: es) q (['?', '>', '\n'] ++ X) hall hqenc
  have hshape : declHead ++ [q] ++ ['1', '.', '0'] ++ [q] ++ declEnc ++ [q] ++ (e0 :: es) ++ [q] ++ ['?', '>', '\n'] ++ X
      = declHead ++ (q :: ((['1', '.', '0', q] ++ declEnc ++ [q]) ++ ((e0 :: es) ++ q :: (['?', '>', '\n'] ++ X)))) := by
    simp only [List.append_assoc, List.cons_append, List.nil_append]
  rw [hshape]
  unfold stripDecl
  have h1 : dropPrefix? (declHead ++ (q :: ((['1', '.', '0', q] ++ declEnc ++ [q]) ++ ((e0 :: es) ++ q :: (['?', '>', '\n'] ++ X))))) ['<', '?']
      = some (['x', 'm', 'l', ' ', 'v', 'e', 'r', 's', 'i', 'o', 'n', '='] ++ (q :: ((['1', '.', '0', q] ++ declEnc ++ [q]) ++ ((e0 :: es) ++ q :: (['?', '>', '\n'] ++ X))))) :=
    rfl
  rw [h1]
  simp only
  rw [dropPrefix?_append]
  simp only
  have hq' : (q = '"' || q = '\'') = true := by rcases hq with rfl | rfl <;> decide
  rw [if_pos (by simpa using hq')]
  rw [dropPrefix?_append]
  simp only
  rw [ht, hd]
  simp [he0, dropPrefix?]

theorem run_doc_nl (cur : Frame) (rb : Nat) (s : Str) :
    run ⟨cur, [], .text rb⟩ ('\n' :: s) = run ⟨cur, [], .text 0⟩ s := by
  simp [run, step, stepText, isXmlSpace]

theorem xmlRead_of_elem (s : Str) (e : Elem) (c : Char) (tl : Str) (hs : s = '<' :: c :: tl) (hc : c ≠ '?')
    (h : ReadsElem s e) : xmlRead s = .ok e := by
  unfold xmlRead
  rw [hs, stripDecl_nodecl c tl hc, ← hs]
  have := h docFrame [] 0 (fun _ => rfl)
  simp only [bind, Except.bind, RSt.init]
  rw [this]
  simp [finish, docFrame]

theorem xmlRead_decl_elem (q e0 : Char) (es s : Str) (e : Elem) (hq : q = '"' ∨ q = '\'') (he0 : isEncStart e0 = true)
    (hes : ∀ c ∈ es, isEncChar c = true) (h : ReadsElem s e) :
    xmlRead (declHead ++ [q] ++ ['1', '.', '0'] ++ [q] ++ declEnc ++ [q] ++ (e0 :: es) ++ [q] ++ ['?', '>', '\n'] ++ s) = .ok e := by
  unfold xmlRead
  rw [stripDecl_decl q e0 es s hq he0 hes]
  have := h docFrame [] 0 (fun _ => rfl)
  simp only [bind, Except.bind, RSt.init]
  rw [run_doc_nl, this]
  simp [finish, docFrame]

theorem loadXml_of_read {s : Str} {e : Elem} (hstrip : stripWs s = s) (hlt : ∃ tl, s = '<' :: tl) (h : xmlRead s = .ok e) :
    loadXml s = .ok (xmltodictOf e) := by
  obtain ⟨tl, rfl⟩ := hlt
  unfold loadXml
  simp only [hstrip]
  rw [h]

end N0.Xml
