import N0Verif.Proofs.XmlEntries
/-!
  C12, the induction over XML-shaped trees (repeated elements included), the document, and the boundary of the writer towards
  attributes (`@` keys).
-/
namespace N0.Xml
open N0 N0.Py

theorem xmlEntries_cons_single {cfg : Cfg} {inc : Nat} {k : Str} {v : Val} {rest : List (Str × Val)} {indent : Nat}
    {ne : Bool} (h : isListVal v = false) :
    xmlEntries cfg inc ((k, v) :: rest) indent ne =
      (xmlEntry cfg inc k v indent >>= fun body =>
        xmlEntries cfg inc rest indent (ne || !(entryPrefix cfg k indent ne ++ body).isEmpty) >>= fun r =>
          .ok (entryPrefix cfg k indent ne ++ body ++ r)) := by
  cases v with
  | list c xs => cases h
  | _ => rfl

theorem xmlEntries_cons_list {cfg : Cfg} {inc : Nat} {k : Str} {c : Cls} {xs : List Val} {rest : List (Str × Val)}
    {indent : Nat} {ne : Bool} (h : xs ≠ []) :
    xmlEntries cfg inc ((k, .list c xs) :: rest) indent ne =
      (xmlRepeat cfg inc k xs indent ne >>= fun p =>
        xmlEntries cfg inc rest indent p.2 >>= fun r => .ok (p.1 ++ r)) := by
  have hx : xs.isEmpty = false := List.isEmpty_eq_false_iff.2 h
  simp only [xmlEntries, hx]
  rfl

theorem xmlRepeat_cons {cfg : Cfg} {inc : Nat} {k : Str} {x : Val} {xs : List Val} {indent : Nat} {ne : Bool} :
    xmlRepeat cfg inc k (x :: xs) indent ne =
      (xmlEntry cfg inc k x indent >>= fun body =>
        xmlRepeat cfg inc k xs indent (ne || !(entryPrefix cfg k indent ne ++ body).isEmpty) >>= fun r =>
          .ok (entryPrefix cfg k indent ne ++ body ++ r.1, r.2)) := by
  rfl

/-- `he` and `hr` are implications whose premises follow from `hn`, `hs` here, so that the caller passes the induction hypotheses as
they stand -/
theorem entries_single {cfg : Cfg} {inc : Nat} {lists : Bool} {k : Str} {v : Val} {rest : List (Str × Val)}
    {indent : Nat} {ne : Bool} (hl : isListVal v = false) (hn : keysNodup ((k, v) :: rest) = true)
    (hs : shapedKvs lists ((k, v) :: rest) = true)
    (he : isName k = true → shapedVal lists v = true →
      ∃ body, xmlEntry cfg inc k v indent = .ok body ∧ EntryOut cfg k v indent body)
    (hr : keysNodup rest = true → shapedKvs lists rest = true →
      ∃ out, xmlEntries cfg inc rest indent true = .ok out ∧ EntriesOut cfg rest true out) :
    ∃ out, xmlEntries cfg inc ((k, v) :: rest) indent ne = .ok out ∧ EntriesOut cfg ((k, v) :: rest) ne out := by
  have hs' : (isName k = true ∧ shapedVal lists v = true) ∧ shapedKvs lists rest = true := by
    simpa [shapedKvs] using hs
  obtain ⟨hfresh, hn'⟩ := keysNodup_cons hn
  obtain ⟨body, hbody, hbo⟩ := he hs'.1.1 hs'.1.2
  obtain ⟨r, hr', hro⟩ := hr hn' hs'.2
  refine ⟨entryPrefix cfg k indent ne ++ body ++ r, ?_, EntriesOut.cons hbo hro hfresh⟩
  have hne := hbo.isEmpty_append (entryPrefix cfg k indent ne)
  rw [xmlEntries_cons_single hl, hbody]
  simp [hne, hr', bind, Except.bind]

mutual
theorem entry_out (cfg : Cfg) (hcfg : cfgOk cfg = true) (inc : Nat) (lists : Bool) :
    ∀ (v : Val) (k : Str) (indent : Nat), isName k = true → shapedVal lists v = true → isListVal v = false →
      ∃ body, xmlEntry cfg inc k v indent = .ok body ∧ EntryOut cfg k v indent body
  | .none, k, indent, hk, _, _ => ⟨emptyTag k [], by simp [xmlEntry], EntryOut.emptyElem hk (by simp [normalise])⟩
  | .int i, k, indent, hk, _, _ =>
      ⟨openTag k [] ++ intRepr i ++ closeTag k, by simp [xmlEntry, isAttrKey_name hk],
        EntryOut.num hk (numLex_intRepr i) (by simp [normalise])⟩
  | .flt r, k, indent, hk, hv, _ =>
      ⟨openTag k [] ++ r ++ closeTag k, by simp [xmlEntry, isAttrKey_name hk],
        EntryOut.num hk (numLex_float (by simpa [shapedVal] using hv)) (by simp [normalise])⟩
  | .bool b, k, indent, hk, _, _ => by
      cases b with
      | true => exact ⟨openTag k [] ++ ['T', 'r', 'u', 'e'] ++ closeTag k, by simp [xmlEntry, isAttrKey_name hk], EntryOut.num hk numLex_true (by simp [normalise])⟩
      | false => exact ⟨openTag k [] ++ ['F', 'a', 'l', 's', 'e'] ++ closeTag k, by simp [xmlEntry, isAttrKey_name hk], EntryOut.num hk numLex_false (by simp [normalise])⟩
  | .str s, k, indent, hk, hv, _ =>
      ⟨strElem cfg inc k indent s, by simp [xmlEntry, isAttrKey_name hk],
        EntryOut.str (inc := inc) hcfg hk (by simpa [shapedVal] using hv)⟩
  | .dict c kvs, k, indent, hk, hv, _ => by
      have hv' : keysNodup kvs = true ∧ shapedKvs lists kvs = true := by simpa [shapedVal] using hv
      obtain ⟨sub, hsub, hout⟩ := entries_out cfg hcfg inc lists kvs (indent + inc) false hv'.1 hv'.2
      refine ⟨dictElem cfg k indent sub [], ?_, EntryOut.dict hk hout⟩
      simp [xmlEntry, hsub, attribs_shaped hv'.2, bind, Except.bind]
  | .list c xs, k, indent, hk, hv, hl => by simp [isListVal] at hl
theorem repeat_out (cfg : Cfg) (hcfg : cfgOk cfg = true) (inc : Nat) (lists : Bool) :
    ∀ (xs : List Val) (k : Str) (indent : Nat) (ne : Bool), isName k = true → shapedItems lists xs = true →
      ∃ p, xmlRepeat cfg inc k xs indent ne = .ok p ∧ RepeatOut cfg k xs ne p.1 ∧ (xs ≠ [] → p.2 = true)
  | [], k, indent, ne, _, _ => ⟨([], ne), by simp [xmlRepeat], RepeatOut.nil cfg k ne, fun h => absurd rfl h⟩
  | x :: xs, k, indent, ne, hk, hs => by
      have hs' : (isListVal x = false ∧ shapedVal lists x = true) ∧ shapedItems lists xs = true := by
        simpa [shapedItems] using hs
      obtain ⟨body, hbody, hbo⟩ := entry_out cfg hcfg inc lists x k indent hk hs'.1.2 hs'.1.1
      obtain ⟨p, hp, hpo, hpf⟩ := repeat_out cfg hcfg inc lists xs k indent true hk hs'.2
      have hne := hbo.isEmpty_append (entryPrefix cfg k indent ne)
      refine ⟨(entryPrefix cfg k indent ne ++ body ++ p.1, p.2), ?_, RepeatOut.cons hbo hpo, ?_⟩
      · rw [xmlRepeat_cons, hbody]
        simp [hne, hp, bind, Except.bind]
      · intro _
        -- the flag: `result` is non-empty after the first piece
        cases xs with
        | nil =>
          simp only [xmlRepeat] at hp
          injection hp with hp
          rw [← hp]
        | cons y ys => exact hpf (by simp)
theorem entries_out (cfg : Cfg) (hcfg : cfgOk cfg = true) (inc : Nat) (lists : Bool) :
    ∀ (kvs : List (Str × Val)) (indent : Nat) (ne : Bool), keysNodup kvs = true → shapedKvs lists kvs = true →
      ∃ out, xmlEntries cfg inc kvs indent ne = .ok out ∧ EntriesOut cfg kvs ne out
  | [], indent, ne, _, _ => ⟨[], by simp [xmlEntries], EntriesOut.nil cfg ne⟩
  | (k, .list c xs) :: rest, indent, ne, hn, hs => by
      have hs' : (isName k = true ∧ shapedVal lists (.list c xs) = true) ∧ shapedKvs lists rest = true := by
        simpa [shapedKvs] using hs
      have hl : (lists = true ∧ xs ≠ []) ∧ shapedItems lists xs = true := by
        have := hs'.1.2
        simpa [shapedVal] using this
      obtain ⟨hfresh, hn'⟩ := keysNodup_cons hn
      obtain ⟨p, hp, hpo, hflag⟩ := repeat_out cfg hcfg inc lists xs k indent ne hs'.1.1 hl.2
      obtain ⟨r, hr, hro⟩ := entries_out cfg hcfg inc lists rest indent true hn' hs'.2
      refine ⟨p.1 ++ r, ?_, EntriesOut.consList hpo hro hl.1.2 hfresh⟩
      rw [xmlEntries_cons_list hl.1.2, hp]
      simp [hflag hl.1.2, hr, bind, Except.bind]
  | (k, .none) :: rest, indent, ne, hn, hs | (k, .bool _) :: rest, indent, ne, hn, hs
  | (k, .int _) :: rest, indent, ne, hn, hs | (k, .flt _) :: rest, indent, ne, hn, hs
  | (k, .str _) :: rest, indent, ne, hn, hs | (k, .dict _ _) :: rest, indent, ne, hn, hs =>
      entries_single rfl hn hs (fun hk hv => entry_out cfg hcfg inc lists _ k indent hk hv rfl)
        (fun hn' hs' => entries_out cfg hcfg inc lists rest indent true hn' hs')
end

/-- the second case is the left side of `stripDecl_decl` -/
theorem declStr_cases {o : Opts} (ho : isGoodOpts o = true) :
    declStr o = [] ∨ ∃ q e0 es, (q = '"' ∨ q = '\'') ∧ isEncStart e0 = true ∧ (∀ c ∈ es, isEncChar c = true) ∧
      declStr o = declHead ++ [q] ++ ['1', '.', '0'] ++ [q] ++ declEnc ++ [q] ++ (e0 :: es) ++ [q] ++ ['?', '>', '\n'] := by
  simp only [isGoodOpts, Bool.and_eq_true, Bool.or_eq_true, decide_eq_true_eq] at ho
  obtain ⟨hq, henc⟩ := ho
  unfold declStr
  cases henc' : o.encoding with
  | none => exact Or.inl rfl
  | some enc =>
    cases enc with
    | nil => exact Or.inl rfl
    | cons e0 es =>
      rw [henc'] at henc
      simp only [Bool.and_eq_true, List.all_eq_true] at henc
      right
      rcases hq with hq | hq
      · exact ⟨'"', e0, es, Or.inl rfl, henc.1, henc.2, by rw [hq]; rfl⟩
      · exact ⟨'\'', e0, es, Or.inr rfl, henc.1, henc.2, by rw [hq]; rfl⟩

/-- an XML-shaped tree (with repeated elements when `lists = true`) is
written as a document that the reader accepts and `xmltodict`'s conventions turn into the normalised
tree; the text is already stripped -/
theorem toXml_reads (cfg : Cfg) (hcfg : cfgOk cfg = true) (o : Opts) (ho : isGoodOpts o = true) (lists : Bool) (t : Val)
    (ht : xmlShaped lists t = true) :
    ∃ s e, toXml cfg o t = .ok s ∧ xmlRead s = .ok e ∧ xmltodictOf e = normRoot cfg t ∧ stripWs s = s ∧ ∃ tl, s = '<' :: tl := by
  obtain ⟨c, k, v, rfl, hk, hv, hl⟩ : ∃ c k v, t = Val.dict c [(k, v)] ∧ isName k = true ∧ shapedVal lists v = true ∧
      isListVal v = false := by
    unfold xmlShaped at ht
    split at ht
    · rename_i c k v
      simp only [Bool.and_eq_true, Bool.not_eq_true'] at ht
      exact ⟨c, k, v, rfl, ht.1.1, ht.1.2, ht.2⟩
    · simp at ht
  obtain ⟨body, hbody, bpre, tl, d, ks, hb, hbpre, hre, hval⟩ := entry_out cfg hcfg o.indent lists v k 0 hk hv hl
  have hb' : body = '<' :: k ++ tl ++ ['>'] := by
    rcases hbpre with h | h
    · rw [hb, h]; rfl
    · rw [hb, h]; rfl
  have hpre : entryPrefix cfg k 0 false = [] := by
    unfold entryPrefix; split <;> simp [spaces]
  have hxml : xmlVal cfg o.indent (Val.dict c [(k, v)]) 0 = .ok body := by
    simp only [xmlVal]
    rw [xmlEntries_cons_single hl, hbody]
    simp [xmlEntries, hpre, bind, Except.bind]
  obtain ⟨k0, kcs, hkeq, hk0, _⟩ := isName_cons hk
  have hk0q : k0 ≠ '?' := (isNameStart_ne hk0).2.2
  have hx : xmltodictOf (Elem.mk k d ks) = normRoot cfg (Val.dict c [(k, v)]) := by
    simp [xmltodictOf, normRoot, normKvs, hval]
  have hlt : isPySpace '<' = false := by decide
  have hgt : isPySpace '>' = false := by decide
  rcases declStr_cases ho with hd | ⟨q, e0, es, hq, he0, hes, hd⟩
  · refine ⟨body, Elem.mk k d ks, ?_, ?_, hx, ?_, ?_⟩
    · simp [toXml, hxml, hd, bind, Except.bind]
    · rw [hb']
      exact xmlRead_of_elem _ _ k0 (kcs ++ tl ++ ['>']) (by rw [hkeq]; simp) hk0q hre
    · rw [hb']
      exact stripWs_id_of_ends '<' '>' (k ++ tl) hlt hgt
    · exact ⟨k ++ tl ++ ['>'], by rw [hb']; simp⟩
  · -- the declaration starts with `<` as well, so the whole text is `<` … `>`
    obtain ⟨D, hD⟩ : ∃ D, declStr o = '<' :: D := ⟨_, hd.trans rfl⟩
    refine ⟨declStr o ++ body, Elem.mk k d ks, ?_, ?_, hx, ?_, ?_⟩
    · simp [toXml, hxml, bind, Except.bind]
    · rw [hd, hb']
      exact xmlRead_decl_elem q e0 es _ _ hq he0 hes hre
    · rw [hD, hb', ← List.append_assoc]
      exact stripWs_id_of_ends '<' '>' (D ++ ('<' :: k ++ tl)) hlt hgt
    · exact ⟨D ++ body, by rw [hD]; rfl⟩

theorem toXml_loads (cfg : Cfg) (hcfg : cfgOk cfg = true) (o : Opts) (ho : isGoodOpts o = true) (lists : Bool)
    (t : Val) (ht : xmlShaped lists t = true) {s : Str} (h : toXml cfg o t = .ok s) :
    readStatus s = none ∧ loadXml s = .ok (normRoot cfg t) := by
  obtain ⟨s', e, h1, h2, h3, h4, h5⟩ := toXml_reads cfg hcfg o ho lists t ht
  rw [h] at h1
  cases h1
  exact ⟨by rw [readStatus, h2], by rw [loadXml_of_read h4 h5 h2, h3]⟩

/-- the values under an `@` key for which the writer raises `NotImplementedError` (`xmlEntry_attr`): any text, a number or a Boolean,
not `None`.  Not the scalars of the property: those are the scalar cases of `shapedVal` -/
def isScalarVal : Val → Bool
  | .str _ | .int _ | .flt _ | .bool _ => true
  | _ => false

theorem xmlEntry_attr (cfg : Cfg) (inc : Nat) (k : Str) (v : Val) (indent : Nat) (hv : isScalarVal v = true) :
    xmlEntry cfg inc ('@' :: k) v indent = .error .NotImplementedError := by
  cases v <;> simp [isScalarVal] at hv <;> simp [xmlEntry, isAttrKey, startsWith]

theorem entries_attr_raises (cfg : Cfg) (hcfg : cfgOk cfg = true) (inc : Nat) (lists : Bool) (k : Str) (v : Val)
    (rest : List (Str × Val)) (hv : isScalarVal v = true) :
    ∀ (pre : List (Str × Val)) (indent : Nat) (ne : Bool), keysNodup pre = true → shapedKvs lists pre = true →
      xmlEntries cfg inc (pre ++ ('@' :: k, v) :: rest) indent ne = .error .NotImplementedError := by
  have hvl : isListVal v = false := by cases v <;> simp [isScalarVal] at hv <;> rfl
  intro pre
  induction pre with
  | nil =>
    intro indent ne _ _
    rw [List.nil_append, xmlEntries_cons_single hvl, xmlEntry_attr cfg inc k v indent hv]
    rfl
  | cons p pre ih =>
    obtain ⟨k0, v0⟩ := p
    intro indent ne hn hs
    have hs' : (isName k0 = true ∧ shapedVal lists v0 = true) ∧ shapedKvs lists pre = true := by
      simpa [shapedKvs] using hs
    obtain ⟨_, hn'⟩ := keysNodup_cons hn
    cases hl : isListVal v0 with
    | false =>
      obtain ⟨body, hbody, _⟩ := entry_out cfg hcfg inc lists v0 k0 indent hs'.1.1 hs'.1.2 hl
      rw [List.cons_append, xmlEntries_cons_single hl, hbody]
      simp [ih indent _ hn' hs'.2, bind, Except.bind]
    | true =>
      cases v0 <;> simp [isListVal] at hl
      rename_i c xs
      have hx : (lists = true ∧ xs ≠ []) ∧ shapedItems lists xs = true := by
        have := hs'.1.2
        simpa [shapedVal] using this
      obtain ⟨q, hq, _, _⟩ := repeat_out cfg hcfg inc lists xs k0 indent ne hs'.1.1 hx.2
      rw [List.cons_append, xmlEntries_cons_list hx.1.2, hq]
      simp [ih indent _ hn' hs'.2, bind, Except.bind]

theorem toXml_attr_not_implemented (cfg : Cfg) (hcfg : cfgOk cfg = true) (o : Opts) (lists : Bool) (c c' : Cls)
    (r k : Str) (pre rest : List (Str × Val)) (v : Val) (hn : keysNodup pre = true) (hs : shapedKvs lists pre = true)
    (hv : isScalarVal v = true) :
    toXml cfg o (.dict c [(r, .dict c' (pre ++ ('@' :: k, v) :: rest))]) = .error .NotImplementedError := by
  simp only [toXml, xmlVal]
  rw [xmlEntries_cons_single (v := .dict c' (pre ++ ('@' :: k, v) :: rest)) rfl]
  have h := entries_attr_raises cfg hcfg o.indent lists k v rest hv pre o.indent false hn hs
  simp [xmlEntry, h, bind, Except.bind]

end N0.Xml
