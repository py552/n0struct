import N0Verif.Proofs.XPathLeaves
import N0Verif.Proofs.XPathListRoot
import N0Verif.Proofs.XPathMiss
import N0Verif.Proofs.XPathFirst
import N0Verif.Proofs.XPathPrimGenEq
/-!
# C01 — every enumerated xpath resolves to exactly the leaf it names

Reading: "that very value object" = the node at the same position of the tree and the
returned parent reference is the parent position (object identity is outside the value
model and is checked on the implementation by the harness).
-/
namespace N0.C01
open N0 N0.Py N0.Val N0.XPath

/-- **Enumeration.** `xpath()` is the list `leaves t`, each leaf under its canonical path `"/" ++ "/key"… "[i]"…` (an equation of
lists).  That the list has the scalar leaves exactly, each once, in document order is how `leaves` is defined, not a theorem: proved
are soundness (`C01_enum_sound`) and resolution (`C01_resolves`); no `Nodup`, no completeness statement exists. -/
theorem C01_enum_is_leaves (t : Val) :
    xpathEnum t = (leaves t).map (fun pv => (slash ++ renderPos pv.1, pv.2)) :=
  enumVal_eq slash t

/-- on a tree with plain, unique keys (`PlainTree`) every enumerated pair names a leaf that really sits at that position -/
theorem C01_enum_sound (t : Val) (ht : PlainTree t) (xp : Str) (v : Val)
    (h : (xp, v) ∈ xpathEnum t) :
    ∃ p, xp = slash ++ renderPos p ∧ getAt t p = some v ∧ v.isScalar = true := by
  rw [C01_enum_is_leaves] at h
  simp only [List.mem_map] at h
  obtain ⟨⟨p, c⟩, hm, heq⟩ := h
  simp only [Prod.mk.injEq] at heq
  obtain ⟨rfl, rfl⟩ := heq
  have := leaves_sound t ht p c hm
  exact ⟨p, rfl, this.1, this.2.2⟩

/-- **Tree layer, any spelling.**  If a token list spells position `p` of a dict-rooted tree
(plain keys; index steps in any spelling whose `n0eval` value denotes the element Python
indexing would give), `_find` returns exactly the node at `p`, and the parent reference is
the parent position. -/
theorem C01_find_spelled (t : Val) (rl : Bool) (toks : List Str) (p : Pos) (c : Val)
    (hs : Spells toks t p c) (hne : toks ≠ []) (fuel : Nat) (hf : fuel ≥ 2 * toks.length) :
    ∃ r, findD fuel t [] false true toks (.at []) rl slash = .ok (t, r) ∧ FoundAt t [] p c r :=
  find_spells t rl hs hne fuel [] slash true rfl hf

/-- the index spellings of the property denote the element Python indexing gives:
`i`, `i-len` (a negative literal), `last()`, `last()-k`, `i+j` -/
theorem C01_index_spellings (len n : Nat) (hn : n < len) :
    (∃ i, n0eval (natStr n) = .ok (.int i) ∧ normIdx i len = some n) ∧
    (∃ i, n0eval ('-' :: natStr (len - n)) = .ok (.int i) ∧ normIdx i len = some n) ∧
    (n = len - 1 → ∃ i, n0eval sLast = .ok (.int i) ∧ normIdx i len = some n) ∧
    (∃ i, n0eval (sLast ++ '-' :: natStr (len - 1 - n)) = .ok (.int i) ∧ normIdx i len = some n) ∧
    (∀ a b, a + b = n → ∃ i, n0eval (natStr a ++ '+' :: natStr b) = .ok (.int i) ∧ normIdx i len = some n) := by
  exact ⟨⟨_, (IdxSp.lit n).eval, normIdx_nat hn⟩, ⟨_, (IdxSp.neg (len - n)).eval, IdxSp.normIdx_neg hn⟩,
    fun hlast => ⟨_, IdxSp.last.eval, IdxSp.normIdx_last hn hlast⟩,
    ⟨_, (IdxSp.lastMinus (len - 1 - n)).eval, IdxSp.normIdx_lastMinus hn⟩,
    fun a b hab => ⟨_, (IdxSp.plus a b).eval, IdxSp.normIdx_plus hn hab⟩⟩

/-- **Resolution of every enumerated path (item access, get; `first`: `C01_resolves_first`).**  For a dict-rooted tree
with plain keys, the canonical path of every node (leaf or inner) at a non-empty position
resolves to exactly that node, and the tree is unchanged. -/
theorem C01_resolves_node (cls : Cls) (kvs : List (Str × Val)) (p : Pos) (c : Val) (d : Val)
    (hp : PlainPos p) (hne : p ≠ []) (hget : getAt (.dict cls kvs) p = some c)
    (fuel : Nat) (hf : fuel ≥ 2 * p.length) :
    let t := Val.dict cls kvs
    getItem fuel t (slash ++ renderPos p) = (t, .ok c) ∧
    get fuel t (slash ++ renderPos p) d = (t, .ok c) := by
  exact ⟨getCore_canonical fuel cls kvs p c _ true true hp hne hget hf,
    getCore_canonical fuel cls kvs p c d false true hp hne hget hf⟩

/-- **C01 (headline).**  Every `(xpath, value)` pair listed by the enumeration of a dict-rooted
tree with plain keys resolves through item access and `get` to that value; the lookup does
not change the tree.  (After a write use `C01_resolves_node`, which asks only a plain position and `getAt`: nothing carries
`PlainTree` or membership in `xpathEnum` across `setAt`.) -/
theorem C01_resolves (cls : Cls) (kvs : List (Str × Val)) (ht : PlainTree (.dict cls kvs))
    (xp : Str) (v d : Val) (h : (xp, v) ∈ xpathEnum (.dict cls kvs)) :
    ∃ n, ∀ fuel ≥ n,
      getItem fuel (.dict cls kvs) xp = (.dict cls kvs, .ok v) ∧
      get fuel (.dict cls kvs) xp d = (.dict cls kvs, .ok v) := by
  obtain ⟨p, rfl, hg, hpp, hne, _⟩ := mem_xpathEnum_dict ht h
  exact ⟨2 * p.length, fun fuel hf => C01_resolves_node cls kvs p v d hpp hne hg fuel hf⟩

/-! ### list-rooted containers addressed with a leading index -/

/-- **Tree layer, list root, any spelling.**  If a token list spells position `p` of a list-rooted
tree, `n0list._find` returns exactly the node at `p` (index tokens are walked by `n0list._find`,
also through nested lists; the first dict element is handed to `n0dict._find`). -/
theorem C01_findL_spelled (cls : Cls) (xs : List Val) (rl : Bool) (toks : List Str) (p : Pos) (c : Val)
    (hs : Spells toks (.list cls xs) p c) (hne : toks ≠ []) (fuel : Nat) (hf : fuel ≥ 2 * toks.length) :
    ∃ r, findL fuel (.list cls xs) [] toks (.at []) rl slash = .ok (.list cls xs, r) ∧
      FoundAt (.list cls xs) [] p c r :=
  findL_spells (.list cls xs) rl [] hs hne fuel [] slash ⟨cls, xs, rfl⟩ rfl hf

/-- **Resolution on a list root.**  For a list-rooted tree with plain keys the canonical path of
every node at a position `[n] ++ rest` — written without a leading '/' (`[0]/a/b[1]`) or with it
(`/[0]/a/b[1]`) — resolves through item access and `get` to exactly that node; the tree is
unchanged. -/
theorem C01_list_root_node (cls : Cls) (xs : List Val) (n : Nat) (rest : Pos) (c d : Val)
    (hp : PlainPos rest) (hget : getAt (.list cls xs) (.idx n :: rest) = some c)
    (fuel : Nat) (hf : fuel ≥ 2 * (rest.length + 1)) :
    let t := Val.list cls xs
    let p : Pos := .idx n :: rest
    getItem fuel t (renderPos p) = (t, .ok c) ∧ get fuel t (renderPos p) d = (t, .ok c) ∧
    getItem fuel t (slash ++ renderPos p) = (t, .ok c) ∧ get fuel t (slash ++ renderPos p) d = (t, .ok c) := by
  intro t p
  have hp' : PlainPos p := hp
  have hs := spells_merged p t c hp' hget
  have hlen := mergedToks_length_le p
  have hne := mergedToks_ne_nil p (by simp [p])
  have hpl : p.length = rest.length + 1 := by simp [p]
  have htok1 : tokenize (renderPos p) = mergedToks p := tokenize_render_idx n rest hp
  have htok2 : tokenize (slash ++ renderPos p) = mergedToks p := tokenize_render p hp'
  have hform : renderPos p = '[' :: (natStr n ++ ']' :: renderPos rest) := by
    simp [p, renderPos, renderSeg, bracket]
  have hq1 : startsWith (renderPos p) ['?'] = false := by rw [hform]; simp [startsWith]
  have hc1 : hasPathChar (renderPos p) = true := by rw [hform]; simp [hasPathChar]
  have key : ∀ xp, tokenize xp = mergedToks p → startsWith xp ['?'] = false → hasPathChar xp = true → ∀ d raise,
      getCore fuel t xp d raise true = (t, .ok c) := by
    intro xp htok hq hpc d raise
    exact getCore_list_path fuel cls xs xp d raise true p c hq hpc (htok ▸ hs) (htok ▸ hne)
      (by rw [htok]; exact two_mul_le_fuel hlen (by rw [hpl]; exact hf))
  exact ⟨key _ htok1 hq1 hc1 _ true, key _ htok1 hq1 hc1 d false,
    key _ htok2 (slash_noQ _) (slash_hasPathChar _) _ true, key _ htok2 (slash_noQ _) (slash_hasPathChar _) d false⟩

/-- **Bare index on a list root.**  A text without '/' and '[' (`l['0']`, `l.get('-1')`,
`'last()'`, `'last()-k'`, `'i+j'`) is evaluated by `n0eval` and used as a Python index: every
index spelling of `C01_index_spellings` returns the element Python indexing gives. -/
theorem C01_list_root_bare (cls : Cls) (xs : List Val) (n : Nat) (c d : Val) (hx : xs[n]? = some c)
    (fuel : Nat) (s : Str)
    (hsp : s = natStr n ∨ s = '-' :: natStr (xs.length - n) ∨ (n = xs.length - 1 ∧ s = sLast) ∨
      s = sLast ++ '-' :: natStr (xs.length - 1 - n) ∨ ∃ a b, a + b = n ∧ s = natStr a ++ '+' :: natStr b) :
    getItem fuel (.list cls xs) s = (.list cls xs, .ok c) ∧ get fuel (.list cls xs) s d = (.list cls xs, .ok c) := by
  have hlt : n < xs.length := by
    rcases Nat.lt_or_ge n xs.length with h | h
    · exact h
    · rw [List.getElem?_eq_none h] at hx; cases hx
  -- each text is `IdxSp.text` of a spelling that denotes `n`
  have key : ∀ e : IdxSp, normIdx e.val xs.length = some n →
      getItem fuel (.list cls xs) e.text = (.list cls xs, .ok c) ∧ get fuel (.list cls xs) e.text d = (.list cls xs, .ok c) :=
    fun e hn => ⟨getCore_list_idxSp fuel cls xs e _ true true hn hx, getCore_list_idxSp fuel cls xs e d false true hn hx⟩
  rcases hsp with rfl | rfl | ⟨hn, rfl⟩ | rfl | ⟨a, b, hab, rfl⟩
  · exact key (.lit n) (normIdx_nat hlt)
  · exact key (.neg (xs.length - n)) (IdxSp.normIdx_neg hlt)
  · exact key .last (IdxSp.normIdx_last hlt hn)
  · exact key (.lastMinus (xs.length - 1 - n)) (IdxSp.normIdx_lastMinus hlt)
  · exact key (.plus a b) (IdxSp.normIdx_plus hlt hab)

/-! ### every spelling of a path, at the string level

`renderSp lead steps` (defined in `Proofs/XPathSpellings.lean`) is the text of a spelling: prefix
none / `/` / `//` (`Lead`), each index step attached (`a[0]`, `[0][1]`) or written as a step of its
own (`a/[0]`, `[0]/[1]`) (`StepSp.idx e sep`), each index as `i`, `-k`, `last()`, `last()-k` or `i+j`
(`IdxSp`).  `stepsGet` is plain Python indexing along the steps (`xs[i]` with Python's treatment of
negative `i`: `pyIndex`). -/

/-- the integer an index spelling denotes is what `n0eval` computes from its text -/
theorem C01_idx_spelling_eval (e : IdxSp) : n0eval e.text = .ok (.int e.val) := e.eval

/-- **tokenisation of a spelling**: the prefix and the `][` / `]/[` choice do not change the tokens -/
theorem C01_spelling_tokens (lead : Lead) (steps : List StepSp) (hp : PlainSteps steps) :
    tokenize (renderSp lead steps) = toksOf steps :=
  tokenize_renderSp lead steps hp

/-- the tokens of a spelling spell the position Python indexing reaches (`posOf`: the steps with
every index normalised) -/
theorem C01_spelling_spells (steps : List StepSp) (v c : Val) (hp : PlainSteps steps)
    (hget : stepsGet v steps = some c) :
    Spells (toksOf steps) v (posOf v steps) c ∧ getAt v (posOf v steps) = some c :=
  ⟨spells_steps steps v c hp hget, (spells_steps steps v c hp hget).getAt⟩

/-- **C01 (equivalent spellings, string level, dict root).**  Whatever spelling of a path is used
(prefix none, `/` or `//`; `][` or `]/[`, `a[i]` or `a/[i]`; each index as `i`, `-k`, `last()`,
`last()-k` or `i+j`), item access and `get` return the element plain Python indexing returns, and
the tree is unchanged. -/
theorem C01_spellings_string (cls : Cls) (kvs : List (Str × Val)) (lead : Lead) (steps : List StepSp)
    (c d : Val) (hp : PlainSteps steps) (hne : steps ≠ [])
    (hget : stepsGet (.dict cls kvs) steps = some c) (fuel : Nat) (hf : fuel ≥ 2 * steps.length) :
    getItem fuel (.dict cls kvs) (renderSp lead steps) = (.dict cls kvs, .ok c) ∧
    get fuel (.dict cls kvs) (renderSp lead steps) d = (.dict cls kvs, .ok c) :=
  ⟨getCore_spelling_dict fuel cls kvs lead steps c _ true true hp hne hget hf,
   getCore_spelling_dict fuel cls kvs lead steps c _ false true hp hne hget hf⟩

/-- **C01 (equivalent spellings, string level, list root addressed with a leading index).** -/
theorem C01_spellings_string_list (cls : Cls) (xs : List Val) (lead : Lead) (steps : List StepSp)
    (c d : Val) (hp : PlainSteps steps) (hne : steps ≠ [])
    (hget : stepsGet (.list cls xs) steps = some c) (fuel : Nat) (hf : fuel ≥ 2 * steps.length) :
    getItem fuel (.list cls xs) (renderSp lead steps) = (.list cls xs, .ok c) ∧
    get fuel (.list cls xs) (renderSp lead steps) d = (.list cls xs, .ok c) :=
  ⟨getCore_spelling_list fuel cls xs lead steps c _ true true hp hne hget hf,
   getCore_spelling_list fuel cls xs lead steps c _ false true hp hne hget hf⟩

/-- **C01 (`first`, any spelling).**  `first` returns the same element, except that a one-element
list is unwrapped (that is what `first` is for); both roots. -/
theorem C01_spellings_first (t : Val) (hroot : (∃ cls kvs, t = .dict cls kvs) ∨ (∃ cls xs, t = .list cls xs))
    (lead : Lead) (steps : List StepSp) (c d : Val) (hp : PlainSteps steps) (hne : steps ≠ [])
    (hget : stepsGet t steps = some c) (fuel : Nat) (hf : fuel ≥ 2 * steps.length) :
    ((∀ cl x, c ≠ .list cl [x]) → first fuel t (renderSp lead steps) d = (t, .ok c)) ∧
    (∀ cl x, c = .list cl [x] → first fuel t (renderSp lead steps) d = (t, .ok x)) := by
  have hcore : ∀ d, getCore fuel t (renderSp lead steps) d false false = (t, .ok c) := by
    intro d
    rcases hroot with ⟨cls, kvs, rfl⟩ | ⟨cls, xs, rfl⟩
    · exact getCore_spelling_dict fuel cls kvs lead steps c d false false hp hne hget hf
    · exact getCore_spelling_list fuel cls xs lead steps c d false false hp hne hget hf
  refine ⟨fun hc => first_of_getCore hcore hc d, ?_⟩
  intro cl x hcx
  subst hcx
  exact first_of_getCore_single hcore d

/-- **C01 (headline, `first`).**  Every enumerated pair of a dict-rooted tree with plain keys also
resolves through `first` (a leaf is a scalar, so nothing is unwrapped). -/
theorem C01_resolves_first (cls : Cls) (kvs : List (Str × Val)) (ht : PlainTree (.dict cls kvs))
    (xp : Str) (v d : Val) (h : (xp, v) ∈ xpathEnum (.dict cls kvs)) :
    ∃ n, ∀ fuel ≥ n, first fuel (.dict cls kvs) xp d = (.dict cls kvs, .ok v) := by
  obtain ⟨p, rfl, hg, hpp, hne, hsc⟩ := mem_xpathEnum_dict ht h
  refine ⟨2 * p.length, fun fuel hf => ?_⟩
  refine first_of_getCore (fun d => getCore_canonical fuel cls kvs p v d false false hpp hne hg hf) ?_ d
  intro cl x hcx
  subst hcx
  simp [Val.isScalar] at hsc

/-- **C01 (an out-of-range index is a miss).**  `stepsMiss t steps`: the steps walk along existing
nodes and then index a list out of range (Python indexing would raise IndexError there, in any
of the index spellings; whatever follows).  Then, in every spelling and on both roots, item access
raises IndexError, `get` returns the default, `first` returns the default — as it is, whatever value it is
(since fix C04-f `first` unwraps only a found value) — and the tree is unchanged. -/
theorem C01_out_of_range_miss (t : Val) (hroot : (∃ cls kvs, t = .dict cls kvs) ∨ (∃ cls xs, t = .list cls xs))
    (lead : Lead) (steps : List StepSp) (d : Val) (hp : PlainSteps steps)
    (hmiss : stepsMiss t steps = true) (fuel : Nat) (hf : fuel ≥ 2 * steps.length) :
    getItem fuel t (renderSp lead steps) = (t, .error .IndexError) ∧
    get fuel t (renderSp lead steps) d = (t, .ok d) ∧
    first fuel t (renderSp lead steps) d = (t, .ok d) := by
  have hcore : ∀ (d : Val) (raise rl : Bool),
      getCore fuel t (renderSp lead steps) d raise rl = missResult t d raise := by
    intro d raise rl
    rcases hroot with ⟨cls, kvs, rfl⟩ | ⟨cls, xs, rfl⟩
    · exact getCore_miss_dict fuel cls kvs lead steps d raise rl hp hmiss hf
    · exact getCore_miss_list fuel cls xs lead steps d raise rl hp hmiss hf
  refine ⟨?_, ?_, first_of_miss (fun d' => ?_) d⟩
  · rw [getItem, hcore]; rfl
  · rw [XPath.get, hcore]; rfl
  · rw [hcore]; rfl

/-! Non-vacuity: a concrete tree with nested lists, a list in a list, empty containers. -/
def exTree : Val :=
  .dict .n0 [(['a'], .dict .plain [(['b'], .list .plain [.int 1, .list .n0 [.str ['x'], .none]]),
                                    (['e'], .dict .plain [])]),
             (['k'], .bool true)]

example : xpathEnum exTree =
    [(['/', '/', 'a', '/', 'b', '[', '0', ']'], .int 1), (['/', '/', 'a', '/', 'b', '[', '1', ']', '[', '0', ']'], .str ['x']), (['/', '/', 'a', '/', 'b', '[', '1', ']', '[', '1', ']'], .none), (['/', '/', 'k'], .bool true)] := by decide +kernel
example : (getItem 20 exTree ['/', '/', 'a', '/', 'b', '[', '1', ']', '[', '0', ']']).2 = .ok (.str ['x']) := by decide +kernel
example : (getItem 20 exTree ['/', 'a', '/', 'b', '[', 'l', 'a', 's', 't', '(', ')', ']', '/', '[', '-', '2', ']']).2 = .ok (.str ['x']) := by decide +kernel
example : (XPath.get 20 exTree ['a', '/', 'b', '[', '2', ']'] (.str ['D'])).2 = .ok (.str ['D']) := by decide +kernel


/-- a list root: a dict element, a nested list, a scalar -/
def exList : Val :=
  .list .n0 [.dict .plain [(['a'], .dict .plain [(['b'], .list .plain [.int 7, .int 8])])],
             .list .plain [.str ['x'], .list .n0 [.none, .bool false]],
             .int 5]

example : getAt exList [.idx 0, .key ['a'], .key ['b'], .idx 1] = some (.int 8) := by decide +kernel
example : (getItem 20 exList ['[', '0', ']', '/', 'a', '/', 'b', '[', '1', ']']) = (exList, .ok (.int 8)) := by decide +kernel
example : (XPath.get 20 exList ['/', '[', '0', ']', '/', 'a', '/', 'b', '[', '1', ']'] (.str ['D'])) = (exList, .ok (.int 8)) := by decide +kernel
-- a path that stays inside `n0list._find` (nested lists)
example : (getItem 20 exList ['[', '1', ']', '[', '1', ']', '[', '1', ']']) = (exList, .ok (.bool false)) := by decide +kernel
example : (getItem 20 exList ['2']) = (exList, .ok (.int 5)) := by decide +kernel
example : (getItem 20 exList ['-', '1']) = (exList, .ok (.int 5)) := by decide +kernel
example : (XPath.get 20 exList ['l', 'a', 's', 't', '(', ')', '-', '1'] (.str ['D'])).2
    = .ok (.list .plain [.str ['x'], .list .n0 [.none, .bool false]]) := by decide +kernel
example : (getItem 20 exList ['1', '+', '1']) = (exList, .ok (.int 5)) := by decide +kernel


/-- spellings: `//a/b[last()]/[-2]`, `a/b/[0+1][last()-1]`, `/[1][0]` on the list root -/
def exSteps1 : List StepSp := [.key ['a'], .key ['b'], .idx .last false, .idx (.neg 2) true]
def exSteps2 : List StepSp := [.key ['a'], .key ['b'], .idx (.plus 0 1) true, .idx (.lastMinus 1) false]

example : renderSp .two exSteps1 =
    ['/', '/', 'a', '/', 'b', '[', 'l', 'a', 's', 't', '(', ')', ']', '/', '[', '-', '2', ']'] := by decide +kernel
example : renderSp .rel exSteps2 =
    ['a', '/', 'b', '/', '[', '0', '+', '1', ']', '[', 'l', 'a', 's', 't', '(', ')', '-', '1', ']'] := by decide +kernel
example : toksOf exSteps1 = [['a'], ['b', '[', 'l', 'a', 's', 't', '(', ')', ']'], ['[', '-', '2', ']']] := by decide +kernel
example : stepsGet exTree exSteps1 = some (.str ['x']) ∧ stepsGet exTree exSteps2 = some (.str ['x']) := by decide +kernel
example : (getItem 20 exTree (renderSp .two exSteps1)) = (exTree, .ok (.str ['x'])) := by decide +kernel
example : (getItem 20 exTree (renderSp .rel exSteps2)) = (exTree, .ok (.str ['x'])) := by decide +kernel
example : renderSp .one [.idx (.lit 1) false, .idx (.lit 0) false] = ['/', '[', '1', ']', '[', '0', ']'] ∧
    stepsGet exList [.idx (.lit 1) false, .idx (.lit 0) false] = some (.str ['x']) := by decide +kernel
-- the relative one-key spelling goes through the plain dictionary lookup
example : renderSp .rel [.key ['k']] = ['k'] ∧ (getItem 20 exTree ['k']) = (exTree, .ok (.bool true)) := by decide +kernel

-- out of range: `/a/b[2]`, `a/b/[-3]/zz`, `[3]` and `[1][-3]` on the list root
example : stepsMiss exTree [.key ['a'], .key ['b'], .idx (.lit 2) false] = true ∧
    stepsMiss exTree [.key ['a'], .key ['b'], .idx (.neg 3) true, .key ['z', 'z']] = true ∧
    stepsMiss exList [.idx (.lit 3) false] = true ∧
    stepsMiss exList [.idx (.lit 1) false, .idx (.neg 3) false] = true := by decide +kernel
example : (getItem 20 exTree (renderSp .one [.key ['a'], .key ['b'], .idx (.lit 2) false])) = (exTree, .error .IndexError) := by
  decide +kernel
example : (XPath.get 20 exList (renderSp .rel [.idx (.lit 1) false, .idx (.neg 3) false]) (.str ['D'])) = (exList, .ok (.str ['D'])) := by
  decide +kernel

/-! ## BEGIN generated-primitives block (translator tie for `n0eval` and `split_name_index`)

`harness/translate_py_xp.py` re-translates the Python text of the two pure primitives every lookup goes through
into `Gen/XPathPrim.lean` on every run of `./check C01`; the theorems below are re-checked against the regenerated
text (proofs: `Proofs/XPathPrimGenEq.lean`).  They hold for *every* string, exception classes included
(`Unsupported` marks the inputs outside the modelled scope on both sides: float texts, non-ASCII digits, '%' inside
a quoted value).  See notes/C01-gen.md. -/

/-- **translated `n0eval` = model**, for every string -/
theorem C01_generated_n0eval_eq (s : Str) : Gen.XPathPrim.n0eval s = XPath.n0eval s :=
  XPathPrimGenEq.xpgen_n0eval_eq s

/-- **translated `split_name_index` = model**, for every string (name, `[index]`, conditions with the operator
table, quotes, `contains(text(), …)`, `true()`/`false()`; `ValueError`/`IndexError`/`SyntaxError` included) -/
theorem C01_generated_split_eq (s : Str) : Gen.XPathPrim.splitNameIndex s = XPath.splitNameIndex s :=
  XPathPrimGenEq.xpgen_split_eq s

/-- the index spellings of the property, evaluated by the translated `n0eval` -/
theorem C01_idx_spelling_eval_generated (e : IdxSp) : Gen.XPathPrim.n0eval e.text = .ok (.int e.val) := by
  rw [C01_generated_n0eval_eq]; exact e.eval

/-- a rendered step `k[e]` (plain or empty name, index expression) is split by the translated `split_name_index`
into exactly its name and its index text -/
theorem C01_step_split_generated (k e : Str) (hk : k = [] ∨ PlainKey k) (he : IdxExpr e) :
    Gen.XPathPrim.splitNameIndex (k ++ bracket e) = .ok (k, .str e) := by
  rw [C01_generated_split_eq]; exact split_bracket k e hk he

/-! Non-vacuity: the translated definitions compute, on every branch (they are separate definitions: a nested
function, two folds, a loop with `break`/`else`). -/
example : Gen.XPathPrim.n0eval [' ', 'L', 'a', 's', 't', '(', ')', ' ', '-', ' ', '1', '_', '0', '+', '2'] = .ok (.int (-9)) := by decide +kernel
example : Gen.XPathPrim.n0eval ['1', '+', 'n', 'e', 'w', '(', ')'] = .ok (.str ['1', '+', 'n', 'e', 'w', '(', ')']) := by decide +kernel
example : Gen.XPathPrim.n0eval ['1', '.', '5'] = .error .Unsupported ∧ Gen.XPathPrim.n0eval ['1', '.', 'x'] = .ok (.str ['1', '.', 'x'])
    ∧ Gen.XPathPrim.n0eval [] = .ok (.str []) ∧ Gen.XPathPrim.n0eval ['-', '-', '1'] = .ok (.int (-1)) ∧ Gen.XPathPrim.n0eval ['1', '-', 'x'] = .ok (.str ['1', '-', 'x']) := by decide +kernel
example : Gen.XPathPrim.splitNameIndex ['a', ' ', '[', ' ', 'k', ' ', '=', ' ', '\'', 'v', '\'', ']']
    = .ok (['a'], .cond ['k'] ['=', '='] (.str ['v'])) := by decide +kernel
example : Gen.XPathPrim.splitNameIndex ['[', 'k', '!', '~', 'T', 'r', 'u', 'e', '(', ')', ']']
    = .ok ([], .cond ['k'] ['!', '~'] (.bool true)) := by decide +kernel
example : Gen.XPathPrim.splitNameIndex ['[', 'c', 'o', 'n', 't', 'a', 'i', 'n', 's', '(', 't', 'e', 'x', 't', '(', ')', ',', 'v', ')', ']']
    = .ok ([], .cond ['t', 'e', 'x', 't', '(', ')'] ['~', '~'] (.str ['v'])) := by decide +kernel
example : Gen.XPathPrim.splitNameIndex ['[', 'c', 'o', 'n', 't', 'a', 'i', 'n', 's', ')', ']'] = .error .IndexError
    ∧ Gen.XPathPrim.splitNameIndex ['[', 'c', 'o', 'n', 't', 'a', 'i', 'n', 's', '(', ')', ']'] = .error .ValueError
    ∧ Gen.XPathPrim.splitNameIndex ['a', '[', ']'] = .ok (['a'], .str [])
    ∧ Gen.XPathPrim.splitNameIndex ['a', ']'] = .ok (['a', ']'], .none)
    ∧ Gen.XPathPrim.splitNameIndex ['[', '"', '%', '"', '=', '"', '%', '"', ']'] = .error .Unsupported := by decide +kernel

/-! ## END generated-primitives block -/

end N0.C01
