import N0Verif.Proofs.XPathStore
import N0Verif.Proofs.XPathHidden
import N0Verif.Proofs.XPathHiddenSet
/-!
# C02 — assigning through an xpath to an existing node changes exactly that node

Reference semantics: `Val.setAt t p v` is the plain nested dict/list model ("the original with
exactly that one slot replaced").  Written values are arbitrary (scalar or container).
-/
namespace N0.C02
open N0 N0.Py N0.Val N0.XPath

/-- **C02 (one write).**  For a dict-rooted tree, `d[xpath] = v` on the canonical path of an
existing node (plain keys on the path) raises nothing and yields exactly `setAt t p v`. -/
theorem C02_set_existing (cls : Cls) (kvs : List (Str × Val)) (p : Pos) (c v : Val)
    (hp : PlainPos p) (hne : p ≠ []) (hget : getAt (.dict cls kvs) p = some c)
    (fuel : Nat) (hf : fuel ≥ 2 * p.length) :
    ∃ t', setAt (.dict cls kvs) p v = some t' ∧
      setItem fuel (.dict cls kvs) (slash ++ renderPos p) v = (t', .ok ()) := by
  obtain ⟨t', ht'⟩ := setAt_isSome p _ c v hget
  exact ⟨t', ht', setItem_existing cls kvs p c v t' hp hne hget ht' fuel hf⟩

/-- **C02 (any spelling, token level).**  Whatever token list spells the position — index steps
as `i`, `i-len`, `last()`, `last()-k`, `i+j` (see `C01_index_spellings`) — the store that
follows `_find` is `setAt`. -/
theorem C02_store_spelled (t : Val) (toks : List Str) (p : Pos) (c v t' : Val)
    (hs : Spells toks t p c) (hne : toks ≠ []) (hp : PlainPos p) (hset : setAt t p v = some t')
    (fuel : Nat) (hf : fuel ≥ 2 * toks.length) :
    ∃ r, findD fuel t [] false true toks (.at []) true slash = .ok (t, r) ∧
      r.notFound = Option.none ∧ storeAt t r.parent r.nameIdx v = .ok t' := by
  obtain ⟨r, hr, hfound⟩ := find_spells t true hs hne fuel [] slash true rfl hf
  exact ⟨r, hr, hfound.2.1, storeAt_found t p c r v t' hfound hp hset⟩

/-- after the write the slot holds `v` -/
theorem C02_read_back (t t' v : Val) (p : Pos) (h : setAt t p v = some t') : getAt t' p = some v :=
  getAt_of_setAt p t t' v h

/-- **frame**: no sibling or unrelated branch changes — every position that diverges from the
written one keeps its value (ancestors keep everything except the written slot) -/
theorem C02_frame (t t' v : Val) (p q : Pos) (h : setAt t p v = some t') (hd : Diverge p q) :
    getAt t' q = getAt t q :=
  getAt_setAt_diverge p q t t' v h hd

/-- the plain nested dict/list model applying a sequence of writes -/
def applyRef : Val → List (Pos × Val) → Option Val
  | t, [] => some t
  | t, (p, v) :: ops => (setAt t p v).bind (fun t' => applyRef t' ops)

/-- the same sequence through `__setitem__` -/
def runSets (fuel : Nat) : Val → List (Pos × Val) → Val × PyM Unit
  | t, [] => (t, .ok ())
  | t, (p, v) :: ops =>
    match setItem fuel t (slash ++ renderPos p) v with
    | (t', .ok _) => runSets fuel t' ops
    | (t', .error e) => (t', .error e)

/-- every write of the history addresses a node that exists *in the current state* -/
inductive ValidOps : Val → List (Pos × Val) → Prop
  | nil (t : Val) : ValidOps t []
  | cons {t t' c v : Val} {p : Pos} {ops : List (Pos × Val)} :
      PlainPos p → p ≠ [] → getAt t p = some c → setAt t p v = some t' → ValidOps t' ops →
      ValidOps t ((p, v) :: ops)

/-- **C02 (histories).**  After any sequence of assignments to existing nodes the tree equals
the plain model that applied the same writes; no write raises. -/
theorem C02_history (fuel : Nat) : ∀ (ops : List (Pos × Val)) (cls : Cls) (kvs : List (Str × Val)),
    ValidOps (.dict cls kvs) ops → (∀ pv ∈ ops, fuel ≥ 2 * pv.1.length) →
    ∃ t', applyRef (.dict cls kvs) ops = some t' ∧ runSets fuel (.dict cls kvs) ops = (t', .ok ())
  | [], cls, kvs, _, _ => ⟨_, rfl, rfl⟩
  | (p, v) :: ops, cls, kvs, hv, hf => by
    cases hv with
    | @cons _ t' c _ _ _ hp hne hget hset hrest =>
      obtain ⟨kvs', rfl⟩ := setAt_dict_root cls kvs p v t' hne hset
      have h1 := setItem_existing cls kvs p c v _ hp hne hget hset fuel (hf (p, v) (by simp))
      obtain ⟨t'', ha, hr⟩ := C02_history fuel ops cls kvs' hrest (fun pv hm => hf pv (by simp [hm]))
      refine ⟨t'', ?_, ?_⟩
      · simp [applyRef, hset, ha]
      · simp only [runSets, h1]; exact hr

def exTree : Val :=
  .dict .n0 [(['a'], .dict .plain [(['b'], .list .plain [.int 1, .list .n0 [.str ['x'], .none]])]),
             (['k'], .bool true)]

example : ValidOps exTree [([.key ['a'], .key ['b'], .idx 1, .idx 0], .int 7), ([.key ['k']], .list .plain [])] := by
  refine .cons (c := .str ['x']) (t' := _) ?_ (by simp) (by decide) rfl (.cons (c := .bool true) (t' := _) ?_ (by simp) (by decide) rfl (.nil _))
  · exact ⟨PlainKey.single 'a', PlainKey.single 'b', trivial⟩
  · exact ⟨PlainKey.single 'k', trivial⟩
example : (runSets 20 exTree [([.key ['a'], .key ['b'], .idx 1, .idx 0], .int 7), ([.key ['k']], .list .plain [])]).1
    = .dict .n0 [(['a'], .dict .plain [(['b'], .list .plain [.int 1, .list .n0 [.int 7, .none]])]),
                 (['k'], .list .plain [])] := by decide +kernel

/-- **C02 (hidden list).**  Lookup reads a value that is not a list as the list of this one item (`d['a[0]']`,
`d['a[-1]']`, `d['a[last()]']` are `d['a']`), so these spellings address the existing node itself: `d[xpath] = v` with
the index `e` denoting `0` or `-1` (in any spelling: `0`, `-1`, `last()`, `0+0`, …) on the single value `old` of `name`
replaces exactly that slot and raises nothing (fix C03-e; before, the write went into a temporary list and was lost). -/
theorem C02_set_hidden_list (cls : Cls) (kvs : List (Str × Val)) (q : Pos) (kcls : Cls) (nkvs : List (Str × Val))
    (name : Str) (old : Val) (e : IdxSp) (v : Val) (fuel : Nat)
    (hp : PlainPos q) (hget : getAt (.dict cls kvs) q = some (.dict kcls nkvs)) (hn : PlainKey name)
    (hl : lookup name nkvs = some old) (hs : isList old = false) (he : e.val = 0 ∨ e.val = -1)
    (hf : fuel ≥ 2 * q.length + 2) :
    ∃ t', setAt (.dict cls kvs) (q ++ [.key name]) v = some t' ∧
      setItem fuel (.dict cls kvs) (slash ++ renderPos q ++ slash ++ (name ++ bracket e.text)) v = (t', .ok ()) := by
  have hP : getAt (.dict cls kvs) (q ++ [Seg.key name]) = some old := getAt_snoc_key hget hl
  obtain ⟨t', ht'⟩ := setAt_isSome (q ++ [Seg.key name]) _ old v hP
  exact ⟨t', ht', setItem_hidden_replace cls kvs q kcls nkvs name old e v t' fuel hp hget hn hl hs he ht' hf⟩

/-- the witnesses of finding C02-a (fix C03-e): `d['a[0]'] = 'V'` (and `[-1]`, `[last()]`) on `{a: 1}` replaces `a`, and `d['a[0]']` is
`'V'` afterwards; a single value that is an element of a list (`a[0][0]` on `{a: [5]}`) likewise -/
theorem C02_set_hidden_list_ok :
    setItem 40 (.dict .n0 [(['a'], .int 1)]) ['a', '[', '0', ']'] (.str ['V']) = (.dict .n0 [(['a'], .str ['V'])], .ok ()) ∧
    (getItem 40 (.dict .n0 [(['a'], .str ['V'])]) ['a', '[', '0', ']']).2 = .ok (.str ['V']) ∧
    setItem 40 (.dict .n0 [(['a'], .int 1)]) ['a', '[', '-', '1', ']'] (.str ['V']) = (.dict .n0 [(['a'], .str ['V'])], .ok ()) ∧
    setItem 40 (.dict .n0 [(['a'], .int 1)]) ['a', '[', 'l', 'a', 's', 't', '(', ')', ']'] (.str ['V'])
      = (.dict .n0 [(['a'], .str ['V'])], .ok ()) ∧
    setItem 40 (.dict .n0 [(['a'], .list .n0 [.int 5])]) ['a', '[', '0', ']', '[', '0', ']'] (.str ['V'])
      = (.dict .n0 [(['a'], .list .n0 [.str ['V']])], .ok ()) := by
  decide +kernel
/-- … and through the theorem: `d['//k[last()]'] = 7` on `exTree` (`k` is the single value `True`) -/
example : ∃ t', setAt exTree [.key ['k']] (.int 7) = some t' ∧
    setItem 40 exTree ['/', '/', 'k', '[', 'l', 'a', 's', 't', '(', ')', ']'] (.int 7) = (t', .ok ()) :=
  C02_set_hidden_list .n0 _ [] .n0 _ ['k'] (.bool true) .last (.int 7) 40 trivial rfl (PlainKey.single 'k') (by decide) rfl
    (Or.inr rfl) (by decide)

/-- **C02 (hidden list, the index as a step of its own).**  `d['//…P…/[0]'] = v`, `…/[-1]`, `…/[last()]` (any spelling
`e` of `0` / `-1`) on the single value at ANY plain position `P ≠ []` (the value of a key, or an element of a list:
`a/b[0]/[0]`) is the write to the existing node `P`: exactly `setAt t P v`, nothing raised. -/
theorem C02_set_hidden_own_step (cls : Cls) (kvs : List (Str × Val)) (P : Pos) (old : Val) (e : IdxSp) (v : Val) (fuel : Nat)
    (hp : PlainPos P) (hne : P ≠ []) (hP : getAt (.dict cls kvs) P = some old) (hs : isList old = false)
    (he : e.val = 0 ∨ e.val = -1) (hf : fuel ≥ 2 * P.length + 1) :
    ∃ t', setAt (.dict cls kvs) P v = some t' ∧
      setItem fuel (.dict cls kvs) (slash ++ renderPos P ++ slash ++ bracket e.text) v = (t', .ok ()) := by
  obtain ⟨t', ht'⟩ := setAt_isSome P _ old v hP
  refine ⟨t', ht', ?_⟩
  apply setItem_hidden_toks cls kvs P old e v t' _ fuel hp hne hP hs he ht' _ _ _ hf
  · exact slash_noQ _
  · exact slash_hasPathChar _
  · simpa [show renderPos [] = [] from rfl] using tokenize_own_step hp (hidden_cleanIdx e) (tail := []) (fun _ h => nomatch h)

/-- **C02 (hidden list, an element of a list).**  `d['//…q0…[i][0]'] = v` (`[i][-1]`, `[i][last()]`, …) where element
`i` of the list at `q0` is a single value: exactly that element is replaced (`setAt`), nothing raised. -/
theorem C02_set_hidden_elem (cls : Cls) (kvs : List (Str × Val)) (q0 : Pos) (i : Nat) (old : Val) (e : IdxSp) (v : Val)
    (fuel : Nat) (hp : PlainPos (q0 ++ [Seg.idx i])) (hP : getAt (.dict cls kvs) (q0 ++ [Seg.idx i]) = some old)
    (hs : isList old = false) (he : e.val = 0 ∨ e.val = -1) (hf : fuel ≥ 2 * (q0.length + 1) + 1) :
    ∃ t', setAt (.dict cls kvs) (q0 ++ [Seg.idx i]) v = some t' ∧
      setItem fuel (.dict cls kvs) (slash ++ renderPos (q0 ++ [Seg.idx i]) ++ bracket e.text) v = (t', .ok ()) := by
  obtain ⟨t', ht'⟩ := setAt_isSome (q0 ++ [Seg.idx i]) _ old v hP
  refine ⟨t', ht', ?_⟩
  apply setItem_hidden_toks cls kvs (q0 ++ [Seg.idx i]) old e v t' _ fuel hp (by simp) hP hs he ht' _ _ _
    (by simpa using hf)
  · exact slash_noQ _
  · exact slash_hasPathChar _
  · exact hidden_elem_tokenize q0 i e hp

/-- **C02 (hidden list, the index in the middle of the path).**  `d['//…q…/name[0]/k2/…p2…'] = v` where `name` holds a
value that is not a list (so: a dict) and `k2/…p2…` is the plain path of an existing node below it: the hidden index
changes nothing, exactly the node at `q/name/k2/p2` is replaced (`setAt`), nothing raised. -/
theorem C02_set_hidden_middle (cls : Cls) (kvs : List (Str × Val)) (q : Pos) (kcls : Cls) (nkvs : List (Str × Val))
    (name : Str) (old : Val) (e : IdxSp) (k2 : Str) (p2 : Pos) (c v : Val) (fuel : Nat)
    (hp : PlainPos q) (hget : getAt (.dict cls kvs) q = some (.dict kcls nkvs)) (hn : PlainKey name)
    (hl : lookup name nkvs = some old) (hs : isList old = false) (he : e.val = 0 ∨ e.val = -1)
    (hp2 : PlainPos (Seg.key k2 :: p2)) (hc : getAt old (Seg.key k2 :: p2) = some c)
    (hf : fuel ≥ 2 * q.length + 2 * p2.length + 4) :
    ∃ t', setAt (.dict cls kvs) (q ++ [.key name] ++ Seg.key k2 :: p2) v = some t' ∧
      setItem fuel (.dict cls kvs)
        (slash ++ renderPos q ++ slash ++ (name ++ bracket e.text) ++ renderPos (Seg.key k2 :: p2)) v = (t', .ok ()) := by
  have hP : getAt (.dict cls kvs) (q ++ [Seg.key name] ++ Seg.key k2 :: p2) = some c := by
    rw [getAt_append, getAt_snoc_key hget hl]; exact hc
  obtain ⟨t', ht'⟩ := setAt_isSome _ _ c v hP
  refine ⟨t', ht', ?_⟩
  have htok : tokenize (slash ++ renderPos q ++ slash ++ (name ++ bracket e.text) ++ renderPos (Seg.key k2 :: p2))
      = mergedToks q ++ (name ++ bracket e.text) :: mergedToks (Seg.key k2 :: p2) := by
    rw [tokenize_then_pos _ k2 p2 hp2, tokenize_attached q hp hn e, List.append_assoc]
    rfl
  have hw := (walk_merged hp hget).append rfl (Walk.keyIdx (e.keyIdxTok hn) hl
    (Walk.hid e.idxTok hs he (mergedToks_ne_nil _ (by simp)) (walk_merged hp2 hc))) (by simp)
  rw [List.append_assoc] at ht'
  exact setItem_walk hw htok (by simp) (slash_noQ _) (slash_hasPathChar _)
    (hp.append (show PlainPos (Seg.key name :: Seg.key k2 :: p2) from ⟨hn, hp2⟩)) ht'
    (by simp only [List.length_cons]; omega)

/-! `exTree = {a: {b: [1, ['x', None]]}, k: True}` -/
/-- `d['//k/[last()]'] = 7` -/
example : ∃ t', setAt exTree [.key ['k']] (.int 7) = some t' ∧
    setItem 40 exTree ['/', '/', 'k', '/', '[', 'l', 'a', 's', 't', '(', ')', ']'] (.int 7) = (t', .ok ()) :=
  C02_set_hidden_own_step .n0 _ [.key ['k']] (.bool true) .last (.int 7) 40 ⟨PlainKey.single 'k', trivial⟩ (by simp)
    rfl rfl (Or.inr rfl) (by decide)
/-- `d['//a/b[0]/[0]'] = 7`: the single value is an element of a list -/
example : ∃ t', setAt exTree [.key ['a'], .key ['b'], .idx 0] (.int 7) = some t' ∧
    setItem 40 exTree ['/', '/', 'a', '/', 'b', '[', '0', ']', '/', '[', '0', ']'] (.int 7) = (t', .ok ()) :=
  C02_set_hidden_own_step .n0 _ [.key ['a'], .key ['b'], .idx 0] (.int 1) (.lit 0) (.int 7) 40
    ⟨PlainKey.single 'a', PlainKey.single 'b', trivial⟩ (by simp) rfl rfl (Or.inl rfl) (by decide)
/-- `d['//a/b[0][-1]'] = 7` -/
example : ∃ t', setAt exTree [.key ['a'], .key ['b'], .idx 0] (.int 7) = some t' ∧
    setItem 40 exTree ['/', '/', 'a', '/', 'b', '[', '0', ']', '[', '-', '1', ']'] (.int 7) = (t', .ok ()) :=
  C02_set_hidden_elem .n0 _ [.key ['a'], .key ['b']] 0 (.int 1) (.neg 1) (.int 7) 40
    ⟨PlainKey.single 'a', PlainKey.single 'b', trivial⟩ rfl rfl (Or.inr rfl) (by decide)
/-- `d['//a[0]/b[1]'] = 7`: `a` is a dict, `b[1]` the list `['x', None]` below it -/
example : ∃ t', setAt exTree [.key ['a'], .key ['b'], .idx 1] (.int 7) = some t' ∧
    setItem 40 exTree ['/', '/', 'a', '[', '0', ']', '/', 'b', '[', '1', ']'] (.int 7) = (t', .ok ()) :=
  C02_set_hidden_middle .n0 _ [] .n0 _ ['a'] _ (.lit 0) ['b'] [.idx 1] (.list .n0 [.str ['x'], .none]) (.int 7) 40 trivial rfl
    (PlainKey.single 'a') rfl rfl (Or.inl rfl) ⟨PlainKey.single 'b', trivial⟩ rfl (by decide)
example : (setItem 40 exTree ['/', '/', 'a', '[', '0', ']', '/', 'b', '[', '1', ']'] (.int 7)).1
      = .dict .n0 [(['a'], .dict .plain [(['b'], .list .plain [.int 1, .int 7])]), (['k'], .bool true)] ∧
    (setItem 40 exTree ['/', '/', 'a', '/', 'b', '[', '0', ']', '/', '[', '0', ']'] (.int 7)).1
      = .dict .n0 [(['a'], .dict .plain [(['b'], .list .plain [.int 7, .list .n0 [.str ['x'], .none]])]), (['k'], .bool true)] := by
  decide +kernel

/-- **C02 (hidden list, the index as a step of its own in the middle).**  `d['//…P…/[0]/k2/…p2…'] = v` where the node at
the plain position `P` (under a key or an element of a list) is not a list: exactly the node at `P/k2/p2` is replaced. -/
theorem C02_set_hidden_middle_own (cls : Cls) (kvs : List (Str × Val)) (P : Pos) (old : Val) (e : IdxSp) (k2 : Str)
    (p2 : Pos) (c v : Val) (fuel : Nat)
    (hp : PlainPos P) (hP : getAt (.dict cls kvs) P = some old) (hs : isList old = false)
    (he : e.val = 0 ∨ e.val = -1) (hp2 : PlainPos (Seg.key k2 :: p2)) (hc : getAt old (Seg.key k2 :: p2) = some c)
    (hf : fuel ≥ 2 * P.length + 2 * p2.length + 4) :
    ∃ t', setAt (.dict cls kvs) (P ++ Seg.key k2 :: p2) v = some t' ∧
      setItem fuel (.dict cls kvs) (slash ++ renderPos P ++ slash ++ bracket e.text ++ renderPos (Seg.key k2 :: p2)) v
        = (t', .ok ()) := by
  have hP' : getAt (.dict cls kvs) (P ++ Seg.key k2 :: p2) = some c := by rw [getAt_append, hP]; exact hc
  obtain ⟨t', ht'⟩ := setAt_isSome _ _ c v hP'
  refine ⟨t', ht', ?_⟩
  apply setItem_hidden_middle_toks cls kvs P old e k2 p2 c v t' _ fuel hp hP hs he hp2 hc ht' _ _ _ hf
  · exact slash_noQ _
  · exact slash_hasPathChar _
  · rw [tokenize_then_pos _ k2 p2 hp2]
    have := tokenize_own_step hp (hidden_cleanIdx e) (tail := []) (fun _ h => nomatch h)
    rw [show renderPos (([] : List Str).map Seg.key) = [] from rfl, List.append_nil] at this
    rw [this, List.append_assoc]
    rfl

/-- **C02 (hidden list, on a list element in the middle).**  `d['//…q0…[i][0]/k2/…p2…'] = v` where element `i` of the list
at `q0` is not a list (a dict): exactly the node at `q0[i]/k2/p2` is replaced. -/
theorem C02_set_hidden_middle_elem (cls : Cls) (kvs : List (Str × Val)) (q0 : Pos) (i : Nat) (old : Val) (e : IdxSp)
    (k2 : Str) (p2 : Pos) (c v : Val) (fuel : Nat)
    (hp : PlainPos (q0 ++ [Seg.idx i])) (hP : getAt (.dict cls kvs) (q0 ++ [Seg.idx i]) = some old)
    (hs : isList old = false) (he : e.val = 0 ∨ e.val = -1) (hp2 : PlainPos (Seg.key k2 :: p2))
    (hc : getAt old (Seg.key k2 :: p2) = some c) (hf : fuel ≥ 2 * (q0.length + 1) + 2 * p2.length + 4) :
    ∃ t', setAt (.dict cls kvs) (q0 ++ [Seg.idx i] ++ Seg.key k2 :: p2) v = some t' ∧
      setItem fuel (.dict cls kvs)
        (slash ++ renderPos (q0 ++ [Seg.idx i]) ++ bracket e.text ++ renderPos (Seg.key k2 :: p2)) v = (t', .ok ()) := by
  have hP' : getAt (.dict cls kvs) (q0 ++ [Seg.idx i] ++ Seg.key k2 :: p2) = some c := by rw [getAt_append, hP]; exact hc
  obtain ⟨t', ht'⟩ := setAt_isSome _ _ c v hP'
  refine ⟨t', ht', ?_⟩
  apply setItem_hidden_middle_toks cls kvs (q0 ++ [Seg.idx i]) old e k2 p2 c v t' _ fuel hp hP hs he hp2 hc ht' _ _ _
    (by simpa using hf)
  · exact slash_noQ _
  · exact slash_hasPathChar _
  · rw [tokenize_then_pos _ k2 p2 hp2, hidden_elem_tokenize q0 i e hp, List.append_assoc]
    rfl

/-- `{h: [1, {p: 5}]}` -/
def exTree2 : Val := .dict .n0 [(['h'], .list .n0 [.int 1, .dict .n0 [(['p'], .int 5)]])]
/-- `d['//a/[-1]/b[1]'] = 7` on `exTree` -/
example : ∃ t', setAt exTree [.key ['a'], .key ['b'], .idx 1] (.int 7) = some t' ∧
    setItem 40 exTree ['/', '/', 'a', '/', '[', '-', '1', ']', '/', 'b', '[', '1', ']'] (.int 7) = (t', .ok ()) :=
  C02_set_hidden_middle_own .n0 _ [.key ['a']] _ (.neg 1) ['b'] [.idx 1] (.list .n0 [.str ['x'], .none]) (.int 7) 40
    ⟨PlainKey.single 'a', trivial⟩ rfl rfl (Or.inr rfl) ⟨PlainKey.single 'b', trivial⟩ rfl (by decide)
/-- `d['//h[1][0]/p'] = 7` on `{h: [1, {p: 5}]}` -/
example : ∃ t', setAt exTree2 [.key ['h'], .idx 1, .key ['p']] (.int 7) = some t' ∧
    setItem 40 exTree2 ['/', '/', 'h', '[', '1', ']', '[', '0', ']', '/', 'p'] (.int 7) = (t', .ok ()) :=
  C02_set_hidden_middle_elem .n0 _ [.key ['h']] 1 _ (.lit 0) ['p'] [] (.int 5) (.int 7) 40
    ⟨PlainKey.single 'h', trivial⟩ rfl rfl (Or.inl rfl) ⟨PlainKey.single 'p', trivial⟩ rfl (by decide)
example : (setItem 40 exTree2 ['/', '/', 'h', '[', '1', ']', '[', '0', ']', '/', 'p'] (.int 7)).1
    = .dict .n0 [(['h'], .list .n0 [.int 1, .dict .n0 [(['p'], .int 7)]])] := by decide +kernel

/-- **C02 (hidden list, several hidden indexes in a row).**  Item 0 of the hidden list is the value itself, which is again
the list of this one item: `d['//…P…[0][-1][last()]'] = v` — any number ≥ 1 of indexes, each any spelling of `0` / `-1` —
on the single value at the plain position `P` (the value of a key: `a[0][0]`; an element of a list: `h[1][0][0]`) is the
write to the existing node `P`: exactly `setAt t P v`, nothing raised. -/
theorem C02_set_hidden_row (cls : Cls) (kvs : List (Str × Val)) (P : Pos) (old : Val) (init : List IdxSp) (l : IdxSp)
    (v : Val) (fuel : Nat)
    (hp : PlainPos P) (hne : P ≠ []) (hP : getAt (.dict cls kvs) P = some old) (hs : isList old = false)
    (hgi : ∀ e ∈ init, e.val = 0 ∨ e.val = -1) (hg : l.val = 0 ∨ l.val = -1)
    (hf : fuel ≥ 2 * P.length + 3 + init.length) :
    ∃ t', setAt (.dict cls kvs) P v = some t' ∧
      setItem fuel (.dict cls kvs) (slash ++ renderPos P ++ (init ++ [l]).flatMap (fun e => bracket e.text)) v
        = (t', .ok ()) := by
  obtain ⟨t', ht'⟩ := setAt_isSome P _ old v hP
  refine ⟨t', ht', ?_⟩
  obtain ⟨toks, htok, hne', hw⟩ := walk_row_text (.dict cls kvs) P old init l hp hne hP hs hgi hg
  -- `fuel - 1` rounds of the loop are at hand, `init.length` are needed
  obtain ⟨k, rfl, hk⟩ : ∃ k, fuel = init.length + k + 1 ∧ k ≥ P.length := ⟨fuel - 1 - init.length, by omega, by omega⟩
  exact setItem_walk_hidden hw htok hne' (slash_noQ _) (slash_hasPathChar _) hp ht'
    (by rw [Nat.add_right_comm]; exact Nat.add_le_add_left hk _) rfl
    (refinds_row (.dict cls kvs) P old _ hp hne hP hs k init.length init rfl
      (Nat.le_trans (Nat.add_le_add_left hk _) (Nat.le_succ _)))

/-- `d['//k[0][-1][last()]'] = 7` on `exTree` -/
example : ∃ t', setAt exTree [.key ['k']] (.int 7) = some t' ∧
    setItem 40 exTree ['/', '/', 'k', '[', '0', ']', '[', '-', '1', ']', '[', 'l', 'a', 's', 't', '(', ')', ']'] (.int 7)
      = (t', .ok ()) :=
  C02_set_hidden_row .n0 _ [.key ['k']] (.bool true) [.lit 0, .neg 1] .last (.int 7) 40
    ⟨PlainKey.single 'k', trivial⟩ (by simp) rfl rfl (by decide) (Or.inr rfl) (by decide)
/-- `d['//a/b[0][0][0]'] = 7` on `exTree`: two hidden indexes on an element of a list -/
example : ∃ t', setAt exTree [.key ['a'], .key ['b'], .idx 0] (.int 7) = some t' ∧
    setItem 40 exTree ['/', '/', 'a', '/', 'b', '[', '0', ']', '[', '0', ']', '[', '0', ']'] (.int 7) = (t', .ok ()) :=
  C02_set_hidden_row .n0 _ [.key ['a'], .key ['b'], .idx 0] (.int 1) [.lit 0] (.lit 0) (.int 7) 40
    ⟨PlainKey.single 'a', PlainKey.single 'b', trivial⟩ (by simp) rfl rfl (by decide) (Or.inl rfl)
    (by decide)
example : (setItem 40 exTree ['/', '/', 'k', '[', '0', ']', '[', '-', '1', ']', '[', 'l', 'a', 's', 't', '(', ')', ']'] (.int 7)).1
    = .dict .n0 [(['a'], .dict .plain [(['b'], .list .plain [.int 1, .list .n0 [.str ['x'], .none]])]), (['k'], .int 7)] := by
  decide +kernel

end N0.C02
