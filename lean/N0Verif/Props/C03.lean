import N0Verif.Proofs.XPathCreate
import N0Verif.Proofs.XPathHistory
import N0Verif.Proofs.XPathCreateReadback
import N0Verif.Proofs.XPathPureApi
import N0Verif.Proofs.XPathHidden
import N0Verif.Proofs.XPathHiddenSet
/-!
# C03 — assigning to a missing xpath creates exactly the missing chain; `new()` appends

`setItem` is the model of `__setitem__` (with `_add`); it returns the tree after the call and
whether the call raised — a refused creation takes back what `_add` had already inserted (fix C03-a).
The model follows the code with the fix patches C03-a, C03-b, C03-c, C04-a, C03-e applied.

Reference semantics: `Val.setAt t p x` ("the original with exactly the slot `p` replaced/inserted"),
`chain ns v` (nested dictionaries for a chain of names), `appendTo old x` (a list gets one more
element, a non-list value becomes the first element of a new list).  Paths are written in the
canonical `//…` form `xpath()` lists (`slash ++ renderPos q` is the path of the existing node `q`).

All theorems are unbounded in the size of the tree, the depth of `q` and the length of the chain.
-/
namespace N0.C03
open N0 N0.Py N0.Val N0.XPath

/-! ## 1. what `_find` reports for the miss -/

/-- **miss at a plain key.**  A token list that spells position `q` of the root (a dict), followed by
a plain key that dict does not have: `_find` returns NOT FOUND with the parent reference at `q`, no
name, the missing suffix — and the tree untouched. -/
theorem C03_find_miss_key (t : Val) (rl : Bool) (toks0 : List Str) (q : Pos) (cls : Cls) (kvs : List (Str × Val))
    (n : Str) (rest : List Str) (hs : Spells toks0 t q (.dict cls kvs)) (hk : KeyTok n)
    (hl : lookup n kvs = Option.none) (fuel : Nat) (hf : fuel ≥ 2 * toks0.length + 1) :
    ∃ fnd, findD fuel t [] false true (toks0 ++ n :: rest) (.at []) rl slash
      = .ok (t, { parent := .at q, nameIdx := Option.none, value := Val.none, found := fnd,
                  notFound := some (n :: rest) }) := by
  obtain ⟨w, hw⟩ := hs.exF
  exact ⟨slash ++ w, by
    simpa using find_walk_miss t rl hw n n .none rest hk.split hk.ne hk.notUp hk.notStar hl fuel [] slash true rfl hf⟩

/-- **miss at `name[idx]`** whose name is absent (whatever index expression `e`, `IdxExpr`: `new()`, `0`, …). -/
theorem C03_find_miss_keyidx (t : Val) (rl : Bool) (toks0 : List Str) (q : Pos) (cls : Cls)
    (kvs : List (Str × Val)) (name e : Str) (rest : List Str) (hs : Spells toks0 t q (.dict cls kvs))
    (hn : PlainKey name) (he : IdxExpr e) (hl : lookup name kvs = Option.none) (fuel : Nat)
    (hf : fuel ≥ 2 * toks0.length + 1) :
    ∃ fnd, findD fuel t [] false true (toks0 ++ (name ++ bracket e) :: rest) (.at []) rl slash
      = .ok (t, { parent := .at q, nameIdx := Option.none, value := Val.none, found := fnd,
                  notFound := some ((name ++ bracket e) :: rest) }) := by
  obtain ⟨w, hw⟩ := hs.exF
  exact ⟨slash ++ w, by
    simpa using find_walk_miss t rl hw _ name (.str e) rest (split_bracket name e (Or.inr hn) he) hn.ne hn.notUp
      hn.keyTok.notStar hl fuel [] slash true rfl hf⟩

/-! ## 2. a chain of fresh names -/

/-- **full statement (names).**  Below an existing dict node at `q`, a chain of fresh plain names
`n :: ns` creates exactly the nested dictionaries and stores `v` at the end; nothing else changes. -/
def C03_create_names_stmt : Prop :=
  ∀ (cls : Cls) (kvs : List (Str × Val)) (q : Pos) (_c kcls : Cls) (nkvs : List (Str × Val))
    (n : Str) (ns : List Str) (v t' : Val) (fuel : Nat),
    PlainPos q → getAt (.dict cls kvs) q = some (.dict kcls nkvs) → lookup n nkvs = Option.none →
    PlainKey n → (∀ m ∈ ns, PlainKey m) →
    setAt (.dict cls kvs) (q ++ [.key n]) (chain ns v) = some t' →
    fuel ≥ 2 * (q.length + ns.length + 1) →
    setItem fuel (.dict cls kvs) (slash ++ renderPos (q ++ (n :: ns).map Seg.key)) v = (t', .ok ())

theorem C03_create_names : C03_create_names_stmt := by
  intro cls kvs q _ kcls nkvs n ns v t' fuel hp hget hl hn hns hset hf
  exact setItem_create_names cls kvs q kcls nkvs n ns v t' fuel hp hget hl hn hns hset (by omega)

/-- the creation always has a result: the reference tree exists whenever the parent does -/
theorem C03_create_names_total (t : Val) (q : Pos) (kcls : Cls) (nkvs : List (Str × Val)) (n : Str) (x : Val)
    (hget : getAt t q = some (.dict kcls nkvs)) : ∃ t', setAt t (q ++ [.key n]) x = some t' := by
  obtain ⟨t', ht'⟩ := setAt_isSome q t _ (.dict kcls (kvSet n x nkvs)) hget
  exact ⟨t', (setAt_snoc_key hget n x).trans ht'⟩

/-! ## 3. element-creating steps: `name[new()]`, `name[0]`, `name[len]`, each optionally followed by
fresh names (`name[new()]/x/y` appends the dict `{x: {y: v}}`) -/

/-- **`name[new()]` appends exactly one element** to the list under `name`; where `name` holds a
non-list value that value is wrapped as the first element (`[old, v]`). -/
theorem C03_append_new (cls : Cls) (kvs : List (Str × Val)) (q : Pos) (kcls : Cls)
    (nkvs : List (Str × Val)) (name : Str) (old : Val) (tail : List Str) (v t' : Val) (fuel : Nat)
    (hp : PlainPos q) (hget : getAt (.dict cls kvs) q = some (.dict kcls nkvs)) (hn : PlainKey name)
    (hl : lookup name nkvs = some old) (ht : ∀ x ∈ tail, PlainKey x)
    (hset : setAt (.dict cls kvs) (q ++ [.key name]) (appendTo old (chain tail v)) = some t')
    (hf : fuel ≥ 4 * (q.length + 1)) :
    setItem fuel (.dict cls kvs)
      (slash ++ renderPos q ++ slash ++ (name ++ bracket sNew) ++ renderPos (tail.map Seg.key)) v = (t', .ok ()) :=
  setItem_create_elem_new_toks cls kvs q kcls nkvs name old (tail.map .name) v t' _ fuel hp hget hn hl (laterW_names ht)
    (GW_names tail) (by rw [fill_names]; exact hset) rfl
    rfl (by rw [stepTok_names]; exact tokenize_elem_path q hp hn cleanIdx_new tail ht) hf

/-- `appendTo` on a list is one more element at the end (so `len` grows by exactly one) … -/
theorem C03_appendTo_list (c : Cls) (xs : List Val) (x : Val) : appendTo (.list c xs) x = .list c (xs ++ [x]) := rfl
/-- … and on anything else the two-element list `[old, x]` -/
theorem C03_appendTo_wrap (old x : Val) (h : isList old = false) : appendTo old x = .list .n0 [old, x] :=
  appendTo_nonlist h x

/-- **`name[new()]` / `name[0]` on a fresh name** creates the one-element list. -/
theorem C03_new_on_fresh (cls : Cls) (kvs : List (Str × Val)) (q : Pos) (kcls : Cls)
    (nkvs : List (Str × Val)) (name e : Str) (tail : List Str) (v t' : Val) (fuel : Nat)
    (hp : PlainPos q) (hget : getAt (.dict cls kvs) q = some (.dict kcls nkvs)) (hn : PlainKey name)
    (he : e = sNew ∨ e = ['0']) (hl : lookup name nkvs = Option.none) (ht : ∀ x ∈ tail, PlainKey x)
    (hset : setAt (.dict cls kvs) (q ++ [.key name]) (.list .n0 [chain tail v]) = some t')
    (hf : fuel ≥ 2 * q.length + 1) :
    setItem fuel (.dict cls kvs)
      (slash ++ renderPos q ++ slash ++ (name ++ bracket e) ++ renderPos (tail.map Seg.key)) v = (t', .ok ()) :=
  setItem_create_elem_fresh_toks cls kvs q kcls nkvs name e (tail.map .name) v t' _ fuel hp hget hn he hl (laterW_names ht)
    (GW_names tail) (by rw [fill_names]; exact hset) rfl
    rfl
    (by rw [stepTok_names]; exact tokenize_elem_path q hp hn (cleanIdx_of_new_or_zero he) tail ht) hf

/-- **`name[len]` on an existing list of length `len`** appends exactly one element. -/
theorem C03_len_appends (cls : Cls) (kvs : List (Str × Val)) (q : Pos) (kcls : Cls)
    (nkvs : List (Str × Val)) (name : Str) (c : Cls) (xs : List Val) (tail : List Str) (v t' : Val) (fuel : Nat)
    (hp : PlainPos q) (hget : getAt (.dict cls kvs) q = some (.dict kcls nkvs)) (hn : PlainKey name)
    (hl : lookup name nkvs = some (.list c xs)) (ht : ∀ x ∈ tail, PlainKey x)
    (hset : setAt (.dict cls kvs) (q ++ [.key name]) (.list c (xs ++ [chain tail v])) = some t')
    (hf : fuel ≥ 2 * q.length + 2) :
    setItem fuel (.dict cls kvs)
      (slash ++ renderPos q ++ slash ++ (name ++ bracket (natStr xs.length)) ++ renderPos (tail.map Seg.key)) v
      = (t', .ok ()) :=
  setItem_create_elem_len_toks cls kvs q kcls nkvs name c xs (tail.map .name) v t' _ fuel hp hget hn hl (laterW_names ht)
    (GW_names tail) (by rw [fill_names]; exact hset) rfl
    rfl (by rw [stepTok_names]; exact tokenize_elem_path q hp hn (cleanIdx_nat _) tail ht) hf

/-! ## 4. frame and read-back -/

/-- **frame (names, fresh element list).**  The created slot `w` did not exist; every node that
existed keeps its position and value, except the ancestors of the new slot (which contain it). -/
theorem C03_frame_new_slot (t t' v x : Val) (w p : Pos) (hset : setAt t w v = some t')
    (hnew : getAt t w = Option.none) (hp : getAt t p = some x) (hnp : ¬ p <+: w) : getAt t' p = some x :=
  frame_new_slot t t' v x w p hset hnew hp hnp

/-- the slot a fresh name addresses does not exist before -/
theorem C03_fresh_slot (t : Val) (q : Pos) (kcls : Cls) (nkvs : List (Str × Val)) (n : Str)
    (hget : getAt t q = some (.dict kcls nkvs)) (hl : lookup n nkvs = Option.none) :
    getAt t (q ++ [.key n]) = Option.none := by
  rw [getAt_snoc, hget]; simp [child, hl]

/-- **frame (append).**  Appending to the list at `P` keeps every node that existed (also every
element of the list and everything below them) except the ancestors of the list. -/
theorem C03_frame_append (t t' : Val) (P : Pos) (c : Cls) (xs : List Val) (z x : Val) (p : Pos)
    (hset : setAt t P (.list c (xs ++ [z])) = some t') (hP : getAt t P = some (.list c xs))
    (hp : getAt t p = some x) (hnp : ¬ p <+: P) : getAt t' p = some x :=
  frame_append t t' P c xs z x p hset hP hp hnp

/-- **frame (wrap).**  Nodes outside the wrapped value keep their position; the wrapped value and
everything inside it moves below index 0. -/
theorem C03_frame_wrap (t t' : Val) (P : Pos) (old z x : Val) (p : Pos)
    (hset : setAt t P (.list .n0 [old, z]) = some t') (hP : getAt t P = some old) (hp : getAt t p = some x) :
    (¬ p <+: P → ¬ P <+: p → getAt t' p = some x) ∧ (∀ r, p = P ++ r → getAt t' (P ++ .idx 0 :: r) = some x) :=
  frame_wrap t t' P old z x p hset hP hp

/-- **read-back (names).**  `d[xpath]` is `v` afterwards, and reading does not change the tree. -/
theorem C03_read_back_names (cls : Cls) (kvs : List (Str × Val)) (q : Pos) (n : Str) (ns : List Str) (v t' : Val)
    (fuel : Nat) (hp : PlainPos q) (hn : PlainKey n) (hns : ∀ m ∈ ns, PlainKey m)
    (hset : setAt (.dict cls kvs) (q ++ [.key n]) (chain ns v) = some t')
    (hf : fuel ≥ 2 * (q.length + ns.length + 1)) :
    getItem fuel t' (slash ++ renderPos (q ++ (n :: ns).map Seg.key)) = (t', .ok v) := by
  obtain ⟨kvs', rfl⟩ := setAt_dict_root cls kvs _ _ t' (by simp) hset
  have hpp : PlainPos (q ++ (n :: ns).map Seg.key) :=
    hp.append (plainPos_keys (n :: ns) (List.forall_mem_cons.2 ⟨hn, hns⟩))
  have hg : getAt (.dict cls kvs') (q ++ (n :: ns).map Seg.key) = some v := by
    have := getAt_setAt_below _ _ _ (q ++ [Seg.key n]) (ns.map Seg.key) hset
    rw [getAt_chain] at this
    simpa using this
  have hlen := mergedToks_length_le (q ++ (n :: ns).map Seg.key)
  exact getItem_spelled cls kvs' _ _ _ v fuel (slash_noQ _) (hasPathChar_render _) (tokenize_render _ hpp)
    (spells_merged _ _ _ hpp hg) (mergedToks_ne_nil _ (by simp)) (by simp at hlen ⊢; omega)

/-- **read-back (elements).**  After `name[new()]…`, `name[0]…` (fresh name: `ys = []`),
`name[len]…` (`ys` = the old elements) or the wrap (`ys = [old]`), the value reads back through the
path with the index replaced by `last()`. -/
theorem C03_read_back_elem (cls : Cls) (kvs : List (Str × Val)) (q : Pos) (kcls : Cls) (nkvs : List (Str × Val))
    (name : Str) (c : Cls) (ys : List Val) (tail : List Str) (v t' : Val) (fuel : Nat)
    (hp : PlainPos q) (hget : getAt (.dict cls kvs) q = some (.dict kcls nkvs)) (hn : PlainKey name)
    (ht : ∀ x ∈ tail, PlainKey x)
    (hset : setAt (.dict cls kvs) (q ++ [.key name]) (.list c (ys ++ [chain tail v])) = some t')
    (hf : fuel ≥ 2 * (q.length + tail.length + 1)) :
    getItem fuel t'
      (slash ++ renderPos q ++ slash ++ (name ++ bracket sLast) ++ renderPos (tail.map Seg.key)) = (t', .ok v) :=
  readback_elem cls kvs q kcls nkvs name c ys tail v t' fuel hp hget hn ht hset hf

/-! ## 5. every path of the creation grammar -/

/-- **full statement (every creation path).**  `steps` is a creation path below the existing node
`cur` at `q`: the first step may be a fresh name, `n[new()]` (fresh or existing `n`), `n[0]` (fresh),
`n[len]`, or — below a list — `[new()]`/`[len]`; later steps are fresh names, `n[new()]`, `n[0]` and
(after an element-creating step) `[new()]`, `[0]` (`CStep.laterW`), in any order and number — `GW` only
asks that a bare index step is not written directly after a *name* step (that text is the step `n[e]`).
Then `d[path] = v` yields exactly `createIn` and nothing raises.

Proved: `C03_create_full`.  (Element-creating steps that follow one another rest on fixes C03-a/C03-b, a bare
`[new()]` below an element of a plain `list` on fix C03-c.) -/
def C03_create_stmt : Prop :=
  ∀ (cls : Cls) (kvs : List (Str × Val)) (q : Pos) (cur cur' : Val) (s : CStep) (steps : List CStep) (v t' : Val),
    PlainPos q → getAt (.dict cls kvs) q = some cur → s.first → (∀ x ∈ steps, x.laterW) → GW (s :: steps) →
    createIn cur (s :: steps) v = some cur' → setAt (.dict cls kvs) q cur' = some t' →
    ∃ n, ∀ fuel ≥ n,
      setItem fuel (.dict cls kvs) (slash ++ renderPos q ++ (s :: steps).flatMap renderCStep) v = (t', .ok ())

/-- **C03 (first step below a dict, later steps without bare indexes).**  The full statement for every
creation path whose first step is a name step or a named element-creating step (`cur` is then a
dict) and whose later steps are fresh names / `n[new()]` / `n[0]`: names become nested dictionaries,
every `n[new()]`/`n[0]`/`n[len]` appends exactly one element (creating the list, or wrapping a non-list
value as first element), in any order and of any length — the result is exactly `createIn`.
(Special case of `C03_create`; the read-back theorems are stated for these paths.) -/
theorem C03_create_partial (cls : Cls) (kvs : List (Str × Val)) (q : Pos) (kcls : Cls) (nkvs : List (Str × Val))
    (s : CStep) (steps : List CStep) (v cur' t' : Val) (fuel : Nat)
    (hp : PlainPos q) (hget : getAt (.dict cls kvs) q = some (.dict kcls nkvs))
    (hfirst : s.first) (hidx : ∀ e, s ≠ .idx e) (hsteps : ∀ x ∈ steps, x.later)
    (hcreate : createIn (.dict kcls nkvs) (s :: steps) v = some cur')
    (hset : setAt (.dict cls kvs) q cur' = some t') (hf : fuel ≥ 4 * (q.length + 1)) :
    setItem fuel (.dict cls kvs) (slash ++ renderPos q ++ (s :: steps).flatMap renderCStep) v = (t', .ok ()) :=
  setItem_create_canon cls kvs q _ cur' s steps v t' fuel hp hget hfirst (fun x hx => CStep.laterW_of_later (hsteps x hx))
    (GW_of_later s steps hsteps) hcreate hset hf

/-- the reference result always exists once `createIn` is defined (the node at `q` exists) -/
theorem C03_create_total (t : Val) (q : Pos) (cur cur' : Val) (hget : getAt t q = some cur) :
    ∃ t', setAt t q cur' = some t' := setAt_isSome q t cur cur' hget

/-- **`[new()]` / `[len]` below a list that is an element of a list** — plain `list` or `n0list`
(fix C03-c) — optionally followed by later steps: exactly one element is appended to the addressed list. -/
theorem C03_append_in_list (cls : Cls) (kvs : List (Str × Val)) (q0 : Pos) (i : Nat) (c0 : Cls) (ys : List Val)
    (c : Cls) (xs : List Val) (e : Str) (steps : List CStep) (v t' : Val) (fuel : Nat)
    (hp : PlainPos q0) (hq0 : getAt (.dict cls kvs) q0 = some (.list c0 ys)) (hi : ys[i]? = some (.list c xs))
    (he : e = sNew ∨ e = natStr xs.length)
    (hsteps : ∀ x ∈ steps, x.laterW) (hg : GW (.idx e :: steps))
    (hset : setAt (.dict cls kvs) (q0 ++ [.idx i]) (.list c (xs ++ [fill steps v])) = some t')
    (hf : fuel ≥ 4 * (q0.length + 2)) :
    setItem fuel (.dict cls kvs)
      (slash ++ renderPos (q0 ++ [.idx i]) ++ (CStep.idx e :: steps).flatMap renderCStep) v = (t', .ok ()) := by
  have hc : createIn (.list c xs) (CStep.idx e :: steps) v = some (.list c (xs ++ [fill steps v])) := by
    rw [createIn, if_pos he]
  have hlen : (q0 ++ [Seg.idx i]).length = q0.length + 1 := by simp
  exact setItem_create_canon cls kvs (q0 ++ [Seg.idx i]) (.list c xs) (.list c (xs ++ [fill steps v])) (CStep.idx e) steps v
    t' fuel (hp.append (plainPos_idx i)) (getAt_snoc_idx hq0 hi) trivial hsteps hg hc hset (by rw [hlen]; omega)

/-- **C03 (every creation path).**  First step: fresh name, `n[new()]`, `n[0]`, `n[len]` below a dict,
`[new()]`/`[len]` below a list (held by a key, or an element of an enclosing list of either class);
later steps: fresh names, `n[new()]`, `n[0]`, `[new()]`, `[0]` in any order (`GW`: no bare index written
directly after a name step).  The result is exactly `createIn`; nothing raises.  No hypothesis beyond
those of `C03_create_stmt`. -/
theorem C03_create (cls : Cls) (kvs : List (Str × Val)) (q : Pos) (cur cur' : Val) (s : CStep) (steps : List CStep)
    (v t' : Val) (fuel : Nat)
    (hp : PlainPos q) (hget : getAt (.dict cls kvs) q = some cur) (hfirst : s.first)
    (hsteps : ∀ x ∈ steps, x.laterW) (hg : GW (s :: steps))
    (hcreate : createIn cur (s :: steps) v = some cur') (hset : setAt (.dict cls kvs) q cur' = some t')
    (hf : fuel ≥ 4 * (q.length + 1)) :
    setItem fuel (.dict cls kvs) (slash ++ renderPos q ++ (s :: steps).flatMap renderCStep) v = (t', .ok ()) :=
  setItem_create_canon cls kvs q cur cur' s steps v t' fuel hp hget hfirst hsteps hg hcreate hset hf

theorem C03_create_full : C03_create_stmt := by
  intro cls kvs q cur cur' s steps v t' hp hget hfirst hsteps hg hcreate hset
  exact ⟨4 * (q.length + 1), fun fuel hf =>
    C03_create cls kvs q cur cur' s steps v t' fuel hp hget hfirst hsteps hg hcreate hset hf⟩

/-- paths whose later steps have no bare index (`later`) are part of the whole grammar (`laterW`, `GW`); the statement does
not mention `GOk` -/
theorem C03_GOk_inside (s : CStep) (steps : List CStep) (hsteps : ∀ x ∈ steps, x.later) :
    (∀ x ∈ steps, x.laterW) ∧ GW (s :: steps) :=
  ⟨fun x hx => CStep.laterW_of_later (hsteps x hx), GW_of_later s steps hsteps⟩

/-- **unrestricted statement (read back).**  After *any* successful `d[xpath] = v` the value reads
back through the same path with `new()` replaced by `last()`.  Not proved in this generality: it
quantifies over every path text (wildcards, conditions, `..`, non-canonical spellings) and over names
that contain the text `new()` themselves (which `replace` rewrites).  Proved for every creation path
without later bare index steps whose names are free of `(`: `C03_read_back`, `C03_read_back_any`; paths
with later bare indexes (`c[new()][0]/m`, which without fix C03-b stores `v` elsewhere) read back on
the instances below and in the evaluator. -/
def C03_read_back_stmt : Prop :=
  ∀ (t t' v : Val) (xp : Str) (fuel : Nat),
    setItem fuel t xp v = (t', .ok ()) →
    ∃ n, ∀ f ≥ n, (getItem f t' (replace sNew sLast xp)).2 = .ok v

/-- **C03 (read back, every path of `C03_create_partial`).**  After the creation
`d[//…q…/s/steps…] = v` (any path of the honoured grammar whose first step is below a dict: names,
`n[new()]`, `n[0]`, `n[len]` in any alternation, any length), `d[xpath.replace("new()", "last()")]`
returns `v` and leaves the tree as it is.  Hypothesis added to those of `C03_create_partial` (whose fuel bound is replaced): no
name on the path contains `(` (`NoParenPos q`, `NoParen x.nameOf`) — otherwise `replace` could
rewrite a *name* that contains the text `new()`. -/
theorem C03_read_back (cls : Cls) (kvs : List (Str × Val)) (q : Pos) (kcls : Cls) (nkvs : List (Str × Val))
    (s : CStep) (steps : List CStep) (v cur' t' : Val) (fuel : Nat)
    (hp : PlainPos q) (hget : getAt (.dict cls kvs) q = some (.dict kcls nkvs))
    (hfirst : s.first) (hidx : ∀ e, s ≠ .idx e) (hsteps : ∀ x ∈ steps, x.later)
    (hnq : NoParenPos q) (hnp : ∀ x ∈ s :: steps, NoParen x.nameOf)
    (hcreate : createIn (.dict kcls nkvs) (s :: steps) v = some cur')
    (hset : setAt (.dict cls kvs) q cur' = some t') (hf : fuel ≥ 2 * (q.length + steps.length + 1)) :
    getItem fuel t' (replace sNew sLast (slash ++ renderPos q ++ (s :: steps).flatMap renderCStep)) = (t', .ok v) :=
  getItem_readback_any cls kvs q _ cur' s steps v t' fuel hp hget hfirst hsteps hnq hnp hcreate hset hf

/-- **C03 (read back, every first step of `C03_create`; later steps without bare indexes).**  The same for every first step of the honoured
grammar, also a bare `[new()]`/`[len]` below a list (`//x[0][new()]/m` reads back through
`//x[0][last()]/m`).  No hypothesis about enclosing plain lists is needed here: the statement is
about the tree `createIn` describes. -/
theorem C03_read_back_any (cls : Cls) (kvs : List (Str × Val)) (q : Pos) (cur cur' : Val) (s : CStep)
    (steps : List CStep) (v t' : Val) (fuel : Nat)
    (hp : PlainPos q) (hget : getAt (.dict cls kvs) q = some cur) (hfirst : s.first)
    (hsteps : ∀ x ∈ steps, x.later) (hnq : NoParenPos q) (hnp : ∀ x ∈ s :: steps, NoParen x.nameOf)
    (hcreate : createIn cur (s :: steps) v = some cur') (hset : setAt (.dict cls kvs) q cur' = some t')
    (hf : fuel ≥ 2 * (q.length + steps.length + 1)) :
    getItem fuel t' (replace sNew sLast (slash ++ renderPos q ++ (s :: steps).flatMap renderCStep)) = (t', .ok v) :=
  getItem_readback_any cls kvs q cur cur' s steps v t' fuel hp hget hfirst hsteps hnq hnp hcreate hset hf

/-- the text that is read: every `new()` index has become `last()`, nothing else has changed -/
theorem C03_read_back_path (q : Pos) (steps : List CStep) (hq : NoParenPos q) (hsteps : ∀ x ∈ steps, x.noParen) :
    replace sNew sLast (slash ++ renderPos q ++ steps.flatMap renderCStep)
      = slash ++ renderPos q ++ (steps.map lastify).flatMap renderCStep :=
  replace_path q steps hq hsteps

/-- **create, then read back**: both halves of "after `d[xpath] = v` … `d[xpath]` is `v`" for the
paths of `C03_create_partial` in one statement. -/
theorem C03_create_then_read (cls : Cls) (kvs : List (Str × Val)) (q : Pos) (kcls : Cls) (nkvs : List (Str × Val))
    (s : CStep) (steps : List CStep) (v cur' t' : Val) (fuel : Nat)
    (hp : PlainPos q) (hget : getAt (.dict cls kvs) q = some (.dict kcls nkvs))
    (hfirst : s.first) (hidx : ∀ e, s ≠ .idx e) (hsteps : ∀ x ∈ steps, x.later)
    (hnq : NoParenPos q) (hnp : ∀ x ∈ s :: steps, NoParen x.nameOf)
    (hcreate : createIn (.dict kcls nkvs) (s :: steps) v = some cur')
    (hset : setAt (.dict cls kvs) q cur' = some t')
    (hf : fuel ≥ 4 * (q.length + 1)) (hf2 : fuel ≥ 2 * (q.length + steps.length + 1)) :
    let xp := slash ++ renderPos q ++ (s :: steps).flatMap renderCStep
    setItem fuel (.dict cls kvs) xp v = (t', .ok ()) ∧ getItem fuel t' (replace sNew sLast xp) = (t', .ok v) :=
  ⟨C03_create_partial cls kvs q kcls nkvs s steps v cur' t' fuel hp hget hfirst hidx hsteps hcreate hset hf,
   C03_read_back cls kvs q kcls nkvs s steps v cur' t' fuel hp hget hfirst hidx hsteps hnq hnp hcreate hset hf2⟩

/-- **full statement (no debris).**  A `d[xpath] = v` that raises leaves the tree as it was — every tree,
every path text, every value, every exception.  Proved: `C03_err_leaves_tree` (fix C03-a: `_add` leaves
nothing behind; fix C04-a: the search writes nothing). -/
def C03_err_leaves_tree_stmt : Prop :=
  ∀ (t t' v : Val) (xp : Str) (fuel : Nat) (e : PyErr), setItem fuel t xp v = (t', .error e) → t' = t

/-- after a raising `d[xpath] = v` the tree is the tree before the call or the one `_find` handed to
`_add` — whatever `_add` and the store did is gone (fix C03-a alone) -/
theorem C03_err_tree_is_search_tree (t t' v : Val) (xp : Str) (fuel : Nat) (e : PyErr)
    (h : setItem fuel t xp v = (t', .error e)) :
    t' = t ∨ ∃ r, findD fuel t [] false true (tokenize (if startsWith xp ['?'] then xp.drop 1 else xp)) (.at []) true
      slash = .ok (t', r) :=
  setItem_error_tree fuel t xp v t' e h

/-- the form of the statement that needs fix C03-a only: unchanged whenever the search returned the tree
it was given (so the two repairs stay separable; `hpure` always holds after fix C04-a) -/
theorem C03_err_leaves_tree_partial (t t' v : Val) (xp : Str) (fuel : Nat) (e : PyErr)
    (h : setItem fuel t xp v = (t', .error e))
    (hpure : ∀ root1 r, findD fuel t [] false true (tokenize (if startsWith xp ['?'] then xp.drop 1 else xp)) (.at [])
      true slash = .ok (root1, r) → root1 = t) : t' = t := by
  rcases setItem_error_tree fuel t xp v t' e h with h1 | ⟨r, hr⟩
  · exact h1
  · exact hpure t' r hr

/-- **C03 (a refused assignment leaves the tree unchanged), the full statement, proved**: every tree,
every path text (creation paths of every shape, wildcards, conditions, malformed text), every value,
every exception class. -/
theorem C03_err_leaves_tree : C03_err_leaves_tree_stmt := by
  intro t t' v xp fuel e h
  refine C03_err_leaves_tree_partial t t' v xp fuel e h ?_
  intro root1 r hfind
  have := findD_any fuel t [] true true (tokenize (if startsWith xp ['?'] then xp.drop 1 else xp)) (.at []) slash
  rw [hfind] at this
  exact this.1

def exTree : Val := .dict .n0 [(['a'], .dict .n0 [])]

/-- the witnesses of finding C03-a (debris; fixed): the three paths are honoured … -/
theorem C03_nested_new_ok :
    setItem 40 exTree ['a', '/', 'b', '[', 'n', 'e', 'w', '(', ')', ']', '[', 'n', 'e', 'w', '(', ')', ']'] (.str ['V'])
      = (.dict .n0 [(['a'], .dict .n0 [(['b'], .list .n0 [.list .n0 [.str ['V']]])])], .ok ()) := by
  decide +kernel
example : setItem 40 exTree ['m', '[', 'n', 'e', 'w', '(', ')', ']', '/', 'n', '[', 'n', 'e', 'w', '(', ')', ']'] (.str ['V'])
      = (.dict .n0 [(['a'], .dict .n0 []), (['m'], .list .n0 [.dict .n0 [(['n'], .list .n0 [.str ['V']])]])], .ok ()) := by
  decide +kernel
example : setItem 40 exTree ['n', '[', '0', ']', '[', '0', ']'] (.str ['V'])
      = (.dict .n0 [(['a'], .dict .n0 []), (['n'], .list .n0 [.list .n0 [.str ['V']]])], .ok ()) := by
  decide +kernel

/-- … and a creation that is refused at a deeper level (`n/m[3]`: `SyntaxError` at the second level, after
`n` had been inserted) leaves nothing behind -/
theorem C03_refused_leaves_nothing :
    setItem 40 exTree ['n', '/', 'm', '[', '3', ']'] (.str ['V']) = (exTree, .error .SyntaxError) := by
  decide +kernel
example : (setItem 40 exTree ['n', '/', 'm', '[', '3', ']'] (.str ['V'])).1 = exTree :=
  C03_err_leaves_tree exTree _ (.str ['V']) ['n', '/', 'm', '[', '3', ']'] 40 .SyntaxError C03_refused_leaves_nothing

/-- the witness of finding C03-b (silent misplacement; fixed): `d['c[new()][0]/m'] = v` creates `c: [[{m: v}]]` -/
theorem C03_nested_idx_ok :
    setItem 40 exTree ['c', '[', 'n', 'e', 'w', '(', ')', ']', '[', '0', ']', '/', 'm'] (.str ['V'])
      = (.dict .n0 [(['a'], .dict .n0 []), (['c'], .list .n0 [.list .n0 [.dict .n0 [(['m'], .str ['V'])]]])], .ok ()) := by
  decide +kernel

/-- the witness of finding C03-c (fixed): `[new()]` directly below a list that is an element of a plain `list` appends -/
theorem C03_new_in_plain_list_ok :
    setItem 40 (.dict .n0 [(['x'], .list .plain [.list .plain []])])
        ['x', '[', '0', ']', '[', 'n', 'e', 'w', '(', ')', ']'] (.str ['V'])
      = (.dict .n0 [(['x'], .list .plain [.list .plain [.str ['V']]])], .ok ()) := by
  decide +kernel

/-- the witness of finding C03-d (fixed): the search does not convert the single value `k` before `_add` refuses
`x[5]` — the tree is exactly the one before the call (fix C04-a; `_add` converts only when it succeeds) -/
theorem C03_refused_no_wrap :
    setItem 40 (.dict .n0 [(['k'], .int 1)]) ['k', '[', 'n', 'e', 'w', '(', ')', ']', '/', 'x', '[', '5', ']'] (.str ['V'])
      = (.dict .n0 [(['k'], .int 1)], .error .SyntaxError) := by
  decide +kernel
/-- … while the honoured creation on the same name converts and appends -/
example : setItem 40 (.dict .n0 [(['k'], .int 1)]) ['k', '[', 'n', 'e', 'w', '(', ')', ']', '/', 'x'] (.str ['V'])
      = (.dict .n0 [(['k'], .list .n0 [.int 1, .dict .n0 [(['x'], .str ['V'])]])], .ok ()) := by
  decide +kernel

/-! ## Non-vacuity: the theorems instantiated on concrete trees (explicit char lists) -/

/-- a tree with a list `l` and a scalar `k` under `a` -/
def exTree2 : Val :=
  .dict .n0 [(['a'], .dict .n0 [(['l'], .list .n0 [.int 1]), (['k'], .str ['s'])])]

/-! ## 5b. an index step on a single value — the hidden list (fix C03-e)

Lookup reads a value that is not a list as the list of this one item: `d['a[0]']`, `d['a[-1]']`, `d['a[last()]']` are
`d['a']`.  The reading of C03 consistent with it: on the value of a key, `name[1]` **is** `name[len]` (the value is wrapped
as the first element and exactly one element is appended), index `0` / `-1` is the value itself (C02: it is replaced),
and every other index cannot be honoured: the assignment raises and the tree is unchanged.  `e : IdxSp` is any
spelling of the index (`1`, `0+1`, `last()`, `-1`, `last()-3`, …). -/

/-- **C03 (index on a single value).**  `old`, the value of `name` in the dict at `q`, is not a list.
1. *replace*: `//…q…/name[e]` with `e` denoting `0` or `-1` stores `v` in the slot of `old`;
2. *wrap and append*: `//…q…/name[e]/tail…` with `e` denoting `1` makes the slot `[old, chain tail v]` (`name[1]`:
   `[old, v]`; `name[1]/y`: `[old, {y: v}]`);
3. *refuse*: with `e` denoting anything else the call raises `SyntaxError` and the tree is the tree before the call. -/
theorem C03_index_on_single_value (cls : Cls) (kvs : List (Str × Val)) (q : Pos) (kcls : Cls) (nkvs : List (Str × Val))
    (name : Str) (old : Val) (e : IdxSp) (tail : List Str) (v : Val) (fuel : Nat)
    (hp : PlainPos q) (hget : getAt (.dict cls kvs) q = some (.dict kcls nkvs)) (hn : PlainKey name)
    (hl : lookup name nkvs = some old) (hs : isList old = false) (ht : ∀ x ∈ tail, PlainKey x)
    (hf : fuel ≥ 2 * q.length + 2) :
    ((e.val = 0 ∨ e.val = -1) → ∀ t', setAt (.dict cls kvs) (q ++ [.key name]) v = some t' →
      setItem fuel (.dict cls kvs) (slash ++ renderPos q ++ slash ++ (name ++ bracket e.text)) v = (t', .ok ())) ∧
    (e.val = 1 → ∀ t', setAt (.dict cls kvs) (q ++ [.key name]) (.list .n0 [old, chain tail v]) = some t' →
      setItem fuel (.dict cls kvs)
        (slash ++ renderPos q ++ slash ++ (name ++ bracket e.text) ++ renderPos (tail.map Seg.key)) v = (t', .ok ())) ∧
    ((e.val ≥ 2 ∨ e.val < -1) →
      setItem fuel (.dict cls kvs)
        (slash ++ renderPos q ++ slash ++ (name ++ bracket e.text) ++ renderPos (tail.map Seg.key)) v
        = (.dict cls kvs, .error .SyntaxError)) :=
  ⟨fun he t' hset => setItem_hidden_replace cls kvs q kcls nkvs name old e v t' fuel hp hget hn hl hs he hset hf,
   fun he t' hset => setItem_hidden_wrap cls kvs q kcls nkvs name old e tail v t' fuel hp hget hn hl hs he ht hset hf,
   fun he => by
    obtain ⟨f, _, hwalk⟩ := hidden_walk (.dict cls kvs) q kcls nkvs name old e tail hp hget hn hl (k := 0) (fuel_walk hf)
    exact setItem_hidden_refused (slash_noQ _) (slash_hasPathChar _)
      (by rw [tokenize_elem_path q hp hn (hidden_cleanIdx e) tail ht]; exact hwalk) (getAt_snoc_key hget hl) hs
      (he.imp_left (Int.le_trans (by decide))) (fun h1 => by omega)⟩

/-- the reference trees of the first two cases always exist -/
theorem C03_index_on_single_value_total (t : Val) (q : Pos) (kcls : Cls) (nkvs : List (Str × Val)) (name : Str) (x : Val)
    (hget : getAt t q = some (.dict kcls nkvs)) : ∃ t', setAt t (q ++ [.key name]) x = some t' :=
  C03_create_names_total t q kcls nkvs name x hget

/-- the wrapped slot is `appendTo old …` of `C03_append_new`: `name[1]` on a single value does what `name[new()]` does -/
theorem C03_index_one_is_new (old x : Val) (h : isList old = false) : appendTo old x = .list .n0 [old, x] :=
  C03_appendTo_wrap old x h

/-- what `_find` itself reports for an index on a single value (fix C03-e does not touch lookups): the parent is
the temporary hidden list — a tuple in the implementation, so that nothing can be stored into it — and `__setitem__`
(`hiddenPlace`) resolves the place of the value itself -/
theorem C03_find_index_on_single_value (fuel : Nat) (root : Val) (entry rl : Bool) (P : Pos) (found : Str) (e : IdxSp)
    (old : Val) (rest : List Str) (hP : getAt root P = some old) (hl : isList old = false) :
    ((e.val = 0 ∨ e.val = -1) →
      findD (fuel + 1) root [] false entry [bracket e.text] (.at P) rl found
        = .ok (root, { parent := .wrap (.at P), nameIdx := some (bracket (intStr e.val)), value := old, found := found,
                       notFound := Option.none })) ∧
    ((e.val ≥ 1 ∨ e.val < -1) →
      findD (fuel + 1) root [] false entry (bracket e.text :: rest) (.at P) rl found
        = .ok (root, { parent := .wrap (.at P), nameIdx := some (bracket (intStr e.val)), value := Val.none, found := found,
                       notFound := some (bracket e.text :: rest) })) :=
  ⟨fun he => hidden_find_last fuel root entry rl P found _ _ _ old hP hl e.idxTok he,
   fun he => hidden_find_miss fuel root entry rl P found _ _ _ old rest hP hl e.idxTok he⟩

/-- the five lines of the finding, evaluated:
`d['a[1]'] = 'V'` on `{a: 1}` wraps and appends and reads back, -/
theorem C03_hidden_one_ok :
    setItem 40 (.dict .n0 [(['a'], .int 1)]) ['a', '[', '1', ']'] (.str ['V'])
      = (.dict .n0 [(['a'], .list .n0 [.int 1, .str ['V']])], .ok ()) ∧
    (getItem 40 (.dict .n0 [(['a'], .list .n0 [.int 1, .str ['V']])]) ['a', '[', '1', ']']).2 = .ok (.str ['V']) := by
  decide +kernel
/-- `d['a[0][1]'] = 'V'` on `{a: [5]}` (a single value that is an element of a list: no key could hold the new list)
is refused and changes nothing, -/
theorem C03_hidden_one_in_list_refused :
    setItem 40 (.dict .n0 [(['a'], .list .n0 [.int 5])]) ['a', '[', '0', ']', '[', '1', ']'] (.str ['V'])
      = (.dict .n0 [(['a'], .list .n0 [.int 5])], .error .SyntaxError) := by
  decide +kernel
/-- `d['a[1]/y'] = 'V'` on `{a: {x: 1}}` appends `{y: 'V'}` next to the wrapped dict, -/
theorem C03_hidden_one_tail_ok :
    setItem 40 (.dict .n0 [(['a'], .dict .n0 [(['x'], .int 1)])]) ['a', '[', '1', ']', '/', 'y'] (.str ['V'])
      = (.dict .n0 [(['a'], .list .n0 [.dict .n0 [(['x'], .int 1)], .dict .n0 [(['y'], .str ['V'])]])], .ok ()) := by
  decide +kernel
/-- `d['a[0]'] = 'V'` on `{a: 1}` replaces the value (C02), `d['a[2]'] = 'V'` is refused; the root and
`a[0][1]` on `{a: 1}` (after which `a[0][1]` would not lead to the new element) are refused as well -/
theorem C03_hidden_zero_two :
    setItem 40 (.dict .n0 [(['a'], .int 1)]) ['a', '[', '0', ']'] (.str ['V']) = (.dict .n0 [(['a'], .str ['V'])], .ok ()) ∧
    setItem 40 (.dict .n0 [(['a'], .int 1)]) ['a', '[', '2', ']'] (.str ['V'])
      = (.dict .n0 [(['a'], .int 1)], .error .SyntaxError) ∧
    setItem 40 (.dict .n0 [(['a'], .int 1)]) ['[', '1', ']'] (.str ['V']) = (.dict .n0 [(['a'], .int 1)], .error .SyntaxError) ∧
    setItem 40 (.dict .n0 [(['a'], .int 1)]) ['[', '0', ']'] (.str ['V']) = (.dict .n0 [(['a'], .int 1)], .error .TypeError) ∧
    setItem 40 (.dict .n0 [(['a'], .int 1)]) ['a', '[', '0', ']', '[', '1', ']'] (.str ['V'])
      = (.dict .n0 [(['a'], .int 1)], .error .SyntaxError) := by
  decide +kernel
/-- the same three kinds through the theorem (`exTree2`: `k` is the single value `'s'` in the dict `a`) -/
example : setItem 40 exTree2 ['/', '/', 'a', '/', 'k', '[', '1', ']', '/', 'x'] (.int 5)
    = (.dict .n0 [(['a'], .dict .n0 [(['l'], .list .n0 [.int 1]),
        (['k'], .list .n0 [.str ['s'], .dict .n0 [(['x'], .int 5)]])])], .ok ()) :=
  (C03_index_on_single_value .n0 _ [.key ['a']] .n0 _ ['k'] (.str ['s']) (.lit 1) [['x']] (.int 5) 40 ⟨pk_a, trivial⟩ rfl pk_k
    rfl rfl (List.forall_mem_singleton.2 pk_x) (by decide)).2.1 rfl _ rfl
example : setItem 40 exTree2 ['/', '/', 'a', '/', 'k', '[', 'l', 'a', 's', 't', '(', ')', ']'] (.int 5)
    = (.dict .n0 [(['a'], .dict .n0 [(['l'], .list .n0 [.int 1]), (['k'], .int 5)])], .ok ()) :=
  (C03_index_on_single_value .n0 _ [.key ['a']] .n0 _ ['k'] (.str ['s']) .last [] (.int 5) 40 ⟨pk_a, trivial⟩ rfl pk_k
    rfl rfl (by simp) (by decide)).1 (Or.inr rfl) _ rfl
example : setItem 40 exTree2 ['/', '/', 'a', '/', 'k', '[', '-', '2', ']', '/', 'x'] (.int 5) = (exTree2, .error .SyntaxError) :=
  (C03_index_on_single_value .n0 _ [.key ['a']] .n0 _ ['k'] (.str ['s']) (.neg 2) [['x']] (.int 5) 40 ⟨pk_a, trivial⟩ rfl pk_k
    rfl rfl (List.forall_mem_singleton.2 pk_x) (by decide)).2.2 (Or.inr (by decide))

/-! ## 5c. further hidden-list spellings of creation (fix C03-e): the index as a step of its own, a hidden index in the
middle of a creation path, the refusal for an element of a list -/

/-- **C03 (index `1` as a step of its own).**  `old`, the value of `name` in the dict at `q`, is not a list; `e` is any
spelling of `1`.  `//…q…/name/[e]/tail…` wraps `old` as the first element and appends exactly one element
(`chain tail v`) — the same tree `//…q…/name[e]/tail…` makes (`C03_index_on_single_value`, case 2). -/
theorem C03_index_own_step (cls : Cls) (kvs : List (Str × Val)) (q : Pos) (kcls : Cls) (nkvs : List (Str × Val))
    (name : Str) (old : Val) (e : IdxSp) (tail : List Str) (v : Val) (fuel : Nat)
    (hp : PlainPos q) (hget : getAt (.dict cls kvs) q = some (.dict kcls nkvs)) (hn : PlainKey name)
    (hl : lookup name nkvs = some old) (hs : isList old = false) (he : e.val = 1) (ht : ∀ x ∈ tail, PlainKey x)
    (hf : fuel ≥ 2 * q.length + 3) :
    ∀ t', setAt (.dict cls kvs) (q ++ [.key name]) (.list .n0 [old, chain tail v]) = some t' →
      setItem fuel (.dict cls kvs)
        (slash ++ renderPos (q ++ [.key name]) ++ slash ++ bracket e.text ++ renderPos (tail.map Seg.key)) v = (t', .ok ()) ∧
      setItem fuel (.dict cls kvs)
        (slash ++ renderPos q ++ slash ++ (name ++ bracket e.text) ++ renderPos (tail.map Seg.key)) v = (t', .ok ()) :=
  fun t' hset =>
    ⟨by
      have hpp : PlainPos (q ++ [Seg.key name]) := hp.append ⟨hn, trivial⟩
      apply setItem_hidden_wrap_toks cls kvs q kcls nkvs name old e tail v t' _ fuel hp hget hn hl hs he ht hset _ _ _ hf
      · rfl
      · rfl
      · exact tokenize_own_step hpp (hidden_cleanIdx e) ht,
     setItem_hidden_wrap cls kvs q kcls nkvs name old e tail v t' fuel hp hget hn hl hs he ht hset (by omega)⟩

/-- **C03 (hidden index in the middle of a creation path).**  `name` holds a dict in which `n` is fresh; `e` is any
spelling of `0` / `-1`.  `//…q…/name[e]/n/ns…` creates exactly the chain `{n: {ns…: v}}` below `name` — the tree the
canonical path `//…q…/name/n/ns…` creates (`C03_create_names`). -/
theorem C03_create_hidden_middle (cls : Cls) (kvs : List (Str × Val)) (q : Pos) (kcls : Cls) (nkvs : List (Str × Val))
    (name : Str) (ocls : Cls) (okvs : List (Str × Val)) (e : IdxSp) (n : Str) (ns : List Str) (v : Val) (fuel : Nat)
    (hp : PlainPos q) (hget : getAt (.dict cls kvs) q = some (.dict kcls nkvs)) (hn : PlainKey name)
    (hl : lookup name nkvs = some (.dict ocls okvs)) (he : e.val = 0 ∨ e.val = -1)
    (hfresh : lookup n okvs = Option.none) (hnn : PlainKey n) (hns : ∀ m ∈ ns, PlainKey m)
    (hf : fuel ≥ 2 * q.length + 4) :
    ∀ t', setAt (.dict cls kvs) (q ++ [.key name] ++ [.key n]) (chain ns v) = some t' →
      setItem fuel (.dict cls kvs)
        (slash ++ renderPos q ++ slash ++ (name ++ bracket e.text) ++ renderPos ((n :: ns).map Seg.key)) v = (t', .ok ()) ∧
      setItem fuel (.dict cls kvs) (slash ++ renderPos (q ++ [.key name] ++ (n :: ns).map Seg.key)) v = (t', .ok ()) := by
  intro t' hset
  refine ⟨?_, ?_⟩
  · exact setItem_create_names_toks cls kvs (q ++ [Seg.key name]) ocls okvs n ns v t' _ fuel
      (walk_attached_hidden hp hget hn hl rfl he) hfresh hnn hns hset rfl rfl
      (by rw [tokenize_elem_path q hp hn (hidden_cleanIdx e) (n :: ns) (List.forall_mem_cons.2 ⟨hnn, hns⟩), List.append_assoc]; rfl)
      (by rw [← Nat.add_assoc]; exact fuel_walk (Nat.le_trans (Nat.le_succ _) hf))
  · have hP : getAt (.dict cls kvs) (q ++ [Seg.key name]) = some (.dict ocls okvs) :=
      getAt_snoc_key hget hl
    have hpp : PlainPos (q ++ [Seg.key name]) := hp.append ⟨hn, trivial⟩
    have hlen : (q ++ [Seg.key name]).length = q.length + 1 := by simp
    exact setItem_create_names cls kvs (q ++ [Seg.key name]) ocls okvs n ns v t' fuel hpp hP hfresh hnn hns hset
      (by rw [hlen]; omega)

/-- **C03 (index on a single value that is an element of a list: refused).**  `old`, element `i` of a list, is not a
list; `e` denotes anything but `0` / `-1` (also `1`: no key could hold the new list).  `//…q0…[i][e]/tail…` and
`//…q0…[i]/[e]/tail…` raise `SyntaxError` and the tree is the tree before the call. -/
theorem C03_hidden_elem_refused (cls : Cls) (kvs : List (Str × Val)) (q0 : Pos) (i : Nat) (old : Val) (e : IdxSp)
    (tail : List Str) (v : Val) (fuel : Nat)
    (hp : PlainPos (q0 ++ [Seg.idx i])) (hP : getAt (.dict cls kvs) (q0 ++ [Seg.idx i]) = some old)
    (hs : isList old = false) (he : e.val ≥ 1 ∨ e.val < -1) (ht : ∀ x ∈ tail, PlainKey x)
    (hf : fuel ≥ 2 * (q0.length + 1) + 1) :
    setItem fuel (.dict cls kvs)
      (slash ++ renderPos (q0 ++ [Seg.idx i]) ++ bracket e.text ++ renderPos (tail.map Seg.key)) v
      = (.dict cls kvs, .error .SyntaxError) ∧
    setItem fuel (.dict cls kvs)
      (slash ++ renderPos (q0 ++ [Seg.idx i]) ++ slash ++ bracket e.text ++ renderPos (tail.map Seg.key)) v
      = (.dict cls kvs, .error .SyntaxError) := by
  refine ⟨?_, ?_⟩
  · apply setItem_hidden_elem_refuse_toks cls kvs q0 i old e tail v _ fuel hp hP hs he _ _ _ hf
    · rfl
    · rfl
    · exact tokenize_elem_idx hp (hidden_cleanIdx e) ht
  · apply setItem_hidden_elem_refuse_toks cls kvs q0 i old e tail v _ fuel hp hP hs he _ _ _ hf
    · rfl
    · rfl
    · exact tokenize_own_step hp (hidden_cleanIdx e) ht

/-- a dict `o` and a list `l` with a single value as element 1, under `a` -/
def exTreeH : Val :=
  .dict .n0 [(['a'], .dict .n0 [(['o'], .dict .n0 [(['p'], .int 1)]), (['l'], .list .n0 [.int 5, .str ['s']])])]

/-- `d['//a/k/[0+1]/x'] = 5` on `exTree2`: `k` becomes `['s', {x: 5}]` -/
example : setItem 40 exTree2 ['/', '/', 'a', '/', 'k', '/', '[', '0', '+', '1', ']', '/', 'x'] (.int 5)
    = (.dict .n0 [(['a'], .dict .n0 [(['l'], .list .n0 [.int 1]),
        (['k'], .list .n0 [.str ['s'], .dict .n0 [(['x'], .int 5)]])])], .ok ()) :=
  (C03_index_own_step .n0 _ [.key ['a']] .n0 _ ['k'] (.str ['s']) (.plus 0 1) [['x']] (.int 5) 40 ⟨pk_a, trivial⟩ rfl pk_k
    rfl rfl rfl (List.forall_mem_singleton.2 pk_x) (by decide) _ rfl).1
/-- `d['//a/o[last()]/n/m'] = 5` on `exTreeH`: `{n: {m: 5}}` appears in `o`, as for `//a/o/n/m` -/
example : setItem 40 exTreeH ['/', '/', 'a', '/', 'o', '[', 'l', 'a', 's', 't', '(', ')', ']', '/', 'n', '/', 'm'] (.int 5)
    = (.dict .n0 [(['a'], .dict .n0 [(['o'], .dict .n0 [(['p'], .int 1), (['n'], .dict .n0 [(['m'], .int 5)])]),
        (['l'], .list .n0 [.int 5, .str ['s']])])], .ok ()) :=
  (C03_create_hidden_middle .n0 _ [.key ['a']] .n0 _ ['o'] .n0 [(['p'], .int 1)] .last ['n'] [['m']] (.int 5) 40 ⟨pk_a, trivial⟩ rfl
    pk_o rfl (Or.inr rfl) rfl pk_n
    (List.forall_mem_singleton.2 pk_m) (by decide) _ rfl).1
/-- `d['//a/l[1][1]/x'] = 5` on `exTreeH` (`l[1]` is the single value `'s'`): refused, nothing changes -/
example : setItem 40 exTreeH ['/', '/', 'a', '/', 'l', '[', '1', ']', '[', '1', ']', '/', 'x'] (.int 5)
    = (exTreeH, .error .SyntaxError) :=
  (C03_hidden_elem_refused .n0 _ [.key ['a'], .key ['l']] 1 (.str ['s']) (.lit 1) [['x']] (.int 5) 40
    ⟨pk_a, pk_l, trivial⟩ rfl rfl (Or.inl (by decide))
    (List.forall_mem_singleton.2 pk_x) (by decide)).1

/-- **C03 (hidden index as a step of its own in the middle of a creation path).**  The node at the plain position `P`
(the value of a key, an element of a list, or — `P = []` — the root) is a dict in which `n` is fresh; `e` is any spelling
of `0` / `-1`.  `//…P…/[e]/n/ns…` creates exactly the chain `{n: {ns…: v}}` in that dict. -/
theorem C03_create_hidden_middle_own (cls : Cls) (kvs : List (Str × Val)) (P : Pos) (ocls : Cls)
    (okvs : List (Str × Val)) (e : IdxSp) (n : Str) (ns : List Str) (v : Val) (fuel : Nat)
    (hp : PlainPos P) (hP : getAt (.dict cls kvs) P = some (.dict ocls okvs)) (he : e.val = 0 ∨ e.val = -1)
    (hfresh : lookup n okvs = Option.none) (hnn : PlainKey n) (hns : ∀ m ∈ ns, PlainKey m)
    (hf : fuel ≥ 2 * P.length + 2) :
    ∀ t', setAt (.dict cls kvs) (P ++ [.key n]) (chain ns v) = some t' →
      setItem fuel (.dict cls kvs) (slash ++ renderPos P ++ slash ++ bracket e.text ++ renderPos ((n :: ns).map Seg.key)) v
        = (t', .ok ()) := by
  intro t' hset
  have hall : ∀ m ∈ n :: ns, PlainKey m := List.forall_mem_cons.2 ⟨hnn, hns⟩
  apply setItem_hidden_create_middle_toks cls kvs P ocls okvs e n ns v t' _ fuel hp hP he hfresh hnn hns hset _ _ _ hf
  · rfl
  · rfl
  · exact tokenize_own_step hp (hidden_cleanIdx e) hall

/-- **C03 (hidden index on a list element in the middle of a creation path).**  Element `i` of a list is a dict in which
`n` is fresh: `//…q0…[i][e]/n/ns…` creates exactly the chain `{n: {ns…: v}}` in that dict. -/
theorem C03_create_hidden_middle_elem (cls : Cls) (kvs : List (Str × Val)) (q0 : Pos) (i : Nat) (ocls : Cls)
    (okvs : List (Str × Val)) (e : IdxSp) (n : Str) (ns : List Str) (v : Val) (fuel : Nat)
    (hp : PlainPos (q0 ++ [Seg.idx i])) (hP : getAt (.dict cls kvs) (q0 ++ [Seg.idx i]) = some (.dict ocls okvs))
    (he : e.val = 0 ∨ e.val = -1)
    (hfresh : lookup n okvs = Option.none) (hnn : PlainKey n) (hns : ∀ m ∈ ns, PlainKey m)
    (hf : fuel ≥ 2 * (q0.length + 1) + 2) :
    ∀ t', setAt (.dict cls kvs) (q0 ++ [Seg.idx i] ++ [.key n]) (chain ns v) = some t' →
      setItem fuel (.dict cls kvs)
        (slash ++ renderPos (q0 ++ [Seg.idx i]) ++ bracket e.text ++ renderPos ((n :: ns).map Seg.key)) v = (t', .ok ()) := by
  intro t' hset
  have hall : ∀ m ∈ n :: ns, PlainKey m := List.forall_mem_cons.2 ⟨hnn, hns⟩
  apply setItem_hidden_create_middle_toks cls kvs (q0 ++ [Seg.idx i]) ocls okvs e n ns v t' _ fuel hp hP he hfresh hnn hns
    hset _ _ _ (by simpa using hf)
  · rfl
  · rfl
  · exact tokenize_elem_idx hp (hidden_cleanIdx e) hall

/-- a list `l` whose element 1 is a dict, under `a` -/
def exTreeH2 : Val :=
  .dict .n0 [(['a'], .dict .n0 [(['l'], .list .n0 [.int 5, .dict .n0 [(['x'], .int 1)]])])]

/-- `d['//a/o/[0]/n/m'] = 5` on `exTreeH` -/
example : setItem 40 exTreeH ['/', '/', 'a', '/', 'o', '/', '[', '0', ']', '/', 'n', '/', 'm'] (.int 5)
    = (.dict .n0 [(['a'], .dict .n0 [(['o'], .dict .n0 [(['p'], .int 1), (['n'], .dict .n0 [(['m'], .int 5)])]),
        (['l'], .list .n0 [.int 5, .str ['s']])])], .ok ()) :=
  C03_create_hidden_middle_own .n0 _ [.key ['a'], .key ['o']] .n0 [(['p'], .int 1)] (.lit 0) ['n'] [['m']] (.int 5) 40
    ⟨pk_a, pk_o, trivial⟩ rfl (Or.inl rfl) rfl pk_n
    (List.forall_mem_singleton.2 pk_m) (by decide) _ rfl
/-- `d['//[last()]/n'] = 5` on `exTreeH` (`P = []`: the root read as the list of this one item) -/
example : setItem 40 exTreeH ['/', '/', '[', 'l', 'a', 's', 't', '(', ')', ']', '/', 'n'] (.int 5)
    = (.dict .n0 [(['a'], .dict .n0 [(['o'], .dict .n0 [(['p'], .int 1)]), (['l'], .list .n0 [.int 5, .str ['s']])]),
        (['n'], .int 5)], .ok ()) :=
  C03_create_hidden_middle_own .n0 _ [] .n0 _ .last ['n'] [] (.int 5) 40 trivial rfl (Or.inr rfl) rfl pk_n
    (by simp) (by decide) _ rfl
/-- `d['//a/l[1][-1]/n'] = 5` on `exTreeH2` -/
example : setItem 40 exTreeH2 ['/', '/', 'a', '/', 'l', '[', '1', ']', '[', '-', '1', ']', '/', 'n'] (.int 5)
    = (.dict .n0 [(['a'], .dict .n0 [(['l'], .list .n0 [.int 5, .dict .n0 [(['x'], .int 1), (['n'], .int 5)]])])], .ok ()) :=
  C03_create_hidden_middle_elem .n0 _ [.key ['a'], .key ['l']] 1 .n0 [(['x'], .int 1)] (.neg 1) ['n'] [] (.int 5) 40
    ⟨pk_a, pk_l, trivial⟩ rfl (Or.inr rfl) rfl pk_n (by simp) (by decide) _ rfl

/-- **C03 (index on the root: refused).**  On a dict root, `[e]/tail…` and `//[e]/tail…` with `e` denoting anything but
`0` / `-1` (also `1`: no key holds the root) raise `SyntaxError` and the tree is the tree before the call. -/
theorem C03_hidden_root_refused (cls : Cls) (kvs : List (Str × Val)) (e : IdxSp) (tail : List Str) (v : Val)
    (fuel : Nat) (he : e.val ≥ 1 ∨ e.val < -1) (ht : ∀ x ∈ tail, PlainKey x) (hf : fuel ≥ 1) :
    setItem fuel (.dict cls kvs) (bracket e.text ++ renderPos (tail.map Seg.key)) v
      = (.dict cls kvs, .error .SyntaxError) ∧
    setItem fuel (.dict cls kvs) (slash ++ slash ++ bracket e.text ++ renderPos (tail.map Seg.key)) v
      = (.dict cls kvs, .error .SyntaxError) := by
  constructor
  · apply setItem_hidden_root_refuse_toks cls kvs e tail v _ fuel he _ _ _ hf
    · simp [bracket, startsWith]
    · simp [hasPathChar, bracket]
    · rw [tokenize_then_names _ tail ht, tokenize_bracket _ (hidden_cleanIdx e)]; rfl
  · apply setItem_hidden_root_refuse_toks cls kvs e tail v _ fuel he _ _ _ hf
    · rfl
    · rfl
    · rw [tokenize_then_names _ tail ht]
      have : slash ++ slash ++ bracket e.text = ([] : Str) ++ '/' :: (([] : Str) ++ '/' :: bracket e.text) := by
        simp [slash]
      rw [this, tokenize_append_slash, tokenize_append_slash, tokenize_bracket _ (hidden_cleanIdx e)]
      have : tokenize [] = [] := by decide
      rw [this]; simp

/-- `d['[0+1]/x'] = 5` and `d['//[last()-1]/x'] = 5` on `exTreeH`: refused, nothing changes -/
example : setItem 40 exTreeH ['[', '0', '+', '1', ']', '/', 'x'] (.int 5) = (exTreeH, .error .SyntaxError) :=
  (C03_hidden_root_refused .n0 _ (.plus 0 1) [['x']] (.int 5) 40 (Or.inl (by decide))
    (List.forall_mem_singleton.2 pk_x) (by decide)).1
example : setItem 40 exTreeH ['/', '/', '[', 'l', 'a', 's', 't', '(', ')', '-', '1', ']', '/', 'x'] (.int 5)
    = (exTreeH, .error .SyntaxError) :=
  (C03_hidden_root_refused .n0 _ (.lastMinus 1) [['x']] (.int 5) 40 (Or.inr (by decide))
    (List.forall_mem_singleton.2 pk_x) (by decide)).2

/-- **C03 (index as a step of its own, refused).**  `old` at ANY plain position `P` (the value of a key or an element of
a list) is not a list: `//…P…/[e]/tail…` with `e` denoting `≥ 2` or `< -1` raises `SyntaxError` and the tree is the tree
before the call — as `name[e]` does (`C03_index_on_single_value`, case 3). -/
theorem C03_index_own_step_refused (cls : Cls) (kvs : List (Str × Val)) (P : Pos) (old : Val) (e : IdxSp)
    (tail : List Str) (v : Val) (fuel : Nat)
    (hp : PlainPos P) (hP : getAt (.dict cls kvs) P = some old) (hs : isList old = false)
    (he : e.val ≥ 2 ∨ e.val < -1) (ht : ∀ x ∈ tail, PlainKey x) (hf : fuel ≥ 2 * P.length + 1) :
    setItem fuel (.dict cls kvs) (slash ++ renderPos P ++ slash ++ bracket e.text ++ renderPos (tail.map Seg.key)) v
      = (.dict cls kvs, .error .SyntaxError) := by
  obtain ⟨f, _, hwalk⟩ := find_walk_pos (.dict cls kvs) true hp hP (bracket e.text :: tail) (by simp) 1 (fuel_walk hf)
  exact setItem_hidden_refused (slash_noQ _) (slash_hasPathChar _)
    (by rw [tokenize_own_step hp (hidden_cleanIdx e) ht]; exact hwalk) hP hs (he.imp_left (Int.le_trans (by decide)))
    (fun h1 => by omega)

/-- `d['//a/k/[last()-1]/x'] = 5` on `exTree2`: refused, nothing changes -/
example : setItem 40 exTree2 ['/', '/', 'a', '/', 'k', '/', '[', 'l', 'a', 's', 't', '(', ')', '-', '1', ']', '/', 'x'] (.int 5)
    = (exTree2, .error .SyntaxError) :=
  C03_index_own_step_refused .n0 _ [.key ['a'], .key ['k']] (.str ['s']) (.lastMinus 1) [['x']] (.int 5) 40
    ⟨pk_a, pk_k, trivial⟩ rfl rfl (Or.inr (by decide)) (List.forall_mem_singleton.2 pk_x) (by decide)

/-- `d['//a/n/m'] = 5` through `C03_create_names` -/
example : setItem 40 exTree2 ['/', '/', 'a', '/', 'n', '/', 'm'] (.int 5)
    = (.dict .n0 [(['a'], .dict .n0 [(['l'], .list .n0 [.int 1]), (['k'], .str ['s']),
        (['n'], .dict .n0 [(['m'], .int 5)])])], .ok ()) :=
  C03_create_names .n0 _ [.key ['a']] .n0 .n0 _ ['n'] [['m']] (.int 5) _ 40 ⟨pk_a, trivial⟩ rfl rfl
    pk_n (List.forall_mem_singleton.2 pk_m) rfl (by decide)

/-- `d['//a/l[new()]'] = 5` appends to the list (`C03_append_new`, list branch) -/
example : setItem 40 exTree2 ['/', '/', 'a', '/', 'l', '[', 'n', 'e', 'w', '(', ')', ']'] (.int 5)
    = (.dict .n0 [(['a'], .dict .n0 [(['l'], .list .n0 [.int 1, .int 5]), (['k'], .str ['s'])])], .ok ()) :=
  C03_append_new .n0 _ [.key ['a']] .n0 _ ['l'] (.list .n0 [.int 1]) [] (.int 5) _ 40 ⟨pk_a, trivial⟩ rfl pk_l
    rfl (by simp) rfl (by decide)

/-- `d['//a/k[new()]/x'] = 5` wraps the scalar and appends `{x: 5}` (`C03_append_new`, wrap branch, with a tail) -/
example : setItem 40 exTree2 ['/', '/', 'a', '/', 'k', '[', 'n', 'e', 'w', '(', ')', ']', '/', 'x'] (.int 5)
    = (.dict .n0 [(['a'], .dict .n0 [(['l'], .list .n0 [.int 1]),
        (['k'], .list .n0 [.str ['s'], .dict .n0 [(['x'], .int 5)]])])], .ok ()) :=
  C03_append_new .n0 _ [.key ['a']] .n0 _ ['k'] (.str ['s']) [['x']] (.int 5) _ 40 ⟨pk_a, trivial⟩ rfl pk_k
    rfl (List.forall_mem_singleton.2 pk_x) rfl (by decide)

/-- `d['//a/n[0]'] = 5` on a fresh name (`C03_new_on_fresh`) -/
example : setItem 40 exTree2 ['/', '/', 'a', '/', 'n', '[', '0', ']'] (.int 5)
    = (.dict .n0 [(['a'], .dict .n0 [(['l'], .list .n0 [.int 1]), (['k'], .str ['s']),
        (['n'], .list .n0 [.int 5])])], .ok ()) :=
  C03_new_on_fresh .n0 _ [.key ['a']] .n0 _ ['n'] ['0'] [] (.int 5) _ 40 ⟨pk_a, trivial⟩ rfl pk_n
    (Or.inr rfl) rfl (by simp) rfl (by decide)

/-- `d['//a/l[1]'] = 5` with `len = 1` (`C03_len_appends`) -/
example : setItem 40 exTree2 ['/', '/', 'a', '/', 'l', '[', '1', ']'] (.int 5)
    = (.dict .n0 [(['a'], .dict .n0 [(['l'], .list .n0 [.int 1, .int 5]), (['k'], .str ['s'])])], .ok ()) :=
  C03_len_appends .n0 _ [.key ['a']] .n0 _ ['l'] .n0 [.int 1] [] (.int 5) _ 40 ⟨pk_a, trivial⟩ rfl pk_l
    rfl (by simp) rfl (by decide)

/-- read-back through `last()` (`C03_read_back_elem`) -/
example : (getItem 40 (.dict .n0 [(['a'], .dict .n0 [(['l'], .list .n0 [.int 1, .int 5]), (['k'], .str ['s'])])])
    ['/', '/', 'a', '/', 'l', '[', 'l', 'a', 's', 't', '(', ')', ']']).2 = .ok (.int 5) := by
  have := C03_read_back_elem .n0 _ [.key ['a']] .n0 _ ['l'] .n0 [.int 1] [] (.int 5)
    (.dict .n0 [(['a'], .dict .n0 [(['l'], .list .n0 [.int 1, .int 5]), (['k'], .str ['s'])])]) 40 ⟨pk_a, trivial⟩
    (rfl : getAt exTree2 _ = _) pk_l (by simp) rfl (by decide)
  exact congrArg Prod.snd this

/-- `d['//a/n/m[new()]/x'] = 5`: names, then an element-creating step, then a name (`C03_create_partial`) -/
example : setItem 40 exTree2 ['/', '/', 'a', '/', 'n', '/', 'm', '[', 'n', 'e', 'w', '(', ')', ']', '/', 'x'] (.int 5)
    = (.dict .n0 [(['a'], .dict .n0 [(['l'], .list .n0 [.int 1]), (['k'], .str ['s']),
        (['n'], .dict .n0 [(['m'], .list .n0 [.dict .n0 [(['x'], .int 5)]])])])], .ok ()) :=
  C03_create_partial .n0 _ [.key ['a']] .n0 _ (.name ['n']) [.elem ['m'] ['n', 'e', 'w', '(', ')'], .name ['x']] (.int 5) _ _ 40
    ⟨pk_a, trivial⟩ rfl pk_n (by intro e h; cases h)
    (by intro x hx; simp at hx; rcases hx with rfl | rfl
        · exact ⟨pk_m, Or.inl rfl⟩
        · exact pk_x)
    rfl rfl (by decide)

/-- `d['//a/k[new()]/x/l[0]'] = 5`: wrap, name, fresh one-element list (`C03_create_partial`) -/
example : setItem 40 exTree2 ['/', '/', 'a', '/', 'k', '[', 'n', 'e', 'w', '(', ')', ']', '/', 'x', '/', 'l', '[', '0', ']'] (.int 5)
    = (.dict .n0 [(['a'], .dict .n0 [(['l'], .list .n0 [.int 1]),
        (['k'], .list .n0 [.str ['s'], .dict .n0 [(['x'], .dict .n0 [(['l'], .list .n0 [.int 5])])]])])], .ok ()) :=
  C03_create_partial .n0 _ [.key ['a']] .n0 _ (.elem ['k'] ['n', 'e', 'w', '(', ')']) [.name ['x'], .elem ['l'] ['0']] (.int 5) _ _ 40
    ⟨pk_a, trivial⟩ rfl pk_k (by intro e h; cases h)
    (by intro x hx; simp at hx; rcases hx with rfl | rfl
        · exact pk_x
        · exact ⟨pk_l, Or.inr rfl⟩)
    rfl rfl (by decide)

-- read-back of `d['//a/k[new()]/x/l[0]'] = 5` through `'//a/k[last()]/x/l[0]'` (`C03_read_back`: wrap, name, fresh
-- one-element list); `np`: a one-character name without `(`
theorem np (c : Char) (h : c ≠ '(' := by decide) : NoParen [c] := by
  intro x hx; simp at hx; subst hx; exact h
example : replace sNew sLast ['/', '/', 'a', '/', 'k', '[', 'n', 'e', 'w', '(', ')', ']', '/', 'x', '/', 'l', '[', '0', ']']
    = ['/', '/', 'a', '/', 'k', '[', 'l', 'a', 's', 't', '(', ')', ']', '/', 'x', '/', 'l', '[', '0', ']'] := by decide +kernel
example : getItem 40 (.dict .n0 [(['a'], .dict .n0 [(['l'], .list .n0 [.int 1]),
        (['k'], .list .n0 [.str ['s'], .dict .n0 [(['x'], .dict .n0 [(['l'], .list .n0 [.int 5])])]])])])
      (replace sNew sLast
        ['/', '/', 'a', '/', 'k', '[', 'n', 'e', 'w', '(', ')', ']', '/', 'x', '/', 'l', '[', '0', ']'])
    = (.dict .n0 [(['a'], .dict .n0 [(['l'], .list .n0 [.int 1]),
        (['k'], .list .n0 [.str ['s'], .dict .n0 [(['x'], .dict .n0 [(['l'], .list .n0 [.int 5])])]])])], .ok (.int 5)) :=
  C03_read_back .n0 _ [.key ['a']] .n0 _ (.elem ['k'] ['n', 'e', 'w', '(', ')']) [.name ['x'], .elem ['l'] ['0']] (.int 5) _ _ 40
    ⟨pk_a, trivial⟩ (rfl : getAt exTree2 _ = _) pk_k (by intro e h; cases h)
    (by intro x hx; simp at hx; rcases hx with rfl | rfl
        · exact pk_x
        · exact ⟨pk_l, Or.inr rfl⟩)
    ⟨np 'a', trivial⟩
    (by intro x hx; simp at hx; rcases hx with rfl | rfl | rfl
        · exact np 'k'
        · exact np 'x'
        · exact np 'l')
    rfl rfl (by decide)

/-- read-back of `d['//a/n/m[new()]/x'] = 5` through `'//a/n/m[last()]/x'` (names, element, name) -/
example : getItem 40 (.dict .n0 [(['a'], .dict .n0 [(['l'], .list .n0 [.int 1]), (['k'], .str ['s']),
        (['n'], .dict .n0 [(['m'], .list .n0 [.dict .n0 [(['x'], .int 5)]])])])])
      (replace sNew sLast ['/', '/', 'a', '/', 'n', '/', 'm', '[', 'n', 'e', 'w', '(', ')', ']', '/', 'x'])
    = (.dict .n0 [(['a'], .dict .n0 [(['l'], .list .n0 [.int 1]), (['k'], .str ['s']),
        (['n'], .dict .n0 [(['m'], .list .n0 [.dict .n0 [(['x'], .int 5)]])])])], .ok (.int 5)) :=
  C03_read_back .n0 _ [.key ['a']] .n0 _ (.name ['n']) [.elem ['m'] ['n', 'e', 'w', '(', ')'], .name ['x']] (.int 5) _ _ 40
    ⟨pk_a, trivial⟩ (rfl : getAt exTree2 _ = _) pk_n (by intro e h; cases h)
    (by intro x hx; simp at hx; rcases hx with rfl | rfl
        · exact ⟨pk_m, Or.inl rfl⟩
        · exact pk_x)
    ⟨np 'a', trivial⟩
    (by intro x hx; simp at hx; rcases hx with rfl | rfl | rfl
        · exact np 'n'
        · exact np 'm'
        · exact np 'x')
    rfl rfl (by decide)

/-- a path with a later bare index (`c[new()][0]/m`, the witness of finding C03-b): the value reads back
through `c[last()][0]/m` -/
example : (getItem 40 (.dict .n0 [(['a'], .dict .n0 []), (['c'], .list .n0 [.list .n0 [.dict .n0 [(['m'], .str ['V'])]]])])
      (replace sNew sLast ['c', '[', 'n', 'e', 'w', '(', ')', ']', '[', '0', ']', '/', 'm'])).2 = .ok (.str ['V']) := by
  decide +kernel

/-- lists inside lists: `x` is an `n0list` holding an `n0list`, `p` a plain list holding a plain list -/
def exTree3 : Val :=
  .dict .n0 [(['x'], .list .n0 [.list .n0 [.int 1]]), (['p'], .list .plain [.list .plain []])]
theorem pk_p : PlainKey ['p'] := .single 'p'

/-- `d['//x[0][new()]'] = 5` appends to the inner list (`C03_append_in_list`, enclosing `n0list`) -/
example : setItem 40 exTree3 ['/', '/', 'x', '[', '0', ']', '[', 'n', 'e', 'w', '(', ')', ']'] (.int 5)
    = (.dict .n0 [(['x'], .list .n0 [.list .n0 [.int 1, .int 5]]), (['p'], .list .plain [.list .plain []])], .ok ()) :=
  C03_append_in_list .n0 _ [.key ['x']] 0 .n0 [.list .n0 [.int 1]] .n0 [.int 1] sNew [] (.int 5) _ 40 ⟨pk_x, trivial⟩
    rfl rfl (Or.inl rfl) (by simp) trivial rfl (by decide)

/-- `d['//p[0][0]'] = 5` (`len = 0`) appends below a *plain* list (`C03_append_in_list`) -/
example : setItem 40 exTree3 ['/', '/', 'p', '[', '0', ']', '[', '0', ']'] (.int 5)
    = (.dict .n0 [(['x'], .list .n0 [.list .n0 [.int 1]]), (['p'], .list .plain [.list .plain [.int 5]])], .ok ()) :=
  C03_append_in_list .n0 _ [.key ['p']] 0 .plain [.list .plain []] .plain [] ['0'] [] (.int 5) _ 40 ⟨pk_p, trivial⟩
    rfl rfl (Or.inr rfl) (by simp) trivial rfl (by decide)

/-- `d['//p[0][new()]'] = 5`: `[new()]` below an element of a *plain* list (the witness of finding C03-c) -/
example : setItem 40 exTree3 ['/', '/', 'p', '[', '0', ']', '[', 'n', 'e', 'w', '(', ')', ']'] (.int 5)
    = (.dict .n0 [(['x'], .list .n0 [.list .n0 [.int 1]]), (['p'], .list .plain [.list .plain [.int 5]])], .ok ()) :=
  C03_append_in_list .n0 _ [.key ['p']] 0 .plain [.list .plain []] .plain [] sNew [] (.int 5) _ 40 ⟨pk_p, trivial⟩
    rfl rfl (Or.inl rfl) (by simp) trivial rfl (by decide)

/-- `d['//x[0][new()]/m'] = 5`: bare `[new()]` first step followed by a name (`C03_create`; the
enclosing list is an `n0list`) -/
example : setItem 40 exTree3 ['/', '/', 'x', '[', '0', ']', '[', 'n', 'e', 'w', '(', ')', ']', '/', 'm'] (.int 5)
    = (.dict .n0 [(['x'], .list .n0 [.list .n0 [.int 1, .dict .n0 [(['m'], .int 5)]]]),
        (['p'], .list .plain [.list .plain []])], .ok ()) :=
  C03_create .n0 _ [.key ['x'], .idx 0] (.list .n0 [.int 1]) _ (.idx ['n', 'e', 'w', '(', ')']) [.name ['m']] (.int 5) _ 40
    ⟨pk_x, trivial⟩ rfl trivial (by intro x hx; simp at hx; subst hx; exact pk_m) (by simp [GW, CStep.isName])
    rfl rfl (by decide)

/-- … and its read-back through `'//x[0][last()]/m'` (`C03_read_back_any`) -/
example : getItem 40 (.dict .n0 [(['x'], .list .n0 [.list .n0 [.int 1, .dict .n0 [(['m'], .int 5)]]]),
        (['p'], .list .plain [.list .plain []])])
      (replace sNew sLast ['/', '/', 'x', '[', '0', ']', '[', 'n', 'e', 'w', '(', ')', ']', '/', 'm'])
    = (.dict .n0 [(['x'], .list .n0 [.list .n0 [.int 1, .dict .n0 [(['m'], .int 5)]]]),
        (['p'], .list .plain [.list .plain []])], .ok (.int 5)) :=
  C03_read_back_any .n0 _ [.key ['x'], .idx 0] (.list .n0 [.int 1]) _ (.idx ['n', 'e', 'w', '(', ')']) [.name ['m']] (.int 5) _ 40
    ⟨pk_x, trivial⟩ (rfl : getAt exTree3 _ = _) trivial (by intro x hx; simp at hx; subst hx; exact pk_m)
    ⟨np 'x', trivial⟩
    (by intro x hx; simp at hx; rcases hx with rfl | rfl
        · intro c hc; simp [CStep.nameOf] at hc
        · exact np 'm')
    rfl rfl (by decide)

/-- `d['//x[new()]'] = 5`: bare `[new()]` below a list held by a key (`C03_create`, the text of `x[new()]`) -/
example : setItem 40 exTree3 ['/', '/', 'x', '[', 'n', 'e', 'w', '(', ')', ']'] (.int 5)
    = (.dict .n0 [(['x'], .list .n0 [.list .n0 [.int 1], .int 5]), (['p'], .list .plain [.list .plain []])], .ok ()) :=
  C03_create .n0 _ [.key ['x']] (.list .n0 [.list .n0 [.int 1]]) _ (.idx ['n', 'e', 'w', '(', ')']) [] (.int 5) _ 40
    ⟨pk_x, trivial⟩ rfl trivial (by simp) trivial rfl rfl (by decide)

/-- `d['//a/n[new()][new()]/m[0][0]'] = 5`: element-creating steps following one another, named and bare
(`C03_create` on a path of findings C03-a/C03-b) -/
example : setItem 40 exTree2
      ['/', '/', 'a', '/', 'n', '[', 'n', 'e', 'w', '(', ')', ']', '[', 'n', 'e', 'w', '(', ')', ']', '/', 'm', '[', '0', ']', '[', '0', ']'] (.int 5)
    = (.dict .n0 [(['a'], .dict .n0 [(['l'], .list .n0 [.int 1]), (['k'], .str ['s']),
        (['n'], .list .n0 [.list .n0 [.dict .n0 [(['m'], .list .n0 [.list .n0 [.int 5]])]]])])], .ok ()) :=
  C03_create .n0 _ [.key ['a']] (.dict .n0 [(['l'], .list .n0 [.int 1]), (['k'], .str ['s'])]) _
    (.elem ['n'] ['n', 'e', 'w', '(', ')']) [.idx ['n', 'e', 'w', '(', ')'], .elem ['m'] ['0'], .idx ['0']] (.int 5) _ 40
    ⟨pk_a, trivial⟩ rfl pk_n
    (by intro x hx; simp at hx; rcases hx with rfl | rfl | rfl
        · exact Or.inl rfl
        · exact ⟨pk_m, Or.inr rfl⟩
        · exact Or.inr rfl)
    (by simp [GW, CStep.isName, CStep.isIdx]) rfl rfl (by decide)

/-- creations the code honours, evaluated directly on relative spellings -/
example : setItem 40 exTree ['a', '/', 'n', '/', 'm'] (.int 5)
    = (.dict .n0 [(['a'], .dict .n0 [(['n'], .dict .n0 [(['m'], .int 5)])])], .ok ()) := by decide +kernel
example : setItem 40 exTree ['a', '/', 'l', '[', 'n', 'e', 'w', '(', ')', ']'] (.int 5)
    = (.dict .n0 [(['a'], .dict .n0 [(['l'], .list .n0 [.int 5])])], .ok ()) := by decide +kernel
example : setItem 40 exTree ['a', '/', 'l', '[', 'n', 'e', 'w', '(', ')', ']', '/', 'x'] (.int 5)
    = (.dict .n0 [(['a'], .dict .n0 [(['l'], .list .n0 [.dict .n0 [(['x'], .int 5)]])])], .ok ()) := by decide +kernel
/-- the reference semantics of the full statement on a mixed path `n/m[new()]/x` -/
example : createIn (.dict .n0 []) [.name ['n'], .elem ['m'] sNew, .name ['x']] (.int 5)
    = some (.dict .n0 [(['n'], .dict .n0 [(['m'], .list .n0 [.dict .n0 [(['x'], .int 5)]])])]) := by decide +kernel
example : (setItem 40 exTree ['a', '/', 'n', '/', 'm', '[', 'n', 'e', 'w', '(', ')', ']', '/', 'x'] (.int 5)).1
    = .dict .n0 [(['a'], .dict .n0 [(['n'], .dict .n0 [(['m'], .list .n0 [.dict .n0 [(['x'], .int 5)]])])])] := by decide +kernel

/-! ## 6. histories: creations interleaved with C02 writes and C05 deletions

`Hist.Op` is one call: a write to an existing node, a creation by a `CStep` path below an existing
dict node (or, first step `[new()]`/`[len]`, below a list), a `delete` (with or without `recursively`) or a `pop` of an existing node — each with the
canonical path text of the node **in the state the call is made in**.  `Hist.applyOp` is the plain
nested dict/list model (`setAt`, `createIn`, `delAt`, `pruneUp`); `Hist.runOp` is the call through
`__setitem__` / `delete` / `pop`.  `Hist.ValidOps t ops` says that every operation is inside the
quantifier of C02/C03/C05 in the state it is applied to (the path is made of plain names, the
addressed node exists, `createIn` is defined).  For a creation `Hist.ValidOp` asks that the later steps are names,
`n[new()]`, `n[0]` (`CStep.later`: no bare index; the one thing it needs beyond `C03_create`).  Its two further conjuncts - every
element-creating step is the last step or is followed by a name (`GOk`), and a first step `[new()]` is not below an element of
a plain `list` - are read by no proof (`Hist.runOp_ok` binds both to `_`; `GW` follows from `later`), yet a history has to
discharge them (`by simp [GOk, CStep.isName]`, `by intro h; cases h` in `exHistory_valid`).  Nothing is asked
of the keys *inside* the tree or inside written values: only the paths of the operations must be plain. -/

/-- **C03 (histories).**  After any finite interleaving of creations with C02 writes and C05
deletions/pops the tree equals the plain model that applied the same operations, no call raises,
and every `pop` returned the node it removed (`obs`). -/
theorem C03_history (fuel : Nat) (ops : List Hist.Op) (cls : Cls) (kvs : List (Str × Val))
    (hv : Hist.ValidOps (.dict cls kvs) ops) (hf : ∀ op ∈ ops, fuel ≥ Hist.opFuel op) :
    ∃ t' obs, Hist.applyOps (.dict cls kvs) ops = some (t', obs) ∧
      Hist.runOps fuel (.dict cls kvs) ops = (t', .ok obs) :=
  Hist.history fuel ops cls kvs hv hf

/-- one call of a history, on its own: model = reference, nothing raised -/
theorem C03_history_step (cls : Cls) (kvs : List (Str × Val)) (op : Hist.Op) (t' : Val) (fuel : Nat)
    (hv : Hist.ValidOp (.dict cls kvs) op) (ha : Hist.applyOp (.dict cls kvs) op = some t')
    (hf : fuel ≥ Hist.opFuel op) :
    Hist.runOp fuel (.dict cls kvs) op = (t', .ok (Hist.obsOp (.dict cls kvs) op)) :=
  Hist.runOp_ok cls kvs op t' fuel hv ha hf

/-- the root stays a dictionary of the same class along a history -/
theorem C03_history_root (cls : Cls) (kvs : List (Str × Val)) (op : Hist.Op) (t' : Val)
    (hv : Hist.ValidOp (.dict cls kvs) op) (ha : Hist.applyOp (.dict cls kvs) op = some t') :
    ∃ kvs', t' = .dict cls kvs' :=
  Hist.applyOp_dict_root cls kvs op t' hv ha

/-! Non-vacuity: a history with all kinds of call on `exTree2`
(`{a: {l: [1], k: 's'}}`):
1. `d['//a/n/m[new()]/x'] = 5` (creation: names, element, name),
2. `d['//a/l[0]'] = 7` (C02 write),
3. `d.delete('//a/n/m[0]/x', recursively=True)` (removes `x`, then the emptied dict `m[0]`; the list `m` stays),
4. `d.pop('//a/k', 'D')` (returns `'s'`),
5. `d['//a/k[new()]'] = 9` (creation on the name that has just been removed),
6. `d['//a/l[new()]'] = 8` (bare `[new()]` first step below the list `l`). -/
def exHistory : List Hist.Op :=
  [ .create [.key ['a']] (.name ['n']) [.elem ['m'] ['n', 'e', 'w', '(', ')'], .name ['x']] (.int 5),
    .write [.key ['a'], .key ['l'], .idx 0] (.int 7),
    .del [.key ['a'], .key ['n'], .key ['m'], .idx 0, .key ['x']] true,
    .pop [.key ['a'], .key ['k']] (.str ['D']) false,
    .create [.key ['a']] (.elem ['k'] ['n', 'e', 'w', '(', ')']) [] (.int 9),
    .create [.key ['a'], .key ['l']] (.idx ['n', 'e', 'w', '(', ')']) [] (.int 8) ]

theorem exHistory_valid : Hist.ValidOps exTree2 exHistory := by
  refine .cons (t' := .dict .n0 [(['a'], .dict .n0 [(['l'], .list .n0 [.int 1]), (['k'], .str ['s']),
      (['n'], .dict .n0 [(['m'], .list .n0 [.dict .n0 [(['x'], .int 5)]])])])]) ?_ rfl ?_
  · refine ⟨⟨pk_a, trivial⟩, pk_n, ?_, by simp [GOk, CStep.isName], (by intro h; cases h)⟩
    intro x hx; simp at hx; rcases hx with rfl | rfl
    · exact ⟨pk_m, Or.inl rfl⟩
    · exact pk_x
  refine .cons (t' := .dict .n0 [(['a'], .dict .n0 [(['l'], .list .n0 [.int 7]), (['k'], .str ['s']),
      (['n'], .dict .n0 [(['m'], .list .n0 [.dict .n0 [(['x'], .int 5)]])])])]) ?_ rfl ?_
  · exact ⟨⟨pk_a, pk_l, trivial⟩, by simp, _, rfl⟩
  refine .cons (t' := .dict .n0 [(['a'], .dict .n0 [(['l'], .list .n0 [.int 7]), (['k'], .str ['s']),
      (['n'], .dict .n0 [(['m'], .list .n0 [])])])]) ?_ rfl ?_
  · exact ⟨⟨pk_a, pk_n, pk_m, pk_x, trivial⟩, by simp, _, rfl⟩
  refine .cons (t' := .dict .n0 [(['a'], .dict .n0 [(['l'], .list .n0 [.int 7]),
      (['n'], .dict .n0 [(['m'], .list .n0 [])])])]) ?_ rfl ?_
  · exact ⟨⟨pk_a, pk_k, trivial⟩, by simp, _, rfl⟩
  refine .cons (t' := .dict .n0 [(['a'], .dict .n0 [(['l'], .list .n0 [.int 7]),
      (['n'], .dict .n0 [(['m'], .list .n0 [])]), (['k'], .list .n0 [.int 9])])]) ?_ rfl ?_
  · exact ⟨⟨pk_a, trivial⟩, pk_k, by simp, by simp [GOk], (by intro h; cases h)⟩
  refine .cons (t' := .dict .n0 [(['a'], .dict .n0 [(['l'], .list .n0 [.int 7, .int 8]),
      (['n'], .dict .n0 [(['m'], .list .n0 [])]), (['k'], .list .n0 [.int 9])])]) ?_ rfl (.nil _)
  · refine ⟨⟨pk_a, pk_l, trivial⟩, trivial, by simp, by simp [GOk], ?_⟩
    rintro _ ⟨q0, i, ys, hq, _⟩
    have := (List.append_inj' (show [Seg.key ['a']] ++ [Seg.key ['l']] = q0 ++ [Seg.idx i] from hq) rfl).2
    cases this

/-- the model run of that history, evaluated: final tree and what the calls returned -/
example : Hist.runOps 40 exTree2 exHistory
    = (.dict .n0 [(['a'], .dict .n0 [(['l'], .list .n0 [.int 7, .int 8]),
        (['n'], .dict .n0 [(['m'], .list .n0 [])]), (['k'], .list .n0 [.int 9])])],
       .ok [Option.none, Option.none, Option.none, some (.str ['s']), Option.none, Option.none]) := by decide +kernel
example : ∃ t' obs, Hist.applyOps exTree2 exHistory = some (t', obs) ∧
    Hist.runOps 40 exTree2 exHistory = (t', .ok obs) :=
  C03_history 40 exHistory .n0 _ exHistory_valid (by decide)
/-- the path texts the six calls are made with -/
example : exHistory.map Hist.opPath =
    [['/', '/', 'a', '/', 'n', '/', 'm', '[', 'n', 'e', 'w', '(', ')', ']', '/', 'x'],
     ['/', '/', 'a', '/', 'l', '[', '0', ']'],
     ['/', '/', 'a', '/', 'n', '/', 'm', '[', '0', ']', '/', 'x'],
     ['/', '/', 'a', '/', 'k'],
     ['/', '/', 'a', '/', 'k', '[', 'n', 'e', 'w', '(', ')', ']'],
     ['/', '/', 'a', '/', 'l', '[', 'n', 'e', 'w', '(', ')', ']']] := by decide +kernel

end N0.C03
