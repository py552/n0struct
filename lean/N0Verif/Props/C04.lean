import N0Verif.Model.XPathApi
import N0Verif.Proofs.XPathPureApi
import N0Verif.Proofs.XPathTok
import N0Verif.Proofs.XPathTermApi
import N0Verif.Proofs.XPathFirst
import N0Verif.Proofs.XPathUpRoot
/-!
# C04 — lookups are total and pure: a miss yields the default, never a change

`getItem`, `get`, `first` are the models of item access, `get` and `first` (dict- and
list-rooted).  Each returns the tree after the call together with the outcome.
-/
namespace N0.C04
open N0 N0.Py N0.Val N0.XPath

/-- the exception classes item access may raise on a miss -/
def allowed (e : PyErr) : Bool :=
  e = .KeyError || e = .IndexError || e = .ValueError || e = .TypeError || e = .SyntaxError

/-- **default exactly when item access raises** (dict root, no `?` prefix): `get` returns what
item access returns, and the caller's default exactly when item access raises one of the
funnelled classes (a plain missing key included); any other class would escape from both. -/
theorem C04_default_iff_miss (fuel : Nat) (cls : Cls) (kvs : List (Str × Val)) (s : Str) (d : Val)
    (hq : startsWith s ['?'] = false) :
    XPath.get fuel (.dict cls kvs) s d =
      (match getItem fuel (.dict cls kvs) s with
       | (t', .ok v) => (t', .ok v)
       | (t', .error e) =>
          if caught e || (e = .KeyError && !hasPathChar s) then (t', .ok d) else (t', .error e)) := by
  have hraise : getCore fuel (.dict cls kvs) s d true true = getCore fuel (.dict cls kvs) s Val.none true true := by
    simp only [getCore_eq, getG, isList, Bool.false_and, hq, Bool.false_eq_true, if_false]
    exact getBody_raise ..
  unfold XPath.get getItem
  rw [← hraise, getCore_eq, getCore_eq, getG_lower _ _ _ _ _ _ _ hq]
  rcases getG id emptyStr fuel (.dict cls kvs) s d true true with ⟨t', (e | v)⟩ <;> rfl

/-- **`first`** (fix C04-f) looks the path up with a private marker object as default — `getCoreS`, the same
transcription of `_get` as `getCore` (`C04_marker_lookup`) with `none` for "the marker came back" — and returns the
caller's default **as it is** when the marker comes back; only a found value is unwrapped (`unwrap1`: a one-element
list is replaced by its element). -/
theorem C04_first_eq (fuel : Nat) (t : Val) (s : Str) (d : Val) :
    first fuel t s d =
      (match getCoreS fuel t s false false with
       | (t', .ok (some v)) => (t', .ok (unwrap1 v))
       | (t', .ok Option.none) => (t', .ok d)
       | (t', .error e) => (t', .error e)) := by
  rw [first_def]
  rcases getCoreS fuel t s false false with ⟨t', (e | (_ | v))⟩ <;> rfl

/-- the lookup with the marker is the ordinary lookup: `_get … if_not_found=d` returns what the marker lookup returns,
with the marker replaced by `d` — every root, path, default, `raise_exception`, `return_lists` -/
theorem C04_marker_lookup (fuel : Nat) (t : Val) (s : Str) (d : Val) (raise rl : Bool) :
    getCore fuel t s d raise rl =
      ((getCoreS fuel t s raise rl).1,
       match (getCoreS fuel t s raise rl).2 with
       | .ok o => .ok (o.getD d)
       | .error e => .error e) :=
  first_getCoreS_spec fuel t s d raise rl

/-- **The caller's default comes back exactly as it is** (dict or list root, no `?` prefix): when the path does not
resolve — the lookup `first` performs (`return_lists=False`), asked to raise, raises one of the funnelled classes or
the `KeyError` of a plain missing key — `first` returns `d` itself, WHATEVER value `d` is: a one-element list
`['D']`, `[None]`, `[[]]` included (before fix C04-f those came back as `'D'`, `None`, `[]`).  The tree is the one
the lookup returns (`C04_pure_all`: the tree given). -/
theorem C04_first_default_identity (fuel : Nat) (t : Val) (s : Str) (d : Val) (e : PyErr)
    (hq : startsWith s ['?'] = false)
    (hmiss : (getCore fuel t s Val.none true false).2 = .error e)
    (he : (caught e || (e = .KeyError && !hasPathChar s)) = true) :
    first fuel t s d = ((getCore fuel t s Val.none true false).1, .ok d) :=
  first_miss_identity fuel t s d Val.none e hq hmiss he

/-- … and **exactly** then: when the same lookup resolves to `v`, `first` returns `unwrap1 v` for every default — the
default plays no part in a hit (also when `v` happens to equal it) -/
theorem C04_first_hit (fuel : Nat) (t : Val) (s : Str) (d v : Val)
    (hq : startsWith s ['?'] = false) (hne : s ≠ [])
    (hhit : (getCore fuel t s Val.none true false).2 = .ok v) :
    first fuel t s d = ((getCore fuel t s Val.none true false).1, .ok (unwrap1 v)) :=
  first_hit fuel t s d Val.none v hq hne hhit

/-- **`?`-prefixed paths** (dict root): item access raises none of the four funnelled classes.  That it raises nothing
but the model-only outcomes, on either root, is `C04_getitem_errclass_any_partial`; that a miss — a plain missing key
included — yields `''` is `C04_qmark_miss_is_empty`. -/
theorem C04_qmark (fuel : Nat) (cls : Cls) (kvs : List (Str × Val)) (s : Str) (e : PyErr)
    (h : (getItem fuel (.dict cls kvs) ('?' :: s)).2 = .error e) : caught e = false := by
  rw [getItem, getCore_eq, getG_qmark] at h
  rcases getBody_err h with ⟨hr, _⟩ | rfl | ⟨hc, _⟩
  · cases hr
  · rfl
  · exact hc

theorem C04_qmark_miss_is_empty (fuel : Nat) (cls : Cls) (kvs : List (Str × Val)) (s : Str) (v : Val)
    (hmiss : (getItem fuel (.dict cls kvs) s).2 = .error .IndexError ∨ (getItem fuel (.dict cls kvs) s).2 = .error .KeyError)
    (hs : startsWith s ['?'] = false)
    (h : (getItem fuel (.dict cls kvs) ('?' :: s)).2 = .ok v) : v = emptyStr := by
  rw [getItem, getCore_eq, getG_qmark, getBody_lower] at h
  rw [getItem, getCore_eq, getG, getBody_raise _ _ _ _ _ emptyStr] at hmiss
  simp only [isList, Bool.false_and, hs, Bool.false_eq_true, if_false] at hmiss
  generalize getBody id fuel (.dict cls kvs) s emptyStr true true = x at h hmiss
  rcases x with ⟨t', (e | w)⟩
  · -- the miss is lowered to `''`, or the exception would have come through again
    simp only [ansLower] at h
    split at h
    · cases h; rfl
    · cases h
  · rcases hmiss with hm | hm <;> cases hm

/-- **Totality (full statement, not proved).**  For every tree and every string, `get` returns
normally.  False for trees with a key named `*` (finding C04-d: the search never ends,
`C04_star_key_diverges_cex`); the other counter-example, a `new()` step (finding C04-a), is repaired
(`C04_new_root_is_miss`).  Proved for every path and tree up to the model-only outcomes:
`C04_get_total_any_partial`; `C04_get_total_partial` is the form with the `new()` hypotheses. -/
def C04_get_total_stmt : Prop :=
  ∀ (t : Val) (s : Str) (d : Val), ∃ n, ∀ fuel ≥ n, ∃ v, (XPath.get fuel t s d).2 = .ok v

/-- **Purity (full statement).**  No lookup changes the tree.  Proved: `C04_pure` (fix C04-a: before it a `new()` step rewrote a
scalar into a list, `C04_new_no_write`).  `C04_pure_partial` is the form with the `new()` hypotheses. -/
def C04_pure_stmt : Prop :=
  ∀ (t : Val) (s : Str) (d : Val) (fuel : Nat), (XPath.get fuel t s d).1 = t

def exTree : Val := .dict .n0 [(['a'], .dict .n0 [(['e'], .int 1)])]

/-- (fix C04-a) the former counter-example to purity: a lookup through `a/e[new()]` is a miss
and leaves the scalar alone (it used to rewrite it into a list) -/
theorem C04_new_no_write :
    XPath.get 20 exTree ['a', '/', 'e', '[', 'n', 'e', 'w', '(', ')', ']'] (.str ['D']) = (exTree, .ok (.str ['D'])) := by
  decide +kernel

/-- (fix C04-a) the former counter-example to totality: `d.get('[new()]')` returns the default
(it used to let KeyError escape) -/
theorem C04_new_root_is_miss :
    XPath.get 20 exTree ['[', 'n', 'e', 'w', '(', ')', ']'] (.str ['D']) = (exTree, .ok (.str ['D'])) := by decide +kernel

example : (XPath.get 20 exTree ['a', '/', 'z'] (.str ['D'])).2 = .ok (.str ['D']) := by decide +kernel
example : (getItem 20 exTree ['?', 'a', '/', 'z']).2 = .ok emptyStr := by decide +kernel
example : (getItem 20 exTree ['a', '/', 'z']).2 = .error .IndexError := by decide +kernel

/-! ## Purity and totality

The `new()` step of `_find` writes nothing and raises no `KeyError` (fix C04-a), so the resolver has no writing branch.  The
theorems hold for every fuel, tree and string (well-formed or not), both root kinds, all branches of the resolver:
`Proofs/XPathPureFind.lean`, induction on the fuel (dict side, then list side), for any predicate on strings that every token the resolver synthesises
inherits (`SafePred`, `Proofs/XPathPure.lean`) — the always-true predicate among them. -/

/-- the model-only outcomes: a run that exhausted its fuel, an input outside the model's scope -/
def modelOnly (e : PyErr) : Prop := e = .OutOfFuel ∨ e = .Unsupported

/-- **C04 purity, full statement, proved**: no `get` changes the tree — any tree, any string, any fuel. -/
theorem C04_pure : C04_pure_stmt := by
  intro t s d fuel
  exact (getCore_any fuel t s d false true).1

/-- **Purity of every lookup entry point** (item access, `get`, `first`; dict or list root; found or
not; well-formed path or not; with or without a `new()` step). -/
theorem C04_pure_all (fuel : Nat) (t : Val) (s : Str) (d : Val) :
    (XPath.get fuel t s d).1 = t ∧ (getItem fuel t s).1 = t ∧ (first fuel t s d).1 = t := by
  refine ⟨(getCore_any fuel t s d false true).1, (getCore_any fuel t s Val.none true true).1, ?_⟩
  rw [first_fst]
  exact (getCore_any fuel t s d false false).1

/-- the dict-side resolver itself returns the tree it was given — every token list, also with `new()` -/
theorem C04_findD_pure (fuel : Nat) (root : Val) (sp : Pos) (entry rl : Bool) (toks : List Str) (par : PRef)
    (found : Str) (root' : Val) (r : Res)
    (h : findD fuel root sp false entry toks par rl found = .ok (root', r)) : root' = root := by
  have := findD_any fuel root sp entry rl toks par found
  rw [h] at this
  exact this.1

/-- **Totality up to the model-only outcomes, every path and tree**: `get` and `first` return normally;
no Python exception class escapes (in particular no `KeyError` from a `new()` step).  What remains
between this and `C04_get_total_stmt` is `OutOfFuel` (finding C04-d, fuel adequacy) and `Unsupported`. -/
theorem C04_get_total_any_partial (fuel : Nat) (t : Val) (s : Str) (d : Val) :
    ((∃ v, (XPath.get fuel t s d).2 = .ok v) ∨ ∃ e, (XPath.get fuel t s d).2 = .error e ∧ modelOnly e) ∧
    ((∃ v, (first fuel t s d).2 = .ok v) ∨ ∃ e, (first fuel t s d).2 = .error e ∧ modelOnly e) := by
  constructor
  · have h := (getCore_any fuel t s d false true).2
    unfold XPath.get
    cases hr : (getCore fuel t s d false true).2 with
    | ok v => exact Or.inl ⟨v, rfl⟩
    | error e =>
      right
      rcases h e hr with ⟨hf, _⟩ | hm
      · cases hf
      · exact ⟨e, rfl, hm⟩
  · have h := (getCore_any fuel t s d false false).2
    cases hc : (getCore fuel t s d false false).2 with
    | ok v => exact Or.inl (first_ok_of_getCore fuel t s d v hc)
    | error e =>
      right
      rcases h e hc with ⟨hf, _⟩ | hm
      · cases hf
      · exact ⟨e, (first_error_iff fuel t s d e).2 hc, hm⟩

/-- **Item access raises only the allowed classes (or a marker of the model: `OutOfFuel`, `Unsupported`), every path and tree.** -/
theorem C04_getitem_errclass_any_partial (fuel : Nat) (t : Val) (s : Str) (e : PyErr)
    (h : (getItem fuel t s).2 = .error e) :
    (allowed e = true ∧ startsWith s ['?'] = false) ∨ modelOnly e := by
  rcases (getCore_any fuel t s Val.none true true).2 e h with ⟨_, hq, hc⟩ | hm
  · left
    refine ⟨?_, hq⟩
    rcases hc with hc | rfl
    · revert hc; cases e <;> decide
    · rfl
  · exact Or.inr hm

/-! ### The forms with the `new()` hypotheses

`Safe s`: the text `new()` does not occur in `s` as a substring.  `SafeTree t`: no dict key anywhere in `t` contains `new()`.
Before fix C04-a these hypotheses kept the resolver away from the one branch that wrote (every token it synthesises is again
`Safe`); the proofs do not use them: the theorems of this section are instances of the theorems above. -/

def Safe (s : Str) : Prop := NoNew s
def SafeTree (t : Val) : Prop := SafeKeys NoNew t

instance : DecidablePred Safe := fun s => inferInstanceAs (Decidable (NoNew s))

/-- **Purity of the resolver** (dict-side `_find`, every branch): from safe tokens, a safe
`found` string and a tree with safe keys, a search that returns, returns the root it was given. -/
theorem C04_findD_pure_partial (fuel : Nat) (root : Val) (sp : Pos) (entry rl : Bool) (toks : List Str)
    (par : PRef) (found : Str) (root' : Val) (r : Res)
    (hroot : SafeTree root) (hpar : SafeRef NoNew root par) (htoks : ∀ t ∈ toks, Safe t) (hfound : Safe found)
    (h : findD fuel root sp false entry toks par rl found = .ok (root', r)) : root' = root :=
  C04_findD_pure fuel root sp entry rl toks par found root' r h

/-- **Exception classes of the resolver**: under the same hypotheses a failing search fails with
one of the four classes `_get` funnels, or with a model-only outcome.  In particular `KeyError`
(which `parent[name]` of the `..` branch could raise) and `AttributeError` cannot occur. -/
theorem C04_findD_errclass_partial (fuel : Nat) (root : Val) (sp : Pos) (entry rl : Bool) (toks : List Str)
    (par : PRef) (found : Str) (e : PyErr)
    (hroot : SafeTree root) (hpar : SafeRef NoNew root par) (htoks : ∀ t ∈ toks, Safe t) (hfound : Safe found)
    (h : findD fuel root sp false entry toks par rl found = .error e) : caught e = true ∨ modelOnly e := by
  have := findD_any fuel root sp entry rl toks par found
  rw [h] at this
  by_cases hc : caught e = true
  · exact Or.inl hc
  · exact Or.inr (okErr_not_caught this hc)

/-- the same two facts for the list-side `_find` -/
theorem C04_findL_partial (fuel : Nat) (root : Val) (sp : Pos) (rl : Bool) (toks : List Str)
    (par : PRef) (found : Str)
    (hroot : SafeTree root) (hpar : SafeRef NoNew root par) (htoks : ∀ t ∈ toks, Safe t) (hfound : Safe found) :
    (∀ root' r, findL fuel root sp toks par rl found = .ok (root', r) → root' = root) ∧
    (∀ e, findL fuel root sp toks par rl found = .error e → caught e = true ∨ modelOnly e) := by
  have := findL_any fuel root sp rl toks par found
  constructor
  · intro root' r h; rw [h] at this; exact this.1
  · intro e h; rw [h] at this
    by_cases hc : caught e = true
    · exact Or.inl hc
    · exact Or.inr (okErr_not_caught this hc)

/-- **Purity (partial: no `new()` in the path or in a key).**  Item access, `get` and `first`
return the tree they were given — found or not, well-formed path or not, dict or list root. -/
theorem C04_pure_partial (fuel : Nat) (t : Val) (s : Str) (d : Val) (hs : Safe s) (ht : SafeTree t) :
    (XPath.get fuel t s d).1 = t ∧ (getItem fuel t s).1 = t ∧ (first fuel t s d).1 = t :=
  C04_pure_all fuel t s d

/-- **Totality (partial: no `new()` in the path or in a key).**  `get` and `first` return
normally: no Python exception class escapes.  The only other outcomes are the model's own
`OutOfFuel`/`Unsupported`. -/
theorem C04_get_total_partial (fuel : Nat) (t : Val) (s : Str) (d : Val) (hs : Safe s) (ht : SafeTree t) :
    ((∃ v, (XPath.get fuel t s d).2 = .ok v) ∨ ∃ e, (XPath.get fuel t s d).2 = .error e ∧ modelOnly e) ∧
    ((∃ v, (first fuel t s d).2 = .ok v) ∨ ∃ e, (first fuel t s d).2 = .error e ∧ modelOnly e) :=
  C04_get_total_any_partial fuel t s d

/-- **Item access raises only the allowed classes (partial).**  Besides the model-only
outcomes, item access raises one of KeyError/IndexError/ValueError/TypeError/SyntaxError, and
a `?`-prefixed path raises nothing. -/
theorem C04_getitem_errclass_partial (fuel : Nat) (t : Val) (s : Str) (e : PyErr) (hs : Safe s) (ht : SafeTree t)
    (h : (getItem fuel t s).2 = .error e) :
    (allowed e = true ∧ startsWith s ['?'] = false) ∨ modelOnly e :=
  C04_getitem_errclass_any_partial fuel t s e h

/-- **A key named `*` makes a `*` step recurse for ever** (counter-example to totality that does
not involve `new()`, and to fuel adequacy for arbitrary trees).  `n0dict({'*': 1}).get('*/x')`:
the wildcard loop calls `_find([key] + xpath_list)`, which re-inserts the wildcard, and the key
`*` is again a wildcard.  The model runs out of fuel for *every* fuel; the implementation recurses to the
interpreter's limit, and since fix C04-e `_get` answers that `RecursionError` with a miss (`get` returns the default,
item access raises IndexError) — also for `{'*': {'x': 1}}`, where `*/x` resolves (finding C04-d).  Path and tree are
`Safe`, so the `OutOfFuel` alternative of `C04_get_total_partial` cannot be dropped without a hypothesis on keys. -/
theorem C04_star_key_diverges_cex (fuel : Nat) (d : Val) :
    XPath.get fuel starTree ['*', '/', 'x'] d = (starTree, .error .OutOfFuel) := by
  have htok : tokenize ['*', '/', 'x'] = starToks 0 := by decide +kernel
  have h : rootFind fuel starTree (tokenize ['*', '/', 'x']) true = .error .OutOfFuel := by
    rw [htok]; exact (star_diverges fuel).1 0 true true
  have hq : startsWith ['*', '/', 'x'] ['?'] = false := by decide +kernel
  have hp : hasPathChar ['*', '/', 'x'] = true := by decide +kernel
  rw [XPath.get, getCore_eq, getG]
  simp only [hq, List.isEmpty_cons, Bool.and_false, Bool.false_eq_true, if_false]
  rw [getBody, h]
  simp only [hp, if_true, getAns]
  rfl

example : Safe ['*', '/', 'x'] ∧ SafeTree starTree := by
  refine ⟨by decide, ?_⟩
  simp only [SafeTree, starTree, SafeKeys, SafeKeysK, and_true]
  decide +kernel

/-- every dict key of the tree is a plain name (non-empty, none of `/ [ ] * ? = ~` quotes or blanks, not `..`) — the trees of the
property's quantifier and of the harness.  Not `N0.XPath.PlainTree` (C01, `Proofs/XPathLeaves.lean`), which also asks unique keys,
as does findall's `KeysOkV`; no lemma leads from one to the other -/
def PlainTree (t : Val) : Prop := SafeKeys PlainKey t

/-- **Fuel adequacy (statement).**  On a tree with plain-name keys some fuel, depending on the tree
and the path, is enough: `OutOfFuel` then is an artefact of the model and does not stand for an
infinite search.  (Without the hypothesis on keys it is false: `C04_star_key_diverges_cex`.)
Proved: `C04_fuel_enough`, with the explicit bound `termFuel` (`C04_fuel_bound`). -/
def C04_fuel_enough_stmt : Prop :=
  ∀ (t : Val) (s : Str), Safe s → PlainTree t →
    ∃ n, ∀ fuel ≥ n, ∀ d, (XPath.get fuel t s d).2 ≠ .error .OutOfFuel

/-! ## Termination

The resolver re-resolves its `found` string from `self` in the `..` step, after a `text()`
condition and when the token list is exhausted; `*` puts itself back in front of the key it
visits; a name on a list inserts `[*]`.  No measure on the token list alone decreases.  The proof
(`Proofs/XPathTerm*.lean`) uses three facts: (1) the `found` text consists of `/key` and `[i]`
pieces only (`TermFound`), so a re-resolution never meets `..`, `*`, a condition or `text()`
again and costs at most `(W+4)·H + 2·pieces + 1` (`term_plain`; a `[new()]` step is one such re-resolution); (2) every step that does not
consume a token goes one level down in the tree (`termZ`, `termN`: recursion on the height);
(3) `..` consumes its token and lengthens `found` by at most `2·H` pieces.  `termPot H W toks h g`
is the resulting bound: a function of the tokens (their parse), the height `h` of the current node,
the number `g` of pieces of `found`, and the height `H` and width `W` of the tree. -/

/-- **Fuel bound.**  For every path text on a tree with plain-name keys, `termFuel t s` steps of
fuel are enough for `get`, item access and `first`: none of them answers `OutOfFuel`.  (Since fix
C04-a a `new()` step ends the search after one re-resolution of `found`, so no hypothesis on the
path is needed.)  "Bound" is from below: `termFuel` SUFFICES as fuel; how large it is (it grows polynomially in the height and
width of the tree and the number of tokens) is stated nowhere, no theorem bounds `termFuel` from above. -/
theorem C04_fuel_bound (t : Val) (s : Str) (ht : PlainTree t) (fuel : Nat) (hf : termFuel t s ≤ fuel) (d : Val) :
    (XPath.get fuel t s d).2 ≠ .error .OutOfFuel ∧ (getItem fuel t s).2 ≠ .error .OutOfFuel ∧
    (first fuel t s d).2 ≠ .error .OutOfFuel := by
  refine ⟨term_getCore fuel t s d false true ht hf, term_getCore fuel t s Val.none true true ht hf, ?_⟩
  intro h
  exact term_getCore fuel t s d false false ht hf ((first_error_iff fuel t s d _).1 h)

/-- **Termination**: the search ends — for every tree with plain-name keys and every string there is a
fuel from which on the model never answers `OutOfFuel` (the hypothesis `Safe s` of the statement is not
used). -/
theorem C04_fuel_enough : C04_fuel_enough_stmt :=
  fun t s _ ht => ⟨termFuel t s, fun fuel hf d => (C04_fuel_bound t s ht fuel hf d).1⟩

/-! Non-vacuity of the partial theorems: paths through the `..`, `[*]`, condition, `text()` and index branches, and a path
that is not `NoW` (it contains the letter w) but is `Safe`. -/

def exTree2 : Val :=
  .dict .n0 [(['r'], .list .n0 [.dict .n0 [(['i', 'd'], .str ['1']), (['w'], .str ['x'])],
                                .dict .n0 [(['i', 'd'], .str ['2']), (['w'], .str ['y'])]]),
             (['n', 'e', 'w'], .int 7)]

theorem exTree_safe : SafeTree exTree := by
  simp only [SafeTree, exTree, SafeKeys, SafeKeysK, and_true]
  exact ⟨by decide, by decide⟩

theorem exTree2_safe : SafeTree exTree2 := by
  simp only [SafeTree, exTree2, SafeKeys, SafeKeysK, SafeKeysL, and_true]
  refine ⟨by decide, ⟨⟨by decide, by decide⟩, ⟨by decide, by decide⟩⟩, by decide⟩

-- r[id=2]/w : condition + `..` + text(); found
example : Safe ['r', '[', 'i', 'd', '=', '2', ']', '/', 'w'] := by decide +kernel
example : XPath.get 40 exTree2 ['r', '[', 'i', 'd', '=', '2', ']', '/', 'w'] .none
    = (exTree2, .ok (.list .n0 [.str ['y']])) := by decide +kernel
-- r[*]/id, r[-1]/../new : fan-out, index, `..`
example : XPath.get 40 exTree2 ['r', '[', '*', ']', '/', 'i', 'd'] .none
    = (exTree2, .ok (.list .n0 [.str ['1'], .str ['2']])) := by decide +kernel
example : Safe ['r', '[', '-', '1', ']', '/', '.', '.', '/', 'n', 'e', 'w'] := by decide +kernel
example : (XPath.get 40 exTree2 ['r', '[', '-', '1', ']', '/', '.', '.', '/', 'n', 'e', 'w'] .none).2
    = .ok (.int 7) := by decide +kernel
example : XPath.get 40 exTree2 ['r', '[', '5', ']', '/', 'w'] (.str ['D']) = (exTree2, .ok (.str ['D'])) := by decide +kernel
example : XPath.get 40 exTree2 ['r', '[', 'i', 'd', '=', '3', ']', '/', 'w'] (.str ['D']) = (exTree2, .ok (.str ['D'])) := by
  decide +kernel
example : Safe ['r', '[', ']', ']', '[', '/', '/', '='] := by decide +kernel
example : XPath.get 40 exTree2 ['r', '[', ']', ']', '[', '/', '/', '='] (.str ['D']) = (exTree2, .ok (.str ['D'])) := by
  decide +kernel
-- a path that is not `Safe`
example : ¬ Safe ['a', '/', 'e', '[', 'n', 'e', 'w', '(', ')', ']'] := by decide +kernel
example : (getItem 40 exTree2 ['r', '[', '5', ']', '/', 'w']).2 = .error .IndexError := by decide +kernel
example : SafeTree (.list .n0 [.dict .n0 [(['k'], .int 1)]]) := by
  simp only [SafeTree, SafeKeys, SafeKeysK, SafeKeysL, and_true]; decide
example : XPath.get 40 (.list .n0 [.dict .n0 [(['k'], .int 1)]]) ['[', '0', ']', '/', 'k'] .none
    = (.list .n0 [.dict .n0 [(['k'], .int 1)]], .ok (.int 1)) := by decide +kernel
-- the resolver-level theorems: hypotheses inhabited at the root
example : SafeRef NoNew exTree2 (.at []) := SafeRef_at exTree2_safe []
example : ∀ t ∈ tokenize ['r', '[', 'i', 'd', '=', '2', ']', '/', 'w'], Safe t :=
  P_tokenize (P := NoNew) (by decide)

/-! The theorems hold for paths that are not `Safe` and trees that are not `SafeTree`. -/
example : ¬ Safe ['a', '/', 'e', '[', 'n', 'e', 'w', '(', ')', ']'] := by decide +kernel
example : (XPath.get 20 exTree ['a', '/', 'e', '[', 'n', 'e', 'w', '(', ')', ']'] .none).1 = exTree :=
  (C04_pure_all 20 exTree _ .none).1
example : (getItem 20 exTree ['a', '/', 'e', '[', 'n', 'e', 'w', '(', ')', ']']) = (exTree, .error .IndexError) := by decide +kernel
example : (first 20 exTree ['[', 'n', 'e', 'w', '(', ')', ']'] (.int 7)) = (exTree, .ok (.int 7)) := by decide +kernel
/-- a tree with a key that contains the text `new()` (not `SafeTree`), reached through `*` -/
example : (XPath.get 40 (.dict .n0 [(['a'], .dict .n0 [(['e', '[', 'n', 'e', 'w', '(', ')', ']'], .int 1), (['e'], .int 2)])])
    ['a', '/', '*'] .none).1 = .dict .n0 [(['a'], .dict .n0 [(['e', '[', 'n', 'e', 'w', '(', ')', ']'], .int 1), (['e'], .int 2)])] :=
  (C04_pure_all 40 _ _ .none).1
/-- `__setitem__` creates through `new()` (the conversion is in `_add`) -/
example : setItem 20 exTree ['a', '/', 'e', '[', 'n', 'e', 'w', '(', ')', ']'] (.int 5)
    = (.dict .n0 [(['a'], .dict .n0 [(['e'], .list .n0 [.int 1, .int 5])])], .ok ()) := by decide +kernel

/-! Non-vacuity of the termination theorems: `exTree2` has plain-name keys; the bound is a concrete number for the condition
path (through `[text()…]`, `..` and a re-resolution of `found`), a `..` path and a `*` path, and the model returns with it. -/

theorem exTree2_plain : PlainTree exTree2 := by
  simp only [PlainTree, exTree2, SafeKeys, SafeKeysK, SafeKeysL, and_true, true_and]
  decide

/-- **Totality.**  For ANY string xpath, on a tree with plain-name keys, with enough fuel `get` and
`first` return normally — the caller's default on a miss or an ill-formed path; the only other outcome is
the model's declared `Unsupported` (a float in a `text()` comparison, `%` in a quoted value,
non-ASCII digits, …).  No hypothesis on the path; no `OutOfFuel` escape clause. -/
theorem C04_get_total (t : Val) (s : Str) (d : Val) (hp : PlainTree t) (fuel : Nat) (hf : termFuel t s ≤ fuel) :
    ((∃ v, (XPath.get fuel t s d).2 = .ok v) ∨ (XPath.get fuel t s d).2 = .error .Unsupported) ∧
    ((∃ v, (first fuel t s d).2 = .ok v) ∨ (first fuel t s d).2 = .error .Unsupported) := by
  obtain ⟨h1, _, h3⟩ := C04_fuel_bound t s hp fuel hf d
  obtain ⟨p1, p2⟩ := C04_get_total_any_partial fuel t s d
  constructor
  · rcases p1 with h | ⟨e, he, hm | hm⟩
    · exact Or.inl h
    · subst hm; exact absurd he h1
    · subst hm; exact Or.inr he
  · rcases p2 with h | ⟨e, he, hm | hm⟩
    · exact Or.inl h
    · subst hm; exact absurd he h3
    · subst hm; exact Or.inr he

/-- **Item access raises only the allowed classes.**  For any string on a tree with plain-name keys, with
enough fuel, item access raises one of KeyError/IndexError/ValueError/TypeError/SyntaxError (and nothing
for a `?`-prefixed path), or the model declares the input `Unsupported`. -/
theorem C04_getitem_errclass (t : Val) (s : Str) (e : PyErr) (hp : PlainTree t)
    (fuel : Nat) (hf : termFuel t s ≤ fuel) (h : (getItem fuel t s).2 = .error e) :
    (allowed e = true ∧ startsWith s ['?'] = false) ∨ e = .Unsupported := by
  rcases C04_getitem_errclass_any_partial fuel t s e h with h' | hm | hm
  · exact Or.inl h'
  · subst hm; exact absurd h (C04_fuel_bound t s hp fuel hf Val.none).2.1
  · exact Or.inr hm

example : termFuel exTree2 ['r', '[', 'i', 'd', '=', '2', ']', '/', 'w'] = 123 := by decide +kernel
example : termFuel exTree2 ['r', '[', '-', '1', ']', '/', '.', '.', '/', 'n', 'e', 'w'] = 136 := by decide +kernel
example : termFuel exTree2 ['*', '/', 'x'] = 123 := by decide +kernel
example : (XPath.get 123 exTree2 ['r', '[', 'i', 'd', '=', '2', ']', '/', 'w'] .none).2 = .ok (.list .n0 [.str ['y']]) := by
  decide +kernel
example : (∃ v, (XPath.get 123 exTree2 ['*', '/', 'x'] (.str ['D'])).2 = .ok v) :=
  ((C04_get_total exTree2 ['*', '/', 'x'] (.str ['D']) exTree2_plain 123 (by decide +kernel)).1).resolve_right
    (by decide +kernel)
-- a path with a `new()` step (not `Safe`): the bound covers it, `get` returns the default
theorem exTree_plain : PlainTree exTree := by
  simp only [PlainTree, exTree, SafeKeys, SafeKeysK, and_true]
  decide
example : (XPath.get (termFuel exTree ['a', '/', 'e', '[', 'n', 'e', 'w', '(', ')', ']', '/', 'x']) exTree
    ['a', '/', 'e', '[', 'n', 'e', 'w', '(', ')', ']', '/', 'x'] (.str ['D'])).2 = .ok (.str ['D']) := by decide +kernel
example : ¬ Safe ['a', '/', 'e', '[', 'n', 'e', 'w', '(', ')', ']', '/', 'x'] := by decide +kernel
-- the hypothesis on keys is needed: the diverging tree is not plain
example : ¬ PlainTree starTree := by
  simp only [PlainTree, starTree, SafeKeys, SafeKeysK, and_true]
  intro h
  exact absurd (h.chars '*' (by simp)) (by decide)

/-! ## fix C04-f: `first` hands the caller's default back as it is (`C04_first_default_identity`, `C04_first_hit`)

Non-vacuity.  `dOne = ['D']` is a one-element list: before the fix `first` returned `'D'` for it on a miss. -/
def dOne : Val := .list .plain [.str ['D']]

-- plain missing key (KeyError of the raising lookup), a missing step below a dict (IndexError), an index out of
-- range, a predicate that selects nothing, an ill-formed path: the default itself
example : first 20 exTree ['z', 'z'] dOne = (exTree, .ok dOne) := by
  rw [C04_first_default_identity 20 exTree ['z', 'z'] dOne .KeyError (by decide) (by decide +kernel) (by decide),
    (getCore_any ..).1]
example : first 20 exTree ['a', '/', 'z'] dOne = (exTree, .ok dOne) := by
  rw [C04_first_default_identity 20 exTree ['a', '/', 'z'] dOne .IndexError (by decide) (by decide +kernel) (by decide),
    (getCore_any ..).1]
example : first 40 exTree2 ['r', '[', 'i', 'd', '=', '3', ']', '/', 'w'] (.list .plain [.none])
    = (exTree2, .ok (.list .plain [.none])) := by
  rw [C04_first_default_identity 40 exTree2 ['r', '[', 'i', 'd', '=', '3', ']', '/', 'w'] _ .IndexError (by decide)
    (by decide +kernel) (by decide), (getCore_any ..).1]
example : first 40 exTree2 ['r', '[', '5', ']', '/', 'w'] (.list .plain [.list .plain []])
    = (exTree2, .ok (.list .plain [.list .plain []])) := by decide +kernel
example : first 40 exTree2 ['r', '[', ']', ']', '[', '/', '/', '='] dOne = (exTree2, .ok dOne) := by decide +kernel
-- list root: a name on a list of records that none of them has, `''`, an index out of range
example : first 40 (.list .n0 [.dict .n0 [(['a'], .int 1)]]) ['z', 'z'] dOne
    = (.list .n0 [.dict .n0 [(['a'], .int 1)]], .ok dOne) := by decide +kernel
example : first 40 (.list .n0 [.dict .n0 [(['a'], .int 1)]]) [] dOne
    = (.list .n0 [.dict .n0 [(['a'], .int 1)]], .ok dOne) := by decide +kernel
example : first 40 (.list .n0 [.dict .n0 [(['a'], .int 1)]]) ['[', '7', ']'] dOne
    = (.list .n0 [.dict .n0 [(['a'], .int 1)]], .ok dOne) := by
  rw [C04_first_default_identity 40 _ ['[', '7', ']'] dOne .IndexError (by decide) (by decide +kernel) (by decide),
    (getCore_any ..).1]
-- `get` on the same misses returns the same default
example : XPath.get 20 exTree ['z', 'z'] dOne = (exTree, .ok dOne) := by decide +kernel
-- a `?` prefix: `''` on a miss (that substitution happens inside `_get`)
example : first 20 exTree ['?', 'z', 'z'] dOne = (exTree, .ok emptyStr) := by decide +kernel
example : first 20 exTree ['?', 'a', '/', 'z'] dOne = (exTree, .ok emptyStr) := by decide +kernel
-- a hit is unwrapped — also when the found value equals the default
example : first 40 exTree2 ['r', '[', 'i', 'd', '=', '2', ']', '/', 'w'] dOne = (exTree2, .ok (.str ['y'])) := by
  rw [C04_first_hit 40 exTree2 ['r', '[', 'i', 'd', '=', '2', ']', '/', 'w'] dOne (.str ['y']) (by decide) (by decide)
    (by decide +kernel), (getCore_any ..).1]
  rfl
example : first 20 (.dict .n0 [(['a'], dOne)]) ['a'] dOne = (.dict .n0 [(['a'], dOne)], .ok (.str ['D'])) := by
  rw [C04_first_hit 20 _ ['a'] dOne dOne (by decide) (by decide) (by decide +kernel), (getCore_any ..).1]
  rfl
example : first 40 exTree2 ['r', '[', '*', ']', '/', 'w'] dOne
    = (exTree2, .ok (.list .n0 [.str ['x'], .str ['y']])) := by decide +kernel

/-! ## fix C04-g: a `'..'` step that surfaces to the root as the LAST step of the path finds the root

Before the fix the FOUND branch of `'..'` built the found text from the name of the node reached — the root has
none (`str + None`): `TypeError`, so `d.get('a/..', 'D')` returned the default and `d['a/..']` raised although the
path resolves (`d['x/../s']`, where the walk continues, always worked). -/

/-- **`k/..` resolves to the root** (dict root, `k` a plain-name key that is present; every fuel ≥ 3, every default):
item access, `get` and `first` return the root itself, the tree is unchanged. -/
theorem C04_up_to_root (fuel : Nat) (cls : Cls) (kvs : List (Str × Val)) (k : Str) (c d : Val)
    (hk : PlainKey k) (hl : lookup k kvs = some c) :
    let t := Val.dict cls kvs
    let xp := k ++ slash ++ ['.', '.']
    getItem (fuel + 3) t xp = (t, .ok t) ∧ XPath.get (fuel + 3) t xp d = (t, .ok t) ∧ first (fuel + 3) t xp d = (t, .ok t) := by
  refine ⟨upRoot_getCore fuel cls kvs k c _ true true hk hl, upRoot_getCore fuel cls kvs k c d false true hk hl, ?_⟩
  exact first_of_found (fun d' => upRoot_getCore fuel cls kvs k c d' false false hk hl) d

/-- the token-level fact behind it: `_find` reports the root the way an empty xpath does (parent = the root, no name,
found text `/`) -/
theorem C04_up_to_root_find (fuel : Nat) (cls : Cls) (kvs : List (Str × Val)) (k : Str) (c : Val) (rl : Bool)
    (hk : PlainKey k) (hl : lookup k kvs = some c) :
    findD (fuel + 3) (.dict cls kvs) [] false true [k, ['.', '.']] (.at []) rl slash
      = .ok (.dict cls kvs, { parent := .at [], nameIdx := Option.none, value := .dict cls kvs, found := slash, notFound := Option.none }) :=
  upRoot_find fuel cls kvs k c true rl hk hl

-- non-vacuity: the theorem on `exTree`, and the neighbouring shapes (also on `exTree2`) through the model
example : XPath.get 20 exTree ['a', '/', '.', '.'] (.str ['D']) = (exTree, .ok exTree) :=
  (C04_up_to_root 17 .n0 _ ['a'] _ (.str ['D']) ⟨by decide, by decide, by decide⟩ rfl).2.1
example : getItem 40 exTree2 ['r', '[', '0', ']', '/', '.', '.'] = (exTree2, .ok exTree2) := by decide +kernel
example : getItem 40 exTree2 ['r', '[', '0', ']', '/', 'w', '/', '.', '.', '/', '.', '.'] = (exTree2, .ok exTree2) := by decide +kernel
-- below a selecting step the parent of every selected record is collected: the list holding the root
example : getItem 40 exTree2 ['r', '[', 'i', 'd', '=', '2', ']', '/', '.', '.'] = (exTree2, .ok (.list .n0 [exTree2])) := by
  decide +kernel
example : getItem 40 exTree2 ['n', 'e', 'w', '/', '.', '.', '/', '.', '.'] = (exTree2, .ok exTree2) := by decide +kernel
example : getItem 40 (.list .n0 [.dict .n0 [(['a'], .int 1)]]) ['[', '0', ']', '/', '.', '.']
    = (.list .n0 [.dict .n0 [(['a'], .int 1)]], .ok (.list .n0 [.dict .n0 [(['a'], .int 1)]])) := by decide +kernel
-- a `'..'` that does not reach the root: the parent node
example : (getItem 40 exTree2 ['r', '[', '0', ']', '/', 'w', '/', '.', '.']).2
    = .ok (.dict .n0 [(['i', 'd'], .str ['1']), (['w'], .str ['x'])]) := by decide +kernel
-- assignment to the root through such a path is refused as `d['/'] = v` is (no name to store under)
example : (setItem 20 exTree ['a', '/', '.', '.'] (.int 5)).2 = .error .TypeError := by decide +kernel

/-- **finding C04-h (open)**: `'..'` directly below a scalar element reached by the list-side search (`n0list._find`:
index steps only, from a list root) raises `TypeError` although the path resolves — here to the inner list `[5, 6]`;
below a dict the same step works. -/
theorem C04_up_below_list_scalar_cex :
    getItem 40 (.list .n0 [.list .n0 [.int 5, .int 6]]) ['[', '0', ']', '[', '1', ']', '/', '.', '.']
      = (.list .n0 [.list .n0 [.int 5, .int 6]], .error .TypeError) ∧
    getItem 40 (.dict .n0 [(['b'], .list .n0 [.list .n0 [.int 5, .int 6]])]) ['b', '[', '0', ']', '[', '1', ']', '/', '.', '.']
      = (.dict .n0 [(['b'], .list .n0 [.list .n0 [.int 5, .int 6]])], .ok (.list .n0 [.int 5, .int 6])) := by
  constructor <;> decide +kernel

end N0.C04
