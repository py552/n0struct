import N0Verif.Proofs.XPathDelete
import N0Verif.Proofs.XPathDeleteRec
import N0Verif.Proofs.XPathSpellings
import N0Verif.Proofs.XPathHistory
import N0Verif.Proofs.XPathMiss
import N0Verif.Proofs.XPathHiddenPop
/-!
# C05 — delete and pop remove exactly the addressed node

Reference semantics: `Val.delAt t p` (a dict entry disappears, later list elements shift down,
nothing else changes).
-/
namespace N0.C05
open N0 N0.Py N0.Val N0.XPath

/-- **C05 (delete, any spelling, token level).**  Whatever token list spells the position of an
existing node (index steps in any of the spellings of C01), `delete` removes exactly that node:
the result is `delAt t p`, and nothing is raised. -/
theorem C05_delete_spelled (fuel : Nat) (toks : List Str) (t : Val) (p : Pos) (c t' : Val)
    (hs : Spells toks t p c) (hne : toks ≠ []) (hdel : delAt t p = some t')
    (hf : fuel ≥ 2 * toks.length) :
    deleteLoop fuel toks false t toks.length true = (t', .ok ()) :=
  deleteLoop_spelled fuel false toks t p c t' hs hne hdel hf

/-- **C05 (delete).**  `d.delete(xpath)` on the canonical path of an existing node of a
dict-rooted tree yields exactly `delAt t p`. -/
theorem C05_delete (cls : Cls) (kvs : List (Str × Val)) (p : Pos) (c : Val)
    (hp : PlainPos p) (hne : p ≠ []) (hget : getAt (.dict cls kvs) p = some c)
    (fuel : Nat) (hf : fuel ≥ 2 * p.length) :
    ∃ t', delAt (.dict cls kvs) p = some t' ∧
      delete fuel (.dict cls kvs) (slash ++ renderPos p) false = (t', .ok ()) := by
  obtain ⟨t', ht'⟩ := delAt_isSome p _ c hne hget
  exact ⟨t', ht', delete_canonical false hp hne hget ht' hf⟩

/-- **C05 (pop, hit).**  `pop` returns the value lookup returns and has the effect of `delete`. -/
theorem C05_pop_hit (cls : Cls) (kvs : List (Str × Val)) (p : Pos) (c d : Val)
    (hp : PlainPos p) (hne : p ≠ []) (hget : getAt (.dict cls kvs) p = some c)
    (fuel : Nat) (hf : fuel ≥ 2 * p.length) :
    ∃ t', delAt (.dict cls kvs) p = some t' ∧
      pop fuel (.dict cls kvs) (slash ++ renderPos p) d false = .ok (t', c) := by
  obtain ⟨t', ht', hdel⟩ := C05_delete cls kvs p c hp hne hget fuel hf
  exact ⟨t', ht', pop_of_hit d (getCore_canonical fuel cls kvs p c _ true true hp hne hget hf) hdel (slash_noQ _)⟩

/-- **C05 (pop, miss).**  When item access raises (the path does not resolve) and leaves the
tree as it was, `pop` returns the default and changes nothing.  The path is taken without a leading '?'
(`stripQ`, fix C05-c; `stripQ xp = xp` for every other path, `stripQ_noQ`): with the '?' item access would answer ''
instead of raising, and `pop` returned that '' instead of the caller's default. -/
theorem C05_pop_miss (fuel : Nat) (t : Val) (xp : Str) (d : Val) (r : Bool) (e : PyErr)
    (hmiss : getItem fuel t (stripQ xp) = (t, .error e)) (h1 : e ≠ .OutOfFuel) (h2 : e ≠ .Unsupported) :
    pop fuel t xp d r = .ok (t, d) := by
  unfold pop
  rw [hmiss]
  cases e with
  | OutOfFuel => exact absurd rfl h1
  | Unsupported => exact absurd rfl h2
  | _ => rfl

/-- **C05 (a popped dict entry is no longer present).** -/
theorem C05_pop_not_present (t t' : Val) (q : Pos) (k : Str) (cls : Cls) (kvs : List (Str × Val))
    (hq : getAt t q = some (.dict cls kvs)) (hu : PlainKvs kvs)
    (hdel : delAt t (q ++ [.key k]) = some t') : getAt t' (q ++ [.key k]) = Option.none := by
  by_cases hh : kvHas k kvs = true
  · rw [getAt_snoc, getAt_delAt_key_parent hq hh hdel]
    exact kvDel_lookup k kvs hu
  · rw [delAt_key_missing t q k cls kvs hq (by simpa using hh)] at hdel
    cases hdel

/-! ### `recursively=True`

Reference: `pruneUp t q k` (defined in `Proofs/XPathDeleteRec.lean`) visits the *position* prefixes
of `q` of length `k, k-1, …, 1`, deepest first, and removes each one that is an empty dictionary at
the moment it is visited.  Its defining equations: -/

theorem pruneUp_zero (t : Val) (q : Pos) : pruneUp t q 0 = t := rfl

theorem pruneUp_succ (t : Val) (q : Pos) (k : Nat) :
    pruneUp t q (k + 1) =
      match getAt t (q.take (k + 1)) with
      | some (.dict _ []) => pruneUp ((delAt t (q.take (k + 1))).getD t) q k
      | _ => pruneUp t q k := by
  rw [pruneUp, pruneStep]
  cases hg : getAt t (q.take (k + 1)) with
  | none => rfl
  | some v =>
    cases v with
    | dict cls kvs => cases kvs <;> simp [isEmptyDict]
    | _ => simp [isEmptyDict]

/-- **C05 (delete recursively, any spelling, token level).**  Whatever token list spells the
position of an existing node, `delete(…, recursively=True)` removes that node and then exactly
the ancestors that became empty dictionaries, deepest first (a position skipped by a merged token
`key[i]` holds a list and is never removed). -/
theorem C05_delete_recursive_spelled (fuel : Nat) (toks : List Str) (t : Val) (p : Pos) (c t' : Val)
    (hs : Spells toks t p c) (hne : toks ≠ []) (hdel : delAt t p = some t')
    (hf : fuel ≥ 2 * toks.length) :
    deleteLoop fuel toks true t toks.length true = (pruneUp t' p.dropLast (p.length - 1), .ok ()) :=
  deleteLoop_spelled fuel true toks t p c t' hs hne hdel hf

/-- **C05 (delete recursively).**  Closed form of `d.delete(xpath, recursively=True)` on the
canonical path of an existing node of a dict-rooted tree with plain keys. -/
theorem C05_delete_recursive (cls : Cls) (kvs : List (Str × Val)) (p : Pos) (c t' : Val) (fuel : Nat)
    (hp : PlainPos p) (hne : p ≠ []) (hget : getAt (.dict cls kvs) p = some c)
    (hdel : delAt (.dict cls kvs) p = some t') (hf : fuel ≥ 2 * p.length) :
    delete fuel (.dict cls kvs) (slash ++ renderPos p) true
      = (pruneUp t' p.dropLast (p.length - 1), .ok ()) :=
  delete_canonical true hp hne hget hdel hf

/-- **nothing else is removed**: when the parent of the deleted node is not an empty dictionary
afterwards (it is a list, or a dictionary that still has entries), `recursively=True` removes the
addressed node only. -/
theorem C05_delete_recursive_stops (cls : Cls) (kvs : List (Str × Val)) (p : Pos) (c t' pv : Val) (fuel : Nat)
    (hp : PlainPos p) (hne : p ≠ []) (hget : getAt (.dict cls kvs) p = some c)
    (hdel : delAt (.dict cls kvs) p = some t') (hf : fuel ≥ 2 * p.length)
    (hpar : getAt t' p.dropLast = some pv) (hnonempty : isEmptyDict pv = false) :
    delete fuel (.dict cls kvs) (slash ++ renderPos p) true = (t', .ok ()) := by
  rw [C05_delete_recursive cls kvs p c t' fuel hp hne hget hdel hf]
  have hl : p.dropLast.length = p.length - 1 := by simp
  rw [← hl, pruneUp_stop p.dropLast.length t' p.dropLast pv (Nat.le_refl _)
    (by rw [List.take_of_length_le (Nat.le_refl _)]; exact hpar) (fun _ => hnonempty)]

/-- **C05 (pop, hit, recursively).**  `pop(…, recursively=True)` returns the value lookup returns
and has the effect of `delete(…, recursively=True)`. -/
theorem C05_pop_hit_recursive (cls : Cls) (kvs : List (Str × Val)) (p : Pos) (c d : Val)
    (hp : PlainPos p) (hne : p ≠ []) (hget : getAt (.dict cls kvs) p = some c)
    (fuel : Nat) (hf : fuel ≥ 2 * p.length) :
    ∃ t', delAt (.dict cls kvs) p = some t' ∧
      pop fuel (.dict cls kvs) (slash ++ renderPos p) d true
        = .ok (pruneUp t' p.dropLast (p.length - 1), c) := by
  obtain ⟨t', ht'⟩ := delAt_isSome p _ c hne hget
  exact ⟨t', ht', pop_of_hit d (getCore_canonical fuel cls kvs p c _ true true hp hne hget hf)
    (C05_delete_recursive cls kvs p c t' fuel hp hne hget ht' hf) (slash_noQ _)⟩

/-- **C05 (delete, every spelling).**  Whatever spelling of the path of an existing node is used
(`renderSp`: prefix none, `/` or `//`; `a[i][j]`, `a[i]/[j]` or `a/[i]/[j]`; each index as `i`,
`-k`, `last()`, `last()-k` or `i+j`), `delete` removes exactly the node plain Python indexing
reaches (`posOf`), and with `recursively=True` additionally the emptied dictionary ancestors. -/
theorem C05_delete_spellings (cls : Cls) (kvs : List (Str × Val)) (lead : Lead) (steps : List StepSp)
    (c : Val) (hp : PlainSteps steps) (hne : steps ≠ [])
    (hget : stepsGet (.dict cls kvs) steps = some c) (fuel : Nat) (hf : fuel ≥ 2 * steps.length) :
    let t := Val.dict cls kvs
    let p := posOf t steps
    ∃ t', delAt t p = some t' ∧
      delete fuel t (renderSp lead steps) false = (t', .ok ()) ∧
      delete fuel t (renderSp lead steps) true = (pruneUp t' p.dropLast (p.length - 1), .ok ()) := by
  intro t p
  have hs := spells_steps steps t c hp hget
  have hpne : p ≠ [] := spells_pos_ne_nil hs (toksOf_ne_nil steps hne)
  obtain ⟨t', ht'⟩ := delAt_isSome p t c hpne hs.getAt
  refine ⟨t', ht', ?_, ?_⟩
  · simpa using delete_spelling fuel cls kvs lead steps c t' false hp hne hget ht' hf
  · simpa using delete_spelling fuel cls kvs lead steps c t' true hp hne hget ht' hf

/-- **C05 (pop, every spelling).** -/
theorem C05_pop_spellings (cls : Cls) (kvs : List (Str × Val)) (lead : Lead) (steps : List StepSp)
    (c d : Val) (hp : PlainSteps steps) (hne : steps ≠ [])
    (hget : stepsGet (.dict cls kvs) steps = some c) (fuel : Nat) (hf : fuel ≥ 2 * steps.length) :
    let t := Val.dict cls kvs
    let p := posOf t steps
    ∃ t', delAt t p = some t' ∧
      pop fuel t (renderSp lead steps) d false = .ok (t', c) ∧
      pop fuel t (renderSp lead steps) d true = .ok (pruneUp t' p.dropLast (p.length - 1), c) := by
  intro t p
  obtain ⟨t', ht', h1, h2⟩ := C05_delete_spellings cls kvs lead steps c hp hne hget fuel hf
  have hgi : getItem fuel (.dict cls kvs) (renderSp lead steps) = (.dict cls kvs, .ok c) :=
    getCore_spelling_dict fuel cls kvs lead steps c _ true true hp hne hget hf
  have hq := renderSp_noQ lead steps hp hne
  exact ⟨t', ht', pop_of_hit d hgi h1 hq, pop_of_hit d hgi h2 hq⟩

/-! ### the '?' spelling (fix C05-c)

Lookup and assignment read a leading '?' as "do not raise for a miss" and resolve the rest: `d['?a/b']` is `d['a/b']` for
every path that resolves, so `'?' + xpath` is a spelling lookup accepts.  Before the fix `delete` took the '?' as a part of
the first name (KeyError for an existing node), and `pop`, which swallows whatever `delete` raises, returned the value and
left it in the tree; for a miss it returned the '' of `d['?…']` instead of the caller's default. -/

/-- **C05 ('?' is not a part of the path).**  `delete('?' + xpath)` is `delete(xpath)` and `pop('?' + xpath, d)` is
`pop(xpath, d)`, whatever the path, the tree and the outcome are (`xpath` itself not starting with a second '?'). -/
theorem C05_qmark (fuel : Nat) (t : Val) (xp : Str) (d : Val) (r : Bool) (hq : startsWith xp ['?'] = false) :
    delete fuel t ('?' :: xp) r = delete fuel t xp r ∧ pop fuel t ('?' :: xp) d r = pop fuel t xp d r := by
  constructor
  · unfold delete deleteTokens; rw [stripQ_q, stripQ_noQ _ hq]
  · unfold pop; rw [stripQ_q, stripQ_noQ _ hq]

/-- **C05 (delete and pop, every spelling, with '?').**  The statement of `C05_delete_spellings` / `C05_pop_spellings` for
`'?' + spelling`: the node plain Python indexing reaches is removed (with `recursively=True` also the emptied dictionary
ancestors), `pop` returns its value - which is therefore not present afterwards. -/
theorem C05_qmark_spellings (cls : Cls) (kvs : List (Str × Val)) (lead : Lead) (steps : List StepSp)
    (c d : Val) (hp : PlainSteps steps) (hne : steps ≠ [])
    (hget : stepsGet (.dict cls kvs) steps = some c) (fuel : Nat) (hf : fuel ≥ 2 * steps.length) :
    let t := Val.dict cls kvs
    let p := posOf t steps
    ∃ t', delAt t p = some t' ∧
      delete fuel t ('?' :: renderSp lead steps) false = (t', .ok ()) ∧
      delete fuel t ('?' :: renderSp lead steps) true = (pruneUp t' p.dropLast (p.length - 1), .ok ()) ∧
      pop fuel t ('?' :: renderSp lead steps) d false = .ok (t', c) ∧
      pop fuel t ('?' :: renderSp lead steps) d true = .ok (pruneUp t' p.dropLast (p.length - 1), c) := by
  intro t p
  have hq := renderSp_noQ lead steps hp hne
  obtain ⟨t', ht', h1, h2⟩ := C05_delete_spellings cls kvs lead steps c hp hne hget fuel hf
  obtain ⟨t2, ht2, h3, h4⟩ := C05_pop_spellings cls kvs lead steps c d hp hne hget fuel hf
  have : t2 = t' := by
    have := ht'.symm.trans ht2
    exact (Option.some.inj this).symm
  subst this
  refine ⟨t2, ht', ?_, ?_, ?_, ?_⟩
  · rw [(C05_qmark fuel _ _ d false hq).1]; exact h1
  · rw [(C05_qmark fuel _ _ d true hq).1]; exact h2
  · rw [(C05_qmark fuel _ _ d false hq).2]; exact h3
  · rw [(C05_qmark fuel _ _ d true hq).2]; exact h4

/-- **C05 (pop of a missing '?' path).**  When item access on `xpath` raises and leaves the tree alone, `pop('?' + xpath, d)`
returns `d` - the caller's default, not the '' item access gives for the '?' path - and changes nothing. -/
theorem C05_qmark_pop_miss (fuel : Nat) (t : Val) (xp : Str) (d : Val) (r : Bool) (e : PyErr)
    (hmiss : getItem fuel t xp = (t, .error e)) (h1 : e ≠ .OutOfFuel) (h2 : e ≠ .Unsupported) :
    pop fuel t ('?' :: xp) d r = .ok (t, d) :=
  C05_pop_miss fuel t ('?' :: xp) d r e (by rw [stripQ_q]; exact hmiss) h1 h2

/-- the witnesses of the finding on `{a: 1, d: {b: 'x'}, h: [1, 2]}`: `pop('?a')`, `pop('?d/b')`, `pop('?h[0]')` return the
value and remove it, `pop('?zz', 'D')` and `pop('?h[9]', 'D')` return 'D', `delete('?a')` removes `a` -/
def exQ : Val :=
  .dict .n0 [(['a'], .int 1), (['d'], .dict .n0 [(['b'], .str ['x'])]), (['h'], .list .n0 [.int 1, .int 2])]
theorem C05_qmark_ok :
    pop 20 exQ ['?', 'a'] Val.none false
      = .ok (.dict .n0 [(['d'], .dict .n0 [(['b'], .str ['x'])]), (['h'], .list .n0 [.int 1, .int 2])], .int 1) ∧
    pop 20 exQ ['?', 'd', '/', 'b'] Val.none false
      = .ok (.dict .n0 [(['a'], .int 1), (['d'], .dict .n0 []), (['h'], .list .n0 [.int 1, .int 2])], .str ['x']) ∧
    pop 20 exQ ['?', 'h', '[', '0', ']'] Val.none false
      = .ok (.dict .n0 [(['a'], .int 1), (['d'], .dict .n0 [(['b'], .str ['x'])]), (['h'], .list .n0 [.int 2])], .int 1) ∧
    pop 20 exQ ['?', 'z', 'z'] (.str ['D']) false = .ok (exQ, .str ['D']) ∧
    pop 20 exQ ['?', 'h', '[', '9', ']'] (.str ['D']) false = .ok (exQ, .str ['D']) ∧
    delete 20 exQ ['?', 'a'] false
      = (.dict .n0 [(['d'], .dict .n0 [(['b'], .str ['x'])]), (['h'], .list .n0 [.int 1, .int 2])], .ok ()) := by
  decide +kernel
-- the hypotheses of `C05_qmark_spellings` / `C05_qmark_pop_miss` are inhabited
example : ∃ t', delAt exQ (posOf exQ [.key ['h'], .idx .last false]) = some t' ∧
    delete 20 exQ ('?' :: renderSp .rel [.key ['h'], .idx .last false]) false = (t', .ok ()) ∧
    pop 20 exQ ('?' :: renderSp .rel [.key ['h'], .idx .last false]) (.str ['D']) false = .ok (t', .int 2) := by
  obtain ⟨t', h0, h1, _, h3, _⟩ := C05_qmark_spellings .n0
    [(['a'], .int 1), (['d'], .dict .n0 [(['b'], .str ['x'])]), (['h'], .list .n0 [.int 1, .int 2])] .rel [.key ['h'], .idx .last false] (.int 2) (.str ['D'])
    ⟨PlainKey.single 'h', trivial⟩ (by simp) (by decide) 20 (by decide)
  exact ⟨t', h0, h1, h3⟩
example : pop 20 exQ ('?' :: ['z', 'z', '/', 'y']) (.str ['D']) true = .ok (exQ, .str ['D']) :=
  C05_qmark_pop_miss 20 exQ _ _ true .IndexError (by decide) (by decide) (by decide)

/-- **frame (dict entry).**  Removing the entry `k` of the dictionary at `q` changes no position
that diverges from `q ++ [k]` (neither a prefix of it nor below it). -/
theorem C05_frame_dict (t t' : Val) (q : Pos) (k : Str) (r : Pos)
    (hdel : delAt t (q ++ [.key k]) = some t') (hd : Diverge (q ++ [.key k]) r) :
    getAt t' r = getAt t r :=
  getAt_delAt_key_frame t t' q k r hdel hd

/-- **frame (list element).**  Removing element `n` of the list at `q`: positions diverging from
`q` keep their value, elements before `n` keep their index, later ones shift down by one, and the
list itself is the old one with element `n` erased. -/
theorem C05_frame_list (t t' : Val) (q : Pos) (n : Nat)
    (hdel : delAt t (q ++ [.idx n]) = some t') :
    (∀ r, Diverge q r → getAt t' r = getAt t r) ∧
    (∀ m r', m < n → getAt t' (q ++ .idx m :: r') = getAt t (q ++ .idx m :: r')) ∧
    (∀ m r', n ≤ m → getAt t' (q ++ .idx m :: r') = getAt t (q ++ .idx (m + 1) :: r')) ∧
    (∃ cls xs, getAt t q = some (.list cls xs) ∧ n < xs.length ∧
      getAt t' q = some (.list cls (xs.eraseIdx n))) :=
  getAt_delAt_idx_frame t t' q n hdel

def exTree : Val :=
  .dict .n0 [(['a'], .dict .plain [(['b'], .list .plain [.int 1, .list .n0 [.str ['x'], .none]])]),
             (['k'], .bool true)]

example : (delete 20 exTree ['a', '/', 'b', '[', '1', ']', '[', '0', ']'] false) =
    (.dict .n0 [(['a'], .dict .plain [(['b'], .list .plain [.int 1, .list .n0 [.none]])]), (['k'], .bool true)], .ok ()) := by
  decide +kernel
example : pop 20 exTree ['/', '/', 'k'] (.str ['D']) false
    = .ok (.dict .n0 [(['a'], .dict .plain [(['b'], .list .plain [.int 1, .list .n0 [.str ['x'], .none]])])], .bool true) := by
  decide +kernel
example : pop 20 exTree ['z', '/', 'y'] (.str ['D']) false = .ok (exTree, .str ['D']) := by decide +kernel


/-- `recursively=True`: `/a/b[0]/c` is removed, then the emptied `b[0]` (a dict inside a list:
the merged token `b[0]`), then nothing else (`b` is a list, `a` still has it) -/
def exRec : Val :=
  .dict .n0 [(['a'], .dict .plain [(['b'], .list .plain [.dict .plain [(['c'], .int 1)]])]), (['k'], .bool true)]

example : delete 20 exRec ['/', '/', 'a', '/', 'b', '[', '0', ']', '/', 'c'] true =
    (.dict .n0 [(['a'], .dict .plain [(['b'], .list .plain [])]), (['k'], .bool true)], .ok ()) := by decide +kernel
example : delete 20 exRec ['/', '/', 'a', '/', 'b', '[', '0', ']', '/', 'c'] false =
    (.dict .n0 [(['a'], .dict .plain [(['b'], .list .plain [.dict .plain []])]), (['k'], .bool true)], .ok ()) := by decide +kernel
example : pruneUp (.dict .n0 [(['a'], .dict .plain [(['b'], .list .plain [.dict .plain []])]), (['k'], .bool true)])
    [.key ['a'], .key ['b'], .idx 0] 3 =
    .dict .n0 [(['a'], .dict .plain [(['b'], .list .plain [])]), (['k'], .bool true)] := by decide +kernel

/-- a chain of dictionaries that all become empty is removed up to the first ancestor with another entry -/
def exChain : Val :=
  .dict .n0 [(['a'], .dict .n0 [(['b'], .dict .n0 [(['c'], .int 1)])]), (['k'], .bool true)]

example : delete 20 exChain ['a', '/', 'b', '/', 'c'] true = (.dict .n0 [(['k'], .bool true)], .ok ()) := by decide +kernel
example : pop 20 exChain ['/', 'a', '/', 'b', '/', 'c'] (.str ['D']) true = .ok (.dict .n0 [(['k'], .bool true)], .int 1) := by
  decide +kernel
-- the hypotheses of `C05_delete_recursive_stops` are inhabited (parent keeps another entry)
example : getAt (.dict .n0 [(['a'], .int 1), (['k'], .bool true)]) [.key ['a']] = some (.int 1) ∧
    delAt (.dict .n0 [(['a'], .int 1), (['k'], .bool true)]) [.key ['a']] = some (.dict .n0 [(['k'], .bool true)]) ∧
    isEmptyDict (.dict .n0 [(['k'], .bool true)]) = false := by decide +kernel
-- frame lemmas: a diverging position / a shifted list element
example : Diverge ([.key ['a']] ++ [.key ['b']]) [.key ['k']] := by simp [Diverge]
example : delAt exTree ([.key ['a'], .key ['b'], .idx 1] ++ [.idx 0]) =
    some (.dict .n0 [(['a'], .dict .plain [(['b'], .list .plain [.int 1, .list .n0 [.none]])]), (['k'], .bool true)]) := by
  decide +kernel


-- a spelling: `//a/b/[last()]/c` addresses `/a/b[0]/c` of `exRec`
example : renderSp .two [.key ['a'], .key ['b'], .idx .last true, .key ['c']] =
    ['/', '/', 'a', '/', 'b', '/', '[', 'l', 'a', 's', 't', '(', ')', ']', '/', 'c'] ∧
    stepsGet exRec [.key ['a'], .key ['b'], .idx .last true, .key ['c']] = some (.int 1) ∧
    posOf exRec [.key ['a'], .key ['b'], .idx .last true, .key ['c']] = [.key ['a'], .key ['b'], .idx 0, .key ['c']] := by
  decide +kernel
example : delete 20 exRec (renderSp .two [.key ['a'], .key ['b'], .idx .last true, .key ['c']]) true =
    (.dict .n0 [(['a'], .dict .plain [(['b'], .list .plain [])]), (['k'], .bool true)], .ok ()) := by decide +kernel

/-! ### sequences mixing deletes with C02/C03 writes

`Hist.Op` (defined in `Proofs/XPathHistory.lean`, see `Props/C03.lean` §6): a write to an existing node,
a creation below an existing node (a dict, or for a first step `[new()]`/`[len]` a list), a `delete` or a `pop` of an existing node (both with and
without `recursively`), each called with the canonical path of the node in the **current** state.
Reference: `Hist.applyOp` (`setAt`, `createIn`, `delAt`, `pruneUp` on plain trees). -/

/-- **C05 (histories).**  After any sequence mixing deletes and pops with C02/C03 writes the tree
equals the plain model that applied the same operations; nothing raises; the list `obs` of what the
calls returned holds, for every `pop`, the node that lookup returned in the state before it. -/
theorem C05_history (fuel : Nat) (ops : List Hist.Op) (cls : Cls) (kvs : List (Str × Val))
    (hv : Hist.ValidOps (.dict cls kvs) ops) (hf : ∀ op ∈ ops, fuel ≥ Hist.opFuel op) :
    ∃ t' obs, Hist.applyOps (.dict cls kvs) ops = some (t', obs) ∧
      Hist.runOps fuel (.dict cls kvs) ops = (t', .ok obs) :=
  Hist.history fuel ops cls kvs hv hf

/-- the reference semantics of a `delete`/`pop` inside a history is the one of `C05_delete` /
`C05_delete_recursive` -/
theorem C05_history_delRef (t : Val) (p : Pos) (d : Val) :
    Hist.applyOp t (.del p false) = delAt t p ∧
    Hist.applyOp t (.pop p d false) = delAt t p ∧
    Hist.applyOp t (.del p true) = (delAt t p).map (fun t' => pruneUp t' p.dropLast (p.length - 1)) ∧
    Hist.applyOp t (.pop p d true) = (delAt t p).map (fun t' => pruneUp t' p.dropLast (p.length - 1)) ∧
    Hist.obsOp t (.pop p d false) = getAt t p := by
  refine ⟨?_, ?_, rfl, rfl, rfl⟩ <;> simp [Hist.applyOp, Hist.delRef]

/-- **a popped dict entry is not present afterwards**, also inside a history (the state `t` is any
state the history has reached) -/
theorem C05_history_pop_gone (t t' : Val) (q : Pos) (k : Str) (d : Val) (cls : Cls) (kvs : List (Str × Val))
    (hq : getAt t q = some (.dict cls kvs)) (hu : PlainKvs kvs)
    (ha : Hist.applyOp t (.pop (q ++ [.key k]) d false) = some t') : getAt t' (q ++ [.key k]) = Option.none := by
  have : delAt t (q ++ [.key k]) = some t' := by simpa [Hist.applyOp, Hist.delRef] using ha
  exact C05_pop_not_present t t' q k cls kvs hq hu this

/-! Non-vacuity: on `exChain` (`{a: {b: {c: 1}}, k: True}`)
1. `d.pop('//a/b/c', 'D', recursively=True)` returns 1 and removes `c`, `b`, `a`;
2. `d['//a/b[new()]/c'] = 2` re-creates below the root;
3. `d['//k'] = {…}` overwrites a scalar by a container (C02);
4. `d.delete('//k/z')` removes an entry of the container just written;
5. `d.delete('//a/b[0]')` removes the list element (the list stays, empty). -/
def exHistory : List Hist.Op :=
  [ .pop [.key ['a'], .key ['b'], .key ['c']] (.str ['D']) true,
    .create [] (.name ['a']) [.elem ['b'] ['n', 'e', 'w', '(', ')'], .name ['c']] (.int 2),
    .write [.key ['k']] (.dict .plain [(['z'], .int 0), (['y'], .none)]),
    .del [.key ['k'], .key ['z']] false,
    .del [.key ['a'], .key ['b'], .idx 0] false ]

theorem exHistory_valid : Hist.ValidOps exChain exHistory := by
  refine .cons (t' := .dict .n0 [(['k'], .bool true)]) ?_ (by decide) ?_
  · exact ⟨⟨PlainKey.single 'a', PlainKey.single 'b', PlainKey.single 'c', trivial⟩, by simp, _, rfl⟩
  refine .cons (t' := .dict .n0 [(['k'], .bool true),
      (['a'], .dict .n0 [(['b'], .list .n0 [.dict .n0 [(['c'], .int 2)]])])]) ?_ (by decide) ?_
  · refine ⟨trivial, PlainKey.single 'a', ?_, by simp [GOk, CStep.isName], (by intro h; cases h)⟩
    intro x hx; simp at hx; rcases hx with rfl | rfl
    · exact ⟨PlainKey.single 'b', Or.inl (by decide)⟩
    · exact PlainKey.single 'c'
  refine .cons (t' := .dict .n0 [(['k'], .dict .plain [(['z'], .int 0), (['y'], .none)]),
      (['a'], .dict .n0 [(['b'], .list .n0 [.dict .n0 [(['c'], .int 2)]])])]) ?_ (by decide) ?_
  · exact ⟨⟨PlainKey.single 'k', trivial⟩, by simp, _, rfl⟩
  refine .cons (t' := .dict .n0 [(['k'], .dict .plain [(['y'], .none)]),
      (['a'], .dict .n0 [(['b'], .list .n0 [.dict .n0 [(['c'], .int 2)]])])]) ?_ (by decide) ?_
  · exact ⟨⟨PlainKey.single 'k', PlainKey.single 'z', trivial⟩, by simp, _, rfl⟩
  refine .cons (t' := .dict .n0 [(['k'], .dict .plain [(['y'], .none)]),
      (['a'], .dict .n0 [(['b'], .list .n0 [])])]) ?_ (by decide) (.nil _)
  · exact ⟨⟨PlainKey.single 'a', PlainKey.single 'b', trivial⟩, by simp, _, rfl⟩

example : Hist.runOps 40 exChain exHistory
    = (.dict .n0 [(['k'], .dict .plain [(['y'], .none)]), (['a'], .dict .n0 [(['b'], .list .n0 [])])],
       .ok [some (.int 1), Option.none, Option.none, Option.none, Option.none]) := by decide +kernel
example : ∃ t' obs, Hist.applyOps exChain exHistory = some (t', obs) ∧
    Hist.runOps 40 exChain exHistory = (t', .ok obs) :=
  C05_history 40 exHistory .n0 _ exHistory_valid (by decide)
example : exHistory.map Hist.opPath =
    [['/', '/', 'a', '/', 'b', '/', 'c'],
     ['/', '/', 'a', '/', 'b', '[', 'n', 'e', 'w', '(', ')', ']', '/', 'c'],
     ['/', '/', 'k'], ['/', '/', 'k', '/', 'z'], ['/', '/', 'a', '/', 'b', '[', '0', ']']] := by decide +kernel

/-! ## hidden lists (fix C03-e)

Lookup reads a value that is not a list as the list of this one item (`d['a[0]']`, `d['a[-1]']`, `d['a[last()]']` are
`d['a']`); "accepts every spelling of the path that lookup accepts" therefore includes these spellings, and what has to
be removed is the node lookup returns.  Before the fix `delete` deleted from the temporary list `_find` had built: it
returned without error and removed nothing, and `pop` returned a value that was still present afterwards. -/

/-- **C05 (delete through a hidden list).**  `d.delete('//…q…/name[e]')`, `e` any spelling of `0` or `-1`, on the
single value `old` of `name` removes exactly `name` (`delAt`) and raises nothing. -/
theorem C05_delete_hidden_list (cls : Cls) (kvs : List (Str × Val)) (q : Pos) (kcls : Cls) (nkvs : List (Str × Val))
    (name : Str) (old : Val) (e : IdxSp) (fuel : Nat)
    (hp : PlainPos q) (hget : getAt (.dict cls kvs) q = some (.dict kcls nkvs)) (hn : PlainKey name)
    (hl : lookup name nkvs = some old) (hs : isList old = false) (he : e.val = 0 ∨ e.val = -1)
    (hf : fuel ≥ 2 * q.length + 2) :
    ∃ t', delAt (.dict cls kvs) (q ++ [.key name]) = some t' ∧
      delete fuel (.dict cls kvs) (slash ++ renderPos q ++ slash ++ (name ++ bracket e.text)) false = (t', .ok ()) := by
  have hP : getAt (.dict cls kvs) (q ++ [Seg.key name]) = some old := getAt_snoc_key hget hl
  obtain ⟨t', ht'⟩ := delAt_isSome (q ++ [Seg.key name]) _ old (by simp) hP
  exact ⟨t', ht', delete_hidden cls kvs q kcls nkvs name old e t' fuel false hp hget hn hl hs he ht' hf⟩

/-- the witnesses of the finding, evaluated on `{a: 1, o: {p: {q: 1}}, h: [1, {x: 1}, {}]}`: `delete('a[0]')` removes `a`;
`pop('a[-1]')` returns `1` and removes it; recursive pruning sees the real ancestors (`o[0]/p/q`, `o/p[0]/q` remove `o` as
the plain path does); an index written as a step of its own after an element of a list (`h[1][0]/x`) prunes `h[1]` once and
leaves the element that shifts into its place alone; an item that does not exist (`a[3]`) raises -/
def exHidden : Val :=
  .dict .n0 [(['a'], .int 1), (['o'], .dict .n0 [(['p'], .dict .n0 [(['q'], .int 1)])]),
             (['h'], .list .n0 [.int 1, .dict .n0 [(['x'], .int 1)], .dict .n0 []])]
theorem C05_hidden_list_ok :
    delete 40 exHidden ['a', '[', '0', ']'] false
      = (.dict .n0 [(['o'], .dict .n0 [(['p'], .dict .n0 [(['q'], .int 1)])]),
                    (['h'], .list .n0 [.int 1, .dict .n0 [(['x'], .int 1)], .dict .n0 []])], .ok ()) ∧
    pop 40 exHidden ['a', '[', '-', '1', ']'] (.str ['D']) false
      = .ok (.dict .n0 [(['o'], .dict .n0 [(['p'], .dict .n0 [(['q'], .int 1)])]),
                        (['h'], .list .n0 [.int 1, .dict .n0 [(['x'], .int 1)], .dict .n0 []])], .int 1) ∧
    delete 40 exHidden ['o', '[', '0', ']', '/', 'p', '/', 'q'] true
      = (.dict .n0 [(['a'], .int 1), (['h'], .list .n0 [.int 1, .dict .n0 [(['x'], .int 1)], .dict .n0 []])], .ok ()) ∧
    delete 40 exHidden ['o', '/', 'p', '[', '0', ']', '/', 'q'] true = delete 40 exHidden ['o', '/', 'p', '/', 'q'] true ∧
    delete 40 exHidden ['h', '[', '1', ']', '[', '0', ']', '/', 'x'] true
      = (.dict .n0 [(['a'], .int 1), (['o'], .dict .n0 [(['p'], .dict .n0 [(['q'], .int 1)])]),
                    (['h'], .list .n0 [.int 1, .dict .n0 []])], .ok ()) ∧
    delete 40 exHidden ['a', '[', '3', ']'] false = (exHidden, .error .TypeError) := by
  decide +kernel
example : ∃ t', delAt exHidden [.key ['a']] = some t' ∧
    delete 40 exHidden ['/', '/', 'a', '[', 'l', 'a', 's', 't', '(', ')', ']'] false = (t', .ok ()) :=
  C05_delete_hidden_list .n0 _ [] .n0 _ ['a'] (.int 1) .last 40 trivial rfl (PlainKey.single 'a') (by decide) rfl (Or.inr rfl) (by decide)

/-! `C05_pop_miss` is conditional on item access raising.  The theorems below discharge that hypothesis, unbounded in the size
and depth of the tree, for the three kinds of missing path below an existing node of a dict-rooted tree with plain keys,
in every spelling of the family of `C05_delete_spellings` (prefix none, `/`, `//` - the canonical path of `xpath()` is
`renderSp .two` with literal attached indexes; index steps attached or separate, `i`, `-k`, `last()`, `last()-k`, `i+j`):
an unknown key, a name step below a scalar, an index out of range.  What the real code does:
`d[xp]` raises IndexError, `d.pop(xp, D)` returns `D`, `d.pop(xp)` returns `None` (`if_not_found=None`; `pop` never raises),
`d.delete(xp)` raises KeyError (unknown key: `del parent_node[None]`) / IndexError (below a leaf: the exception of `_find`);
the tree is unchanged in every case. -/

/-- **C05 (pop of a missing path: unknown key).**  `steps` spell the path of an existing dict node, `k` is a key that node
does not have, `tail` is whatever follows it (`hlead`: not the bare relative `k`, which is a plain lookup): item access raises IndexError, `pop` returns the default - `None` when called
without one - and the tree is unchanged, with and without `recursively`. -/
theorem C05_pop_miss_unknown_key (cls : Cls) (kvs : List (Str × Val)) (lead : Lead) (steps tail : List StepSp)
    (k : Str) (cls' : Cls) (kvs' : List (Str × Val)) (d : Val) (r : Bool)
    (hp : PlainSteps (steps ++ .key k :: tail))
    (hget : stepsGet (.dict cls kvs) steps = some (.dict cls' kvs')) (hl : lookup k kvs' = Option.none)
    (hlead : lead ≠ .rel ∨ steps ≠ [] ∨ tail ≠ []) (fuel : Nat) (hf : fuel ≥ 2 * steps.length + 1) :
    let t := Val.dict cls kvs
    let xp := renderSp lead (steps ++ .key k :: tail)
    getItem fuel t xp = (t, .error .IndexError) ∧ pop fuel t xp d r = .ok (t, d) ∧
    pop fuel t xp Val.none r = .ok (t, Val.none) := by
  intro t xp
  have h := (miss_unknown_key fuel cls kvs lead steps tail k cls' kvs' hp hget hl hlead hf).1
  have hq := renderSp_noQ lead (steps ++ .key k :: tail) hp (by simp)
  exact ⟨(api_of_miss fuel t xp hq h d r).1, (api_of_miss fuel t xp hq h d r).2.2.2,
    (api_of_miss fuel t xp hq h Val.none r).2.2.2⟩

/-- **C05 (delete of a missing path: unknown key).**  Same paths: `delete` raises KeyError, with and without
`recursively`, and leaves the tree as it was. -/
theorem C05_delete_miss_unknown_key (cls : Cls) (kvs : List (Str × Val)) (lead : Lead) (steps tail : List StepSp)
    (k : Str) (cls' : Cls) (kvs' : List (Str × Val)) (r : Bool)
    (hp : PlainSteps (steps ++ .key k :: tail))
    (hget : stepsGet (.dict cls kvs) steps = some (.dict cls' kvs')) (hl : lookup k kvs' = Option.none)
    (hlead : lead ≠ .rel ∨ steps ≠ [] ∨ tail ≠ []) (fuel : Nat) (hf : fuel ≥ 2 * steps.length + 1) :
    delete fuel (.dict cls kvs) (renderSp lead (steps ++ .key k :: tail)) r = (.dict cls kvs, .error .KeyError) :=
  (miss_unknown_key fuel cls kvs lead steps tail k cls' kvs' hp hget hl hlead hf).2 r

/-- **C05 (pop of a missing path: a name step below a leaf).**  `steps` spell the path of an existing node that is neither
a dict nor a list; a name step `k` (and whatever else) follows. -/
theorem C05_pop_miss_below_leaf (cls : Cls) (kvs : List (Str × Val)) (lead : Lead) (steps tail : List StepSp)
    (k : Str) (c d : Val) (r : Bool) (hp : PlainSteps (steps ++ .key k :: tail))
    (hget : stepsGet (.dict cls kvs) steps = some c) (hleaf : isList c = false ∧ isDict c = false)
    (fuel : Nat) (hf : fuel ≥ 2 * steps.length + 1) :
    let t := Val.dict cls kvs
    let xp := renderSp lead (steps ++ .key k :: tail)
    getItem fuel t xp = (t, .error .IndexError) ∧ pop fuel t xp d r = .ok (t, d) ∧
    pop fuel t xp Val.none r = .ok (t, Val.none) := by
  intro t xp
  have h := (miss_below_leaf fuel cls kvs lead steps tail k c hp hget hleaf.1 hleaf.2 hf).1
  have hq := renderSp_noQ lead (steps ++ .key k :: tail) hp (by simp)
  exact ⟨(api_of_miss fuel t xp hq h d r).1, (api_of_miss fuel t xp hq h d r).2.2.2,
    (api_of_miss fuel t xp hq h Val.none r).2.2.2⟩

/-- **C05 (delete of a missing path: a name step below a leaf).**  `delete` raises IndexError (the exception of `_find`
passes through), tree unchanged. -/
theorem C05_delete_miss_below_leaf (cls : Cls) (kvs : List (Str × Val)) (lead : Lead) (steps tail : List StepSp)
    (k : Str) (c : Val) (r : Bool) (hp : PlainSteps (steps ++ .key k :: tail))
    (hget : stepsGet (.dict cls kvs) steps = some c) (hleaf : isList c = false ∧ isDict c = false)
    (fuel : Nat) (hf : fuel ≥ 2 * steps.length + 1) :
    delete fuel (.dict cls kvs) (renderSp lead (steps ++ .key k :: tail)) r = (.dict cls kvs, .error .IndexError) :=
  (miss_below_leaf fuel cls kvs lead steps tail k c hp hget hleaf.1 hleaf.2 hf).2 r

/-- **C05 (pop of a missing path: index out of range).**  The unconditional form of `C05_pop_miss` for the misses of
`C01_out_of_range_miss` (`stepsMiss`: the steps walk along existing nodes and then index a list out of range). -/
theorem C05_pop_miss_out_of_range (cls : Cls) (kvs : List (Str × Val)) (lead : Lead) (steps : List StepSp) (d : Val)
    (r : Bool) (hp : PlainSteps steps) (hmiss : stepsMiss (.dict cls kvs) steps = true)
    (fuel : Nat) (hf : fuel ≥ 2 * steps.length) :
    pop fuel (.dict cls kvs) (renderSp lead steps) d r = .ok (.dict cls kvs, d) :=
  pop_of_indexError fuel _ _ d r
    (renderSp_noQ lead steps hp (by rintro rfl; rw [stepsMiss_nil] at hmiss; cases hmiss))
    (by rw [getItem, getCore_miss_dict fuel cls kvs lead steps _ true true hp hmiss hf]; rfl)

/-- **C05 (delete of a missing path: index out of range).**  Same paths: `delete` raises IndexError (`del parent_node[i]` on
the list), with and without `recursively`, tree unchanged. -/
theorem C05_delete_miss_out_of_range (cls : Cls) (kvs : List (Str × Val)) (lead : Lead) (steps : List StepSp)
    (r : Bool) (hp : PlainSteps steps) (hmiss : stepsMiss (.dict cls kvs) steps = true)
    (fuel : Nat) (hf : fuel ≥ 2 * steps.length) :
    delete fuel (.dict cls kvs) (renderSp lead steps) r = (.dict cls kvs, .error .IndexError) :=
  delete_out_of_range fuel cls kvs lead steps r hp hmiss hf

/-- **C05 (missing paths below the canonical path of a node).**  `slash ++ renderPos p` is the path `xpath()` gives the node at
`p` (C01); followed by `/k`: when the node is a dict without the key `k`, item access raises IndexError, `pop` returns the
default, `delete` raises KeyError; when the node is a scalar, item access and `delete` raise IndexError, `pop` returns the
default; the tree is unchanged every time. -/
theorem C05_miss_canonical (cls : Cls) (kvs : List (Str × Val)) (p : Pos) (k : Str) (c d : Val) (r : Bool)
    (hp : PlainPos p) (hk : PlainKey k) (hget : getAt (.dict cls kvs) p = some c)
    (fuel : Nat) (hf : fuel ≥ 2 * p.length + 1) :
    let t := Val.dict cls kvs
    let xp := slash ++ renderPos p ++ '/' :: k
    ((∃ cls' kvs', c = .dict cls' kvs' ∧ lookup k kvs' = Option.none) →
      getItem fuel t xp = (t, .error .IndexError) ∧ pop fuel t xp d r = .ok (t, d) ∧
      delete fuel t xp r = (t, .error .KeyError)) ∧
    (isList c = false ∧ isDict c = false →
      getItem fuel t xp = (t, .error .IndexError) ∧ pop fuel t xp d r = .ok (t, d) ∧
      delete fuel t xp r = (t, .error .IndexError)) := by
  intro t xp
  have hxp : renderSp .two (canonSteps p ++ .key k :: []) = xp := canon_path cls kvs p c k hget
  have hps : PlainSteps (canonSteps p ++ .key k :: []) :=
    (plainSteps_append _ _).2 ⟨plainSteps_canon p hp, hk, trivial⟩
  have hsg := stepsGet_canon p _ c hget
  have hf' : fuel ≥ 2 * (canonSteps p).length + 1 := by rw [canonSteps_length]; exact hf
  constructor
  · rintro ⟨cls', kvs', rfl, hl⟩
    have h1 := C05_pop_miss_unknown_key cls kvs .two (canonSteps p) [] k cls' kvs' d r hps hsg hl (Or.inl (by decide)) fuel hf'
    have h2 := C05_delete_miss_unknown_key cls kvs .two (canonSteps p) [] k cls' kvs' r hps hsg hl (Or.inl (by decide)) fuel hf'
    rw [hxp] at h1 h2
    exact ⟨h1.1, h1.2.1, h2⟩
  · intro hleaf
    have h1 := C05_pop_miss_below_leaf cls kvs .two (canonSteps p) [] k c d r hps hsg hleaf fuel hf'
    have h2 := C05_delete_miss_below_leaf cls kvs .two (canonSteps p) [] k c r hps hsg hleaf fuel hf'
    rw [hxp] at h1 h2
    exact ⟨h1.1, h1.2.1, h2⟩

/-! Non-vacuity: `exHidden` = `{a: 1, o: {p: {q: 1}}, h: [1, {x: 1}, {}]}`.  Unknown key below `h[-2]` written `//h/[last()-1]/zz[0]/y`
(the miss carries an index and a further step); a name step below the leaf `o/p/q`; the canonical path of `xpath()` is a member of
the family; the model evaluates to what the theorems say. -/
example : renderSp .two [.key ['o'], .key ['p'], .key ['q'], .key ['z']] = ['/', '/', 'o', '/', 'p', '/', 'q', '/', 'z'] ∧
    renderSp .two [.key ['h'], .idx (.lit 1) false, .key ['z']] = slash ++ renderPos [.key ['h'], .idx 1, .key ['z']] := by decide +kernel
example : pop 40 exHidden ['/', '/', 'h', '/', '[', 'l', 'a', 's', 't', '(', ')', '-', '1', ']', '/', 'z', 'z', '[', '0', ']', '/', 'y']
      (.str ['D']) true = .ok (exHidden, .str ['D']) :=
  (C05_pop_miss_unknown_key .n0 _ .two [.key ['h'], .idx (.lastMinus 1) true] [.idx (.lit 0) false, .key ['y']] ['z', 'z'] .n0
    [(['x'], .int 1)] (.str ['D']) true ⟨PlainKey.single 'h', ⟨by decide, by decide, by decide⟩, PlainKey.single 'y', trivial⟩ rfl rfl (Or.inl (by decide)) 40
    (by decide)).2.1
example : delete 40 exHidden ['z', 'z'] false = (exHidden, .error .KeyError) ∧
    delete 40 exHidden ['/', 'z', 'z'] true = (exHidden, .error .KeyError) :=
  ⟨by decide, C05_delete_miss_unknown_key .n0 _ .one [] [] ['z', 'z'] .n0 _ true ⟨⟨by decide, by decide, by decide⟩, trivial⟩ rfl rfl
    (Or.inl (by decide)) 40 (by decide)⟩
example : delete 40 exHidden ['o', '/', 'p', '/', 'q', '/', 'z'] true = (exHidden, .error .IndexError) :=
  C05_delete_miss_below_leaf .n0 _ .rel [.key ['o'], .key ['p'], .key ['q']] [] ['z'] (.int 1) true
    ⟨PlainKey.single 'o', PlainKey.single 'p', PlainKey.single 'q', PlainKey.single 'z', trivial⟩ rfl ⟨rfl, rfl⟩ 40 (by decide)
example : (getItem 40 exHidden ['o', '/', 'p', '/', 'q', '/', 'z']) = (exHidden, .error .IndexError) ∧
    pop 40 exHidden ['o', '/', 'p', '/', 'q', '/', 'z'] Val.none false = .ok (exHidden, Val.none) :=
  have h := C05_pop_miss_below_leaf .n0 _ .rel [.key ['o'], .key ['p'], .key ['q']] [] ['z'] (.int 1) Val.none false
    ⟨PlainKey.single 'o', PlainKey.single 'p', PlainKey.single 'q', PlainKey.single 'z', trivial⟩ rfl ⟨rfl, rfl⟩ 40 (by decide)
  ⟨h.1, h.2.2⟩
example : pop 40 exHidden ['h', '[', '3', ']', '/', 'x'] (.str ['D']) false = .ok (exHidden, .str ['D']) :=
  C05_pop_miss_out_of_range .n0 _ .rel [.key ['h'], .idx (.lit 3) false, .key ['x']] (.str ['D']) false
    ⟨PlainKey.single 'h', PlainKey.single 'x', trivial⟩ (by decide) 40 (by decide)

example : delete 40 exHidden ['/', '/', 'h', '[', '-', '4', ']', '/', 'x'] true = (exHidden, .error .IndexError) :=
  C05_delete_miss_out_of_range .n0 _ .two [.key ['h'], .idx (.neg 4) false, .key ['x']] true
    ⟨PlainKey.single 'h', PlainKey.single 'x', trivial⟩ (by decide) 40 (by decide)

-- the canonical form: `//h[1]/zz` (unknown key of the dict `h[1]`), `//h[1]/x/zz` (below the leaf `h[1]/x`)
example : slash ++ renderPos [.key ['h'], .idx 1] ++ '/' :: ['z', 'z'] = ['/', '/', 'h', '[', '1', ']', '/', 'z', 'z'] := by decide +kernel
example : delete 40 exHidden ['/', '/', 'h', '[', '1', ']', '/', 'z', 'z'] false = (exHidden, .error .KeyError) :=
  ((C05_miss_canonical .n0 _ [.key ['h'], .idx 1] ['z', 'z'] _ Val.none false ⟨PlainKey.single 'h', trivial⟩ ⟨by decide, by decide, by decide⟩
    rfl 40 (by decide)).1 ⟨.n0, _, rfl, rfl⟩).2.2
example : pop 40 exHidden ['/', '/', 'h', '[', '1', ']', '/', 'x', '/', 'z', 'z'] (.int 7) true = .ok (exHidden, .int 7) :=
  ((C05_miss_canonical .n0 _ [.key ['h'], .idx 1, .key ['x']] ['z', 'z'] _ (.int 7) true ⟨PlainKey.single 'h', PlainKey.single 'x', trivial⟩
    ⟨by decide, by decide, by decide⟩ rfl 40 (by decide)).2 ⟨rfl, rfl⟩).2.1

/-- **C05 (pop through a hidden list).**  `d.pop('//…q…/name[e]', d, recursively)`, `e` any spelling of `0` or `-1`, on the
single value `old` of `name` returns `old` — the value lookup returns for that spelling — and yields the tree `delete`
yields: `delAt` of the real position for `recursively=False`, `pruneUp` of it over the real ancestors for
`recursively=True`.  The default `d` is not used. -/
theorem C05_pop_hidden_list (cls : Cls) (kvs : List (Str × Val)) (q : Pos) (kcls : Cls) (nkvs : List (Str × Val))
    (name : Str) (old d : Val) (e : IdxSp) (fuel : Nat)
    (hp : PlainPos q) (hget : getAt (.dict cls kvs) q = some (.dict kcls nkvs)) (hn : PlainKey name)
    (hl : lookup name nkvs = some old) (hs : isList old = false) (he : e.val = 0 ∨ e.val = -1)
    (hf : fuel ≥ 2 * q.length + 2) :
    ∃ t', delAt (.dict cls kvs) (q ++ [.key name]) = some t' ∧
      getItem fuel (.dict cls kvs) (slash ++ renderPos q ++ slash ++ (name ++ bracket e.text)) = (.dict cls kvs, .ok old) ∧
      pop fuel (.dict cls kvs) (slash ++ renderPos q ++ slash ++ (name ++ bracket e.text)) d false = .ok (t', old) ∧
      pop fuel (.dict cls kvs) (slash ++ renderPos q ++ slash ++ (name ++ bracket e.text)) d true
        = .ok (pruneUp t' q q.length, old) ∧
      (∀ r, (delete fuel (.dict cls kvs) (slash ++ renderPos q ++ slash ++ (name ++ bracket e.text)) r).2 = .ok () ∧
        pop fuel (.dict cls kvs) (slash ++ renderPos q ++ slash ++ (name ++ bracket e.text)) d r
          = .ok ((delete fuel (.dict cls kvs) (slash ++ renderPos q ++ slash ++ (name ++ bracket e.text)) r).1, old)) := by
  have hP : getAt (.dict cls kvs) (q ++ [Seg.key name]) = some old := getAt_snoc_key hget hl
  obtain ⟨t', ht'⟩ := delAt_isSome (q ++ [Seg.key name]) _ old (by simp) hP
  refine ⟨t', ht', getItem_hidden cls kvs q kcls nkvs name old e fuel hp hget hn hl hs he hf,
    pop_hidden cls kvs q kcls nkvs name old d e t' fuel false hp hget hn hl hs he ht' hf,
    pop_hidden cls kvs q kcls nkvs name old d e t' fuel true hp hget hn hl hs he ht' hf, ?_⟩
  intro r
  rw [pop_hidden cls kvs q kcls nkvs name old d e t' fuel r hp hget hn hl hs he ht' hf,
    delete_hidden cls kvs q kcls nkvs name old e t' fuel r hp hget hn hl hs he ht' hf]
  exact ⟨rfl, rfl⟩

/-- **C05 (recursive delete through a hidden list).**  `d.delete('//…q…/name[e]', recursively=True)`, `e` any spelling of
`0` or `-1`, on the single value of `name`: `name` is removed, then the real ancestors that became empty dictionaries,
deepest first (`pruneUp` over the position `q` of the parent) — exactly the result of the canonical path `//…q…/name`. -/
theorem C05_delete_rec_hidden_list (cls : Cls) (kvs : List (Str × Val)) (q : Pos) (kcls : Cls) (nkvs : List (Str × Val))
    (name : Str) (old : Val) (e : IdxSp) (fuel : Nat)
    (hp : PlainPos q) (hget : getAt (.dict cls kvs) q = some (.dict kcls nkvs)) (hn : PlainKey name)
    (hl : lookup name nkvs = some old) (hs : isList old = false) (he : e.val = 0 ∨ e.val = -1)
    (hf : fuel ≥ 2 * q.length + 2) :
    ∃ t', delAt (.dict cls kvs) (q ++ [.key name]) = some t' ∧
      delete fuel (.dict cls kvs) (slash ++ renderPos q ++ slash ++ (name ++ bracket e.text)) true
        = (pruneUp t' q q.length, .ok ()) ∧
      delete fuel (.dict cls kvs) (slash ++ renderPos q ++ slash ++ (name ++ bracket e.text)) true
        = delete fuel (.dict cls kvs) (slash ++ renderPos (q ++ [.key name])) true := by
  have hP : getAt (.dict cls kvs) (q ++ [Seg.key name]) = some old := getAt_snoc_key hget hl
  obtain ⟨t', ht'⟩ := delAt_isSome (q ++ [Seg.key name]) _ old (by simp) hP
  have hd := delete_hidden cls kvs q kcls nkvs name old e t' fuel true hp hget hn hl hs he ht' hf
  refine ⟨t', ht', hd, ?_⟩
  rw [hd, delete_canonical true (hp.append (show PlainPos [Seg.key name] from ⟨hn, trivial⟩)) (by simp) hP ht'
    (by rw [List.length_append]; exact hf)]
  simp

/-- non-vacuity on `exHidden`: `//o/p/q[last()]` (the single value `1` of `q`, two dict ancestors that become empty) -/
example : slash ++ renderPos [.key ['o'], .key ['p']] ++ slash ++ (['q'] ++ bracket IdxSp.last.text)
    = ['/', '/', 'o', '/', 'p', '/', 'q', '[', 'l', 'a', 's', 't', '(', ')', ']'] := by decide +kernel
example : ∃ t', delAt exHidden [.key ['o'], .key ['p'], .key ['q']] = some t' ∧
    delete 40 exHidden ['/', '/', 'o', '/', 'p', '/', 'q', '[', 'l', 'a', 's', 't', '(', ')', ']'] true
      = (pruneUp t' [.key ['o'], .key ['p']] 2, .ok ()) ∧
    delete 40 exHidden ['/', '/', 'o', '/', 'p', '/', 'q', '[', 'l', 'a', 's', 't', '(', ')', ']'] true
      = delete 40 exHidden ['/', '/', 'o', '/', 'p', '/', 'q'] true :=
  C05_delete_rec_hidden_list .n0 _ [.key ['o'], .key ['p']] .n0 _ ['q'] (.int 1) .last 40 ⟨PlainKey.single 'o', PlainKey.single 'p', trivial⟩ rfl (PlainKey.single 'q')
    (by decide) rfl (Or.inr rfl) (by decide)
example : pruneUp (.dict .n0 [(['a'], .int 1), (['o'], .dict .n0 [(['p'], .dict .n0 [])]),
      (['h'], .list .n0 [.int 1, .dict .n0 [(['x'], .int 1)], .dict .n0 []])]) [.key ['o'], .key ['p']] 2
    = .dict .n0 [(['a'], .int 1), (['h'], .list .n0 [.int 1, .dict .n0 [(['x'], .int 1)], .dict .n0 []])] := by decide +kernel
example : ∃ t', delAt exHidden [.key ['o'], .key ['p'], .key ['q']] = some t' ∧
    getItem 40 exHidden ['/', '/', 'o', '/', 'p', '/', 'q', '[', '0', ']'] = (exHidden, .ok (.int 1)) ∧
    pop 40 exHidden ['/', '/', 'o', '/', 'p', '/', 'q', '[', '0', ']'] (.str ['D']) false = .ok (t', .int 1) ∧
    pop 40 exHidden ['/', '/', 'o', '/', 'p', '/', 'q', '[', '0', ']'] (.str ['D']) true
      = .ok (pruneUp t' [.key ['o'], .key ['p']] 2, .int 1) :=
  let ⟨t', h1, h2, h3, h4, _⟩ := C05_pop_hidden_list .n0 _ [.key ['o'], .key ['p']] .n0 _ ['q'] (.int 1) (.str ['D']) (.lit 0) 40
    ⟨PlainKey.single 'o', PlainKey.single 'p', trivial⟩ rfl (PlainKey.single 'q') (by decide) rfl (Or.inl rfl) (by decide)
  ⟨t', h1, h2, h3, h4⟩
/-- the same instances evaluated (compared with the real code: `pop('//o/p/q[0]', 'D', recursively=True)` returns `1` and
leaves `{a: 1, h: [...]}`; with `recursively=False` it leaves `o: {p: {}}`) -/
example : pop 40 exHidden ['/', '/', 'o', '/', 'p', '/', 'q', '[', '0', ']'] (.str ['D']) true
      = .ok (.dict .n0 [(['a'], .int 1), (['h'], .list .n0 [.int 1, .dict .n0 [(['x'], .int 1)], .dict .n0 []])], .int 1) ∧
    pop 40 exHidden ['/', '/', 'o', '/', 'p', '/', 'q', '[', '0', ']'] (.str ['D']) false
      = .ok (.dict .n0 [(['a'], .int 1), (['o'], .dict .n0 [(['p'], .dict .n0 [])]),
          (['h'], .list .n0 [.int 1, .dict .n0 [(['x'], .int 1)], .dict .n0 []])], .int 1) := by decide +kernel

/-- **C05 (hidden list around an ELEMENT of a list).**  `…h[i][e]`, `e` any spelling of `0` or `-1`, on an element
`old` of a list that is not a list itself (`q0 ++ [idx i]` is its position): lookup returns `old`; `delete` and `pop`
through that spelling are `delete` / `pop` of the canonical path `…h[i]` — the element is removed (`delAt`, later
elements shift down), with `recursively=True` followed by `pruneUp` over the real ancestors; `pop` returns `old`. -/
theorem C05_delete_hidden_list_elem (cls : Cls) (kvs : List (Str × Val)) (q0 : Pos) (i : Nat) (old d : Val) (e : IdxSp)
    (fuel : Nat)
    (hp : PlainPos (q0 ++ [Seg.idx i])) (hget : getAt (.dict cls kvs) (q0 ++ [Seg.idx i]) = some old)
    (hs : isList old = false) (he : e.val = 0 ∨ e.val = -1) (hf : fuel ≥ 2 * (q0.length + 1) + 1) :
    ∃ t', delAt (.dict cls kvs) (q0 ++ [Seg.idx i]) = some t' ∧
      getItem fuel (.dict cls kvs) (slash ++ renderPos (q0 ++ [Seg.idx i]) ++ bracket e.text) = (.dict cls kvs, .ok old) ∧
      delete fuel (.dict cls kvs) (slash ++ renderPos (q0 ++ [Seg.idx i]) ++ bracket e.text) false = (t', .ok ()) ∧
      delete fuel (.dict cls kvs) (slash ++ renderPos (q0 ++ [Seg.idx i]) ++ bracket e.text) true
        = (pruneUp t' q0 q0.length, .ok ()) ∧
      pop fuel (.dict cls kvs) (slash ++ renderPos (q0 ++ [Seg.idx i]) ++ bracket e.text) d false = .ok (t', old) ∧
      pop fuel (.dict cls kvs) (slash ++ renderPos (q0 ++ [Seg.idx i]) ++ bracket e.text) d true
        = .ok (pruneUp t' q0 q0.length, old) ∧
      ∀ r, delete fuel (.dict cls kvs) (slash ++ renderPos (q0 ++ [Seg.idx i]) ++ bracket e.text) r
        = delete fuel (.dict cls kvs) (slash ++ renderPos (q0 ++ [Seg.idx i])) r := by
  have hne : q0 ++ [Seg.idx i] ≠ [] := by simp
  have hf' : fuel ≥ 2 * (q0 ++ [Seg.idx i]).length := by rw [List.length_append]; exact Nat.le_of_succ_le hf
  obtain ⟨t', ht', hdel⟩ := C05_delete cls kvs _ old hp hne hget fuel hf'
  have hrec := C05_delete_recursive cls kvs _ old t' fuel hp hne hget ht' hf'
  simp only [List.dropLast_concat, List.length_append, List.length_cons, List.length_nil, Nat.zero_add,
    Nat.add_sub_cancel] at hrec
  have hd := delete_hidden_elem cls kvs q0 i old e fuel
  have hgi := getItem_hidden_elem cls kvs q0 i old e fuel hp hget hs he hf
  refine ⟨t', ht', hgi, ?_, ?_, ?_, ?_,
    fun r => hd r hp hget hs he hf⟩
  · rw [hd false hp hget hs he hf, hdel]
  · rw [hd true hp hget hs he hf, hrec]
  · exact pop_of_hit d hgi ((hd false hp hget hs he hf).trans hdel) (slash_noQ _)
  · exact pop_of_hit d hgi ((hd true hp hget hs he hf).trans hrec) (slash_noQ _)

/-- non-vacuity on `exHidden`: `//h[1][last()]` is the element `{x: 1}` of `h`; `h[2]` shifts into its place -/
example : slash ++ renderPos ([.key ['h']] ++ [Seg.idx 1]) ++ bracket IdxSp.last.text
    = ['/', '/', 'h', '[', '1', ']', '[', 'l', 'a', 's', 't', '(', ')', ']'] := by decide +kernel
example : ∃ t', delAt exHidden [.key ['h'], .idx 1] = some t' ∧
    getItem 40 exHidden ['/', '/', 'h', '[', '1', ']', '[', 'l', 'a', 's', 't', '(', ')', ']']
      = (exHidden, .ok (.dict .n0 [(['x'], .int 1)])) ∧
    delete 40 exHidden ['/', '/', 'h', '[', '1', ']', '[', 'l', 'a', 's', 't', '(', ')', ']'] false = (t', .ok ()) ∧
    pop 40 exHidden ['/', '/', 'h', '[', '1', ']', '[', 'l', 'a', 's', 't', '(', ')', ']'] (.str ['D']) true
      = .ok (pruneUp t' [.key ['h']] 1, .dict .n0 [(['x'], .int 1)]) :=
  let ⟨t', h1, h2, h3, _, _, h6, _⟩ := C05_delete_hidden_list_elem .n0 _ [.key ['h']] 1 (.dict .n0 [(['x'], .int 1)]) (.str ['D'])
    .last 40 ⟨PlainKey.single 'h', trivial⟩ rfl rfl (Or.inr rfl) (by decide)
  ⟨t', h1, h2, h3, h6⟩
/-- the same instance evaluated (the real code: `d.pop('//h[1][last()]', 'D', recursively=True)` returns `{'x': 1}` and
leaves `h: [1, {}]`) -/
example : pop 40 exHidden ['/', '/', 'h', '[', '1', ']', '[', 'l', 'a', 's', 't', '(', ')', ']'] (.str ['D']) true
    = .ok (.dict .n0 [(['a'], .int 1), (['o'], .dict .n0 [(['p'], .dict .n0 [(['q'], .int 1)])]),
        (['h'], .list .n0 [.int 1, .dict .n0 []])], .dict .n0 [(['x'], .int 1)]) := by decide +kernel

end N0.C05
