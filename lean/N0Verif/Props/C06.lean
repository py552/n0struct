import N0Verif.Proofs.XPathSelListRoot
/-!
# C06 — wildcard and predicate steps select exactly the matching elements, in order

The reference results (`selectF`, `selectWhere`, `selectChained`, `selectChainedG`) are list comprehensions; the lemmas that equate
them with the values of the specification `selD` (`Proofs/XPathSelSpec.lean`: `selectF_eq`, `selectWhere_eq`, `chainedG_eq`) stand
here, next to the definitions.  The string-level theorems are instances of `select_string` (`Proofs/XPathSelPaths.lean`, by
`star_string`, `pred_string`, `chained_string`; `xlds_*`, `select_root_string` at a list root), the token-level ones (`…_spelled`) of
the node-level `find_selD` by `select_coll`; `C06_star_spelled`, whose key tokens need not be plain, comes from the loop lemmas
by `fanout_spelled`.

Reading.  "Records" are dicts; the reference results are the list comprehensions `selectF` /
`selectWhere`; a selecting lookup returns the list of selected values (`get`, item access), the default /
`IndexError` when nothing is selected, and `first` additionally unwraps a single match (`firstOf`; the default
is returned as it is, fix C04-f).
Field names are plain names (`PlainKey`, `FieldKey`), the literal is a plain text (`PlainLit`), written
bare or quoted (`LitSpell`), the operator as written or normalised (`OpSpell`).

The model follows the code **with the fix patches C06-a, C06-c, C06-b, C06-e, C06-f and C06-h applied** (numeric
fields are compared as numbers, the empty literal is the empty text, `'..'` keeps the list index of the record it
returns to, a predicate on an empty list is a miss, `n0list._find` keeps the list it started from as `self`, a
predicate on a single value is a miss).

`C06_star`, `C06_pred`, `C06_chained` prove the full statements `C06_*_stmt` (the record list at ANY position of the tree, canonical
path `P`); the `…_partial` theorems have the exact fuel for `P` = a plain key of the root (`C06_implicit_star_path_partial`: any plain `P`); `…_spelled` (token level) and
`…_spellings_string` (string level) cover EVERY spelling of `P` (prefix none / `/` / `//`, `][` or `]/[`, `a[i]` or `a/[i]`, an index as
`i`, `-k`, `last()`, `last()-k`, `i+j`).  For plain literals (`PlainLit`) no statement is left open; for the literal values a
condition cannot express (finding C06-g, open) the file ends with four counter-examples, `C06_literal_*_cex`.
-/
namespace N0.C06
open N0 N0.Py N0.Val N0.XPath

/-- `[r[f] for r in rs if f in r]` -/
def selectF (f : Str) : List Val → List Val
  | [] => []
  | .dict _ kvs :: rs => (match lookup f kvs with | some v => [v] | Option.none => []) ++ selectF f rs
  | _ :: rs => selectF f rs

/-- records whose field `k` satisfies `test`, projected on `f`:
`[r[f] for r in rs if k in r and test(r[k]) and f in r]` -/
def selectWhere (k f : Str) (test : Val → Bool) : List Val → List Val
  | [] => []
  | .dict _ kvs :: rs =>
    (match lookup k kvs, lookup f kvs with
     | some kv, some fv => if test kv then [fv] else []
     | _, _ => []) ++ selectWhere k f test rs
  | _ :: rs => selectWhere k f test rs

/-- what a selecting lookup returns for a list of selected values: a miss when empty -/
def selected (vals : List Val) (d : Val) : Val := if vals.isEmpty then d else .list .n0 vals

/-- item access: `IndexError` when nothing is selected -/
def selectedItem (vals : List Val) : PyM Val := if vals.isEmpty then .error .IndexError else .ok (.list .n0 vals)

/-- "the field value `x` equals the literal `v`": a text field is compared as text, an `int` field (and a
`bool`, which Python counts as `int`) as a number — the literal must denote that number -/
def fieldEq (v : Str) : Val → Bool
  | .str s => s = v
  | .int i => pyInt v == some i
  | .bool b => pyInt v == some (if b then 1 else 0)
  | _ => false

/-- "the field value `x` contains the literal `v`" (Python `v in x`): substring of a text, element of a
list, key of a dict; nothing else contains anything -/
def fieldContains (v : Str) : Val → Bool
  | .str s => isInfix v s
  | .list _ xs => xs.any (fun x => x == Val.str v)
  | .dict _ kvs => (lookup v kvs).isSome
  | _ => false

/-- the field values the model compares: no float, and a non-ASCII literal only against non-numeric
fields (`Model/XPath.lean`, `textGuard`: `float()` and non-ASCII `int()` are outside the model) -/
def ComparableK (k v : Str) (rs : List Val) : Prop :=
  ∀ r ∈ rs, (match r with
    | .dict _ kvs' => (match lookup k kvs' with | some kv => textGuard kv (.str v) | Option.none => false)
    | _ => false) = false

instance (k v : Str) (rs : List Val) : Decidable (ComparableK k v rs) := by unfold ComparableK; infer_instance

theorem ComparableK.guard {k v : Str} {rs : List Val} (h : ComparableK k v rs) :
    ∀ c kvs' kv, Val.dict c kvs' ∈ rs → lookup k kvs' = some kv → textGuard kv (.str v) = false := by
  intro c kvs' kv hm hl
  have := h _ hm
  simpa [hl] using this

/-- text-valued `k` (the property's main case) is always comparable -/
theorem comparable_of_strings (k v : Str) (rs : List Val)
    (h : ∀ c kvs' kv, Val.dict c kvs' ∈ rs → lookup k kvs' = some kv → ∃ s, kv = .str s) : ComparableK k v rs := by
  intro r hr
  cases r with
  | dict c kvs' =>
    cases hl : lookup k kvs' with
    | none => simp [hl]
    | some kv =>
      obtain ⟨s, rfl⟩ := h c kvs' kv hr hl
      simp [hl, textGuard]
  | _ => rfl

theorem selectF_eq (f : Str) (rs : List Val) : somes (rs.map (fieldOf f)) = selectF f rs := by
  induction rs with
  | nil => rfl
  | cons r rs ih =>
    cases r with
    | dict c kvs =>
      cases h : lookup f kvs <;> simp [fieldOf, somes, selectF, h, ih]
    | _ => simp [fieldOf, somes, selectF, ih]

theorem selectWhere_eq (k f op : Str) (v : CondVal) (rs : List Val) :
    somes (rs.map (condOutcome k f op v)) = selectWhere k f (condTest op v) rs := by
  induction rs with
  | nil => rfl
  | cons r rs ih =>
    cases r with
    | dict c kvs =>
      cases hk : lookup k kvs with
      | none => simp [condOutcome, somes, selectWhere, hk, ih]
      | some kv =>
        cases ht : condTest op v kv with
        | false => cases hf : lookup f kvs <;> simp [condOutcome, somes, selectWhere, hk, ht, hf, ih]
        | true => cases hf : lookup f kvs <;> simp [condOutcome, somes, selectWhere, hk, ht, hf, ih]
    | _ => simp [condOutcome, somes, selectWhere, ih]

theorem selectWhere_congr (k f : Str) (t1 t2 : Val → Bool) (rs : List Val)
    (h : ∀ c kvs' kv, Val.dict c kvs' ∈ rs → lookup k kvs' = some kv → t1 kv = t2 kv) :
    selectWhere k f t1 rs = selectWhere k f t2 rs := by
  induction rs with
  | nil => rfl
  | cons r rs ih =>
    have ih' := ih (fun c kvs' kv hm hl => h c kvs' kv (List.mem_cons_of_mem _ hm) hl)
    cases r with
    | dict c kvs =>
      cases hk : lookup k kvs with
      | none => simp [selectWhere, hk, ih']
      | some kv =>
        have := h c kvs kv (by simp) hk
        cases hf : lookup f kvs <;> simp [selectWhere, hk, hf, this, ih']
    | _ => simp [selectWhere, ih']

theorem condTest_eq (v : Str) (kv : Val) (hg : textGuard kv (.str v) = false) :
    condTest ['=', '='] (.str v) kv = fieldEq v kv := by
  cases kv <;> simp_all [condTest, textEqCond, pyEqCond, fieldEq, textGuard]

theorem condTest_ne (v : Str) (kv : Val) (hg : textGuard kv (.str v) = false) :
    condTest ['!', '='] (.str v) kv = !fieldEq v kv := by
  cases kv <;> simp_all [condTest, textEqCond, pyEqCond, fieldEq, textGuard]

theorem condTest_contains (v : Str) (kv : Val) :
    condTest ['~', '~'] (.str v) kv = fieldContains v kv := by
  cases kv <;> simp [condTest, pyInCond, fieldContains, kvHas, pyEqCond_str]

/-- **full statement (fan-out).**  For the record list at any position `p` (canonical path `P`),
`P[*]/f` and `P/f` return `selectF f rs`; a miss when it is empty; `first` unwraps a single match. -/
def C06_star_stmt : Prop :=
  ∀ (cls : Cls) (kvs : List (Str × Val)) (p : Pos) (f : Str) (lc : Cls) (rs : List Val) (d : Val),
    PlainPos p → p ≠ [] → PlainKey f → getAt (.dict cls kvs) p = some (.list lc rs) → (∀ r ∈ rs, isDict r = true) →
    ∃ n, ∀ fuel ≥ n, ∀ xp ∈ [slash ++ renderPos p ++ bracket ['*'] ++ slash ++ f, slash ++ renderPos p ++ slash ++ f],
      XPath.get fuel (.dict cls kvs) xp d = (.dict cls kvs, .ok (selected (selectF f rs) d)) ∧
      getItem fuel (.dict cls kvs) xp = (.dict cls kvs, selectedItem (selectF f rs)) ∧
      first fuel (.dict cls kvs) xp d = (.dict cls kvs, .ok (firstOf (selectF f rs) d))

/-- **full statement (predicates).**  For the record list at any position `p`, `P[k op v]/f` and
`P/k[text() op v]/../f` return `f` of exactly the records whose `k` passes the comparison (`get`, item
access, `first`); the tree is unchanged. -/
def C06_pred_stmt : Prop :=
  ∀ (cls : Cls) (kvs : List (Str × Val)) (p : Pos) (k f opx op vq v : Str) (lc : Cls) (rs : List Val) (d : Val),
    PlainPos p → p ≠ [] → FieldKey k → PlainKey f → OpSpell opx op → LitSpell vq v → PlainLit v →
    getAt (.dict cls kvs) p = some (.list lc rs) → (∀ r ∈ rs, isDict r = true) → ComparableK k v rs →
    ∃ n, ∀ fuel ≥ n, ∀ xp ∈ [slash ++ renderPos p ++ bracket (k ++ opx ++ vq) ++ slash ++ f,
                             slash ++ renderPos p ++ slash ++ k ++ bracket (sTextFn ++ opx ++ vq) ++ slash ++ ['.', '.'] ++ slash ++ f],
      XPath.get fuel (.dict cls kvs) xp d
        = (.dict cls kvs, .ok (selected (selectWhere k f (condTest op (.str v)) rs) d)) ∧
      getItem fuel (.dict cls kvs) xp = (.dict cls kvs, selectedItem (selectWhere k f (condTest op (.str v)) rs)) ∧
      first fuel (.dict cls kvs) xp d = (.dict cls kvs, .ok (firstOf (selectWhere k f (condTest op (.str v)) rs) d))

/-- the inner selection in one outer record's `items` value: `[it[f] for it in items if k2 in it and test2(it[k2])
and f in it]`, nothing when that is empty (or `items` is not a list) -/
def innerSel (k2 f : Str) (test2 : Val → Bool) : Val → Option Val
  | .list _ xs => if (selectWhere k2 f test2 xs).isEmpty then Option.none else some (.list .n0 (selectWhere k2 f test2 xs))
  | _ => Option.none

/-- the nested list of per-parent selections: for every outer record that passes the outer test and has
`items`, the list of its inner selections — when that is not empty -/
def selectChained (k1 items : Str) (test1 : Val → Bool) (k2 f : Str) (test2 : Val → Bool) (rs : List Val) : List Val :=
  (selectWhere k1 items test1 rs).filterMap (innerSel k2 f test2)

/-- the inner lists: `items`, where an outer record has it, is a list of dict records whose `k2` values are
comparable with the literal -/
def InnerLists (items k2 v2 : Str) (rs : List Val) : Prop :=
  ∀ c kvs' x, Val.dict c kvs' ∈ rs → lookup items kvs' = some x →
    ∃ lc xs, x = .list lc xs ∧ (∀ y ∈ xs, isDict y = true) ∧ ComparableK k2 v2 xs

/-- **full statement (chained selections, two levels).**  For the record list at any position `p`,
`P[k1 op v1]/items[k2 op v2]/f` returns, for every outer record that matches and has a non-empty inner
selection, the list of its inner selections (`get`, item access); an outer record whose inner list is empty contributes nothing.  Proved:
`C06_chained` (the code with fixes C06-b and C06-e). -/
def C06_chained_stmt : Prop :=
  ∀ (cls : Cls) (kvs : List (Str × Val)) (p : Pos) (k1 opx1 op1 vq1 v1 items k2 opx2 op2 vq2 v2 f : Str) (lc : Cls)
    (rs : List Val) (d : Val),
    PlainPos p → p ≠ [] → FieldKey k1 → OpSpell opx1 op1 → LitSpell vq1 v1 → PlainLit v1 → PlainKey items →
    FieldKey k2 → OpSpell opx2 op2 → LitSpell vq2 v2 → PlainLit v2 → PlainKey f →
    getAt (.dict cls kvs) p = some (.list lc rs) → (∀ r ∈ rs, isDict r = true) → ComparableK k1 v1 rs →
    InnerLists items k2 v2 rs →
    ∃ n, ∀ fuel ≥ n,
      let xp := slash ++ renderPos p ++ bracket (k1 ++ opx1 ++ vq1) ++ slash ++ items ++ bracket (k2 ++ opx2 ++ vq2) ++ slash ++ f
      let vals := selectChained k1 items (condTest op1 (.str v1)) k2 f (condTest op2 (.str v2)) rs
      XPath.get fuel (.dict cls kvs) xp d = (.dict cls kvs, .ok (selected vals d)) ∧
      getItem fuel (.dict cls kvs) xp = (.dict cls kvs, selectedItem vals)

/-- **C06 (fan-out).**  `name[*]/f` and the shorthand `name/f` return the values of `f` of exactly the
records that have `f`, in list order — for `get` (the default when there is none) and item access
(`IndexError` when there is none); the tree is unchanged.  Any record list, any length. -/
theorem C06_star_partial (cls : Cls) (kvs : List (Str × Val)) (name f : Str) (lc : Cls) (rs : List Val) (d : Val)
    (hname : PlainKey name) (hf : PlainKey f) (hl : lookup name kvs = some (.list lc rs))
    (hrs : ∀ r ∈ rs, isDict r = true) (fuel : Nat) (hfuel : fuel ≥ rs.length + 6) :
    ∀ xp ∈ [name ++ bracket ['*'] ++ slash ++ f, name ++ slash ++ f],
      XPath.get fuel (.dict cls kvs) xp d = (.dict cls kvs, .ok (selected (selectF f rs) d)) ∧
      getItem fuel (.dict cls kvs) xp = (.dict cls kvs, selectedItem (selectF f rs)) := by
  intro xp hxp
  have := star_string (.dict cls kvs) .rel [.key name] d ⟨hname, trivial⟩ (by simp) (stepsGet_key hl) (Or.inl rfl) hrs f hf fuel
    (by simp only [walkCost, List.length_singleton]; omega)
  simp only [renderSp_rel_key, selectF_eq] at this
  exact ⟨(this xp hxp).1, (this xp hxp).2.1⟩

/-- **C06 (`first`).**  `first` returns the single match itself when exactly one record is selected (and
then unwraps once more if that value is itself a one-element list — `first`'s own last step), the list
when several are, the default when none is. -/
theorem C06_first_unwrap_partial (cls : Cls) (kvs : List (Str × Val)) (name f : Str) (lc : Cls) (rs : List Val) (d : Val)
    (hname : PlainKey name) (hf : PlainKey f) (hl : lookup name kvs = some (.list lc rs))
    (hrs : ∀ r ∈ rs, isDict r = true) (fuel : Nat) (hfuel : fuel ≥ rs.length + 6) :
    ∀ xp ∈ [name ++ bracket ['*'] ++ slash ++ f, name ++ slash ++ f],
      first fuel (.dict cls kvs) xp d = (.dict cls kvs, .ok (firstOf (selectF f rs) d)) := by
  intro xp hxp
  have := star_string (.dict cls kvs) .rel [.key name] d ⟨hname, trivial⟩ (by simp) (stepsGet_key hl) (Or.inl rfl) hrs f hf fuel
    (by simp only [walkCost, List.length_singleton]; omega)
  simp only [renderSp_rel_key, selectF_eq] at this
  exact (this xp hxp).2.2

/-- what `firstOf` is: the match itself for a single scalar / dict match, the list for several, the caller's default
as it is — whatever value it is — for none (fix C04-f) -/
theorem C06_firstOf_cases (vals : List Val) (d v : Val) :
    (vals = [v] → (∀ c x, v ≠ .list c [x]) → firstOf vals d = v) ∧
    (vals.length ≥ 2 → firstOf vals d = .list .n0 vals) ∧
    (vals = [] → firstOf vals d = d) := by
  refine ⟨?_, ?_, ?_⟩
  · rintro rfl hv
    simp only [firstOf]
    cases v with
    | list c xs =>
      cases xs with
      | nil => rfl
      | cons x xs =>
        cases xs with
        | nil => exact absurd rfl (hv c x)
        | cons y ys => rfl
    | _ => rfl
  · intro hlen
    match vals, hlen with
    | a :: b :: rest, _ => rfl
  · rintro rfl
    rfl

/-- **C06 (fan-out, any path, token level).**  If the tokens `toksP` spell the position of a list of dict
records anywhere in the tree (key tokens, not necessarily plain; index steps in any spelling — `Spells`), then `_find` on
`toksP ++ ["[*]", f]` and on `toksP ++ [f]` finds exactly `selectF f rs` (a miss when empty), for both
values of `return_lists`; the tree is unchanged. -/
theorem C06_star_spelled (t : Val) (rl : Bool) (toksP : List Str) (p : Pos) (lc : Cls) (rs : List Val) (f : Str)
    (hs : Spells toksP t p (.list lc rs)) (hne : toksP ≠ []) (hrs : ∀ r ∈ rs, isDict r = true) (hf : PlainKey f)
    (fuel : Nat) (hfuel : fuel ≥ 2 * toksP.length + rs.length + 5) :
    ∀ tail ∈ [[bracket ['*'], f], [f]],
      ∃ r, findD fuel t [] false true (toksP ++ tail) (.at []) rl slash = .ok (t, r) ∧
        r.isFound = !(selectF f rs).isEmpty ∧ (r.isFound = true → r.value = collect rl (selectF f rs)) := by
  have := fanout_spelled t rl f hs hrs hf fuel (by have := hs.pos_length; omega)
  simp only [selectF_eq] at this
  exact this

/-- the general form of the three predicate theorems: any operator spelling, with `first` -/
theorem C06_pred_partial (cls : Cls) (kvs : List (Str × Val)) (name k f opx op vq v : Str) (lc : Cls) (rs : List Val)
    (d : Val) (hname : PlainKey name) (hk : FieldKey k) (hf : PlainKey f) (hop : OpSpell opx op) (hlit : LitSpell vq v)
    (hv : PlainLit v) (hl : lookup name kvs = some (.list lc rs)) (hrs : ∀ r ∈ rs, isDict r = true)
    (hg : ComparableK k v rs) (fuel : Nat) (hfuel : fuel ≥ rs.length + 10) :
    ∀ xp ∈ [name ++ bracket (k ++ opx ++ vq) ++ slash ++ f,
            name ++ slash ++ k ++ bracket (sTextFn ++ opx ++ vq) ++ slash ++ ['.', '.'] ++ slash ++ f],
      XPath.get fuel (.dict cls kvs) xp d = (.dict cls kvs, .ok (selected (selectWhere k f (condTest op (.str v)) rs) d)) ∧
      getItem fuel (.dict cls kvs) xp = (.dict cls kvs, selectedItem (selectWhere k f (condTest op (.str v)) rs)) ∧
      first fuel (.dict cls kvs) xp d = (.dict cls kvs, .ok (firstOf (selectWhere k f (condTest op (.str v)) rs) d)) := by
  have := pred_string (.dict cls kvs) .rel [.key name] d ⟨hname, trivial⟩ (by simp) (stepsGet_key hl) (Or.inl rfl) hrs
    ⟨k, opx, op, vq, v⟩ ⟨hk, hop, hlit, hv⟩ f hf hg.guard fuel (by simp only [walkCost, List.length_singleton]; omega)
  simp only [renderSp_rel_key, selectWhere_eq] at this
  exact this

/-- **C06 (`=`).**  `name[k=v]/f` (also written `==`; `v` bare or quoted) returns `f` of exactly the
records whose `k` equals `v` (text fields as text, int fields as numbers), in list order. -/
theorem C06_eq_partial (cls : Cls) (kvs : List (Str × Val)) (name k f opx vq v : Str) (lc : Cls) (rs : List Val)
    (d : Val) (hname : PlainKey name) (hk : FieldKey k) (hf : PlainKey f) (hop : OpSpell opx ['=', '=']) (hlit : LitSpell vq v)
    (hv : PlainLit v) (hl : lookup name kvs = some (.list lc rs)) (hrs : ∀ r ∈ rs, isDict r = true)
    (hg : ComparableK k v rs) (fuel : Nat) (hfuel : fuel ≥ rs.length + 10) :
    let xp := name ++ bracket (k ++ opx ++ vq) ++ slash ++ f
    XPath.get fuel (.dict cls kvs) xp d = (.dict cls kvs, .ok (selected (selectWhere k f (fieldEq v) rs) d)) ∧
    getItem fuel (.dict cls kvs) xp = (.dict cls kvs, selectedItem (selectWhere k f (fieldEq v) rs)) ∧
    first fuel (.dict cls kvs) xp d = (.dict cls kvs, .ok (firstOf (selectWhere k f (fieldEq v) rs) d)) := by
  intro xp
  have := C06_pred_partial cls kvs name k f opx _ vq v lc rs d hname hk hf hop hlit hv hl hrs hg fuel hfuel xp (by simp [xp])
  rwa [selectWhere_congr k f _ (fieldEq v) rs (fun c kvs' kv hm hlk => condTest_eq v kv (hg.guard c kvs' kv hm hlk))] at this

/-- **C06 (`!=`).**  `name[k!=v]/f` returns `f` of exactly the records that have `k` and whose `k` differs
from `v`. -/
theorem C06_ne_partial (cls : Cls) (kvs : List (Str × Val)) (name k f vq v : Str) (lc : Cls) (rs : List Val)
    (d : Val) (hname : PlainKey name) (hk : FieldKey k) (hf : PlainKey f) (hlit : LitSpell vq v)
    (hv : PlainLit v) (hl : lookup name kvs = some (.list lc rs)) (hrs : ∀ r ∈ rs, isDict r = true)
    (hg : ComparableK k v rs) (fuel : Nat) (hfuel : fuel ≥ rs.length + 10) :
    let xp := name ++ bracket (k ++ ['!', '='] ++ vq) ++ slash ++ f
    XPath.get fuel (.dict cls kvs) xp d = (.dict cls kvs, .ok (selected (selectWhere k f (fun x => !fieldEq v x) rs) d)) ∧
    getItem fuel (.dict cls kvs) xp = (.dict cls kvs, selectedItem (selectWhere k f (fun x => !fieldEq v x) rs)) ∧
    first fuel (.dict cls kvs) xp d = (.dict cls kvs, .ok (firstOf (selectWhere k f (fun x => !fieldEq v x) rs) d)) := by
  intro xp
  have := C06_pred_partial cls kvs name k f _ _ vq v lc rs d hname hk hf .ne hlit hv hl hrs hg fuel hfuel xp (by simp [xp])
  rwa [selectWhere_congr k f _ (fun x => !fieldEq v x) rs (fun c kvs' kv hm hlk => condTest_ne v kv (hg.guard c kvs' kv hm hlk))] at this

/-- **C06 (`~`).**  `name[k~v]/f` (also `~~`) returns `f` of exactly the records whose `k` contains `v`
(substring of a text; a number contains nothing). -/
theorem C06_contains_partial (cls : Cls) (kvs : List (Str × Val)) (name k f opx vq v : Str) (lc : Cls) (rs : List Val)
    (d : Val) (hname : PlainKey name) (hk : FieldKey k) (hf : PlainKey f) (hop : OpSpell opx ['~', '~']) (hlit : LitSpell vq v)
    (hv : PlainLit v) (hl : lookup name kvs = some (.list lc rs)) (hrs : ∀ r ∈ rs, isDict r = true)
    (hg : ComparableK k v rs) (fuel : Nat) (hfuel : fuel ≥ rs.length + 10) :
    let xp := name ++ bracket (k ++ opx ++ vq) ++ slash ++ f
    XPath.get fuel (.dict cls kvs) xp d = (.dict cls kvs, .ok (selected (selectWhere k f (fieldContains v) rs) d)) ∧
    getItem fuel (.dict cls kvs) xp = (.dict cls kvs, selectedItem (selectWhere k f (fieldContains v) rs)) ∧
    first fuel (.dict cls kvs) xp d = (.dict cls kvs, .ok (firstOf (selectWhere k f (fieldContains v) rs) d)) := by
  intro xp
  have := C06_pred_partial cls kvs name k f opx _ vq v lc rs d hname hk hf hop hlit hv hl hrs hg fuel hfuel xp (by simp [xp])
  rwa [selectWhere_congr k f _ (fieldContains v) rs (fun c kvs' kv _ _ => condTest_contains v kv)] at this

/-- **C06 (text form).**  `name/k[text() op v]/../f` returns exactly what `name[k op v]/f` returns
(`get`, item access and `first`), for every operator and literal spelling. -/
theorem C06_text_form_equiv_partial (cls : Cls) (kvs : List (Str × Val)) (name k f opx op vq v : Str) (lc : Cls)
    (rs : List Val) (d : Val) (hname : PlainKey name) (hk : FieldKey k) (hf : PlainKey f) (hop : OpSpell opx op)
    (hlit : LitSpell vq v) (hv : PlainLit v) (hl : lookup name kvs = some (.list lc rs))
    (hrs : ∀ r ∈ rs, isDict r = true) (hg : ComparableK k v rs) (fuel : Nat) (hfuel : fuel ≥ rs.length + 10) :
    let xpT := name ++ slash ++ k ++ bracket (sTextFn ++ opx ++ vq) ++ slash ++ ['.', '.'] ++ slash ++ f
    let xpP := name ++ bracket (k ++ opx ++ vq) ++ slash ++ f
    XPath.get fuel (.dict cls kvs) xpT d = XPath.get fuel (.dict cls kvs) xpP d ∧
    getItem fuel (.dict cls kvs) xpT = getItem fuel (.dict cls kvs) xpP ∧
    first fuel (.dict cls kvs) xpT d = first fuel (.dict cls kvs) xpP d := by
  intro xpT xpP
  have h := C06_pred_partial cls kvs name k f opx op vq v lc rs d hname hk hf hop hlit hv hl hrs hg fuel hfuel
  have hT := h xpT (by simp [xpT])
  have hP := h xpP (by simp [xpP])
  exact ⟨hT.1.trans hP.1.symm, hT.2.1.trans hP.2.1.symm, hT.2.2.trans hP.2.2.symm⟩


/-- `return_lists=False`: a single selected value stands for itself, anything else is the list -/
def single (vals : List Val) : Val :=
  match vals with
  | [x] => x
  | xs => .list .n0 xs

theorem collect_true (vals : List Val) : collect true vals = .list .n0 vals := rfl

theorem collect_false (vals : List Val) : collect false vals = single vals := by
  match vals with
  | [] => rfl
  | [x] => rfl
  | x :: y :: r => simp [collect, single]

/-- what one outer record's `items` value contributes to `…/items[k2 op v2]/f`: a LIST of records contributes the
list of its selected values (under `return_lists=False`, i.e. `first`: `single` of it), nothing when that is
empty; ONE dict record (the library's "hidden list") contributes its own `f`, un-listed, when it passes the
test; anything else nothing -/
def innerSelG (rl : Bool) (k2 f : Str) (test2 : Val → Bool) : Val → Option Val
  | .list _ xs =>
    if (selectWhere k2 f test2 xs).isEmpty then Option.none
    else some (if rl then .list .n0 (selectWhere k2 f test2 xs) else single (selectWhere k2 f test2 xs))
  | .dict c kvs => (selectWhere k2 f test2 [.dict c kvs]).head?
  | _ => Option.none

/-- the per-parent contributions of a chained selection, in order (`rl` = `return_lists`) -/
def selectChainedG (rl : Bool) (k1 items : Str) (test1 : Val → Bool) (k2 f : Str) (test2 : Val → Bool) (rs : List Val) : List Val :=
  (selectWhere k1 items test1 rs).filterMap (innerSelG rl k2 f test2)

/-- `items`, where an outer record has it, is a list of dict records or one dict record -/
def InnerRecs (items k2 v2 : Str) (rs : List Val) : Prop :=
  ∀ c kvs' x, Val.dict c kvs' ∈ rs → lookup items kvs' = some x →
    (∃ lc xs, x = .list lc xs ∧ (∀ y ∈ xs, isDict y = true) ∧ ComparableK k2 v2 xs) ∨
    (∃ c2 kvs2, x = .dict c2 kvs2 ∧ ComparableK k2 v2 [x])

theorem InnerLists.recs {items k2 v2 : Str} {rs : List Val} (h : InnerLists items k2 v2 rs) : InnerRecs items k2 v2 rs :=
  fun c kvs' x hm hl => Or.inl (h c kvs' x hm hl)

theorem InnerRecs.ok {items k2 v2 : Str} {rs : List Val} (h : InnerRecs items k2 v2 rs) : Sel3InnerOK items k2 (.str v2) rs := by
  intro c kvs' x hm hl
  rcases h c kvs' x hm hl with ⟨lc, xs, rfl, hds, hcmp⟩ | ⟨c2, kvs2, rfl, hcmp⟩
  · exact Or.inl ⟨lc, xs, rfl, hds, hcmp.guard⟩
  · exact Or.inr ⟨c2, kvs2, rfl, fun kv hkv => hcmp.guard c2 kvs2 kv (by simp) hkv⟩

theorem selectWhere_cons (k f : Str) (t : Val → Bool) (r : Val) (rs : List Val) :
    selectWhere k f t (r :: rs) = selectWhere k f t [r] ++ selectWhere k f t rs := by
  cases r <;> simp [selectWhere]

theorem selectWhere_single (k f op : Str) (v : CondVal) (r : Val) :
    selectWhere k f (condTest op v) [r] = (condOutcome k f op v r).toList := by
  rw [← selectWhere_eq, List.map_singleton, somes_cons_toList]; simp [somes]

/-- the contribution of the `items` value of an outer record, as the engine's loop computes it -/
theorem innerSelG_eq (rl : Bool) (items k2 f op2 : Str) (v2 : CondVal) (r : Val) :
    (fieldOf items r).bind (innerSelG rl k2 f (condTest op2 v2)) = sel3Inner items k2 f op2 v2 rl r := by
  cases r with
  | dict c kvs =>
    cases hi : lookup items kvs with
    | none => simp [fieldOf, sel3Inner, hi]
    | some x =>
      cases x with
      | list lc xs =>
        cases rl <;> simp [fieldOf, sel3Inner, hi, innerSelG, selectWhere_eq, collect_true, collect_false]
      | dict c2 kvs2 =>
        simp only [fieldOf, sel3Inner, hi, Option.bind_some, innerSelG, selectWhere_single]
        cases condOutcome k2 f op2 v2 (.dict c2 kvs2) <;> rfl
      | _ => simp [fieldOf, sel3Inner, hi, innerSelG]
  | _ => rfl

theorem chainedG_head (rl : Bool) (k1 op1 : Str) (v1 : CondVal) (items k2 f op2 : Str) (v2 : CondVal) (r : Val) :
    (selectWhere k1 items (condTest op1 v1) [r]).filterMap (innerSelG rl k2 f (condTest op2 v2))
      = (sel2Gate k1 op1 v1 r (sel3Inner items k2 f op2 v2 rl r)).toList := by
  rw [selectWhere_single, ← sel2_gate_fieldOf, toList_filterMap, sel2Gate_bind, innerSelG_eq]

theorem chainedG_eq (rl : Bool) (k1 op1 : Str) (v1 : CondVal) (items k2 f op2 : Str) (v2 : CondVal) (rs : List Val) :
    sel3Chained k1 op1 v1 items k2 f op2 v2 rl rs
      = selectChainedG rl k1 items (condTest op1 v1) k2 f (condTest op2 v2) rs := by
  unfold sel3Chained sel2Sel selectChainedG
  induction rs with
  | nil => rfl
  | cons r rs ih =>
    rw [List.map_cons, somes_cons_toList, ih, selectWhere_cons, List.filterMap_append, chainedG_head]

theorem selectWhere_mem (k f : Str) (t : Val → Bool) (rs : List Val) (x : Val) (h : x ∈ selectWhere k f t rs) :
    ∃ c kvs, Val.dict c kvs ∈ rs ∧ lookup f kvs = some x := by
  induction rs with
  | nil => simp [selectWhere] at h
  | cons r rs ih =>
    rw [selectWhere_cons, List.mem_append] at h
    rcases h with h | h
    · cases r with
      | dict c kvs =>
        cases hk : lookup k kvs with
        | none => simp [selectWhere, hk] at h
        | some kv =>
          cases hf : lookup f kvs with
          | none => simp [selectWhere, hk, hf] at h
          | some fv =>
            cases ht : t kv <;> simp [selectWhere, hk, hf, ht] at h
            subst h
            exact ⟨c, kvs, by simp, hf⟩
      | _ => simp [selectWhere] at h
    · obtain ⟨c, kvs, hm, hl⟩ := ih h
      exact ⟨c, kvs, List.mem_cons_of_mem _ hm, hl⟩

/-- with inner LISTS only, the `return_lists=True` contributions are the nested lists of `selectChained` -/
theorem selectChainedG_lists (k1 items : Str) (t1 : Val → Bool) (k2 f v2 : Str) (t2 : Val → Bool) (rs : List Val)
    (h : InnerLists items k2 v2 rs) : selectChainedG true k1 items t1 k2 f t2 rs = selectChained k1 items t1 k2 f t2 rs := by
  unfold selectChainedG selectChained
  apply filterMap_congr
  intro x hx
  obtain ⟨c, kvs, hm, hl⟩ := selectWhere_mem k1 items t1 rs x hx
  obtain ⟨lc, xs, rfl, _, _⟩ := h c kvs x hm hl
  simp [innerSelG, innerSel]

/-- **C06 (predicates, any spelling, token level).**  `toksP` is any token list that spells the position of the
list of dict records (key steps plain names, index steps in any spelling: `Sel3Spells`).  Then `_find` on
`toksP ++ ["[k op v]", f]`, on `toksP ++ ["k[text() op v]", "..", f]` and — when `toksP` ends in a key token
`name` — on `… "name[k op v]", f` finds exactly `selectWhere k f (condTest op v) rs` (a miss when empty), for both
values of `return_lists`; the tree is unchanged.  (The `'..'` step re-resolves the text the walk has written:
evaluated indexes, so `a[last()]` comes back as `/a[-1]` — `Sel3Norm`, `sel3_up_record`.) -/
theorem C06_pred_spelled (t : Val) (rl : Bool) (toksP : List Str) (p : Pos) (lc : Cls) (rs : List Val) (k f opx op vq v : Str)
    (hs : Sel3Spells toksP t p (.list lc rs)) (hk : FieldKey k) (hf : PlainKey f) (hop : OpSpell opx op) (hlit : LitSpell vq v)
    (hv : PlainLit v) (hrs : ∀ r ∈ rs, isDict r = true) (hg : ComparableK k v rs)
    (fuel : Nat) (hfuel : fuel ≥ 6 * toksP.length + rs.length + 14) :
    (∀ tail ∈ [[bracket (k ++ opx ++ vq), f], [k ++ bracket (sTextFn ++ opx ++ vq), ['.', '.'], f]],
      ∃ r, findD fuel t [] false true (toksP ++ tail) (.at []) rl slash = .ok (t, r) ∧
        r.isFound = !(selectWhere k f (condTest op (.str v)) rs).isEmpty ∧
        (r.isFound = true → r.value = collect rl (selectWhere k f (condTest op (.str v)) rs))) ∧
    (∀ toks' name, toksP = toks' ++ [name] → PlainKey name →
      ∃ r, findD fuel t [] false true (toks' ++ [name ++ bracket (k ++ opx ++ vq), f]) (.at []) rl slash = .ok (t, r) ∧
        r.isFound = !(selectWhere k f (condTest op (.str v)) rs).isEmpty ∧
        (r.isFound = true → r.value = collect rl (selectWhere k f (condTest op (.str v)) rs))) := by
  let c : CondSp := ⟨k, opx, op, vq, v⟩
  have hc : c.OK := ⟨hk, hop, hlit, hv⟩
  have hpl := hs.pos_length
  have h1 := fun toks ht => select_coll t rl hs (cond_case hrs hc hf hg.guard) fuel (by omega) toks ht
  have h2 := select_coll t rl hs (text_case hrs hc hf hg.guard) fuel (by omega) _ (.plain _)
  rw [selectWhere_eq] at h1 h2
  refine ⟨fun tail htail => ?_, fun toks' name htoks hname => h1 _ (.merged htoks hname)⟩
  simp only [List.mem_cons, List.not_mem_nil, or_false] at htail
  rcases htail with rfl | rfl
  · exact h1 _ (.plain _)
  · exact h2

/-- **C06 (fan-out, any spelling, string level).**  For any spelling of a path that plain Python indexing follows
from the root to the list of dict records `rs`, `P[*]/f` and the shorthand `P/f` return `[r[f] for r in rs if f in r]`
through `get`, item access and `first`; the tree is unchanged. -/
theorem C06_star_spellings_string (cls : Cls) (kvs : List (Str × Val)) (lead : Lead) (steps : List StepSp) (f : Str) (lc : Cls)
    (rs : List Val) (d : Val) (hp : PlainSteps steps) (hne : steps ≠ [])
    (hget : stepsGet (.dict cls kvs) steps = some (.list lc rs)) (hf : PlainKey f) (hrs : ∀ r ∈ rs, isDict r = true)
    (fuel : Nat) (hfuel : fuel ≥ 2 * steps.length + rs.length + 5) :
    ∀ xp ∈ [renderSp lead steps ++ bracket ['*'] ++ slash ++ f, renderSp lead steps ++ slash ++ f],
      XPath.get fuel (.dict cls kvs) xp d = (.dict cls kvs, .ok (selected (selectF f rs) d)) ∧
      getItem fuel (.dict cls kvs) xp = (.dict cls kvs, selectedItem (selectF f rs)) ∧
      first fuel (.dict cls kvs) xp d = (.dict cls kvs, .ok (firstOf (selectF f rs) d)) := by
  intro xp hxp
  have := star_string (.dict cls kvs) lead steps d hp hne hget (Or.inl rfl) hrs f hf fuel (by simp only [walkCost]; omega) xp hxp
  simp only [selectF_eq] at this
  exact this

/-- **C06 (predicates, any spelling, string level).**  `steps` is any spelling of a path that plain Python indexing
follows from the root to the list of dict records `rs` (`stepsGet`); `renderSp lead steps` its text with prefix none,
`/` or `//`.  Then `P[k op v]/f` and `P/k[text() op v]/../f` return `f` of exactly the records whose `k` passes the
comparison, through `get`, item access and `first`; the tree is unchanged. -/
theorem C06_pred_spellings_string (cls : Cls) (kvs : List (Str × Val)) (lead : Lead) (steps : List StepSp)
    (k f opx op vq v : Str) (lc : Cls) (rs : List Val) (d : Val) (hp : PlainSteps steps) (hne : steps ≠ [])
    (hget : stepsGet (.dict cls kvs) steps = some (.list lc rs)) (hk : FieldKey k) (hf : PlainKey f) (hop : OpSpell opx op)
    (hlit : LitSpell vq v) (hv : PlainLit v) (hrs : ∀ r ∈ rs, isDict r = true) (hg : ComparableK k v rs)
    (fuel : Nat) (hfuel : fuel ≥ 6 * steps.length + rs.length + 14) :
    ∀ xp ∈ [renderSp lead steps ++ bracket (k ++ opx ++ vq) ++ slash ++ f,
            renderSp lead steps ++ slash ++ k ++ bracket (sTextFn ++ opx ++ vq) ++ slash ++ ['.', '.'] ++ slash ++ f],
      XPath.get fuel (.dict cls kvs) xp d
        = (.dict cls kvs, .ok (selected (selectWhere k f (condTest op (.str v)) rs) d)) ∧
      getItem fuel (.dict cls kvs) xp = (.dict cls kvs, selectedItem (selectWhere k f (condTest op (.str v)) rs)) ∧
      first fuel (.dict cls kvs) xp d = (.dict cls kvs, .ok (firstOf (selectWhere k f (condTest op (.str v)) rs) d)) := by
  intro xp hxp
  have := pred_string (.dict cls kvs) lead steps d hp hne hget (Or.inl rfl) hrs ⟨k, opx, op, vq, v⟩ ⟨hk, hop, hlit, hv⟩ f hf hg.guard fuel
    (by simp only [walkCost]; omega) xp hxp
  simp only [selectWhere_eq] at this
  exact this

/-- **C06 (chained selections, any spelling, token level; `items` a list of records or one record).**  `_find` on
`toksP ++ ["[k1 op v1]", "items[k2 op v2]", f]` (and on the merged `… "name[k1 op v1]", …` when `toksP` ends in a key
token) finds exactly the per-parent contributions `selectChainedG rl …`, for both values of `return_lists`. -/
theorem C06_chained_spelled (t : Val) (rl : Bool) (toksP : List Str) (p : Pos) (lc : Cls) (rs : List Val)
    (k1 opx1 op1 vq1 v1 items k2 opx2 op2 vq2 v2 f : Str)
    (hs : Sel3Spells toksP t p (.list lc rs)) (hk1 : FieldKey k1) (hop1 : OpSpell opx1 op1) (hlit1 : LitSpell vq1 v1)
    (hv1 : PlainLit v1) (hitems : PlainKey items) (hk2 : FieldKey k2) (hop2 : OpSpell opx2 op2) (hlit2 : LitSpell vq2 v2)
    (hv2 : PlainLit v2) (hf : PlainKey f) (hrs : ∀ r ∈ rs, isDict r = true) (hg : ComparableK k1 v1 rs)
    (hin : InnerRecs items k2 v2 rs)
    (fuel : Nat) (hfuel : fuel ≥ 10 * toksP.length + rs.length + (rs.map (sel2InnerLen items)).sum + 30) :
    let vals := selectChainedG rl k1 items (condTest op1 (.str v1)) k2 f (condTest op2 (.str v2)) rs
    (∃ r, findD fuel t [] false true (toksP ++ [bracket (k1 ++ opx1 ++ vq1), items ++ bracket (k2 ++ opx2 ++ vq2), f]) (.at []) rl slash
        = .ok (t, r) ∧ r.isFound = !vals.isEmpty ∧ (r.isFound = true → r.value = collect rl vals)) ∧
    (∀ toks' name, toksP = toks' ++ [name] → PlainKey name →
      ∃ r, findD fuel t [] false true (toks' ++ [name ++ bracket (k1 ++ opx1 ++ vq1), items ++ bracket (k2 ++ opx2 ++ vq2), f])
          (.at []) rl slash = .ok (t, r) ∧ r.isFound = !vals.isEmpty ∧ (r.isFound = true → r.value = collect rl vals)) := by
  intro vals
  let c1 : CondSp := ⟨k1, opx1, op1, vq1, v1⟩
  let c2 : CondSp := ⟨k2, opx2, op2, vq2, v2⟩
  have hpl := hs.pos_length
  have h1 := fun toks ht => select_coll t rl hs
    (chained_case (c1 := c1) (c2 := c2) hrs ⟨hk1, hop1, hlit1, hv1⟩ ⟨hk2, hop2, hlit2, hv2⟩ hitems hf hg.guard hin.ok) fuel (by omega) toks ht
  rw [chainedG_eq] at h1
  exact ⟨h1 _ (.plain _), fun toks' name htoks hname => h1 _ (.merged htoks hname)⟩

/-- **C06 (chained selections, any spelling, string level; `items` a list of records or one record).**
`P[k1 op v1]/items[k2 op v2]/f` for any spelling of `P`: `get` and item access return the list of per-parent
contributions (`selectChainedG true`: the nested list of per-parent selections when every `items` is a list —
`selectChainedG_lists`), the default / `IndexError` when there is none; `first` returns `firstOf` of the
`return_lists=False` contributions; the tree is unchanged. -/
theorem C06_chained_spellings_string (cls : Cls) (kvs : List (Str × Val)) (lead : Lead) (steps : List StepSp)
    (k1 opx1 op1 vq1 v1 items k2 opx2 op2 vq2 v2 f : Str) (lc : Cls) (rs : List Val) (d : Val)
    (hp : PlainSteps steps) (hne : steps ≠ []) (hget : stepsGet (.dict cls kvs) steps = some (.list lc rs))
    (hk1 : FieldKey k1) (hop1 : OpSpell opx1 op1) (hlit1 : LitSpell vq1 v1) (hv1 : PlainLit v1) (hitems : PlainKey items)
    (hk2 : FieldKey k2) (hop2 : OpSpell opx2 op2) (hlit2 : LitSpell vq2 v2) (hv2 : PlainLit v2) (hf : PlainKey f)
    (hrs : ∀ r ∈ rs, isDict r = true) (hg : ComparableK k1 v1 rs) (hin : InnerRecs items k2 v2 rs)
    (fuel : Nat) (hfuel : fuel ≥ 10 * steps.length + rs.length + (rs.map (sel2InnerLen items)).sum + 30) :
    let xp := renderSp lead steps ++ bracket (k1 ++ opx1 ++ vq1) ++ slash ++ items ++ bracket (k2 ++ opx2 ++ vq2) ++ slash ++ f
    let valsT := selectChainedG true k1 items (condTest op1 (.str v1)) k2 f (condTest op2 (.str v2)) rs
    let valsF := selectChainedG false k1 items (condTest op1 (.str v1)) k2 f (condTest op2 (.str v2)) rs
    XPath.get fuel (.dict cls kvs) xp d = (.dict cls kvs, .ok (selected valsT d)) ∧
    getItem fuel (.dict cls kvs) xp = (.dict cls kvs, selectedItem valsT) ∧
    first fuel (.dict cls kvs) xp d = (.dict cls kvs, .ok (firstOf valsF d)) := by
  intro xp valsT valsF
  have := chained_string (.dict cls kvs) lead steps d hp hne hget (Or.inl rfl) hrs ⟨k1, opx1, op1, vq1, v1⟩ ⟨hk1, hop1, hlit1, hv1⟩ items
    hitems ⟨k2, opx2, op2, vq2, v2⟩ ⟨hk2, hop2, hlit2, hv2⟩ f hf hg.guard hin.ok fuel (by simp only [walkCost]; omega)
  simp only [chainedG_eq] at this
  exact this

/-! ## the canonical path `P` of the record list (`xpath()` prints it) is one of the spellings -/

/-- **C06 (shorthand `P/f`, any path).**  For the record list at any position `p` of the tree (canonical
path `P`, as `xpath()` prints it), `P/f` returns `selectF f rs` through `get`, item access and `first`. -/
theorem C06_implicit_star_path_partial (cls : Cls) (kvs : List (Str × Val)) (p : Pos) (f : Str) (lc : Cls)
    (rs : List Val) (d : Val) (hp : PlainPos p) (hne : p ≠ []) (hf : PlainKey f)
    (hget : getAt (.dict cls kvs) p = some (.list lc rs)) (hrs : ∀ r ∈ rs, isDict r = true)
    (fuel : Nat) (hfuel : fuel ≥ 2 * p.length + rs.length + 5) :
    let xp := slash ++ renderPos p ++ slash ++ f
    XPath.get fuel (.dict cls kvs) xp d = (.dict cls kvs, .ok (selected (selectF f rs) d)) ∧
    getItem fuel (.dict cls kvs) xp = (.dict cls kvs, selectedItem (selectF f rs)) ∧
    first fuel (.dict cls kvs) xp d = (.dict cls kvs, .ok (firstOf (selectF f rs) d)) := by
  intro xp
  have := C06_star_spellings_string cls kvs .two (canonSteps p) f lc rs d (plainSteps_canon p hp) (canonSteps_ne_nil p hne)
    (stepsGet_canon p _ _ hget) hf hrs fuel (by rw [canonSteps_length]; exact hfuel)
  rw [renderSp_canon_dict cls kvs p _ hne hget] at this
  exact this _ (List.mem_cons_of_mem _ (List.mem_cons_self ..))

/-- **C06 (fan-out, any position).**  For the list of dict records at any position `p` of the tree
(canonical path `P`, keys and indexes, as `xpath()` prints it), `P[*]/f` and the shorthand `P/f` return
`[r[f] for r in rs if f in r]` through `get` (the default when empty), item access (`IndexError` when
empty) and `first` (a single match unwrapped); the tree is unchanged.  This is `C06_star_stmt`. -/
theorem C06_star : C06_star_stmt := by
  intro cls kvs p f lc rs d hp hne hf hget hrs
  refine ⟨2 * p.length + rs.length + 5, fun fuel hfuel => ?_⟩
  have := C06_star_spellings_string cls kvs .two (canonSteps p) f lc rs d (plainSteps_canon p hp) (canonSteps_ne_nil p hne)
    (stepsGet_canon p _ _ hget) hf hrs fuel (by rw [canonSteps_length]; exact hfuel)
  rw [renderSp_canon_dict cls kvs p _ hne hget] at this
  exact this

/-- **C06 (predicates, any position).**  For the list of dict records at any position `p` of the tree
(canonical path `P`), `P[k op v]/f` and `P/k[text() op v]/../f` — any operator and literal spelling — return `f`
of exactly the records that have `k` and whose `k` passes the comparison, in list order, through `get`, item
access and `first`; the tree is unchanged.  This is `C06_pred_stmt`.  (The `'..'` step splits the `found` text
of the walk — the canonical path of `P[j]/k` — drops the last piece and resolves `P[j]` again from the root.) -/
theorem C06_pred : C06_pred_stmt := by
  intro cls kvs p k f opx op vq v lc rs d hp hne hk hf hop hlit hv hget hrs hg
  refine ⟨6 * p.length + rs.length + 14, fun fuel hfuel => ?_⟩
  have := C06_pred_spellings_string cls kvs .two (canonSteps p) k f opx op vq v lc rs d (plainSteps_canon p hp)
    (canonSteps_ne_nil p hne) (stepsGet_canon p _ _ hget) hk hf hop hlit hv hrs hg fuel (by rw [canonSteps_length]; exact hfuel)
  rw [renderSp_canon_dict cls kvs p _ hne hget] at this
  exact this

/-- **C06 (`=`, `!=`, `~` at any position)** against the independent references: `P[k=v]/f` selects the records
whose `k` equals `v` (`fieldEq`), `P[k!=v]/f` those that have `k` and differ, `P[k~v]/f` those whose `k` contains
`v` (`fieldContains`); `get` shown, item access and `first` as in `C06_pred`. -/
theorem C06_eq_ne_contains (cls : Cls) (kvs : List (Str × Val)) (p : Pos) (k f vq v : Str) (lc : Cls) (rs : List Val) (d : Val)
    (hp : PlainPos p) (hne : p ≠ []) (hk : FieldKey k) (hf : PlainKey f) (hlit : LitSpell vq v) (hv : PlainLit v)
    (hget : getAt (.dict cls kvs) p = some (.list lc rs)) (hrs : ∀ r ∈ rs, isDict r = true) (hg : ComparableK k v rs) :
    ∃ n, ∀ fuel ≥ n,
      XPath.get fuel (.dict cls kvs) (slash ++ renderPos p ++ bracket (k ++ ['='] ++ vq) ++ slash ++ f) d
        = (.dict cls kvs, .ok (selected (selectWhere k f (fieldEq v) rs) d)) ∧
      XPath.get fuel (.dict cls kvs) (slash ++ renderPos p ++ bracket (k ++ ['!', '='] ++ vq) ++ slash ++ f) d
        = (.dict cls kvs, .ok (selected (selectWhere k f (fun x => !fieldEq v x) rs) d)) ∧
      XPath.get fuel (.dict cls kvs) (slash ++ renderPos p ++ bracket (k ++ ['~'] ++ vq) ++ slash ++ f) d
        = (.dict cls kvs, .ok (selected (selectWhere k f (fieldContains v) rs) d)) := by
  obtain ⟨n1, h1⟩ := C06_pred cls kvs p k f _ _ vq v lc rs d hp hne hk hf .eq1 hlit hv hget hrs hg
  obtain ⟨n2, h2⟩ := C06_pred cls kvs p k f _ _ vq v lc rs d hp hne hk hf .ne hlit hv hget hrs hg
  obtain ⟨n3, h3⟩ := C06_pred cls kvs p k f _ _ vq v lc rs d hp hne hk hf .in1 hlit hv hget hrs hg
  refine ⟨n1 + n2 + n3, fun fuel hfuel => ⟨?_, ?_, ?_⟩⟩
  · have := (h1 fuel (by omega) _ (List.mem_cons_self ..)).1
    rwa [selectWhere_congr k f _ (fieldEq v) rs (fun c kvs' kv hm hlk => condTest_eq v kv (hg.guard c kvs' kv hm hlk))] at this
  · have := (h2 fuel (by omega) _ (List.mem_cons_self ..)).1
    rwa [selectWhere_congr k f _ (fun x => !fieldEq v x) rs (fun c kvs' kv hm hlk => condTest_ne v kv (hg.guard c kvs' kv hm hlk))] at this
  · have := (h3 fuel (by omega) _ (List.mem_cons_self ..)).1
    rwa [selectWhere_congr k f _ (fieldContains v) rs (fun c kvs' kv _ _ => condTest_contains v kv)] at this

/-- **C06 (an inner `items` that is one record — the "hidden list").**  For the record list at any position `p`
(canonical path `P`) whose records carry, under `items`, a list of dict records OR one dict record:
`P[k1 op v1]/items[k2 op v2]/f` returns the per-parent contributions `selectChainedG` — a parent whose `items` is a
list contributes the list of its selected values, a parent whose `items` is ONE record contributes that record's
`f` itself (not a one-element list) when the record passes the inner test.  The matching elements are exactly the
selected ones; only the nesting of a single-record parent is flat. -/
theorem C06_chained_hidden (cls : Cls) (kvs : List (Str × Val)) (p : Pos)
    (k1 opx1 op1 vq1 v1 items k2 opx2 op2 vq2 v2 f : Str) (lc : Cls) (rs : List Val) (d : Val)
    (hp : PlainPos p) (hne : p ≠ []) (hk1 : FieldKey k1) (hop1 : OpSpell opx1 op1) (hlit1 : LitSpell vq1 v1) (hv1 : PlainLit v1)
    (hitems : PlainKey items) (hk2 : FieldKey k2) (hop2 : OpSpell opx2 op2) (hlit2 : LitSpell vq2 v2) (hv2 : PlainLit v2)
    (hf : PlainKey f) (hget : getAt (.dict cls kvs) p = some (.list lc rs)) (hrs : ∀ r ∈ rs, isDict r = true)
    (hg : ComparableK k1 v1 rs) (hin : InnerRecs items k2 v2 rs) :
    ∃ n, ∀ fuel ≥ n,
      let xp := slash ++ renderPos p ++ bracket (k1 ++ opx1 ++ vq1) ++ slash ++ items ++ bracket (k2 ++ opx2 ++ vq2) ++ slash ++ f
      let valsT := selectChainedG true k1 items (condTest op1 (.str v1)) k2 f (condTest op2 (.str v2)) rs
      let valsF := selectChainedG false k1 items (condTest op1 (.str v1)) k2 f (condTest op2 (.str v2)) rs
      XPath.get fuel (.dict cls kvs) xp d = (.dict cls kvs, .ok (selected valsT d)) ∧
      getItem fuel (.dict cls kvs) xp = (.dict cls kvs, selectedItem valsT) ∧
      first fuel (.dict cls kvs) xp d = (.dict cls kvs, .ok (firstOf valsF d)) := by
  refine ⟨10 * p.length + rs.length + (rs.map (sel2InnerLen items)).sum + 30, fun fuel hfuel => ?_⟩
  have := C06_chained_spellings_string cls kvs .two (canonSteps p) k1 opx1 op1 vq1 v1 items k2 opx2 op2 vq2 v2 f lc rs d
    (plainSteps_canon p hp) (canonSteps_ne_nil p hne)
    (stepsGet_canon p _ _ hget) hk1 hop1 hlit1 hv1 hitems hk2 hop2 hlit2 hv2 hf hrs hg hin fuel
    (by rw [canonSteps_length]; exact hfuel)
  rw [renderSp_canon_dict cls kvs p _ hne hget] at this
  exact this

/-- **C06 (chained selections; fixes C06-b, C06-e).**  For the record list at any position `p`,
`P[k1 op v1]/items[k2 op v2]/f` (any operator and literal spellings) returns the nested list of per-parent
selections — for every outer record that passes the outer test, in list order, the list of `f` of its `items`
records that pass the inner test, outer records with nothing selected (no `items`, an empty `items`, no match)
left out — through `get` (the default when nothing is selected at all) and item access (`IndexError`); the
tree is unchanged.  Hypothesis `InnerLists`: `items`, where present, is a list of dict records.
This is `C06_chained_stmt`. -/
theorem C06_chained : C06_chained_stmt := by
  intro cls kvs p k1 opx1 op1 vq1 v1 items k2 opx2 op2 vq2 v2 f lc rs d hp hne hk1 hop1 hlit1 hv1 hitems hk2 hop2 hlit2 hv2 hf
    hget hrs hg hin
  obtain ⟨n, h⟩ := C06_chained_hidden cls kvs p k1 opx1 op1 vq1 v1 items k2 opx2 op2 vq2 v2 f lc rs d hp hne hk1 hop1 hlit1 hv1
    hitems hk2 hop2 hlit2 hv2 hf hget hrs hg hin.recs
  refine ⟨n, fun fuel hfuel => ?_⟩
  have := h fuel hfuel
  rw [selectChainedG_lists _ _ _ _ _ v2 _ _ hin] at this
  exact ⟨this.1, this.2.1⟩

/-- when `items` is never a list — every outer record that has it has ONE dict record there — the chained
selection is flat: `[r[items][f] for r in rs if r passes, has items, r[items] passes and has f]` -/
theorem C06_chained_hidden_flat (rl : Bool) (k1 items : Str) (t1 : Val → Bool) (k2 f : Str) (t2 : Val → Bool) (rs : List Val)
    (h : ∀ c kvs' x, Val.dict c kvs' ∈ rs → lookup items kvs' = some x → ∀ lc xs, x ≠ .list lc xs) :
    selectChainedG rl k1 items t1 k2 f t2 rs = selectWhere k2 f t2 (selectWhere k1 items t1 rs) := by
  unfold selectChainedG
  have hall : ∀ x ∈ selectWhere k1 items t1 rs, ∀ lc xs, x ≠ .list lc xs := by
    intro x hx
    obtain ⟨c, kvs', hm, hl⟩ := selectWhere_mem k1 items t1 rs x hx
    exact h c kvs' x hm hl
  generalize selectWhere k1 items t1 rs = ys at hall
  induction ys with
  | nil => rfl
  | cons y ys ih =>
    have ih' := ih (fun x hx => hall x (List.mem_cons_of_mem _ hx))
    rw [selectWhere_cons k2 f t2 y ys, List.filterMap_cons, ← ih']
    cases y with
    | list lc xs => exact absurd rfl (hall _ (by simp) lc xs)
    | dict c kvs2 =>
      cases hh : (selectWhere k2 f t2 [Val.dict c kvs2]).head? with
      | none =>
        have : selectWhere k2 f t2 [Val.dict c kvs2] = [] := by
          cases hs : selectWhere k2 f t2 [Val.dict c kvs2] with
          | nil => rfl
          | cons a b => rw [hs] at hh; simp at hh
        simp [innerSelG, this]
      | some z =>
        have : selectWhere k2 f t2 [Val.dict c kvs2] = [z] := by
          cases hk : lookup k2 kvs2 with
          | none => simp [selectWhere, hk] at hh
          | some kv =>
            cases hf : lookup f kvs2 with
            | none => simp [selectWhere, hk, hf] at hh
            | some fv =>
              cases ht : t2 kv <;> simp [selectWhere, hk, hf, ht] at hh ⊢
              exact hh
        simp [innerSelG, this]
    | _ => simp [innerSelG, selectWhere]

/-- the per-parent selections of a chained lookup as Lean lists (inner LISTS of records) -/
def innerList (k2 f : Str) (test2 : Val → Bool) : Val → Option (List Val)
  | .list _ xs => if (selectWhere k2 f test2 xs).isEmpty then Option.none else some (selectWhere k2 f test2 xs)
  | _ => Option.none

def chainedLists (k1 items : Str) (test1 : Val → Bool) (k2 f : Str) (test2 : Val → Bool) (rs : List Val) : List (List Val) :=
  (selectWhere k1 items test1 rs).filterMap (innerList k2 f test2)

theorem chainedLists_true (k1 items : Str) (t1 : Val → Bool) (k2 f : Str) (t2 : Val → Bool) (rs : List Val) :
    selectChained k1 items t1 k2 f t2 rs = (chainedLists k1 items t1 k2 f t2 rs).map (fun sel => Val.list .n0 sel) := by
  unfold selectChained chainedLists
  rw [List.map_filterMap]
  apply filterMap_congr
  intro x _
  cases x with
  | list lc xs => cases he : (selectWhere k2 f t2 xs).isEmpty <;> simp [innerSel, innerList, he]
  | _ => simp [innerSel, innerList]

theorem chainedLists_false (k1 items : Str) (t1 : Val → Bool) (k2 f v2 : Str) (t2 : Val → Bool) (rs : List Val)
    (h : InnerLists items k2 v2 rs) :
    selectChainedG false k1 items t1 k2 f t2 rs = (chainedLists k1 items t1 k2 f t2 rs).map single := by
  unfold selectChainedG chainedLists
  rw [List.map_filterMap]
  apply filterMap_congr
  intro x hx
  obtain ⟨c, kvs, hm, hl⟩ := selectWhere_mem k1 items t1 rs x hx
  obtain ⟨lc, xs, rfl, _, _⟩ := h c kvs x hm hl
  cases he : (selectWhere k2 f t2 xs).isEmpty <;> simp [innerSelG, innerList, he]

/-- **C06 (`first` on a chained selection).**  With `sels` = the per-parent selections (the non-empty lists
`[it[f] for it in r[items] if …]` of the outer records that pass, in order — `chainedLists`, whose `.list`-wrapped
form is what `get` returns: `chainedLists_true`), `first` returns `firstOf (sels.map single) d`: every parent's
selection is replaced by its only element when it has exactly one (`return_lists=False` in the inner fan-out), then
the outer list likewise, then `first`'s own last step unwraps a remaining one-element list.
`C06_chained_first_cases` spells the cases out. -/
theorem C06_chained_first (cls : Cls) (kvs : List (Str × Val)) (p : Pos)
    (k1 opx1 op1 vq1 v1 items k2 opx2 op2 vq2 v2 f : Str) (lc : Cls) (rs : List Val) (d : Val)
    (hp : PlainPos p) (hne : p ≠ []) (hk1 : FieldKey k1) (hop1 : OpSpell opx1 op1) (hlit1 : LitSpell vq1 v1) (hv1 : PlainLit v1)
    (hitems : PlainKey items) (hk2 : FieldKey k2) (hop2 : OpSpell opx2 op2) (hlit2 : LitSpell vq2 v2) (hv2 : PlainLit v2)
    (hf : PlainKey f) (hget : getAt (.dict cls kvs) p = some (.list lc rs)) (hrs : ∀ r ∈ rs, isDict r = true)
    (hg : ComparableK k1 v1 rs) (hin : InnerLists items k2 v2 rs) :
    ∃ n, ∀ fuel ≥ n,
      let xp := slash ++ renderPos p ++ bracket (k1 ++ opx1 ++ vq1) ++ slash ++ items ++ bracket (k2 ++ opx2 ++ vq2) ++ slash ++ f
      let sels := chainedLists k1 items (condTest op1 (.str v1)) k2 f (condTest op2 (.str v2)) rs
      first fuel (.dict cls kvs) xp d = (.dict cls kvs, .ok (firstOf (sels.map single) d)) := by
  obtain ⟨n, h⟩ := C06_chained_hidden cls kvs p k1 opx1 op1 vq1 v1 items k2 opx2 op2 vq2 v2 f lc rs d hp hne hk1 hop1 hlit1 hv1
    hitems hk2 hop2 hlit2 hv2 hf hget hrs hg hin.recs
  refine ⟨n, fun fuel hfuel => ?_⟩
  have := (h fuel hfuel).2.2
  rw [chainedLists_false _ _ _ _ _ v2 _ _ hin] at this
  exact this

/-- what `first` makes of the per-parent selections `sels` (all non-empty): nothing selected → the default
as it is (since fix C04-f also when it is a one-element list); exactly one parent selecting exactly one record → that value (unwrapped
once more if it is itself a one-element list: three levels in all); exactly one parent selecting several → the list
of them (ONE level: the parent level is gone); several parents → the list of per-parent results, a parent with one
selected record represented by the bare value, the others by their lists -/
theorem C06_chained_first_cases (sels : List (List Val)) (d x : Val) (xs : List Val) :
    (sels = [] → firstOf (sels.map single) d = d) ∧
    (sels = [[x]] → firstOf (sels.map single) d = unwrap1 x) ∧
    (sels = [xs] → xs.length ≥ 2 → firstOf (sels.map single) d = .list .n0 xs) ∧
    (sels.length ≥ 2 → firstOf (sels.map single) d = .list .n0 (sels.map single)) := by
  refine ⟨?_, ?_, ?_, ?_⟩
  · rintro rfl; rfl
  · rintro rfl; rfl
  · rintro rfl hlen
    match xs, hlen with
    | a :: b :: r, _ => rfl
  · intro hlen
    match sels, hlen with
    | a :: b :: r, _ => rfl

def recs : Val :=
  .dict .n0 [(['r'], .list .plain [.dict .plain [(['k'], .str ['1']), (['f'], .str ['x'])],
                                     .dict .plain [(['k'], .str ['2'])],
                                     .dict .plain [(['k'], .str ['1']), (['f'], .str ['y'])]])]

def recsList : List Val :=
  [.dict .plain [(['k'], .str ['1']), (['f'], .str ['x'])], .dict .plain [(['k'], .str ['2'])],
   .dict .plain [(['k'], .str ['1']), (['f'], .str ['y'])]]

theorem recsList_sel : selectWhere ['k'] ['f'] (condTest ['=', '='] (.str ['1'])) recsList = [.str ['x'], .str ['y']] := by decide
theorem plainKey_r : PlainKey ['r'] := .single 'r'
theorem plainKey_f : PlainKey ['f'] := .single 'f'
theorem fieldKey_k : FieldKey ['k'] := .single 'k'
theorem plainLit_1 : PlainLit ['1'] := .single '1'
theorem plainLit_empty : PlainLit [] := ⟨nofun, by rw [sTrue_eq]; simp [lower], by rw [sFalse_eq]; simp [lower]⟩

/-- the hypotheses of `C06_star_partial` / `C06_eq_partial` are inhabited, and the reference results are
the expected ones: two records with `f`, one without; two records with `k = '1'` -/
example : selectF ['f'] recsList = [.str ['x'], .str ['y']] := by decide
example : selectWhere ['k'] ['f'] (fieldEq ['1']) recsList = [.str ['x'], .str ['y']] := by decide
example : selectWhere ['k'] ['k'] (fun x => !fieldEq ['1'] x) recsList = [.str ['2']] := by decide
example : (XPath.get 13 recs ['r', '[', '*', ']', '/', 'f'] .none) = (recs, .ok (.list .n0 [.str ['x'], .str ['y']])) :=
  ((C06_star_partial .n0 _ ['r'] ['f'] .plain recsList .none plainKey_r plainKey_f rfl (by decide) 13 (by decide)) _
    (by simp [bracket, slash])).1
example : (XPath.get 13 recs ['r', '[', 'k', '=', '\'', '1', '\'', ']', '/', 'f'] .none)
    = (recs, .ok (.list .n0 [.str ['x'], .str ['y']])) :=
  (C06_eq_partial .n0 _ ['r'] ['k'] ['f'] ['='] _ ['1'] .plain recsList .none plainKey_r fieldKey_k plainKey_f .eq1
    (.sq ['1']) plainLit_1 rfl (by decide) (by decide) 13 (by decide)).1

/-- a record list two levels down (`/a[1]`), reached through `C06_implicit_star_path_partial` -/
def deep : Val := .dict .n0 [(['a'], .list .plain [.str ['p'], .list .plain recsList])]
example : (XPath.get 20 deep ['/', '/', 'a', '[', '1', ']', '/', 'f'] .none) = (deep, .ok (.list .n0 [.str ['x'], .str ['y']])) :=
  (C06_implicit_star_path_partial .n0 _ [.key ['a'], .idx 1] ['f'] .plain recsList .none
    ⟨⟨by decide, by decide, by decide⟩, trivial⟩ (by simp) plainKey_f rfl (by decide) 20 (by decide)).1

/-- `C06_star` on the same tree: the explicit `//a[1][*]/f` (the last step of `P` is an index, so `[*]` is a
token of its own after `replace("][","]/[")`) -/
example : ∃ n, ∀ fuel ≥ n, (XPath.get fuel deep ['/', '/', 'a', '[', '1', ']', '[', '*', ']', '/', 'f'] .none)
    = (deep, .ok (.list .n0 [.str ['x'], .str ['y']])) := by
  obtain ⟨n, h⟩ := C06_star .n0 [(['a'], .list .plain [.str ['p'], .list .plain recsList])] [.key ['a'], .idx 1] ['f'] .plain recsList .none
    ⟨⟨by decide, by decide, by decide⟩, trivial⟩ (by simp) plainKey_f rfl (by decide)
  exact ⟨n, fun fuel hf => (h fuel hf _ (List.mem_cons_self ..)).1⟩

/-- `C06_pred` on the same tree: `//a[1][k='1']/f` (a predicate on a list that is itself a list element) -/
example : ∃ n, ∀ fuel ≥ n, (XPath.get fuel deep ['/', '/', 'a', '[', '1', ']', '[', 'k', '=', '\'', '1', '\'', ']', '/', 'f'] .none)
    = (deep, .ok (.list .n0 [.str ['x'], .str ['y']])) := by
  obtain ⟨n, h⟩ := C06_pred .n0 [(['a'], .list .plain [.str ['p'], .list .plain recsList])] [.key ['a'], .idx 1] ['k'] ['f']
    ['='] _ _ ['1'] .plain recsList .none ⟨⟨by decide, by decide, by decide⟩, trivial⟩ (by simp) fieldKey_k plainKey_f .eq1
    (.sq ['1']) plainLit_1 rfl (by decide) (by decide)
  refine ⟨n, fun fuel hf => ?_⟩
  have := (h fuel hf _ (List.mem_cons_self ..)).1
  rw [recsList_sel] at this
  exact this

/-! the selecting forms on a concrete record list, evaluated by the model (all five forms) -/
example : (XPath.get 60 recs ['r', '[', '*', ']', '/', 'f'] .none).2 = .ok (.list .n0 [.str ['x'], .str ['y']]) := by decide +kernel
example : (XPath.get 60 recs ['r', '/', 'f'] .none).2 = .ok (.list .n0 [.str ['x'], .str ['y']]) := by decide +kernel
example : (XPath.get 60 recs ['r', '[', 'k', '=', '1', ']', '/', 'f'] .none).2 = .ok (.list .n0 [.str ['x'], .str ['y']]) := by decide +kernel
example : (XPath.get 60 recs ['r', '[', 'k', '!', '=', '1', ']', '/', 'k'] .none).2 = .ok (.list .n0 [.str ['2']]) := by decide +kernel
example : (XPath.get 60 recs ['r', '/', 'k', '[', 't', 'e', 'x', 't', '(', ')', '=', '2', ']', '/', '.', '.', '/', 'k'] .none).2
    = .ok (.list .n0 [.str ['2']]) := by decide +kernel
example : (XPath.get 60 recs ['r', '[', 'k', '=', '3', ']', '/', 'f'] (.str ['D'])).2 = .ok (.str ['D']) := by decide +kernel
example : (XPath.first 60 recs ['r', '[', 'k', '=', '2', ']', '/', 'k'] .none).2 = .ok (.str ['2']) := by decide +kernel

/-- (fix C06-a) a numeric `k` is compared as a number, a text `k` as
text: `r[k=1]/f` selects both records; a literal that is not a number is just not equal -/
def recsNum : Val :=
  .dict .n0 [(['r'], .list .plain [.dict .plain [(['k'], .int 1), (['f'], .str ['x'])],
                                     .dict .plain [(['k'], .str ['1']), (['f'], .str ['y'])],
                                     .dict .plain [(['k'], .int 2), (['f'], .str ['z'])]])]
theorem C06_numeric_example :
    (XPath.get 60 recsNum ['r', '[', 'k', '=', '1', ']', '/', 'f'] (.str ['D'])).2 = .ok (.list .n0 [.str ['x'], .str ['y']])
    ∧ (XPath.get 60 recsNum ['r', '[', 'k', '!', '=', '1', ']', '/', 'f'] (.str ['D'])).2 = .ok (.list .n0 [.str ['z']])
    ∧ (XPath.get 60 recsNum ['r', '[', 'k', '=', 'a', ']', '/', 'f'] (.str ['D'])).2 = .ok (.str ['D'])
    ∧ (XPath.get 60 recsNum ['r', '[', 'k', '~', '1', ']', '/', 'f'] (.str ['D'])).2 = .ok (.list .n0 [.str ['y']]) := by
  decide +kernel

/-- (fix C06-c) the empty literal selects the records whose `k` is
the empty text, in both forms; a record without `k` is not selected -/
def recsEmpty : Val :=
  .dict .n0 [(['r'], .list .plain [.dict .plain [(['k'], .str []), (['f'], .str ['x'])],
                                     .dict .plain [(['f'], .str ['y'])],
                                     .dict .plain [(['k'], .str ['a']), (['f'], .str ['z'])]])]
theorem C06_empty_literal_example :
    (XPath.get 60 recsEmpty ['r', '[', 'k', '=', '\'', '\'', ']', '/', 'f'] (.str ['D'])).2 = .ok (.list .n0 [.str ['x']])
    ∧ (XPath.get 60 recsEmpty ['r', '/', 'k', '[', 't', 'e', 'x', 't', '(', ')', '=', '\'', '\'', ']', '/', '.', '.', '/', 'f'] (.str ['D'])).2
        = .ok (.list .n0 [.str ['x']])
    ∧ (XPath.get 60 recsEmpty ['r', '[', 'k', '!', '=', '\'', '\'', ']', '/', 'f'] (.str ['D'])).2 = .ok (.list .n0 [.str ['z']]) := by
  decide +kernel

/-- (fix C06-b) chained predicates return the records of the selected
parent: `o[i=2]/t[s=B]/q` is the `q` of order 2 (without the fix: `[['2']]`, the item of order 1) -/
def ordersList : List Val :=
  [.dict .plain [(['i'], .str ['1']), (['t'], .list .plain [.dict .plain [(['s'], .str ['B']), (['q'], .str ['2'])]])],
   .dict .plain [(['i'], .str ['2']), (['t'], .list .plain [.dict .plain [(['s'], .str ['B']), (['q'], .str ['3'])],
                                                              .dict .plain [(['s'], .str ['C']), (['q'], .str ['4'])]])],
   .dict .plain [(['i'], .str ['2']), (['t'], .list .plain [.dict .plain [(['s'], .str ['A']), (['q'], .str ['5'])]])],
   .dict .plain [(['i'], .str ['2'])],
   .dict .plain [(['i'], .str ['2']), (['t'], .list .plain [])],
   .dict .plain [(['i'], .str ['2']), (['t'], .list .plain [.dict .plain [(['s'], .str ['B']), (['q'], .str ['6'])],
                                                              .dict .plain [(['s'], .str ['B']), (['q'], .str ['7'])]])]]
def orders : Val := .dict .n0 [(['o'], .list .plain ordersList)]
theorem C06_chained_example :
    (XPath.get 80 orders ['o', '[', 'i', '=', '2', ']', '/', 't', '[', 's', '=', 'B', ']', '/', 'q'] .none).2
      = .ok (.list .n0 [.list .n0 [.str ['3']], .list .n0 [.str ['6'], .str ['7']]]) := by decide +kernel

theorem plainKey_t : PlainKey ['t'] := .single 't'
theorem plainKey_q : PlainKey ['q'] := .single 'q'
theorem fieldKey_i : FieldKey ['i'] := .single 'i'
theorem fieldKey_s : FieldKey ['s'] := .single 's'
theorem plainLit_2 : PlainLit ['2'] := .single '2'
theorem plainLit_B : PlainLit ['B'] := .single 'B'

/-- the reference result on that tree: two of the five matching orders have an inner selection -/
example : selectChained ['i'] ['t'] (fieldEq ['2']) ['s'] ['q'] (fieldEq ['B']) ordersList
    = [.list .n0 [.str ['3']], .list .n0 [.str ['6'], .str ['7']]] := by decide

theorem orders_inner : InnerLists ['t'] ['s'] ['B'] ordersList := by
  intro c kvs' x hm hl
  simp only [ordersList, List.mem_cons, List.not_mem_nil, or_false, Val.dict.injEq] at hm
  rcases hm with ⟨_, rfl⟩ | ⟨_, rfl⟩ | ⟨_, rfl⟩ | ⟨_, rfl⟩ | ⟨_, rfl⟩ | ⟨_, rfl⟩ <;>
    (first
      | (simp [lookup] at hl; done)
      | (simp [lookup] at hl; subst hl; exact ⟨_, _, rfl, by decide, by decide⟩))

/-- the hypotheses of `C06_chained` are inhabited (outer records with and without `t`, matching and not, inner
lists that are empty or have none / one / two selected records) -/
example : ∃ n, ∀ fuel ≥ n,
    XPath.get fuel orders ['/', '/', 'o', '[', 'i', '=', '2', ']', '/', 't', '[', 's', '=', 'B', ']', '/', 'q'] .none
      = (orders, .ok (.list .n0 [.list .n0 [.str ['3']], .list .n0 [.str ['6'], .str ['7']]])) := by
  obtain ⟨n, h⟩ := C06_chained .n0 [(['o'], .list .plain ordersList)] [.key ['o']] ['i'] ['='] _ ['2'] ['2'] ['t'] ['s']
    ['='] _ ['B'] ['B'] ['q'] .plain ordersList .none ⟨⟨by decide, by decide, by decide⟩, trivial⟩ (by simp) fieldKey_i .eq1
    (.bare _) plainLit_2 plainKey_t fieldKey_s .eq1 (.bare _) plainLit_B plainKey_q rfl (by decide) (by decide)
    orders_inner
  refine ⟨n, fun fuel hf => ?_⟩
  have := (h fuel hf).1
  rw [show selectChained ['i'] ['t'] (condTest ['=', '='] (.str ['2'])) ['s'] ['q'] (condTest ['=', '='] (.str ['B'])) ordersList
      = [.list .n0 [.str ['3']], .list .n0 [.str ['6'], .str ['7']]] by decide] at this
  exact this

/-- (fix C06-e) an outer record with an EMPTY inner list does not abort the
lookup with `IndexError`: the selection of the other order is returned; a predicate on an empty list is a miss -/
def ordersEmptyInner : Val :=
  .dict .n0 [(['o'], .list .plain [
    .dict .plain [(['i'], .str ['1']), (['t'], .list .plain [])],
    .dict .plain [(['i'], .str ['1']), (['t'], .list .plain [.dict .plain [(['s'], .str ['B']), (['q'], .str ['3'])]])]]),
    (['e'], .list .plain [])]
theorem C06_empty_inner_example :
    (XPath.get 80 ordersEmptyInner ['/', '/', 'o', '[', 'i', '=', '1', ']', '/', 't', '[', 's', '=', 'B', ']', '/', 'q'] (.str ['D'])).2
      = .ok (.list .n0 [.list .n0 [.str ['3']]])
    ∧ (XPath.get 80 ordersEmptyInner ['e', '[', 'i', '=', '1', ']', '/', 'q'] (.str ['D'])).2 = .ok (.str ['D'])
    ∧ (XPath.getItem 80 ordersEmptyInner ['e', '[', 'i', '=', '1', ']', '/', 'q']).2 = .error .IndexError := by
  decide +kernel

theorem plainKey_a : PlainKey ['a'] := .single 'a'
theorem plainKey_w : PlainKey ['w'] := .single 'w'
theorem plainLit_1' : PlainLit ['1'] := plainLit_1

/-- `a[-1]` spells the position `/a[1]` of the record list of `deep` (a two-element list) -/
def deepToks : List Str := [['a'] ++ bracket (IdxSp.neg 1).text]
example : deepToks = [['a', '[', '-', '1', ']']] := by decide
theorem deep_spelled : Sel3Spells deepToks deep [.key ['a'], .idx 1] (.list .plain recsList) :=
  .keyIdx ((IdxSp.neg 1).keyIdxTok plainKey_a) plainKey_a rfl (by decide) rfl (.nil _)

/-- `C06_pred_spelled`: the tokens `a[-1]`, `[k='1']`, `f`, and `a[-1]`, `k[text()='1']`, `..`, `f` -/
example : ∀ tail ∈ [[bracket (['k'] ++ ['='] ++ ['\'', '1', '\'']), ['f']],
                    [['k'] ++ bracket (sTextFn ++ ['='] ++ ['\'', '1', '\'']), ['.', '.'], ['f']]],
    ∃ r, findD 40 deep [] false true (deepToks ++ tail) (.at []) true slash = .ok (deep, r) ∧
      r.value = .list .n0 [.str ['x'], .str ['y']] := by
  intro tail htail
  obtain ⟨r, hr, hf, hv⟩ := (C06_pred_spelled deep true deepToks _ _ recsList ['k'] ['f'] ['='] _ _ ['1'] deep_spelled fieldKey_k
    plainKey_f .eq1 (.sq ['1']) plainLit_1 (by decide) (by decide) 40 (by decide)).1 tail htail
  rw [recsList_sel] at hf hv
  exact ⟨r, hr, hv (by simpa using hf)⟩

/-- the spelling `a/[0+1]` (relative, the index a step of its own, written as a sum) -/
def deepSteps : List StepSp := [.key ['a'], .idx (.plus 0 1) true]
example : renderSp .rel deepSteps = ['a', '/', '[', '0', '+', '1', ']'] := by decide
example : renderSp .two deepSteps = ['/', '/', 'a', '/', '[', '0', '+', '1', ']'] := by decide

/-- `C06_pred_spellings_string` on it: `a/[0+1][k='1']/f` and `a/[0+1]/k[text()='1']/../f` -/
example : ∀ xp ∈ [renderSp .rel deepSteps ++ bracket (['k'] ++ ['='] ++ ['\'', '1', '\'']) ++ slash ++ ['f'],
                  renderSp .rel deepSteps ++ slash ++ ['k'] ++ bracket (sTextFn ++ ['='] ++ ['\'', '1', '\'']) ++ slash ++ ['.', '.'] ++ slash ++ ['f']],
    XPath.get 40 deep xp .none = (deep, .ok (.list .n0 [.str ['x'], .str ['y']])) := by
  intro xp hxp
  have := (C06_pred_spellings_string .n0 [(['a'], .list .plain [.str ['p'], .list .plain recsList])] .rel deepSteps ['k'] ['f'] ['='] _ _
    ['1'] .plain recsList .none ⟨plainKey_a, trivial⟩ (by simp [deepSteps]) (by decide) fieldKey_k plainKey_f .eq1 (.sq ['1'])
    plainLit_1 (by decide) (by decide) 40 (by decide) xp hxp).1
  rw [recsList_sel] at this
  exact this

/-- `C06_star_spellings_string`: `a/[0+1][*]/f` and `a/[0+1]/f` -/
example : ∀ xp ∈ [renderSp .rel deepSteps ++ bracket ['*'] ++ slash ++ ['f'], renderSp .rel deepSteps ++ slash ++ ['f']],
    XPath.get 40 deep xp .none = (deep, .ok (.list .n0 [.str ['x'], .str ['y']])) := by
  intro xp hxp
  exact ((C06_star_spellings_string .n0 [(['a'], .list .plain [.str ['p'], .list .plain recsList])] .rel deepSteps ['f'] .plain
    recsList .none ⟨plainKey_a, trivial⟩ (by simp [deepSteps]) (by decide) plainKey_f (by decide) 40 (by decide)) xp hxp).1

/-- the same through the model, spellings `a[-1]`, `/a/[last()]`, text form included -/
example : (XPath.get 60 deep ['a', '[', '-', '1', ']', '[', 'k', '=', '1', ']', '/', 'f'] .none).2
    = .ok (.list .n0 [.str ['x'], .str ['y']]) := by decide +kernel
example : (XPath.get 60 deep ['/', 'a', '/', '[', 'l', 'a', 's', 't', '(', ')', ']', '/', 'k', '[', 't', 'e', 'x', 't', '(', ')', '=', '1', ']',
    '/', '.', '.', '/', 'f'] .none).2 = .ok (.list .n0 [.str ['x'], .str ['y']]) := by decide +kernel

/-- outer records whose `t` is a LIST of records or ONE record (hidden list), two levels down -/
def ordersMixedList : List Val :=
  [.dict .plain [(['i'], .str ['1']), (['t'], .dict .plain [(['s'], .str ['B']), (['q'], .str ['3'])])],
   .dict .plain [(['i'], .str ['1']), (['t'], .list .plain [.dict .plain [(['s'], .str ['B']), (['q'], .str ['4'])],
                                                              .dict .plain [(['s'], .str ['B']), (['q'], .str ['5'])]])],
   .dict .plain [(['i'], .str ['1']), (['t'], .dict .plain [(['s'], .str ['C']), (['q'], .str ['6'])])],
   .dict .plain [(['i'], .str ['2']), (['t'], .dict .plain [(['s'], .str ['B']), (['q'], .str ['9'])])],
   .dict .plain [(['i'], .str ['1']), (['t'], .list .plain [.dict .plain [(['s'], .str ['B']), (['q'], .str ['7'])]])]]
theorem ordersMixed_selT : selectChainedG true ['i'] ['t'] (condTest ['=', '='] (.str ['1'])) ['s'] ['q'] (condTest ['=', '='] (.str ['B'])) ordersMixedList
    = [.str ['3'], .list .n0 [.str ['4'], .str ['5']], .list .n0 [.str ['7']]] := by decide
theorem ordersMixed_selF : selectChainedG false ['i'] ['t'] (condTest ['=', '='] (.str ['1'])) ['s'] ['q'] (condTest ['=', '='] (.str ['B'])) ordersMixedList
    = [.str ['3'], .list .n0 [.str ['4'], .str ['5']], .str ['7']] := by decide
def ordersMixedKvs : List (Str × Val) := [(['w'], .list .plain [.str ['p'], .list .plain ordersMixedList])]
def ordersMixed : Val := .dict .n0 ordersMixedKvs

theorem ordersMixed_inner : InnerRecs ['t'] ['s'] ['B'] ordersMixedList := by
  intro c kvs' x hm hl
  simp only [ordersMixedList, List.mem_cons, List.not_mem_nil, or_false, Val.dict.injEq] at hm
  rcases hm with ⟨_, rfl⟩ | ⟨_, rfl⟩ | ⟨_, rfl⟩ | ⟨_, rfl⟩ | ⟨_, rfl⟩ <;>
    (simp [lookup] at hl; subst hl
     first
       | exact Or.inl ⟨_, _, rfl, by decide, by decide⟩
       | exact Or.inr ⟨_, _, rfl, by decide⟩)

/-- the reference results: a single-record parent contributes the bare value, a list parent its list; under
`return_lists=False` (`first`) a one-element list parent contributes the bare value too -/
example : selectChainedG true ['i'] ['t'] (fieldEq ['1']) ['s'] ['q'] (fieldEq ['B']) ordersMixedList
    = [.str ['3'], .list .n0 [.str ['4'], .str ['5']], .list .n0 [.str ['7']]] := by decide
example : selectChainedG false ['i'] ['t'] (fieldEq ['1']) ['s'] ['q'] (fieldEq ['B']) ordersMixedList
    = [.str ['3'], .list .n0 [.str ['4'], .str ['5']], .str ['7']] := by decide

/-- `C06_chained_hidden` on that tree: `//w[1][i=1]/t[s=B]/q` -/
example : ∃ n, ∀ fuel ≥ n,
    XPath.get fuel ordersMixed ['/', '/', 'w', '[', '1', ']', '[', 'i', '=', '1', ']', '/', 't', '[', 's', '=', 'B', ']', '/', 'q'] .none
      = (ordersMixed, .ok (.list .n0 [.str ['3'], .list .n0 [.str ['4'], .str ['5']], .list .n0 [.str ['7']]])) ∧
    XPath.first fuel ordersMixed ['/', '/', 'w', '[', '1', ']', '[', 'i', '=', '1', ']', '/', 't', '[', 's', '=', 'B', ']', '/', 'q'] .none
      = (ordersMixed, .ok (.list .n0 [.str ['3'], .list .n0 [.str ['4'], .str ['5']], .str ['7']])) := by
  obtain ⟨n, h⟩ := C06_chained_hidden .n0 ordersMixedKvs [.key ['w'], .idx 1] ['i'] ['='] _ ['1'] ['1'] ['t'] ['s'] ['='] _ ['B'] ['B']
    ['q'] .plain ordersMixedList .none ⟨plainKey_w, trivial⟩ (by simp) fieldKey_i .eq1 (.bare _) plainLit_1 plainKey_t fieldKey_s .eq1
    (.bare _) plainLit_B plainKey_q rfl (by decide) (by decide) ordersMixed_inner
  refine ⟨n, fun fuel hf => ?_⟩
  have h1 := (h fuel hf).1
  have h3 := (h fuel hf).2.2
  rw [ordersMixed_selT] at h1
  rw [ordersMixed_selF] at h3
  exact ⟨h1, h3⟩

/-- `C06_chained_spellings_string` on it with the spelling `/w[-1]` -/
def mixedSteps : List StepSp := [.key ['w'], .idx (.neg 1) false]
example : renderSp .one mixedSteps = ['/', 'w', '[', '-', '1', ']'] := by decide
example : XPath.get 90 ordersMixed
    (renderSp .one mixedSteps ++ bracket (['i'] ++ ['='] ++ ['1']) ++ slash ++ ['t'] ++ bracket (['s'] ++ ['='] ++ ['B']) ++ slash ++ ['q']) .none
      = (ordersMixed, .ok (.list .n0 [.str ['3'], .list .n0 [.str ['4'], .str ['5']], .list .n0 [.str ['7']]])) := by
  have := (C06_chained_spellings_string .n0 ordersMixedKvs .one mixedSteps ['i'] ['='] _ ['1'] ['1'] ['t'] ['s'] ['='] _ ['B'] ['B']
    ['q'] .plain ordersMixedList .none ⟨plainKey_w, trivial⟩ (by simp [mixedSteps]) (by decide) fieldKey_i .eq1 (.bare _) plainLit_1
    plainKey_t fieldKey_s .eq1 (.bare _) plainLit_B plainKey_q (by decide) (by decide) ordersMixed_inner 90 (by decide)).1
  rw [ordersMixed_selT] at this
  exact this

/-- `C06_chained_spelled` (token level) on it: `w[-1]`, `[i=1]`, `t[s=B]`, `q`, `return_lists=False` -/
def mixedToks : List Str := [['w'] ++ bracket (IdxSp.neg 1).text]
theorem mixed_spelled : Sel3Spells mixedToks ordersMixed [.key ['w'], .idx 1] (.list .plain ordersMixedList) :=
  .keyIdx ((IdxSp.neg 1).keyIdxTok plainKey_w) plainKey_w rfl (by decide) rfl (.nil _)
example : ∃ r, findD 90 ordersMixed [] false true
      (mixedToks ++ [bracket (['i'] ++ ['='] ++ ['1']), ['t'] ++ bracket (['s'] ++ ['='] ++ ['B']), ['q']]) (.at []) false slash
      = .ok (ordersMixed, r) ∧ r.value = .list .n0 [.str ['3'], .list .n0 [.str ['4'], .str ['5']], .str ['7']] := by
  obtain ⟨r, hr, hf, hv⟩ := (C06_chained_spelled ordersMixed false mixedToks _ _ ordersMixedList ['i'] ['='] _ ['1'] ['1'] ['t'] ['s']
    ['='] _ ['B'] ['B'] ['q'] mixed_spelled fieldKey_i .eq1 (.bare _) plainLit_1 plainKey_t fieldKey_s .eq1 (.bare _) plainLit_B
    plainKey_q (by decide) (by decide) ordersMixed_inner 90 (by decide)).1
  rw [ordersMixed_selF] at hf hv
  exact ⟨r, hr, hv (by simpa using hf)⟩

/-- `C06_chained_hidden_flat`: when every `t` is one record the result is the flat list of the matching ones -/
def ordersDictsList : List Val :=
  [.dict .plain [(['i'], .str ['1']), (['t'], .dict .plain [(['s'], .str ['B']), (['q'], .str ['3'])])],
   .dict .plain [(['i'], .str ['1']), (['t'], .dict .plain [(['s'], .str ['C']), (['q'], .str ['6'])])],
   .dict .plain [(['i'], .str ['1'])],
   .dict .plain [(['i'], .str ['1']), (['t'], .dict .plain [(['s'], .str ['B']), (['q'], .str ['8'])])]]
example : selectChainedG true ['i'] ['t'] (fieldEq ['1']) ['s'] ['q'] (fieldEq ['B']) ordersDictsList = [.str ['3'], .str ['8']] :=
  (C06_chained_hidden_flat true ['i'] ['t'] _ ['s'] ['q'] _ ordersDictsList (by
    intro c kvs' x hm hl lc xs
    simp only [ordersDictsList, List.mem_cons, List.not_mem_nil, or_false, Val.dict.injEq] at hm
    rcases hm with ⟨_, rfl⟩ | ⟨_, rfl⟩ | ⟨_, rfl⟩ | ⟨_, rfl⟩ <;> (simp [lookup] at hl; try (subst hl; simp)))).trans (by decide)

/-- `C06_chained_first` on `orders` (inner lists): the per-parent selections are `[['3'], ['6','7']]`; `first` returns
`['3', ['6','7']]` — the one-record parent as the bare value -/
example : chainedLists ['i'] ['t'] (fieldEq ['2']) ['s'] ['q'] (fieldEq ['B']) ordersList = [[.str ['3']], [.str ['6'], .str ['7']]] := by
  decide
example : ∃ n, ∀ fuel ≥ n,
    XPath.first fuel orders ['/', '/', 'o', '[', 'i', '=', '2', ']', '/', 't', '[', 's', '=', 'B', ']', '/', 'q'] .none
      = (orders, .ok (.list .n0 [.str ['3'], .list .n0 [.str ['6'], .str ['7']]])) := by
  obtain ⟨n, h⟩ := C06_chained_first .n0 [(['o'], .list .plain ordersList)] [.key ['o']] ['i'] ['='] _ ['2'] ['2'] ['t'] ['s']
    ['='] _ ['B'] ['B'] ['q'] .plain ordersList .none ⟨⟨by decide, by decide, by decide⟩, trivial⟩ (by simp) fieldKey_i .eq1
    (.bare _) plainLit_2 plainKey_t fieldKey_s .eq1 (.bare _) plainLit_B plainKey_q rfl (by decide) (by decide) orders_inner
  refine ⟨n, fun fuel hf => ?_⟩
  have := h fuel hf
  rw [show chainedLists ['i'] ['t'] (condTest ['=', '='] (.str ['2'])) ['s'] ['q'] (condTest ['=', '='] (.str ['B'])) ordersList
      = [[.str ['3']], [.str ['6'], .str ['7']]] by decide] at this
  exact this

/-- cases of `C06_chained_first_cases` through the model: no match, one parent / one record (three levels unwrapped; twice),
several parents; one parent / two records is the `firstOf` instance after them -/
example : (XPath.first 80 orders ['o', '[', 'i', '=', '9', ']', '/', 't', '[', 's', '=', 'B', ']', '/', 'q'] (.str ['D'])).2 = .ok (.str ['D']) := by
  decide +kernel
example : (XPath.first 80 orders ['o', '[', 'i', '=', '1', ']', '/', 't', '[', 's', '=', 'B', ']', '/', 'q'] .none).2 = .ok (.str ['2']) := by
  decide +kernel
example : (XPath.first 80 orders ['o', '[', 'i', '=', '2', ']', '/', 't', '[', 's', '=', 'C', ']', '/', 'q'] .none).2 = .ok (.str ['4']) := by
  decide +kernel
example : (XPath.first 80 orders ['o', '[', 'i', '=', '2', ']', '/', 't', '[', 'q', '~', '\'', '\'', ']', '/', 'q'] .none).2
    = .ok (.list .n0 [.list .n0 [.str ['3'], .str ['4']], .str ['5'], .list .n0 [.str ['6'], .str ['7']]]) := by
  decide +kernel
example : firstOf ([[Val.str ['3']]].map single) Val.none = .str ['3'] := (C06_chained_first_cases _ _ _ []).2.1 rfl
example : firstOf ([[Val.str ['3'], .str ['4']]].map single) Val.none = .list .n0 [.str ['3'], .str ['4']] :=
  (C06_chained_first_cases _ _ (.str ['3']) _).2.2.1 rfl (by decide)

/-- (fix C06-h; outside `InnerRecs`, hence outside the theorems - the property speaks of LISTS OF RECORDS): an outer record
whose `t` is a scalar.  Without the fix the inner predicate step raises `IndexError` ("must be n0dict"), which leaves the
fan-out loop, so that the whole lookup is a miss although the second order has a matching record.  With it a single value
simply does not satisfy the condition: that parent contributes nothing, the other parents are selected. -/
def ordersScalarInner : Val :=
  .dict .n0 [(['o'], .list .plain [
    .dict .plain [(['i'], .str ['1']), (['t'], .str ['x'])],
    .dict .plain [(['i'], .str ['1']), (['t'], .list .plain [.dict .plain [(['s'], .str ['B']), (['q'], .str ['4'])]])]])]
theorem C06_scalar_inner_example :
    (XPath.get 80 ordersScalarInner ['o', '[', 'i', '=', '1', ']', '/', 't', '[', 's', '=', 'B', ']', '/', 'q'] (.str ['D'])).2
      = .ok (.list .n0 [.list .n0 [.str ['4']]])
    ∧ (XPath.getItem 80 ordersScalarInner ['o', '[', 'i', '=', '1', ']', '/', 't', '[', 's', '=', 'B', ']', '/', 'q']).2
      = .ok (.list .n0 [.list .n0 [.str ['4']]])
    ∧ (XPath.first 80 ordersScalarInner ['o', '[', 'i', '=', '1', ']', '/', 't', '[', 's', '=', 'B', ']', '/', 'q'] (.str ['D'])).2
      = .ok (.str ['4']) := by
  decide +kernel

/-! ## n0list-rooted record lists (fix C06-f)

The record list is itself the root container (an `n0list` of dict records; `P` is the empty path).  Without the fix
`n0list._find` hands a dict element to `n0dict._find` with the ELEMENT as `self`, so that the `'..'` of a (rewritten)
condition resolves the text `/[j]/k` inside the element: every predicate on a list root misses, except by accident on
element 0; a condition written on the root list raises "Impossible to have complex index for lists", the shorthand `/f` is
NOT FOUND. -/

/-- **C06 (fan-out, the root list is the record list).**  For an n0list `rs` of dict records, `[*]/f`, `/[*]/f` and the
shorthand `/f` return `[r[f] for r in rs if f in r]` through `get`, item access and `first`; the list is unchanged. -/
theorem C06_star_list_root (lc : Cls) (rs : List Val) (f : Str) (d : Val) (hf : PlainKey f) (hrs : ∀ r ∈ rs, isDict r = true)
    (fuel : Nat) (hfuel : fuel ≥ rs.length + 6) :
    ∀ xp ∈ [bracket ['*'] ++ slash ++ f, slash ++ bracket ['*'] ++ slash ++ f, slash ++ f],
      XPath.get fuel (.list lc rs) xp d = (.list lc rs, .ok (selected (selectF f rs) d)) ∧
      getItem fuel (.list lc rs) xp = (.list lc rs, selectedItem (selectF f rs)) ∧
      first fuel (.list lc rs) xp d = (.list lc rs, .ok (firstOf (selectF f rs) d)) := by
  intro xp hxp
  simp only [List.mem_cons, List.not_mem_nil, or_false] at hxp
  rw [← selectF_eq]
  rcases hxp with rfl | rfl | rfl
  · exact select_root_string (star_case hrs hf) d fuel (by omega) _
      (.inl (by simp [selG, SelStep.segs, sel2Render_br, sel2Render_key, sel2Render_nil, slash]))
  · exact select_root_string (star_case hrs hf) d fuel (by omega) _
      (.inr (.inl (by simp [selG, SelStep.segs, sel2Render_br, sel2Render_key, sel2Render_nil, slash])))
  · exact select_root_string (key_case hrs hf) d fuel (by omega) _
      (.inl (by simp [selG, SelStep.segs, sel2Render_key, sel2Render_nil, slash]))

/-- **C06 (predicates, the root list is the record list).**  For an n0list `rs` of dict records, `[k op v]/f`, `/[k op v]/f`
(a condition written on the root list itself), `k[text() op v]/../f` and `/k[text() op v]/../f` - any operator and literal
spelling - return `f` of exactly the records that have `k` and whose `k` passes the comparison, in list order, through `get`,
item access and `first`; the list is unchanged.  (`'..'` resolves the text `/[j]` again from the ROOT list: `self` of the
dict-side search is the list the lookup started from.) -/
theorem C06_pred_list_root (lc : Cls) (rs : List Val) (k f opx op vq v : Str) (d : Val)
    (hk : FieldKey k) (hf : PlainKey f) (hop : OpSpell opx op) (hlit : LitSpell vq v) (hv : PlainLit v)
    (hrs : ∀ r ∈ rs, isDict r = true) (hg : ComparableK k v rs) (fuel : Nat) (hfuel : fuel ≥ rs.length + 12) :
    ∀ xp ∈ [bracket (k ++ opx ++ vq) ++ slash ++ f, slash ++ bracket (k ++ opx ++ vq) ++ slash ++ f,
            k ++ bracket (sTextFn ++ opx ++ vq) ++ slash ++ ['.', '.'] ++ slash ++ f,
            slash ++ k ++ bracket (sTextFn ++ opx ++ vq) ++ slash ++ ['.', '.'] ++ slash ++ f],
      XPath.get fuel (.list lc rs) xp d
        = (.list lc rs, .ok (selected (selectWhere k f (condTest op (.str v)) rs) d)) ∧
      getItem fuel (.list lc rs) xp = (.list lc rs, selectedItem (selectWhere k f (condTest op (.str v)) rs)) ∧
      first fuel (.list lc rs) xp d = (.list lc rs, .ok (firstOf (selectWhere k f (condTest op (.str v)) rs) d)) := by
  intro xp hxp
  simp only [List.mem_cons, List.not_mem_nil, or_false] at hxp
  let c : CondSp := ⟨k, opx, op, vq, v⟩
  have hc : c.OK := ⟨hk, hop, hlit, hv⟩
  rw [← selectWhere_eq]
  rcases hxp with rfl | rfl | rfl | rfl
  · exact select_root_string (cond_case hrs hc hf hg.guard) d fuel (by omega) _
      (.inl (by simp [selG, SelStep.segs, CondSp.text, c, sel2Render_br, sel2Render_key, sel2Render_nil, slash]))
  · exact select_root_string (cond_case hrs hc hf hg.guard) d fuel (by omega) _
      (.inr (.inl (by simp [selG, SelStep.segs, CondSp.text, c, sel2Render_br, sel2Render_key, sel2Render_nil, slash])))
  · exact select_root_string (text_case hrs hc hf hg.guard) d fuel (by omega) _
      (.inr (.inr ⟨k, _, _, rfl, by simp [SelStep.segs, c, sel2Render_br, sel2Render_key, sel2Render_nil, slash]⟩))
  · exact select_root_string (text_case hrs hc hf hg.guard) d fuel (by omega) _
      (.inl (by simp [selG, SelStep.segs, c, sel2Render_br, sel2Render_key, sel2Render_nil, slash]))

/-- witnesses on list roots, through the model: the flat record list `[{k: 1, f: a}, {k: 2, f: b}]` (a condition on
the root list, `[*][k=2]`, the text() form, '..' from a field back to the record) and the orders list (an indexed / starred /
conditioned `P` in front of an inner predicate: '..' comes back to the right parent) -/
def flatList : List Val :=
  [.dict .n0 [(['k'], .str ['1']), (['f'], .str ['a'])], .dict .n0 [(['k'], .str ['2']), (['f'], .str ['b'])]]
theorem flatList_sel : selectWhere ['k'] ['f'] (condTest ['=', '='] (.str ['2'])) flatList = [.str ['b']] := by decide
def flatRoot : Val := .list .n0 flatList
def ordersRoot : Val :=
  .list .n0 [
    .dict .n0 [(['i'], .str ['1']), (['t'], .list .n0 [.dict .n0 [(['s'], .str ['A']), (['q'], .int 1)], .dict .n0 [(['s'], .str ['B']), (['q'], .int 2)]])],
    .dict .n0 [(['i'], .str ['2']), (['t'], .list .n0 [.dict .n0 [(['s'], .str ['B']), (['q'], .int 3)]])]]
theorem C06_list_root_example :
    (XPath.getItem 60 flatRoot ['[', 'k', '=', '2', ']', '/', 'f']).2 = .ok (.list .n0 [.str ['b']]) ∧
    (XPath.getItem 60 flatRoot ['[', '*', ']', '[', 'k', '=', '2', ']', '/', 'f']).2 = .ok (.list .n0 [.str ['b']]) ∧
    (XPath.getItem 60 flatRoot ['[', '*', ']', '/', 'k', '[', 't', 'e', 'x', 't', '(', ')', '=', '2', ']', '/', '.', '.', '/', 'f']).2
      = .ok (.list .n0 [.str ['b']]) ∧
    (XPath.getItem 60 flatRoot ['[', '1', ']', '/', 'k', '/', '.', '.', '/', 'f']).2 = .ok (.str ['b']) ∧
    (XPath.getItem 60 flatRoot ['/', 'f']).2 = .ok (.list .n0 [.str ['a'], .str ['b']]) ∧
    (XPath.getItem 80 ordersRoot ['[', '1', ']', '/', 't', '[', 's', '=', 'B', ']', '/', 'q']).2 = .ok (.list .n0 [.int 3]) ∧
    (XPath.getItem 80 ordersRoot ['[', '*', ']', '/', 't', '[', 's', '=', 'B', ']', '/', 'q']).2
      = .ok (.list .n0 [.list .n0 [.int 2], .list .n0 [.int 3]]) ∧
    (XPath.getItem 80 ordersRoot ['[', 'i', '=', '2', ']', '/', 't', '[', 's', '=', 'B', ']', '/', 'q']).2
      = .ok (.list .n0 [.list .n0 [.int 3]]) := by
  decide +kernel
example : (XPath.get 20 flatRoot ['[', 'k', '=', '2', ']', '/', 'f'] .none) = (flatRoot, .ok (.list .n0 [.str ['b']])) := by
  have := (C06_pred_list_root .n0 flatList ['k'] ['f'] ['='] _ _ ['2'] .none fieldKey_k plainKey_f .eq1 (.bare ['2'])
    ⟨by decide, by decide, by decide⟩ (by decide) (by decide) 20 (by decide) _ (List.mem_cons_self ..)).1
  rw [flatList_sel] at this
  exact this
example : (XPath.first 20 flatRoot ['/', 'f'] .none) = (flatRoot, .ok (.list .n0 [.str ['a'], .str ['b']])) :=
  (C06_star_list_root .n0 flatList ['f'] .none plainKey_f (by decide) 20 (by decide) _ (by simp [slash])).2.2

/-! ## a record list deeper in an n0list-rooted tree

The root container is an `n0list`, the record list sits at a canonical position `P` below it, so `P` starts with an index
(`[2]/a/b`, `[0][1]`, `[1]/c[0]`, …; unbounded depth).  `n0list._find` walks the leading index tokens (through nested lists),
hands the first dict element to `n0dict._find` with `self` = the ROOT list (fix C06-f), and - when `P` consists of indexes
only - is still the searching side when the record list is reached (its own `[*]` loop; a name or a condition is handed over).
`xld_walk` (Proofs/XPathSelPaths.lean) is the walk; `find_selD` (Proofs/XPathSelFind.lean) does the rest at the node reached. -/

/-- **C06 (fan-out, record list below a list root).**  For an n0list root and the list `rs` of dict records at the canonical
position `P = [n]…` below it, `P[*]/f` and the shorthand `P/f` - written with or without the leading '/' - return
`[r[f] for r in rs if f in r]` through `get` (the default when empty), item access (`IndexError` when empty) and `first` (a single
match unwrapped); the tree is unchanged. -/
theorem C06_star_list_deep (cls : Cls) (xs : List Val) (n : Nat) (rest : Pos) (f : Str) (lc : Cls) (rs : List Val) (d : Val)
    (hp : PlainPos rest) (hf : PlainKey f) (hget : getAt (.list cls xs) (.idx n :: rest) = some (.list lc rs))
    (hrs : ∀ r ∈ rs, isDict r = true) :
    ∃ N, ∀ fuel ≥ N, ∀ lead ∈ [[], slash],
      ∀ xp ∈ [lead ++ renderPos (.idx n :: rest) ++ bracket ['*'] ++ slash ++ f, lead ++ renderPos (.idx n :: rest) ++ slash ++ f],
        XPath.get fuel (.list cls xs) xp d = (.list cls xs, .ok (selected (selectF f rs) d)) ∧
        getItem fuel (.list cls xs) xp = (.list cls xs, selectedItem (selectF f rs)) ∧
        first fuel (.list cls xs) xp d = (.list cls xs, .ok (firstOf (selectF f rs) d)) := by
  refine ⟨2 * (Seg.idx n :: rest).length + rs.length + 6, fun fuel hfuel lead hlead xp hxp => ?_⟩
  have := xld_star_api cls xs (.idx n :: rest) f lc rs d hp ⟨n, rest, rfl⟩ hf hget hrs fuel hfuel lead hlead xp hxp
  simp only [selectF_eq] at this
  exact this

/-- **C06 (predicates, record list below a list root).**  For an n0list root and the list `rs` of dict records at the canonical
position `P = [n]…` below it, `P[k op v]/f` and `P/k[text() op v]/../f` - any operator and literal spelling, with or without the
leading '/' - return `f` of exactly the records that have `k` and whose `k` passes the comparison, in list order, through `get`,
item access and `first`; the tree is unchanged.  (The `'..'` of the rewritten condition splits the `found` text - the canonical
path of `P[j]/k`, which starts with the index of the root list - and resolves `P[j]` again from the root list.) -/
theorem C06_pred_list_deep (cls : Cls) (xs : List Val) (n : Nat) (rest : Pos) (k f opx op vq v : Str) (lc : Cls) (rs : List Val)
    (d : Val) (hp : PlainPos rest) (hk : FieldKey k) (hf : PlainKey f) (hop : OpSpell opx op) (hlit : LitSpell vq v)
    (hv : PlainLit v) (hget : getAt (.list cls xs) (.idx n :: rest) = some (.list lc rs)) (hrs : ∀ r ∈ rs, isDict r = true)
    (hg : ComparableK k v rs) :
    ∃ N, ∀ fuel ≥ N, ∀ lead ∈ [[], slash],
      ∀ xp ∈ [lead ++ renderPos (.idx n :: rest) ++ bracket (k ++ opx ++ vq) ++ slash ++ f,
              lead ++ renderPos (.idx n :: rest) ++ slash ++ k ++ bracket (sTextFn ++ opx ++ vq) ++ slash ++ ['.', '.'] ++ slash ++ f],
        XPath.get fuel (.list cls xs) xp d
          = (.list cls xs, .ok (selected (selectWhere k f (condTest op (.str v)) rs) d)) ∧
        getItem fuel (.list cls xs) xp = (.list cls xs, selectedItem (selectWhere k f (condTest op (.str v)) rs)) ∧
        first fuel (.list cls xs) xp d = (.list cls xs, .ok (firstOf (selectWhere k f (condTest op (.str v)) rs) d)) := by
  refine ⟨6 * (Seg.idx n :: rest).length + rs.length + 14, fun fuel hfuel lead hlead xp hxp => ?_⟩
  have := xld_pred_api cls xs (.idx n :: rest) k f opx op vq v lc rs d hp ⟨n, rest, rfl⟩ hk hf hop hlit hv hget hrs hg.guard
    fuel hfuel lead hlead xp hxp
  simp only [selectWhere_eq] at this
  exact this

/-- a list-rooted tree with the flat record list at three positions: `[1]/a/b` (ends in a key: the tokens are `[1]`, `a`,
`b[*]` / `b[k=2]`), `[1]/c[0]` (an index below a key) and `[2][1]` (indexes only: `n0list._find` reaches the record list itself) -/
def deepListRoot : Val :=
  .list .n0 [.str ['p'],
    .dict .n0 [(['a'], .dict .n0 [(['b'], .list .n0 flatList)]), (['c'], .list .n0 [.list .n0 flatList])],
    .list .n0 [.str ['z'], .list .n0 flatList]]

/-- the model on the paths evaluated with the real code (`n0dict.convert_recursively(['p', {'a': {'b': R}, 'c': [R]}, ['z', R]])`,
`R = [{'k':'1','f':'a'},{'k':'2','f':'b'}]`; the implementation returns the same values) -/
theorem C06_star_list_deep_example :
    (XPath.getItem 80 deepListRoot ['[', '1', ']', '/', 'a', '/', 'b', '[', '*', ']', '/', 'f']).2
      = .ok (.list .n0 [.str ['a'], .str ['b']]) ∧
    (XPath.getItem 80 deepListRoot ['/', '[', '1', ']', '/', 'a', '/', 'b', '/', 'f']).2 = .ok (.list .n0 [.str ['a'], .str ['b']]) ∧
    (XPath.getItem 80 deepListRoot ['[', '2', ']', '[', '1', ']', '[', '*', ']', '/', 'f']).2
      = .ok (.list .n0 [.str ['a'], .str ['b']]) ∧
    (XPath.getItem 80 deepListRoot ['[', '2', ']', '[', '1', ']', '/', 'f']).2 = .ok (.list .n0 [.str ['a'], .str ['b']]) ∧
    (XPath.getItem 80 deepListRoot ['/', '[', '1', ']', '/', 'c', '[', '0', ']', '/', 'f']).2
      = .ok (.list .n0 [.str ['a'], .str ['b']]) := by
  decide +kernel
theorem C06_pred_list_deep_example :
    (XPath.getItem 80 deepListRoot ['[', '1', ']', '/', 'a', '/', 'b', '[', 'k', '=', '2', ']', '/', 'f']).2 = .ok (.list .n0 [.str ['b']]) ∧
    (XPath.first 80 deepListRoot ['[', '1', ']', '/', 'a', '/', 'b', '/', 'k', '[', 't', 'e', 'x', 't', '(', ')', '=', '2', ']', '/', '.', '.', '/', 'f']
      (.str ['D'])).2 = .ok (.str ['b']) ∧
    (XPath.getItem 80 deepListRoot ['[', '2', ']', '[', '1', ']', '[', 'k', '=', '2', ']', '/', 'f']).2 = .ok (.list .n0 [.str ['b']]) ∧
    (XPath.getItem 80 deepListRoot ['/', '[', '2', ']', '[', '1', ']', '/', 'k', '[', 't', 'e', 'x', 't', '(', ')', '=', '2', ']', '/', '.', '.', '/', 'f']).2
      = .ok (.list .n0 [.str ['b']]) ∧
    (XPath.getItem 80 deepListRoot ['[', '1', ']', '/', 'c', '[', '0', ']', '[', 'k', '!', '=', '2', ']', '/', 'f']).2
      = .ok (.list .n0 [.str ['a']]) ∧
    (XPath.get 80 deepListRoot ['[', '2', ']', '[', '1', ']', '[', 'k', '=', '3', ']', '/', 'f'] (.str ['D'])).2 = .ok (.str ['D']) ∧
    (XPath.getItem 80 deepListRoot ['[', '2', ']', '[', '1', ']', '[', 'k', '=', '3', ']', '/', 'f']).2 = .error .IndexError := by
  decide +kernel
/-- … and through the theorems (non-vacuity): `[2][1][k=2]/f` (indexes only) and `[1]/a/b[*]/f`, `/[1]/a/b/f` (merged last token) -/
example : ∃ N, ∀ fuel ≥ N,
    (XPath.get fuel deepListRoot ['[', '2', ']', '[', '1', ']', '[', 'k', '=', '2', ']', '/', 'f'] .none)
      = (deepListRoot, .ok (.list .n0 [.str ['b']])) := by
  obtain ⟨N, h⟩ := C06_pred_list_deep .n0 _ 2 [.idx 1] ['k'] ['f'] ['='] _ _ ['2'] .n0 flatList .none trivial fieldKey_k plainKey_f
    .eq1 (.bare ['2']) ⟨by decide, by decide, by decide⟩ (show getAt deepListRoot [.idx 2, .idx 1] = some (.list .n0 flatList) by decide)
    (by decide) (by decide)
  refine ⟨N, fun fuel hfuel => ?_⟩
  have := (h fuel hfuel [] (by simp) _ (List.mem_cons_self ..)).1
  rw [flatList_sel] at this
  exact this
example : ∃ N, ∀ fuel ≥ N,
    (XPath.getItem fuel deepListRoot ['[', '1', ']', '/', 'a', '/', 'b', '[', '*', ']', '/', 'f'])
      = (deepListRoot, .ok (.list .n0 [.str ['a'], .str ['b']])) ∧
    (XPath.first fuel deepListRoot ['/', '[', '1', ']', '/', 'a', '/', 'b', '/', 'f'] .none)
      = (deepListRoot, .ok (.list .n0 [.str ['a'], .str ['b']])) := by
  obtain ⟨N, h⟩ := C06_star_list_deep .n0 _ 1 [.key ['a'], .key ['b']] ['f'] .n0 flatList .none
    ⟨plainKey_a, ⟨by decide, by decide, by decide⟩, trivial⟩ plainKey_f
    (show getAt deepListRoot [.idx 1, .key ['a'], .key ['b']] = some (.list .n0 flatList) by decide) (by decide)
  refine ⟨N, fun fuel hfuel => ⟨?_, ?_⟩⟩
  · exact (h fuel hfuel [] (by simp) _ (List.mem_cons_self ..)).2.1
  · exact (h fuel hfuel slash (by simp) _ (List.mem_cons_of_mem _ (List.mem_cons_self ..))).2.2

/-! ### … with the position `P` of the record list in ANY spelling

`P = renderSp lead steps`: prefix none, `/` or `//`; every index written as `i`, `-k`, `last()`, `last()-k` or `i+j`, attached
(`a[1]`, `[2][1]`) or as a step of its own (`a/[1]`, `[2]/[1]`); `stepsGet` is plain Python indexing along the steps (negative
indexes from the end).  The root being a list, the first step is an index. -/

/-- **C06 (fan-out, record list below a list root, any spelling, string level).**  For an n0list root and any spelling of a path
that plain Python indexing follows from the root to the list `rs` of dict records, `P[*]/f` and the shorthand `P/f` return
`[r[f] for r in rs if f in r]` through `get` (the default when empty), item access (`IndexError` when empty) and `first` (a single
match unwrapped); the tree is unchanged. -/
theorem C06_star_list_deep_spelled (cls : Cls) (xs : List Val) (lead : Lead) (steps : List StepSp) (f : Str) (lc : Cls)
    (rs : List Val) (d : Val) (hp : PlainSteps steps) (hne : steps ≠ [])
    (hget : stepsGet (.list cls xs) steps = some (.list lc rs)) (hf : PlainKey f) (hrs : ∀ r ∈ rs, isDict r = true)
    (fuel : Nat) (hfuel : fuel ≥ 2 * steps.length + rs.length + 6) :
    ∀ xp ∈ [renderSp lead steps ++ bracket ['*'] ++ slash ++ f, renderSp lead steps ++ slash ++ f],
      XPath.get fuel (.list cls xs) xp d = (.list cls xs, .ok (selected (selectF f rs) d)) ∧
      getItem fuel (.list cls xs) xp = (.list cls xs, selectedItem (selectF f rs)) ∧
      first fuel (.list cls xs) xp d = (.list cls xs, .ok (firstOf (selectF f rs) d)) := by
  intro xp hxp
  have := xlds_star_string cls xs lead steps f lc rs d hp hne hget hf hrs fuel hfuel xp hxp
  simp only [selectF_eq] at this
  exact this

/-- **C06 (predicates, record list below a list root, any spelling, string level).**  As above for `P[k op v]/f` and
`P/k[text() op v]/../f` - any operator and literal spelling: `f` of exactly the records that have `k` and whose `k` passes the
comparison, in list order, through `get`, item access and `first`; the tree is unchanged.  (The `'..'` re-resolves the text the
walk has written - evaluated indexes: `[last()]` comes back as `/[-1]` - from the root list.) -/
theorem C06_pred_list_deep_spelled (cls : Cls) (xs : List Val) (lead : Lead) (steps : List StepSp)
    (k f opx op vq v : Str) (lc : Cls) (rs : List Val) (d : Val) (hp : PlainSteps steps) (hne : steps ≠ [])
    (hget : stepsGet (.list cls xs) steps = some (.list lc rs)) (hk : FieldKey k) (hf : PlainKey f) (hop : OpSpell opx op)
    (hlit : LitSpell vq v) (hv : PlainLit v) (hrs : ∀ r ∈ rs, isDict r = true) (hg : ComparableK k v rs)
    (fuel : Nat) (hfuel : fuel ≥ 6 * steps.length + rs.length + 14) :
    ∀ xp ∈ [renderSp lead steps ++ bracket (k ++ opx ++ vq) ++ slash ++ f,
            renderSp lead steps ++ slash ++ k ++ bracket (sTextFn ++ opx ++ vq) ++ slash ++ ['.', '.'] ++ slash ++ f],
      XPath.get fuel (.list cls xs) xp d
        = (.list cls xs, .ok (selected (selectWhere k f (condTest op (.str v)) rs) d)) ∧
      getItem fuel (.list cls xs) xp = (.list cls xs, selectedItem (selectWhere k f (condTest op (.str v)) rs)) ∧
      first fuel (.list cls xs) xp d = (.list cls xs, .ok (firstOf (selectWhere k f (condTest op (.str v)) rs) d)) := by
  intro xp hxp
  have := xlds_pred_string cls xs lead steps k f opx op vq v lc rs d hp hne hget hk hf hop hlit hv hrs hg.guard fuel hfuel xp hxp
  simp only [selectWhere_eq] at this
  exact this

/-- spellings of the three positions of `flatList` in `deepListRoot`: `[-2]/a/b`, `[last()]/[1]`, `[0+1]/c[-1]` -/
def deepSpA : List StepSp := [.idx (.neg 2) false, .key ['a'], .key ['b']]
def deepSpL : List StepSp := [.idx .last true, .idx (.lit 1) true]
def deepSpC : List StepSp := [.idx (.plus 0 1) false, .key ['c'], .idx (.neg 1) false]
example : renderSp .rel deepSpA = ['[', '-', '2', ']', '/', 'a', '/', 'b'] := by decide
example : renderSp .one deepSpL = ['/', '[', 'l', 'a', 's', 't', '(', ')', ']', '/', '[', '1', ']'] := by decide
example : renderSp .two deepSpC = ['/', '/', '[', '0', '+', '1', ']', '/', 'c', '[', '-', '1', ']'] := by decide

/-- the model on such spellings, evaluated with the real code (same tree as `C06_star_list_deep_example`; the implementation
returns the same values): `[-2]/a/b[*]/f`, `//[-2]/a/b/f`, `/[last()]/[1][k=2]/f`, `[-1][last()]/k[text()=2]/../f`,
`//[0+1]/c[-1][k!=2]/f`, and the miss `/[last()]/[1][k=3]/f` -/
theorem C06_list_deep_spelled_example :
    (XPath.getItem 80 deepListRoot ['[', '-', '2', ']', '/', 'a', '/', 'b', '[', '*', ']', '/', 'f']).2
      = .ok (.list .n0 [.str ['a'], .str ['b']]) ∧
    (XPath.getItem 80 deepListRoot ['/', '/', '[', '-', '2', ']', '/', 'a', '/', 'b', '/', 'f']).2
      = .ok (.list .n0 [.str ['a'], .str ['b']]) ∧
    (XPath.getItem 80 deepListRoot ['/', '[', 'l', 'a', 's', 't', '(', ')', ']', '/', '[', '1', ']', '[', 'k', '=', '2', ']', '/', 'f']).2
      = .ok (.list .n0 [.str ['b']]) ∧
    (XPath.first 80 deepListRoot ['[', '-', '1', ']', '[', 'l', 'a', 's', 't', '(', ')', ']', '/', 'k', '[', 't', 'e', 'x', 't', '(', ')', '=', '2', ']',
      '/', '.', '.', '/', 'f'] (.str ['D'])).2 = .ok (.str ['b']) ∧
    (XPath.getItem 80 deepListRoot ['/', '/', '[', '0', '+', '1', ']', '/', 'c', '[', '-', '1', ']', '[', 'k', '!', '=', '2', ']', '/', 'f']).2
      = .ok (.list .n0 [.str ['a']]) ∧
    (XPath.get 80 deepListRoot ['/', '[', 'l', 'a', 's', 't', '(', ')', ']', '/', '[', '1', ']', '[', 'k', '=', '3', ']', '/', 'f'] (.str ['D'])).2
      = .ok (.str ['D']) ∧
    (XPath.getItem 80 deepListRoot ['/', '[', 'l', 'a', 's', 't', '(', ')', ']', '/', '[', '1', ']', '[', 'k', '=', '3', ']', '/', 'f']).2
      = .error .IndexError := by
  decide +kernel
/-- … and through the theorems (non-vacuity): `[-2]/a/b[*]/f` and `[-2]/a/b/f` (merged last token `b[*]`) -/
example : ∀ xp ∈ [renderSp .rel deepSpA ++ bracket ['*'] ++ slash ++ ['f'], renderSp .rel deepSpA ++ slash ++ ['f']],
    XPath.getItem 40 deepListRoot xp = (deepListRoot, .ok (.list .n0 [.str ['a'], .str ['b']])) := by
  intro xp hxp
  exact ((C06_star_list_deep_spelled .n0 _ .rel deepSpA ['f'] .n0 flatList .none ⟨plainKey_a, ⟨by decide, by decide, by decide⟩, trivial⟩
    (by simp [deepSpA]) (show stepsGet deepListRoot deepSpA = some (.list .n0 flatList) by decide) plainKey_f (by decide) 40
    (by decide)) xp hxp).2.1
/-- `/[last()]/[1][k=2]/f` and `/[last()]/[1]/k[text()=2]/../f` (indexes only, each a step of its own, the first one `last()`) -/
example : ∀ xp ∈ [renderSp .one deepSpL ++ bracket (['k'] ++ ['='] ++ ['2']) ++ slash ++ ['f'],
                  renderSp .one deepSpL ++ slash ++ ['k'] ++ bracket (sTextFn ++ ['='] ++ ['2']) ++ slash ++ ['.', '.'] ++ slash ++ ['f']],
    XPath.first 60 deepListRoot xp (.str ['D']) = (deepListRoot, .ok (.str ['b'])) := by
  intro xp hxp
  have := (C06_pred_list_deep_spelled .n0 _ .one deepSpL ['k'] ['f'] ['='] _ _ ['2'] .n0 flatList (.str ['D']) trivial
    (by simp [deepSpL]) (show stepsGet deepListRoot deepSpL = some (.list .n0 flatList) by decide) fieldKey_k plainKey_f .eq1
    (.bare ['2']) ⟨by decide, by decide, by decide⟩ (by decide) (by decide) 60 (by decide) xp hxp).2.2
  rw [flatList_sel] at this
  exact this
/-- `//[0+1]/c[-1][k!=2]/f` (an attached negative index below a key, the condition a token of its own) -/
example : XPath.get 60 deepListRoot (renderSp .two deepSpC ++ bracket (['k'] ++ ['!', '='] ++ ['2']) ++ slash ++ ['f']) .none
    = (deepListRoot, .ok (.list .n0 [.str ['a']])) := by
  have := (C06_pred_list_deep_spelled .n0 _ .two deepSpC ['k'] ['f'] ['!', '='] _ _ ['2'] .n0 flatList .none
    ⟨⟨by decide, by decide, by decide⟩, trivial⟩
    (by simp [deepSpC]) (show stepsGet deepListRoot deepSpC = some (.list .n0 flatList) by decide) fieldKey_k plainKey_f .ne
    (.bare ['2']) ⟨by decide, by decide, by decide⟩ (by decide) (by decide) 60 (by decide) _ (List.mem_cons_self ..)).1
  rw [show selectWhere ['k'] ['f'] (condTest ['!', '='] (.str ['2'])) flatList = [.str ['a']] by decide] at this
  exact this

/-- **C06 (chained selections, record list below a list root).**  For an n0list root and the list `rs` of dict records at the
canonical position `P = [n]…` below it, `P[k1 op v1]/items[k2 op v2]/f` (with or without the leading '/'): `get` and item access
return the list of per-parent contributions (`selectChainedG true`; equal to the nested lists of `selectChained` when every
`items` is a list - `selectChainedG_lists`), the default / `IndexError` when there is none; `first` returns `firstOf` of the
`return_lists=False` contributions; the tree is unchanged.  The inner condition's `'..'` comes back to the right parent: the
`found` text starts with the index of the root list and is resolved from the root list. -/
theorem C06_chained_list_deep (cls : Cls) (xs : List Val) (n : Nat) (rest : Pos)
    (k1 opx1 op1 vq1 v1 items k2 opx2 op2 vq2 v2 f : Str) (lc : Cls) (rs : List Val) (d : Val)
    (hp : PlainPos rest) (hk1 : FieldKey k1) (hop1 : OpSpell opx1 op1) (hlit1 : LitSpell vq1 v1) (hv1 : PlainLit v1)
    (hitems : PlainKey items) (hk2 : FieldKey k2) (hop2 : OpSpell opx2 op2) (hlit2 : LitSpell vq2 v2) (hv2 : PlainLit v2)
    (hf : PlainKey f) (hget : getAt (.list cls xs) (.idx n :: rest) = some (.list lc rs)) (hrs : ∀ r ∈ rs, isDict r = true)
    (hg : ComparableK k1 v1 rs) (hin : InnerRecs items k2 v2 rs) :
    ∃ N, ∀ fuel ≥ N, ∀ lead ∈ [[], slash],
      let xp := lead ++ renderPos (.idx n :: rest) ++ bracket (k1 ++ opx1 ++ vq1) ++ slash ++ items ++ bracket (k2 ++ opx2 ++ vq2)
        ++ slash ++ f
      let valsT := selectChainedG true k1 items (condTest op1 (.str v1)) k2 f (condTest op2 (.str v2)) rs
      let valsF := selectChainedG false k1 items (condTest op1 (.str v1)) k2 f (condTest op2 (.str v2)) rs
      XPath.get fuel (.list cls xs) xp d = (.list cls xs, .ok (selected valsT d)) ∧
      getItem fuel (.list cls xs) xp = (.list cls xs, selectedItem valsT) ∧
      first fuel (.list cls xs) xp d = (.list cls xs, .ok (firstOf valsF d)) := by
  refine ⟨10 * (Seg.idx n :: rest).length + rs.length + (rs.map (sel2InnerLen items)).sum + 30, fun fuel hfuel lead hlead => ?_⟩
  have := xld_chained_api cls xs (.idx n :: rest) k1 opx1 op1 vq1 v1 items k2 opx2 op2 vq2 v2 f lc rs d hp ⟨n, rest, rfl⟩ hk1 hop1
    hlit1 hv1 hitems hk2 hop2 hlit2 hv2 hf hget hrs hg.guard hin.ok fuel hfuel lead hlead
  simp only [chainedG_eq] at this
  exact this

/-- **C06 (chained selections, the root list is the outer record list).**  `[k1 op v1]/items[k2 op v2]/f` and
`/[k1 op v1]/items[k2 op v2]/f` on an n0list `rs` of dict records: as `C06_chained_list_deep` with `P` empty. -/
theorem C06_chained_list_root (lc : Cls) (rs : List Val) (k1 opx1 op1 vq1 v1 items k2 opx2 op2 vq2 v2 f : Str) (d : Val)
    (hk1 : FieldKey k1) (hop1 : OpSpell opx1 op1) (hlit1 : LitSpell vq1 v1) (hv1 : PlainLit v1)
    (hitems : PlainKey items) (hk2 : FieldKey k2) (hop2 : OpSpell opx2 op2) (hlit2 : LitSpell vq2 v2) (hv2 : PlainLit v2)
    (hf : PlainKey f) (hrs : ∀ r ∈ rs, isDict r = true) (hg : ComparableK k1 v1 rs) (hin : InnerRecs items k2 v2 rs) :
    ∃ N, ∀ fuel ≥ N, ∀ lead ∈ [[], slash],
      let xp := lead ++ bracket (k1 ++ opx1 ++ vq1) ++ slash ++ items ++ bracket (k2 ++ opx2 ++ vq2) ++ slash ++ f
      let valsT := selectChainedG true k1 items (condTest op1 (.str v1)) k2 f (condTest op2 (.str v2)) rs
      let valsF := selectChainedG false k1 items (condTest op1 (.str v1)) k2 f (condTest op2 (.str v2)) rs
      XPath.get fuel (.list lc rs) xp d = (.list lc rs, .ok (selected valsT d)) ∧
      getItem fuel (.list lc rs) xp = (.list lc rs, selectedItem valsT) ∧
      first fuel (.list lc rs) xp d = (.list lc rs, .ok (firstOf valsF d)) := by
  refine ⟨rs.length + (rs.map (sel2InnerLen items)).sum + 26, fun fuel hfuel lead hlead => ?_⟩
  have := xld_chained_root_api lc rs k1 opx1 op1 vq1 v1 items k2 opx2 op2 vq2 v2 f d hk1 hop1
    hlit1 hv1 hitems hk2 hop2 hlit2 hv2 hf hrs hg.guard hin.ok fuel hfuel lead hlead
  simp only [chainedG_eq] at this
  exact this

/-- the orders list of `ordersRoot`; `deepOrdersRoot` puts it under a key of a dict element (`[1]/o`) and inside a nested list
(`[2][0]`) of a list root -/
def ordersRootList : List Val :=
  [.dict .n0 [(['i'], .str ['1']), (['t'], .list .n0 [.dict .n0 [(['s'], .str ['A']), (['q'], .int 1)], .dict .n0 [(['s'], .str ['B']), (['q'], .int 2)]])],
   .dict .n0 [(['i'], .str ['2']), (['t'], .list .n0 [.dict .n0 [(['s'], .str ['B']), (['q'], .int 3)]])]]
theorem ordersRoot_selT : selectChainedG true ['i'] ['t'] (condTest ['=', '='] (.str ['1'])) ['s'] ['q'] (condTest ['=', '='] (.str ['B'])) ordersRootList
    = [.list .n0 [.int 2]] := by decide
theorem ordersRoot_selF : selectChainedG false ['i'] ['t'] (condTest ['=', '='] (.str ['1'])) ['s'] ['q'] (condTest ['=', '='] (.str ['B'])) ordersRootList
    = [.int 2] := by decide
def deepOrdersRoot : Val :=
  .list .n0 [.str ['p'], .dict .n0 [(['o'], .list .n0 ordersRootList)], .list .n0 [.list .n0 ordersRootList]]
example : ordersRoot = .list .n0 ordersRootList := rfl
/-- the model on chained paths run against the implementation (identical values: `[[3]]`, `[[2]]`, `[[2], [3]]` / first `[2, 3]`,
a miss) -/
theorem C06_chained_list_deep_example :
    (XPath.getItem 90 deepOrdersRoot ['[', '1', ']', '/', 'o', '[', 'i', '=', '2', ']', '/', 't', '[', 's', '=', 'B', ']', '/', 'q']).2
      = .ok (.list .n0 [.list .n0 [.int 3]]) ∧
    (XPath.first 90 deepOrdersRoot ['/', '[', '1', ']', '/', 'o', '[', 'i', '=', '2', ']', '/', 't', '[', 's', '=', 'B', ']', '/', 'q'] .none).2
      = .ok (.int 3) ∧
    (XPath.getItem 90 deepOrdersRoot ['[', '2', ']', '[', '0', ']', '[', 'i', '=', '1', ']', '/', 't', '[', 's', '=', 'B', ']', '/', 'q']).2
      = .ok (.list .n0 [.list .n0 [.int 2]]) ∧
    (XPath.getItem 90 deepOrdersRoot ['[', '2', ']', '[', '0', ']', '[', 'i', '!', '=', '9', ']', '/', 't', '[', 's', '=', 'B', ']', '/', 'q']).2
      = .ok (.list .n0 [.list .n0 [.int 2], .list .n0 [.int 3]]) ∧
    (XPath.first 90 deepOrdersRoot ['[', '2', ']', '[', '0', ']', '[', 'i', '!', '=', '9', ']', '/', 't', '[', 's', '=', 'B', ']', '/', 'q'] .none).2
      = .ok (.list .n0 [.int 2, .int 3]) ∧
    (XPath.get 90 deepOrdersRoot ['/', '[', '2', ']', '[', '0', ']', '[', 'i', '=', '9', ']', '/', 't', '[', 's', '=', 'B', ']', '/', 'q'] (.str ['D'])).2
      = .ok (.str ['D']) ∧
    (XPath.first 90 ordersRoot ['/', '[', 'i', '!', '=', '9', ']', '/', 't', '[', 's', '=', 'B', ']', '/', 'q'] .none).2
      = .ok (.list .n0 [.int 2, .int 3]) := by
  decide +kernel
theorem ordersRoot_inner : InnerRecs ['t'] ['s'] ['B'] ordersRootList := by
  intro c kvs' x hm hl
  simp only [ordersRootList, List.mem_cons, List.not_mem_nil, or_false] at hm
  rcases hm with h | h <;> (injection h with _ h2; subst h2; simp [lookup] at hl; subst hl; left; exact ⟨_, _, rfl, by decide, by decide⟩)
example : ∃ N, ∀ fuel ≥ N,
    (XPath.getItem fuel deepOrdersRoot ['[', '2', ']', '[', '0', ']', '[', 'i', '=', '1', ']', '/', 't', '[', 's', '=', 'B', ']', '/', 'q'])
      = (deepOrdersRoot, .ok (.list .n0 [.list .n0 [.int 2]])) ∧
    (XPath.first fuel deepOrdersRoot ['[', '2', ']', '[', '0', ']', '[', 'i', '=', '1', ']', '/', 't', '[', 's', '=', 'B', ']', '/', 'q'] .none)
      = (deepOrdersRoot, .ok (.int 2)) := by
  obtain ⟨N, h⟩ := C06_chained_list_deep .n0 _ 2 [.idx 0] ['i'] ['='] _ _ ['1'] ['t'] ['s'] ['='] _ _ ['B'] ['q'] .n0 ordersRootList .none
    trivial fieldKey_i .eq1 (.bare ['1']) plainLit_1 plainKey_t fieldKey_s .eq1 (.bare ['B']) plainLit_B plainKey_q
    (show getAt deepOrdersRoot [.idx 2, .idx 0] = some (.list .n0 ordersRootList) by decide) (by decide) (by decide) ordersRoot_inner
  refine ⟨N, fun fuel hfuel => ?_⟩
  have := h fuel hfuel [] (by simp)
  simp only at this
  rw [ordersRoot_selT,
    ordersRoot_selF] at this
  exact ⟨this.2.1, this.2.2⟩
example : ∃ N, ∀ fuel ≥ N,
    (XPath.getItem fuel ordersRoot ['/', '[', 'i', '=', '2', ']', '/', 't', '[', 's', '=', 'B', ']', '/', 'q'])
      = (ordersRoot, .ok (.list .n0 [.list .n0 [.int 3]])) := by
  obtain ⟨N, h⟩ := C06_chained_list_root .n0 ordersRootList ['i'] ['='] _ _ ['2'] ['t'] ['s'] ['='] _ _ ['B'] ['q'] .none
    fieldKey_i .eq1 (.bare ['2']) plainLit_2 plainKey_t fieldKey_s .eq1 (.bare ['B']) plainLit_B plainKey_q
    (by decide) (by decide) ordersRoot_inner
  refine ⟨N, fun fuel hfuel => ?_⟩
  have := h fuel hfuel slash (by simp)
  simp only at this
  rw [show selectChainedG true ['i'] ['t'] (condTest ['=', '='] (.str ['2'])) ['s'] ['q'] (condTest ['=', '='] (.str ['B'])) ordersRootList
      = [.list .n0 [.int 3]] by decide] at this
  exact this.2.1

/-- **C06 (chained selections, record list below a list root, any spelling, string level).**  As `C06_chained_list_deep` with the
position `P` of the outer record list in any spelling (`renderSp lead steps`: prefix none, `/` or `//`, indexes as `i`, `-k`,
`last()`, `last()-k`, `i+j`, attached or a step of their own; `stepsGet` = plain Python indexing reaches the list):
`P[k1 op v1]/items[k2 op v2]/f` returns the per-parent contributions through `get` / item access (`return_lists=True`) and
`first` (`return_lists=False`); the tree is unchanged. -/
theorem C06_chained_list_deep_spelled (cls : Cls) (xs : List Val) (lead : Lead) (steps : List StepSp)
    (k1 opx1 op1 vq1 v1 items k2 opx2 op2 vq2 v2 f : Str) (lc : Cls) (rs : List Val) (d : Val)
    (hp : PlainSteps steps) (hne : steps ≠ []) (hget : stepsGet (.list cls xs) steps = some (.list lc rs))
    (hk1 : FieldKey k1) (hop1 : OpSpell opx1 op1) (hlit1 : LitSpell vq1 v1) (hv1 : PlainLit v1)
    (hitems : PlainKey items) (hk2 : FieldKey k2) (hop2 : OpSpell opx2 op2) (hlit2 : LitSpell vq2 v2) (hv2 : PlainLit v2)
    (hf : PlainKey f) (hrs : ∀ r ∈ rs, isDict r = true) (hg : ComparableK k1 v1 rs) (hin : InnerRecs items k2 v2 rs)
    (fuel : Nat) (hfuel : fuel ≥ 10 * steps.length + rs.length + (rs.map (sel2InnerLen items)).sum + 30) :
    let xp := renderSp lead steps ++ bracket (k1 ++ opx1 ++ vq1) ++ slash ++ items ++ bracket (k2 ++ opx2 ++ vq2) ++ slash ++ f
    let valsT := selectChainedG true k1 items (condTest op1 (.str v1)) k2 f (condTest op2 (.str v2)) rs
    let valsF := selectChainedG false k1 items (condTest op1 (.str v1)) k2 f (condTest op2 (.str v2)) rs
    XPath.get fuel (.list cls xs) xp d = (.list cls xs, .ok (selected valsT d)) ∧
    getItem fuel (.list cls xs) xp = (.list cls xs, selectedItem valsT) ∧
    first fuel (.list cls xs) xp d = (.list cls xs, .ok (firstOf valsF d)) := by
  have := xlds_chained_string cls xs lead steps k1 opx1 op1 vq1 v1 items k2 opx2 op2 vq2 v2 f lc rs d hp hne hget hk1 hop1
    hlit1 hv1 hitems hk2 hop2 hlit2 hv2 hf hrs hg.guard hin.ok fuel hfuel
  simp only [chainedG_eq] at this
  exact this

/-- the spelling `/[-1]/[last()]` of the position `[2][0]` of the order list in `deepOrdersRoot` -/
def deepOrdersSp : List StepSp := [.idx (.neg 1) true, .idx .last true]
example : renderSp .one deepOrdersSp = ['/', '[', '-', '1', ']', '/', '[', 'l', 'a', 's', 't', '(', ')', ']'] := by decide
/-- the model on chained paths with spelled `P`, run against the implementation (identical values: `[[2]]` / first `2`, `[[3]]`,
`[[2], [3]]` / first `[2, 3]`, a miss) -/
theorem C06_chained_list_deep_spelled_example :
    (XPath.getItem 90 deepOrdersRoot ['/', '[', '-', '1', ']', '/', '[', 'l', 'a', 's', 't', '(', ')', ']', '[', 'i', '=', '1', ']', '/', 't',
      '[', 's', '=', 'B', ']', '/', 'q']).2 = .ok (.list .n0 [.list .n0 [.int 2]]) ∧
    (XPath.first 90 deepOrdersRoot ['/', '[', '-', '1', ']', '/', '[', 'l', 'a', 's', 't', '(', ')', ']', '[', 'i', '=', '1', ']', '/', 't',
      '[', 's', '=', 'B', ']', '/', 'q'] (.str ['D'])).2 = .ok (.int 2) ∧
    (XPath.getItem 90 deepOrdersRoot ['/', '/', '[', '-', '2', ']', '/', 'o', '[', 'i', '=', '2', ']', '/', 't', '[', 's', '=', 'B', ']', '/', 'q']).2
      = .ok (.list .n0 [.list .n0 [.int 3]]) ∧
    (XPath.first 90 deepOrdersRoot ['[', 'l', 'a', 's', 't', '(', ')', ']', '[', '0', '+', '0', ']', '[', 'i', '!', '=', '9', ']', '/', 't',
      '[', 's', '=', 'B', ']', '/', 'q'] .none).2 = .ok (.list .n0 [.int 2, .int 3]) ∧
    (XPath.get 90 deepOrdersRoot ['/', '[', '-', '1', ']', '/', '[', 'l', 'a', 's', 't', '(', ')', ']', '[', 'i', '=', '9', ']', '/', 't',
      '[', 's', '=', 'B', ']', '/', 'q'] (.str ['D'])).2 = .ok (.str ['D']) := by
  decide +kernel
/-- … and through the theorem (non-vacuity): `/[-1]/[last()][i=1]/t[s=B]/q` -/
example :
    (XPath.getItem 90 deepOrdersRoot (renderSp .one deepOrdersSp ++ bracket (['i'] ++ ['='] ++ ['1']) ++ slash ++ ['t']
        ++ bracket (['s'] ++ ['='] ++ ['B']) ++ slash ++ ['q']))
      = (deepOrdersRoot, .ok (.list .n0 [.list .n0 [.int 2]])) ∧
    (XPath.first 90 deepOrdersRoot (renderSp .one deepOrdersSp ++ bracket (['i'] ++ ['='] ++ ['1']) ++ slash ++ ['t']
        ++ bracket (['s'] ++ ['='] ++ ['B']) ++ slash ++ ['q']) .none)
      = (deepOrdersRoot, .ok (.int 2)) := by
  have := C06_chained_list_deep_spelled .n0 _ .one deepOrdersSp ['i'] ['='] _ _ ['1'] ['t'] ['s'] ['='] _ _ ['B'] ['q'] .n0 ordersRootList
    .none trivial (by simp [deepOrdersSp]) (show stepsGet deepOrdersRoot deepOrdersSp = some (.list .n0 ordersRootList) by decide)
    fieldKey_i .eq1 (.bare ['1']) plainLit_1 plainKey_t fieldKey_s .eq1 (.bare ['B']) plainLit_B plainKey_q
    (by decide) (by decide) ordersRoot_inner 90 (by decide)
  simp only at this
  rw [ordersRoot_selT,
    ordersRoot_selF] at this
  exact ⟨this.2.1, this.2.2⟩


/-! ## index spellings with blanks inside the brackets (token level)

`split_name_index` strips the text between the brackets: `[ 1 ]`, `a[ -1 ]`, `[ last() ]` are index tokens for the stripped
expression (`Proofs/XPathSelTexts.lean`), so every token-level theorem above (`C06_star_spelled`, `C06_pred_spelled`,
`C06_chained_spelled` - any `Sel3Spells` token list) covers them. -/

/-- **C06 (index tokens padded with whitespace).**  For every index spelling `e` (`i`, `-k`, `last()`, `last()-k`, `i+j`) and any
whitespace paddings, `[ e ]` is an index token and `name[ e ]` a key-with-index token for the value of `e`. -/
theorem C06_idx_blank_tok (e : IdxSp) (wl wr : Str) (hwl : ∀ c ∈ wl, isPySpace c = true) (hwr : ∀ c ∈ wr, isPySpace c = true) :
    IdxTok (bracket (wl ++ e.text ++ wr)) e.text e.val ∧
    ∀ name, PlainKey name → KeyIdxTok (name ++ bracket (wl ++ e.text ++ wr)) name e.text e.val :=
  ⟨e.idxTok_pad wl wr hwl hwr, fun _ hk => e.keyIdxTok_pad hk wl wr hwl hwr⟩

/-- the token `a[ -1 ]` spells the position of the record list of `deep` … -/
def deepBlankToks : List Str := [['a'] ++ bracket ([' '] ++ (IdxSp.neg 1).text ++ [' '])]
example : deepBlankToks = [['a', '[', ' ', '-', '1', ' ', ']']] := by decide
theorem deep_blank_spelled : Sel3Spells deepBlankToks deep [.key ['a'], .idx 1] (.list .plain recsList) :=
  .keyIdx ((C06_idx_blank_tok (.neg 1) [' '] [' '] (by decide) (by decide)).2 _ plainKey_a) plainKey_a rfl (by decide) rfl (.nil _)
/-- … so `C06_pred_spelled` speaks of `a[ -1 ]`,`[k=1]`,`f` and `a[ -1 ]`,`k[text()=1]`,`..`,`f` (non-vacuity) -/
example : ∀ tail ∈ [[bracket (['k'] ++ ['='] ++ ['1']), ['f']], [['k'] ++ bracket (sTextFn ++ ['='] ++ ['1']), ['.', '.'], ['f']]],
    ∃ r, findD 40 deep [] false true (deepBlankToks ++ tail) (.at []) true slash = .ok (deep, r) ∧
      r.value = .list .n0 [.str ['x'], .str ['y']] := by
  intro tail htail
  obtain ⟨r, hr, hf, hv⟩ := (C06_pred_spelled deep true deepBlankToks _ _ recsList ['k'] ['f'] ['='] _ _ ['1'] deep_blank_spelled
    fieldKey_k plainKey_f .eq1 (.bare ['1']) plainLit_1 (by decide) (by decide) 40 (by decide)).1 tail htail
  rw [recsList_sel] at hf hv
  exact ⟨r, hr, hv (by simpa using hf)⟩
/-- the model on the STRINGS `a[ -1 ][k=1]/f`, `/a/[ last() ]/k[text()=1]/../f`, `a[ 0 + 1 ][*]/f` (tokenised as above; the real code
returns the same `['x', 'y']`) -/
theorem C06_idx_blank_example :
    tokenize ['a', '[', ' ', '-', '1', ' ', ']', '[', 'k', '=', '1', ']', '/', 'f'] = deepBlankToks ++ [['[', 'k', '=', '1', ']'], ['f']] ∧
    (XPath.getItem 60 deep ['a', '[', ' ', '-', '1', ' ', ']', '[', 'k', '=', '1', ']', '/', 'f']).2
      = .ok (.list .n0 [.str ['x'], .str ['y']]) ∧
    (XPath.getItem 60 deep ['/', 'a', '/', '[', ' ', 'l', 'a', 's', 't', '(', ')', ' ', ']', '/', 'k', '[', 't', 'e', 'x', 't', '(', ')', '=', '1', ']',
      '/', '.', '.', '/', 'f']).2 = .ok (.list .n0 [.str ['x'], .str ['y']]) ∧
    (XPath.getItem 60 deep ['a', '[', ' ', '0', ' ', '+', ' ', '1', ' ', ']', '[', '*', ']', '/', 'f']).2
      = .ok (.list .n0 [.str ['x'], .str ['y']]) := by
  decide +kernel


/-! ## literal values a condition cannot express (finding C06-g, open)

`PlainLit v` (the hypothesis of every predicate theorem above) excludes blanks, quotes, brackets, `/`, `=`, `~`, `*`, `?`, `%` and the
texts `true()` / `false()`.  The property quantifies over "all literal values v occurring or not occurring in the data … quoted or
unquoted v"; for a value outside `PlainLit` that DOES occur in the data the engine selects nothing (or other records): the path is
split on `/` before the quotes are looked at, the operator table is searched inside the quotes, and the parsed condition is written
back to text and parsed again twice (`[k=='v']`, then `[text()==v]`), each time stripping blanks and one layer of quotes (and
percent-decoding).  Counter-examples, evaluated by the model (which agrees with the implementation on them); the reference
comprehension selects the record in every case. -/

def litTree (v : Str) : Val :=
  .dict .n0 [(['r'], .list .n0 [.dict .n0 [(['k'], .str v), (['f'], .str ['h', 'i', 't'])], .dict .n0 [(['k'], .str ['A']), (['f'], .str ['o'])]])]
def litRecs (v : Str) : List Val :=
  [.dict .n0 [(['k'], .str v), (['f'], .str ['h', 'i', 't'])], .dict .n0 [(['k'], .str ['A']), (['f'], .str ['o'])]]

/-- **C06-g, `~` inside a quoted literal**: `r[k='a~b']/f` misses although one record has `k == 'a~b'` (the operator table finds
`~` inside the quotes: key `k='a`, value `b'`); the `text()` form misses too -/
theorem C06_literal_tilde_cex :
    selectWhere ['k'] ['f'] (fieldEq ['a', '~', 'b']) (litRecs ['a', '~', 'b']) = [.str ['h', 'i', 't']] ∧
    (XPath.get 60 (litTree ['a', '~', 'b']) ['r', '[', 'k', '=', '\'', 'a', '~', 'b', '\'', ']', '/', 'f'] (.str ['D'])).2 = .ok (.str ['D']) ∧
    (XPath.get 60 (litTree ['a', '~', 'b'])
      ['r', '/', 'k', '[', 't', 'e', 'x', 't', '(', ')', '=', '\'', 'a', '~', 'b', '\'', ']', '/', '.', '.', '/', 'f'] (.str ['D'])).2
      = .ok (.str ['D']) := by
  decide +kernel

/-- **C06-g, `/` inside a quoted literal**: `r[k='a/b']/f` misses (the path is split on `/` first: tokens `r[k='a` and `b']`) -/
theorem C06_literal_slash_cex :
    selectWhere ['k'] ['f'] (fieldEq ['a', '/', 'b']) (litRecs ['a', '/', 'b']) = [.str ['h', 'i', 't']] ∧
    (XPath.get 60 (litTree ['a', '/', 'b']) ['r', '[', 'k', '=', '\'', 'a', '/', 'b', '\'', ']', '/', 'f'] (.str ['D'])).2 = .ok (.str ['D']) := by
  decide +kernel

/-- **C06-g, a blank at the beginning of a quoted literal - the two forms the property declares equivalent differ**: `r[k=' x']/f`
misses (the re-serialised `[text()== x]` is stripped), `r/k[text()=' x']/../f` selects the record -/
theorem C06_literal_blank_cex :
    selectWhere ['k'] ['f'] (fieldEq [' ', 'x']) (litRecs [' ', 'x']) = [.str ['h', 'i', 't']] ∧
    (XPath.get 60 (litTree [' ', 'x']) ['r', '[', 'k', '=', '\'', ' ', 'x', '\'', ']', '/', 'f'] (.str ['D'])).2 = .ok (.str ['D']) ∧
    (XPath.get 60 (litTree [' ', 'x'])
      ['r', '/', 'k', '[', 't', 'e', 'x', 't', '(', ')', '=', '\'', ' ', 'x', '\'', ']', '/', '.', '.', '/', 'f'] (.str ['D'])).2
      = .ok (.list .n0 [.str ['h', 'i', 't']]) := by
  decide +kernel

/-- **C06-g, a literal that is itself quoted**: `r[k="'a'"]/f` misses (the second parse takes the inner quotes off too), the
`text()` form selects the record -/
theorem C06_literal_quoted_cex :
    selectWhere ['k'] ['f'] (fieldEq ['\'', 'a', '\'']) (litRecs ['\'', 'a', '\'']) = [.str ['h', 'i', 't']] ∧
    (XPath.get 60 (litTree ['\'', 'a', '\'']) ['r', '[', 'k', '=', '"', '\'', 'a', '\'', '"', ']', '/', 'f'] (.str ['D'])).2 = .ok (.str ['D']) ∧
    (XPath.get 60 (litTree ['\'', 'a', '\''])
      ['r', '/', 'k', '[', 't', 'e', 'x', 't', '(', ')', '=', '"', '\'', 'a', '\'', '"', ']', '/', '.', '.', '/', 'f'] (.str ['D'])).2
      = .ok (.list .n0 [.str ['h', 'i', 't']]) := by
  decide +kernel

/-- the same paths with a plain literal select the record (the witnesses are not vacuous) -/
example : (XPath.get 60 (litTree ['a', 'b']) ['r', '[', 'k', '=', '\'', 'a', 'b', '\'', ']', '/', 'f'] (.str ['D'])).2
    = .ok (.list .n0 [.str ['h', 'i', 't']]) := by decide +kernel

end N0.C06
