import N0Verif.Proofs.Compare
import N0Verif.Proofs.CompareFlags
import N0Verif.Proofs.CompareKeyed
/-!
# C07 — the compare verdict is exact

Model: `N0Verif/Model/Compare.lean` (the code with fix patches C07-a, C08-a, C09-a, C07-b, C07-c, C09-b, C10-a and C07-d, C08-b, C10-c applied;
the numeric delta of a not-equal pair is a flag of the entry — `NE.delta` — and never raises, fix C07-d).
Floats are opaque lexemes, compared as texts: a `nan` leaf (which Python reports as different from itself), the pair
`0.0` / `-0.0` (`C07_negzero_cex`) and an `int` of more than 4300 digits in a keyed list (finding C07-f: `json.dumps`
raises) are outside what the theorems below say about the code.
-/
namespace N0.C07
open N0 N0.Compare

/-- **C07 (flag machine).** Every configuration reachable through any history of
`set__flag_compare_*` calls satisfies the invariant `FlagInv` … -/
theorem C07_reachable (seq : List (Setter × Bool)) : FlagInv (Flags.init.run seq) :=
  flagInv_run seq Flags.init (by decide)

/-- … and every configuration satisfying the invariant is reached by some history.  The
theorems below are stated for **every** flag record, which therefore covers exactly (and more
than) the reachable ones. -/
theorem C07_reachable_iff (f : Flags) : FlagInv f ↔ ∃ seq, Flags.init.run seq = f :=
  ⟨fun h => ⟨historyFor f, historyFor_run f h⟩, fun ⟨seq, h⟩ => h ▸ C07_reachable seq⟩

/-- **C07 (ordered comparison).** For recursively converted trees with roots of the same kind,
under every flag record, `direct_compare` returns a result, and its `differences` list is empty
iff the trees are structurally equal (`deq`: same constructor, same key set with equal values,
same list length and order, leaves equal with equal type, `None` equal only to `None`).  No `uniqKeys` is asked: `deq`
matches an entry through the first occurrence of its key, as the run does. -/
theorem C07_direct_exact (fl : Flags) (a b : Val) (ha : isN0 a = true) (hb : isN0 b = true)
    (hr : RootPair a b) :
    ∃ r, compareTop (Cfg.default fl true) a b = .ok r ∧ (r.diffs = 0 ↔ deq a b = true) := by
  rw [compareTop_eq_sub _ a b hr]
  exact sub_direct_exact _ (noOpts_default fl true) rfl .entry [] a b ha hb (rootPair_ty hr).1 (rootPair_ty hr).2

/-- **C07 (default comparison).** For recursively converted trees with roots of the same kind, under every flag
record, `compare` (no composite key, no options) returns a result, and its `differences` list is empty iff the trees
are equal up to the order of the non-record items inside each list (`eqv`: dictionaries with the same key set and
`eqv` values; lists whose record items are pairwise `eqv` in order and whose non-record items are the same up to
structural equality `deq` — every item occurs, up to `deq`, equally often in both lists; in particular `1`, `'1'`,
`1.0`, `True`, `None`, `'None'`, `''` are all different items, and a nested list does not depend on the order of the
keys of the dictionaries inside it: the classes of the fixed findings C07-b and C07-c are inside the theorem).

The one hypothesis left, `KeyFaithfulOn a b`, is a statement about the key function, not about the inputs: the
key of the non-record list items of the two trees — `json.dumps(item, sort_keys=True, default=repr)`, `jsonVal` —
identifies them exactly up to `deq` and is never empty.  It is true of `json.dumps` on genuine Python values; it is
not derivable in the model, where floats are opaque lexemes (`C07_float_lexeme_cex`: the lexeme `1`), and it
cannot be dropped (`C07_key_hypothesis_tight`). -/
theorem C07_default_exact (fl : Flags) (a b : Val) (ha : isN0 a = true) (hb : isN0 b = true)
    (hr : RootPair a b) (hc : KeyFaithfulOn a b) :
    ∃ r, compareTop (Cfg.default fl false) a b = .ok r ∧ (r.diffs = 0 ↔ eqv a b) :=
  default_exact fl a b ha hb hr hc

/-- the statement without any hypothesis on the key; false **in the model only** (`C07_float_lexeme_cex`: a float
whose lexeme is `1` has the key of the `int` 1 — not a Python value), not a finding -/
def C07_default_exact_stmt : Prop :=
  ∀ (fl : Flags) (a b : Val), isN0 a = true → isN0 b = true → RootPair a b → uniqKeys a = true →
    uniqKeys b = true → ∃ r, compareTop (Cfg.default fl false) a b = .ok r ∧ (r.diffs = 0 ↔ eqv a b)

theorem C07_float_lexeme_cex :
    (compareTop (Cfg.default Flags.init false) cexF1 cexF2).map Res.diffs = .ok 2 ∧ eqv cexF1 cexF2 ∧
      jsonVal (.flt ['1']) = jsonVal (.int 1) :=
  ⟨float_lexeme_cex.1, float_lexeme_eqv, float_lexeme_cex.2.2.2.2.2.2⟩

/-- **finding C07-e** (open): the two float zeros.  In Python `0.0 == -0.0` (and `direct_compare` reports nothing), but
the key of a non-record list item is its JSON text and `json.dumps` writes `0.0` and `-0.0`: the default compare of
`{'a': [0.0]}` against `{'a': [-0.0]}` reports both items as unique.  In the model floats are opaque lexemes (two
lexemes are two values), so the model can only show the two keys and the two lines; that the two values are equal
is the Python fact the harness oracle (`eqv` with `==`) supplies — evaluator `verdict/floats`, classifier
`negzero_class`.  `KeyFaithfulOn` holds for this pair in the model (`deq` on lexemes), the float model is what hides it. -/
theorem C07_negzero_cex :
    jsonVal (.flt ['0', '.', '0']) ≠ jsonVal (.flt ['-', '0', '.', '0']) ∧
    (compareTop (Cfg.default Flags.init false) (.dict .n0 [(['a'], .list .n0 [.flt ['0', '.', '0']])])
      (.dict .n0 [(['a'], .list .n0 [.flt ['-', '0', '.', '0']])])).map
        (fun r => (r.diffs, r.selfUnique.length, r.otherUnique.length)) = .ok (2, 1, 1) := by
  decide +kernel

theorem C07_default_exact_stmt_false_in_model : ¬ C07_default_exact_stmt := by
  intro h
  obtain ⟨h1, h3, h4, h5, h6, h7, _⟩ := float_lexeme_cex
  obtain ⟨r, hr, hiff⟩ := h Flags.init cexF1 cexF2 h3 h4 h5 h6 h7
  rw [hr] at h1
  have : r.diffs = 2 := by simpa [Except.map] using h1
  have := hiff.2 float_lexeme_eqv
  omega

/-- **the hypothesis on the key is tight.**  For ANY two distinct leaves (scalars or `None`) with the same key, the
lists `[x, y]` and `[y, x]` are equal up to order and the default comparison reports two differences. -/
theorem C07_key_hypothesis_tight (fl : Flags) (x y : Val) (hx : DtLeaf x) (hy : DtLeaf y) (hne : x ≠ y)
    (hs : jsonVal x = jsonVal y) :
    (∃ r, compareTop (Cfg.default fl false) (.list .n0 [x, y]) (.list .n0 [y, x]) = .ok r ∧ r.diffs = 2) ∧
      eqv (.list .n0 [x, y]) (.list .n0 [y, x]) :=
  dt_tight fl x y hx hy hne hs

/-- fixed finding C07-b: `{'a': [1, '1']}` and `{'a': ['1', 1]}` are equal up to order and nothing is reported
(keys `1` and `"1"`; before the fix `str(1) == str('1')` paired `1` with `'1'`: two differences) -/
theorem C07_collision_fixed :
    (compareTop (Cfg.default Flags.init false) cexA cexB).map Res.diffs = .ok 0 ∧
      isN0 cexA = true ∧ isN0 cexB = true ∧ RootPair cexA cexB ∧ uniqKeys cexA = true ∧ uniqKeys cexB = true :=
  ⟨by decide +kernel, by decide +kernel, by decide +kernel, trivial, by decide +kernel, by decide +kernel⟩

/-- fixed: the empty string has the key `""`, not the key `''` of every record: `['', {}]` vs `[{}, '']` -/
theorem C07_emptykey_fixed :
    (compareTop (Cfg.default Flags.init false) cexE1 cexE2).map Res.diffs = .ok 0 := by decide +kernel

/-- fixed finding C07-c: `{'a': [[{'x': 1, 'y': 2}]]}` vs `{'a': [[{'y': 2, 'x': 1}]]}` — the key of the nested list
is written with sorted dictionary keys, the two inner lists meet and are compared key by key -/
theorem C07_keyorder_fixed :
    (compareTop (Cfg.default Flags.init false) cexO1 cexO2).map Res.diffs = .ok 0 ∧
      jsonVal (.list .n0 [.dict .n0 [(['x'], .int 1), (['y'], .int 2)]])
        = jsonVal (.list .n0 [.dict .n0 [(['y'], .int 2), (['x'], .int 1)]]) ∧
      deq (.list .n0 [.dict .n0 [(['x'], .int 1), (['y'], .int 2)]])
        (.list .n0 [.dict .n0 [(['y'], .int 2), (['x'], .int 1)]]) = true := by decide +kernel

/-- a tree (unique dictionary keys) compared with itself reports nothing -/
theorem C07_default_refl (fl : Flags) (a : Val) (ha : isN0 a = true) (hr : RootPair a a)
    (hua : uniqKeys a = true) (hc : KeyFaithfulOn a a) :
    ∃ r, compareTop (Cfg.default fl false) a a = .ok r ∧ r.diffs = 0 := by
  obtain ⟨r, h1, h2⟩ := default_exact fl a a ha ha hr hc
  exact ⟨r, h1, h2.2 (eqv_refl_uniq a hua)⟩

/-- **C07 (flags only add detail).** For every option record and every two flag records the two
runs either fail with the same exception class or both return, with the same number of `differences`
lines and the same core entries (`CoreEq`: differing pairs, type clashes — wherever the types flag
files them —, unique items with their places); numeric deltas, equal-lists and whether the place is
shown are the detail that varies.  Both entry points, all options. -/
theorem C07_flags_only_add_detail (cfg : Cfg) (fl' : Flags) (a b : Val) :
    RelE cfg.fl.types fl'.types (compareTop cfg a b) (compareTop (cfg.withFlags fl') a b) :=
  compareTop_flags cfg fl' a b

/-- in particular the verdict (`differences` empty / not empty / exception) is the same -/
theorem C07_verdict_flags (cfg : Cfg) (fl' : Flags) (a b : Val) :
    verdict (compareTop cfg a b) = verdict (compareTop (cfg.withFlags fl') a b) :=
  relE_verdict (compareTop_flags cfg fl' a b)

example : FlagInv (Flags.init.run [(.equal, true), (.elements, true), (.records, false)]) := C07_reachable _
example : Flags.init.run [(.equal, true), (.elements, true), (.records, false)]
    = ⟨false, false, true, false, true, true⟩ := by decide +kernel
example : ¬ FlagInv ⟨false, false, true, true, true, true⟩ := by decide +kernel

/-- `{'a': [1, {'w': [None]}], 'b': 'x'}` and the same tree with the keys in the other order -/
def exA : Val := .dict .n0 [(['a'], .list .n0 [.int 1, .dict .n0 [(['w'], .list .n0 [.none])]]), (['b'], .str ['x'])]
def exA' : Val := .dict .n0 [(['b'], .str ['x']), (['a'], .list .n0 [.int 1, .dict .n0 [(['w'], .list .n0 [.none])]])]
example : isN0 exA = true ∧ deq exA exA' = true := by decide +kernel
example : RootPair exA exA' := trivial
example : (compareTop (Cfg.default Flags.init true) exA exA').map (·.diffs) = .ok 0 := by
  obtain ⟨r, hr, hiff⟩ := C07_direct_exact Flags.init exA exA' (by decide +kernel) (by decide +kernel) trivial
  rw [hr]
  exact congrArg Except.ok (hiff.2 (by decide +kernel))

/-- `True` is not `1`, a shorter list, an extra key on each side: four lines -/
def exB : Val := .dict .n0 [(['a'], .list .n0 [.bool true, .int 2]), (['k'], .none)]
def exB' : Val := .dict .n0 [(['a'], .list .n0 [.int 1]), (['f'], .none)]
example : deq exB exB' = false := by decide +kernel
example : (compareTop (Cfg.default Flags.init true) exB exB').map (·.diffs) = .ok 4 := by decide +kernel

/-- the same pair with every flag but `elements` switched: the one type clash (`True` vs `1`) moves to `difftypes`, the count stays -/
example : (compareTop (Cfg.default Flags.init true) exB exB').map (fun r => (r.diffs, r.diffTypes.length))
    = .ok (4, 0) := by decide +kernel
example : (compareTop (Cfg.default ⟨true, true, true, true, false, false⟩ true) exB exB').map (fun r => (r.diffs, r.diffTypes.length))
    = .ok (4, 1) := by decide +kernel

/-- `{'a': [1, {'k': None}, 'x', [2]]}` vs `{'a': [[2], 'x', {'k': None}, 1]}`: the non-record items are
permuted, nothing is reported by `compare`, four lines by `direct_compare` -/
def exP : Val := .dict .n0 [(['a'], .list .n0 [.int 1, .dict .n0 [(['k'], .none)], .str ['x'], .list .n0 [.int 2]])]
def exP' : Val := .dict .n0 [(['a'], .list .n0 [.list .n0 [.int 2], .str ['x'], .dict .n0 [(['k'], .none)], .int 1])]
example : isN0 exP = true ∧ isN0 exP' = true ∧ uniqKeys exP = true ∧ uniqKeys exP' = true := by decide +kernel
example : (compareTop (Cfg.default Flags.init false) exP exP').map Res.diffs = .ok 0 := by decide +kernel
example : (compareTop (Cfg.default Flags.init true) exP exP').map Res.diffs = .ok 4 := by decide +kernel
/-- non-vacuity of `C07_default_exact`: the key is faithful on the non-record items of this pair -/
example : KeyFaithfulOn exP exP' := keyFaithfulOn_of_items (by decide +kernel) (by decide +kernel)
/-- … and on the pair of fixed finding C07-c (a nested list holding a dictionary with two keys) -/
example : KeyFaithfulOn cexO1 cexO2 := keyFaithfulOn_cexO
example : eqv cexO1 cexO2 := by
  obtain ⟨r, hr, hiff⟩ :=
    C07_default_exact Flags.init cexO1 cexO2 (by decide +kernel) (by decide +kernel) trivial keyFaithfulOn_cexO
  have h0 := C07_keyorder_fixed.1
  rw [hr] at h0
  exact hiff.1 (by simpa [Except.map] using h0)
/-- the keys of its non-record items: `1`, `"x"`, `[2]` -/
example : jsonVal (.int 1) = ['1'] ∧ jsonVal (.str ['x']) = ['"', 'x', '"'] ∧ jsonVal (.list .n0 [.int 2]) = ['[', '2', ']'] := by
  decide +kernel
/-- a cross-type pair `1` against `'1'`: unique on both sides (two lines), and not `eqv` -/
example : (compareTop (Cfg.default Flags.init false) (.list .n0 [.int 1]) (.list .n0 [.str ['1']])).map
    (fun r => (r.diffs, r.selfUnique.length, r.otherUnique.length)) = .ok (2, 1, 1) := by decide +kernel
/-- non-vacuity of the tightness theorem: the float lexeme `1` against the `int` 1 -/
example : DtLeaf (.flt ['1']) ∧ DtLeaf (.int 1) ∧ Val.flt ['1'] ≠ .int 1 ∧ jsonVal (.flt ['1']) = jsonVal (.int 1) := by
  refine ⟨Or.inl rfl, Or.inl rfl, by decide +kernel, by decide +kernel⟩

end N0.C07
