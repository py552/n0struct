import N0Verif.Proofs.ComparePerm
import N0Verif.Proofs.CompareKeyVals
import N0Verif.Proofs.CompositeKeysGenEq
/-!
# C08 — keyed unordered compare ignores order and classifies every record exactly once

Model: `N0Verif/Model/Compare.lean` (the code with fix patches C07-a, C08-a, C09-a, C07-b, C07-c, C09-b, C10-a and
C08-b, C10-c applied — the composite key is handed down unchanged to the keyed lists nested inside records, and the
key of a record is the JSON text of the dictionary of its key fields: `fieldsKey (recFields …)`).
`NoPathOpts cfg`: no `compare_only`, `exclude_xpaths`, `transform`; the composite key `cfg.ck` is
arbitrary (single field, several fields, given as `str` or tuple).  `keyP cfg` is the composite key of
a list element as a pure function; `PermTree v v'`: `v'` is `v` with the lists inside it permuted at
every depth; `UniqueKeys cfg v`: in every list inside `v` the composite keys are pairwise different, the
elements are not themselves lists and the key fields of records are scalars.
`UniqueVals cfg v`: the same stated on the VALUES of the key fields (`itemId`), with `KeyInjIn` — the key text tells
apart the items of one list that differ in their key-field values — as the bridge (fix C08-b makes it true of the
implementation: 7 / '7', None / 'None', a value containing ';field=' do not share a key).
-/
namespace N0.C08
open N0 N0.Compare

/-- **C08 (permutation invariance).** With composite keys unique within each list, permuting the
lists of either operand — at any depth of the enclosing trees, also the keyed lists nested inside
records — never changes the verdict of the keyed compare … -/
theorem C08_perm_invariant (cfg : Cfg) (h : NoPathOpts cfg) (hd : cfg.direct = false) {a a' b b' : Val}
    (ha : PermTree a a') (hb : PermTree b b') (hua : UniqueKeys cfg a) (hub : UniqueKeys cfg b) :
    verdict (compareTop cfg a b) = verdict (compareTop cfg a' b') :=
  perm_invariant cfg h hd ha hb hua hub

/-- … nor the number of `differences` lines (`okD ∘ dE`: the count, or `none` for an exception). -/
theorem C08_perm_invariant_lines (cfg : Cfg) (h : NoPathOpts cfg) (hd : cfg.direct = false) {a a' b b' : Val}
    (ha : PermTree a a') (hb : PermTree b b') (hua : UniqueKeys cfg a) (hub : UniqueKeys cfg b) :
    okD (dE (compareTop cfg a b)) = okD (dE (compareTop cfg a' b')) :=
  perm_invariant_lines cfg h hd ha hb hua hub

/-- **C08 (permutation invariance, uniqueness stated on VALUES).**  `UniqueVals`: in every list the items have
pairwise different identities — the `(field, value)` pairs of the key fields of a record, the value of any other
item; nothing is said about texts.  `KeyInjIn`: within each list the key text (JSON text of the key fields, fix
C08-b) is injective on those identities — true of `json.dumps` on Python values, carried as a hypothesis because
floats are opaque lexemes in the model (cf. `KeyFaithfulOn` in C07); `C08_key_type_separation` proves the part of
it that the defect violated. -/
theorem C08_perm_invariant_values (cfg : Cfg) (h : NoPathOpts cfg) (hd : cfg.direct = false) {a a' b b' : Val}
    (ha : PermTree a a') (hb : PermTree b b') (hua : UniqueVals cfg a) (hub : UniqueVals cfg b)
    (hia : KeyInjIn cfg a) (hib : KeyInjIn cfg b) :
    verdict (compareTop cfg a b) = verdict (compareTop cfg a' b') :=
  perm_invariant cfg h hd ha hb (ckv_uniqueKeys cfg a hua hia) (ckv_uniqueKeys cfg b hub hib)

/-- `UniqueVals` + `KeyInjIn` give the `UniqueKeys` of the other theorems -/
theorem C08_unique_values_unique_keys (cfg : Cfg) (v : Val) (hu : UniqueVals cfg v) (hi : KeyInjIn cfg v) :
    UniqueKeys cfg v :=
  ckv_uniqueKeys cfg v hu hi

/-- **the key keeps types apart** (proved, no hypothesis on the values): two records keyed by one field whose values
are leaves of different type (`None`, `bool`, `int`, `str`; floats are opaque lexemes) never have the same key —
`{'id': 7}` / `{'id': '7'}`, `{'id': None}` / `{'id': 'None'}`, `True` / `'True'`, `1` / `True` -/
theorem C08_key_type_separation (cfg : Cfg) (f : Str) (hck : cfg.ck.pats = [f]) (c c' : Cls)
    (kvs kvs' : List (Str × Val)) (v w : Val)
    (hl : Val.lookup f kvs = some v) (hl' : Val.lookup f kvs' = some w)
    (hv : headClass v < 4) (hw : headClass w < 4) (hne : headClass v ≠ headClass w) :
    keyP cfg (.dict c kvs) ≠ keyP cfg (.dict c' kvs') := by
  intro he
  simp only [keyP, hck, recFields, hl, hl', setField, fieldsKey, jsonVal, jsonKvs, sortMembers, insertMember,
    List.map_cons, List.map_nil, joinItems, memberText] at he
  have h1 := (List.cons.inj he).2
  have h2 := List.append_cancel_left (by simpa [List.append_assoc] using h1 :
    (jsonStr f ++ [':', ' ']) ++ (jsonVal v ++ ['}']) = (jsonStr f ++ [':', ' ']) ++ (jsonVal w ++ ['}']))
  exact ckv_json_type_sep v w hv hw hne (List.append_cancel_right h2)

/-- **C08 (classification).** One keyed level with unique keys, every option record under which the list itself is not
excluded: the result is
the results of the matched pairs (each left element whose key occurs on the right, compared with the
element carrying that key — `matchedRes`), followed by one self-unique entry for each left element whose
key is absent on the right and one other-unique entry for each right element whose key is absent on the
left (`keyedTail` of exactly those elements, each with its own index).  Every record is classified
exactly once. -/
theorem C08_classification (cfg : Cfg) (hd : cfg.direct = false) (site : Site) (p : Path)
    (hx : excluded cfg p = false) (c c' : Cls) (xs ys : List Val) (ks ko : List Str)
    (hks : keysOf cfg p 0 xs = .ok ks) (hko : keysOf cfg p 0 ys = .ok ko) (hn : ks.Nodup) (hno : ko.Nodup) :
    sub cfg site p (.list c xs) (.list c' ys) =
      seqR (matchedRes cfg p (.list .n0 xs) (.list .n0 ys) (mkEntries 0 ko ys) 0 ks xs)
        (.ok (keyedTail p
          ((mkEntries 0 ks xs).filter (fun e => (findKey e.1 (mkEntries 0 ko ys)).isNone))
          ((mkEntries 0 ko ys).filter (fun e => decide (e.1 ∉ ks))))) :=
  sub_keyed_char cfg hd site p hx c c' xs ys ks ko hks hko hn hno

/-- the same as a count: one line for a key present on the left only, the lines of the pair for a key
present on both sides (none if the pair is equal), one line for each key present on the right only -/
theorem C08_classification_lines (cfg : Cfg) (h : NoPathOpts cfg) (hd : cfg.direct = false) (site : Site)
    (p : Path) (c c' : Cls) (xs ys : List Val)
    (hn : (xs.map (keyP cfg)).Nodup) (hno : (ys.map (keyP cfg)).Nodup) :
    dE (sub cfg site p (.list c xs) (.list c' ys)) = levelD cfg xs ys :=
  sub_keyed_diffs cfg h hd site p c c' xs ys hn hno

/-- the number of lines does not depend on where the pair sits in the enclosing trees -/
theorem C08_prefix_independent (cfg : Cfg) (h : NoPathOpts cfg) (site : Site) (p p' : Path) (v w : Val) :
    (sub cfg site p v w).map (·.diffs) = (sub cfg site p' v w).map (·.diffs) :=
  sub_pref cfg h site p p' v w

/-- the hypothesis "unique within each list" is needed: two records with the same key -/
theorem C08_needs_unique_keys_cex :
    verdict (compareTop cexCfg (.list .n0 [cexRec 1 1, cexRec 1 2]) (.list .n0 [cexRec 1 1, cexRec 1 2])) = some true ∧
    verdict (compareTop cexCfg (.list .n0 [cexRec 1 1, cexRec 1 2]) (.list .n0 [cexRec 1 2, cexRec 1 1])) = some false := by
  decide +kernel

/-- a list nested directly in a list is keyed by its JSON text, which is not stable under permutation -/
theorem C08_needs_stable_keys_cex :
    verdict (compareTop cexCfg (.list .n0 [.list .n0 [.int 1, .int 2]]) (.list .n0 [.list .n0 [.int 1, .int 2]])) = some true ∧
    verdict (compareTop cexCfg (.list .n0 [.list .n0 [.int 2, .int 1]]) (.list .n0 [.list .n0 [.int 1, .int 2]])) = some false := by
  decide +kernel

/-! Non-vacuity: `{'r': [{'id': '1', 't': [{'id': 'a', 'v': 1}, {'id': 'b', 'v': 2}]}, {'id': '2'}]}`
against the same tree with `r` and the nested `t` swapped (the witness of the repaired defect
C08-a) and one payload leaf changed. -/
def idK : Str := ['i', 'd']
def item (i : Char) (v : Int) : Val := .dict .n0 [(idK, .str [i]), (['v'], .int v)]
def exA : Val := .dict .n0 [(['r'], .list .n0 [.dict .n0 [(idK, .str ['1']), (['t'], .list .n0 [item 'a' 1, item 'b' 2])], .dict .n0 [(idK, .str ['2'])]])]
def exA' : Val := .dict .n0 [(['r'], .list .n0 [.dict .n0 [(idK, .str ['2'])], .dict .n0 [(idK, .str ['1']), (['t'], .list .n0 [item 'b' 2, item 'a' 1])]])]
def exB : Val := .dict .n0 [(['r'], .list .n0 [.dict .n0 [(idK, .str ['1']), (['t'], .list .n0 [item 'a' 1, item 'b' 3])], .dict .n0 [(idK, .str ['2'])]])]
def exCfg : Cfg := { Cfg.default Flags.init false with ck := .many [idK] }
example : NoPathOpts exCfg := ⟨rfl, rfl, rfl⟩
example : PermTree exA exA' := by
  refine .dict _ (.cons _ (.list _ (List.Perm.swap _ _ []) (.cons (.dict _ (.cons _ (.str _) .nil)) (.cons (.dict _ (.cons _ (.str _) (.cons _ ?_ .nil))) .nil))) .nil)
  exact .list _ (List.Perm.swap _ _ []) (.cons (.dict _ (.cons _ (.str _) (.cons _ (.int _) .nil))) (.cons (.dict _ (.cons _ (.str _) (.cons _ (.int _) .nil))) .nil))
example : UniqueKeys exCfg exA := by
  simp only [UniqueKeys, UniqueKeysK, UniqueKeysL, itemOk, exA, item, and_true, true_and]
  decide +kernel
example : (compareTop exCfg exA exA').map (·.diffs) = .ok 0 := by decide +kernel
example : (compareTop exCfg exA' exB).map (fun r => (r.diffs, r.notEqual.map (·.path)))
    = .ok (1, [[.key ['r'], .idx2 1 0, .key ['t'], .idx2 0 1, .key ['v']]]) := by decide +kernel

/-! The inputs of the repaired defect C08-b are inside the theorems: `[{'id': 7, 'v': 1}, {'id': '7', 'v': 2}]` against
itself reversed (before the fix: four differences, the same list against itself none), `{'id': 7}` against
`{'id': '7'}` (two unique records, not one "not equal" leaf), and a value that imitates the old separator. -/
def r7i : Val := .dict .n0 [(idK, .int 7), (['v'], .int 1)]
def r7s : Val := .dict .n0 [(idK, .str ['7']), (['v'], .int 2)]
theorem C08_int_str_key_fixed :
    (compareTop exCfg (.list .n0 [r7i, r7s]) (.list .n0 [r7s, r7i])).map (·.diffs) = .ok 0 ∧
    (compareTop exCfg (.list .n0 [r7i]) (.list .n0 [.dict .n0 [(idK, .str ['7']), (['v'], .int 1)]])).map
      (fun r => (r.diffs, r.selfUnique.length, r.otherUnique.length, r.notEqual.length)) = .ok (2, 1, 1, 0) := by
  decide +kernel
example : keyP exCfg r7i ≠ keyP exCfg r7s :=
  C08_key_type_separation exCfg idK rfl _ _ _ _ (.int 7) (.str ['7']) rfl rfl (by decide) (by decide) (by decide)
example : UniqueVals exCfg (.list .n0 [r7i, r7s]) := by
  simp only [UniqueVals, UniqueValsL, UniqueValsK, itemOk, r7i, r7s, and_true]
  decide +kernel
example : KeyInjIn exCfg (.list .n0 [r7i, r7s]) := by
  simp only [KeyInjIn, KeyInjInL, KeyInjInK, r7i, r7s, List.mem_cons, List.not_mem_nil, or_false, and_true]
  intro x hx y hy
  rcases hx with rfl | rfl <;> rcases hy with rfl | rfl <;> decide
/-- `{'a': '1;b=2'}` and `{'a': '1', 'b': '2'}` under `composite_key=('a', 'b')`: different keys (unique on each side) -/
theorem C08_separator_fixed :
    (compareTop { exCfg with ck := .many [['a'], ['b']] }
      (.list .n0 [.dict .n0 [(['a'], .str ['1', ';', 'b', '=', '2'])]])
      (.list .n0 [.dict .n0 [(['a'], .str ['1']), (['b'], .str ['2'])]])).map
      (fun r => (r.diffs, r.selfUnique.length, r.otherUnique.length, r.notEqual.length)) = .ok (2, 1, 1, 0) := by
  decide +kernel

/-! ### Source tie: the record branch of `generate_composite_keys` regenerated from the Python text
(`Gen/CompositeKeysPy.lean`, written by `harness/translate_py_keys.py` on every run; lemmas in
`Proofs/CompositeKeysGenEq.lean`) -/

/-- one iteration of the translated `for key in elements_for_composite_key` (`if key in line`, the transform lookup
with `prefix[line_i]/key`, `key_fields[key] = …`) is one step of the model's `recordFields` -/
theorem C08_generated_keys_step (cfg : Cfg) (q : Path) (kvs acc : List (Str × Val)) (key : Str) :
    Gen.CompositeKeysPy.RecordKey.step cfg.tr (cfg.tr.map (·.pat)) q kvs acc key =
      (match Val.lookup key kvs with
       | none => acc
       | some v => setField key (transformAt cfg (q ++ [.key key]) v) acc) :=
  Gen.CompositeKeysPy.step_eq cfg q kvs acc key

/-- the translated record branch (str → one-element list, the loop over the key fields, JSON text of the key fields
or the empty key) computes the model's record key, for every option record, item path and record -/
theorem C08_generated_keys_record (cfg : Cfg) (q : Path) (kvs : List (Str × Val)) :
    Gen.CompositeKeysPy.recordKey cfg.ck cfg.tr q kvs = fieldsKey (recordFields cfg q kvs cfg.ck.pats []) :=
  Gen.CompositeKeysPy.recordKey_eq cfg q kvs

/-- … which is the key `keyOf` gives item `i` of the list at `p` when it is a dictionary (of either class) -/
theorem C08_generated_keys_keyOf (cfg : Cfg) (p : Path) (i : Nat) (o : Cls) (kvs : List (Str × Val)) :
    keyOf cfg p i (.dict o kvs) = .ok (Gen.CompositeKeysPy.recordKey cfg.ck cfg.tr (p ++ [.idx i]) kvs) :=
  Gen.CompositeKeysPy.keyOf_dict_eq cfg p i o kvs

/-- … and the keys `keysOf` gives a list of records are, item by item, the keys of the translated code -/
theorem C08_generated_keys_records (cfg : Cfg) (p : Path) (i : Nat) (rs : List (Cls × List (Str × Val))) :
    keysOf cfg p i (rs.map (fun r => Val.dict r.1 r.2)) = .ok (Gen.CompositeKeysPy.recordKeys cfg p i rs) :=
  Gen.CompositeKeysPy.keysOf_records_eq cfg p i rs

/-- non-vacuity: key fields `id`, `x`, `k` (given as a tuple) on a record with a falsy `id` and no `x`; the transform
registered for `rows[1]/k` is applied to `k` -/
example :
    Gen.CompositeKeysPy.recordKey (.many [['i', 'd'], ['x'], ['k']]) [⟨"rows[1]/k".toList, fun _ => .str ['Z']⟩]
      [.key ['r', 'o', 'w', 's'], .idx 1] [(['k'], .str ['a']), (['i', 'd'], .int 0)]
      = "{\"id\": 0, \"k\": \"Z\"}".toList := by
  rw [String.toList_ofList, String.toList_ofList]
  decide +kernel

/-- non-vacuity: a `str` composite key; a record without the field keeps the empty key -/
example :
    Gen.CompositeKeysPy.recordKey (.one ['i', 'd']) [] [.key ['p'], .idx 0] [(['a'], .int 1)] = [] ∧
    Gen.CompositeKeysPy.recordKey (.one ['i', 'd']) [] [.key ['p'], .idx 0] [(['i', 'd'], .none)]
      = "{\"id\": null}".toList := by
  rw [String.toList_ofList]
  decide +kernel

/-- non-vacuity of the step: a present field is assigned, an absent one leaves the fields alone -/
example :
    Gen.CompositeKeysPy.RecordKey.step [] [] [.idx 0] [(['a'], .bool false)] [] ['a'] = [(['a'], .bool false)] ∧
    Gen.CompositeKeysPy.RecordKey.step [] [] [.idx 0] [(['a'], .bool false)] [] ['b'] = [] := by
  decide +kernel

/-- non-vacuity of the list form: two records, the second without the key field -/
example :
    Gen.CompositeKeysPy.recordKeys (Cfg.mk Flags.init false (.one ['i', 'd']) (.many []) (.many []) []) [.key ['p']] 0
      [(.n0, [(['i', 'd'], .str ['7'])]), (.plain, [(['b'], .int 7)])] = ["{\"id\": \"7\"}".toList, []] := by
  rw [String.toList_ofList]
  decide +kernel

end N0.C08
