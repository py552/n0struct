import N0Verif.Proofs.Compare
import N0Verif.Proofs.CompareFaithful
import N0Verif.Proofs.CompareSwap
import N0Verif.Proofs.CompareSwapKeyed
import N0Verif.Proofs.CompareFrame
/-!
# C09 — compare reports are faithful to the operands and leave them untouched

Model: `N0Verif/Model/Compare.lean` (the code with fix patches C07-a, C08-a, C09-a, C07-b, C07-c, C09-b, C10-a and
C07-d, C08-b, C10-c applied).
Operand purity is immediate in a pure model (values are immutable); it is carried by the
correspondence harness (deep copies before/after), not claimed as a theorem.  What is NOT immediate is the
frame statement at the end of this file: which part of the operands the result depends on — the class tags
(`n0dict`/`n0list` against plain `dict`/`list`) of the nodes below the roots (`C09_frame*`).
-/
namespace N0.C09
open N0 N0.Compare

/-- **C09 (one line per entry).** For every option record, every flag record and both entry points,
`differences` holds exactly one line per structured entry (`not_equal`, `self_unique`,
`other_unique`, `difftypes`). -/
theorem C09_one_line_per_entry (cfg : Cfg) (a b : Val) (r : Res) (h : compareTop cfg a b = .ok r) :
    r.diffs = r.notEqual.length + r.selfUnique.length + r.otherUnique.length + r.diffTypes.length :=
  compareTop_balanced cfg a b r h

/-- **C09 (not-equal entries are faithful).** For trees with unique dictionary keys (what Python
guarantees), every option and flag record and both entry points: the path of every not-equal entry
resolves in the left operand (left index of `[i]<>[j]`) and in the right operand (right index) to
exactly the reported pair of original values … -/
theorem C09_not_equal_faithful (cfg : Cfg) (a b : Val) (r : Res) (hw : wf a = true) (hw' : wf b = true)
    (h : compareTop cfg a b = .ok r) :
    ∀ e ∈ r.notEqual, getAt .left e.path a = some e.l ∧ getAt .right e.path b = some e.r := by
  intro e he
  obtain ⟨q, hp, h1, h2⟩ := (compareTop_faith cfg a b r hw hw' h).ne e he
  simp only [List.nil_append] at hp
  rw [hp]; exact ⟨h1, h2⟩

/-- … which really differ (without `transform`; with a transform the *transformed* values differ and
the originals are shown). -/
theorem C09_not_equal_differ (cfg : Cfg) (a b : Val) (r : Res) (htr : cfg.tr = [])
    (h : compareTop cfg a b = .ok r) : ∀ e ∈ r.notEqual, e.l ≠ e.r :=
  (compareTop_differ cfg a b r htr h).1

/-- **C09 (type clashes are faithful).** The left value is at the reported path in the left operand, the right
value at the same path in the right operand (right index of `[i]<>[j]`), and — without `transform`; with one it is the
types of the transformed values that differ — the types really differ; both entry
points (a clash inside a keyed list carries both indexes, `C09_clash_keyed_example`). -/
theorem C09_difftypes_faithful (cfg : Cfg) (a b : Val) (r : Res) (hw : wf a = true) (hw' : wf b = true)
    (h : compareTop cfg a b = .ok r) :
    ∀ e ∈ r.diffTypes, getAt .left e.path a = some e.l ∧ (cfg.tr = [] → tyOf e.l ≠ tyOf e.r)
      ∧ getAt .right e.path b = some e.r := by
  intro e he
  obtain ⟨q, hp, h1, h2⟩ := (compareTop_faith cfg a b r hw hw' h).dt e he
  simp only [List.nil_append] at hp
  rw [hp]
  exact ⟨h1, fun htr => (compareTop_differ cfg a b r htr h).2 e he, h2⟩

/-- a type clash inside a keyed list: the record `{i: '1'}` at left index 0 is paired by its composite key with the
plain `dict` `{i: '1'}` at right index 1; the clash is reported at `[0]<>[1]`, which resolves on the right to that
plain `dict` (at `[0]` the right operand holds `{}`). -/
theorem C09_clash_keyed_example :
    compareTop { Cfg.default ⟨true, false, false, false, false, true⟩ false with ck := .one ['i'] }
        (.list .n0 [.dict .n0 [(['i'], .str ['1'])]])
        (.list .n0 [.dict .n0 [], .dict .plain [(['i'], .str ['1'])]])
      = .ok { diffs := 2,
              diffTypes := [⟨[.idx2 0 1], .dict .n0 [(['i'], .str ['1'])], .dict .plain [(['i'], .str ['1'])]⟩],
              otherUnique := [⟨[.idx 0], .dict .n0 []⟩] }
    ∧ getAt .right [.idx2 0 1] (.list .n0 [.dict .n0 [], .dict .plain [(['i'], .str ['1'])]])
        = some (.dict .plain [(['i'], .str ['1'])]) := by
  decide +kernel

/-- **C09 (unique entries are present on their side).** -/
theorem C09_unique_faithful (cfg : Cfg) (a b : Val) (r : Res) (hw : wf a = true) (hw' : wf b = true)
    (h : compareTop cfg a b = .ok r) :
    (∀ e ∈ r.selfUnique, getAt .left e.path a = some e.v) ∧
    (∀ e ∈ r.otherUnique, getAt .right e.path b = some e.v) := by
  have hf := compareTop_faith cfg a b r hw hw' h
  constructor
  · intro e he
    obtain ⟨q, hp, h1⟩ := hf.su e he
    simp only [List.nil_append] at hp
    rw [hp]; exact h1
  · intro e he
    obtain ⟨q, hp, h1⟩ := hf.ou e he
    simp only [List.nil_append] at hp
    rw [hp]; exact h1

/-- **C09 (unique entries are absent on the other side).** The parent of a self-unique entry resolves
on the other side; for a dictionary entry the key is missing in the other dictionary, for a list item
of `direct_compare` the index lies beyond the other list.  (For the keyed walk see
`C09_keyed_no_common_key_left`.) -/
theorem C09_self_unique_absent (cfg : Cfg) (a b : Val) (r : Res) (hw : wf a = true) (hw' : wf b = true)
    (h : compareTop cfg a b = .ok r) :
    ∀ e ∈ r.selfUnique, ∃ q s, e.path = q ++ [s] ∧
      ((∃ k c kvs, s = .key k ∧ getAt .right q b = some (.dict c kvs) ∧ Val.lookup k kvs = none) ∨
       (∃ i c ys, s = .idx i ∧ getAt .right q b = some (.list c ys) ∧ (cfg.direct = true → ys.length ≤ i))) := by
  intro e he
  obtain ⟨q, s, hp, ha⟩ := (compareTop_absent cfg a b r hw hw' h).su e he
  exact ⟨q, s, by simpa using hp, ha⟩

theorem C09_other_unique_absent (cfg : Cfg) (a b : Val) (r : Res) (hw : wf a = true) (hw' : wf b = true)
    (h : compareTop cfg a b = .ok r) :
    ∀ e ∈ r.otherUnique, ∃ q s, e.path = q ++ [s] ∧
      ((∃ k c kvs, s = .key k ∧ getAt .left q a = some (.dict c kvs) ∧ Val.lookup k kvs = none) ∨
       (∃ i c xs, s = .idx i ∧ getAt .left q a = some (.list c xs) ∧ (cfg.direct = true → xs.length ≤ i))) := by
  intro e he
  obtain ⟨q, s, hp, ha⟩ := (compareTop_absent cfg a b r hw hw' h).ou e he
  exact ⟨q, s, by simpa using hp, ha⟩

/-- keyed walk: after the pairing no key is left unmatched on both sides — the unique entries emitted at
this level come from remaining entries `sr'`, `orr'` of the two key tables with disjoint keys -/
theorem C09_keyed_no_common_key_left (cfg : Cfg) (p : Path) (sa oa : Val) (xs ys : List Val) (ks ko : List Str)
    (r : Res) (hlen : ks.length = xs.length)
    (h : keyedWalk cfg p sa oa 0 xs ks (mkEntries 0 ks xs) (mkEntries 0 ko ys) = .ok r) :
    ∃ (sr' orr' : List KE) (lsu lou : List UE),
      r.selfUnique = lsu ++ sr'.map (fun e => ⟨p ++ [.idx e.2.1], e.2.2⟩) ∧
      r.otherUnique = lou ++ orr'.map (fun e => ⟨p ++ [.idx e.2.1], e.2.2⟩) ∧
      (∀ e ∈ sr', e ∈ mkEntries 0 ks xs) ∧ (∀ e ∈ orr', e ∈ mkEntries 0 ko ys) ∧
      (∀ e ∈ sr', ∀ e' ∈ orr', e.1 ≠ e'.1) := by
  rw [keyedWalk_pairs cfg p sa oa xs ks 0 _ _ hlen] at h
  obtain ⟨r0, rfl⟩ := seqAll_ok_tail h
  have hs := keyedLeft_sub ks (mkEntries 0 ks xs) (mkEntries 0 ko ys)
  exact ⟨_, _, r0.selfUnique, r0.otherUnique, rfl, rfl, hs.1, hs.2, keyedLeft_disjoint xs ys ks ko hlen⟩

/-- **C09 (swap, ordered comparison).** For `direct_compare`, every flag record, composite key,
`compare_only` and `exclude_xpaths` (no `transform`): swapping the operands swaps the two unique
lists and mirrors each pair — as multisets (`List.Perm`: the dictionary walk visits the keys in the
order of its left operand) — and keeps the number of lines. -/
theorem C09_swap_partial (cfg : Cfg) (a b : Val) (r : Res) (htr : cfg.tr = []) (hd : cfg.direct = true)
    (hw : wf a = true) (hw' : wf b = true) (h : compareTop cfg a b = .ok r) :
    ∃ r', compareTop cfg b a = .ok r' ∧
      (r'.notEqual.Perm r.mirror.notEqual ∧ r'.selfUnique.Perm r.mirror.selfUnique ∧
       r'.otherUnique.Perm r.mirror.otherUnique ∧ r'.diffTypes.Perm r.mirror.diffTypes ∧ r'.diffs = r.diffs) :=
  swap_direct cfg a b r htr hd hw hw' h

/-- the keyed entry point under hypotheses: no transform, the types flag off, `exclude_xpaths`/`compare_only` invariant
under mirroring of `[i]<>[j]` (`C09_swap_keyed_exclude_cex`), unique dictionary keys, pairwise different item keys in
every list.  **Proved**: `C09_swap`; the hypotheses on the item keys and on the types flag are not needed
(`C09_swap_keyed`). -/
def C09_swap_stmt : Prop := swap_keyed_stmt

theorem C09_swap : C09_swap_stmt := swap_keyed_stmt_holds

/-- **C09 (swap, keyed/default comparison, every flag record).** For `compare` (`n0list.compare`/`n0dict.compare`),
every composite key, **every flag record** (the place of a type clash is mirrored like every other
place), no `transform`, `exclude_xpaths`/`compare_only` that do not distinguish `[i]<>[j]` from `[j]<>[i]`, trees
with unique dictionary keys — and **no assumption on the item keys** (repeated composite keys are allowed: the n-th
item with key K on one side is paired with the n-th item with key K on the other side, whichever side drives the
loop): swapping the operands swaps the two unique lists and mirrors each pair and each type clash (`[i]<>[j]` becomes
`[j]<>[i]`), as multisets of entries, and keeps the number of lines. -/
theorem C09_swap_keyed (cfg : Cfg) (a b : Val) (r : Res) (htr : cfg.tr = []) (hd : cfg.direct = false)
    (hex : ∀ p, excluded cfg (mirrorPath p) = excluded cfg p) (hon : ∀ p, onlyOk cfg (mirrorPath p) = onlyOk cfg p)
    (hw : wf a = true) (hw' : wf b = true) (h : compareTop cfg a b = .ok r) :
    ∃ r', compareTop cfg b a = .ok r' ∧
      (r'.notEqual.Perm r.mirror.notEqual ∧ r'.selfUnique.Perm r.mirror.selfUnique ∧
       r'.otherUnique.Perm r.mirror.otherUnique ∧ r'.diffTypes.Perm r.mirror.diffTypes ∧ r'.diffs = r.diffs) :=
  swap_keyed cfg a b r htr hd hex hon hw hw' h

/-- the same statement as a relation (`SwV` = the four lists mirrored as multisets, same number of lines) -/
theorem C09_swap_keyed_all_flags (cfg : Cfg) (a b : Val) (r : Res) (htr : cfg.tr = []) (hd : cfg.direct = false)
    (hex : ∀ p, excluded cfg (mirrorPath p) = excluded cfg p) (hon : ∀ p, onlyOk cfg (mirrorPath p) = onlyOk cfg p)
    (hw : wf a = true) (hw' : wf b = true) (h : compareTop cfg a b = .ok r) :
    ∃ r', compareTop cfg b a = .ok r' ∧ SwV r r' :=
  compareTop_swap_keyed cfg a b r htr hd ⟨hex, hon⟩ hw hw' h

/-- **C09 (swap, both entry points, every flag record)**: `C09_swap_partial` and `C09_swap_keyed` together — no
transform, mirror-invariant path filters (for `direct_compare` paths have no `[i]<>[j]`; the hypothesis is only used
by the keyed entry point), unique dictionary keys. -/
theorem C09_swap_all (cfg : Cfg) (a b : Val) (r : Res) (htr : cfg.tr = [])
    (hex : ∀ p, excluded cfg (mirrorPath p) = excluded cfg p) (hon : ∀ p, onlyOk cfg (mirrorPath p) = onlyOk cfg p)
    (hw : wf a = true) (hw' : wf b = true) (h : compareTop cfg a b = .ok r) :
    ∃ r', compareTop cfg b a = .ok r' ∧
      (r'.notEqual.Perm r.mirror.notEqual ∧ r'.selfUnique.Perm r.mirror.selfUnique ∧
       r'.otherUnique.Perm r.mirror.otherUnique ∧ r'.diffTypes.Perm r.mirror.diffTypes ∧ r'.diffs = r.diffs) := by
  cases hd : cfg.direct with
  | true => exact swap_direct cfg a b r htr hd hw hw' h
  | false => exact swap_keyed cfg a b r htr hd hex hon hw hw' h

/-- in particular the verdict of `compare` does not depend on the order of the operands -/
theorem C09_swap_keyed_verdict (cfg : Cfg) (a b : Val) (r : Res) (htr : cfg.tr = []) (hd : cfg.direct = false)
    (hex : ∀ p, excluded cfg (mirrorPath p) = excluded cfg p) (hon : ∀ p, onlyOk cfg (mirrorPath p) = onlyOk cfg p)
    (hw : wf a = true) (hw' : wf b = true) (h : compareTop cfg a b = .ok r) :
    verdict (compareTop cfg b a) = verdict (compareTop cfg a b) :=
  verdict_swap_keyed cfg a b r htr hd ⟨hex, hon⟩ hw hw' h

theorem C09_swap_keyed_default_filters (cfg : Cfg) (h : NoPathOpts cfg) :
    (∀ p, excluded cfg (mirrorPath p) = excluded cfg p) ∧ (∀ p, onlyOk cfg (mirrorPath p) = onlyOk cfg p) :=
  ⟨(swk_mirrorInv_noPathOpts h).excl, (swk_mirrorInv_noPathOpts h).only⟩

/-- the full-strength statement — both entry points, **every** option record (transform and path filters included) —
is false: see `C09_swap_transform_cex` (transform) and `C09_swap_keyed_exclude_cex` (a pattern naming `[0]<>[1]`);
every flag record is covered by `C09_swap_all` -/
def C09_swap_full_stmt : Prop :=
  ∀ (cfg : Cfg) (a b : Val) (r : Res), wf a = true → wf b = true → compareTop cfg a b = .ok r →
    ∃ r', compareTop cfg b a = .ok r' ∧
      (r'.notEqual.Perm r.mirror.notEqual ∧ r'.selfUnique.Perm r.mirror.selfUnique ∧
       r'.otherUnique.Perm r.mirror.otherUnique ∧ r'.diffTypes.Perm r.mirror.diffTypes ∧ r'.diffs = r.diffs)

theorem C09_swap_full_refuted : ¬ C09_swap_full_stmt := by
  intro h
  obtain ⟨r', hr', _⟩ := h swapCexCfg (.dict .n0 [(['k'], .none)]) (.dict .n0 [(['k'], .int 3)]) {}
    (by decide) (by decide) swap_transform_cex.1
  rw [swap_transform_cex.2] at hr'
  cases hr'

/-- the types flag on: the place of a clash found inside a keyed list is mirrored (`[0]<>[1]` / `[1]<>[0]`) -/
theorem C09_swap_keyed_types_example :
    (compareTop { Cfg.default ⟨true, false, false, false, false, true⟩ false with ck := .one ['i'] }
        (.list .n0 [.dict .n0 [(['i'], .str ['1'])]])
        (.list .n0 [.dict .n0 [], .dict .plain [(['i'], .str ['1'])]])).map (fun r => r.diffTypes.map (·.path))
      = .ok [[.idx2 0 1]] ∧
    (compareTop { Cfg.default ⟨true, false, false, false, false, true⟩ false with ck := .one ['i'] }
        (.list .n0 [.dict .n0 [], .dict .plain [(['i'], .str ['1'])]])
        (.list .n0 [.dict .n0 [(['i'], .str ['1'])]])).map (fun r => r.diffTypes.map (·.path))
      = .ok [[.idx2 1 0]] :=
  swap_keyed_types_example

/-- with a transform that changes types the ordered comparison is not symmetric either: `{k: None}` vs
`{k: 3}` under a function mapping everything to a list returns normally one way and raises `TypeError`
the other way (the `elif` chain runs on the original left value).  Outside `LeafTransform`. -/
theorem C09_swap_transform_cex :
    compareTop swapCexCfg (.dict .n0 [(['k'], .none)]) (.dict .n0 [(['k'], .int 3)]) = .ok {} ∧
    compareTop swapCexCfg (.dict .n0 [(['k'], .int 3)]) (.dict .n0 [(['k'], .none)]) = .error .TypeError :=
  swap_transform_cex

/-- an `exclude_xpaths` pattern naming a paired index `[0]<>[1]` is not mirror-invariant -/
theorem C09_swap_keyed_exclude_cex :
    (compareTop swapKeyedCexCfg
        (.list .n0 [.dict .n0 [(['i', 'd'], .str ['a']), (['v'], .int 1)]])
        (.list .n0 [.dict .n0 [(['i', 'd'], .str ['z']), (['v'], .int 0)],
                    .dict .n0 [(['i', 'd'], .str ['a']), (['v'], .int 2)]])).map (·.diffs) = .ok 1 ∧
    (compareTop swapKeyedCexCfg
        (.list .n0 [.dict .n0 [(['i', 'd'], .str ['z']), (['v'], .int 0)],
                    .dict .n0 [(['i', 'd'], .str ['a']), (['v'], .int 2)]])
        (.list .n0 [.dict .n0 [(['i', 'd'], .str ['a']), (['v'], .int 1)]])).map (·.diffs) = .ok 2 := by
  decide +kernel

/-- the unrestricted statement "the result does not depend on the class tags below the roots (the code wraps
sub-nodes with `n0list(...)`/`n0dict(...)` before recursing)", with `toN0` = `convert_recursively` and
`Res.mapV toN0` = the same result with the shown values converted — **false**: `C09_tags_irrelevant_refuted` -/
def C09_tags_irrelevant_stmt : Prop := frame_stmt

theorem C09_tags_irrelevant_refuted : ¬ C09_tags_irrelevant_stmt := frame_stmt_false

/-- the tags matter in exactly three places: (1) `type(a) == type(b)` — an `n0dict` against a plain `dict`
under the same key is a type clash … -/
theorem C09_frame_clash_cex :
    (compareTop (Cfg.default Flags.init false) (.dict .n0 [(['a'], .dict .n0 [])]) (.dict .n0 [(['a'], .dict .plain [])])).map
        (·.diffs) = .ok 1 ∧
    (compareTop (Cfg.default Flags.init false) (toN0 (.dict .n0 [(['a'], .dict .n0 [])]))
        (toN0 (.dict .n0 [(['a'], .dict .plain [])]))).map (·.diffs) = .ok 0 :=
  frame_clash_cex

/-- … (2) `direct_compare` on a plain list nested in a list: `AttributeError` … -/
theorem C09_frame_attr_cex :
    compareTop (Cfg.default Flags.init true) (.list .n0 [.list .plain [.int 1]]) (.list .n0 [.list .plain [.int 1]])
      = .error .AttributeError ∧
    (compareTop (Cfg.default Flags.init true) (toN0 (.list .n0 [.list .plain [.int 1]]))
        (toN0 (.list .n0 [.list .plain [.int 1]]))).map (·.diffs) = .ok 0 :=
  frame_attr_cex

/-- … (3) `compare` on a plain `dict` that is a list item: `TypeError`. -/
theorem C09_frame_type_cex :
    compareTop (Cfg.default Flags.init false) (.list .n0 [.dict .plain [(['k'], .int 1)]])
        (.list .n0 [.dict .plain [(['k'], .int 1)]]) = .error .TypeError ∧
    (compareTop (Cfg.default Flags.init false) (toN0 (.list .n0 [.dict .plain [(['k'], .int 1)]]))
        (toN0 (.list .n0 [.dict .plain [(['k'], .int 1)]]))).map (·.diffs) = .ok 0 :=
  frame_type_cex

/-- **C09 (frame).**  `transform` functions that do not look at containers (`LeafTransform`: identity on
containers, scalars to scalars, `None` to a scalar or `None`; in particular no transform, `C09_frame_no_transform`),
every other option and flag record, both entry points; roots of the same
kind; below the roots every dictionary carries one tag `cd` and every list one tag `cl` (`tagsKids`).  Then the
run on `(a, b)` and the run on the recursively converted trees `(toN0 a, toN0 b)` are related by `FrameRel`:
the first returns `r` ⇒ the second returns `r` with the shown values converted; the first raises `e` ⇒ the
second raises `e` too, **or** `e` is one of the two `isinstance` exceptions (`AttributeError`/`TypeError`) and
the walked mode meets a plain container of the kind it checks (`TagErr`: `direct_compare` with plain lists,
`compare` with plain dictionaries). -/
theorem C09_frame (cfg : Cfg) (hl : LeafTransform cfg) (cd cl : Cls) (a b : Val) (hr : RootPair a b)
    (ha : tagsKids cd cl a = true) (hb : tagsKids cd cl b = true) :
    FrameRel (TagErr cfg cd cl) (compareTop cfg a b) (compareTop cfg (toN0 a) (toN0 b)) :=
  frame_compareTop cfg hl cd cl a b hr ha hb

/-- when `TagErr` is excluded the run IS the run on the converted trees (exception class included) … -/
theorem C09_frame_exact (cfg : Cfg) (hl : LeafTransform cfg) (cd cl : Cls) (hT : ¬ TagErr cfg cd cl) (a b : Val)
    (hr : RootPair a b) (ha : tagsKids cd cl a = true) (hb : tagsKids cd cl b = true) :
    compareTop cfg (toN0 a) (toN0 b) = (compareTop cfg a b).map (Res.mapV toN0) :=
  frame_exact cfg hl cd cl hT a b hr ha hb

/-- … in particular for `compare()` on trees as `n0dict(json_text)` builds them — `n0dict`s everywhere, plain
lists: the theorems stated for recursively converted trees (`isN0`, C07) describe these runs too … -/
theorem C09_frame_loaded (cfg : Cfg) (hl : LeafTransform cfg) (hd : cfg.direct = false) (a b : Val)
    (hr : RootPair a b) (ha : tagsKids .n0 .plain a = true) (hb : tagsKids .n0 .plain b = true) :
    compareTop cfg (toN0 a) (toN0 b) = (compareTop cfg a b).map (Res.mapV toN0) :=
  frame_keyed_loaded cfg hl hd a b hr ha hb

/-- … and for `direct_compare` on trees with `n0list`s and plain dictionaries. -/
theorem C09_frame_direct (cfg : Cfg) (hl : LeafTransform cfg) (hd : cfg.direct = true) (a b : Val)
    (hr : RootPair a b) (ha : tagsKids .plain .n0 a = true) (hb : tagsKids .plain .n0 b = true) :
    compareTop cfg (toN0 a) (toN0 b) = (compareTop cfg a b).map (Res.mapV toN0) :=
  frame_direct_plainDicts cfg hl hd a b hr ha hb

theorem C09_frame_verdict (cfg : Cfg) (hl : LeafTransform cfg) (cd cl : Cls) (hT : ¬ TagErr cfg cd cl) (a b : Val)
    (hr : RootPair a b) (ha : tagsKids cd cl a = true) (hb : tagsKids cd cl b = true) :
    verdict (compareTop cfg (toN0 a) (toN0 b)) = verdict (compareTop cfg a b) :=
  frame_verdict cfg hl cd cl hT a b hr ha hb

theorem C09_frame_no_transform (cfg : Cfg) (h : cfg.tr = []) : LeafTransform cfg := leafTransform_nil h

/-- non-vacuity: `{'r': [1, {'k': [2]}]}` against `{'r': [{'k': [3]}, 1]}` with plain lists and `n0dict`s -/
example : tagsKids .n0 .plain frLoadedA = true ∧ tagsKids .n0 .plain frLoadedB = true ∧
    (compareTop (Cfg.default Flags.init false) frLoadedA frLoadedB).map (fun r => (r.diffs, r.selfUnique.map (·.path)))
      = .ok (2, [[.key ['r'], .idx2 1 0, .key ['k'], .idx 0]]) ∧
    (compareTop (Cfg.default Flags.init false) (toN0 frLoadedA) (toN0 frLoadedB)).map
        (fun r => (r.diffs, r.selfUnique.map (·.path)))
      = .ok (2, [[.key ['r'], .idx2 1 0, .key ['k'], .idx 0]]) := frLoaded_example
example : RootPair frLoadedA frLoadedB := by simp [RootPair, frLoadedA, frLoadedB]
example : ¬ TagErr (Cfg.default Flags.init false) .n0 .plain := by simp [TagErr, Cfg.default]
example : TagErr (Cfg.default Flags.init true) .n0 .plain := by simp [TagErr, Cfg.default]

/-! Non-vacuity: a pair whose report has a `[i]<>[j]` entry, a unique entry and a type clash. -/
def exL : Val := .dict .n0 [(['r'], .list .n0 [.dict .n0 [(['i'], .str ['1']), (['v'], .int 1)], .dict .n0 [(['i'], .str ['2']), (['v'], .int 2)], .int 7])]
def exR : Val := .dict .n0 [(['r'], .list .n0 [.dict .n0 [(['i'], .str ['2']), (['v'], .str ['2'])], .dict .n0 [(['i'], .str ['1']), (['v'], .int 5)]])]
def exCfg : Cfg := { Cfg.default Flags.init false with ck := .one ['i'] }
example : wf exL = true ∧ wf exR = true := by decide +kernel
example : (compareTop exCfg exL exR).map (fun r => (r.diffs, r.notEqual.map (·.path), r.selfUnique.map (·.path)))
    = .ok (3, [[.key ['r'], .idx2 0 1, .key ['v']], [.key ['r'], .idx2 1 0, .key ['v']]], [[.key ['r'], .idx 2]]) := by decide +kernel
example : getAt .left [.key ['r'], .idx2 0 1, .key ['v']] exL = some (.int 1)
    ∧ getAt .right [.key ['r'], .idx2 0 1, .key ['v']] exR = some (.int 5) := by decide +kernel

/-! Non-vacuity of `C09_swap_keyed`: the same pair swapped — `[0]<>[1]` becomes `[1]<>[0]`, the unique item
moves to the other list; and a pair with a REPEATED composite key (second `i=1` record) and the items `1` / `'1'`,
which do not meet (keys `1` and `"1"`). -/
example : exCfg.tr = [] ∧ exCfg.direct = false := by decide
example : (compareTop exCfg exR exL).map (fun r => (r.diffs, r.notEqual.map (·.path), r.otherUnique.map (·.path)))
    = .ok (3, [[.key ['r'], .idx2 0 1, .key ['v']], [.key ['r'], .idx2 1 0, .key ['v']]], [[.key ['r'], .idx 2]]) := by decide +kernel
def exDupL : Val := .list .n0 [.dict .n0 [(['i'], .str ['1']), (['v'], .int 1)], .int 1, .dict .n0 [(['i'], .str ['1']), (['v'], .int 2)]]
def exDupR : Val := .list .n0 [.str ['1'], .dict .n0 [(['i'], .str ['1']), (['v'], .int 2)], .dict .n0 [(['i'], .str ['1']), (['v'], .int 2)], .dict .n0 [(['i'], .str ['1']), (['v'], .int 3)]]
example : wf exDupL = true ∧ wf exDupR = true := by decide +kernel
example : (compareTop exCfg exDupL exDupR).map (fun r => (r.diffs, r.notEqual.map (fun e => (e.path, e.kind))))
    = .ok (4, [([.idx2 0 1, .key ['v']], .lst)]) := by decide +kernel
example : (compareTop exCfg exDupL exDupR).map (fun r => (r.selfUnique.map (·.path), r.otherUnique.map (·.path)))
    = .ok ([[.idx 1]], [[.idx 0], [.idx 3]]) := by decide +kernel
example : (compareTop exCfg exDupR exDupL).map (fun r => (r.diffs, r.notEqual.map (fun e => (e.path, e.kind))))
    = .ok (4, [([.idx2 1 0, .key ['v']], .lst)]) := by decide +kernel
example : (compareTop exCfg exDupR exDupL).map (fun r => (r.selfUnique.map (·.path), r.otherUnique.map (·.path)))
    = .ok ([[.idx 0], [.idx 3]], [[.idx 1]]) := by decide +kernel

end N0.C09
