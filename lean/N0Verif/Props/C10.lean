import N0Verif.Proofs.CompareOpts
import N0Verif.Proofs.XPathMatchSpec
import N0Verif.Proofs.CompareTransform
import N0Verif.Proofs.CompareTransformKeyed
import N0Verif.Proofs.CompareTransformCk
import N0Verif.Proofs.XPathMatchGenEq
/-!
# C10 — exclude_xpaths, compare_only and transform only narrow or map what is compared

Model: `N0Verif/Model/Compare.lean` (the code with fix patches C07-a, C08-a, C09-a, C07-b, C07-c, C09-b, C10-a, C07-d, C08-b, C10-c applied).
`Res.diffPart` = number of `differences` lines and the four difference lists;
`Res.filterPaths keep` keeps the entries whose path satisfies `keep` (and recounts the lines).
-/
namespace N0.C10
open N0 N0.Compare

/-- **C10 (pattern matcher).** One pattern matches a path iff the parts of the pattern after its
last empty part (an empty part comes from `//` or a leading `/`: "any prefix") equal the last parts
of the path, case-insensitively, `*` standing for any one part — tail-anchored. -/
theorem C10_xpath_match_spec (xpath pat : Str) : matchOne xpath pat = specMatch xpath pat :=
  matchOne_spec xpath pat

/-- `xpath_match` returns 0 iff no pattern matches … -/
theorem C10_xpath_match_zero (xpath : Str) (a : PatArg) :
    xpathMatch xpath a = 0 ↔ ∀ p ∈ a.pats, specMatch xpath p = false :=
  xpathMatch_zero xpath a

/-- … and otherwise the 1-based index of the first matching pattern. -/
theorem C10_xpath_match_pos (xpath : Str) (a : PatArg) (i : Nat) :
    xpathMatch xpath a = i + 1 ↔
      (∃ p, a.pats[i]? = some p ∧ specMatch xpath p = true) ∧
        ∀ j < i, ∀ q, a.pats[j]? = some q → specMatch xpath q = false :=
  xpathMatch_pos xpath a i

/-- a pattern given as `str` behaves as the one-element tuple -/
theorem C10_str_vs_tuple (xpath s : Str) : xpathMatch xpath (.one s) = xpathMatch xpath (.many [s]) :=
  xpathMatch_str_eq_tuple xpath s

/-- **C10 (exclude_xpaths).** For every option and flag record and both entry points: if the run
without `exclude_xpaths` returns `r`, the run with it returns exactly the entries of `r` for which no
tested prefix of the path matches an excluded pattern (`exclHit`: the tested prefixes are those ending
at a dictionary key and the paths of lists), with one line per remaining entry.  Both inclusions: nothing
matched is reported, and nothing unmatched is hidden. -/
theorem C10_exclude (cfg : Cfg) (a b : Val) (r : Res)
    (h : compareTop { cfg with excl := .many [] } a b = .ok r) :
    ∃ r', compareTop cfg a b = .ok r' ∧
      r'.diffPart = (r.filterPaths (fun p => !exclHit cfg.excl [] p)).diffPart := by
  obtain ⟨r', hr', hf⟩ := (excl_walkSim cfg).of_compareTop a b rfl r h
  exact ⟨r', hr', hf.diffPart (compareTop_balanced cfg a b r' hr')⟩

/-- **C10 (compare_only).** The run with `compare_only` keeps, among the entries located at dictionary
entries (path ending in a key: changed values, type clashes, missing keys), exactly those whose path
matches; entries located at list items (list-membership differences, differing items) are untouched. -/
theorem C10_compare_only (cfg : Cfg) (a b : Val) (r : Res)
    (h : compareTop { cfg with only := .many [] } a b = .ok r) :
    ∃ r', compareTop cfg a b = .ok r' ∧ r'.diffPart = (r.filterPaths (onlyKeep cfg)).diffPart := by
  obtain ⟨r', hr', hf⟩ := (only_walkSim cfg).of_compareTop a b trivial r h
  exact ⟨r', hr', hf.diffPart (compareTop_balanced cfg a b r' hr')⟩

/-- **C10 (transform, ordered comparison).** `LeafTransform`: every function is the identity on
containers, maps scalars to scalars and `None` to a scalar or `None`.  For `direct_compare`, every
other option and every flag record: the run with `transform` on the original trees and the run without
it on the mapped trees (`mapT`: the first matching function applied to every leaf at a dictionary entry
whose path matches and to every leaf element of a list whose own path matches) raise the same exception
or return results of the same *shape* — same number of lines, same paths in all four lists, same kinds of the not-equal entries.
So two leaves count as equal iff their transformed values are equal, and no difference is hidden or
invented … -/
theorem C10_transform_partial (cfg : Cfg) (hd : cfg.direct = true) (hl : LeafTransform cfg) (a b : Val) :
    TrERel (compareTop cfg a b) (compareTop (noTransf cfg) (mapT cfg [] a) (mapT cfg [] b)) :=
  compareTop_tr cfg hd hl a b

/-- … in particular the verdict is the verdict on the mapped trees; the values shown are the originals
(`C09_not_equal_faithful` holds for every transform). -/
theorem C10_transform_verdict (cfg : Cfg) (hd : cfg.direct = true) (hl : LeafTransform cfg) (a b : Val) :
    verdict (compareTop cfg a b) = verdict (compareTop { cfg with tr := [] } (mapT cfg [] a) (mapT cfg [] b)) :=
  tr_erel_verdict (compareTop_tr cfg hd hl a b)

/-- the full-strength statement (both entry points, every tree): false for the keyed entry point on trees with a list
nested in a list (`C10_transform_keyed_nested_cex`, `C10_transform_refuted`); proved for the keyed entry point on lists
of records and lists of leaves (`C10_transform_keyed`, and `C10_transform_keyed_ck` with a composite key) -/
def C10_transform_stmt : Prop :=
  ∀ (cfg : Cfg), LeafTransform cfg → ∀ a b : Val,
    TrERel (compareTop cfg a b) (compareTop (noTransf cfg) (mapT cfg [] a) (mapT cfg [] b))

/-- the keyed compare pairs non-record list items by the key of the *transformed* value:
`{'a': ['A']}` vs `{'a': ['a']}` with `('//a', lower)` reports nothing, as on the mapped trees -/
theorem C10_transform_keyed_example :
    (match compareTop trCexCfg trCexA trCexB with | .ok r => r.diffs | .error _ => 1) = 0 ∧
      mapT trCexCfg [] trCexA = mapT trCexCfg [] trCexB ∧
      (match compareTop { trCexCfg with tr := [] } (mapT trCexCfg [] trCexA) (mapT trCexCfg [] trCexB) with
        | .ok r => r.diffs | .error _ => 1) = 0 :=
  transform_keyed_example

/-- what stays outside: a list nested in a list whose leaves are transformed by a pattern naming the index
(`//a[0]`): the outer items `['A']`, `['a']` are keyed by their own JSON text and do not meet, while the mapped
trees are equal -/
theorem C10_transform_keyed_nested_cex :
    LeafTransform trNestCfg ∧
    (match compareTop trNestCfg trNestA trNestB with | .ok r => r.diffs | .error _ => 0) = 2 ∧
      mapT trNestCfg [] trNestA = mapT trNestCfg [] trNestB ∧
      (match compareTop { trNestCfg with tr := [] } (mapT trNestCfg [] trNestA) (mapT trNestCfg [] trNestB) with
        | .ok r => r.diffs | .error _ => 1) = 0 :=
  ⟨trNestCfg_leaf, by decide +kernel⟩

theorem C10_transform_refuted : ¬ C10_transform_stmt := by
  intro h
  obtain ⟨_, c1, _, c3⟩ := C10_transform_keyed_nested_cex
  cases hc : compareTop trNestCfg trNestA trNestB with
  | error e => rw [hc] at c1; cases c1
  | ok r =>
    obtain ⟨r', hc', hs⟩ := tr_erel_ok (h trNestCfg trNestCfg_leaf trNestA trNestB) hc
    change (match compareTop (noTransf trNestCfg) (mapT trNestCfg [] trNestA) (mapT trNestCfg [] trNestB) with
      | .ok r => r.diffs | .error _ => 1) = 0 at c3
    rw [hc] at c1
    rw [hc'] at c3
    have hd : r'.diffs = r.diffs := congrArg Prod.fst hs
    rw [show r.diffs = 2 from c1, show r'.diffs = 0 from c3] at hd
    cases hd

/-- **C10 (transform, keyed/default comparison, lists of records and lists of leaves).**  For `compare` without a
composite key (`cfg.direct = false`, `cfg.ck` empty), `LeafTransform cfg`, every other option and flag record, on
trees every list of which — at every depth — holds records only or leaves only (`recOnly`; a leaf is `None` or a
scalar): the run with `transform` on `(a, b)` and the run without it on the mapped trees raise the same exception or
return results of the same shape.  In a list of records every item has the key `''` and the n-th record meets the
n-th record; in a list of leaves an item is keyed by the JSON text of its TRANSFORMED value — the key
the same item has in the mapped tree —, so both runs pair the same positions, `[i]<>[j]` included, and two leaves
meet iff their transformed values have the same type and value. -/
theorem C10_transform_keyed (cfg : Cfg) (hd : cfg.direct = false) (hck : cfg.ck.pats.isEmpty = true)
    (hl : LeafTransform cfg) (a b : Val) (ha : recOnly a = true) (hb : recOnly b = true) :
    TrERel (compareTop cfg a b) (compareTop (noTransf cfg) (mapT cfg [] a) (mapT cfg [] b)) :=
  compareTop_tr_keyed cfg hd hck hl a b ha hb

/-- … in particular the verdict is the verdict on the mapped trees -/
theorem C10_transform_keyed_verdict (cfg : Cfg) (hd : cfg.direct = false) (hck : cfg.ck.pats.isEmpty = true)
    (hl : LeafTransform cfg) (a b : Val) (ha : recOnly a = true) (hb : recOnly b = true) :
    verdict (compareTop cfg a b) = verdict (compareTop { cfg with tr := [] } (mapT cfg [] a) (mapT cfg [] b)) :=
  transform_keyed_verdict cfg hd hck hl a b ha hb

/-- non-vacuity for lists of leaves: `{'a': ['A', 'b', 1]}` vs `{'a': [1, 'B', 'a', 'c']}` under `('//a', lower)`:
the three items meet across positions, `'c'` is unique -/
def trLeafA : Val := .dict .n0 [(['a'], .list .n0 [.str ['A'], .str ['b'], .int 1])]
def trLeafB : Val := .dict .n0 [(['a'], .list .n0 [.int 1, .str ['B'], .str ['a'], .str ['c']])]
example : recOnly trLeafA = true ∧ recOnly trLeafB = true ∧ recOnly trCexA = true := by decide +kernel
example : (compareTop trCexCfg trLeafA trLeafB).map (fun r => (r.diffs, r.otherUnique.map (·.path)))
    = .ok (1, [[.key ['a'], .idx 3]]) := by decide +kernel
example : (compareTop { trCexCfg with tr := [] } trLeafA trLeafB).map (·.diffs) = .ok 5 := by decide +kernel

/-- a transform that returns a non-`str` for a key field (the identity function on the `int` key field `id`): the
transformed field goes through the JSON text, and the run returns like the plain run on the mapped tree -/
theorem C10_transform_keyed_ck_fixed :
    recOnly trkCkA = true ∧ LeafTransform trkCkCfg ∧ (compareTop trkCkCfg trkCkA trkCkA).map (·.diffs) = .ok 0 ∧
      mapT trkCkCfg [] trkCkA = trkCkA ∧
      (compareTop { trkCkCfg with tr := [] } (mapT trkCkCfg [] trkCkA) (mapT trkCkCfg [] trkCkA)).map (·.diffs) = .ok 0 :=
  ⟨trk_ck_fixed.1, trkCkCfg_leaf, trk_ck_fixed.2.1, trk_ck_fixed.2.2.1, trk_ck_fixed.2.2.2⟩

/-- **C10 (transform with a composite key: the keys agree).**  For EVERY composite key, `LeafTransform cfg`, every
pattern (patterns naming an index included), every list whose items are leaves or records with leaf key fields: item
by item, the key the run with `transform` builds (the JSON text of the TRANSFORMED key fields, each looked up with the
path `prefix[i]/field` the leaf comparison uses) is the key the same item has in the mapped list
in the run without `transform`.  So both runs pair the same positions, and a pattern that matches no dictionary entry
of the tree changes no key. -/
theorem C10_transform_keyed_ck_keys (cfg : Cfg) (hl : LeafTransform cfg) (p : Path) (xs : List Val) (i : Nat)
    (h : ∀ x ∈ xs, keyFieldsLeaf cfg x) :
    keysOf cfg p i xs = keysOf (noTransf cfg) p i (mapTL cfg p (transformAt cfg p) i xs) :=
  ckv_keysOf_mapped cfg hl p xs i h

/-- the transform lookup does not tell `[i]`, `[j]` and `[i]<>[j]` apart (no pattern names an index of a keyed list) -/
def IdxBlind (cfg : Cfg) : Prop :=
  ∀ (p : Path) (i j : Nat) (q : Path),
    transformAt cfg (p ++ .idx2 i j :: q) = transformAt cfg (p ++ .idx i :: q) ∧
    transformAt cfg (p ++ .idx2 i j :: q) = transformAt cfg (p ++ .idx j :: q)

/-- the statement of `C10_transform_keyed` WITH a composite key (`cfg.ck` is unrestricted), proved as
`C10_transform_keyed_ck`.  For a pair met across positions the run with `transform` compares the leaves at
`prefix[i]<>[j]/field` while the mapped trees were built with `prefix[i]/field` and `prefix[j]/field`: under `IdxBlind` the
three lookups are one (`Proofs/CompareTransformCk.lean`).  Also checked on the implementation by evaluator
`transform/ck` (patterns `rows/<field>`, `rows[i]/<field>`, `//<field>`, `*/<field>`). -/
def C10_transform_keyed_ck_stmt : Prop :=
  ∀ (cfg : Cfg) (a b : Val), cfg.direct = false → LeafTransform cfg → IdxBlind cfg →
    recOnly a = true → recOnly b = true →
    (∀ x ∈ allItems a ++ allItems b, keyFieldsLeaf cfg x) →
    TrERel (compareTop cfg a b) (compareTop (noTransf cfg) (mapT cfg [] a) (mapT cfg [] b))

/-- **C10 (transform, keyed/default comparison WITH a composite key).**  For `compare` (`cfg.direct = false`), EVERY
composite key, `LeafTransform cfg`, `IdxBlind cfg` (no transform pattern tells `[i]`, `[j]` and `[i]<>[j]` apart), every
other option and flag record, on trees every list of which holds records only or leaves only, the key fields of the
records being leaves: the run with `transform` on `(a, b)` and the run without it on the mapped trees raise the same
exception or return results of the same shape — records paired ACROSS positions (`[i]<>[j]`) included, at every depth
(keyed lists inside the records of keyed lists too). -/
theorem C10_transform_keyed_ck : C10_transform_keyed_ck_stmt := by
  intro cfg a b hd hl hb ha hb' hk
  exact compareTop_tr_ck cfg hd hl hb a b ⟨ha, fun z hz => hk z (List.mem_append_left _ hz)⟩
    ⟨hb', fun z hz => hk z (List.mem_append_right _ hz)⟩

/-- … in particular the verdict is the verdict on the mapped trees -/
theorem C10_transform_keyed_ck_verdict (cfg : Cfg) (a b : Val) (hd : cfg.direct = false) (hl : LeafTransform cfg)
    (hb : IdxBlind cfg) (ha : recOnly a = true) (hb' : recOnly b = true)
    (hk : ∀ x ∈ allItems a ++ allItems b, keyFieldsLeaf cfg x) :
    verdict (compareTop cfg a b) = verdict (compareTop { cfg with tr := [] } (mapT cfg [] a) (mapT cfg [] b)) :=
  tr_erel_verdict (C10_transform_keyed_ck cfg a b hd hl hb ha hb' hk)

/-- **a syntactic criterion for `IdxBlind`**: no transform pattern contains the character `]` (no pattern names a list
index).  Replacing `[i]<>[j]` by `[i]` or `[j]` changes one part of the rendered path, which has a `]` before and after;
a pattern part without `]` is `*` (matches both) or equals neither, case folding included — for every tree, whatever
its keys are. -/
theorem C10_idxBlind_of_noBracket (cfg : Cfg) (h : ∀ t ∈ cfg.tr, ']' ∉ t.pat) : IdxBlind cfg :=
  trck_idxBlind_of_noBracket cfg h

/-- non-vacuity of `C10_transform_keyed_ck`: `composite_key='id'`, `transform=(('//n', lower), ('id', lower))` (the
second pattern changes the KEYS: `'X'` meets `'x'`).
`{'r': [{'id':'X','n':'A','v':1}, {'id':'y','n':'b','v':2}]}` vs `{'r': [{'id':'Y','n':'B','v':3}, {'id':'x','n':'a','v':1}, {'id':'z'}]}`:
the records meet ACROSS positions (`r[0]<>[1]`, `r[1]<>[0]`), the names agree after `lower`, one changed value at
`/r[1]<>[0]/v`, one extra record; without `transform` nothing meets (5 differences). -/
def ckxCfg : Cfg := { Cfg.default Flags.init false with
  ck := .one ['i', 'd'], tr := [⟨['/', '/', 'n'], lowerFn⟩, ⟨['i', 'd'], lowerFn⟩] }
def ckxRec (i n : Char) (v : Int) : Val := .dict .n0 [(['i', 'd'], .str [i]), (['n'], .str [n]), (['v'], .int v)]
def ckxA : Val := .dict .n0 [(['r'], .list .n0 [ckxRec 'X' 'A' 1, ckxRec 'y' 'b' 2])]
def ckxB : Val := .dict .n0 [(['r'], .list .n0 [ckxRec 'Y' 'B' 3, ckxRec 'x' 'a' 1, .dict .n0 [(['i', 'd'], .str ['z'])]])]

theorem ckxCfg_leaf : LeafTransform ckxCfg :=
  tr_leafTransform_of (fun t ht => by
    rcases List.mem_cons.1 ht with rfl | ht
    · exact tr_leafFn_lower
    · rw [List.mem_singleton.1 ht]; exact tr_leafFn_lower)

theorem ckxCfg_blind : IdxBlind ckxCfg := by
  apply C10_idxBlind_of_noBracket
  intro t ht
  simp only [ckxCfg, Cfg.default, List.mem_cons, List.not_mem_nil, or_false] at ht
  rcases ht with rfl | rfl <;> decide

theorem ckx_items : ∀ x ∈ allItems ckxA ++ allItems ckxB, keyFieldsLeaf ckxCfg x :=
  ckv_keyFieldsLeaf_of_test (by decide +kernel)

example : ckxCfg.direct = false ∧ ckxCfg.ck.pats = [['i', 'd']] ∧ recOnly ckxA = true ∧ recOnly ckxB = true := by decide +kernel
example : (compareTop ckxCfg ckxA ckxB).map (fun r => (r.diffs, r.notEqual.map (·.path), r.otherUnique.map (·.path)))
    = .ok (2, [[.key ['r'], .idx2 1 0, .key ['v']]], [[.key ['r'], .idx 2]]) := by decide +kernel
example : (compareTop { ckxCfg with tr := [] } ckxA ckxB).map (·.diffs) = .ok 5 := by decide +kernel
/-- every hypothesis of `C10_transform_keyed_ck` holds of these inputs -/
example : TrERel (compareTop ckxCfg ckxA ckxB) (compareTop (noTransf ckxCfg) (mapT ckxCfg [] ckxA) (mapT ckxCfg [] ckxB)) :=
  C10_transform_keyed_ck ckxCfg ckxA ckxB rfl ckxCfg_leaf ckxCfg_blind (by decide +kernel) (by decide +kernel) ckx_items

/-- … and at depth: a keyed list inside the records of a keyed list, pairs met across positions at BOTH levels —
`{'r': [{'id':'X','s':[{'id':'p','n':'A'}, {'id':'q','n':'b'}]}, {'id':'y','s':[]}]}` vs
`{'r': [{'id':'Y','s':[]}, {'id':'x','s':[{'id':'Q','n':'B'}, {'id':'P','n':'c'}]}]}`: the only difference is
`/r[0]<>[1]/s[0]<>[1]/n` (`'A'` vs `'c'`), in the run with `transform` and in the plain run on the mapped trees
(the implementation reports the same entry); the plain run on the original trees reports 4 differences. -/
def ckxSub (i n : Char) : Val := .dict .n0 [(['i', 'd'], .str [i]), (['n'], .str [n])]
def ckxOuter (i : Char) (s : List Val) : Val := .dict .n0 [(['i', 'd'], .str [i]), (['s'], .list .n0 s)]
def ckxNA : Val := .dict .n0 [(['r'], .list .n0 [ckxOuter 'X' [ckxSub 'p' 'A', ckxSub 'q' 'b'], ckxOuter 'y' []])]
def ckxNB : Val := .dict .n0 [(['r'], .list .n0 [ckxOuter 'Y' [], ckxOuter 'x' [ckxSub 'Q' 'B', ckxSub 'P' 'c']])]
example : recOnly ckxNA = true ∧ recOnly ckxNB = true := by decide +kernel
example : (compareTop ckxCfg ckxNA ckxNB).map (fun r => (r.diffs, r.notEqual.map (·.path)))
    = .ok (1, [[.key ['r'], .idx2 0 1, .key ['s'], .idx2 0 1, .key ['n']]]) := by decide +kernel
example : (compareTop (noTransf ckxCfg) (mapT ckxCfg [] ckxNA) (mapT ckxCfg [] ckxNB)).map (fun r => (r.diffs, r.notEqual.map (·.path)))
    = .ok (1, [[.key ['r'], .idx2 0 1, .key ['s'], .idx2 0 1, .key ['n']]]) := by decide +kernel
example : (compareTop (noTransf ckxCfg) ckxNA ckxNB).map (·.diffs) = .ok 4 := by decide +kernel
example : ∀ x ∈ allItems ckxNA ++ allItems ckxNB, keyFieldsLeaf ckxCfg x :=
  ckv_keyFieldsLeaf_of_test (by decide +kernel)

/-- `{'r': [{'id': '1', 'v': 1}, {'id': '2', 'v': 2}]}` against the same with `r` reversed, `composite_key='id'`:
(a) the pattern `r/id` (no index: matches no dictionary entry) with the constant function does not change the pairing —
nothing reported, as without the option; (b) the pattern `r[0]/id` with `lower` on `id: 'A'` vs `id: 'a'`: the key is
built from the transformed field, the records meet and nothing is reported -/
def ckRows (x y : Val) : Val := .dict .n0 [(['r'], .list .n0 [x, y])]
def ckRec (i : Char) (v : Int) : Val := .dict .n0 [(['i', 'd'], .str [i]), (['v'], .int v)]
def constFn : Val → Val
  | .list c xs => .list c xs
  | .dict c kvs => .dict c kvs
  | _ => .str ['K']
def ckCfgA : Cfg := { Cfg.default Flags.init false with ck := .one ['i', 'd'], tr := [⟨['r', '/', 'i', 'd'], constFn⟩] }
def ckCfgB : Cfg := { Cfg.default Flags.init false with ck := .one ['i', 'd'], tr := [⟨['r', '[', '0', ']', '/', 'i', 'd'], lowerFn⟩] }
theorem C10_ck_pairing_fixed :
    (compareTop ckCfgA (ckRows (ckRec '1' 1) (ckRec '2' 2)) (ckRows (ckRec '2' 2) (ckRec '1' 1))).map (·.diffs) = .ok 0 ∧
    (compareTop { ckCfgA with tr := [] } (ckRows (ckRec '1' 1) (ckRec '2' 2)) (ckRows (ckRec '2' 2) (ckRec '1' 1))).map (·.diffs) = .ok 0 ∧
    (compareTop ckCfgB (.dict .n0 [(['r'], .list .n0 [ckRec 'A' 1])]) (.dict .n0 [(['r'], .list .n0 [ckRec 'a' 1])])).map (·.diffs) = .ok 0 ∧
    (compareTop { ckCfgB with tr := [] } (.dict .n0 [(['r'], .list .n0 [ckRec 'A' 1])]) (.dict .n0 [(['r'], .list .n0 [ckRec 'a' 1])])).map (·.diffs) = .ok 2 := by
  decide +kernel
/-- non-vacuity of `C10_transform_keyed_ck_keys`: the records above have leaf key fields; the keys of the transformed run -/
example : ∀ x ∈ [ckRec 'A' 1, ckRec 'b' 2], keyFieldsLeaf ckCfgB x :=
  ckv_keyFieldsLeaf_of_test (by decide +kernel)
example : keysOf ckCfgB [.key ['r']] 0 [ckRec 'A' 1, ckRec 'B' 2] =
    .ok [['{', '"', 'i', 'd', '"', ':', ' ', '"', 'a', '"', '}'], ['{', '"', 'i', 'd', '"', ':', ' ', '"', 'B', '"', '}']] := by decide +kernel

/-- non-vacuity: lists of records whose names agree after `lower`, one changed value, one extra record -/
example : LeafTransform trkCfg := trkCfg_leaf
example : recOnly trkA = true ∧ recOnly trkB = true ∧ trkCfg.direct = false ∧ trkCfg.ck.pats.isEmpty = true ∧
    (compareTop trkCfg trkA trkB).map (fun r => (r.diffs, r.notEqual.map (·.path), r.otherUnique.map (·.path)))
      = .ok (2, [[.key ['r'], .idx 1, .key ['v']]], [[.key ['r'], .idx 2]]) ∧
    (compareTop { trkCfg with tr := [] } trkA trkB).map (·.diffs) = .ok 4 := trk_example

example : LeafTransform trCexCfg := trCexCfg_leaf
example : (match compareTop { trCexCfg with direct := true } trCexA trCexB with | .ok r => r.diffs | .error _ => 1) = 0 :=
  transform_direct_example

/-! Non-vacuity: patterns of every kind; a pair where each option really filters. -/
example : matchOne "/a[0]/Name".toList "//name".toList = true := by
  rw [String.toList_ofList, String.toList_ofList]
  decide +kernel
example : matchOne "/a[0]/Name".toList "*/NAME".toList = true := by
  rw [String.toList_ofList, String.toList_ofList]
  decide +kernel
example : matchOne "/a[0]/Name".toList "/a/name".toList = false := by
  rw [String.toList_ofList, String.toList_ofList]
  decide +kernel
example : matchOne "/x/a/b".toList "/a/b".toList = true := by   -- a leading `/` does not anchor at the root
  rw [String.toList_ofList, String.toList_ofList]
  decide +kernel
example : matchOne "/b".toList "a/b".toList = false := by
  rw [String.toList_ofList, String.toList_ofList]
  decide +kernel
example : xpathMatch "/k/f".toList (.many ["zz".toList, "K/F".toList]) = 2 := by
  rw [String.toList_ofList, String.toList_ofList, String.toList_ofList]
  decide +kernel

def exA : Val := .dict .n0 [(['k'], .dict .n0 [(['f'], .int 1), (['g'], .int 2)]), (['l'], .list .n0 [.int 1]), (['m'], .none)]
def exB : Val := .dict .n0 [(['k'], .dict .n0 [(['f'], .int 5), (['g'], .int 6)]), (['l'], .list .n0 [.int 2])]
example : (compareTop (Cfg.default Flags.init true) exA exB).map (fun r => r.diffs) = .ok 4 := by decide +kernel
example : (compareTop { Cfg.default Flags.init true with excl := .one ['/', '/', 'k'] } exA exB).map (fun r => (r.diffs, r.notEqual.map (·.path)))
    = .ok (2, [[.key ['l'], .idx 0]]) := by decide +kernel
example : (compareTop { Cfg.default Flags.init true with only := .many [['f']] } exA exB).map (fun r => (r.diffs, r.notEqual.map (·.path), r.selfUnique.length))
    = .ok (2, [[.key ['k'], .key ['f']], [.key ['l'], .idx 0]], 0) := by decide +kernel

/-! Finding C10-d (open): a composite-key field whose value is a CONTAINER is keyed by the JSON text of its
untransformed leaves (the transform registered for the field's own path is applied to the field as a whole, and
`LeafTransform` functions are the identity on containers), so records whose key fields are equal after the transform
do not meet.  Outside the hypothesis `keyFieldsLeaf` of `C10_transform_keyed_ck`. -/
def ckContCfg : Cfg := { Cfg.default Flags.init false with ck := .one ['i', 'd'], tr := [⟨['/', '/', 'x'], lowerFn⟩] }
def ckContRec (c : Char) : Val := .dict .n0 [(['i', 'd'], .dict .n0 [(['x'], .str [c])]), (['v'], .int 1)]
def ckContA : Val := .dict .n0 [(['r'], .list .n0 [ckContRec 'A'])]
def ckContB : Val := .dict .n0 [(['r'], .list .n0 [ckContRec 'a'])]

/-- `{'r': [{'id': {'x': 'A'}, 'v': 1}]}` vs `{'r': [{'id': {'x': 'a'}, 'v': 1}]}`, `composite_key='id'`,
`transform=(('//x', lower),)`: both records are reported unique, although the mapped trees are equal and the run on
them reports nothing -/
theorem C10_container_key_field_cex :
    (match compareTop ckContCfg ckContA ckContB with | .ok r => r.diffs | .error _ => 0) = 2 ∧
      mapT ckContCfg [] ckContA = mapT ckContCfg [] ckContB ∧
      (match compareTop { ckContCfg with tr := [] } (mapT ckContCfg [] ckContA) (mapT ckContCfg [] ckContB) with
        | .ok r => r.diffs | .error _ => 1) = 0 := by
  decide +kernel

end N0.C10

/-! # The generated-source tie (keep this block at the end of the file)

`Gen/XPathMatch.lean` is regenerated from the Python text of `xpath_match` (`n0struct/n0struct_utils_compare.py`) by
`harness/translate_py_cmp.py` on every run of `./check C10`; the theorems below are re-checked against the new text.
Proofs: `Proofs/XPathMatchGenEq.lean`.  The translated function returns an `int` inside `Except PyErr` (the translator
does not know that `xs[-1 - j]` cannot raise here); the model returns a natural number. -/
namespace N0.C10
open N0 N0.Compare

/-- **The translated `xpath_match` is the hand-written model**, for every path text and every argument (`str`, or
tuple/list of `str`): same number, and it never raises (the `IndexError` of `xpath_parts[-1 - j]` is unreachable behind
the `j >= len(xpath_parts)` test; the `TypeError` branch is unreachable for a `PatArg`). -/
theorem C10_generated_xpath_match_eq (x : Str) (a : PatArg) :
    Gen.XPathMatch.xpathMatch x a = .ok (Int.ofNat (Compare.xpathMatch x a)) :=
  XPathMatchGenEq.xmgen_xpathMatch_eq x a

/-- the tuple / list specialisation is `xpathMatchFrom … 0` (what `transform` lookups and composite keys use) -/
theorem C10_generated_xpath_match_seq_eq (x : Str) (l : List Str) :
    Gen.XPathMatch.xpathMatchSeq x l = .ok (Int.ofNat (Compare.xpathMatchFrom x 0 l)) :=
  XPathMatchGenEq.xmgen_seq_eq x l

/-- the `str` specialisation is the one-element list -/
theorem C10_generated_xpath_match_str_eq (x s : Str) :
    Gen.XPathMatch.xpathMatchStr x s = .ok (Int.ofNat (Compare.xpathMatchFrom x 0 [s])) :=
  XPathMatchGenEq.xmgen_str_eq x s

/-- one iteration of the translated outer loop decides `matchOne` (the model of "this pattern matches this path") -/
theorem C10_generated_step_matchOne (x pat : Str) (i : Nat) :
    Gen.XPathMatch.XpathMatchSeq.step2 (Py.splitChar '/' x) () (pat, i) =
      .ok (if matchOne x pat then .exit (Int.ofNat i + 1) else .next ()) :=
  XPathMatchGenEq.xmgen_step2Seq (Py.splitChar '/' x) pat i

/-- **C10 (pattern matcher) on the translated code, result 0**: the translated `xpath_match` returns 0 iff no pattern
matches in the tail-anchored reading `specMatch` (case-insensitive, `*` = one part, empty part = any prefix) … -/
theorem C10_xpath_match_zero_generated (x : Str) (a : PatArg) :
    Gen.XPathMatch.xpathMatch x a = .ok 0 ↔ ∀ p ∈ a.pats, specMatch x p = false := by
  rw [C10_generated_xpath_match_eq, ← C10_xpath_match_zero]
  constructor
  · intro h
    have h' : Int.ofNat (xpathMatch x a) = 0 := by injection h
    exact Int.ofNat_eq_zero.mp h'
  · intro h; rw [h]; rfl

/-- … and `i + 1` iff the `i`-th pattern is the first one that matches. -/
theorem C10_xpath_match_pos_generated (x : Str) (a : PatArg) (i : Nat) :
    Gen.XPathMatch.xpathMatch x a = .ok (Int.ofNat (i + 1)) ↔
      (∃ p, a.pats[i]? = some p ∧ specMatch x p = true) ∧
        ∀ j < i, ∀ q, a.pats[j]? = some q → specMatch x q = false := by
  rw [C10_generated_xpath_match_eq, ← C10_xpath_match_pos]
  constructor
  · intro h
    have h' : Int.ofNat (xpathMatch x a) = Int.ofNat (i + 1) := by injection h
    exact Int.ofNat.inj h'
  · intro h; rw [h]

/-- a pattern given as `str` behaves as the one-element tuple — on the translated code -/
theorem C10_str_vs_tuple_generated (x s : Str) :
    Gen.XPathMatch.xpathMatch x (.one s) = Gen.XPathMatch.xpathMatch x (.many [s]) := by
  rw [C10_generated_xpath_match_eq, C10_generated_xpath_match_eq, C10_str_vs_tuple]

/-! Non-vacuity (the translated definitions are evaluated): `//`-relative, `*`, mixed case, a leading `/` that does not
anchor at the root, a pattern longer than the path, the second pattern of a tuple, the empty tuple, the `str` form. -/
example : Gen.XPathMatch.xpathMatch ['/', 'a', '[', '0', ']', '/', 'N', 'a', 'm', 'e'] (.one ['/', '/', 'n', 'a', 'm', 'e']) = .ok 1 := by decide +kernel
example : Gen.XPathMatch.xpathMatch ['/', 'a', '[', '0', ']', '/', 'N', 'a', 'm', 'e'] (.many [['*', '/', 'N', 'A', 'M', 'E']]) = .ok 1 := by decide +kernel
example : Gen.XPathMatch.xpathMatch ['/', 'x', '/', 'a', '/', 'b'] (.one ['/', 'a', '/', 'b']) = .ok 1 := by decide +kernel
example : Gen.XPathMatch.xpathMatch ['/', 'b'] (.one ['c', '/', 'a', '/', 'b']) = .ok 0 := by decide +kernel
example : Gen.XPathMatch.xpathMatch ['/', 'k', '/', 'f'] (.many [['z', 'z'], ['K', '/', 'F']]) = .ok 2 := by decide +kernel
example : Gen.XPathMatch.xpathMatch ['/', 'k', '/', 'f'] (.many []) = .ok 0 := by decide +kernel
example : Gen.XPathMatch.xpathMatch ['/', 'k'] (.one []) = .ok 1 := by decide +kernel   -- the empty pattern is one empty part
example : specMatch ['/', 'k', '/', 'f'] ['K', '/', 'F'] = true ∧ specMatch ['/', 'k', '/', 'f'] ['z', 'z'] = false := by decide +kernel

end N0.C10
