import N0Verif.Proofs.JsonLoad
import N0Verif.Proofs.JsonPyEq
/-!
# C11 — JSON export and load round-trip every JSON-representable tree

Only the property statements and the trees of their examples (`tPairs`, `tMixed`, `tDemo`) live here; the model is `Model/Json.lean` (`toJson` = `n0dict_.to_json` /
`n0list_.to_json` through `n0pretty`, **with fix patches C11-a, C11-c, C11-d, C11-f, C11-e applied**;
`jsonDecode` = `json.loads`), the proofs are in `Proofs/Json*.lean`.

Reading of the property.
* "JSON-representable tree" = `wf t`: keys are unique inside every dict and every float leaf
  carries a JSON float lexeme (`fltOk`; Python's `repr` of a finite float is one).
* "decodes to a value equal to the tree": `json.loads` builds plain `dict`/`list`, Python's `==`
  ignores the class and the order of dict entries.  `erase` forgets the class tags; `pyEq`
  (`Proofs/JsonPyEq.lean`; `wf`/`depth` are in `Proofs/JsonReader.lean`) is equality up to the order
  of dict entries on values whose dicts have distinct keys (all that Python has; on other values of the
  model it is neither reflexive nor symmetric).  The theorems give the decoded value *exactly*: it is `erase …` of the tree whose
  pair-layout records are listed in column order (`pairOrder o t`; the tree itself outside the pair
  layout, and whenever every record already lists its keys in column order), which is `pyEq` to the
  tree.
* "skip_empty_arrays drops empty containers": `dropEmptyIf o t` = `prune t` when the option is
  on — containers that are empty, or become empty once their own empty containers are dropped,
  are removed from their parent (the root itself stays, as `{}` / `[]`).
* "for every tree": no bound on width or nesting depth.  (The interpreter's own recursion limit —
  `RecursionError` from `n0pretty` or `json.loads` near 1000 nested containers — is a limit of the
  environment, not of the code modelled; it is listed in the trusted base of the check.)
-/
namespace N0.C11
open N0 N0.Py N0.Json

/-- **C11, full statement** (proved below: `C11_roundtrip`): for every JSON-representable tree
— any width, any nesting depth — and every option record the exported text is accepted by the
reader and decodes to the tree (minus empty containers when `skip_empty_arrays` is on). -/
def C11_roundtrip_stmt : Prop :=
  ∀ (o : Opts) (t : Val), wf t = true →
    ∃ v, jsonDecode (toJson o t) = some v ∧ pyEq v (erase (dropEmptyIf o t)) = true

/-- **The reader decodes every JSON text of a value.**  Whatever white space stands between the
tokens (`Ren v s`), `json.loads` returns the value: all strings (quote, backslash, control and
non-ASCII characters through `esc`), all ints, float lexemes, `true/false/null`, any nesting. -/
theorem C11_decode_ren (v : Val) (s : Str) (h : Ren v s) (hw : wf v = true) :
    jsonDecode s = some (erase v) := by
  rw [jsonDecode_ren h, dec_erase v hw]

/-- a string survives export and load, whatever it contains -/
theorem C11_string_roundtrip (x : Str) : jsonDecode (quoted x) = some (.str x) := by
  have h : Ren (.str x) (quoted x) := by simp [Ren, scalarText]
  simpa [erase] using C11_decode_ren (.str x) (quoted x) h rfl

/-- an integer survives export and load -/
theorem C11_int_roundtrip (i : Int) : jsonDecode (intRepr i) = some (.int i) := by
  have h : Ren (.int i) (intRepr i) := by simp [Ren, scalarText]
  simpa [erase] using C11_decode_ren (.int i) (intRepr i) h rfl

/-- **C11 without the pair layout** (`compress`, `indent = 0` or `pairs_in_one_line = False`;
every indent, both values of `skip_empty_arrays`): the exported text decodes *exactly* to the
tree with class tags forgotten and, under `skip_empty_arrays`, empty containers dropped
(dict order included). -/
theorem C11_roundtrip_pairs_off (o : Opts) (hp : o.pairsOn = false) (t : Val)
    (hw : wf t = true) :
    jsonDecode (toJson o t) = some (erase (dropEmptyIf o t)) := by
  rw [jsonDecode_toJson o t hw, pairOrder_off hp]

/-- the compressed layout -/
theorem C11_roundtrip_compress (o : Opts) (hc : o.compress = true) (t : Val)
    (hw : wf t = true) :
    jsonDecode (toJson o t) = some (erase (dropEmptyIf o t)) :=
  C11_roundtrip_pairs_off o (by simp [Opts.pairsOn, Opts.isz, hc]) t hw

/-- the indented layout, any indent, `pairs_in_one_line = False` -/
theorem C11_roundtrip_indented (o : Opts) (hpairs : o.pairs = false) (t : Val)
    (hw : wf t = true) :
    jsonDecode (toJson o t) = some (erase (dropEmptyIf o t)) :=
  C11_roundtrip_pairs_off o (by simp [Opts.pairsOn, hpairs]) t hw

/-- no formatting option (outside the pair layout) changes the decoded value:
two option records that agree on `skip_empty_arrays` decode to the same value -/
theorem C11_options_agree (o o' : Opts) (hp : o.pairsOn = false) (hp' : o'.pairsOn = false)
    (hs : o.skipEmpty = o'.skipEmpty) (t : Val) (hw : wf t = true) :
    jsonDecode (toJson o t) = jsonDecode (toJson o' t) := by
  rw [C11_roundtrip_pairs_off o hp t hw, C11_roundtrip_pairs_off o' hp' t hw]
  unfold dropEmptyIf
  rw [hs]

/-- **C11 for every option record, exact form**: the exported text decodes *exactly* to the tree
whose pair-layout records are listed in column order (`pairOrder o t`: nothing else differs from
`t`), with class tags forgotten and, under `skip_empty_arrays`, empty containers dropped.  Covers
compress, every indent, `pairs_in_one_line` on and off, both values of `skip_empty_arrays`, any
nesting depth. -/
theorem C11_roundtrip_ordered (o : Opts) (t : Val) (hw : wf t = true) :
    jsonDecode (toJson o t) = some (erase (dropEmptyIf o (pairOrder o t))) :=
  jsonDecode_toJson o t hw

/-- **C11, the full statement**: whatever the options and however deep the tree, the exported
text is accepted by `json.loads` and the decoded value equals the tree (minus the empty
containers when `skip_empty_arrays` is on) as Python compares values. -/
theorem C11_roundtrip : C11_roundtrip_stmt := by
  intro o t hw
  exact ⟨_, jsonDecode_toJson o t hw, pairOrder_pyEq o t hw⟩

/-- the formatting options, the pair layout included, change the decoded value at most in the order of dict entries: two
option records that agree on `skip_empty_arrays` both decode to values `pyEq` to the same tree.  (The two values are those
of `C11_roundtrip_ordered`.  `pyEq v v'` itself is not stated: `pyEq` is symmetric only where the left value has distinct
keys, and that a decoded value has them is no lemma of the development.) -/
theorem C11_options_agree_all (o o' : Opts) (hs : o.skipEmpty = o'.skipEmpty) (t : Val)
    (hw : wf t = true) :
    ∃ v v', jsonDecode (toJson o t) = some v ∧ jsonDecode (toJson o' t) = some v' ∧
      pyEq v (erase (dropEmptyIf o t)) = true ∧ pyEq v' (erase (dropEmptyIf o t)) = true := by
  obtain ⟨v, h1, h2⟩ := C11_roundtrip o t hw
  obtain ⟨v', h1', h2'⟩ := C11_roundtrip o' t hw
  refine ⟨v, v', h1, h1', h2, ?_⟩
  have : dropEmptyIf o t = dropEmptyIf o' t := by unfold dropEmptyIf; rw [hs]
  rw [this]; exact h2'

/-- exact equality (dict order included) in every layout when the records of the lists printed
in the pair layout already list their keys in column order (first appearance) -/
theorem C11_roundtrip_colorder (o : Opts) (t : Val) (hw : wf t = true)
    (hc : pairOrder o t = t) :
    jsonDecode (toJson o t) = some (erase (dropEmptyIf o t)) := by
  rw [jsonDecode_toJson o t hw, hc]

/-- the column-ordered tree is the tree as Python compares values (also after
`skip_empty_arrays`), and it is the tree itself when the pair layout is off -/
theorem C11_pairOrder_pyEq (o : Opts) (t : Val) (hw : wf t = true) :
    pyEq (erase (dropEmptyIf o (pairOrder o t))) (erase (dropEmptyIf o t)) = true ∧
    (o.pairsOn = false → pairOrder o t = t) :=
  ⟨pairOrder_pyEq o t hw, fun hp => pairOrder_off hp t⟩

/-- one record of the pair layout, whatever the column widths: the padded text
`{ "k": v   , "w": x }` is a JSON text (`Ren`) of the entries of the record under the columns, in column order
(`colOrder`: an entry whose key is no column is not printed; `pairCols` makes every key a column) -/
theorem C11_pair_record (c : Cls) (cols : List (Str × Nat)) (kvs : List (Str × Val))
    (hs : ∀ p ∈ kvs, isPairScalar p.2 = true) (hw : wfK kvs = true) :
    Ren (.dict c (colOrder cols kvs)) (['{'] ++ pairRecord kvs cols [] ++ [' ', '}']) :=
  pairRecord_ren c cols kvs (fun p hp => scalar_ren (hs p hp) (wfK_mem kvs hw p hp))

-- `nest n v` = `n` dicts around `v` (`Proofs/JsonPairs.lean`, with `wf_nest`, `depth_nest`, `pairOrder_nest`)

/-- **the guard of the debug printer does not reach the JSON export**: `n` nested dicts load back,
for every `n` (before fix C11-e the items of level 111 were printed as `{.......}`, so 112
nested dicts did not load) -/
theorem C11_depth_any (o : Opts) (n : Nat) :
    depth (nest n (.int 1)) = n ∧
    jsonDecode (toJson o (nest n (.int 1))) = some (erase (dropEmptyIf o (nest n (.int 1)))) := by
  refine ⟨by simp [depth_nest, depth], ?_⟩
  rw [C11_roundtrip_ordered o _ (wf_nest _ rfl n), pairOrder_nest]

/-- the counter-example of finding C11-e as an instance: 112 nested dicts, compressed -/
example : depth (nest 112 (.int 1)) = 112 ∧
    jsonDecode (toJson { compress := true } (nest 112 (.int 1))) = some (erase (nest 112 (.int 1))) := by
  have h := C11_depth_any { compress := true } 112
  exact ⟨h.1, by rw [h.2]; rfl⟩
-- the exported text really descends past level 111 (no `{.......}` in it)
example : toJson { compress := true } (nest 113 (.str [])) =
    (List.replicate 113 "{\"a\":".toList).flatten ++ ['"', '"'] ++ List.replicate 113 '}' :=
  toJson_nest_compress 113

/-! the pair layout: why the full statement uses `pyEq` -/

def tPairs : Val :=
  .list .n0 [.dict .n0 [(['k'], .str ['1']), (['v'], .bool true)],
             .dict .plain [(['v'], .flt ['1', '.', '5']), (['k'], .int 3)],
             .dict .n0 [(['v'], .str ['"', '\\'])]]

/-- the pair layout prints the columns in first-appearance order, so a record written
`{v, k}` comes back as `{k, v}`: equal for Python, not identical as an ordered list -/
theorem C11_pairs_reorders :
    (Opts.pairsOn {} = true) ∧
    jsonDecode (toJson {} tPairs) ≠ some (erase tPairs) ∧
    (∃ v, jsonDecode (toJson {} tPairs) = some v ∧ pyEq v (erase tPairs) = true) := by
  -- what the text decodes to comes from `C11_roundtrip_ordered`; only the small trees are evaluated
  have h : jsonDecode (toJson {} tPairs)
      = some (.list .plain [.dict .plain [(['k'], .str ['1']), (['v'], .bool true)],
             .dict .plain [(['k'], .int 3), (['v'], .flt ['1', '.', '5'])],
             .dict .plain [(['v'], .str ['"', '\\'])]]) := by
    rw [C11_roundtrip_ordered {} tPairs (by decide +kernel)]
    decide +kernel
  exact ⟨by decide, by rw [h]; decide +kernel, _, h, by decide +kernel⟩

/-- `tPairs` through the theorems: the decoded value is the column-ordered tree -/
example : jsonDecode (toJson {} tPairs)
    = some (.list .plain [.dict .plain [(['k'], .str ['1']), (['v'], .bool true)],
             .dict .plain [(['k'], .int 3), (['v'], .flt ['1', '.', '5'])],
             .dict .plain [(['v'], .str ['"', '\\'])]]) := by
  rw [C11_roundtrip_ordered {} tPairs (by decide +kernel)]
  decide +kernel

/-- **C11, load**: `json.loads(text, object_pairs_hook=n0dict)` accepts exactly the texts
`json.loads(text)` accepts, fails with the same error otherwise, and builds the same value with
every object an n0dict (arrays stay plain lists): same keys, same order, same leaves -/
theorem C11_load_hook (s : Str) : jsonLoadsHookE s = (jsonDecodeE s).map tagN0 :=
  jsonLoadsHookE_eq s

/-- **`n0dict(text)` = `json.loads(text.strip())`** with nested objects as n0dicts, for every
non-empty text whose first non-blank character is `{` (also the error: a text that is not JSON
raises `JSONDecodeError` in both) -/
theorem C11_load (s r : Str) (hne : s ≠ []) (hs : stripWs s = '{' :: r) :
    n0dictOfText s = (jsonDecodeE (stripWs s)).map tagN0 := by
  rw [hs]; exact n0dictOfText_json hne hs

/-- **`n0list(text)` = `json.loads(text.strip())`**, the list itself an n0list, nested objects
n0dicts, nested arrays plain lists -/
theorem C11_load_list (s r : Str) (hne : s ≠ []) (hs : stripWs s = '[' :: r) :
    n0listOfText s = (jsonDecodeE (stripWs s)).map tagTop := by
  rw [hs]; exact n0listOfText_json hne hs

/-- the other branches: an empty text gives the empty container; a text that starts with
anything else (`<` = XML for `n0dict` aside) is a `TypeError` -/
theorem C11_load_dispatch (s : Str) :
    (s = [] → n0dictOfText s = .ok (.dict .n0 []) ∧ n0listOfText s = .ok (.list .n0 [])) ∧
    (s ≠ [] → (∀ r, stripWs s ≠ '{' :: r) → (∀ r, stripWs s ≠ '<' :: r) → n0dictOfText s = .error .TypeError) ∧
    (s ≠ [] → (∀ r, stripWs s ≠ '[' :: r) → n0listOfText s = .error .TypeError) := by
  refine ⟨?_, ?_, ?_⟩
  · rintro rfl; exact ⟨rfl, rfl⟩
  · intro hne h1 h2
    unfold n0dictOfText
    have : s.isEmpty = false := by cases s <;> simp at hne ⊢
    simp only [this, Bool.false_eq_true, if_false]
  · intro hne h1
    unfold n0listOfText
    have : s.isEmpty = false := by cases s <;> simp at hne ⊢
    simp only [this, Bool.false_eq_true, if_false]

/-- **export, then construct**: `n0dict(x.to_json(…))` / `n0list(x.to_json(…))` rebuild the
(column-ordered) tree for every option record and any nesting depth, with the class tags the
constructors give -/
theorem C11_export_construct (o : Opts) (c : Cls) :
    (∀ kvs, wf (.dict c kvs) = true →
      n0dictOfText (toJson o (.dict c kvs)) = .ok (tagN0 (erase (dropEmptyIf o (pairOrder o (.dict c kvs)))))) ∧
    (∀ xs, wf (.list c xs) = true →
      n0listOfText (toJson o (.list c xs)) = .ok (tagTop (erase (dropEmptyIf o (pairOrder o (.list c xs)))))) :=
  ⟨fun kvs hw => n0dictOfText_toJson o c kvs hw, fun xs hw => n0listOfText_toJson o c xs hw⟩

-- non-vacuity: blanks that `strip()` removes but JSON does not accept, a repeated key, nested
-- objects and arrays; an invalid text; the dispatch
-- (a string literal is first turned into its list of characters: `toList` of a literal is slow to
-- evaluate in the kernel)
example : n0dictOfText (Char.ofNat 12 :: "{\"a\": [1, {\"b\": null}], \"c\": {}, \"a\": [[]]}\n".toList)
    = .ok (.dict .n0 [(['a'], .list .plain [.list .plain []]), (['c'], .dict .n0 [])]) := by
  rw [String.toList_ofList]
  decide +kernel
example : jsonDecodeE (Char.ofNat 12 :: "{}".toList) = .error .ValueError := by decide +kernel
example : stripWs (Char.ofNat 12 :: "{\"a\": 1} ".toList) = "{\"a\": 1}".toList := by
  rw [String.toList_ofList, String.toList_ofList]
  decide +kernel
example : n0dictOfText "{\"a\": 1,}".toList = .error .ValueError ∧ n0dictOfText "[1]".toList = .error .TypeError
    ∧ n0listOfText " [1, {\"k\": [2]}] ".toList = .ok (.list .n0 [.int 1, .dict .n0 [(['k'], .list .plain [.int 2])]])
    ∧ n0listOfText "{}".toList = .error .TypeError ∧ n0dictOfText [' '] = .error .TypeError := by
  rw [String.toList_ofList, String.toList_ofList, String.toList_ofList, String.toList_ofList]
  decide +kernel
example : n0dictOfText (toJson {} (.dict .plain [(['r'], tPairs)]))
    = .ok (.dict .n0 [(['r'], .list .plain [.dict .n0 [(['k'], .str ['1']), (['v'], .bool true)],
             .dict .n0 [(['k'], .int 3), (['v'], .flt ['1', '.', '5'])],
             .dict .n0 [(['v'], .str ['"', '\\'])]])]) := by
  rw [(C11_export_construct {} .plain).1 _ (by decide +kernel)]
  decide +kernel

/-- a tree with two pair-layout lists (one nested in a dict of a general list), an empty record,
an absent first column, a record in the other order, escapes in keys and values -/
def tMixed : Val :=
  .dict .n0 [(['r'], .list .n0 [.dict .n0 [(['b', '"'], .int (-7))],
                                .dict .plain [],
                                .dict .n0 [(['b', '"'], .str ['\n', '"']), (['a'], .flt ['2', '.', '5'])],
                                .dict .plain [(['a'], .bool false)]]),
             (['g'], .list .plain [.int 1, .dict .n0 [(['q'], .list .n0 [.dict .n0 [(['x'], .str [])]])], .list .n0 []])]

example : wf tMixed = true ∧ depth tMixed = 5 := by decide +kernel
example : Opts.pairsOn { indent := 2, skipEmpty := true } = true := by decide
-- the pair layout really is used, and re-lists nothing here (first-appearance order = record order)
example : pairOrder { indent := 2, skipEmpty := true } tMixed = tMixed := by decide +kernel
example : pairOrder {} tPairs ≠ tPairs := by decide +kernel
example : jsonDecode (toJson { indent := 2, skipEmpty := true } tMixed)
    = some (.dict .plain [(['r'], .list .plain [.dict .plain [(['b', '"'], .int (-7))],
                                .dict .plain [(['b', '"'], .str ['\n', '"']), (['a'], .flt ['2', '.', '5'])],
                                .dict .plain [(['a'], .bool false)]]),
             (['g'], .list .plain [.int 1, .dict .plain [(['q'], .list .plain [.dict .plain [(['x'], .str [])]])]])]) := by
  rw [C11_roundtrip_colorder _ tMixed (by decide +kernel) (by decide +kernel)]
  decide +kernel
-- the text of the instance contains a padded record with an absent first column
example : pretty { indent := 2 } 0 (.list .n0 [.dict .n0 [(['k'], .int 1), (['v'], .int 22)], .dict .n0 [(['v'], .int 3)]])
    = "[\n  { \"k\": 1, \"v\": 22 },\n  {         \"v\": 3  }\n]".toList := by
  rw [String.toList_ofList]
  decide +kernel
example : ∃ o t, wf t = true ∧ o.pairsOn = true ∧ pairOrder o t ≠ t :=
  ⟨{}, tPairs, by decide +kernel, by decide, by decide +kernel⟩
example : isPairScalar (.str ['a']) = true ∧ isPairScalar .none = false ∧ isPairScalar (.list .n0 []) = false := by decide

def tDemo : Val :=
  .dict .n0 [(['a', '"'], .list .n0 [.str ['\\', '\n', '"', 'é', Char.ofNat 1], .int (-12), .flt ['1', 'e', '-', '0', '7'],
                                     .none, .bool false, .list .plain [], .dict .plain [(['x'], .dict .n0 [])]]),
             (['e'], .dict .plain []), ([], .str [])]

example : wf tDemo = true ∧ depth tDemo = 4 := by decide +kernel
example : Opts.pairsOn { indent := 2, pairs := false, skipEmpty := true } = false := by decide
-- the hypotheses of `C11_roundtrip_pairs_off` are met and the conclusion is a non-trivial value
example : jsonDecode (toJson { indent := 2, pairs := false, skipEmpty := true } tDemo)
    = some (.dict .plain [(['a', '"'], .list .plain [.str ['\\', '\n', '"', 'é', Char.ofNat 1], .int (-12),
        .flt ['1', 'e', '-', '0', '7'], .none, .bool false])
      , ([], .str [])]) := by
  rw [C11_roundtrip_pairs_off _ (by decide) tDemo (by decide +kernel)]
  decide +kernel
example : Ren (.list .n0 [.int 1, .str ['a']]) "[ 1 ,\n \"a\" ]".toList := by
  rw [String.toList_ofList]
  simp only [Ren, RenL, RenTail]
  exact ⟨[' ', '1', ' ', ',', '\n', ' ', '"', 'a', '"', ' '],
    ⟨[' '], ['1'], [' ', ',', '\n', ' ', '"', 'a', '"', ' '], by decide, by decide +kernel,
      ⟨[' '], ['\n', ' '], ['"', 'a', '"'], [' '], by decide, by decide, by decide +kernel, by decide, by decide +kernel⟩,
      by decide +kernel⟩, by decide +kernel⟩
example : fltOk "1e-07".toList = true ∧ fltOk "-2.5".toList = true ∧ fltOk "1".toList = false ∧ fltOk "nan".toList = false := by
  rw [String.toList_ofList, String.toList_ofList, String.toList_ofList, String.toList_ofList]
  decide +kernel

end N0.C11
