import N0Verif.Proofs.XmlTree
/-!
# C12 — XML export is well-formed and loads back to the same tree

**Partial by nature.**  The XML parser (expat) and `xmltodict` are external code.  `xmlRead` is a reader for exactly the
fragment the writer emits, fused with `xmltodict`'s element handler; it is the *meaning* given here to "well-formed" and
"loads back" and is tied to the real parser only differentially (harness streams `xml.load`, `xml.read`).  The writer
`toXml` is the model of `n0dict_.to_xml`/`__xml` (with the fixes C12-a, C12-c, C12-d, C12-b applied, in this order); its
constants are regenerated from the source on every run (`Gen/XmlConsts.lean`).  The proofs are in `Proofs/Xml*.lean`;
the witnesses and test trees below are evaluated.
-/
namespace N0.C12
open N0 N0.Py N0.Xml

/-- **C12 (entities).**  Every entity the writer can emit is one of XML's five predefined
entities, and it stands for the very character it replaces.  Decided over the table regenerated
from the source (`html_entities` on the tree at the verified commit fails this: 28 HTML names). -/
theorem C12_entities_are_xml :
    ∀ p ∈ Gen.XmlConsts.writerTable, ∃ q ∈ predefined, q.2.toNat = p.1 ∧ p.2 = '&' :: q.1 ++ [';'] := by
  decide +kernel

/-- the markup characters are in the table, and the CDATA markers are XML's -/
theorem C12_config_ok : cfgOk Cfg.gen = true := by decide +kernel

/-- the HTML name the tree at the verified commit emitted for U+20AC is not an XML entity: the reader (like expat)
rejects the document (finding C12-a, fixed by `xml_entities`) -/
theorem C12_html_entity_undefined_cex :
    readStatus ['<', 'a', '>', '&', 'e', 'u', 'r', 'o', ';', '<', '/', 'a', '>'] = some .malformed := by decide +kernel

/-- a lower-case CDATA marker is not XML: passing such a value through unescaped (as the tree at the
verified commit did) gives an ill-formed document (finding C12-c, fixed by the exact CDATA test) -/
theorem C12_lowercase_cdata_cex :
    readStatus ['<', 'a', '>', '<', '!', '[', 'c', 'd', 'a', 't', 'a', '[', 'x', ']', ']', '>', '<', '/', 'a', '>'] = some .malformed := by
  decide +kernel

/-- **C12 (escaping), any table.**  Any text over XML characters other than CR (`isXmlText`), escaped with a table that satisfies
the decidable side condition and placed in an element, is read back as exactly that text (not
merely up to white space). -/
theorem C12_text_escaped_any_table (tb : List (Nat × Str)) (htb : tableOk tb = true) (k s : Str)
    (hk : isName k = true) (hs : isXmlText s = true) :
    xmlRead (openTag k [] ++ escape tb s ++ closeTag k) = .ok (Elem.mk k s []) := by
  have hre := ReadsElem.elem hk (ReadsIn.escape htb s hs)
  obtain ⟨c, cs, rfl, hc, _⟩ := isName_cons hk
  have hq : c ≠ '?' := (isNameStart_ne hc).2.2
  exact xmlRead_of_elem _ _ c (cs ++ '>' :: (escape tb s ++ closeTag (c :: cs)))
    (by simp [openTag, List.append_assoc]) hq hre

/-- **C12 (escaping).**  The same for the writer's own table. -/
theorem C12_text_escaped (k s : Str) (hk : isName k = true) (hs : isXmlText s = true) :
    xmlRead (openTag k [] ++ escape Cfg.gen.table s ++ closeTag k) = .ok (Elem.mk k s []) :=
  C12_text_escaped_any_table Cfg.gen.table (by decide +kernel) k s hk hs

/-! `xmlShaped true t`: one root element that is not itself repeated; ASCII element names, unique per
record; values are text over XML characters other than CR, `None`, numbers, nested records and **repeated
elements** -- non-empty lists whose items are text, records, `None` or numbers (anything but a list). -/

/-- **C12 (well-formed).**  For every XML-shaped tree, every indent, either quote and every encoding
name, `to_xml` succeeds and the reader accepts the document. -/
theorem C12_wellformed (o : Opts) (t : Val) (ho : isGoodOpts o = true) (ht : xmlShaped true t = true) :
    ∃ s, toXml Cfg.gen o t = .ok s ∧ WellFormed s := by
  obtain ⟨s, e, h1, h2, _⟩ := toXml_reads Cfg.gen C12_config_ok o ho true t ht
  exact ⟨s, h1, e, h2⟩

/-- **C12 (round trip).**  Loading the export gives the tree up to XML's normalisations
(`normRoot`: records become n0dicts, numbers become text, `''`/`{}`/`None` coincide, surrounding white space is dropped, a
CDATA value stands for its content, a list of two or more items comes back as the plain list of the
normalised items and a list of one item as the item itself -- `C12_norm_one_item`,
`C12_norm_repeated`). -/
theorem C12_roundtrip (o : Opts) (t : Val) (ho : isGoodOpts o = true) (ht : xmlShaped true t = true) :
    ∃ s, toXml Cfg.gen o t = .ok s ∧ loadXml s = .ok (normRoot Cfg.gen t) := by
  obtain ⟨s, e, h1, h2, h3, h4, h5⟩ := toXml_reads Cfg.gen C12_config_ok o ho true t ht
  exact ⟨s, h1, by rw [loadXml_of_read h4 h5 h2, h3]⟩

/-- **C12 (options).**  indent, encoding and quote change the layout only: both exports succeed and load alike (to the
tree of `C12_roundtrip`). -/
theorem C12_layout_only (o o' : Opts) (t : Val) (ho : isGoodOpts o = true) (ho' : isGoodOpts o' = true)
    (ht : xmlShaped true t = true) :
    ∃ s s', toXml Cfg.gen o t = .ok s ∧ toXml Cfg.gen o' t = .ok s' ∧ loadXml s = loadXml s' := by
  obtain ⟨s, h1, h2⟩ := C12_roundtrip o t ho ht
  obtain ⟨s', h1', h2'⟩ := C12_roundtrip o' t ho' ht
  exact ⟨s, s', h1, h1', by rw [h2, h2']⟩

/-- well-formedness and round trip (hence layout-only) hold for every configuration that passes the decidable side condition
(so a harmless change of the table, e.g. adding `'` -> `&apos;`, re-proves itself), with or without
repeated elements in the quantifier -/
theorem C12_roundtrip_any_config (cfg : Cfg) (hcfg : cfgOk cfg = true) (o : Opts) (lists : Bool) (t : Val)
    (ho : isGoodOpts o = true) (ht : xmlShaped lists t = true) :
    ∃ s, toXml cfg o t = .ok s ∧ WellFormed s ∧ loadXml s = .ok (normRoot cfg t) := by
  obtain ⟨s, e, h1, h2, h3, h4, h5⟩ := toXml_reads cfg hcfg o ho lists t ht
  exact ⟨s, h1, ⟨e, h2⟩, by rw [loadXml_of_read h4 h5 h2, h3]⟩

/-- a list of one item normalises to the item itself (what it loads back as, by `C12_roundtrip`): XML cannot tell
`<a>x</a>` from a one-item repetition -/
theorem C12_norm_one_item (cfg : Cfg) (c : Cls) (x : Val) : normalise cfg (.list c [x]) = normalise cfg x :=
  normalise_one_item cfg c x

/-- two or more items normalise to the plain list of the normalised items -/
theorem C12_norm_repeated (cfg : Cfg) (c : Cls) (x y : Val) (xs : List Val) :
    normalise cfg (.list c (x :: y :: xs)) = .list .plain (normalise cfg x :: normalise cfg y :: normList cfg xs) :=
  normalise_repeated cfg c x y xs

/-- **C12 (attributes).**  The record of the root element with an `@` key holding text or a number -- after any number of
XML-shaped entries, whatever follows -- cannot be exported (a record at any depth: `entries_attr_raises`): `to_xml` raises `NotImplementedError`
(the branch "Export of attibtures is not supported yet").  So `xmltodict`'s attribute convention
is outside the writer, and `xmlShaped` rightly allows names only. -/
theorem C12_attribute_not_implemented (o : Opts) (c c' : Cls) (r k : Str) (pre rest : List (Str × Val)) (v : Val)
    (hn : keysNodup pre = true) (hs : shapedKvs true pre = true) (hv : isScalarVal v = true) :
    toXml Cfg.gen o (.dict c [(r, .dict c' (pre ++ ('@' :: k, v) :: rest))]) = .error .NotImplementedError :=
  toXml_attr_not_implemented Cfg.gen C12_config_ok o true c c' r k pre rest v hn hs hv

/-- the defaults of `to_xml`: indent 4, utf-8, `"` -/
def optsDefault : Opts := { indent := 4, encoding := some ['u', 't', 'f', '-', '8'], quote := ['"'] }

/-- `{'r': {'@id': None, 'a': 'x'}}` -/
def attrNone : Val :=
  .dict .n0 [(['r'], .dict .plain [(['@', 'i', 'd'], .none), (['a'], .str ['x'])])]

/-- its export: the attribute value is `str(None)` and the key is written once more as an element
`<@id/>`, which is not a name -/
def attrNoneXml : Str :=
  ['<', '?', 'x', 'm', 'l', ' ', 'v', 'e', 'r', 's', 'i', 'o', 'n', '=', '"', '1', '.', '0', '"', ' ', 'e', 'n', 'c', 'o', 'd', 'i', 'n', 'g', '=', '"', 'u', 't', 'f', '-', '8', '"', '?', '>', '\n', '<', 'r', ' ', 'i', 'd', '=', '"', 'N', 'o', 'n', 'e', '"', '>', '\n', ' ', ' ', ' ', ' ', '<', '@', 'i', 'd', '/', '>', '\n', ' ', ' ', ' ', ' ', '<', 'a', '>', 'x', '<', '/', 'a', '>', '\n', '<', '/', 'r', '>']

/-- an `@` key holding `None` does not raise; the document has the attribute `id="None"` *and* an
element `<@id/>` (no XML parser accepts it: checked on the implementation only, attributes are
outside the reader model) -/
theorem C12_attribute_none_text : toXml Cfg.gen optsDefault attrNone = .ok attrNoneXml := by decide +kernel

/-- `{'r': {'#text': 'x'}}` -/
def hashText : Val :=
  .dict .n0 [(['r'], .dict .plain [(['#', 't', 'e', 'x', 't'], .str ['x'])])]

/-- `hashText.to_xml()` -/
def hashTextXml : Str :=
  ['<', '?', 'x', 'm', 'l', ' ', 'v', 'e', 'r', 's', 'i', 'o', 'n', '=', '"', '1', '.', '0', '"', ' ', 'e', 'n', 'c', 'o', 'd', 'i', 'n', 'g', '=', '"', 'u', 't', 'f', '-', '8', '"', '?', '>', '\n', '<', 'r', '>', '<', '#', 't', 'e', 'x', 't', '>', 'x', '<', '/', '#', 't', 'e', 'x', 't', '>', '<', '/', 'r', '>']

/-- `xmltodict`'s `#text` key is written as an element `<#text>`: the reader (like expat) rejects it -/
theorem C12_hash_text_cex :
    toXml Cfg.gen optsDefault hashText = .ok hashTextXml ∧ readStatus hashTextXml = some .malformed := by
  decide +kernel

/-- `{'r': {'a': ['x', 'y']}}` -/
def listWitness : Val :=
  .dict .n0 [(['r'], .dict .plain [(['a'], .list .plain [.str ['x'], .str ['y']])])]

/-- `{'r': {'a': ['<']}}` -/
def listTextWitness : Val :=
  .dict .n0 [(['r'], .dict .plain [(['a'], .list .plain [.str ['<']])])]

/-- what the tree at the verified commit wrote for `listWitness`: one wrapper element `<a>\nx\ny\n    </a>` -/
def listWrapperXml : Str :=
  ['<', '?', 'x', 'm', 'l', ' ', 'v', 'e', 'r', 's', 'i', 'o', 'n', '=', '"', '1', '.', '0', '"', ' ', 'e', 'n', 'c', 'o', 'd', 'i', 'n', 'g', '=', '"', 'u', 't', 'f', '-', '8', '"', '?', '>', '\n', '<', 'r', '>', '\n', ' ', ' ', ' ', ' ', '<', 'a', '>', '\n', 'x', '\n', 'y', '\n', ' ', ' ', ' ', ' ', '<', '/', 'a', '>', '\n', '<', '/', 'r', '>']

/-- what the tree at the verified commit wrote for `listTextWitness`: a raw `<` inside `<a>` -/
def listTextRawXml : Str :=
  ['<', '?', 'x', 'm', 'l', ' ', 'v', 'e', 'r', 's', 'i', 'o', 'n', '=', '"', '1', '.', '0', '"', ' ', 'e', 'n', 'c', 'o', 'd', 'i', 'n', 'g', '=', '"', 'u', 't', 'f', '-', '8', '"', '?', '>', '\n', '<', 'r', '>', '\n', ' ', ' ', ' ', ' ', '<', 'a', '>', '\n', '<', '\n', ' ', ' ', ' ', ' ', '<', '/', 'a', '>', '\n', '<', '/', 'r', '>']

/-- `listWitness.to_xml()`: one element per item -/
def listWitnessXml : Str :=
  ['<', '?', 'x', 'm', 'l', ' ', 'v', 'e', 'r', 's', 'i', 'o', 'n', '=', '"', '1', '.', '0', '"', ' ', 'e', 'n', 'c', 'o', 'd', 'i', 'n', 'g', '=', '"', 'u', 't', 'f', '-', '8', '"', '?', '>', '\n', '<', 'r', '>', '\n', ' ', ' ', ' ', ' ', '<', 'a', '>', 'x', '<', '/', 'a', '>', '\n', ' ', ' ', ' ', ' ', '<', 'a', '>', 'y', '<', '/', 'a', '>', '\n', '<', '/', 'r', '>']

/-- `listTextWitness.to_xml()` -/
def listTextWitnessXml : Str :=
  ['<', '?', 'x', 'm', 'l', ' ', 'v', 'e', 'r', 's', 'i', 'o', 'n', '=', '"', '1', '.', '0', '"', ' ', 'e', 'n', 'c', 'o', 'd', 'i', 'n', 'g', '=', '"', 'u', 't', 'f', '-', '8', '"', '?', '>', '\n', '<', 'r', '>', '<', 'a', '>', '&', 'l', 't', ';', '<', '/', 'a', '>', '<', '/', 'r', '>']

theorem listWitness_xml : toXml Cfg.gen optsDefault listWitness = .ok listWitnessXml := by decide +kernel

theorem listTextWitness_xml : toXml Cfg.gen optsDefault listTextWitness = .ok listTextWitnessXml := by decide +kernel

/-- **C12-b (fixed).**  The wrapper form loads back merged, `{'r': {'a': 'x\ny'}}`, which is not the
normal form of the tree; the export of the repaired writer loads back as the list. -/
theorem C12_list_wrapper_merged_cex :
    loadXml listWrapperXml = .ok (.dict .n0 [(['r'], .dict .n0 [(['a'], .str ['x', '\n', 'y'])])]) ∧
    loadXml listWrapperXml ≠ .ok (normRoot Cfg.gen listWitness) ∧
    loadXml listWitnessXml = .ok (.dict .n0 [(['r'], .dict .n0 [(['a'], .list .plain [.str ['x'], .str ['y']])])]) := by
  decide +kernel

/-- **C12-d (fixed).**  The reader (like expat) rejects the document with the raw `<`; the export
of the repaired writer is accepted and loads back as the text (a one-item list: the item). -/
theorem C12_list_text_unescaped_cex :
    readStatus listTextRawXml = some .malformed ∧
    loadXml listTextWitnessXml = .ok (.dict .n0 [(['r'], .dict .n0 [(['a'], .str ['<'])])]) := by
  decide +kernel

/-- `{'r': {'a': '<& ', 'Parm': {'ParmCode': 'x', 'Value': True}, 'c': '<![CDATA[ x<y ]]>', 'n': None,
'f': 1.5, 'd': {'e': 'a\nb', 'z': {}}}}` -/
def exTree : Val :=
  .dict .n0 [(['r'], .dict .plain [
    (['a'], .str ['<', '&', ' ']),
    (['P', 'a', 'r', 'm'], .dict .plain [(['P', 'a', 'r', 'm', 'C', 'o', 'd', 'e'], .str ['x']), (['V', 'a', 'l', 'u', 'e'], .bool true)]),
    (['c'], .str ['<', '!', '[', 'C', 'D', 'A', 'T', 'A', '[', ' ', 'x', '<', 'y', ' ', ']', ']', '>']),
    (['n'], .none),
    (['f'], .flt ['1', '.', '5']),
    (['d'], .dict .plain [(['e'], .str ['a', '\n', 'b']), (['z'], .dict .plain [])])])]

example : xmlShaped false exTree = true := by decide +kernel
example : isGoodOpts optsDefault = true ∧ isGoodOpts { indent := 0, encoding := none, quote := ['\''] } = true := by decide +kernel
/-- `indent=0, encoding=None, quote="'"` -/
def optsBare : Opts := { indent := 0, encoding := none, quote := ['\''] }

/-- `exTree.to_xml()` -/
def exTreeXml : Str :=
  ['<', '?', 'x', 'm', 'l', ' ', 'v', 'e', 'r', 's', 'i', 'o', 'n', '=', '"', '1', '.', '0', '"', ' ', 'e', 'n', 'c', 'o', 'd', 'i', 'n', 'g', '=', '"', 'u', 't', 'f', '-', '8', '"', '?', '>', '\n', '<', 'r', '>', '\n', ' ', ' ', ' ', ' ', '<', 'a', '>', '&', 'l', 't', ';', '&', 'a', 'm', 'p', ';', ' ', '<', '/', 'a', '>', ' ', ' ', ' ', ' ', '<', 'P', 'a', 'r', 'm', '>', '<', 'P', 'a', 'r', 'm', 'C', 'o', 'd', 'e', '>', 'x', '<', '/', 'P', 'a', 'r', 'm', 'C', 'o', 'd', 'e', '>', '<', 'V', 'a', 'l', 'u', 'e', '>', 'T', 'r', 'u', 'e', '<', '/', 'V', 'a', 'l', 'u', 'e', '>', '<', '/', 'P', 'a', 'r', 'm', '>', '\n', ' ', ' ', ' ', ' ', '<', 'c', '>', '\n', ' ', ' ', ' ', ' ', ' ', ' ', ' ', ' ', '<', '!', '[', 'C', 'D', 'A', 'T', 'A', '[', ' ', 'x', '<', 'y', ' ', ']', ']', '>', '\n', ' ', ' ', ' ', ' ', '<', '/', 'c', '>', '\n', ' ', ' ', ' ', ' ', '<', 'n', '/', '>', '\n', ' ', ' ', ' ', ' ', '<', 'f', '>', '1', '.', '5', '<', '/', 'f', '>', '\n', ' ', ' ', ' ', ' ', '<', 'd', '>', '\n', ' ', ' ', ' ', ' ', ' ', ' ', ' ', ' ', '<', 'e', '>', 'a', '\n', 'b', '<', '/', 'e', '>', '\n', ' ', ' ', ' ', ' ', ' ', ' ', ' ', ' ', '<', 'z', '/', '>', '\n', ' ', ' ', ' ', ' ', '<', '/', 'd', '>', '\n', '<', '/', 'r', '>']

/-- `exTree.to_xml(indent=0, encoding=None, quote="'")` -/
def exTreeXml0 : Str :=
  ['<', 'r', '>', '\n', '<', 'a', '>', '&', 'l', 't', ';', '&', 'a', 'm', 'p', ';', ' ', '<', '/', 'a', '>', '<', 'P', 'a', 'r', 'm', '>', '<', 'P', 'a', 'r', 'm', 'C', 'o', 'd', 'e', '>', 'x', '<', '/', 'P', 'a', 'r', 'm', 'C', 'o', 'd', 'e', '>', '<', 'V', 'a', 'l', 'u', 'e', '>', 'T', 'r', 'u', 'e', '<', '/', 'V', 'a', 'l', 'u', 'e', '>', '<', '/', 'P', 'a', 'r', 'm', '>', '\n', '<', 'c', '>', '\n', '<', '!', '[', 'C', 'D', 'A', 'T', 'A', '[', ' ', 'x', '<', 'y', ' ', ']', ']', '>', '\n', '<', '/', 'c', '>', '\n', '<', 'n', '/', '>', '\n', '<', 'f', '>', '1', '.', '5', '<', '/', 'f', '>', '\n', '<', 'd', '>', '\n', '<', 'e', '>', 'a', '\n', 'b', '<', '/', 'e', '>', '\n', '<', 'z', '/', '>', '\n', '<', '/', 'd', '>', '\n', '<', '/', 'r', '>']

theorem exTree_shaped : xmlShaped true exTree = true := by decide +kernel
theorem exTree_toXml : toXml Cfg.gen optsDefault exTree = .ok exTreeXml := by decide +kernel
theorem exTree_toXml0 : toXml Cfg.gen optsBare exTree = .ok exTreeXml0 := by decide +kernel

example : toXml Cfg.gen optsDefault exTree = .ok exTreeXml := exTree_toXml
example : toXml Cfg.gen optsBare exTree = .ok exTreeXml0 := exTree_toXml0
-- the two exports are evaluated; that the reader accepts them and what they load back as is the
-- round-trip theorem (`toXml_loads`) at this tree
example : loadXml exTreeXml = .ok (normRoot Cfg.gen exTree) :=
  (toXml_loads Cfg.gen C12_config_ok optsDefault (by decide) true exTree exTree_shaped exTree_toXml).2
example : loadXml exTreeXml0 = .ok (normRoot Cfg.gen exTree) :=
  (toXml_loads Cfg.gen C12_config_ok optsBare (by decide) true exTree exTree_shaped exTree_toXml0).2
example : readStatus exTreeXml = none :=
  (toXml_loads Cfg.gen C12_config_ok optsDefault (by decide) true exTree exTree_shaped exTree_toXml).1
/-- the normal form is not the identity on the example: text stripped, CDATA unwrapped, numbers text -/
example : normRoot Cfg.gen exTree =
    .dict .n0 [(['r'], .dict .n0 [
      (['a'], .str ['<', '&']),
      (['P', 'a', 'r', 'm'], .dict .n0 [(['P', 'a', 'r', 'm', 'C', 'o', 'd', 'e'], .str ['x']), (['V', 'a', 'l', 'u', 'e'], .str ['T', 'r', 'u', 'e'])]),
      (['c'], .str ['x', '<', 'y']),
      (['n'], .none),
      (['f'], .str ['1', '.', '5']),
      (['d'], .dict .n0 [(['e'], .str ['a', '\n', 'b']), (['z'], .none)])])] := by decide +kernel
example : isName ['P', 'a', 'r', 'm'] = true ∧ isXmlText ['<', '&', '"', '\'', '>', ']', ']', '>', Char.ofNat 0x20AC] = true := by decide +kernel
/-- lists are inside the quantifier; `xmlShaped false` is the list-free part of it -/
example : xmlShaped true listWitness = true ∧ xmlShaped false listWitness = false ∧ xmlShaped true exTree = true := by decide +kernel

/-- `{'r': {'a': ['<&', 'y'], 'one': ['x'], 'Parm': [{'ParmCode': 'x', 'Value': True}, {'ParmCode': 'p', 'Value': None}],
'rec': [{'k': '1', 'l': ['u', ' v ']}, {}], 'mix': [None, 7, '<![CDATA[ x<y ]]>'], 'n': 'end'}}`:
repeated text (escaped), a one-item list, repeated records under a layout key, records holding a
repeated element, an empty record as item, mixed items -/
def exListTree : Val :=
  .dict .n0 [(['r'], .dict .plain [(['a'], .list .plain [.str ['<', '&'], .str ['y']]), (['o', 'n', 'e'], .list .plain [.str ['x']]), (['P', 'a', 'r', 'm'], .list .plain [.dict .plain [(['P', 'a', 'r', 'm', 'C', 'o', 'd', 'e'], .str ['x']), (['V', 'a', 'l', 'u', 'e'], .bool true)], .dict .plain [(['P', 'a', 'r', 'm', 'C', 'o', 'd', 'e'], .str ['p']), (['V', 'a', 'l', 'u', 'e'], .none)]]), (['r', 'e', 'c'], .list .plain [.dict .plain [(['k'], .str ['1']), (['l'], .list .plain [.str ['u'], .str [' ', 'v', ' ']])], .dict .plain []]), (['m', 'i', 'x'], .list .plain [.none, .int 7, .str ['<', '!', '[', 'C', 'D', 'A', 'T', 'A', '[', ' ', 'x', '<', 'y', ' ', ']', ']', '>']]), (['n'], .str ['e', 'n', 'd'])])]

/-- `exListTree.to_xml()` -/
def exListTreeXml : Str :=
  ['<', '?', 'x', 'm', 'l', ' ', 'v', 'e', 'r', 's', 'i', 'o', 'n', '=', '"', '1', '.', '0', '"', ' ', 'e', 'n', 'c', 'o', 'd', 'i', 'n', 'g', '=', '"', 'u', 't', 'f', '-', '8', '"', '?', '>', '\n', '<', 'r', '>', '\n', ' ', ' ', ' ', ' ', '<', 'a', '>', '&', 'l', 't', ';', '&', 'a', 'm', 'p', ';', '<', '/', 'a', '>', '\n', ' ', ' ', ' ', ' ', '<', 'a', '>', 'y', '<', '/', 'a', '>', '\n', ' ', ' ', ' ', ' ', '<', 'o', 'n', 'e', '>', 'x', '<', '/', 'o', 'n', 'e', '>', ' ', ' ', ' ', ' ', '<', 'P', 'a', 'r', 'm', '>', '<', 'P', 'a', 'r', 'm', 'C', 'o', 'd', 'e', '>', 'x', '<', '/', 'P', 'a', 'r', 'm', 'C', 'o', 'd', 'e', '>', '<', 'V', 'a', 'l', 'u', 'e', '>', 'T', 'r', 'u', 'e', '<', '/', 'V', 'a', 'l', 'u', 'e', '>', '<', '/', 'P', 'a', 'r', 'm', '>', ' ', ' ', ' ', ' ', '<', 'P', 'a', 'r', 'm', '>', '<', 'P', 'a', 'r', 'm', 'C', 'o', 'd', 'e', '>', 'p', '<', '/', 'P', 'a', 'r', 'm', 'C', 'o', 'd', 'e', '>', '<', 'V', 'a', 'l', 'u', 'e', '/', '>', '<', '/', 'P', 'a', 'r', 'm', '>', '\n', ' ', ' ', ' ', ' ', '<', 'r', 'e', 'c', '>', '\n', ' ', ' ', ' ', ' ', ' ', ' ', ' ', ' ', '<', 'k', '>', '1', '<', '/', 'k', '>', '\n', ' ', ' ', ' ', ' ', ' ', ' ', ' ', ' ', '<', 'l', '>', 'u', '<', '/', 'l', '>', '\n', ' ', ' ', ' ', ' ', ' ', ' ', ' ', ' ', '<', 'l', '>', ' ', 'v', ' ', '<', '/', 'l', '>', '\n', ' ', ' ', ' ', ' ', '<', '/', 'r', 'e', 'c', '>', '\n', ' ', ' ', ' ', ' ', '<', 'r', 'e', 'c', '/', '>', '\n', ' ', ' ', ' ', ' ', '<', 'm', 'i', 'x', '/', '>', '\n', ' ', ' ', ' ', ' ', '<', 'm', 'i', 'x', '>', '7', '<', '/', 'm', 'i', 'x', '>', '\n', ' ', ' ', ' ', ' ', '<', 'm', 'i', 'x', '>', '\n', ' ', ' ', ' ', ' ', ' ', ' ', ' ', ' ', '<', '!', '[', 'C', 'D', 'A', 'T', 'A', '[', ' ', 'x', '<', 'y', ' ', ']', ']', '>', '\n', ' ', ' ', ' ', ' ', '<', '/', 'm', 'i', 'x', '>', '\n', ' ', ' ', ' ', ' ', '<', 'n', '>', 'e', 'n', 'd', '<', '/', 'n', '>', '\n', '<', '/', 'r', '>']

/-- `exListTree.to_xml(indent=0, encoding=None, quote="'")` -/
def exListTreeXml0 : Str :=
  ['<', 'r', '>', '\n', '<', 'a', '>', '&', 'l', 't', ';', '&', 'a', 'm', 'p', ';', '<', '/', 'a', '>', '\n', '<', 'a', '>', 'y', '<', '/', 'a', '>', '\n', '<', 'o', 'n', 'e', '>', 'x', '<', '/', 'o', 'n', 'e', '>', '<', 'P', 'a', 'r', 'm', '>', '<', 'P', 'a', 'r', 'm', 'C', 'o', 'd', 'e', '>', 'x', '<', '/', 'P', 'a', 'r', 'm', 'C', 'o', 'd', 'e', '>', '<', 'V', 'a', 'l', 'u', 'e', '>', 'T', 'r', 'u', 'e', '<', '/', 'V', 'a', 'l', 'u', 'e', '>', '<', '/', 'P', 'a', 'r', 'm', '>', '<', 'P', 'a', 'r', 'm', '>', '<', 'P', 'a', 'r', 'm', 'C', 'o', 'd', 'e', '>', 'p', '<', '/', 'P', 'a', 'r', 'm', 'C', 'o', 'd', 'e', '>', '<', 'V', 'a', 'l', 'u', 'e', '/', '>', '<', '/', 'P', 'a', 'r', 'm', '>', '\n', '<', 'r', 'e', 'c', '>', '\n', '<', 'k', '>', '1', '<', '/', 'k', '>', '\n', '<', 'l', '>', 'u', '<', '/', 'l', '>', '\n', '<', 'l', '>', ' ', 'v', ' ', '<', '/', 'l', '>', '\n', '<', '/', 'r', 'e', 'c', '>', '\n', '<', 'r', 'e', 'c', '/', '>', '\n', '<', 'm', 'i', 'x', '/', '>', '\n', '<', 'm', 'i', 'x', '>', '7', '<', '/', 'm', 'i', 'x', '>', '\n', '<', 'm', 'i', 'x', '>', '\n', '<', '!', '[', 'C', 'D', 'A', 'T', 'A', '[', ' ', 'x', '<', 'y', ' ', ']', ']', '>', '\n', '<', '/', 'm', 'i', 'x', '>', '\n', '<', 'n', '>', 'e', 'n', 'd', '<', '/', 'n', '>', '\n', '<', '/', 'r', '>']

/-- what both load back as -/
def exListTreeNorm : Val :=
  .dict .n0 [(['r'], .dict .n0 [(['a'], .list .plain [.str ['<', '&'], .str ['y']]), (['o', 'n', 'e'], .str ['x']), (['P', 'a', 'r', 'm'], .list .plain [.dict .n0 [(['P', 'a', 'r', 'm', 'C', 'o', 'd', 'e'], .str ['x']), (['V', 'a', 'l', 'u', 'e'], .str ['T', 'r', 'u', 'e'])], .dict .n0 [(['P', 'a', 'r', 'm', 'C', 'o', 'd', 'e'], .str ['p']), (['V', 'a', 'l', 'u', 'e'], .none)]]), (['r', 'e', 'c'], .list .plain [.dict .n0 [(['k'], .str ['1']), (['l'], .list .plain [.str ['u'], .str ['v']])], .none]), (['m', 'i', 'x'], .list .plain [.none, .str ['7'], .str ['x', '<', 'y']]), (['n'], .str ['e', 'n', 'd'])])]

theorem exListTree_shaped : xmlShaped true exListTree = true := by decide +kernel
theorem exListTree_toXml : toXml Cfg.gen optsDefault exListTree = .ok exListTreeXml := by decide +kernel
theorem exListTree_toXml0 : toXml Cfg.gen optsBare exListTree = .ok exListTreeXml0 := by decide +kernel
theorem exListTree_norm : normRoot Cfg.gen exListTree = exListTreeNorm := by decide +kernel

example : xmlShaped true exListTree = true := exListTree_shaped
example : toXml Cfg.gen optsDefault exListTree = .ok exListTreeXml := exListTree_toXml
example : toXml Cfg.gen optsBare exListTree = .ok exListTreeXml0 := exListTree_toXml0
example : normRoot Cfg.gen exListTree = exListTreeNorm := exListTree_norm
example : loadXml exListTreeXml = .ok exListTreeNorm :=
  exListTree_norm ▸ (toXml_loads Cfg.gen C12_config_ok optsDefault (by decide) true exListTree exListTree_shaped exListTree_toXml).2
example : loadXml exListTreeXml0 = .ok exListTreeNorm :=
  exListTree_norm ▸ (toXml_loads Cfg.gen C12_config_ok optsBare (by decide) true exListTree exListTree_shaped exListTree_toXml0).2
example : readStatus exListTreeXml = none :=
  (toXml_loads Cfg.gen C12_config_ok optsDefault (by decide) true exListTree exListTree_shaped exListTree_toXml).1
/-- the hypotheses of `C12_attribute_not_implemented`: `{'r': {'a': ['x', 'y'], '@id': '7', 'b': None}}` -/
example : keysNodup [(['a'], Val.list .plain [.str ['x'], .str ['y']])] = true ∧
    shapedKvs true [(['a'], Val.list .plain [.str ['x'], .str ['y']])] = true ∧ isScalarVal (.str ['7']) = true := by decide +kernel
example : toXml Cfg.gen optsDefault
    (.dict .n0 [(['r'], .dict .plain ([(['a'], Val.list .plain [.str ['x'], .str ['y']])] ++ ('@' :: ['i', 'd'], .str ['7']) :: [(['b'], .none)]))])
    = .error .NotImplementedError := by decide +kernel

end N0.C12
