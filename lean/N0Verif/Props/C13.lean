import N0Verif.Proofs.Csv
import N0Verif.Proofs.CsvGenEq
/-!
# C13 — a CSV line parses back to the fields it was generated from

The statements and their non-vacuity `example`s; vocabulary (`GoodDelim`, `IsEol`, `NoBreak`) and lemmas: `Proofs/Csv.lean`.

The `C13_generated_*` theorems tie the hand-written model to the source a second time: the
definitions of `Gen/CsvPy.lean` are regenerated from the Python text on every run
(`harness/translate_py_csv.py`) and proved equal to the model (`Proofs/CsvGenEq.lean`), so the round-trip theorems hold
for the translated code (`C13_roundtrip_generated`, `C13_roundtrip_generated_bytes`).
-/
namespace N0.C13
open N0 N0.Py N0.Csv

/-- **C13 (library generator).**  For every non-empty row of fields without line
breaks, every admissible delimiter and every CR/LF line ending, parsing the
generated line returns exactly the row. -/
theorem C13_roundtrip (d : Char) (hd : GoodDelim d) (row : List Str) (hrow : row ≠ [])
    (hf : ∀ g ∈ row, NoBreak g) (eol : Str) (he : IsEol eol) :
    parse d (gen d row eol) = .ok row := by
  cases row with
  | nil => exact absurd rfl hrow
  | cons f fs =>
    unfold gen
    simp only
    rw [gen_acc_dropLast]
    exact parse_rowStr d hd _ (needsQuote_adequate d) f fs hf eol he

/-- **C13 (standard csv writer, minimal quoting).** -/
theorem C13_roundtrip_writer (d : Char) (hd : GoodDelim d) (row : List Str) (hrow : row ≠ [])
    (hf : ∀ g ∈ row, NoBreak g) (term : Str) (he : IsEol term) :
    parse d (writerLine d term row) = .ok row := by
  cases row with
  | nil => exact absurd rfl hrow
  | cons f fs =>
    unfold writerLine
    simp only
    rw [join_eq_rowStr]
    exact parse_rowStr d hd _ (writer_adequate d term _) f fs hf term he

/-- **C13 (field count).** the number of parsed fields equals the number written -/
theorem C13_field_count (d : Char) (hd : GoodDelim d) (row : List Str) (hrow : row ≠ [])
    (hf : ∀ g ∈ row, NoBreak g) (eol : Str) (he : IsEol eol) :
    (parse d (gen d row eol)).map List.length = .ok row.length := by
  rw [C13_roundtrip d hd row hrow hf eol he]; rfl

/-- Whatever the line, the parser raises nothing but `ValueError` (on generated lines it does not raise: `C13_roundtrip`). -/
theorem C13_only_valueerror (d : Char) (line : Str) (e : PyErr)
    (h : parse d line = .error e) : e = .ValueError := by
  unfold parse at h
  cases hr : run d St.init (rstrip crlf line) with
  | error e' =>
    rw [hr] at h
    cases h
    exact run_error hr
  | ok st =>
    rw [hr] at h
    cases h

/-! ## the definitions regenerated from the Python source equal the hand-written model

The generated functions take the parameters of the Python functions in source order (`line,
delimiter` / `row, delimiter, EOL`) with the delimiter as a string; the model is about one-character
delimiters, hence `[d]`. -/

/-- **generated parser = model (str lines).** -/
theorem C13_generated_parse_eq (d : Char) (line : Str) :
    Gen.CsvPy.parseStr line [d] = parse d line := CsvGenEq.parseStr_eq d line

/-- **generated parser = model (bytes lines; a byte is the character with the same code).** -/
theorem C13_generated_parse_bytes_eq (d : Char) (line : Str) :
    Gen.CsvPy.parseBytes line [d] = parse d line := CsvGenEq.parseBytes_eq d line

/-- **generated row generator = model (rows of strings); the generated code never raises.** -/
theorem C13_generated_gen_eq (d : Char) (row : List Str) (eol : Str) :
    Gen.CsvPy.genRow row [d] eol = .ok (gen d row eol) := CsvGenEq.genRow_eq d row eol

/-- **C13 for the translated code.**  The round trip, stated on the definitions regenerated from
the Python source: generating a line and parsing it returns the row. -/
theorem C13_roundtrip_generated (d : Char) (hd : GoodDelim d) (row : List Str) (hrow : row ≠ [])
    (hf : ∀ g ∈ row, NoBreak g) (eol : Str) (he : IsEol eol) :
    (Gen.CsvPy.genRow row [d] eol).bind (fun line => Gen.CsvPy.parseStr line [d]) = .ok row := by
  rw [C13_generated_gen_eq]
  simp only [Except.bind]
  rw [C13_generated_parse_eq]
  exact C13_roundtrip d hd row hrow hf eol he

/-- the same with the bytes specialisation of the parser (the generated text is a row of
one-byte characters) -/
theorem C13_roundtrip_generated_bytes (d : Char) (hd : GoodDelim d) (row : List Str) (hrow : row ≠ [])
    (hf : ∀ g ∈ row, NoBreak g) (eol : Str) (he : IsEol eol) :
    (Gen.CsvPy.genRow row [d] eol).bind (fun line => Gen.CsvPy.parseBytes line [d]) = .ok row := by
  rw [C13_generated_gen_eq]
  simp only [Except.bind]
  rw [C13_generated_parse_bytes_eq]
  exact C13_roundtrip d hd row hrow hf eol he

/-- the translated parser raises only `ValueError` -/
theorem C13_only_valueerror_generated (d : Char) (line : Str) (e : PyErr)
    (h : Gen.CsvPy.parseStr line [d] = .error e) : e = .ValueError :=
  C13_only_valueerror d line e (by rw [← C13_generated_parse_eq]; exact h)

/-! Non-vacuity: concrete rows that meet the hypotheses and exercise every branch. -/
example : GoodDelim ',' := by unfold GoodDelim; decide
example : parse ',' (gen ',' [['a', ',', '"'], ['"'], [], ['"', 'x', '"']] ['\r', '\n'])
    = .ok [['a', ',', '"'], ['"'], [], ['"', 'x', '"']] := by decide +kernel
example : parse ';' (writerLine ';' ['\n'] [[]]) = .ok [[]] := by decide +kernel
/-! the generated definitions compute (and are not trivially equal to the model: they are separate
definitions over their own state structures) -/
example : Gen.CsvPy.genRow [['a', ',', '"'], ['"'], []] [','] ['\r', '\n']
    = .ok ['"', 'a', ',', '"', '"', '"', ',', '"', '"', '"', '"', ',', '\r', '\n'] := by decide +kernel
example : Gen.CsvPy.parseStr ['"', 'a', ',', '"', '"', '"', ',', '"', '"', '"', '"', ',', '\r', '\n'] [',']
    = .ok [['a', ',', '"'], ['"'], []] := by decide +kernel
example : Gen.CsvPy.parseBytes ['"', 'a', '"', 'b'] [','] = .error .ValueError := by decide +kernel

end N0.C13
