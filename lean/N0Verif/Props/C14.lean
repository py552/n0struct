import N0Verif.Props.C13
import N0Verif.Proofs.CsvHeaderModes
import N0Verif.Proofs.CsvReader
import N0Verif.Proofs.CsvBinary
/-!
# C14 — loading a CSV file reproduces the saved table under every header mode

The statements with their vocabulary (`GoodDelim14`, `CellsOK`, `fileOf`, `allRows`) and non-vacuity examples.  Two models:
`load_csv` / `save_csv` in `Model/CsvFile.lean` (the code with fix patches C14-a … C14-e applied), and the readers
`load_csv` is compared with (`csv.reader`, `load_native_csv`, `load_simple_csv`) in `Model/CsvReader.lean` (with fix C14-f).

Reading of the property.  A *table* is an optional header `hdr` (unique names) and a list of
`rows` of text cells; an empty row is written by `csv.writer` as a blank line, so the *data rows*
are the non-empty ones (`dataRows`).  The file is `fileOf bom d eol header rows`: an optional BOM
followed by what `save_csv` (= `csv.writer`, model validated against the bytes on disk) writes.
"Reproduces the saved table" is `records (loadCsv opts file) = .ok (expected records)`, where a
record is the insertion-ordered list of `(key, cell or None)`; `zipPad names row` is the record
"each name ↦ the cell at its position, `None` when the row is short, surplus cells dropped"
(characterised by `C14_padding`), `cellAt hdr row c` the cell of column `c`.
-/
namespace N0.C14
open N0 N0.Py N0.Csv N0.CsvFile N0.C13 N0.CsvReader

/-- delimiters of the property: a single character, not the quote, CR, LF or U+FEFF -/
def GoodDelim14 (d : Char) : Prop := GoodDelim d ∧ d ≠ bomChar

/-- cells (and names) of the property: no line break, no U+FEFF -/
def CellsOK (rows : List (List Str)) : Prop := NoBreakRows rows ∧ NoBomRows rows

/-- the decoded content of the file: optional BOM, then what `save_csv` writes -/
def fileOf (bom : Bool) (d : Char) (eol : Str) (header : Option (List Str))
    (rows : List (List Str)) : Str :=
  withBom bom (saveCsv d eol header rows)

/-- the rows a file written from `(header, rows)` contains -/
def allRows (header : Option (List Str)) (rows : List (List Str)) : List (List Str) :=
  match header with
  | some h => if h.isEmpty then rows else h :: rows
  | none => rows

theorem fileOf_eq (bom : Bool) (d : Char) (eol : Str) (header : Option (List Str))
    (rows : List (List Str)) :
    fileOf bom d eol header rows = withBom bom (written d eol (allRows header rows)) := by
  unfold fileOf allRows
  cases header with
  | none => rw [saveCsv_none]
  | some h =>
    cases h with
    | nil => simp [saveCsv, written]
    | cons x xs => rw [saveCsv_header _ _ _ _ (by simp)]; simp

theorem savedAs_text14 (d : Char) (hd : GoodDelim14 d) (eol : Str) (he : Eol eol) (bom : Bool)
    (all : List (List Str)) (hc : CellsOK all) :
    SavedAs false d all ['\n'] (withBom bom (written d eol all)) :=
  savedAs_text d hd.1 hd.2 eol he bom all hc.1 hc.2

/-- **C14 (header from the file).**  `column_names` not given and the header announced in one of
the documented ways (`FromFile`: `header_is_mandatory=True`; legacy `contains_header=True`;
`contains_header="<first name>"`; `contains_header=[names…]`): the first non-blank line is the
header, and there is one record per non-empty data row, in order, each name mapped to the saved
cell (`None` where the row is short, surplus cells dropped) — for LF and CRLF, with or without BOM.
(`Plain` skips blank lines; with `KeepEmpty` every row gives a record: `C14_keep_empty_lines`.) -/
theorem C14_header_from_file (d : Char) (hd : GoodDelim14 d) (eol : Str) (he : Eol eol) (bom : Bool)
    (hdr : List Str) (hne : hdr ≠ []) (hnd : hdr.Nodup) (rows : List (List Str))
    (hc : CellsOK (hdr :: rows))
    (o : Opts) (hp : Plain o d) (hb : o.binary = false) (hcn : o.columnNames = .none)
    (hm : FromFile o hdr) :
    records (loadCsv o (fileOf bom d eol (some hdr) rows))
      = .ok ((dataRows rows).map (zipPad (hdr.map Key.name))) := by
  unfold fileOf
  rw [saveCsv_header d eol hdr rows hne,
    loadCsv_plain o d hd.1 hp _ hc.1 false hb _ _ (savedAs_text14 d hd eol he bom _ hc),
    dataRows_cons_ne hdr rows hne, tableResult_header o hcn hdr _ hm hnd]

/-- **C14 (subset / order).**  `column_names = sel` (unique names, all in the file's header, any
order): the header line is recognised and skipped and every record consists of exactly the
requested columns, in the requested order, each with the cell of that column. -/
theorem C14_subset_order (d : Char) (hd : GoodDelim14 d) (eol : Str) (he : Eol eol) (bom : Bool)
    (hdr : List Str) (hne : hdr ≠ []) (hnd : hdr.Nodup) (rows : List (List Str))
    (hc : CellsOK (hdr :: rows))
    (sel : List Str) (hs : sel ≠ []) (hsn : sel.Nodup) (hsub : ∀ m ∈ sel, m ∈ hdr)
    (o : Opts) (hp : Plain o d) (hb : o.binary = false) (hru : o.returnUnknown = false)
    (hm : Given o sel hdr) :
    records (loadCsv o (fileOf bom d eol (some hdr) rows))
      = .ok ((dataRows rows).map (fun r => sel.map (fun c => (Key.name c, cellAt hdr r c)))) := by
  unfold fileOf
  rw [saveCsv_header d eol hdr rows hne,
    loadCsv_plain o d hd.1 hp _ hc.1 false hb _ _ (savedAs_text14 d hd eol he bom _ hc),
    dataRows_cons_ne hdr rows hne, tableResult_select o hru sel hdr _ hs hsn hsub hm hnd]

/-- **C14 (header given and in the file).**  `column_names` equal to the file's header: the same
records as when the header is taken from the file. -/
theorem C14_header_given_both (d : Char) (hd : GoodDelim14 d) (eol : Str) (he : Eol eol) (bom : Bool)
    (hdr : List Str) (hne : hdr ≠ []) (hnd : hdr.Nodup) (rows : List (List Str))
    (hc : CellsOK (hdr :: rows))
    (o : Opts) (hp : Plain o d) (hb : o.binary = false) (hru : o.returnUnknown = false)
    (hm : Given o hdr hdr) :
    records (loadCsv o (fileOf bom d eol (some hdr) rows))
      = .ok ((dataRows rows).map (zipPad (hdr.map Key.name))) := by
  rw [C14_subset_order d hd eol he bom hdr hne hnd rows hc hdr hne hnd (fun _ h => h) o hp hb hru hm]
  congr 1
  apply List.map_congr_left
  intro r _
  exact (zipPad_eq_cellAt hdr hnd r).symm

/-- **C14 (header given by the caller only; a missing optional header is not consumed).**
The file has no header line, `column_names = names` and the header is not mandatory; the first
data row lacks at least one of the names, so it is not mistaken for a header: after
`seek(file_offset)` it is read again and is the **first record**; all rows are keyed by `names`. -/
theorem C14_header_given_only (d : Char) (hd : GoodDelim14 d) (eol : Str) (he : Eol eol) (bom : Bool)
    (names : List Str) (hs : names ≠ []) (hsn : names.Nodup) (rows : List (List Str))
    (hc : CellsOK rows) (first : List Str) (rest : List (List Str))
    (hrows : dataRows rows = first :: rest) (hmiss : ∃ m ∈ names, m ∉ first)
    (o : Opts) (hp : Plain o d) (hb : o.binary = false)
    (mand : MandArg) (hmand : mand = .none ∨ mand = .bool false) (hm : NamesOnly o names mand) :
    records (loadCsv o (fileOf bom d eol none rows))
      = .ok ((first :: rest).map (zipPad (names.map Key.name))) := by
  unfold fileOf
  rw [saveCsv_none,
    loadCsv_plain o d hd.1 hp _ hc.1 false hb _ _ (savedAs_text14 d hd eol he bom _ hc), hrows,
    tableResult_names_data o names hs hsn mand hmand hm first rest hmiss]

/-- the second half of "refused rather than consumed as data": under the hypotheses of
`C14_header_given_only` the first record is the one of the first line -/
theorem C14_missing_optional_not_consumed (d : Char) (hd : GoodDelim14 d) (eol : Str) (he : Eol eol)
    (bom : Bool) (names : List Str) (hs : names ≠ []) (hsn : names.Nodup) (rows : List (List Str))
    (hc : CellsOK rows) (first : List Str) (rest : List (List Str))
    (hrows : dataRows rows = first :: rest) (hmiss : ∃ m ∈ names, m ∉ first)
    (o : Opts) (hp : Plain o d) (hb : o.binary = false)
    (mand : MandArg) (hmand : mand = .none ∨ mand = .bool false) (hm : NamesOnly o names mand) :
    ∃ tl, records (loadCsv o (fileOf bom d eol none rows))
      = .ok (zipPad (names.map Key.name) first :: tl) :=
  ⟨_, C14_header_given_only d hd eol he bom names hs hsn rows hc first rest hrows hmiss o hp hb
    mand hmand hm⟩

/-- **C14 (a missing mandatory header is refused).**  Same file and names, but
`header_is_mandatory=True`: `ReferenceError`; with `raise_exception=False` the iteration ends
without yielding anything (in neither case is a record produced from the first line). -/
theorem C14_missing_mandatory_refused (d : Char) (hd : GoodDelim14 d) (eol : Str) (he : Eol eol)
    (bom : Bool) (names : List Str) (hs : names ≠ []) (hsn : names.Nodup) (rows : List (List Str))
    (hc : CellsOK rows) (first : List Str) (rest : List (List Str))
    (hrows : dataRows rows = first :: rest) (hmiss : ∃ m ∈ names, m ∉ first)
    (o : Opts) (hp : Plain o d) (hb : o.binary = false) (hm : NamesOnly o names (.bool true)) :
    records (loadCsv o (fileOf bom d eol none rows))
      = if o.raiseExc then .error .ReferenceError else .ok [] := by
  unfold fileOf
  rw [saveCsv_none,
    loadCsv_plain o d hd.1 hp _ hc.1 false hb _ _ (savedAs_text14 d hd eol he bom _ hc), hrows,
    tableResult_names_refused o names hs hsn hm first rest hmiss]

/-- **C14 (positional).**  Nothing announced (`NoHeaderOpts`), no header line: every data row,
the first one included, becomes a record keyed by the positions `0 … len(first row) − 1`. -/
theorem C14_positional (d : Char) (hd : GoodDelim14 d) (eol : Str) (he : Eol eol) (bom : Bool)
    (rows : List (List Str)) (hc : CellsOK rows) (first : List Str) (rest : List (List Str))
    (hrows : dataRows rows = first :: rest)
    (o : Opts) (hp : Plain o d) (hb : o.binary = false) (hm : NoHeaderOpts o) :
    records (loadCsv o (fileOf bom d eol none rows))
      = .ok ((first :: rest).map (zipPad (positions first.length))) := by
  unfold fileOf
  rw [saveCsv_none,
    loadCsv_plain o d hd.1 hp _ hc.1 false hb _ _ (savedAs_text14 d hd eol he bom _ hc), hrows,
    tableResult_positional o hm]

/-- **C14 (empty file).**  A file without any non-empty row (no header, no data) is refused with
`EOFError` (explicit branch "Empty file or file only with spaces"), whatever valid header options (`Plain`, text mode). -/
theorem C14_empty_file_refused (d : Char) (hd : GoodDelim14 d) (eol : Str) (he : Eol eol) (bom : Bool)
    (rows : List (List Str)) (hc : CellsOK rows) (hrows : dataRows rows = [])
    (o : Opts) (hp : Plain o d) (hb : o.binary = false) (n : Norm) (hn : normalise o = .ok n) :
    loadCsv o (fileOf bom d eol none rows) = .error .EOFError := by
  unfold fileOf
  rw [saveCsv_none]
  apply records_eq_error
  rw [loadCsv_plain o d hd.1 hp _ hc.1 false hb _ _ (savedAs_text14 d hd eol he bom _ hc), hrows,
    tableResult_nil hn]

/-- **C14 (padding, surplus).**  The record of a row has exactly the names as keys, in order;
the `i`-th value is the `i`-th cell, `None` when the row has no `i`-th cell; cells beyond the
last name do not appear. -/
theorem C14_padding (names : List Key) (row : List Str) :
    (zipPad names row).length = names.length
      ∧ ∀ i : Nat, (zipPad names row)[i]? = names[i]?.map (fun k => (k, row[i]?)) :=
  ⟨zipPad_length names row, zipPad_getElem? names row⟩

/-- **C14 (LF/CRLF, BOM invariance).**  For **every** option record (also stripping options,
`skip_empty_lines=False`, invalid combinations …) in text mode, the result — records, original
lines, or the exception — is the same for LF and CRLF files, with or without a BOM. -/
theorem C14_lf_crlf_bom_invariant (d : Char) (hd : GoodDelim14 d) (e₁ e₂ : Str) (h₁ : Eol e₁)
    (h₂ : Eol e₂) (b₁ b₂ : Bool) (header : Option (List Str)) (rows : List (List Str))
    (hc : CellsOK (allRows header rows)) (o : Opts) (hb : o.binary = false) :
    loadCsv o (fileOf b₁ d e₁ header rows) = loadCsv o (fileOf b₂ d e₂ header rows) := by
  unfold loadCsv
  rw [fileOf_eq, fileOf_eq, hb,
    physLines_text d hd.1 hd.2 e₁ h₁ b₁ _ hc.1 hc.2, physLines_text d hd.1 hd.2 e₂ h₂ b₂ _ hc.1 hc.2]

/-- **C14 (binary read mode).**  On the same characters (for a byte file: the table of encoded
cells and names), binary mode yields the same records as text mode, for LF and CRLF, under every
header option.  (A statement about the model, which reads a byte file as characters 0..255: it is the code's
behaviour for a one-byte delimiter — `inScope`, `d.toNat < 128` in `C14_binary_encoded` —; a `str` delimiter
beyond ASCII is encoded to several bytes by the code and never matches.) -/
theorem C14_binary_same (d : Char) (hd : GoodDelim14 d) (eol : Str) (he : Eol eol)
    (header : Option (List Str)) (rows : List (List Str)) (hc : CellsOK (allRows header rows))
    (o : Opts) (hp : Plain o d) (hb : o.binary = false) :
    records (loadCsv { o with binary := true } (fileOf false d eol header rows))
      = records (loadCsv o (fileOf false d eol header rows)) := by
  have hp' : Plain { o with binary := true } d := ⟨hp.delim, hp.skip, hp.sl, hp.sf⟩
  rw [fileOf_eq,
    loadCsv_plain o d hd.1 hp _ hc.1 false hb _ _ (savedAs_text14 d hd eol he false _ hc),
    loadCsv_plain { o with binary := true } d hd.1 hp' _ hc.1 true rfl eol
      (withBom false (written d eol (allRows header rows))) (savedAs_bin d hd.1 eol he _ hc.1)]
  -- the option checks and the decision table do not read the mode
  rfl

/-- **C14 (encoding commutes with writing).**  For every total per-character encoder that is transparent on
ASCII and maps every other character to bytes `0x80 … 0xFF` (`AsciiTransparent`: an arbitrary function, so no codec is
trusted; instantiated below at toy encoders only, the header of `Proofs/CsvBinary.lean` says what a real codec needs),
an ASCII delimiter and LF/CRLF: the encoded bytes of the file `save_csv` writes are the file of the table of encoded
cells and names. -/
theorem C14_encoding_commutes (e : Char → Str) (he : AsciiTransparent e) (d : Char)
    (hda : d.toNat < 128) (eol : Str) (heol : Eol eol) (header : Option (List Str))
    (rows : List (List Str)) :
    encS e (fileOf false d eol header rows)
      = fileOf false d eol (header.map (fun h => h.map (encS e))) (encRows e rows) := by
  have ha : AsciiDialect d eol := ⟨hda, by
    intro c hc
    rcases heol.isEol c hc with h | h <;> subst h <;> decide⟩
  unfold fileOf withBom
  simp only [Bool.false_eq_true, ↓reduceIte]
  exact (saveCsv_enc e he d eol ha header rows).symm

/-- **C14 (binary read mode yields the same table as encoded bytes).**  Reading the encoded bytes
of a saved table in binary mode gives the records that text mode gives for the table of encoded
cells and names — to which the header-mode theorems above apply (the names the caller passes are
bytes) — for LF and CRLF, under every header option. -/
theorem C14_binary_encoded (e : Char → Str) (he : AsciiTransparent e) (d : Char)
    (hd : GoodDelim14 d) (hda : d.toNat < 128) (eol : Str) (heol : Eol eol)
    (header : Option (List Str)) (rows : List (List Str))
    (hc : NoBreakRows (allRows header rows))
    (o : Opts) (hp : Plain o d) (hb : o.binary = false) :
    records (loadCsv { o with binary := true } (encS e (fileOf false d eol header rows)))
      = records (loadCsv o
          (fileOf false d eol (header.map (fun h => h.map (encS e))) (encRows e rows))) := by
  rw [C14_encoding_commutes e he d hda eol heol header rows]
  have hall : allRows (header.map (fun h => h.map (encS e))) (encRows e rows)
      = encRows e (allRows header rows) := by
    cases header with
    | none => rfl
    | some h => cases h <;> simp [allRows, encRows]
  apply C14_binary_same d hd eol heol _ _ _ o hp hb
  rw [hall]
  exact ⟨noBreakRows_enc e he _ hc, noBomRows_enc e he _⟩

/-! ## non-vacuity: concrete tables and options that meet the hypotheses -/

section NonVacuity

private def hdrAB : List Str := [['a'], ['b', ',']]
private def rowsX : List (List Str) := [[['1'], ['"', '2']], [], [['3']], [['4'], [], ['6']]]

example : GoodDelim14 ',' := ⟨⟨by decide, by decide, by decide⟩, by decide⟩
example : Eol CRLF := Or.inr rfl
example : CellsOK (hdrAB :: rowsX) := by
  unfold CellsOK NoBreakRows NoBomRows NoBreak hdrAB rowsX
  decide +kernel
example : Plain ({ } : Opts) ',' := ⟨rfl, rfl, rfl, rfl⟩
example : FromFile { mandatory := .bool true } hdrAB := .mandatory rfl rfl
example : FromFile { containsHeader := .bool true } hdrAB := .legacy rfl (Or.inl rfl)
example : FromFile { containsHeader := .str ['a'] } hdrAB := .first ['a'] rfl (by simp) rfl (by simp)
example : FromFile { containsHeader := .list [['b', ',']], mandatory := .bool true } hdrAB :=
  .names [['b', ',']] rfl (by simp) (by simp) (by simp [hdrAB]) (by simp)
example : Given { columnNames := .list [['b', ','], ['a']] } [['b', ','], ['a']] hdrAB :=
  .plain rfl (Or.inl rfl) (by simp)
example : NoHeaderOpts { containsHeader := .bool false } := ⟨rfl, Or.inr rfl, Or.inl rfl⟩
example : NamesOnly { columnNames := .list hdrAB, mandatory := .bool true } hdrAB (.bool true) :=
  ⟨rfl, rfl, rfl⟩

-- header from the file, CRLF + BOM, quoted name, quoted cell, blank line, short and long rows
example : records (loadCsv { containsHeader := .bool true } (fileOf true ',' CRLF (some hdrAB) rowsX))
    = .ok [[(.name ['a'], some ['1']), (.name ['b', ','], some ['"', '2'])],
           [(.name ['a'], some ['3']), (.name ['b', ','], none)],
           [(.name ['a'], some ['4']), (.name ['b', ','], some [])]] := by decide +kernel
-- subset and order
example : records (loadCsv { columnNames := .list [['b', ','], ['a']] } (fileOf false ',' LF (some hdrAB) rowsX))
    = .ok [[(.name ['b', ','], some ['"', '2']), (.name ['a'], some ['1'])],
           [(.name ['b', ','], none), (.name ['a'], some ['3'])],
           [(.name ['b', ','], some []), (.name ['a'], some ['4'])]] := by decide +kernel
-- positional: the first line is data
example : records (loadCsv { } (fileOf false ',' LF none rowsX))
    = .ok [[(.pos 0, some ['1']), (.pos 1, some ['"', '2'])],
           [(.pos 0, some ['3']), (.pos 1, none)],
           [(.pos 0, some ['4']), (.pos 1, some [])]] := by decide +kernel
-- names given, header missing: refused when mandatory, first line kept as data otherwise
example : loadCsv { columnNames := .list hdrAB, mandatory := .bool true } (fileOf true ',' LF none rowsX)
    = .error .ReferenceError := by decide +kernel
example : loadCsv { columnNames := .list hdrAB, mandatory := .bool true, raiseExc := false }
    (fileOf true ',' LF none rowsX) = .ok [] := by decide +kernel
example : (records (loadCsv { columnNames := .list hdrAB } (fileOf true ',' LF none rowsX))).map List.length
    = .ok 3 := by decide +kernel
-- binary mode, CRLF
example : records (loadCsv { mandatory := .bool true, binary := true } (fileOf false ',' CRLF (some hdrAB) rowsX))
    = records (loadCsv { mandatory := .bool true } (fileOf true ',' LF (some hdrAB) rowsX)) := by decide +kernel
-- the other branches of the decision table (not properties, shown reachable)
example : loadCsv { containsHeader := .bool true, mandatory := .bool false } [] = .error .SyntaxError := by decide
example : loadCsv { } [] = .error .EOFError := by decide
example : loadCsv { mandatory := .bool true } ['a', ',', 'a', '\n', '1'] = .error .KeyError := by decide +kernel
example : loadCsv { } ['"', 'a', '"', 'b'] = .error .ValueError := by decide +kernel

-- an ASCII-transparent encoder: latin-1-like (identity below 256, the byte `BF` above)
private def enc1 (c : Char) : Str := if c.toNat < 256 then [c] else [Char.ofNat 0xBF]
example : AsciiTransparent enc1 := by
  refine ⟨?_, ?_, ?_, ?_⟩
  · intro c hc
    have : c.toNat < 256 := Nat.lt_trans hc (by decide)
    simp [enc1, this]
  · intro c hc b hb
    unfold enc1 at hb
    split at hb
    · simp at hb; subst hb; exact hc
    · simp at hb; subst hb; decide
  · intro c; unfold enc1; split <;> simp
  · intro c b hb
    unfold enc1 at hb
    split at hb
    · simp at hb; subst hb; assumption
    · simp at hb; subst hb; decide

end NonVacuity

/-! ## "… and all agree with the standard csv reader"

`readerRecords d lines` is `list(csv.reader(lines, delimiter=d, strict=True))` (model of CPython's
`_csv.c` state machine, `Model/CsvReader.lean`), `RErr.csv` is `csv.Error`. -/

/-- **C14 (the line parsers agree, library generator).**  On every line the library generator
produces from a row of fields without line breaks (any CR/LF line ending, also none), `csv.reader`
and `parse_complex_csv_line` both return exactly the row.  The row `['']` is excluded: the library
writes it as a blank line (`C14_reader_blank_line`). -/
theorem C14_agrees_with_csv_reader (d : Char) (hd : GoodDelim d) (row : List Str) (hrow : row ≠ [])
    (hlone : row ≠ [[]]) (hf : ∀ g ∈ row, NoBreak g) (eol : Str) (he : IsEol eol) :
    readerRecords d [gen d row eol] = .ok [row] ∧ parse d (gen d row eol) = .ok row := by
  refine ⟨?_, C13_roundtrip d hd row hrow hf eol he⟩
  cases row with
  | nil => exact absurd rfl hrow
  | cons f fs =>
    unfold gen
    simp only
    rw [gen_acc_dropLast]
    unfold readerRecords
    rw [reader_rowStr d hd _ (needsQuote_adequate d) f fs hf (by
      intro h1 h2; subst h1; subst h2; exact absurd rfl hlone) eol he]

/-- **C14 (the line parsers agree, csv.writer).**  The same for every line `csv.writer`
(`QUOTE_MINIMAL`) writes — `save_csv` writes its files with it — for every non-empty row. -/
theorem C14_agrees_with_csv_reader_writer (d : Char) (hd : GoodDelim d) (row : List Str)
    (hrow : row ≠ []) (hf : ∀ g ∈ row, NoBreak g) (term : Str) (he : IsEol term) :
    readerRecords d [writerLine d term row] = .ok [row] ∧ parse d (writerLine d term row) = .ok row := by
  refine ⟨?_, C13_roundtrip_writer d hd row hrow hf term he⟩
  cases row with
  | nil => exact absurd rfl hrow
  | cons f fs =>
    unfold writerLine
    simp only
    rw [join_eq_rowStr]
    unfold readerRecords
    rw [reader_rowStr d hd _ (writer_adequate d term _) f fs hf (by
      intro h1 h2; subst h1; subst h2; simp [writerNeedsQuote]) term he]

/-- the quoted field at the end of `body` is not closed (the library parser's state after `body`) -/
def OpenQuote (d : Char) (body : Str) : Prop :=
  ∃ st, run d St.init body = .ok st ∧ st.qb = true ∧ st.ex = false

/-- **C14 (where the two line parsers agree, exactly).**  On an arbitrary physical line
`body ++ eol` (`body` not empty, no line break inside): the library parser refuses it
(`ValueError`) only if `csv.reader` does (`csv.Error`); if the library parser accepts it and the
last quoted field is closed, `csv.reader` returns the same fields; if the last quoted field is
still open, the library parser accepts the line and `csv.reader` refuses it (strict mode,
"unexpected end of data"). -/
theorem C14_reader_vs_parse (d : Char) (hd : GoodDelim d) (body : Str) (hb : NoBreak body)
    (hne : body ≠ []) (eol : Str) (he : IsEol eol) :
    (∀ e, parse d (body ++ eol) = .error e → readerRecords d [body ++ eol] = .error .csv)
    ∧ (∀ fs, parse d (body ++ eol) = .ok fs → ¬ OpenQuote d body →
        readerRecords d [body ++ eol] = .ok [fs])
    ∧ (OpenQuote d body → readerRecords d [body ++ eol] = .error .csv
        ∧ ∃ fs, parse d (body ++ eol) = .ok fs) := by
  have hr := reader_line d hd body hb hne eol he
  unfold readerRecords
  rw [hr, parse_line d body eol hb he]
  cases hrun : run d St.init body with
  | error e =>
    refine ⟨fun _ _ => rfl, ?_, ?_⟩
    · intro fs h; simp [bind, Except.bind] at h
    · rintro ⟨st, h, _⟩; rw [hrun] at h; cases h
  | ok st =>
    simp only [bind, Except.bind, pure, Except.pure]
    refine ⟨fun e h => (by cases h), ?_, ?_⟩
    · intro fs h hopen
      cases h
      have : (st.qb && !st.ex) = false := by
        cases hq : st.qb <;> cases hx : st.ex <;> simp
        exact hopen ⟨st, hrun, hq, hx⟩
      simp [this]
    · rintro ⟨st', h, hq, hx⟩
      rw [hrun] at h
      cases h
      simp [hq, hx]

/-- **C14 (closing the open quote).**  In the third case of `C14_reader_vs_parse` the library
parser behaves as if the missing closing quote were there: with it, `csv.reader` returns the
fields the library parser returns without it. -/
theorem C14_reader_open_quote_closed (d : Char) (hd : GoodDelim d) (body : Str) (hb : NoBreak body)
    (eol : Str) (he : IsEol eol) (ho : OpenQuote d body) :
    ∃ fs, parse d (body ++ eol) = .ok fs ∧ readerRecords d [body ++ ['"'] ++ eol] = .ok [fs] := by
  obtain ⟨st, hrun, hq, hx⟩ := ho
  have hb' : NoBreak (body ++ ['"']) := by
    constructor <;> intro h <;> rw [List.mem_append] at h <;> rcases h with h | h
    · exact hb.1 h
    · simp at h
    · exact hb.2 h
    · simp at h
  have hd' : ¬ ('"' = d) := fun h => hd.1 h.symm
  have hrun' : run d St.init (body ++ ['"']) = .ok { st with ex := true } := by
    rw [run_append, hrun]
    obtain ⟨field, out, qb, ex⟩ := st
    simp only at hq hx
    subst hq; subst hx
    simp [bind, Except.bind, run, step, hd']
  refine ⟨st.out ++ [st.field], ?_, ?_⟩
  · rw [parse_line d body eol hb he, hrun]
    rfl
  · unfold readerRecords
    rw [reader_line d hd _ hb' (by simp) eol he, hrun']
    simp [hq]

/-- **C14 (blank line).**  The one other difference: on a blank line `csv.reader` yields the
empty record `[]`, the library parser the single empty field `['']` (so `load_csv` with
`skip_empty_lines=False` makes a record of it, `C14_keep_empty_lines`). -/
theorem C14_reader_blank_line (d : Char) (eol : Str) (he : IsEol eol) :
    readerRecords d [eol] = .ok [[]] ∧ parse d eol = .ok [[]] := by
  constructor
  · unfold readerRecords
    rw [readerAux_cons d eol [] RSt.init (reader_blank d eol he) rfl]
    rfl
  · exact parse_line d [] eol ⟨by simp, by simp⟩ he

/-- counter-example to unrestricted agreement: an unterminated quoted field -/
theorem C14_reader_open_quote_cex :
    parse ',' ['"', 'a', ',', 'b'] = .ok [['a', ',', 'b']]
      ∧ readerRecords ',' [['"', 'a', ',', 'b']] = .error .csv := by decide +kernel

/-- counter-example: the library generator writes the row `['']` as a blank line, which
`csv.reader` reads as `[]` -/
theorem C14_reader_lone_empty_cex :
    parse ',' (gen ',' [[]] ['\n']) = .ok [[]] ∧ readerRecords ',' [gen ',' [[]] ['\n']] = .ok [[]] := by
  decide +kernel

/-- **C14 (csv.reader reads the saved file back as the table).**  Over the lines of the file
`save_csv` wrote (text mode, `newline=''`, `utf-8-sig`), `csv.reader` yields the rows of the table,
header first — an empty row as the empty record; with `C14_positional` / `C14_header_from_file`
this is "`load_csv` agrees with the standard csv reader" on whole files. -/
theorem C14_reader_reads_saved_file (d : Char) (hd : GoodDelim14 d) (eol : Str) (he : Eol eol)
    (bom : Bool) (header : Option (List Str)) (rows : List (List Str))
    (hc : CellsOK (allRows header rows)) :
    readerRecords d (nlLines (decodeSig (fileOf bom d eol header rows)))
      = .ok (allRows header rows) := by
  rw [fileOf_eq, nlLines_file d hd.1 hd.2 eol he bom _ hc.1 hc.2]
  unfold readerRecords
  rw [readerAux_written d hd.1 eol he.isEol _ hc.1]

section NonVacuityReader
example : readerRecords ',' [gen ',' [['a', ',', '"'], ['"'], [], ['"', 'x', '"']] ['\r', '\n']]
    = .ok [[['a', ',', '"'], ['"'], [], ['"', 'x', '"']]] := by decide +kernel
example : readerRecords ';' [writerLine ';' ['\n'] [[]]] = .ok [[[]]] := by decide +kernel
-- all three clauses of `C14_reader_vs_parse` are inhabited
example : parse ',' ['"', 'a', '"', 'b'] = .error .ValueError
    ∧ readerRecords ',' [['"', 'a', '"', 'b']] = .error .csv := by decide +kernel
example : ¬ OpenQuote ',' ['a', '"', 'b'] := by
  rintro ⟨st, h, hq, _⟩
  have : run ',' St.init ['a', '"', 'b'] = .ok ⟨['a', '"', 'b'], [], false, false⟩ := by decide +kernel
  rw [this] at h; cases h; cases hq
example : OpenQuote ',' ['"', 'a'] := ⟨⟨['a'], [], true, false⟩, by decide, rfl, rfl⟩
-- a record over two physical lines (outside the theorems, inside the model)
example : readerRecords ',' [['"', 'a', '\n'], ['b', '"', ',', 'c', '\n']]
    = .ok [[['a', '\n', 'b'], ['c']]] := by decide +kernel
end NonVacuityReader

/-! ## load_native_csv (csv.DictReader) on saved files

`nativeCsv no file` is `list(load_native_csv(path, …))` (model in `Model/CsvReader.lean`, with
fix C14-f).  A `DictReader` row `nativeRec names row` is the named part `zipPad names row`
(`C14_native_record`) plus the surplus cells under the key `None`; "the same records as
`load_csv`" is equality of the named parts (`NRec.row`). -/

/-- a `DictReader` row over unique names: the named part is `load_csv`'s record, the surplus
cells (which `load_csv` drops) are kept under the key `None` -/
theorem C14_native_record (names : List Str) (hn : names.Nodup) (row : List Str) :
    (nativeRec names row).row = zipPad (names.map Key.name) row
      ∧ (nativeRec names row).rest
          = if names.length < row.length then some (row.drop names.length) else none := by
  rw [nativeRec_nodup names hn]
  exact ⟨rfl, rfl⟩

/-- **C14 (load_native_csv, header given and in the file).**  `column_names = hdr` and
`contains_header` true (the default): the header line is checked and skipped, blank lines are
skipped, one row per non-empty data row — the records `load_csv` yields in the same mode. -/
theorem C14_native_header_given_both (d : Char) (hd : GoodDelim14 d) (eol : Str) (he : Eol eol)
    (bom : Bool) (hdr : List Str) (hne : hdr ≠ []) (hnd : hdr.Nodup) (rows : List (List Str))
    (hc : CellsOK (hdr :: rows)) (re : Bool)
    (o : Opts) (hp : Plain o d) (hb : o.binary = false) (hru : o.returnUnknown = false)
    (hm : Given o hdr hdr) :
    nativeCsv { columnNames := .list hdr, delim := d, containsHeader := true, raiseExc := re }
        (fileOf bom d eol (some hdr) rows)
      = .ok ((dataRows rows).map (nativeRec hdr))
    ∧ records (loadCsv o (fileOf bom d eol (some hdr) rows))
      = .ok (((dataRows rows).map (nativeRec hdr)).map NRec.row) := by
  constructor
  · unfold fileOf
    rw [saveCsv_header d eol hdr rows hne]
    refine native_file _ d hd.1 hd.2 rfl eol he bom (hdr :: rows) hc.1 hc.2 _ (fun lines h => ?_)
    rw [native_checked _ hdr hnd rfl rfl lines _ hdr _ (dataRows_cons_ne hdr rows hne) h,
      if_pos rfl]
  · rw [C14_header_given_both d hd eol he bom hdr hne hnd rows hc o hp hb hru hm,
      map_nativeRec_row hdr hnd]

/-- **C14 (load_native_csv, names given, no header line).**  `column_names = names`,
`contains_header` false: every non-empty row is a record keyed by the names (no condition on the
first row — nothing is looked for); under the hypotheses of `C14_header_given_only` these are
`load_csv`'s records. -/
theorem C14_native_names_only (d : Char) (hd : GoodDelim14 d) (eol : Str) (he : Eol eol)
    (bom : Bool) (names : List Str) (hsn : names.Nodup) (rows : List (List Str))
    (hc : CellsOK rows) (re : Bool) :
    nativeCsv { columnNames := .list names, delim := d, containsHeader := false, raiseExc := re }
        (fileOf bom d eol none rows)
      = .ok ((dataRows rows).map (nativeRec names))
    ∧ ∀ (o : Opts) (first : List Str) (rest : List (List Str)) (mand : MandArg),
        names ≠ [] → dataRows rows = first :: rest → (∃ m ∈ names, m ∉ first) → Plain o d →
        o.binary = false → (mand = .none ∨ mand = .bool false) → NamesOnly o names mand →
        records (loadCsv o (fileOf bom d eol none rows))
          = .ok (((dataRows rows).map (nativeRec names)).map NRec.row) := by
  constructor
  · unfold fileOf
    rw [saveCsv_none]
    exact native_file _ d hd.1 hd.2 rfl eol he bom rows hc.1 hc.2 _
      (fun lines h => native_names_only _ names hsn rfl rfl lines rows h)
  · intro o first rest mand hs hrows hmiss hp hb hmand hm
    rw [C14_header_given_only d hd eol he bom names hs hsn rows hc first rest hrows hmiss o hp hb
      mand hmand hm, hrows, map_nativeRec_row names hsn]

/-- **C14 (load_native_csv, header taken from the file).**  `column_names` absent (with fix
C14-f: whatever `contains_header`, also the default `True`): the first line gives the names; the
records are those of `load_csv` with the header taken from the file. -/
theorem C14_native_header_from_file (d : Char) (hd : GoodDelim14 d) (eol : Str) (he : Eol eol)
    (bom : Bool) (hdr : List Str) (hne : hdr ≠ []) (hnd : hdr.Nodup) (rows : List (List Str))
    (hc : CellsOK (hdr :: rows)) (ch re : Bool)
    (o : Opts) (hp : Plain o d) (hb : o.binary = false) (hcn : o.columnNames = .none)
    (hm : FromFile o hdr) :
    nativeCsv { columnNames := .none, delim := d, containsHeader := ch, raiseExc := re }
        (fileOf bom d eol (some hdr) rows)
      = .ok ((dataRows rows).map (nativeRec hdr))
    ∧ records (loadCsv o (fileOf bom d eol (some hdr) rows))
      = .ok (((dataRows rows).map (nativeRec hdr)).map NRec.row) := by
  constructor
  · unfold fileOf
    rw [saveCsv_header d eol hdr rows hne]
    exact native_file _ d hd.1 hd.2 rfl eol he bom (hdr :: rows) hc.1 hc.2 _
      (fun lines h => native_from_file _ hdr rfl lines rows h)
  · rw [C14_header_from_file d hd eol he bom hdr hne hnd rows hc o hp hb hcn hm,
      map_nativeRec_row hdr hnd]

/-- **C14 (load_native_csv refuses a missing header).**  `column_names = names`,
`contains_header` true, but the first non-blank row is not exactly the names: `ReferenceError`,
or nothing at all with `raise_exception=False` — as `load_csv` (`C14_missing_mandatory_refused`). -/
theorem C14_native_missing_refused (d : Char) (hd : GoodDelim14 d) (eol : Str) (he : Eol eol)
    (bom : Bool) (names : List Str) (hsn : names.Nodup) (rows : List (List Str))
    (hc : CellsOK rows) (first : List Str) (rest : List (List Str))
    (hrows : dataRows rows = first :: rest) (hdiff : first ≠ names) (re : Bool) :
    nativeCsv { columnNames := .list names, delim := d, containsHeader := true, raiseExc := re }
        (fileOf bom d eol none rows)
      = if re then .error (.py .ReferenceError) else .ok [] := by
  unfold fileOf
  rw [saveCsv_none]
  refine native_file _ d hd.1 hd.2 rfl eol he bom rows hc.1 hc.2 _ (fun lines h => ?_)
  rw [native_checked _ names hsn rfl rfl lines rows first rest hrows h, if_neg hdiff]

/-- **C14 (load_simple_csv = load_csv without quotes).**  On **every** file that contains no
quote character and for **every** option record (text mode; `load_simple_csv` has no
`return_unknown_fields`), `load_simple_csv` — plain `split` — returns what `load_csv` returns:
records, original lines or the exception. -/
theorem C14_simple_no_quote (o : Opts) (hb : o.binary = false) (hru : o.returnUnknown = false)
    (file : Str) (hq : '"' ∉ file) : loadSimple o file = loadCsv o file := by
  have ho : { o with returnUnknown := false } = o := by
    cases o; simp only at hru; subst hru; rfl
  unfold loadSimple loadCsv
  rw [ho, ← loadLinesWith_parseLine, hb]
  apply loadLinesWith_congr
  intro l hl
  apply simpleParse_eq o hb
  intro hc
  exact physLines_no_quote file hq l hl (mem_of_mem_procLine o l _ hc)

/-- **C14 (load_simple_csv on saved tables).**  For a table saved by `save_csv` whose cells and
names contain neither the delimiter nor a quote (and no row is the single empty cell, which
`csv.writer` writes as `""`): the same result as `load_csv` under every header mode and every
strip / skip option — so all the C14 theorems apply to `load_simple_csv`. -/
theorem C14_simple_saved_table (d : Char) (hd : GoodDelim14 d) (eol : Str) (he : Eol eol)
    (bom : Bool) (header : Option (List Str)) (rows : List (List Str))
    (hr : ∀ r ∈ allRows header rows, (∀ f ∈ r, PlainCell d f) ∧ r ≠ [[]])
    (o : Opts) (hb : o.binary = false) (hru : o.returnUnknown = false) :
    loadSimple o (fileOf bom d eol header rows) = loadCsv o (fileOf bom d eol header rows) := by
  apply C14_simple_no_quote o hb hru
  rw [fileOf_eq]
  exact written_no_quote d hd.1.1 eol he _ hr bom

/-- counter-example outside that domain: a quoted cell keeps its quotes under `load_simple_csv` -/
theorem C14_simple_quote_cex :
    records (loadSimple { } ['"', 'a', '"', '\n']) = .ok [[(.pos 0, some ['"', 'a', '"'])]]
      ∧ records (loadCsv { } ['"', 'a', '"', '\n']) = .ok [[(.pos 0, some ['a'])]] :=
  ⟨by decide +kernel, by decide +kernel⟩

/-! ## strip_field / strip_line / skip_empty_lines=False in closed form -/

/-- **C14 (strip_field).**  `strip_field=True` (header taken from the file, announced in one of
the documented ways for the *stripped* names): names and cells are the written ones with their
surrounding blanks removed (`pyStrip` = `str.strip()`; see `C14_strip_padded`). -/
theorem C14_strip_field (d : Char) (hd : GoodDelim14 d) (eol : Str) (he : Eol eol) (bom : Bool)
    (hdr : List Str) (hne : hdr ≠ []) (hnd : (hdr.map pyStrip).Nodup) (rows : List (List Str))
    (hc : CellsOK (hdr :: rows))
    (o : Opts) (hp : StripField o d) (hcn : o.columnNames = .none)
    (hm : FromFile o (hdr.map pyStrip)) :
    records (loadCsv o (fileOf bom d eol (some hdr) rows))
      = .ok ((dataRows rows).map
          (fun r => zipPad ((hdr.map pyStrip).map Key.name) (r.map pyStrip))) := by
  unfold fileOf
  rw [saveCsv_header d eol hdr rows hne,
    loadCsv_strip_field o d hd.1 hp.delim hp.skip hp.sl hp.sf _ hc.1 false hp.text _ _
      (savedAs_text14 d hd eol he bom _ hc),
    stripWith_wsFor_false, dataRows_cons_ne hdr rows hne, List.map_cons,
    tableResult_header o hcn _ _ hm hnd, List.map_map]
  rfl

/-- **C14 (strip_field, positional).**  The same without a header: positions of the first row. -/
theorem C14_strip_field_positional (d : Char) (hd : GoodDelim14 d) (eol : Str) (he : Eol eol)
    (bom : Bool) (rows : List (List Str)) (hc : CellsOK rows) (first : List Str)
    (rest : List (List Str)) (hrows : dataRows rows = first :: rest)
    (o : Opts) (hp : StripField o d) (hm : NoHeaderOpts o) :
    records (loadCsv o (fileOf bom d eol none rows))
      = .ok ((first :: rest).map (fun r => zipPad (positions first.length) (r.map pyStrip))) := by
  unfold fileOf
  rw [saveCsv_none,
    loadCsv_strip_field o d hd.1 hp.delim hp.skip hp.sl hp.sf _ hc.1 false hp.text _ _
      (savedAs_text14 d hd eol he bom _ hc),
    stripWith_wsFor_false, hrows, List.map_cons, tableResult_positional o hm]
  simp [List.map_map]

/-- what `pyStrip` removes: exactly the blanks around a core that has none at its ends -/
theorem C14_strip_padded (l c r : Str) (hl : ∀ x ∈ l, isPySpace x = true)
    (hr : ∀ x ∈ r, isPySpace x = true) (hc : OuterClean isPySpace c) :
    pyStrip (l ++ c ++ r) = c :=
  stripWith_padded isPySpace l c r hl hr hc

/-- **C14 (strip_line on clean lines).**  `strip_line=True` strips the *line*, not the cells; on
a saved table none of whose written lines begins or ends with a blank it changes nothing, under
every header option. -/
theorem C14_strip_line_clean (d : Char) (hd : GoodDelim14 d) (eol : Str) (he : Eol eol) (bom : Bool)
    (header : Option (List Str)) (rows : List (List Str)) (hc : CellsOK (allRows header rows))
    (hcl : ∀ r ∈ allRows header rows, OuterClean isPySpace (bodyOf d LF r))
    (o : Opts) (hp : Plain o d) (hb : o.binary = false) :
    records (loadCsv { o with stripLine := true } (fileOf bom d eol header rows))
      = records (loadCsv o (fileOf bom d eol header rows)) := by
  rw [fileOf_eq]
  exact loadCsv_strip_line_clean o d hd.1 hp _ hc.1 false hb _ _
    (savedAs_text14 d hd eol he bom _ hc) (by rw [wsFor_false]; exact hcl)

/-- `C14_strip_line_clean` with its hypothesis on the cells: the delimiter is not a blank and no
cell or name begins or ends with a blank -/
theorem C14_strip_line_clean_cells (d : Char) (hd : GoodDelim14 d) (hdb : isPySpace d = false)
    (eol : Str) (he : Eol eol) (bom : Bool)
    (header : Option (List Str)) (rows : List (List Str)) (hc : CellsOK (allRows header rows))
    (hcl : ∀ r ∈ allRows header rows, ∀ f ∈ r, OuterClean isPySpace f)
    (o : Opts) (hp : Plain o d) (hb : o.binary = false) :
    records (loadCsv { o with stripLine := true } (fileOf bom d eol header rows))
      = records (loadCsv o (fileOf bom d eol header rows)) :=
  C14_strip_line_clean d hd eol he bom header rows hc
    (fun r hr => bodyOf_outerClean isPySpace d LF hdb (by decide) r (hcl r hr)) o hp hb

/-- counter-example: `strip_line` is not `strip_field` — with a blank delimiter (tab) an empty first cell before it
disappears: the line `\ta` gives one cell under `strip_line=True`, two without -/
theorem C14_strip_line_cex :
    records (loadCsv { stripLine := true, delim := '\t' } ['\t', 'a', '\n'])
      = .ok [[(.pos 0, some ['a'])]]
    ∧ records (loadCsv { delim := '\t' } ['\t', 'a', '\n'])
      = .ok [[(.pos 0, some []), (.pos 1, some ['a'])]] := ⟨by decide +kernel, by decide +kernel⟩

/-- **C14 (skip_empty_lines=False).**  Header taken from the file: **every** row after the header
yields a record, in order; an empty row (a blank line) yields the record of the single empty cell
— first name ↦ `''`, the other names ↦ `None` (`cellsOfRow [] = ['']`).  (Counterpart of `C14_header_from_file`,
whose `Plain` skips blank lines.) -/
theorem C14_keep_empty_lines (d : Char) (hd : GoodDelim14 d) (eol : Str) (he : Eol eol) (bom : Bool)
    (hdr : List Str) (hne : hdr ≠ []) (hnd : hdr.Nodup) (rows : List (List Str))
    (hc : CellsOK (hdr :: rows))
    (o : Opts) (hp : KeepEmpty o d) (hb : o.binary = false) (hcn : o.columnNames = .none)
    (hm : FromFile o hdr) :
    records (loadCsv o (fileOf bom d eol (some hdr) rows))
      = .ok (rows.map (fun r => zipPad (hdr.map Key.name) (cellsOfRow r))) := by
  unfold fileOf
  rw [saveCsv_header d eol hdr rows hne,
    loadCsv_keep o d hd.1 hp hdr hne rows hc.1 false hb _ _ (savedAs_text14 d hd eol he bom _ hc),
    tableResult_header o hcn _ _ hm hnd, List.map_map]
  rfl

/-- **C14 (skip_empty_lines=False, positional).**  No header, the first row not empty: every
row, blank lines included, keyed by the positions of the first row.  (Blank lines *before* the
first non-blank line are skipped whatever `skip_empty_lines`: the leading-blank loop of
`load_csv` does not consult it — model `skipBlank`, stream `csvfile.load/*`.) -/
theorem C14_keep_empty_lines_positional (d : Char) (hd : GoodDelim14 d) (eol : Str) (he : Eol eol)
    (bom : Bool) (first : List Str) (hne : first ≠ []) (rest : List (List Str))
    (hc : CellsOK (first :: rest))
    (o : Opts) (hp : KeepEmpty o d) (hb : o.binary = false) (hm : NoHeaderOpts o) :
    records (loadCsv o (fileOf bom d eol none (first :: rest)))
      = .ok ((first :: rest).map (fun r => zipPad (positions first.length) (cellsOfRow r))) := by
  unfold fileOf
  rw [saveCsv_none,
    loadCsv_keep o d hd.1 hp first hne rest hc.1 false hb _ _ (savedAs_text14 d hd eol he bom _ hc),
    tableResult_positional o hm]
  simp [List.map_map, cellsOfRow_of_ne_nil hne]

/-! ## the strip options in binary read mode (finding C14-g)

In binary mode the cells are `bytes`; `strip_field` / `strip_line` call `bytes.strip()`, which
removes ASCII blanks only (`asciiStrip`), while text mode removes every `str.isspace()` character
(`pyStrip`: also `\x1c`–`\x1f`, U+0085, U+00A0, U+2003 …).  So "binary read mode yields the same
table as encoded bytes" holds under the strip options exactly outside the class of C14-g
(`EdgeAscii`: `str.strip()` removes from the cell what `bytes.strip()` removes). -/

/-- a cell outside the class of C14-g: `str.strip()` removes from it exactly what `bytes.strip()`
removes (no `\x1c`–`\x1f`, U+0085, U+00A0 … at an edge once the ASCII blanks are gone) -/
def EdgeAscii (f : Str) : Prop := pyStrip f = asciiStrip f

/-- **C14 (strip_field, binary read mode: what the code does).**  On any byte table,
`strip_field=True` with `read_mode='b'` yields the table of `bytes.strip()`-ed names and cells. -/
theorem C14_strip_field_binary (d : Char) (hd : GoodDelim14 d) (eol : Str) (he : Eol eol)
    (hdr : List Str) (hne : hdr ≠ []) (hnd : (hdr.map asciiStrip).Nodup) (rows : List (List Str))
    (hc : NoBreakRows (hdr :: rows))
    (o : Opts) (hp : StripFieldBin o d) (hcn : o.columnNames = .none)
    (hm : FromFile o (hdr.map asciiStrip)) :
    records (loadCsv o (fileOf false d eol (some hdr) rows))
      = .ok ((dataRows rows).map
          (fun r => zipPad ((hdr.map asciiStrip).map Key.name) (r.map asciiStrip))) := by
  unfold fileOf withBom
  simp only [Bool.false_eq_true, ↓reduceIte]
  rw [saveCsv_header d eol hdr rows hne,
    loadCsv_strip_field o d hd.1 hp.delim hp.skip hp.sl hp.sf _ hc true hp.bin _ _
      (savedAs_bin d hd.1 eol he _ hc),
    stripWith_wsFor_true, dataRows_cons_ne hdr rows hne, List.map_cons,
    tableResult_header o hcn _ _ hm hnd, List.map_map]
  rfl

/-- the full statement "binary read mode yields the same table as encoded bytes" under
`strip_field=True`: reading the encoded bytes of a saved table in binary mode gives the records
of `C14_strip_field` (the table of `str.strip()`-ed names and cells), encoded.  **False**
(`C14_binary_strip_field_cex`, finding C14-g); proved outside the class of the finding as
`C14_binary_strip_field_partial`. -/
def C14_binary_strip_field_stmt : Prop :=
  ∀ (e : Char → Str), AsciiTransparent e → ∀ (d : Char), GoodDelim14 d → d.toNat < 128 →
  ∀ (eol : Str), Eol eol → ∀ (hdr : List Str), hdr ≠ [] →
    (hdr.map (fun f => encS e (pyStrip f))).Nodup → ∀ (rows : List (List Str)),
    NoBreakRows (hdr :: rows) →
  ∀ (o : Opts), StripFieldBin o d → o.columnNames = .none →
    FromFile o (hdr.map (fun f => encS e (pyStrip f))) →
    records (loadCsv o (encS e (fileOf false d eol (some hdr) rows)))
      = .ok ((dataRows rows).map (fun r =>
          zipPad ((hdr.map (fun f => encS e (pyStrip f))).map Key.name)
            (r.map (fun f => encS e (pyStrip f)))))

/-- **C14 (binary read mode = encoded text-mode table, strip_field; outside C14-g).**  For every
ASCII-transparent byte encoder and every table none of whose names / cells has a non-ASCII-blank
`str.isspace()` character at an edge (`EdgeAscii`), `strip_field=True` in binary mode on the
encoded file yields the text-mode records of `C14_strip_field`, encoded. -/
theorem C14_binary_strip_field_partial (e : Char → Str) (he : AsciiTransparent e) (d : Char)
    (hd : GoodDelim14 d) (hda : d.toNat < 128) (eol : Str) (heol : Eol eol)
    (hdr : List Str) (hne : hdr ≠ [])
    (hnd : (hdr.map (fun f => encS e (pyStrip f))).Nodup) (rows : List (List Str))
    (hc : NoBreakRows (hdr :: rows))
    (hedge : ∀ r ∈ hdr :: rows, ∀ f ∈ r, EdgeAscii f)
    (o : Opts) (hp : StripFieldBin o d) (hcn : o.columnNames = .none)
    (hm : FromFile o (hdr.map (fun f => encS e (pyStrip f)))) :
    records (loadCsv o (encS e (fileOf false d eol (some hdr) rows)))
      = .ok ((dataRows rows).map (fun r =>
          zipPad ((hdr.map (fun f => encS e (pyStrip f))).map Key.name)
            (r.map (fun f => encS e (pyStrip f))))) := by
  have hcell : ∀ r ∈ hdr :: rows, r.map (fun f => encS e (pyStrip f))
      = (r.map (encS e)).map asciiStrip := fun r hr => strip_cells e he r (hedge r hr)
  have hh := hcell hdr (by simp)
  rw [C14_encoding_commutes e he d hda eol heol (some hdr) rows]
  simp only [Option.map_some]
  have hc' : NoBreakRows (hdr.map (encS e) :: encRows e rows) := by
    have := noBreakRows_enc e he (hdr :: rows) hc
    simpa [encRows] using this
  rw [hh] at hnd hm ⊢
  rw [C14_strip_field_binary d hd eol heol (hdr.map (encS e)) (by simpa using hne) hnd
    (encRows e rows) hc' o hp hcn hm, dataRows_encRows]
  congr 1
  unfold encRows
  rw [List.map_map]
  apply List.map_congr_left
  intro r hr
  have hr' : r ∈ hdr :: rows := by
    have : r ∈ rows := by
      unfold dataRows at hr
      exact (List.mem_filter.mp hr).1
    simp [this]
  simp only [Function.comp]
  rw [hcell r hr']

/-- **C14 (strip_field, binary read mode, positional).**  The same without a header. -/
theorem C14_strip_field_binary_positional (d : Char) (hd : GoodDelim14 d) (eol : Str) (he : Eol eol)
    (rows : List (List Str)) (hc : NoBreakRows rows) (first : List Str)
    (rest : List (List Str)) (hrows : dataRows rows = first :: rest)
    (o : Opts) (hp : StripFieldBin o d) (hm : NoHeaderOpts o) :
    records (loadCsv o (fileOf false d eol none rows))
      = .ok ((first :: rest).map (fun r => zipPad (positions first.length) (r.map asciiStrip))) := by
  unfold fileOf withBom
  simp only [Bool.false_eq_true, ↓reduceIte]
  rw [saveCsv_none,
    loadCsv_strip_field o d hd.1 hp.delim hp.skip hp.sl hp.sf _ hc true hp.bin _ _
      (savedAs_bin d hd.1 eol he _ hc),
    stripWith_wsFor_true, hrows, List.map_cons, tableResult_positional o hm]
  simp [List.map_map]

/-- **C14 (binary read mode = encoded text-mode table, strip_field, positional; outside C14-g).**
The records of `C14_strip_field_positional`, encoded. -/
theorem C14_binary_strip_field_positional_partial (e : Char → Str) (he : AsciiTransparent e)
    (d : Char) (hd : GoodDelim14 d) (hda : d.toNat < 128) (eol : Str) (heol : Eol eol)
    (rows : List (List Str)) (hc : NoBreakRows rows) (first : List Str) (rest : List (List Str))
    (hrows : dataRows rows = first :: rest)
    (hedge : ∀ r ∈ rows, ∀ f ∈ r, EdgeAscii f)
    (o : Opts) (hp : StripFieldBin o d) (hm : NoHeaderOpts o) :
    records (loadCsv o (encS e (fileOf false d eol none rows)))
      = .ok ((first :: rest).map (fun r =>
          zipPad (positions first.length) (r.map (fun f => encS e (pyStrip f))))) := by
  have hcell : ∀ r ∈ rows, r.map (fun f => encS e (pyStrip f))
      = (r.map (encS e)).map asciiStrip := fun r hr => strip_cells e he r (hedge r hr)
  rw [C14_encoding_commutes e he d hda eol heol none rows]
  simp only [Option.map_none]
  have hrows' : dataRows (encRows e rows) = first.map (encS e) :: encRows e rest := by
    rw [dataRows_encRows, hrows]; rfl
  rw [C14_strip_field_binary_positional d hd eol heol (encRows e rows)
    (noBreakRows_enc e he rows hc) _ _ hrows' o hp hm]
  congr 1
  have hmem : ∀ r ∈ first :: rest, r ∈ rows := by
    intro r hr
    rw [← hrows] at hr
    unfold dataRows at hr
    exact (List.mem_filter.mp hr).1
  have : first.map (encS e) :: encRows e rest = (first :: rest).map (List.map (encS e)) := rfl
  rw [this, List.map_map, List.length_map]
  apply List.map_congr_left
  intro r hr
  simp only [Function.comp]
  rw [hcell r (hmem r hr)]

private def nbsp : Char := Char.ofNat 0xA0
private def bC2 : Char := Char.ofNat 0xC2
private def fsep : Char := Char.ofNat 0x1C

/-- **C14-g, on the model** (the code does the same: replayed by the harness).  The file
`x\xa0` + LF (UTF-8 bytes `78 C2 A0 0A`), `strip_field=True`: text mode yields the cell `x`,
binary mode the bytes `78 C2 A0` — not the encoding of `x`.  The file `\x1c` + LF with
`strip_line=True`: text mode sees only blank lines (`EOFError`), binary mode yields a record. -/
theorem C14_binary_strip_cex :
    records (loadCsv { stripField := true } ['x', nbsp, '\n']) = .ok [[(.pos 0, some ['x'])]]
    ∧ records (loadCsv { stripField := true, binary := true } ['x', bC2, nbsp, '\n'])
        = .ok [[(.pos 0, some ['x', bC2, nbsp])]]
    ∧ loadCsv { stripLine := true } [fsep, '\n'] = .error .EOFError
    ∧ records (loadCsv { stripLine := true, binary := true } [fsep, '\n'])
        = .ok [[(.pos 0, some [fsep])]] :=
  ⟨by decide +kernel, by decide +kernel, by decide +kernel, by decide +kernel⟩

/-- a UTF-8-like encoder, exact on ASCII and on U+00A0 (`C2 A0`) -/
private def encN (c : Char) : Str :=
  if c.toNat < 128 then [c] else if c = nbsp then [bC2, nbsp] else [Char.ofNat 0xBF]

private theorem encN_transparent : AsciiTransparent encN := by
  -- the bytes of a character above ASCII (C2 A0, or BF) are high bytes
  have hhigh : ∀ c : Char, ¬ c.toNat < 128 → ∀ b ∈ encN c, 128 ≤ b.toNat ∧ b.toNat < 256 := by
    intro c hc b hb
    unfold encN at hb
    rw [if_neg hc] at hb
    by_cases h : c = nbsp
    · rw [if_pos h] at hb
      rcases List.mem_cons.1 hb with hb | hb
      · rw [hb]
        decide
      · rw [List.mem_singleton.1 hb]
        decide
    · rw [if_neg h] at hb
      rw [List.mem_singleton.1 hb]
      decide
  refine ⟨fun c hc => if_pos hc, fun c hc b hb => (hhigh c (Nat.not_lt.2 hc) b hb).1, ?_, ?_⟩
  · intro c
    unfold encN
    by_cases hc : c.toNat < 128
    · rw [if_pos hc]
      exact List.cons_ne_nil _ _
    · rw [if_neg hc]
      by_cases h : c = nbsp
      · rw [if_pos h]
        exact List.cons_ne_nil _ _
      · rw [if_neg h]
        exact List.cons_ne_nil _ _
  · intro c b hb
    by_cases hc : c.toNat < 128
    · unfold encN at hb
      rw [if_pos hc] at hb
      rw [List.mem_singleton.1 hb]
      exact Nat.lt_trans hc (by decide)
    · exact (hhigh c hc b hb).2
/-- **C14-g: the full statement fails** — table `h` / `x\xa0`, `header_is_mandatory=True`,
`strip_field=True`, `read_mode='b'`: the record holds `x\xc2\xa0`, not the encoding of `x`. -/
theorem C14_binary_strip_field_cex : ¬ C14_binary_strip_field_stmt := by
  intro h
  have := h encN encN_transparent ',' ⟨⟨by decide, by decide, by decide⟩, by decide⟩ (by decide)
    LF (Or.inl rfl) [['h']] (by simp) (by decide) [[['x', nbsp]]]
    (by unfold NoBreakRows NoBreak; decide)
    { stripField := true, binary := true, mandatory := .bool true } ⟨rfl, rfl, rfl, rfl, rfl⟩ rfl
    (.mandatory rfl rfl)
  revert this
  decide +kernel

/-- **C14 (strip_line on clean lines, binary read mode).**  As `C14_strip_line_clean`, for
`read_mode='b'`: on a byte table none of whose written lines begins or ends with an ASCII blank
(so in particular when none begins or ends with a `str.isspace()` character, `C14_outer_clean_bytes`),
`strip_line=True` changes nothing — so, by
`C14_binary_encoded`, binary mode with `strip_line=True` still yields the encoded table. -/
theorem C14_strip_line_clean_binary (d : Char) (hd : GoodDelim14 d) (eol : Str) (he : Eol eol)
    (header : Option (List Str)) (rows : List (List Str)) (hc : NoBreakRows (allRows header rows))
    (hcl : ∀ r ∈ allRows header rows, OuterClean isAsciiWsByte (bodyOf d LF r))
    (o : Opts) (hp : Plain o d) (hb : o.binary = true) :
    records (loadCsv { o with stripLine := true } (fileOf false d eol header rows))
      = records (loadCsv o (fileOf false d eol header rows)) := by
  rw [fileOf_eq]
  simp only [withBom, Bool.false_eq_true, ↓reduceIte]
  exact loadCsv_strip_line_clean o d hd.1 hp _ hc true hb _ _ (savedAs_bin d hd.1 eol he _ hc)
    (by rw [wsFor_true]; exact hcl)

/-- the hypothesis of `C14_strip_line_clean` (no `str.isspace()` character at an end of a written
line) implies the one of `C14_strip_line_clean_binary` -/
theorem C14_outer_clean_bytes (s : Str) (h : OuterClean isPySpace s) :
    OuterClean isAsciiWsByte s :=
  outerClean_mono isPySpace isAsciiWsByte ascii_ws_is_space s h

/-- **load_native_csv, blank line before the header** (the standard `csv.DictReader`'s reading,
not the table): left to find the field names itself (`column_names=None`), `DictReader` takes the
first record even when it is the empty one, so every line comes back under the key `None`
(`rest`), the header line included — while `load_csv` skips the blank line and yields the table.
This is why `C14_native_header_from_file` is stated for files that begin with the header. -/
theorem C14_native_leading_blank_cex :
    nativeCsv { } ['\n', 'a', ',', 'b', '\n', '1', ',', '2', '\n']
      = .ok [⟨[], some [['a'], ['b']]⟩, ⟨[], some [['1'], ['2']]⟩]
    ∧ records (loadCsv { mandatory := .bool true } ['\n', 'a', ',', 'b', '\n', '1', ',', '2', '\n'])
      = .ok [[(.name ['a'], some ['1']), (.name ['b'], some ['2'])]] := ⟨by decide +kernel, by decide +kernel⟩

section NonVacuityReaders
private def hdrP : List Str := [[' ', 'a'], ['b', ' ', ' ']]
private def rowsP : List (List Str) := [[['1', ' '], [' ', '"', '2']], [], [[' ']], [['4'], [' '], ['6']]]

example : StripField { stripField := true, mandatory := .bool true } ',' := ⟨rfl, rfl, rfl, rfl, rfl⟩
example : KeepEmpty { skipEmpty := false } ',' := ⟨rfl, rfl, rfl, rfl⟩
example : (hdrP.map pyStrip).Nodup := by decide
example : FromFile { stripField := true, mandatory := .bool true } (hdrP.map pyStrip) := .mandatory rfl rfl
example : records (loadCsv { stripField := true, mandatory := .bool true } (fileOf true ',' CRLF (some hdrP) rowsP))
    = .ok [[(.name ['a'], some ['1']), (.name ['b'], some ['"', '2'])],
           [(.name ['a'], some []), (.name ['b'], none)],
           [(.name ['a'], some ['4']), (.name ['b'], some [])]] := by decide +kernel
example : records (loadCsv { skipEmpty := false, mandatory := .bool true } (fileOf false ',' LF (some hdrAB) rowsX))
    = .ok [[(.name ['a'], some ['1']), (.name ['b', ','], some ['"', '2'])],
           [(.name ['a'], some []), (.name ['b', ','], none)],
           [(.name ['a'], some ['3']), (.name ['b', ','], none)],
           [(.name ['a'], some ['4']), (.name ['b', ','], some [])]] := by decide +kernel
example : OuterClean isPySpace ['a', ' ', 'b'] := by
  constructor <;> intro x hx <;> simp at hx <;> subst hx <;> decide
example : PlainCell ',' ['a', ' ', 'b'] := by unfold PlainCell NoBreak; decide
-- strip options in binary read mode: a table with U+00A0 *inside* cells and ASCII blanks around them is
-- outside the class of C14-g; its UTF-8 bytes read with `strip_field=True`, `read_mode='b'`
private def hdrN : List Str := [[' ', 'a', Char.ofNat 0xA0, 'b'], ['c', '\t']]
private def rowsN : List (List Str) := [[['1', ' '], [' ', '2', Char.ofNat 0xA0, '3', ' ']], [], [['3']]]
example : ∀ r ∈ hdrN :: rowsN, ∀ f ∈ r, EdgeAscii f := by unfold EdgeAscii; decide
example : StripFieldBin { stripField := true, binary := true, mandatory := .bool true } ',' :=
  ⟨rfl, rfl, rfl, rfl, rfl⟩
example : records (loadCsv { stripField := true, binary := true, mandatory := .bool true }
      (encS encN (fileOf false ',' CRLF (some hdrN) rowsN)))
    = .ok [[(.name ['a', bC2, nbsp, 'b'], some ['1']), (.name ['c'], some ['2', bC2, nbsp, '3'])],
           [(.name ['a', bC2, nbsp, 'b'], some ['3']), (.name ['c'], none)]] := by decide +kernel
example : ¬ EdgeAscii ['x', Char.ofNat 0xA0] := by unfold EdgeAscii; decide
example : ¬ EdgeAscii [Char.ofNat 0x1C, 'z'] := by unfold EdgeAscii; decide
private def rowC : List Str := [[Char.ofNat 0xC2, Char.ofNat 0xA0, 'x'], ['y']]
example : OuterClean isAsciiWsByte (bodyOf ',' LF rowC) := by
  have h1 : (bodyOf ',' LF rowC).head? = some (Char.ofNat 0xC2) := by decide +kernel
  have h2 : (bodyOf ',' LF rowC).getLast? = some 'y' := by decide +kernel
  constructor
  · intro x hx; rw [h1] at hx; cases hx; decide
  · intro x hx; rw [h2] at hx; cases hx; decide
-- load_native_csv: default arguments (fix C14-f), surplus cells under the key None, blank line skipped
example : nativeCsv { } (fileOf true ',' CRLF (some hdrAB) rowsX)
    = .ok [⟨[(.name ['a'], some ['1']), (.name ['b', ','], some ['"', '2'])], none⟩,
           ⟨[(.name ['a'], some ['3']), (.name ['b', ','], none)], none⟩,
           ⟨[(.name ['a'], some ['4']), (.name ['b', ','], some [])], some [['6']]⟩] := by decide +kernel
example : nativeCsv { columnNames := .list hdrAB } (fileOf false ',' LF none rowsX)
    = .error (.py .ReferenceError) := by decide +kernel
example : nativeCsv { columnNames := .list hdrAB, raiseExc := false } (fileOf false ',' LF none rowsX)
    = .ok [] := by decide +kernel
example : nativeCsv { } ['a', '\n', '"', 'b', '\n'] = .error .csv := by decide +kernel
example : nativeCsv { columnNames := .list [['a'], ['a']] } [] = .error (.py .SyntaxError) := by decide
-- load_simple_csv: binary mode cannot work (str argument to bytes.rstrip)
example : loadSimple { binary := true } ['a', '\n'] = .error .TypeError := by decide
end NonVacuityReaders

end N0.C14
