import N0Verif.Proofs.FilesCodec
/-!
# C15 — text and bytes saved to a file load back unchanged under every EOL/mode

The statements, their closed witnesses (`_cex`, `_witness`) and non-vacuity `example`s.  The model (`Model/Files.lean`)
follows the code with the fixes `C15-close`, `C15-a`, `C15-c` and `C15-d` applied.

Vocabulary (defined in `Model/Files.lean`, `Proofs/Files.lean`; `Codec.Sync` in `Proofs/FilesCodec.lean`, `EolDisjoint` in
`Py/Lemmas.lean`):
* `SaveMode m` — `m` is one of `t`, `b`, `wt`, `wb`, `at`; `TextMode m` — `t`, `wt`, `at`;
* `isStdEol eol` — `eol` is `"\r\n"`, `"\n"` or `"\r"`; every other EOL (LFCR, custom) takes the manual path;
* `Codec.Good c` — the assumptions on the encoding: stateless character-wise encoder, ASCII-compatible,
  `dec (enc s) = s`.  `c.encode s = c.bom ++ enc s` is Python's `s.encode(encoding)`.  It is a theorem for
  the four codec models `utf8`, `utf8sig`, `latin1`, `cp1252` (`C15_codecs_good`);
* `c.enc s = some y` — the text `s` is encodable (no `UnicodeEncodeError`) and `y` are its bytes;
* `Fresh fs p m` — the previous content of the file plays no role: a truncating mode, or `at` on a missing file;
* `EolDisjoint eol text` — the EOL is not empty and its characters other than `'\n'` do not occur in the text;
* `unlines ls` — every line followed by `'\n'`; `unlinesB e ls` — every byte line followed by the EOL bytes `e`;
* `lineOk e l` — `(l + e).find(e) == len(l)`: the first occurrence of the EOL in line + EOL is the one at the end;
* `markFirst bom ls` — the lines with the codec's signature in front of the first one;
* `Codec.Sync c lead` — the codec is self-synchronising (a character = a lead byte + non-lead bytes, no code is a
  prefix of another one); a theorem for the four codec models (`C15_codecs_sync`).

The model writes through: "after `save_file` returns the data is completely on disk" is **not**
a theorem here (see the notes; the harness observes it on the real code).
-/
namespace N0.C15
open N0 N0.Py N0.Files

/-- **C15 (bytes on disk).**  For every text, each of the modes `t b wt wb` (and `at` on a missing
file), every EOL — standard, LFCR or custom — and every codec: `save_file` succeeds as soon as the
replaced text and the EOL are encodable, the file then holds exactly
`text.replace('\n', EOL).encode(encoding)`, and no other file changes. -/
theorem C15_disk_bytes (c : Codec) (fs : FS) (p text m eol tag : Str) (y e : Bytes)
    (hm : SaveMode m) (hf : Fresh fs p m)
    (henc : c.enc (replace lf eol text) = some y) (heol : c.enc eol = some e) :
    (saveFile c fs p (.str text) m eol tag).2 = .ok ()
    ∧ (saveFile c fs p (.str text) m eol tag).1 p = c.encode (replace lf eol text)
    ∧ ∀ q, q ≠ p → (saveFile c fs p (.str text) m eol tag).1 q = fs q := by
  rw [saveFile_str c fs p text m eol tag y e hm henc heol, startContent_fresh hf, mark_fresh c hf, Codec.encode, henc]
  exact ⟨rfl, FS.write_same _ _ _, fun q hq => FS.write_other _ _ hq⟩

/-- **C15 (dict payload).**  A dict is stored as the text `key=value` joined by `'\n'`. -/
theorem C15_disk_dict (c : Codec) (fs : FS) (p : Str) (kvs : List (Str × Str)) (m eol tag : Str) (y e : Bytes)
    (hm : SaveMode m) (hf : Fresh fs p m)
    (henc : c.enc (replace lf eol (join lf (kvs.map (fun kv => kv.1 ++ tag ++ kv.2)))) = some y)
    (heol : c.enc eol = some e) :
    (saveFile c fs p (.dict kvs) m eol tag).1 p
      = c.encode (replace lf eol (join lf (kvs.map (fun kv => kv.1 ++ tag ++ kv.2)))) := by
  rw [saveFile_dict]
  exact (C15_disk_bytes c fs p _ m eol tag y e hm hf henc heol).2.1

/-- **C15 (list-level core of the round trip).**  Replacing every `'\n'` by the EOL and then every
EOL by `'\n'` (Python's left-to-right `str.replace`) is the identity when EOL and text are disjoint. -/
theorem C15_replace_roundtrip (eol text : Str) (h : EolDisjoint eol text) :
    replace eol lf (replace lf eol text) = text :=
  replace_roundtrip eol text h

/-- **C15 (round trip).**  For a text whose only line separator is `'\n'` (no `'\r'`, and none of
the characters of a custom EOL), saved under any of the modes with an ASCII EOL — LF, CRLF, CR,
LFCR or custom — `load_file` with the same EOL and encoding returns the text. -/
theorem C15_roundtrip (c : Codec) (g : c.Good) (fs : FS) (p text m eol tag : Str) (y : Bytes)
    (hm : SaveMode m) (hf : Fresh fs p m) (ha : IsAscii eol) (hd : EolDisjoint eol text) (hcr : NoCR text)
    (henc : c.enc (replace lf eol text) = some y) :
    loadFile c (saveFile c fs p (.str text) m eol tag).1 p ['t'] eol = .ok (.str text) := by
  exact loadFile_encoded c g _ p text eol y ha hd hcr henc
    (saveFile_str_fresh c fs p text m eol tag y eol hm hf henc (g.enc_ascii eol ha))

/-- **C15 (round trip, standard EOL)** — the special case with no condition on the EOL. -/
theorem C15_roundtrip_std (c : Codec) (g : c.Good) (fs : FS) (p text m eol tag : Str) (y : Bytes)
    (hm : SaveMode m) (hf : Fresh fs p m) (hstd : isStdEol eol = true) (hcr : NoCR text)
    (henc : c.enc (replace lf eol text) = some y) :
    loadFile c (saveFile c fs p (.str text) m eol tag).1 p ['t'] eol = .ok (.str text) :=
  C15_roundtrip c g fs p text m eol tag y hm hf (std_ascii eol hstd) (eolDisjoint_std eol text hstd hcr) hcr henc

/-- **C15 (bytes are stored verbatim)** under every mode, every codec and every EOL the codec can encode (the EOL is
never written, but `save_file` encodes it first: with an unencodable one it raises, also for a bytes payload);
`at` appends. -/
theorem C15_bytes_verbatim (c : Codec) (fs : FS) (p : Str) (b : Bytes) (m eol tag : Str) (e : Bytes)
    (hm : SaveMode m) (heol : c.enc eol = some e) :
    (saveFile c fs p (.bytes b) m eol tag).2 = .ok ()
    ∧ (saveFile c fs p (.bytes b) m eol tag).1 p = some (startContent fs p m ++ b)
    ∧ ∀ q, q ≠ p → (saveFile c fs p (.bytes b) m eol tag).1 q = fs q := by
  rw [saveFile_bytes c fs p b m eol tag e hm heol]
  exact ⟨rfl, FS.write_same _ _ _, fun q hq => FS.write_other _ _ hq⟩

/-- **C15 (bytes, truncating modes):** the file is exactly the payload -/
theorem C15_bytes_fresh (c : Codec) (fs : FS) (p : Str) (b : Bytes) (m eol tag : Str) (e : Bytes)
    (hm : SaveMode m) (hf : Fresh fs p m) (heol : c.enc eol = some e) :
    (saveFile c fs p (.bytes b) m eol tag).1 p = some b := by
  rw [(C15_bytes_verbatim c fs p b m eol tag e hm heol).2.1, startContent_fresh hf]; rfl

/-- **C15 (bytes, append):** the payload is added to the existing content -/
theorem C15_bytes_append (c : Codec) (fs : FS) (p : Str) (old b : Bytes) (eol tag : Str) (e : Bytes)
    (hold : fs p = some old) (heol : c.enc eol = some e) :
    (saveFile c fs p (.bytes b) ['a', 't'] eol tag).1 p = some (old ++ b) := by
  rw [(C15_bytes_verbatim c fs p b ['a', 't'] eol tag e (Or.inr (Or.inr (Or.inr (Or.inr rfl)))) heol).2.1,
    startContent, if_pos rfl, hold]
  rfl

/-- **C15 (bytes load verbatim):** `load_file(read_mode='b')` returns the file content, whatever
the EOL and the encoding -/
theorem C15_bytes_load (c : Codec) (fs : FS) (p eol : Str) (data : Bytes) (h : fs p = some data) :
    loadFile c fs p ['b'] eol = .ok (.bytes data) :=
  loadFile_b c fs p eol data h

/-- **C15 (lines).**  A list of lines (no line break inside a line) saved through a text mode with a
standard EOL is stored one line per EOL — the file is the encoding of the lines each followed by
the EOL, as one stream — and `load_lines` returns exactly those lines. -/
theorem C15_lines (c : Codec) (g : c.Good) (fs : FS) (p : Str) (ls : List Str) (m eol tag : Str) (y : Bytes)
    (hm : TextMode m) (hf : Fresh fs p m) (hstd : isStdEol eol = true)
    (hl : ∀ l ∈ ls, NoCR l ∧ NoLF l)
    (henc : c.enc (replace lf eol (unlines ls)) = some y) :
    (saveFile c fs p (.lines (ls.map Line.str)) m eol tag).2 = .ok ()
    ∧ (saveFile c fs p (.lines (ls.map Line.str)) m eol tag).1 p = some ((if ls.isEmpty then [] else c.bom) ++ y)
    ∧ loadLines c (saveFile c fs p (.lines (ls.map Line.str)) m eol tag).1 p ['t'] eol
        = .ok (ls.map Loaded.str) := by
  rw [saveFile_lines_str c g fs p ls m eol tag y eol hm.saveMode (fun l h => (hl l h).2)
    (g.enc_ascii eol (std_ascii eol hstd)) henc, startContent_fresh hf, mark_fresh c hf]
  have hdisk : (fs.write p ([] ++ (if ls.isEmpty then [] else c.bom) ++ y)) p
      = some ((if ls.isEmpty then [] else c.bom) ++ y) := FS.write_same _ _ _
  exact ⟨rfl, hdisk, loadLines_encoded c g _ p ['t'] ls eol y (by decide) hstd hl henc hdisk⟩

/-- **C15 (lines on disk).**  Under *every* mode and EOL — text layer or manual path — the file
holds the lines, each followed by the EOL, encoded as one stream: one start-of-stream mark at
most, at offset 0 (none for an empty list).  Full statement; it was refuted on the code before
fix `C15-a` (every line and every EOL carried its own mark). -/
theorem C15_lines_disk (c : Codec) (g : c.Good) (fs : FS) (p : Str) (ls : List Str) (m eol tag : Str)
    (y e : Bytes) (hm : SaveMode m) (hf : Fresh fs p m) (hl : ∀ l ∈ ls, NoLF l) (heol : c.enc eol = some e)
    (henc : c.enc (replace lf eol (unlines ls)) = some y) :
    (saveFile c fs p (.lines (ls.map Line.str)) m eol tag).2 = .ok ()
    ∧ (saveFile c fs p (.lines (ls.map Line.str)) m eol tag).1 p = some ((if ls.isEmpty then [] else c.bom) ++ y) := by
  rw [saveFile_lines_str c g fs p ls m eol tag y e hm hl heol henc, startContent_fresh hf, mark_fresh c hf]
  exact ⟨rfl, FS.write_same _ _ _⟩

/-- the witness of finding C15-b on the concrete `utf-8-sig` model, with the fix applied:
`save_file(p, ['a'], 'wb', encoding='utf-8-sig', EOL='\n')` writes `BOM a \n` (without the fix: `BOM a BOM \n`) -/
theorem C15_lines_bom_witness_fixed :
    (saveFile utf8sig (fun _ => none) ['f'] (.lines [.str ['a']]) ['w', 'b'] ['\n'] ['=']).1 ['f']
      = some (bomUtf8 ++ ['a', '\n']) := by decide +kernel

/-- **C15 (append).**  `at` on a file with content adds the encoded text to it — one stream, no
second start-of-stream mark — under every EOL and every codec.  Full statement; it was refuted on
the code before fix `C15-a` (custom EOL + a mark-emitting codec wrote the mark in the middle). -/
theorem C15_append (c : Codec) (fs : FS) (p : Str) (old : Bytes) (text eol tag : Str) (y e : Bytes)
    (hold : fs p = some old) (hne : old ≠ []) (heol : c.enc eol = some e)
    (henc : c.enc (replace lf eol text) = some y) :
    (saveFile c fs p (.str text) ['a', 't'] eol tag).2 = .ok ()
    ∧ (saveFile c fs p (.str text) ['a', 't'] eol tag).1 p = some (old ++ y)
    ∧ ∀ q, q ≠ p → (saveFile c fs p (.str text) ['a', 't'] eol tag).1 q = fs q := by
  rw [saveFile_str c fs p text ['a', 't'] eol tag y e (Or.inr (Or.inr (Or.inr (Or.inr rfl)))) henc heol,
    (startContent_at hold hne c).1, (startContent_at hold hne c).2, List.append_nil]
  exact ⟨rfl, FS.write_same _ _ _, fun q hq => FS.write_other _ _ hq⟩

/-- **C15 (append, lines).**  The same for a list of lines appended to a file with content. -/
theorem C15_append_lines (c : Codec) (g : c.Good) (fs : FS) (p : Str) (old : Bytes) (ls : List Str) (eol tag : Str)
    (y e : Bytes) (hold : fs p = some old) (hne : old ≠ []) (hl : ∀ l ∈ ls, NoLF l) (heol : c.enc eol = some e)
    (henc : c.enc (replace lf eol (unlines ls)) = some y) :
    (saveFile c fs p (.lines (ls.map Line.str)) ['a', 't'] eol tag).1 p = some (old ++ y) := by
  rw [saveFile_lines_str c g fs p ls ['a', 't'] eol tag y e (Or.inr (Or.inr (Or.inr (Or.inr rfl)))) hl heol henc,
    (startContent_at hold hne c).1, (startContent_at hold hne c).2, ite_self, List.append_nil]
  exact FS.write_same _ _ _

/-- the witness of finding C15-a on the concrete `utf-8-sig` model, with the fix applied:
`save_file(p,'1\n','wt',EOL='|',…); save_file(p,'2\n','at',EOL='|',encoding='utf-8-sig')` → `BOM 1|2|`
(without the fix: `BOM 1| BOM 2|`) -/
theorem C15_append_bom_witness_fixed :
    (saveFile utf8sig
      (saveFile utf8sig (fun _ => none) ['f'] (.str ['1', '\n']) ['w', 't'] ['|'] ['=']).1
      ['f'] (.str ['2', '\n']) ['a', 't'] ['|'] ['=']).1 ['f']
      = some (bomUtf8 ++ ['1', '|', '2', '|']) := by decide +kernel

/-- **C15 (append round trip).**  A text saved, a second text appended with `at`, same ASCII EOL
(standard, LFCR or custom): the file is the encoding of the concatenation as one stream and loads
back as the concatenation. -/
theorem C15_append_roundtrip (c : Codec) (g : c.Good) (fs : FS) (p s1 s2 m eol tag : Str) (y1 y2 : Bytes)
    (hm : SaveMode m) (hf : Fresh fs p m) (ha : IsAscii eol) (hd : EolDisjoint eol (s1 ++ s2))
    (h1 : NoCR s1) (h2 : NoCR s2)
    (e1 : c.enc (replace lf eol s1) = some y1) (e2 : c.enc (replace lf eol s2) = some y2) :
    (saveFile c (saveFile c fs p (.str s1) m eol tag).1 p (.str s2) ['a', 't'] eol tag).1 p
        = c.encode (replace lf eol (s1 ++ s2))
    ∧ loadFile c (saveFile c (saveFile c fs p (.str s1) m eol tag).1 p (.str s2) ['a', 't'] eol tag).1 p ['t'] eol
        = .ok (.str (s1 ++ s2)) := by
  obtain ⟨e12, hdisk⟩ := saveFile_str_append c g fs p s1 s2 m eol tag y1 y2 eol hm hf (g.enc_ascii eol ha) e1 e2
  constructor
  · rw [hdisk, Codec.encode, e12]
    rfl
  · exact loadFile_encoded c g _ p (s1 ++ s2) eol (y1 ++ y2) ha hd (noCR_append h1 h2) e12 hdisk

/-! ### The concrete codecs: the assumptions discharged

`Codec.Good` is a theorem for each of the four codec models (`Proofs/FilesCodec.lean`): utf-8 and
utf-8-sig (1–4 byte forms, strict decoder), latin-1, and cp1252 — a table codec whose table is
generated from the interpreter (`Gen/Cp1252.lean`).  The statements below are the instances of
`C15_disk_bytes`, `C15_roundtrip` and `C15_lines` without the abstract hypothesis; for utf-8 and
utf-8-sig every text is encodable, so no encodability hypothesis is left either. -/

/-- **the four codecs satisfy the assumptions** -/
theorem C15_codecs_good : utf8.Good ∧ utf8sig.Good ∧ latin1.Good ∧ cp1252.Good :=
  ⟨utf8_good, utf8sig_good, latin1_good, cp1252_good⟩

/-- **C15 (bytes on disk, utf-8)**: every text, every EOL: the file is the utf-8 form of `text.replace('\n', EOL)` -/
theorem C15_disk_bytes_utf8 (fs : FS) (p text m eol tag : Str) (hm : SaveMode m) (hf : Fresh fs p m) :
    (saveFile utf8 fs p (.str text) m eol tag).2 = .ok ()
    ∧ (saveFile utf8 fs p (.str text) m eol tag).1 p = some (utf8Enc (replace lf eol text))
    ∧ ∀ q, q ≠ p → (saveFile utf8 fs p (.str text) m eol tag).1 q = fs q := by
  have h := C15_disk_bytes utf8 fs p text m eol tag (utf8Enc (replace lf eol text)) (utf8Enc eol) hm hf rfl rfl
  exact ⟨h.1, by rw [h.2.1]; rfl, h.2.2⟩

/-- **C15 (bytes on disk, utf-8-sig)**: the signature once, at offset 0, then the utf-8 form -/
theorem C15_disk_bytes_utf8sig (fs : FS) (p text m eol tag : Str) (hm : SaveMode m) (hf : Fresh fs p m) :
    (saveFile utf8sig fs p (.str text) m eol tag).2 = .ok ()
    ∧ (saveFile utf8sig fs p (.str text) m eol tag).1 p = some (bomUtf8 ++ utf8Enc (replace lf eol text))
    ∧ ∀ q, q ≠ p → (saveFile utf8sig fs p (.str text) m eol tag).1 q = fs q := by
  have h := C15_disk_bytes utf8sig fs p text m eol tag (utf8Enc (replace lf eol text)) (utf8Enc eol) hm hf rfl rfl
  exact ⟨h.1, by rw [h.2.1]; rfl, h.2.2⟩

/-- **C15 (bytes on disk, cp1252)**: an encodable text and an ASCII EOL -/
theorem C15_disk_bytes_cp1252 (fs : FS) (p text m eol tag : Str) (y : Bytes) (hm : SaveMode m) (hf : Fresh fs p m)
    (ha : IsAscii eol) (henc : cp1252.enc (replace lf eol text) = some y) :
    (saveFile cp1252 fs p (.str text) m eol tag).2 = .ok ()
    ∧ (saveFile cp1252 fs p (.str text) m eol tag).1 p = some y
    ∧ ∀ q, q ≠ p → (saveFile cp1252 fs p (.str text) m eol tag).1 q = fs q := by
  have h := C15_disk_bytes cp1252 fs p text m eol tag y eol hm hf henc (cp1252_good.enc_ascii eol ha)
  refine ⟨h.1, ?_, h.2.2⟩
  rw [h.2.1, Codec.encode, henc]; rfl

/-- **C15 (round trip, utf-8)**: no hypothesis on the codec, none on encodability -/
theorem C15_roundtrip_utf8 (fs : FS) (p text m eol tag : Str)
    (hm : SaveMode m) (hf : Fresh fs p m) (ha : IsAscii eol) (hd : EolDisjoint eol text) (hcr : NoCR text) :
    loadFile utf8 (saveFile utf8 fs p (.str text) m eol tag).1 p ['t'] eol = .ok (.str text) :=
  C15_roundtrip utf8 utf8_good fs p text m eol tag _ hm hf ha hd hcr rfl

/-- **C15 (round trip, utf-8-sig)** -/
theorem C15_roundtrip_utf8sig (fs : FS) (p text m eol tag : Str)
    (hm : SaveMode m) (hf : Fresh fs p m) (ha : IsAscii eol) (hd : EolDisjoint eol text) (hcr : NoCR text) :
    loadFile utf8sig (saveFile utf8sig fs p (.str text) m eol tag).1 p ['t'] eol = .ok (.str text) :=
  C15_roundtrip utf8sig utf8sig_good fs p text m eol tag _ hm hf ha hd hcr rfl

/-- **C15 (round trip, cp1252)**: every text the generated table can encode -/
theorem C15_roundtrip_cp1252 (fs : FS) (p text m eol tag : Str) (y : Bytes)
    (hm : SaveMode m) (hf : Fresh fs p m) (ha : IsAscii eol) (hd : EolDisjoint eol text) (hcr : NoCR text)
    (henc : cp1252.enc (replace lf eol text) = some y) :
    loadFile cp1252 (saveFile cp1252 fs p (.str text) m eol tag).1 p ['t'] eol = .ok (.str text) :=
  C15_roundtrip cp1252 cp1252_good fs p text m eol tag y hm hf ha hd hcr henc

/-- **C15 (round trip, latin-1)** -/
theorem C15_roundtrip_latin1 (fs : FS) (p text m eol tag : Str) (y : Bytes)
    (hm : SaveMode m) (hf : Fresh fs p m) (ha : IsAscii eol) (hd : EolDisjoint eol text) (hcr : NoCR text)
    (henc : latin1.enc (replace lf eol text) = some y) :
    loadFile latin1 (saveFile latin1 fs p (.str text) m eol tag).1 p ['t'] eol = .ok (.str text) :=
  C15_roundtrip latin1 latin1_good fs p text m eol tag y hm hf ha hd hcr henc

/-- **C15 (lines, utf-8)** -/
theorem C15_lines_utf8 (fs : FS) (p : Str) (ls : List Str) (m eol tag : Str)
    (hm : TextMode m) (hf : Fresh fs p m) (hstd : isStdEol eol = true) (hl : ∀ l ∈ ls, NoCR l ∧ NoLF l) :
    (saveFile utf8 fs p (.lines (ls.map Line.str)) m eol tag).2 = .ok ()
    ∧ (saveFile utf8 fs p (.lines (ls.map Line.str)) m eol tag).1 p = some (utf8Enc (replace lf eol (unlines ls)))
    ∧ loadLines utf8 (saveFile utf8 fs p (.lines (ls.map Line.str)) m eol tag).1 p ['t'] eol
        = .ok (ls.map Loaded.str) := by
  have h := C15_lines utf8 utf8_good fs p ls m eol tag _ hm hf hstd hl rfl
  refine ⟨h.1, ?_, h.2.2⟩
  rw [h.2.1]; cases ls <;> rfl

/-- **C15 (lines, utf-8-sig)**: one signature at offset 0 (none for an empty list) -/
theorem C15_lines_utf8sig (fs : FS) (p : Str) (ls : List Str) (m eol tag : Str)
    (hm : TextMode m) (hf : Fresh fs p m) (hstd : isStdEol eol = true) (hl : ∀ l ∈ ls, NoCR l ∧ NoLF l) :
    (saveFile utf8sig fs p (.lines (ls.map Line.str)) m eol tag).2 = .ok ()
    ∧ (saveFile utf8sig fs p (.lines (ls.map Line.str)) m eol tag).1 p
        = some ((if ls.isEmpty then [] else bomUtf8) ++ utf8Enc (replace lf eol (unlines ls)))
    ∧ loadLines utf8sig (saveFile utf8sig fs p (.lines (ls.map Line.str)) m eol tag).1 p ['t'] eol
        = .ok (ls.map Loaded.str) :=
  C15_lines utf8sig utf8sig_good fs p ls m eol tag _ hm hf hstd hl rfl

/-- **C15 (lines, cp1252)** -/
theorem C15_lines_cp1252 (fs : FS) (p : Str) (ls : List Str) (m eol tag : Str) (y : Bytes)
    (hm : TextMode m) (hf : Fresh fs p m) (hstd : isStdEol eol = true) (hl : ∀ l ∈ ls, NoCR l ∧ NoLF l)
    (henc : cp1252.enc (replace lf eol (unlines ls)) = some y) :
    (saveFile cp1252 fs p (.lines (ls.map Line.str)) m eol tag).2 = .ok ()
    ∧ (saveFile cp1252 fs p (.lines (ls.map Line.str)) m eol tag).1 p = some y
    ∧ loadLines cp1252 (saveFile cp1252 fs p (.lines (ls.map Line.str)) m eol tag).1 p ['t'] eol
        = .ok (ls.map Loaded.str) := by
  have h := C15_lines cp1252 cp1252_good fs p ls m eol tag y hm hf hstd hl henc
  refine ⟨h.1, ?_, h.2.2⟩
  rw [h.2.1]; cases ls <;> rfl

/-- **C15 (utf-8 decoder is strict)**: the decoder of the model accepts exactly the encoder's
output — `decode ∘ encode = id`, and nothing else decodes (overlong forms, encoded surrogates,
values above U+10FFFF, truncated sequences are `UnicodeDecodeError`). -/
theorem C15_utf8_strict (b : Bytes) (s : Str) : utf8.dec b = some s ↔ utf8.enc s = some b := by
  show utf8Dec b = some s ↔ some (utf8Enc s) = some b
  rw [utf8Dec_eq_some_iff]; simp

/-- **C15 (utf-8-sig signature)**: a fresh encoder writes it once at position 0; the reader skips
it once (a second one is the character U+FEFF); a text-mode read of a file that is a strict prefix
of the signature yields the empty text while `bytes.decode` raises. -/
theorem C15_utf8sig_bom (s : Str) :
    utf8sig.encode s = some (bomUtf8 ++ utf8Enc s)
    ∧ utf8sig.decode (bomUtf8 ++ utf8Enc s) = some s
    ∧ utf8sig.decode (bomUtf8 ++ (bomUtf8 ++ utf8Enc s)) = some (Char.ofNat 0xFEFF :: s)
    ∧ utf8sig.decodeStream [Char.ofNat 0xEF] = some [] ∧ utf8sig.decodeStream [Char.ofNat 0xEF, Char.ofNat 0xBB] = some []
    ∧ utf8sig.decode [Char.ofNat 0xEF] = none ∧ utf8sig.decode [Char.ofNat 0xEF, Char.ofNat 0xBB] = none :=
  ⟨rfl, utf8sig_decode_bom s, utf8sig_decode_bom_twice s, utf8sig_decodeStream_prefix⟩

/-! ## `load_lines` in binary mode

`load_lines(p, read_mode, encoding, EOL)` with `'b' in read_mode` — or with a non-standard EOL — returns
`data.split(EOL.encode(encoding)[len(signature):])` without the empty piece that follows the last EOL
(fixes `C15-c`, `C15-d`). -/

/-- **C15 (lines, binary round trip), any kind of line.**  A list of lines (`bytes`, `str` or other
objects; `ys` their byte forms) saved on the manual path — `b`/`wb`, or any mode with a non-standard
EOL — is stored one line per EOL (signature once, in front), and `load_lines` in binary mode (or
with the same non-standard EOL) returns exactly the byte lines — the first one behind the
signature of a BOM codec — provided every stored line satisfies `lineOk`: the first occurrence of
the EOL bytes in line + EOL is the one at the end. -/
theorem C15_lines_roundtrip_binary_gen (c : Codec) (fs : FS) (p : Str) (xs : List Line) (ys : List Bytes)
    (m eol tag rm : Str) (e : Bytes) (hm : SaveMode m) (hpath : textLayer m eol = false) (hf : Fresh fs p m)
    (hc : LinesConv c xs ys) (heol : c.enc eol = some e) (hne : e ≠ [])
    (hok : ∀ l ∈ markFirst c.bom ys, lineOk e l = true)
    (hrm : (rm.contains 'b' || !isStdEol eol) = true) :
    (saveFile c fs p (.lines xs) m eol tag).2 = .ok ()
    ∧ (saveFile c fs p (.lines xs) m eol tag).1 p = some ((if ys.isEmpty then [] else c.bom) ++ unlinesB e ys)
    ∧ loadLines c (saveFile c fs p (.lines xs) m eol tag).1 p rm eol = .ok ((markFirst c.bom ys).map Loaded.bytes) := by
  rw [saveFile_lines_manual c fs p xs ys m eol tag e hm hpath hc heol, startContent_fresh hf, mark_fresh c hf]
  have hdisk : (fs.write p ([] ++ (if ys.isEmpty then [] else c.bom) ++ unlinesB e ys)) p
      = some (unlinesB e (markFirst c.bom ys)) := by
    rw [unlinesB_markFirst]
    exact FS.write_same _ _ _
  exact ⟨rfl, FS.write_same _ _ _, (loadLines_unlinesB_iff c _ p rm eol e _ hrm heol hne hdisk).mpr hok⟩

/-- **C15 (lines, binary round trip).**  A list of `bytes` lines saved with `wb` (any of the modes on
the manual path) and a standard or custom EOL, loaded with `load_lines(…, 'b', encoding, EOL)`:
exactly the lines come back, for every codec without signature (utf-8, latin-1, cp1252). -/
theorem C15_lines_roundtrip_binary (c : Codec) (fs : FS) (p : Str) (ls : List Bytes) (m eol tag rm : Str) (e : Bytes)
    (hm : SaveMode m) (hpath : textLayer m eol = false) (hf : Fresh fs p m) (hbom : c.bom = [])
    (heol : c.enc eol = some e) (hne : e ≠ []) (hok : ∀ l ∈ ls, lineOk e l = true)
    (hrm : (rm.contains 'b' || !isStdEol eol) = true) :
    (saveFile c fs p (.lines (ls.map Line.bytes)) m eol tag).2 = .ok ()
    ∧ (saveFile c fs p (.lines (ls.map Line.bytes)) m eol tag).1 p = some (unlinesB e ls)
    ∧ loadLines c (saveFile c fs p (.lines (ls.map Line.bytes)) m eol tag).1 p rm eol = .ok (ls.map Loaded.bytes) := by
  have hmf : markFirst c.bom ls = ls := by rw [hbom]; cases ls <;> rfl
  have h := C15_lines_roundtrip_binary_gen c fs p _ ls m eol tag rm e hm hpath hf (linesConv_bytes c ls) heol hne
    (by rw [hmf]; exact hok) hrm
  rw [hmf, hbom] at h
  refine ⟨h.1, ?_, h.2.2⟩
  rw [h.2.1]; cases ls <;> rfl

/-- **C15 (lines, binary round trip: the condition is exact).**  Under the hypotheses of
`C15_lines_roundtrip_binary`, `load_lines` returns the lines **iff** every line satisfies `lineOk`. -/
theorem C15_lines_roundtrip_binary_iff (c : Codec) (fs : FS) (p : Str) (ls : List Bytes) (m eol tag rm : Str) (e : Bytes)
    (hm : SaveMode m) (hpath : textLayer m eol = false) (hf : Fresh fs p m) (hbom : c.bom = [])
    (heol : c.enc eol = some e) (hne : e ≠ []) (hrm : (rm.contains 'b' || !isStdEol eol) = true) :
    loadLines c (saveFile c fs p (.lines (ls.map Line.bytes)) m eol tag).1 p rm eol = .ok (ls.map Loaded.bytes)
      ↔ ∀ l ∈ ls, lineOk e l = true := by
  have hdisk : (saveFile c fs p (.lines (ls.map Line.bytes)) m eol tag).1 p = some (unlinesB e ls) := by
    rw [saveFile_lines_manual c fs p _ ls m eol tag e hm hpath (linesConv_bytes c ls) heol,
      startContent_fresh hf, mark_fresh c hf, hbom, ite_self]
    exact FS.write_same _ _ _
  exact loadLines_unlinesB_iff c _ p rm eol e ls hrm heol hne hdisk

/-- **C15 (lines, binary round trip, standard EOL).**  LF, CRLF, CR under an ASCII-compatible codec
without signature: it is enough that no line contains the first byte of the EOL (`'\n'` for LF,
`'\r'` for CR and CRLF). -/
theorem C15_lines_roundtrip_binary_std (c : Codec) (g : c.Good) (fs : FS) (p : Str) (ls : List Bytes) (m eol tag rm : Str)
    (hm : m = ['b'] ∨ m = ['w', 'b']) (hf : Fresh fs p m) (hbom : c.bom = []) (hstd : isStdEol eol = true)
    (hok : ∀ l ∈ ls, ∀ x ∈ eol.head?, x ∉ l) (hrm : rm.contains 'b' = true) :
    loadLines c (saveFile c fs p (.lines (ls.map Line.bytes)) m eol tag).1 p rm eol = .ok (ls.map Loaded.bytes) := by
  have heol := g.enc_ascii eol (std_ascii eol hstd)
  have hm' : SaveMode m := hm.elim (fun h => Or.inr (Or.inl h)) (fun h => Or.inr (Or.inr (Or.inr (Or.inl h))))
  have hpath : textLayer m eol = false := by rcases hm with rfl | rfl <;> rfl
  have hne : eol ≠ [] := (eolDisjoint_std eol [] hstd List.not_mem_nil).1
  refine (C15_lines_roundtrip_binary c fs p ls m eol tag rm eol hm' hpath hf hbom heol hne ?_ (by rw [hrm]; rfl)).2.2
  intro l hl
  cases eol with
  | nil => exact absurd rfl hne
  | cons e0 es => exact lineOk_of_head e0 es l (hok l hl e0 (by simp))

/-- **C15 (lines of `str`, binary round trip).**  A list of `str` saved in binary mode comes back as the
encoded lines. -/
theorem C15_lines_roundtrip_binary_str (c : Codec) (fs : FS) (p : Str) (ls : List Str) (f : Str → Bytes)
    (m eol tag rm : Str) (e : Bytes) (hm : SaveMode m) (hpath : textLayer m eol = false) (hf : Fresh fs p m)
    (henc : ∀ l ∈ ls, c.enc l = some (f l)) (heol : c.enc eol = some e) (hne : e ≠ [])
    (hok : ∀ l ∈ markFirst c.bom (ls.map f), lineOk e l = true)
    (hrm : (rm.contains 'b' || !isStdEol eol) = true) :
    loadLines c (saveFile c fs p (.lines (ls.map Line.str)) m eol tag).1 p rm eol
      = .ok ((markFirst c.bom (ls.map f)).map Loaded.bytes) :=
  (C15_lines_roundtrip_binary_gen c fs p _ _ m eol tag rm e hm hpath hf (linesConv_str c ls f henc) heol hne hok hrm).2.2

/-- the condition on a line, as a statement about positions: no occurrence of the EOL in
line + EOL starts inside the line -/
theorem C15_lineOk_iff (e l : Bytes) :
    lineOk e l = true ↔ ∀ k, k < l.length → ¬ e <+: (l ++ e).drop k := lineOk_iff e l

/-- for a self-synchronising codec the condition on the encoded line follows from the same
condition on the characters: an encoded EOL never starts in the middle of a character -/
theorem C15_lineOk_encoded (c : Codec) (g : c.Good) (lead : Char → Bool) (sy : c.Sync lead) (eol l : Str) (ye yl : Bytes)
    (he : c.enc eol = some ye) (hl : c.enc l = some yl) (h : lineOk eol l = true) : lineOk ye yl = true :=
  lineOk_enc g sy.syncOn eol (fun _ _ => trivial) ye he l yl hl h

/-- **the condition is needed (1)**: a line that contains the EOL is cut there -/
theorem C15_lines_binary_contains_cex :
    loadLines utf8 (saveFile utf8 (fun _ => none) ['f'] (.lines [.bytes ['a', '|', 'b']]) ['w', 'b'] ['|'] ['=']).1
      ['f'] ['b'] ['|'] = .ok [.bytes ['a'], .bytes ['b']] := by decide +kernel

/-- **the condition is needed (2)**: `'a|'` does not contain the EOL `'||'`, but its end and the
beginning of the EOL spell it: `a|||` is split as `a`, `|` -/
theorem C15_lines_binary_overlap_cex :
    lineOk ['|', '|'] ['a', '|'] = false
    ∧ loadLines utf8 (saveFile utf8 (fun _ => none) ['f'] (.lines [.bytes ['a', '|']]) ['w', 'b'] ['|', '|'] ['=']).1
      ['f'] ['b'] ['|', '|'] = .ok [.bytes ['a'], .bytes ['|']] := by decide +kernel

/-- … whereas a line ending with `'\r'` is fine under CRLF (`a\r\r\n` → `a\r`) -/
theorem C15_lines_binary_cr_crlf :
    lineOk ['\r', '\n'] ['a', '\r'] = true
    ∧ loadLines utf8 (saveFile utf8 (fun _ => none) ['f'] (.lines [.bytes ['a', '\r']]) ['w', 'b'] ['\r', '\n'] ['=']).1
      ['f'] ['b'] ['\r', '\n'] = .ok [.bytes ['a', '\r']] := by decide +kernel

/-- **a signature codec**: the file starts with the signature, binary `load_lines` returns raw bytes,
so the first line comes back behind it (`c.bom = []` is needed for "exactly the lines") -/
theorem C15_lines_binary_bom_cex :
    loadLines utf8sig (saveFile utf8sig (fun _ => none) ['f'] (.lines [.bytes ['a'], .bytes ['b']]) ['w', 'b'] ['\n'] ['=']).1
      ['f'] ['b'] ['\n'] = .ok [.bytes (bomUtf8 ++ ['a']), .bytes ['b']] := by decide +kernel

/-- an empty EOL: `save_file` writes the lines back to back, `split(b'')` raises `ValueError` -/
theorem C15_lines_binary_empty_eol :
    loadLines utf8 (saveFile utf8 (fun _ => none) ['f'] (.lines [.bytes ['a']]) ['w', 'b'] [] ['=']).1
      ['f'] ['b'] [] = .error .ValueError := by decide +kernel

/-- finding C15-d (without the fix: `[a, b, b'']` and `[b'']`) on the model of the repaired code: the
terminator of the last line starts no further line, an empty file has no line, a last line without
terminator and empty lines inside are kept -/
theorem C15_lines_binary_trailing_fixed :
    loadLines utf8 (FS.write (fun _ => none) ['f'] ['a', '\n', 'b', '\n']) ['f'] ['b'] ['\n'] = .ok [.bytes ['a'], .bytes ['b']]
    ∧ loadLines utf8 (FS.write (fun _ => none) ['f'] []) ['f'] ['b'] ['\n'] = .ok []
    ∧ loadLines utf8 (FS.write (fun _ => none) ['f'] ['a', '\n', 'b']) ['f'] ['b'] ['\n'] = .ok [.bytes ['a'], .bytes ['b']]
    ∧ loadLines utf8 (FS.write (fun _ => none) ['f'] ['a', '\n', '\n']) ['f'] ['b'] ['\n'] = .ok [.bytes ['a'], .bytes []] := by
  decide +kernel

/-! ## custom EOLs with non-ASCII characters

`save_file` writes the EOL in the file's encoding; since fix `C15-c` `load_file` / `load_lines` look for
exactly those bytes.  The replacement is done on *bytes*; for a self-synchronising codec it coincides
with the replacement on characters — an encoded EOL occurs in encoded text only as the encoding of an
occurrence of the EOL. -/

/-- **the four codecs are self-synchronising** -/
theorem C15_codecs_sync : utf8.Sync utf8Lead ∧ utf8sig.Sync utf8Lead ∧ latin1.Sync (fun _ => true) ∧ cp1252.Sync (fun _ => true) :=
  ⟨utf8_sync, utf8sig_sync, latin1_sync, cp1252_sync⟩

/-- **C15 (byte-level replace = character-level replace).**  `enc(s).replace(enc(old), enc(new))`
is `enc(s.replace(old, new))` for a `Good`, self-synchronising codec: an occurrence of the encoded
`old` never straddles a character boundary. -/
theorem C15_replace_encoded (c : Codec) (g : c.Good) (lead : Char → Bool) (sy : c.Sync lead) (old new s : Str) (yo yn ys : Bytes)
    (hne : old ≠ []) (ho : c.enc old = some yo) (hn : c.enc new = some yn) (hs : c.enc s = some ys) :
    c.enc (replace old new s) = some (replace yo yn ys) :=
  replace_enc g sy.syncOn old new yo yn hne (fun _ _ => trivial) ho hn s ys hs

/-- **C15 (bytes on disk, any EOL).**  The file is the encoded text in which every `'\n'` byte is
replaced by the encoded EOL (ASCII or not), behind the codec's signature. -/
theorem C15_disk_bytes_eol (c : Codec) (g : c.Good) (lead : Char → Bool) (sy : c.Sync lead) (fs : FS)
    (p text m eol tag : Str) (y0 e : Bytes) (hm : SaveMode m) (hf : Fresh fs p m)
    (henc : c.enc text = some y0) (heol : c.enc eol = some e) :
    (saveFile c fs p (.str text) m eol tag).2 = .ok ()
    ∧ (saveFile c fs p (.str text) m eol tag).1 p = some (c.bom ++ replace lf e y0) := by
  have hlf : c.enc lf = some lf := g.ascii '\n' (by decide)
  have hr := C15_replace_encoded c g lead sy lf eol text lf e y0 (by simp [lf]) hlf heol henc
  have h := C15_disk_bytes c fs p text m eol tag _ e hm hf hr heol
  refine ⟨h.1, ?_⟩
  rw [h.2.1, Codec.encode, hr]; rfl

/-- **C15 (what `load_file` returns, custom EOL, ASCII or not).**  For a `Good`, self-synchronising
codec, an encodable non-standard EOL whose first byte is not a byte of the codec's signature:
`load_file` of the saved file returns `text.replace('\n', EOL).replace(EOL, '\n')` — the byte-level
search finds exactly the character-level occurrences of the EOL. -/
theorem C15_load_eol (c : Codec) (g : c.Good) (lead : Char → Bool) (sy : c.Sync lead) (fs : FS)
    (p text m eol tag : Str) (y e : Bytes) (hm : SaveMode m) (hf : Fresh fs p m)
    (hstd : isStdEol eol = false) (hne : eol ≠ []) (heol : c.enc eol = some e)
    (hb : ∀ x ∈ c.bom, e.head? ≠ some x) (henc : c.enc (replace lf eol text) = some y) :
    loadFile c (saveFile c fs p (.str text) m eol tag).1 p ['t'] eol
      = .ok (.str (replace eol lf (replace lf eol text))) := by
  exact loadFile_custom_encoded g sy.syncOn _ p _ eol y e hstd hne (fun _ _ => trivial) heol hb henc
    (saveFile_str_fresh c fs p text m eol tag y e hm hf henc heol)

/-- **C15 (round trip ⇔ character-level condition)**: under the hypotheses of `C15_load_eol` the
text loads back iff putting the EOL in and taking it out again, on *characters*, is the identity. -/
theorem C15_roundtrip_eol_iff (c : Codec) (g : c.Good) (lead : Char → Bool) (sy : c.Sync lead) (fs : FS)
    (p text m eol tag : Str) (y e : Bytes) (hm : SaveMode m) (hf : Fresh fs p m)
    (hstd : isStdEol eol = false) (hne : eol ≠ []) (heol : c.enc eol = some e)
    (hb : ∀ x ∈ c.bom, e.head? ≠ some x) (henc : c.enc (replace lf eol text) = some y) :
    loadFile c (saveFile c fs p (.str text) m eol tag).1 p ['t'] eol = .ok (.str text)
      ↔ replace eol lf (replace lf eol text) = text := by
  rw [C15_load_eol c g lead sy fs p text m eol tag y e hm hf hstd hne heol hb henc]
  constructor
  · intro h; injection h with h; injection h
  · intro h; rw [h]

/-- **C15 (round trip, every EOL — ASCII or not).**  Text without `'\r'`, an encodable EOL none of
whose characters other than `'\n'` occurs in the text and whose first byte is not a byte of the
signature: `load_file` with the same EOL and encoding returns the text. -/
theorem C15_roundtrip_eol (c : Codec) (g : c.Good) (lead : Char → Bool) (sy : c.Sync lead) (fs : FS)
    (p text m eol tag : Str) (y e : Bytes) (hm : SaveMode m) (hf : Fresh fs p m)
    (hd : EolDisjoint eol text) (hcr : NoCR text) (heol : c.enc eol = some e)
    (hb : ∀ x ∈ c.bom, e.head? ≠ some x) (henc : c.enc (replace lf eol text) = some y) :
    loadFile c (saveFile c fs p (.str text) m eol tag).1 p ['t'] eol = .ok (.str text) := by
  exact loadFile_encoded_eol g sy.syncOn _ p text eol y e (fun _ _ _ => trivial) hd hcr heol (fun _ => hb) henc
    (saveFile_str_fresh c fs p text m eol tag y e hm hf henc heol)

/-- **C15 (round trip, utf-8, every EOL)**: no encodability hypothesis, no condition on bytes -/
theorem C15_roundtrip_eol_utf8 (fs : FS) (p text m eol tag : Str)
    (hm : SaveMode m) (hf : Fresh fs p m) (hd : EolDisjoint eol text) (hcr : NoCR text) :
    loadFile utf8 (saveFile utf8 fs p (.str text) m eol tag).1 p ['t'] eol = .ok (.str text) :=
  C15_roundtrip_eol utf8 utf8_good utf8Lead utf8_sync fs p text m eol tag _ _ hm hf hd hcr rfl
    (fun _ hx => nomatch hx) rfl

/-- **C15 (round trip, utf-8-sig, every EOL)**: the only extra condition is that the EOL does not
begin with U+FEFF, the character whose encoding is the signature -/
theorem C15_roundtrip_eol_utf8sig (fs : FS) (p text m eol tag : Str)
    (hm : SaveMode m) (hf : Fresh fs p m) (hd : EolDisjoint eol text) (hcr : NoCR text)
    (hb : eol.head? ≠ some (Char.ofNat 0xFEFF)) :
    loadFile utf8sig (saveFile utf8sig fs p (.str text) m eol tag).1 p ['t'] eol = .ok (.str text) := by
  by_cases hstd : isStdEol eol = true
  · exact C15_roundtrip_std utf8sig utf8sig_good fs p text m eol tag _ hm hf hstd hcr rfl
  · have hdisk := (C15_disk_bytes_utf8sig fs p text m eol tag hm hf).2.1
    rw [loadFile_custom_utf8sig _ p _ eol ((Bool.not_eq_true _).mp hstd) hd.1 hb hdisk,
      lf_eq, replace_roundtrip eol text hd]

/-- **C15 (round trip, latin-1, every encodable EOL)** -/
theorem C15_roundtrip_eol_latin1 (fs : FS) (p text m eol tag : Str) (y e : Bytes)
    (hm : SaveMode m) (hf : Fresh fs p m) (hd : EolDisjoint eol text) (hcr : NoCR text)
    (heol : latin1.enc eol = some e) (henc : latin1.enc (replace lf eol text) = some y) :
    loadFile latin1 (saveFile latin1 fs p (.str text) m eol tag).1 p ['t'] eol = .ok (.str text) :=
  C15_roundtrip_eol latin1 latin1_good _ latin1_sync fs p text m eol tag y e hm hf hd hcr heol
    (fun _ hx => nomatch hx) henc

/-- **C15 (round trip, cp1252, every encodable EOL)** — e.g. `'€'`, `'§'` -/
theorem C15_roundtrip_eol_cp1252 (fs : FS) (p text m eol tag : Str) (y e : Bytes)
    (hm : SaveMode m) (hf : Fresh fs p m) (hd : EolDisjoint eol text) (hcr : NoCR text)
    (heol : cp1252.enc eol = some e) (henc : cp1252.enc (replace lf eol text) = some y) :
    loadFile cp1252 (saveFile cp1252 fs p (.str text) m eol tag).1 p ['t'] eol = .ok (.str text) :=
  C15_roundtrip_eol cp1252 cp1252_good _ cp1252_sync fs p text m eol tag y e hm hf hd hcr heol
    (fun _ hx => nomatch hx) henc

/-- **C15 (append round trip, every EOL — ASCII or not).**  A text saved, a second one appended with `at`,
same encodable EOL: one stream on disk, and it loads back as the concatenation. -/
theorem C15_append_roundtrip_eol (c : Codec) (g : c.Good) (lead : Char → Bool) (sy : c.Sync lead) (fs : FS)
    (p s1 s2 m eol tag : Str) (y1 y2 e : Bytes) (hm : SaveMode m) (hf : Fresh fs p m)
    (hd : EolDisjoint eol (s1 ++ s2)) (h1 : NoCR s1) (h2 : NoCR s2) (heol : c.enc eol = some e)
    (hb : ∀ x ∈ c.bom, e.head? ≠ some x)
    (e1 : c.enc (replace lf eol s1) = some y1) (e2 : c.enc (replace lf eol s2) = some y2) :
    (saveFile c (saveFile c fs p (.str s1) m eol tag).1 p (.str s2) ['a', 't'] eol tag).1 p
        = c.encode (replace lf eol (s1 ++ s2))
    ∧ loadFile c (saveFile c (saveFile c fs p (.str s1) m eol tag).1 p (.str s2) ['a', 't'] eol tag).1 p ['t'] eol
        = .ok (.str (s1 ++ s2)) := by
  obtain ⟨e12, hdisk⟩ := saveFile_str_append c g fs p s1 s2 m eol tag y1 y2 e hm hf heol e1 e2
  constructor
  · rw [hdisk, Codec.encode, e12]
    rfl
  · exact loadFile_encoded_eol g sy.syncOn _ p (s1 ++ s2) eol (y1 ++ y2) e (fun _ _ _ => trivial) hd (noCR_append h1 h2)
      heol (fun _ => hb) e12 hdisk

/-- **an EOL the encoding cannot represent** (a custom one: a standard EOL is never encoded): `save_file` of a text
raises (`UnicodeEncodeError`, a `ValueError`) and the files stay as they were, and, since fix `C15-c`, `load_lines`
raises too, in every read mode; for `load_file` see the two instances of `C15_eol_unencodable_load` -/
theorem C15_eol_unencodable (c : Codec) (fs : FS) (p text m eol tag rm : Str) (y : Bytes) (hm : SaveMode m)
    (hstd : isStdEol eol = false) (henc : c.enc (replace lf eol text) = some y) (heol : c.enc eol = none) :
    saveFile c fs p (.str text) m eol tag = (fs, .error .ValueError)
    ∧ loadLines c fs p rm eol = .error .ValueError := by
  have hpath : textLayer m eol = false := by rw [textLayer, hstd, Bool.and_false]
  constructor
  · rw [saveFile_manual c fs p _ m eol tag hm (by rw [hpath]; rfl)]
    simp only [toBuf, saveBinary, setB_handleMode, henc, Option.map_some, Buf.isBytes, heol, Bool.false_eq_true,
      ↓reduceIte]
  · simp [loadLines, hstd, heol]

/-- `'→'` has no cp1252 / latin-1 form: `load_file` raises as well -/
theorem C15_eol_unencodable_load :
    cp1252.enc ['→'] = none ∧ latin1.enc ['→'] = none
    ∧ loadFile cp1252 (FS.write (fun _ => none) ['f'] ['a']) ['f'] ['t'] ['→'] = .error .ValueError
    ∧ loadFile latin1 (FS.write (fun _ => none) ['f'] ['a']) ['f'] ['t'] ['→'] = .error .ValueError := by
  decide +kernel

/-- **the character-level condition is needed**: EOL `'§§'`, text `'§\n'` — the EOL's character occurs
in the text; `§§§` is read back as `'\n§'` (first match wins), in every encoding -/
theorem C15_eol_overlap_cex :
    loadFile utf8 (saveFile utf8 (fun _ => none) ['f'] (.str ['§', '\n']) ['w', 't'] ['§', '§'] ['=']).1 ['f'] ['t'] ['§', '§']
      = .ok (.str ['\n', '§'])
    ∧ loadFile latin1 (saveFile latin1 (fun _ => none) ['f'] (.str ['§', '\n']) ['w', 't'] ['§', '§'] ['=']).1 ['f'] ['t'] ['§', '§']
      = .ok (.str ['\n', '§']) := by decide +kernel

/-- **the condition on the signature is needed**: with utf-8-sig and the EOL U+FEFF the signature itself
is an occurrence of the encoded EOL: `'a\n'` is stored as `BOM a BOM` and read back as `'\na\n'` -/
theorem C15_eol_bom_cex :
    (saveFile utf8sig (fun _ => none) ['f'] (.str ['a', '\n']) ['w', 't'] [Char.ofNat 0xFEFF] ['=']).1 ['f']
      = some (bomUtf8 ++ ['a'] ++ bomUtf8)
    ∧ loadFile utf8sig (saveFile utf8sig (fun _ => none) ['f'] (.str ['a', '\n']) ['w', 't'] [Char.ofNat 0xFEFF] ['=']).1
        ['f'] ['t'] [Char.ofNat 0xFEFF] = .ok (.str ['\n', 'a', '\n']) := by decide +kernel

/-- the witness of finding C15-c, with the fix applied: `save_file(p, 'a\nb\n', EOL='§', encoding='latin-1')`
stores `a A7 b A7`; `load_file` returns the text (without the fix `'a§b§'`: the loader looked for `C2 A7`), binary
`load_lines` the two lines (without the fix one line, the whole file); the same for cp1252 and `'€'` (byte `80`) -/
theorem C15_eol_latin1_witness_fixed :
    (saveFile latin1 (fun _ => none) ['f'] (.str ['a', '\n', 'b', '\n']) ['w', 't'] ['§'] ['=']).1 ['f']
      = some ['a', Char.ofNat 0xA7, 'b', Char.ofNat 0xA7]
    ∧ loadFile latin1 (saveFile latin1 (fun _ => none) ['f'] (.str ['a', '\n', 'b', '\n']) ['w', 't'] ['§'] ['=']).1
        ['f'] ['t'] ['§'] = .ok (.str ['a', '\n', 'b', '\n'])
    ∧ loadLines latin1 (saveFile latin1 (fun _ => none) ['f'] (.str ['a', '\n', 'b', '\n']) ['w', 't'] ['§'] ['=']).1
        ['f'] ['b'] ['§'] = .ok [.bytes ['a'], .bytes ['b']]
    ∧ loadFile cp1252 (saveFile cp1252 (fun _ => none) ['f'] (.str ['a', '\n']) ['w', 't'] ['€'] ['=']).1
        ['f'] ['t'] ['€'] = .ok (.str ['a', '\n']) := by decide +kernel

/-! ### Non-vacuity: concrete inhabitants of the hypotheses, exercising every path -/

example : latin1.Good := latin1_good
example : asciiSig.Good := asciiSig_good
example : SaveMode ['a', 't'] ∧ TextMode ['t'] := by simp [SaveMode, TextMode]
example : EolDisjoint ['\n', '\r'] ['a', '\n', '\n', 'b'] ∧ EolDisjoint ['|', '~', '|'] ['a', '\n'] := by
  unfold EolDisjoint; decide
example : IsAscii ['|', '~', '|'] := by unfold IsAscii; decide
-- text layer, CRLF, mark written once and skipped on read; leading / consecutive / trailing newlines
example : loadFile asciiSig (saveFile asciiSig (fun _ => none) ['f'] (.str ['\n', 'a', '\n', '\n', 'b', '\n']) ['t']
    ['\r', '\n'] ['=']).1 ['f'] ['t'] ['\r', '\n'] = .ok (.str ['\n', 'a', '\n', '\n', 'b', '\n']) := by decide +kernel
-- manual path, custom EOL, latin-1 non-ASCII text
example : loadFile latin1 (saveFile latin1 (fun _ => none) ['f'] (.str ['é', '\n', 'ÿ']) ['w', 't']
    ['|', '~', '|'] ['=']).1 ['f'] ['t'] ['|', '~', '|'] = .ok (.str ['é', '\n', 'ÿ']) := by decide +kernel
-- LFCR
example : (saveFile latin1 (fun _ => none) ['f'] (.str ['a', '\n']) ['b'] ['\n', '\r'] ['=']).1 ['f']
    = some ['a', '\n', '\r'] := by decide +kernel
-- lines, CR, text layer; append keeps one stream
example : loadLines asciiSig (saveFile asciiSig (fun _ => none) ['f'] (.lines [.str ['a'], .str [], .str ['b', ' ']])
    ['w', 't'] ['\r'] ['=']).1 ['f'] ['t'] ['\r'] = .ok [.str ['a'], .str [], .str ['b', ' ']] := by decide +kernel
example : (saveFile asciiSig (saveFile asciiSig (fun _ => none) ['f'] (.str ['1', '\n']) ['w', 't'] ['\n'] ['=']).1
    ['f'] (.str ['2']) ['a', 't'] ['\n'] ['=']).1 ['f'] = some (bomUtf8 ++ ['1', '\n', '2']) := by decide +kernel
-- bytes under a text mode
example : (saveFile utf8sig (fun _ => none) ['f'] (.bytes ['\r', '\n', 'x']) ['t'] ['|'] ['=']).1 ['f']
    = some ['\r', '\n', 'x'] := by decide +kernel

-- the concrete codecs: 1-4 byte forms through the manual path (custom EOL) and the text layer
example : loadFile utf8sig (saveFile utf8sig (fun _ => none) ['f'] (.str ['é', '\n', '€', '😀', '\n']) ['w', 't']
    ['|', '~', '|'] ['=']).1 ['f'] ['t'] ['|', '~', '|'] = .ok (.str ['é', '\n', '€', '😀', '\n']) := by decide +kernel
example : (saveFile utf8 (fun _ => none) ['f'] (.str ['é', '\n']) ['t'] ['\r', '\n'] ['=']).1 ['f']
    = some [Char.ofNat 0xC3, Char.ofNat 0xA9, '\r', '\n'] := by decide +kernel
-- cp1252 through the generated table: U+20AC is byte 0x80, U+0081 has no byte, byte 0x81 no character
example : cp1252.enc ['€', 'a', 'ÿ'] = some [Char.ofNat 0x80, 'a', 'ÿ'] ∧ cp1252.enc [Char.ofNat 0x81] = none
    ∧ cp1252.dec [Char.ofNat 0x80] = some ['€'] ∧ cp1252.dec [Char.ofNat 0x81] = none := by decide +kernel
example : loadFile cp1252 (saveFile cp1252 (fun _ => none) ['f'] (.str ['€', '\n', 'é']) ['a', 't'] ['\n', '\r'] ['=']).1
    ['f'] ['t'] ['\n', '\r'] = .ok (.str ['€', '\n', 'é']) := by decide +kernel
-- lines and append on the manual path with a signature codec (findings C15-a, C15-b): one signature
example : (saveFile utf8sig (fun _ => none) ['f'] (.lines [.str ['a'], .bytes ['b'], .other ['7']]) ['b'] [';'] ['=']).1 ['f']
    = some (bomUtf8 ++ ['a', ';', 'b', ';', '7', ';']) := by decide +kernel
example : (saveFile utf8sig (FS.write (fun _ => none) ['f'] ['x']) ['f'] (.lines [.str ['a']]) ['a', 't'] [';'] ['=']).1 ['f']
    = some ['x', 'a', ';'] := by decide +kernel

-- binary load_lines: lineOk inhabitants (LF, a multi-byte EOL, a line ending with a prefix of CRLF)
example : lineOk ['\n'] ['a', 'b'] = true ∧ lineOk ['<', '>'] ['a', '<', 'b', '>'] = true
    ∧ lineOk ['\r', '\n'] ['\n', '\r'] = true := by decide +kernel
example : LinesConv utf8 [.bytes ['a'], .str ['é'], .other ['7']] [['a'], [Char.ofNat 0xC3, Char.ofNat 0xA9], ['7']] := by
  simp only [LinesConv, convLine]; decide
example : loadLines latin1 (saveFile latin1 (fun _ => none) ['f'] (.lines [.bytes ['a'], .bytes [], .bytes ['b', '\n']])
    ['w', 'b'] ['\r', '\n'] ['=']).1 ['f'] ['b'] ['\r', '\n'] = .ok [.bytes ['a'], .bytes [], .bytes ['b', '\n']] := by decide +kernel
example : loadLines utf8 (saveFile utf8 (fun _ => none) ['f'] (.lines [.str ['é'], .str ['a']])
    ['a', 't'] ['§', '\n'] ['=']).1 ['f'] ['t'] ['§', '\n']
    = .ok [.bytes [Char.ofNat 0xC3, Char.ofNat 0xA9], .bytes ['a']] := by decide +kernel
-- non-ASCII EOLs: 2- and 3-byte utf-8 EOL sharing bytes with the text ('©' = C2 A9 next to '§' = C2 A7; '→\n')
example : EolDisjoint ['§'] ['©', '\n', 'é'] ∧ EolDisjoint ['→', '\n'] ['a', '\n', '\n'] := by
  unfold EolDisjoint; decide
example : loadFile utf8 (saveFile utf8 (fun _ => none) ['f'] (.str ['©', '\n', 'é']) ['w', 't'] ['§'] ['=']).1
    ['f'] ['t'] ['§'] = .ok (.str ['©', '\n', 'é']) := by decide +kernel
example : loadFile utf8sig (saveFile utf8sig (fun _ => none) ['f'] (.str ['a', '\n', '\n']) ['t'] ['→', '\n'] ['=']).1
    ['f'] ['t'] ['→', '\n'] = .ok (.str ['a', '\n', '\n']) := by decide +kernel
example : cp1252.enc ['€', '§'] = some [Char.ofNat 0x80, Char.ofNat 0xA7] := by decide +kernel
-- append with a non-ASCII EOL (cp1252 '€' = byte 80); the hypotheses on the signature for utf-8-sig
example : loadFile cp1252 (saveFile cp1252 (saveFile cp1252 (fun _ => none) ['f'] (.str ['a', '\n']) ['w', 't'] ['€'] ['=']).1
    ['f'] (.str ['é', '\n']) ['a', 't'] ['€'] ['=']).1 ['f'] ['t'] ['€'] = .ok (.str ['a', '\n', 'é', '\n']) := by decide +kernel
example : ∀ x ∈ utf8sig.bom, (utf8Enc ['§']).head? ≠ some x := by decide +kernel
example : (['→', '\n'] : Str).head? ≠ some (Char.ofNat 0xFEFF) := by decide +kernel
example : utf8sig.Sync utf8Lead ∧ cp1252.Sync (fun _ => true) := ⟨utf8sig_sync, cp1252_sync⟩

end N0.C15
