import N0Verif.Proofs.Tlv
import N0Verif.Proofs.Fwf
import N0Verif.Proofs.FwfLoad
import N0Verif.Proofs.TlvGenEq
import N0Verif.Proofs.TlvGenWriterEq
import N0Verif.Proofs.FwfGenEq
/-!
# C16 — positional record codecs (TLV, fixed-width) round-trip, refuse, and terminate

The property statements, each followed by closed examples that show it non-vacuous (with the layouts these use, `exLayout`,
`exVCols`); the lemmas are in `Proofs/Tlv`, `TlvInt`, `Slice`, `Fwf`, `FwfLoad`, the ties to the definitions regenerated from the
Python source in `Proofs/TlvGenEq`, `TlvGenWriterEq`, `FwfGenEq`.
The models follow the code with the fixes C16-a (`parse_tlv` rejects a negative length),
C16-b (`load_fwf` appends a tuple to `failed_rows`), C16-d (a failed validation of a column
without `error_message` contributes a default message instead of raising `TypeError`) and C16-c (`generate_tlv` refuses a
`len_padding` that `int()` does not read through: probe `int(pad + pad + '1') == 1`) applied.
Paddings are in the scope of the `int()` model (`padInScope`: Latin-1 or a listed blank); a
Unicode decimal zero such as U+0660, which the real `int()` reads through, is outside it.
-/
namespace N0.C16
open N0 N0.Py N0.Tlv N0.Fwf

/-- **C16 (tiling).**  For *every* function used as `int()` that rejects the empty string, every
input and all field widths: the parser ends normally or with `ValueError` (never out of fuel);
the cells of the yielded triplets concatenate to the consumed prefix of the input — to the whole
input when it ends normally; the start offsets strictly increase; every triplet starts inside the
input, exactly where the cells of its predecessors end (no gap, no overlap); and every triplet is
cut out of the input at its offset, its length being the non-negative number `int()` read. -/
theorem C16_tlv_tiles (pyInt : Str → Option Int) (hE : pyInt [] = none) (s : Str) (tl ll : Nat) :
    let r := parseTlv pyInt s tl ll
    (r.status = .done ∨ r.status = .raised .ValueError)
    ∧ r.trips.flatMap Trip.cells = s.take r.off
    ∧ (r.status = .done → r.trips.flatMap Trip.cells = s)
    ∧ List.Pairwise (· < ·) (r.trips.map Trip.off)
    ∧ (∀ pre t post, r.trips = pre ++ t :: post →
        t.off = (pre.flatMap Trip.cells).length ∧ t.off < s.length)
    ∧ (∀ t ∈ r.trips,
        t.tag = slice s t.off (t.off + tl)
        ∧ t.lenText = slice s (t.off + tl) (t.off + tl + ll)
        ∧ pyInt t.lenText = some t.len ∧ 0 ≤ t.len
        ∧ t.value = slice s (t.off + tl + ll) (t.off + tl + ll + t.len.toNat)
        ∧ t.next = t.off + tl + ll + t.len.toNat) := by
  intro r
  have hr : r = loop (step pyInt s tl ll) s.length (s.length + 1) 0 := parseWith_succ _ _ _
  obtain ⟨hT, hdone, hst, hfuel⟩ :=
    loop_spec (pyInt := pyInt) (s := s) (tl := tl) (ll := ll) hE (s.length + 1) 0
  rw [← hr] at hT hdone hst hfuel
  have hcat : r.trips.flatMap Trip.cells = s.take r.off := hT.concat
  refine ⟨?_, hcat, ?_, hT.increasing, ?_, ?_⟩
  · rcases hst with h | h | h
    · exact .inl h
    · exact .inr h
    · exact absurd h (hfuel (Nat.lt_succ_self _))
  · intro hd
    rw [hcat, List.take_of_length_le (hdone hd)]
  · intro pre t post heq
    obtain ⟨h1, _, h3⟩ := hT.split pre t post heq
    refine ⟨?_, h3⟩
    rw [h1, slice_length, Nat.sub_zero, Nat.sub_zero, Nat.min_eq_left (Nat.le_of_lt h3)]
  · intro t ht
    have w := hT.wellCut t ht
    exact ⟨w.tag, w.lenText, w.int, w.nonneg, w.next ▸ w.value, w.next⟩

/-- **C16 (termination).**  Same generality: the fuel `|s| + 1` is never exhausted, every larger
fuel gives the very same run (so the fuelled model *is* the `while` loop), and at most `|s|`
triplets are yielded. -/
theorem C16_tlv_terminates (pyInt : Str → Option Int) (hE : pyInt [] = none) (s : Str) (tl ll : Nat) :
    (parseTlv pyInt s tl ll).status ≠ .raised .OutOfFuel
    ∧ (∀ fuel, s.length + 1 ≤ fuel → parseTlvFuel pyInt s tl ll fuel = parseTlv pyInt s tl ll)
    ∧ (parseTlv pyInt s tl ll).trips.length ≤ s.length := by
  obtain ⟨hT, _, _, hfuel⟩ :=
    loop_spec (pyInt := pyInt) (s := s) (tl := tl) (ll := ll) hE (s.length + 1) 0
  rw [← parseWith_succ] at hT hfuel
  refine ⟨hfuel (Nat.lt_succ_self _), ?_, hT.count⟩
  intro fuel hf
  cases fuel with
  | zero => exact absurd hf (Nat.not_succ_le_zero _)
  | succ f =>
    unfold parseTlv parseTlvFuel
    rw [parseWith_succ, parseWith_succ]
    exact loop_fuel_irrelevant (fun _ _ => step_forward hE) _ _ _ hf (Nat.lt_succ_self s.length)

/-- The hypothesis `pyInt [] = none` cannot be dropped: with an `int()` that reads the empty
string as `0` and both widths `0` the loop never leaves offset 0 (Python's `int('')` raises). -/
theorem C16_tlv_needs_empty_rejected :
    ∀ fuel, (parseTlvFuel (fun _ => some 0) ['a'] 0 0 fuel).status = .raised .OutOfFuel := by
  exact parseWith_stuck (t := { tag := [], lenText := [], len := 0, value := [], off := 0, next := 0 })
    (List.cons_ne_nil _ _) rfl rfl

/-! ### the defect repaired by fix C16-a: theorems about the step of the unfixed code -/

/-- on the unfixed code `parse_tlv('AA-05')` never terminates: the iteration at offset 0 yields
`('AA', -5, '')` and returns to offset 0, so every fuel is exhausted -/
theorem C16_tlv_loop_cex :
    stepOld pyInt "AA-05".toList 2 3 0
      = .ok { tag := "AA".toList, lenText := "-05".toList, len := -5, value := [], off := 0, next := 0 }
    ∧ ∀ fuel, (parseTlvOld pyInt "AA-05".toList 2 3 fuel).status = .raised .OutOfFuel := by
  have hs : stepOld pyInt "AA-05".toList 2 3 0
      = .ok { tag := "AA".toList, lenText := "-05".toList, len := -5, value := [], off := 0, next := 0 } := by
    -- the kernel decodes a string literal byte by byte, which is most of the evaluation of such a test vector;
    -- `String.toList_ofList` hands it the characters instead
    repeat rw [String.toList_ofList]
    decide +kernel
  exact ⟨hs, parseWith_stuck (by decide +kernel) hs rfl⟩

/-- on the unfixed code `parse_tlv('0-2', 1, 2)` finishes normally with two triplets that overlap:
the second starts at offset 1, inside the cells of the first -/
theorem C16_tlv_overlap_cex :
    let r := parseTlvOld pyInt "0-2".toList 1 2 4
    r.status = .done
    ∧ r.trips.map Trip.view = [("0".toList, -2, []), ("-".toList, 2, [])]
    ∧ r.trips.map Trip.off = [0, 1]
    ∧ r.trips.flatMap Trip.cells ≠ "0-2".toList := by
  repeat rw [String.toList_ofList]
  decide +kernel

/-- the fixed code raises `ValueError` on both inputs, before yielding anything -/
theorem C16_tlv_fixed_witnesses :
    parseTlv pyInt "AA-05".toList 2 3 = { trips := [], off := 0, status := .raised .ValueError }
    ∧ parseTlv pyInt "0-2".toList 1 2 = { trips := [], off := 0, status := .raised .ValueError } := by
  repeat rw [String.toList_ofList]
  decide +kernel

/-- **C16 (TLV round trip, any reader).**  For every `int()` that reads the length field back
when it is padded with a padding the generator accepts (`IntReads`): whatever text
`generate_tlv` returns parses back, in order, to one `(tag padded to the tag width, len(value),
value)` per entry. -/
theorem C16_tlv_roundtrip (pyInt : Str → Option Int) (tl ll : Nat) (tp lp : Char)
    (hI : lenPadOk lp = true → IntReads pyInt ll lp) (d : List (Str × Str)) (g : Str)
    (hgen : generateTlv tl ll tp lp d = .ok g) :
    (parseTlv pyInt g tl ll).status = .done
      ∧ (parseTlv pyInt g tl ll).trips.map Trip.view = d.map (expected tl tp) := by
  obtain ⟨hp, hg⟩ := generateTlv_ok hgen
  have := loop_genEntries_expected (pyInt := pyInt) (hI hp) d g hg [] (g.length + 1)
    (Nat.lt_succ_of_le (genEntries_count_le_length hg))
  unfold parseTlv parseTlvFuel
  rw [parseWith_succ]
  exact ⟨this.1, this.2.2⟩

/-- Python's `int()` (as modelled by `pyInt`) reads a length field padded with `'0'` or with any
character it strips -/
theorem C16_pyint_reads_padded (ll : Nat) (lp : Char) (hlp : lp = '0' ∨ isIntSpace lp = true) :
    IntReads pyInt ll lp := by
  intro n _
  unfold rjust
  rcases hlp with h | h
  · subst h; exact pyInt_zero_padded _ n
  · exact pyInt_blank_padded _ n lp h

/-- **the probe of `generate_tlv` is exact**: `int(pad + pad + '1') == 1` holds exactly for `'0'`
and the characters `int()` strips — nothing that round-trips is refused, nothing that is
accepted fails to round-trip (signs, `_`, other digits, `\x1c`..`\x1f`, letters fail it) -/
theorem C16_tlv_padding_probe_exact (lp : Char) :
    lenPadOk lp = true ↔ (lp = '0' ∨ isIntSpace lp = true) := lenPadOk_iff lp

/-- … in particular `int()` reads the field with every padding `generate_tlv` accepts -/
theorem C16_pyint_reads_accepted (ll : Nat) (lp : Char) (hp : lenPadOk lp = true) :
    IntReads pyInt ll lp :=
  C16_pyint_reads_padded ll lp ((lenPadOk_iff lp).mp hp)

theorem C16_pyint_rejects_empty : pyInt [] = none := pyInt_nil

/-- **C16 (TLV round trip, concrete `int()`), no hypothesis on the paddings**: every text that
`generate_tlv` returns — whatever the mapping, the widths and the paddings — parses back to one
`(padded tag, len(value), value)` per entry, in order. -/
theorem C16_tlv_roundtrip_pyint (tl ll : Nat) (tp lp : Char) (d : List (Str × Str)) (g : Str)
    (hgen : generateTlv tl ll tp lp d = .ok g) :
    (parseTlv pyInt g tl ll).status = .done
      ∧ (parseTlv pyInt g tl ll).trips.map Trip.view = d.map (expected tl tp) :=
  C16_tlv_roundtrip pyInt tl ll tp lp (C16_pyint_reads_accepted ll lp) d g hgen

/-- **C16 (acceptance).**  Generation returns a text exactly when every tag and every length fits
its field and `len_padding` passes the probe (`'0'` or a character `int()` strips:
`C16_tlv_padding_probe_exact`). -/
theorem C16_tlv_accepts (tl ll : Nat) (tp lp : Char) (d : List (Str × Str)) :
    (∃ g, generateTlv tl ll tp lp d = .ok g) ↔ (Fits tl ll d ∧ lenPadOk lp = true) := by
  constructor
  · rintro ⟨g, h⟩
    obtain ⟨hp, hg⟩ := generateTlv_ok h
    exact ⟨(genEntries_ok_iff d).mp ⟨g, hg⟩, hp⟩
  · rintro ⟨hf, hp⟩
    rw [generateTlv_accepted hp]
    exact (genEntries_ok_iff d).mpr hf

/-- **C16 (refusal).**  If some tag or length does not fit, or the length padding is one that
`parse_tlv` could not read through, generation raises `AssertionError` and returns no text — and
conversely any failure of the generator is that refusal. -/
theorem C16_tlv_refuses (tl ll : Nat) (tp lp : Char) (d : List (Str × Str)) :
    ((¬ Fits tl ll d ∨ lenPadOk lp = false) → generateTlv tl ll tp lp d = .error .AssertionError)
    ∧ (∀ e, generateTlv tl ll tp lp d = .error e →
        e = .AssertionError ∧ (¬ Fits tl ll d ∨ lenPadOk lp = false)) := by
  have key : ∀ e, generateTlv tl ll tp lp d = .error e → e = .AssertionError := by
    intro e h
    cases hp : lenPadOk lp with
    | false => rw [generateTlv_refused hp] at h; cases h; rfl
    | true => rw [generateTlv_accepted hp] at h; exact genEntries_error d e h
  constructor
  · intro hbad
    cases h : generateTlv tl ll tp lp d with
    | ok g =>
      have := (C16_tlv_accepts tl ll tp lp d).mp ⟨g, h⟩
      rcases hbad with hb | hb
      · exact absurd this.1 hb
      · rw [this.2] at hb; cases hb
    | error e => rw [key e h]
  · intro e h
    refine ⟨key e h, ?_⟩
    by_cases hf : Fits tl ll d
    · right
      cases hp : lenPadOk lp with
      | false => rfl
      | true =>
        obtain ⟨g, hg⟩ := (C16_tlv_accepts tl ll tp lp d).mpr ⟨hf, hp⟩
        rw [hg] at h; cases h
    · exact Or.inl hf

/-- **C16 (refusal of a padding that cannot be read back; finding C16-c, fixed).**  A
`len_padding` that fails the probe — neither `'0'` nor a character `int()` strips — is refused
for every mapping and every width, before anything is written.  (The unfixed `generate_tlv({'A':'x'}, len_padding='x')`
returns `'A xx1x'`, which `parse_tlv` cannot read: `int('xx1')` raises.) -/
theorem C16_tlv_refuses_bad_padding (tl ll : Nat) (tp lp : Char) (hp : lenPadOk lp = false)
    (d : List (Str × Str)) : generateTlv tl ll tp lp d = .error .AssertionError :=
  generateTlv_refused hp tl ll tp d

/-- the witness of finding C16-c: the mapping fits, the padding `'x'` is refused; the text the
unfixed code wrote (the entry loop alone) does not parse back and `int()` does not read a field
padded with `'x'`, so the refusal is what keeps "round-trip or refuse" true -/
theorem C16_tlv_badpad_refused :
    Fits 2 3 [("A".toList, "x".toList)]
    ∧ generateTlv 2 3 ' ' 'x' [("A".toList, "x".toList)] = .error .AssertionError
    ∧ genEntries 2 3 ' ' 'x' [("A".toList, "x".toList)] = .ok "A xx1x".toList
    ∧ parseTlv pyInt "A xx1x".toList 2 3 = { trips := [], off := 0, status := .raised .ValueError }
    ∧ ¬ IntReads pyInt 3 'x' := by
  repeat rw [String.toList_ofList]
  refine ⟨?_, by decide +kernel, by decide +kernel, by decide +kernel, ?_⟩
  · unfold Fits
    decide +kernel
  · intro h
    exact absurd (h 1 (by decide +kernel)) (by decide +kernel)

/-! ## the definitions regenerated from the Python source of `parse_tlv` equal the hand-written model

`Gen/TlvPy.lean` is rewritten by `harness/translate_py_tlv.py` on every run; these theorems are re-checked against
the new text (field widths are natural numbers, as in the model). -/

/-- **generated loop body = model step**: one iteration of the translated `while` body yields the triple of
`Tlv.step` and continues at its `next` offset (or raises the same exception). -/
theorem C16_generated_step_eq (s : Str) (tl ll off : Nat) :
    Gen.TlvPy.ParseTlv.step s tl ll ⟨off⟩ = (Tlv.step pyInt s tl ll off).map TlvGenEq.viewStep :=
  TlvGenEq.step_eq s tl ll off

/-- **generated loop test** -/
theorem C16_generated_cond_eq (s : Str) (tl ll : Int) (off : Nat) :
    Gen.TlvPy.ParseTlv.cond s tl ll ⟨off⟩ = decide (off < s.length) := TlvGenEq.cond_eq s tl ll off

/-- **generated generator = model**, for every fuel: the yielded triples are the views of the model's triplets and
the iteration ends the same way (normally / with the same exception / out of fuel). -/
theorem C16_generated_parse_eq (s : Str) (tl ll fuel : Nat) :
    Gen.TlvPy.parseTlv s tl ll fuel = TlvGenEq.viewRes (parseTlvFuel pyInt s tl ll fuel) :=
  TlvGenEq.parseTlv_eq s tl ll fuel

/-- **C16 (termination) for the translated code**: with fuel `|s| + 1` the translated generator ends normally or
with `ValueError` — never out of fuel — and yields at most `|s|` triples. -/
theorem C16_tlv_terminates_generated (s : Str) (tl ll : Nat) :
    let r := Gen.TlvPy.parseTlv s tl ll (s.length + 1)
    (r.2 = none ∨ r.2 = some .ValueError) ∧ r.1.length ≤ s.length := by
  intro r
  have h : r = TlvGenEq.viewRes (parseTlv pyInt s tl ll) := TlvGenEq.parseTlv_eq s tl ll _
  have h1 := (C16_tlv_tiles pyInt C16_pyint_rejects_empty s tl ll).1
  have h2 := (C16_tlv_terminates pyInt C16_pyint_rejects_empty s tl ll).2.2
  rw [h]
  refine ⟨?_, by simpa [TlvGenEq.viewRes] using h2⟩
  rcases h1 with h1 | h1 <;> simp [TlvGenEq.viewRes, TlvGenEq.statusOpt, h1]

/-! ## the definitions regenerated from the Python source of `generate_tlv` equal the hand-written model

`Gen/TlvGenPy.lean` is rewritten by `harness/translate_py_tlvgen.py` on every run (the element of the generator
expression, the `''.join(… for …)`, the statements in front of the `return`); these theorems are re-checked against the
new text.  Scope, as in the model: field widths are natural numbers, the paddings are single characters (the
translated code takes them as `str`: `[tp]`, `[lp]`). -/

/-- **generated entry = model entry**: the width checks (which one raises, in which order), `ljust` of the tag,
`rjust` of the decimal length, the concatenation -/
theorem C16_generated_gen_entry_eq (d : List (Str × Str)) (tl ll : Nat) (tp lp : Char) (tag value : Str) :
    Gen.TlvGenPy.GenerateTlv.entry d tl ll [tp] [lp] tag value = genEntry tl ll tp lp tag value :=
  TlvGenWriterEq.entry_eq d tl ll tp lp tag value

/-- **generated `''.join(entry for tag, value in d.items())` = model**, for every list of entries -/
theorem C16_generated_gen_entries_eq (d0 d : List (Str × Str)) (tl ll : Nat) (tp lp : Char) :
    Gen.TlvGenPy.joinMapE (fun p => Gen.TlvGenPy.GenerateTlv.entry d0 tl ll [tp] [lp] p.1 p.2) d
      = genEntries tl ll tp lp d :=
  TlvGenWriterEq.entries_eq d0 tl ll tp lp d

/-- **generated readability guard = `lenPadOk`**: the statements in front of the `return` raise `AssertionError`
exactly when the probe of the one-character `len_padding` fails (widths and tag padding are not looked at) -/
theorem C16_generated_gen_guard_eq (d : List (Str × Str)) (tl ll : Int) (tp : Str) (lp : Char) :
    Gen.TlvGenPy.GenerateTlv.guard d tl ll tp [lp] = if lenPadOk lp then .ok () else .error .AssertionError :=
  TlvGenWriterEq.guard_eq d tl ll tp lp

/-- a `len_padding` that is not one character is not probed by the generated guard -/
theorem C16_generated_gen_guard_skips (d : List (Str × Str)) (tl ll : Int) (tp lp : Str) (h : lp.length ≠ 1) :
    Gen.TlvGenPy.GenerateTlv.guard d tl ll tp lp = .ok () :=
  TlvGenWriterEq.guard_skips d tl ll tp lp h

/-- **generated `generate_tlv` = model `generateTlv`** -/
theorem C16_generated_gen_eq (d : List (Str × Str)) (tl ll : Nat) (tp lp : Char) :
    Gen.TlvGenPy.generateTlv d tl ll [tp] [lp] = generateTlv tl ll tp lp d :=
  TlvGenWriterEq.generateTlv_eq d tl ll tp lp

/-! ## fragments of `parse_fwf_row` / `generate_fwf_row` regenerated from the Python source equal the hand-written model

`Gen/FwfPy.lean` is rewritten by `harness/translate_py_fwf.py` on every run: the statements of the column loop of
`parse_fwf_row` that compute `column_value` from offset / width / till, and the statements of the column loop of
`generate_fwf_row` that render the selected value into `rendered_row`.  Scope, as in the model: natural numbers (or
`None`) for offsets, widths, sizes. -/

/-- **generated slice computation = `colValue`**: which of offset / width / till decide, `till` defaulting to
`offset + width`, the slice `incoming_row[offset:till]`; it never raises -/
theorem C16_generated_fwf_slice_eq (row : Str) (c : PCol) :
    Gen.FwfPy.ParseFwfRow.colValue row (c.offset.map Int.ofNat) (c.width.map Int.ofNat) (c.till.map Int.ofNat)
      = .ok (colValue row c) :=
  FwfGenEq.colValue_eq row c

/-- **generated cell rendering = `place`**: `str()` of the value, `zfill` for `type == 'int'` else `ljust`, truncation
to `size`, splice between `rendered_row[:offset]` and `rendered_row[till:]` (`ty` = `column_format.get('type')`) -/
theorem C16_generated_gen_fwf_cell_eq (c : GCol) (v : Val) (r : Str) (ty : Option Str)
    (h : c.isInt = decide (ty = some "int".toList)) :
    Gen.FwfPy.GenerateFwfRow.place r v c.size c.offset c.till ty = place c v r :=
  FwfGenEq.place_eq c v r ty h

/-! Non-vacuity -/
example : pyInt [] = none := C16_pyint_rejects_empty
example : pyInt " +1_0\t".toList = some 10 := by
  repeat rw [String.toList_ofList]
  decide +kernel
example : Fits 2 3 [("A".toList, "x".toList), ("BB".toList, "hello world".toList)] := by
  unfold Fits
  repeat rw [String.toList_ofList]
  decide +kernel
example : (parseTlv pyInt "A 001xBB011hello world".toList 2 3).trips.map Trip.view
    = [("A ".toList, 1, "x".toList), ("BB".toList, 11, "hello world".toList)] := by
  repeat rw [String.toList_ofList]
  decide +kernel
example : (parseTlv pyInt "AA005ab".toList 2 3).status = .done := by
  repeat rw [String.toList_ofList]
  decide +kernel
example : ¬ Fits 1 3 [("BB".toList, [])] := by
  unfold Fits
  repeat rw [String.toList_ofList]
  decide +kernel
-- the round-trip theorem is not vacuous: generation succeeds with the default and with a blank padding
example : generateTlv 2 3 ' ' '0' [("A".toList, "x".toList), ("BB".toList, "hello world".toList)]
    = .ok "A 001xBB011hello world".toList := by
  repeat rw [String.toList_ofList]
  decide +kernel
example : generateTlv 2 3 '_' '\t' [("A".toList, "x".toList)] = .ok "A_\t\t1x".toList := by
  repeat rw [String.toList_ofList]
  decide +kernel
example : lenPadOk '0' = true ∧ lenPadOk ' ' = true ∧ lenPadOk (Char.ofNat 11) = true ∧ lenPadOk (Char.ofNat 0xA0) = true
    ∧ lenPadOk (Char.ofNat 0x85) = true ∧ lenPadOk (Char.ofNat 0x2003) = true ∧ lenPadOk 'x' = false ∧ lenPadOk '-' = false
    ∧ lenPadOk '+' = false ∧ lenPadOk '_' = false ∧ lenPadOk '1' = false ∧ lenPadOk (Char.ofNat 0x1C) = false := by decide +kernel
example : generateTlv 2 3 ' ' (Char.ofNat 0xA0) [("A".toList, "x".toList)]
    = .ok ['A', ' ', Char.ofNat 0xA0, Char.ofNat 0xA0, '1', 'x'] := by
  repeat rw [String.toList_ofList]
  decide +kernel
example : padInScope (Char.ofNat 0xA0) = true ∧ padInScope (Char.ofNat 0x2003) = true ∧ padInScope (Char.ofNat 0x660) = false := by decide +kernel

/-- **C16 (fixed-width row round trip).**  For a layout whose columns end at `offset + size` and do
not overlap, and a non-empty filler: if `generate_fwf_row` returns `text`, then parsing `text` with
the corresponding parser layout (columns described by `width` or by `till`, any `validate`) returns
one entry per column, and every column that was written — from the record, else from its mapping
expression — reads back as `str(value)` padded (blanks on the right, or zeros on the left for
`type == 'int'`) or truncated to the column size. -/
theorem C16_fwf_roundtrip (rec : Rec) (fmt : List GCol) (filler text : Str)
    (hc : Consistent fmt) (hfill : filler ≠ []) (hg : genRow rec fmt filler = .ok text)
    (useWidth validate : Bool) :
    parseRow text (fmt.map (readBack useWidth)) validate
      = .ok (.parsed (fmt.map (fun c => (c.name, colValue text (readBack useWidth c)))))
    ∧ ∀ c ∈ fmt, ∀ v sv, source rec c = some (.ok v) → pyStr v = .ok sv →
        colValue text (readBack useWidth c) = some (padOrTrunc c.isInt c.size sv) := by
  obtain ⟨hne, _, h3⟩ := genRow_spec hc hfill hg
  constructor
  · rw [parseRow_plain text validate _ (fun h => hne (List.map_eq_nil_iff.mp h)) (Or.inr ?_), List.map_map]
    · rfl
    · intro c hc
      obtain ⟨g, _, rfl⟩ := List.mem_map.mp hc
      rfl
  · intro c hcm v sv hsrc hsv
    rw [colValue_readBack text useWidth (hc.1 c hcm), h3 c hcm v sv hsrc hsv]

/-- a column that is not written (not in the record, no mapping) keeps the filler -/
theorem C16_fwf_absent_is_filler (rec : Rec) (fmt : List GCol) (ch : Char) (text : Str)
    (hc : Consistent fmt) (hg : genRow rec fmt [ch] = .ok text) (useWidth : Bool) :
    ∀ c ∈ fmt, source rec c = none →
      colValue text (readBack useWidth c) = some (List.replicate c.size ch) := by
  intro c hcm hsrc
  obtain ⟨_, h2, _⟩ := genRow_spec hc (List.cons_ne_nil _ _) hg
  -- the other columns are disjoint from this one, which is itself not written
  have hfr := h2 c.offset c.till (fun x hx hsx => by
    rcases pairwise_disjoint_forall fmt hc.2 x hx c hcm with h | h
    · subst h; exact absurd hsrc hsx
    · exact h)
  have hrep : (List.replicate (rowLen fmt) [ch]).flatten = List.replicate (rowLen fmt) ch := by
    simp
  rw [colValue_readBack text useWidth (hc.1 c hcm), hfr, hrep, slice_replicate _ _ _ _ (till_le_rowLen fmt c hcm),
    hc.1 c hcm, Nat.add_sub_cancel_left]

/-- the text written into a column always has exactly the column's size -/
theorem C16_fwf_cell_size (isInt : Bool) (size : Nat) (sv : Str) :
    (padOrTrunc isInt size sv).length = size := padOrTrunc_length isInt size sv

/-- **C16 (a failing validation never raises; fix C16-d).**  In the model's scope (a row of text,
offsets / widths natural numbers or `None`, validations total functions, `error_message` a string
or absent) `parse_fwf_row` has exactly one way of raising: `SyntaxError` for an empty layout.  In
particular no `TypeError`, whatever validations fail and whether or not the column names an
`error_message`.  (On the real code the other exceptions that remain possible come from outside
this scope: whatever an `eval`'d validation expression itself raises — `SyntaxError`, `NameError`,
… —, `TypeError` for an offset / width / till that is not an integer, for an `error_message` that
is neither `None` nor a string, or for a row that cannot be sliced.) -/
theorem C16_fwf_parse_raises_only_empty_layout (row : Str) (fmt : List PCol) (validate : Bool) :
    (∀ e, parseRow row fmt validate = .error e ↔ (e = .SyntaxError ∧ fmt = []))
    ∧ parseRow row fmt validate ≠ .error .TypeError
    ∧ (fmt ≠ [] → ∃ res, parseRow row fmt validate = .ok res) := by
  refine ⟨fun e => ⟨parseRow_error row validate fmt e, ?_⟩, ?_, fun h => ⟨_, parseRow_ok row validate fmt h⟩⟩
  · rintro ⟨rfl, rfl⟩; rfl
  · intro h
    have := (parseRow_error row validate fmt _ h).1
    cases this

/-- **C16 (every row is classified; fix C16-d).**  With validation on and a non-empty layout a row
is accepted — one entry per column, in layout order — iff every validation of every column holds
(each seeing the columns parsed before it: `allValid`), and rejected with the row itself and a
message otherwise: there is no third outcome. -/
theorem C16_fwf_row_classified (row : Str) (fmt : List PCol) (hne : fmt ≠ []) :
    (allValid row fmt [] = true →
      parseRow row fmt true = .ok (.parsed (fmt.map (fun c => (c.name, colValue row c)))))
    ∧ (allValid row fmt [] = false → ∃ msg, parseRow row fmt true = .ok (.rejected row msg)) := by
  rw [parseRow_ok row true fmt hne]
  obtain ⟨h1, h2⟩ := parseCols_classify row fmt []
  refine ⟨fun h => ?_, fun h => ?_⟩
  · rw [h1 h]; simp
  · obtain ⟨msg, hm⟩ := h2 h
    exact ⟨msg, by rw [hm]⟩

/-- the message of a rejected row: one entry per failed validation of the first column that has a
failed validation, joined with `';'` — the column's `error_message` when it has one, else
`"Validation rule #<index> for '<column>' failed"` -/
theorem C16_fwf_reject_message (c : PCol) (v : Option Str) (row : Str) (acc : Row) :
    (failedMsgs c v row acc 0 c.validations).length
        = (c.validations.filter (fun f => !f v row acc)).length
    ∧ (∀ i, failMsg c i = match c.errorMessage with
        | some m => m
        | none => "Validation rule #".toList ++ natRepr i ++ " for '".toList ++ c.name ++ "' failed".toList) :=
  ⟨failedMsgs_length c v row acc 0 c.validations, fun _ => rfl⟩

/-- a column `a` with `validations = ["column_value == 'ok'"]` and no
`error_message`: the row `'no'` is rejected with the default message (fix C16-d; the unfixed code raises `TypeError`,
`";".join([None])`), and the file `ok / no / ok` loads with the middle line reported once -/
theorem C16_fwf_nomsg_witness :
    let fmt : List PCol :=
      [{ name := ['a'], offset := some 0, width := some 2, till := none,
         validations := [fun v _ _ => v == some ['o', 'k']], errorMessage := none }]
    let msg : Str := -- "Validation rule #0 for 'a' failed"
      ['V', 'a', 'l', 'i', 'd', 'a', 't', 'i', 'o', 'n', ' ', 'r', 'u', 'l', 'e', ' ', '#', '0', ' ', 'f', 'o', 'r', ' ', '\'', 'a', '\'', ' ', 'f', 'a', 'i', 'l', 'e', 'd']
    parseRow ['n', 'o'] fmt true = .ok (.rejected ['n', 'o'] msg)
    ∧ loadFwf [['o', 'k'], ['n', 'o'], ['o', 'k']] fmt [] [] true none
      = .ok { accepted := [[(['a'], some ['o', 'k'])], [(['a'], some ['o', 'k'])]],
              rejected := [{ line := some 2, row := ['n', 'o'], msg := msg }] } := by
  decide +kernel

/-! Non-vacuity (classification): both outcomes occur, with and without `error_message`, with
several failed validations, and a later column sees the earlier ones -/
def exVCols : List PCol :=
  [{ name := ['a'], offset := some 0, width := some 1, till := none,
     validations := [fun v _ _ => v == some ['x'], fun v _ _ => v != some ['y']], errorMessage := some ['E'] },
   { name := ['b'], offset := some 1, width := none, till := some 2,
     validations := [fun _ _ acc => acc.length == 1, fun v _ _ => v == some ['1']], errorMessage := none }]

example : allValid ['x', '1'] exVCols [] = true := by decide +kernel
example : parseRow ['x', '1'] exVCols true = .ok (.parsed [(['a'], some ['x']), (['b'], some ['1'])]) := by decide +kernel
example : allValid ['y', '1'] exVCols [] = false := by decide +kernel
example : parseRow ['y', '1'] exVCols true = .ok (.rejected ['y', '1'] ['E', ';', 'E']) := by decide +kernel
example : allValid ['x', '2'] exVCols [] = false := by decide +kernel
example : parseRow ['x', '2'] exVCols true = .ok (.rejected ['x', '2']
    -- "Validation rule #1 for 'b' failed"
    ['V', 'a', 'l', 'i', 'd', 'a', 't', 'i', 'o', 'n', ' ', 'r', 'u', 'l', 'e', ' ', '#', '1', ' ', 'f', 'o', 'r', ' ',
     '\'', 'b', '\'', ' ', 'f', 'a', 'i', 'l', 'e', 'd']) := by decide +kernel
example : parseRow ['y', '2'] exVCols false = .ok (.parsed [(['a'], some ['y']), (['b'], some ['2'])]) := by decide +kernel
example : parseRow ['y', '2'] [] true = .error .SyntaxError := by decide +kernel
example : loadFwf [['x', '1']] [] exVCols exVCols true none = .error .SyntaxError := by decide +kernel

/-- `load_fwf` (over the lines read) raises only `SyntaxError`, and only for a missing header
layout: no line of text can make it raise -/
theorem C16_fwf_load_raises_only_without_header (lines : List Str) (hdr body ftr : List PCol)
    (validate : Bool) (ret : Option Str) :
    (∀ e, loadFwf lines hdr body ftr validate ret = .error e ↔ (e = .SyntaxError ∧ hdr = []))
    ∧ (hdr ≠ [] → ∃ st, loadFwf lines hdr body ftr validate ret = .ok st) := by
  refine ⟨fun e => ⟨loadFwf_error hdr body ftr validate ret lines e, ?_⟩,
    loadFwf_total hdr body ftr validate ret lines⟩
  rintro ⟨rfl, rfl⟩
  simp [loadFwf]

/-- **C16 (every row exactly once).**  Whenever a header layout is given, `load_fwf` returns (fix
C16-d: no line and no failing validation makes it raise) and — with the header layout for the
first line, the footer layout for the last one and the body layout in between (defaults as in
the code) — `successfully_parsed_rows` is exactly the list of the rows that non-empty lines parse
to, `failed_rows` exactly the list of the non-empty lines whose validation failed, both in file
order; every non-empty line (a line of spaces is one) contributes to exactly one of the two lists (so
their lengths add up to the number of non-empty lines), and a rejected entry carries its own line. -/
theorem C16_fwf_every_row_once (lines : List Str) (hdr body ftr : List PCol) (validate : Bool)
    (ret : Option Str) (hh : hdr ≠ []) :
    let body' := if body.isEmpty then hdr else body
    let ftr' := if ftr.isEmpty then body' else ftr
    ∃ st, loadFwf lines hdr body ftr validate ret = .ok st
    ∧ st.accepted = lines.zipIdx.filterMap (accOf hdr body' ftr' validate ret lines.length)
    ∧ st.rejected = lines.zipIdx.filterMap (rejOf hdr body' ftr' validate lines.length)
    ∧ (∀ x ∈ lines.zipIdx, x.1.isEmpty = false →
        (∃ r, accOf hdr body' ftr' validate ret lines.length x = some r
              ∧ rejOf hdr body' ftr' validate lines.length x = none)
        ∨ (∃ j, rejOf hdr body' ftr' validate lines.length x = some j ∧ j.row = x.1
              ∧ accOf hdr body' ftr' validate ret lines.length x = none))
    ∧ st.accepted.length + st.rejected.length = (lines.filter (fun l => !l.isEmpty)).length
    ∧ (validate = false → st.rejected = []) := by
  intro body' ftr'
  have hb : body' ≠ [] := orElse_ne_nil body hh
  have hf : ftr' ≠ [] := orElse_ne_nil ftr hb
  have hx := fun x => accOf_or_rejOf hdr body' ftr' validate ret lines.length x (layoutAt_ne_nil hh hb hf _ _)
  refine ⟨_, loadFwf_eq hdr body ftr validate ret lines hh, rfl, rfl, ?_, ?_, ?_⟩
  · intro x _ hne
    rcases hx x hne with h | ⟨j, h1, h2, h3, _⟩
    · exact .inl h
    · exact .inr ⟨j, h1, h2, h3⟩
  · rw [← filter_zipIdx_length lines 0 (p := fun s => !s.isEmpty)]
    apply partition_count
    intro x _
    cases hne : x.1.isEmpty with
    | true => rw [accOf_empty _ _ _ _ _ _ hne, rejOf_empty _ _ _ _ _ hne]; rfl
    | false =>
      rcases hx x hne with ⟨r, hr, hj⟩ | ⟨j, hj, _, hr, _⟩
      · rw [hr, hj]; rfl
      · rw [hr, hj]; rfl
  · intro hv
    apply List.filterMap_eq_nil_iff.mpr
    intro x _
    cases hne : x.1.isEmpty with
    | true => exact rejOf_empty _ _ _ _ _ hne
    | false =>
      rcases hx x hne with ⟨_, _, hj⟩ | ⟨_, _, _, _, hv'⟩
      · exact hj
      · rw [hv] at hv'; cases hv'

/-- the defect repaired by fix C16-b, on the model of the fixed code: a file whose first line is
rejected and whose second line is accepted loads, the rejected line is reported once with its
line number (the unfixed `failed_rows.append(i, *parsed_row)` raises `TypeError`) -/
theorem C16_fwf_rejected_midfile :
    loadFwf ["ab".toList, "cd".toList]
      [{ name := "a".toList, offset := some 0, width := some 1, till := none,
         validations := [fun v _ _ => v == some "c".toList], errorMessage := some "E".toList }]
      [] [] true none
    = .ok { accepted := [[("a".toList, some "c".toList)]],
            rejected := [{ line := some 1, row := "ab".toList, msg := "E".toList }] } := by
  repeat rw [String.toList_ofList]
  decide +kernel

/-! Non-vacuity (fixed-width) -/
def exLayout : List GCol :=
  [{ name := "id".toList, offset := 0, till := 4, size := 4, isInt := true, mapping := none },
   { name := "nm".toList, offset := 5, till := 8, size := 3, isInt := false, mapping := none }]

example : Consistent exLayout := ⟨by decide, by decide⟩

example : genRow [("id".toList, .int (-7)), ("nm".toList, .str "abcdef".toList)] exLayout ".".toList
    = .ok "-007.abc".toList := by
  repeat rw [String.toList_ofList]
  decide +kernel

example : genRow [("id".toList, .int 5)] exLayout ".".toList = .ok "0005....".toList := by
  repeat rw [String.toList_ofList]
  decide +kernel

example : parseRow "-007.abc".toList (exLayout.map (readBack true)) true
    = .ok (.parsed [("id".toList, some "-007".toList), ("nm".toList, some "abc".toList)]) := by
  repeat rw [String.toList_ofList]
  decide +kernel

example : Gen.TlvPy.parseTlv "A 001xBB011hello world".toList 2 3 23
    = ([("A ".toList, 1, "x".toList), ("BB".toList, 11, "hello world".toList)], none) := by
  repeat rw [String.toList_ofList]
  decide +kernel
example : (Gen.TlvPy.parseTlv "AA-05".toList 2 3 6).2 = some .ValueError := by
  repeat rw [String.toList_ofList]
  decide +kernel

-- the generated writer: both width checks, both paddings, the guard (accepting, refusing, skipping)
example : Gen.TlvGenPy.GenerateTlv.entry [] 2 3 [' '] ['0'] "A".toList "hello world".toList
    = .ok "A 011hello world".toList := by
  repeat rw [String.toList_ofList]
  decide +kernel
example : Gen.TlvGenPy.GenerateTlv.entry [] 2 3 [' '] ['0'] "ABC".toList "x".toList = .error .AssertionError := by
  repeat rw [String.toList_ofList]
  decide +kernel
example : Gen.TlvGenPy.GenerateTlv.entry [] 2 1 [' '] ['0'] "A".toList "hello world".toList
    = .error .AssertionError := by
  repeat rw [String.toList_ofList]
  decide +kernel
example : Gen.TlvGenPy.GenerateTlv.guard [] 2 3 [' '] ['0'] = .ok () := by decide +kernel
example : Gen.TlvGenPy.GenerateTlv.guard [] 2 3 [' '] ['x'] = .error .AssertionError := by decide +kernel
example : Gen.TlvGenPy.GenerateTlv.guard [] 2 3 [' '] "xy".toList = .ok () := by
  repeat rw [String.toList_ofList]
  decide +kernel
example : Gen.TlvGenPy.generateTlv [("A".toList, "x".toList), ("BB".toList, "hello world".toList)] 2 3 [' '] [' ']
    = .ok "A   1xBB 11hello world".toList := by
  repeat rw [String.toList_ofList]
  decide +kernel
example : Gen.TlvGenPy.generateTlv [("A".toList, "x".toList), ("BBB".toList, "y".toList)] 2 3 [' '] ['0']
    = .error .AssertionError := by
  repeat rw [String.toList_ofList]
  decide +kernel

-- the generated fragments of the fixed-width codec: by width, by till (till wins), no position; int and text cells
example : Gen.FwfPy.ParseFwfRow.colValue "-007.abc".toList (some 5) (some 3) none = .ok (some "abc".toList) := by
  repeat rw [String.toList_ofList]
  decide +kernel
example : Gen.FwfPy.ParseFwfRow.colValue "-007.abc".toList (some 0) (some 2) (some 4) = .ok (some "-007".toList) := by
  repeat rw [String.toList_ofList]
  decide +kernel
example : Gen.FwfPy.ParseFwfRow.colValue "-007.abc".toList none (some 3) (some 4) = .ok none := by
  repeat rw [String.toList_ofList]
  decide +kernel
example : Gen.FwfPy.ParseFwfRow.colValue "-007.abc".toList (some 1) none none = .ok none := by
  repeat rw [String.toList_ofList]
  decide +kernel
example : Gen.FwfPy.GenerateFwfRow.place "........".toList (.int (-7)) 4 0 4 (some "int".toList)
    = .ok "-007....".toList := by
  repeat rw [String.toList_ofList]
  decide +kernel
example : Gen.FwfPy.GenerateFwfRow.place "........".toList (.str "abcdef".toList) 3 5 8 none
    = .ok ".....abc".toList := by
  repeat rw [String.toList_ofList]
  decide +kernel
example : Gen.FwfPy.GenerateFwfRow.place "........".toList (.str "a".toList) 3 5 8 (some "str".toList)
    = .ok ".....a  ".toList := by
  repeat rw [String.toList_ofList]
  decide +kernel

end N0.C16
