import N0Verif.Proofs.Esc
import N0Verif.Proofs.EscSer
import N0Verif.Proofs.Ini
import N0Verif.Proofs.EscGenEq
/-!
# C17 — delimited list / key=value text decodes to what was encoded

The property statements, and the compositions some of them are about, which the library does not have as functions:
`dictRoundTrip`, `dictRoundTripF` (`unescape(deserialize_dict(serialize_dict(v)))` without and with the flags and a default value)
and `deserUnescape`.  Lemmas: `Proofs/Split` (`str.split`), `Esc` (`split_with_escape`), `EscSer`; model `Model/Esc.lean` (the code
with fix patches C17-a … C17-e, C17-h, C17-i, C17-j applied).  The INI part (`parse_ini`, `load_ini`, `default_parse_value`,
`split_pair`, `isnumber`, the lines `save_file` writes for a mapping): `Model/Ini.lean` (fix patches C17-f, C17-g applied), lemmas
`Proofs/Ini`.
-/
namespace N0.C17
open N0 N0.Py N0.Esc N0.Ini

/-- **Fuel adequacy.**  More `while` fuel than the text has characters is enough (the driver and the
theorems below use `fuelFor s = |s| + 2`): the loop ends and the answer does not depend on the fuel.
(Every round but the last joins two items over one delimiter occurrence of the text.  With fix C17-j the
function does not call itself; the bound is the length of the text and not the number of pieces of
`str.split(d, maxsplit)`, because a re-split piece may be joined again.) -/
theorem C17_fuel_adequate (fuel : Nat) (s d : Str) (m : Nat) (e : Char) (tr : Bool)
    (hd : d ≠ []) (hf : s.length < fuel) :
    splitWithEscapeD fuel s d m (some e) tr = splitWithEscape s d m (some e) tr := by
  rw [splitWithEscapeD_ref fuel s d m e tr hd hf, splitWithEscape_ref s d m e tr hd]

/-- the statement as the property reads: "with an escape character, a delimiter preceded by an odd run of
escapes stays inside its item and the result never depends on neighbouring items (maxsplit included)" — the
code IS the character-level reference `splitRef` (`Model/Esc.lean`: one pass, only REAL cuts are counted) -/
def C17_split_maxsplit_real_cuts_stmt : Prop :=
  ∀ (s d : Str) (m : Nat) (e : Char) (tr : Bool), d ≠ [] →
    splitWithEscape s d m (some e) tr = splitRef s d m (some e) tr

/-- **C17 (maxsplit counts real cuts; fix C17-j) — the full statement.**  For every text, non-empty
delimiter (those that contain or end with the escape character included), maxsplit, escape character and
trim flag `split_with_escape` returns what the one-pass reference returns: an escaped delimiter stays in
its item and uses up no split, exactly `maxsplit` real cuts are made when the text has that many, and what
follows the last one is the last item, raw.  Unbounded.  (The unfixed code does this only outside the
class `escWithin`.) -/
theorem C17_split_maxsplit_real_cuts : C17_split_maxsplit_real_cuts_stmt := by
  intro s d m e tr hd
  rw [splitWithEscape_ref s d m e tr hd, splitRef, if_neg hd]

theorem C17_split_is_reference (s d : Str) (m : Nat) (e : Char) (tr : Bool) (hd : d ≠ []) :
    splitWithEscape s d m (some e) tr = .ok (refAux e d tr (limOf m) 0 [] s) :=
  splitWithEscape_ref s d m e tr hd

/-- **General reference over the pieces of the plain split.**  For every text, non-empty delimiter, maxsplit,
escape character and trim flag such that no escaped delimiter is met while real cuts are limited and still
allowed (`escWithin` false — in particular always without maxsplit, `C17_general_spec_no_maxsplit`) the
result is the one-pass walk `specG` over the pieces of `str.split(d, maxsplit)`.
(The unfixed code satisfies this for EVERY maxsplit — that is the defect C17-j: an escaped delimiter
uses up one of the `maxsplit` pieces.  Inside the class the general statement is `C17_split_maxsplit_real_cuts`.) -/
theorem C17_general_spec (s d : Str) (m : Nat) (e : Char) (tr : Bool) (hd : d ≠ [])
    (h : escWithin e d (limOf m) 0 [] s = false) :
    splitWithEscape s d m (some e) tr = .ok (specG e d tr [] (splitMax d m s)) := by
  rw [C17_split_is_reference s d m e tr hd, refAux_eq_specG e d tr s (limOf m) 0 [] h]
  rfl

theorem C17_general_spec_no_maxsplit (s d : Str) (e : Char) (tr : Bool) (hd : d ≠ []) :
    splitWithEscape s d 0 (some e) tr = .ok (specG e d tr [] (splitMax d 0 s)) :=
  C17_general_spec s d 0 e tr hd (escWithin_none e d s 0 [])

/-- **C17 (odd run stays).**  When the delimiter does not end with the escape character (and outside the
class above: without maxsplit, or no escaped delimiter among the real cuts allowed), the
result is `splitSpec`: the delimiter after a piece stays inside the item exactly when that piece
ends with an odd run of escapes (the last escape is dropped), otherwise the item is closed, its
trailing run halved when trimming.  The decision looks at nothing but that piece.
(For every maxsplit the decision is that of the reference, `C17_split_maxsplit_real_cuts`.) -/
theorem C17_odd_run_stays (s d : Str) (m : Nat) (e : Char) (tr : Bool) (hd : d ≠ [])
    (hl : d.getLast? ≠ some e) (h : escWithin e d (limOf m) 0 [] s = false) :
    splitWithEscape s d m (some e) tr = .ok (splitSpec e d tr [] (splitMax d m s)) := by
  rw [C17_general_spec s d m e tr hd h, specG_eq_splitSpec e d tr hd hl _ [] (run_nil e)]

theorem C17_odd_run_stays_no_maxsplit (s d : Str) (e : Char) (tr : Bool) (hd : d ≠ [])
    (hl : d.getLast? ≠ some e) :
    splitWithEscape s d 0 (some e) tr = .ok (splitSpec e d tr [] (splitMax d 0 s)) :=
  C17_odd_run_stays s d 0 e tr hd hl (escWithin_none e d s 0 [])

/-- **C17 (independence of neighbours).**  A boundary after a piece with an even run cuts the
computation in two: what comes before and what comes after are decoded independently. -/
theorem C17_independent (e : Char) (d : Str) (tr : Bool) (ps : List Str) (p q : Str) (qs : List Str)
    (hev : run e p % 2 ≠ 1) :
    splitSpec e d tr [] (ps ++ p :: q :: qs)
      = splitSpec e d tr [] (ps ++ [p]) ++ splitSpec e d tr [] (q :: qs) :=
  splitSpec_append e d tr p q qs hev ps []

/-- **C17 (totality).**  No text, maxsplit, escape setting or trim flag makes `split_with_escape`
fail; the empty delimiter is the `ValueError` of `str.split` itself. -/
theorem C17_total (s d : Str) (m : Nat) (esc : Option Char) (tr : Bool) (hd : d ≠ []) :
    ∃ r, splitWithEscape s d m esc tr = .ok r := by
  cases esc with
  | none => exact ⟨splitMax d m s, by simp [splitWithEscape, splitWithEscapeD, hd]⟩
  | some e => exact ⟨_, C17_split_is_reference s d m e tr hd⟩

/-- **C17 (no escape = plain split).**  If the escape character does not occur in the text (or no
escape character is given) the result is `str.split(delimiter, maxsplit)` — the `ValueError` for
an empty delimiter included. -/
theorem C17_no_escape_is_split (s d : Str) (m : Nat) (esc : Option Char) (tr : Bool)
    (h : ∀ e, esc = some e → e ∉ s) :
    splitWithEscape s d m esc tr = pySplit d m s := 
  splitWithEscape_no_escape s d m esc tr h

/-- **C17 (join round trip, `parse_empty=True`).**  Items that contain no character of the
delimiter (and not the escape character, if one is given; the delimiter does not contain it
either) come back unchanged. -/
theorem C17_join_roundtrip (d : Str) (items : List Str) (esc : Option Char) (hd : d ≠ [])
    (hne : items ≠ []) (hc : ∀ it ∈ items, Clean d it)
    (he : ∀ e, esc = some e → e ∉ d ∧ ∀ it ∈ items, e ∉ it) :
    deserializeList (join d items) d true esc = .ok items := by
  rw [deserializeList_join d items true esc hd hne hc he]
  simp

/-- **C17 (join round trip, default `parse_empty=False`).**  The same, empty items dropped. -/
theorem C17_join_roundtrip_drop_empty (d : Str) (items : List Str) (esc : Option Char) (hd : d ≠ [])
    (hne : items ≠ []) (hc : ∀ it ∈ items, Clean d it)
    (he : ∀ e, esc = some e → e ∉ d ∧ ∀ it ∈ items, e ∉ it) :
    deserializeList (join d items) d false esc = .ok (items.filter (fun it => !it.isEmpty)) := by
  rw [deserializeList_join d items false esc hd hne hc he]
  simp

/-- **C17 (list of lists, join round trip; fix C17-i).**  Inner items joined with the inner
delimiter, the lists joined with the outer one; no item contains a character of either
delimiter, the inner delimiter contains no character of the outer one, there is at least one
list and every list has at least one item (`''.split(d) == ['']`, as in the flat theorem).
* `parse_empty=True`: `deserialize_list_of_lists` returns the lists — empty items included (the
  unfixed inner call runs with `parse_empty=False` and drops them), the list `['']` included.
* `parse_empty=False` (the default): a list whose joined text is empty — exactly the list `['']`,
  `C17_sublist_text_empty_iff` — is dropped, and every other list loses its empty items (a list of
  several empty items comes back as `[]`). -/
theorem C17_list_of_lists_roundtrip (d ds : Str) (lists : List (List Str)) (hd : d ≠ []) (hds : ds ≠ [])
    (hne : lists ≠ []) (hine : ∀ l ∈ lists, l ≠ [])
    (hc : ∀ l ∈ lists, ∀ it ∈ l, Clean d it ∧ Clean ds it) (hdd : Clean d ds) :
    deserializeListOfLists (join d (lists.map (join ds))) d ds true = .ok lists
    ∧ deserializeListOfLists (join d (lists.map (join ds))) d ds false
        = .ok ((lists.filter (fun l => !(join ds l).isEmpty)).map (fun l => l.filter (fun it => !it.isEmpty))) := by
  constructor
  · rw [deserializeListOfLists_join d ds lists true hd hds hne hine hc hdd]
    simp only [Bool.or_true]
    rw [List.filter_eq_self.2 (fun _ _ => rfl), List.map_congr_left (fun l _ => List.filter_eq_self.2 (fun _ _ => rfl)),
      List.map_id']
  · rw [deserializeListOfLists_join d ds lists false hd hds hne hine hc hdd]
    simp

/-- which lists the default `parse_empty=False` drops: the joined text of a non-empty list is empty
exactly for `['']` -/
theorem C17_sublist_text_empty_iff (ds : Str) (hds : ds ≠ []) (l : List Str) (hl : l ≠ []) :
    (join ds l).isEmpty = true ↔ l = [[]] := by
  rw [List.isEmpty_iff]
  exact join_eq_nil_iff ds hds l hl

/-- the witness of C17-i and the corner cases, on the model of the fixed code -/
theorem C17_list_of_lists_witness :
    deserializeListOfLists ['a', ',', ',', 'b', ';', 'c'] [';'] [','] true = .ok [[['a'], [], ['b']], [['c']]]
    ∧ deserializeListOfLists ['a', ',', ',', 'b', ';', ';', 'c'] [';'] [','] true
        = .ok [[['a'], [], ['b']], [[]], [['c']]]
    ∧ deserializeListOfLists ['a', ',', ',', 'b', ';', ';', ',', ';', 'c'] [';'] [','] false
        = .ok [[['a'], ['b']], [], [['c']]] := by
  decide +kernel

/-- `deserialize_fixed_list`: the items, padded with the default item or cut to the fixed length -/
theorem C17_fixed_list (d : Str) (items : List Str) (n : Nat) (dflt : Option Str) (hd : d ≠ [])
    (hne : items ≠ []) (hc : ∀ it ∈ items, Clean d it) :
    deserializeFixedList (join d items) d n dflt true
        = .ok ((items.map some ++ List.replicate n dflt).take n)
    ∧ (deserializeFixedList (join d items) d n dflt true).toOption.map List.length = some n := by
  unfold deserializeFixedList
  rw [C17_join_roundtrip d items none hd hne hc (by intro e he; cases he)]
  refine ⟨rfl, ?_⟩
  simp [bind, Except.bind, pure, Except.pure, Except.toOption]

/-- `get_value_by_tag`: the value of `tag` in `k=v;…`; the default value when the tag is missing,
has no `=` (it then *holds* the default value) or has the empty value -/
theorem C17_value_by_tag_examples :
    getValueByTag ['b'] "a;b=1;c=".toList [';'] ['='] none none = .ok (some ['1'])
    ∧ getValueByTag ['a'] "a;b=1;c=".toList [';'] ['='] none (some ['D']) = .ok (some ['D'])
    ∧ getValueByTag ['c'] "a;b=1;c=".toList [';'] ['='] none (some ['D']) = .ok (some ['D'])
    ∧ getValueByTag ['z'] "a;b=1;c=".toList [';'] ['='] none none = .ok none := by
  rw [String.toList_ofList]
  decide +kernel

example : Clean [';'] [','] ∧ join [';'] ([[['a'], [], ['b']], [[]], [['c']]].map (join [','])) = "a,,b;;c".toList := by
  rw [String.toList_ofList]
  decide +kernel
example : deserializeFixedList "a;;b".toList [';'] 5 none true = .ok [some ['a'], some [], some ['b'], none, none] := by
  rw [String.toList_ofList]
  decide +kernel
example : deserializeFixedList "a;;b".toList [';'] 2 none false = .ok [some ['a'], some ['b']] := by
  rw [String.toList_ofList]
  decide +kernel

/-- **C17 (default value).**  An item in which the equal tag does not occur yields
`(item, default_value)`. -/
theorem C17_default_value (eq s : Str) (dv : Option Str) (heq : eq ≠ []) (h : isInfix eq s = false) :
    keyValue eq none dv s = .ok (s, dv) := by
  simp [keyValue, heq, splitAux_no_occ eq _ s h, truthyKey]

/-- key=value: the first equal tag splits -/
theorem C17_key_value (eq k v : Str) (dk dv : Option Str) (heq : eq ≠ []) (hk : Clean eq k) :
    keyValue eq dk dv (k ++ eq ++ v) = .ok (k, some v) := by
  rw [keyValue, if_neg heq, splitAux_pair eq k v heq hk]

/-- `unescape(deserialize_dict(serialize_dict(v, d, eq), d, equal_tag=eq))` -/
def dictRoundTrip (d eq : Str) (v : Val) : Option (List (Str × Option Str)) :=
  match serializeDict d eq v with
  | .ok (some text) =>
    match deserializeDict text d eq false none none with
    | .ok ps =>
      match unescapeDict ps with
      | .ok r => some r
      | .error _ => none
    | .error _ => none
  | _ => none

/-- `unescape(deserialize_dict(serialize_dict(v, d, eq, generate_empty=ge, generate_none=gn), d,
equal_tag=eq, default_value=dv))` -/
def dictRoundTripF (d eq : Str) (ge gn : Bool) (dv : Option Str) (v : Val) :
    Option (List (Str × Option Str)) :=
  match ser ⟨d, eq, ge, gn, 0, 0⟩ 0 v with
  | .ok (some text) =>
    match deserializeDict text d eq false none dv with
    | .ok ps =>
      match unescapeDict ps with
      | .ok r => some r
      | .error _ => none
    | .error _ => none
  | _ => none

/-- **C17 (flat mapping round trip under `generate_empty` / `generate_none`, composed with the
default value; fix C17-h).**  A flat mapping whose values are strings or `None`, serialised with
any setting of the two flags, deserialised with any default value `dv` and unescaped, comes back
entry by entry, in order: an entry written with the equal tag (`writesEq`: a non-empty string
always, `''` iff `generate_empty`, `None` iff `generate_none or generate_empty`) comes back as its
string (`None` as `''`); an entry written as a bare key comes back with the — unescaped — default
value, `None` included: the call does not raise (the unfixed `None.copy()` raises
`AttributeError` as soon as one key has got the default value).  A bare key must be non-empty
(the empty item is dropped by `parse_empty=False`).  Separators as in `C17_dict_roundtrip`. -/
theorem C17_dict_roundtrip_flags (d eq : Str) (c : Cls) (ge gn : Bool) (m : List (Str × Option Str))
    (dv dvu : Option Str)
    (hd : d ≠ []) (heq : eq ≠ []) (hsd : SafeSep d) (hse : SafeSep eq) (hdis : ∀ ch ∈ eq, ch ∉ d)
    (hw : WideOk d eq)
    (hkeys : (m.map Prod.fst).Nodup) (hk : ∀ kv ∈ m, Clean d kv.1 ∧ Clean eq kv.1)
    (hbare : ∀ kv ∈ m, writesEq ge gn kv.2 = false → kv.1 ≠ [])
    (hdv : unescapeOpt dv = .ok dvu) :
    dictRoundTripF d eq ge gn dv (flatValO c m)
      = some (m.map (fun kv => (kv.1, if writesEq ge gn kv.2 then some (kv.2.getD []) else dvu))) := by
  unfold dictRoundTripF
  have hitems : ∀ kv ∈ m, itemOfF d eq ge gn kv ≠ [] :=
    fun kv hkv => itemOfF_ne_nil d eq ge gn kv heq (hbare kv hkv)
  rw [← cF, ser_flatF d eq ge gn c m hitems]
  simp only
  rw [deserializeDict_join d eq none dv m _ _ hd (fun kv hkv => itemOfF_clean d eq ge gn kv hsd hw hdis (hk kv hkv).1)
    hitems (fun kv hkv => keyValue_itemOfF d eq ge gn dv kv heq (hk kv hkv).2)]
  simp only
  rw [dictOfPairs_nodup _ (by rw [List.map_map]; exact hkeys)]
  rw [unescapeDict_map m _ (fun kv => (kv.1, if writesEq ge gn kv.2 then some (kv.2.getD []) else dvu))]
  intro kv _
  refine ⟨rfl, ?_⟩
  cases writesEq ge gn kv.2 with
  | true => simp [unescapeOpt, unescape_escapeValue _ _ (backslash_mem_dangerous d eq), Except.map]
  | false => simpa using hdv

/-- **C17 (flat mapping round trip).**  A flat mapping with unique keys that contain no separator
character and arbitrary string values — every character, inside and outside ASCII (fix C17-e), the
whole reserved alphabet included: delimiter, equal tag, backslash, braces, brackets, quote —
serialises to `k=v;…` and comes back unchanged through `deserialize_dict` and `unescape`.
Separators: non-empty, free of backslash, `x` and lower-case hex digits, sharing no character, and
(`WideOk`) free of `u`/`U` if one of their characters is above U+00FF. -/
theorem C17_dict_roundtrip (d eq : Str) (c : Cls) (m : List (Str × Str))
    (hd : d ≠ []) (heq : eq ≠ []) (hsd : SafeSep d) (hse : SafeSep eq) (hdis : ∀ ch ∈ eq, ch ∉ d)
    (hw : WideOk d eq)
    (hkeys : (m.map Prod.fst).Nodup) (hk : ∀ kv ∈ m, Clean d kv.1 ∧ Clean eq kv.1) :
    dictRoundTrip d eq (flatVal c m) = some (m.map (fun kv => (kv.1, some kv.2))) := by
  have h : dictRoundTrip d eq (flatVal c m)
      = dictRoundTripF d eq true true none (flatValO c (m.map (fun kv => (kv.1, some kv.2)))) := by
    rw [flatVal_eq_flatValO]; rfl
  rw [h, C17_dict_roundtrip_flags d eq c true true _ none none hd heq hsd hse hdis hw
    (by rw [List.map_map]; exact hkeys)
    (by intro kv hkv; obtain ⟨x, hx, rfl⟩ := List.mem_map.1 hkv; exact hk x hx)
    (by
      intro kv hkv hwq
      obtain ⟨x, _, rfl⟩ := List.mem_map.1 hkv
      rw [writesEq_some] at hwq; cases hwq)
    rfl, List.map_map]
  simp only [Function.comp_def, writesEq_some, ↓reduceIte, Option.getD_some]

/-- the statement's two clauses composed: with `default_value=''` a mapping of strings comes back
**the same** whatever the flags are (a value `''` that `generate_empty=False` left out is the
default value again) -/
theorem C17_dict_roundtrip_empty_default (d eq : Str) (c : Cls) (ge gn : Bool) (m : List (Str × Str))
    (hd : d ≠ []) (heq : eq ≠ []) (hsd : SafeSep d) (hse : SafeSep eq) (hdis : ∀ ch ∈ eq, ch ∉ d)
    (hw : WideOk d eq)
    (hkeys : (m.map Prod.fst).Nodup) (hk : ∀ kv ∈ m, Clean d kv.1 ∧ Clean eq kv.1)
    (hbare : ∀ kv ∈ m, ge = false → kv.2 = [] → kv.1 ≠ []) :
    dictRoundTripF d eq ge gn (some []) (flatValO c (m.map (fun kv => (kv.1, some kv.2))))
      = some (m.map (fun kv => (kv.1, some kv.2))) := by
  rw [C17_dict_roundtrip_flags d eq c ge gn _ (some []) (some []) hd heq hsd hse hdis hw
    (by rw [List.map_map]; exact hkeys)
    (by intro kv hkv; obtain ⟨x, hx, rfl⟩ := List.mem_map.1 hkv; exact hk x hx)
    (by
      intro kv hkv hwq
      obtain ⟨x, hx, rfl⟩ := List.mem_map.1 hkv
      cases hv : x.2 with
      | nil =>
        simp only [hv, writesEq] at hwq
        exact hbare x hx hwq hv
      | cons a t => simp [hv, writesEq] at hwq)
    (by decide +kernel)]
  rw [List.map_map]
  congr 1
  apply List.map_congr_left
  intro kv _
  simp only [Function.comp, Option.getD_some]
  cases hv : kv.2 with
  | nil => cases ge <;> simp [writesEq]
  | cons a t => simp [writesEq]

/-- `unescape(deserialize_dict(s, d, equal_tag=eq, default_value=dv))` -/
def deserUnescape (s d eq : Str) (dv : Option Str) : Option (List (Str × Option Str)) :=
  match deserializeDict s d eq false none dv with
  | .ok ps =>
    match unescapeDict ps with
    | .ok r => some r
    | .error _ => none
  | .error _ => none

/-- the witnesses of C17-h on the model of the fixed code: `unescape(deserialize_dict('a;b=1'))`
is `{'a': None, 'b': '1'}`, and `{'a': '', 'b': 'x'}` written with `generate_empty=False` (`a;b=x`)
comes back with `a` holding the default value -/
theorem C17_default_unescape_witness :
    deserUnescape ['a', ';', 'b', '=', '1'] [';'] ['='] none = some [(['a'], none), (['b'], some ['1'])]
    ∧ dictRoundTripF [';'] ['='] false true none (flatValO .plain [(['a'], some []), (['b'], some ['x'])])
      = some [(['a'], none), (['b'], some ['x'])]
    ∧ dictRoundTripF [';'] ['='] false true (some []) (flatValO .plain [(['a'], some []), (['b'], some ['x'])])
      = some [(['a'], some []), (['b'], some ['x'])] := by
  decide +kernel

/-- **C17 (`unescape` of a mapping with default values; fix C17-h).**  `unescape` of a mapping whose
values are strings or `None` fails only because one of its *string* values is not decodable
(`UnicodeDecodeError`, or an escape outside the model: `\\N{…}`, a lone surrogate); a `None` value never makes it
fail and is kept -/
theorem C17_unescape_none_kept (ps : List (Str × Option Str)) :
    (∀ e, unescapeDict ps = .error e → ∃ kv ∈ ps, ∃ s, kv.2 = some s ∧ unescape s = .error e)
    ∧ (∀ r, unescapeDict ps = .ok r →
        r.map Prod.fst = ps.map Prod.fst ∧ ∀ k, (k, none) ∈ ps ↔ (k, none) ∈ r) := by
  refine ⟨fun e h => unescapeDict_error ps e h, ?_⟩
  induction ps with
  | nil => intro r h; cases h; exact ⟨rfl, fun _ => Iff.rfl⟩
  | cons p ps ih =>
    obtain ⟨k, v⟩ := p
    intro r h
    rw [unescapeDict] at h
    cases hv : unescapeOpt v with
    | error e => rw [hv] at h; cases h
    | ok v' =>
      rw [hv] at h
      cases hr : unescapeDict ps with
      | error e => rw [hr] at h; cases h
      | ok r' =>
        rw [hr] at h; cases h
        obtain ⟨i1, i2⟩ := ih r' hr
        refine ⟨by rw [List.map_cons, List.map_cons, i1], fun k' => ?_⟩
        simp only [List.mem_cons, Prod.mk.injEq, i2 k', eq_comm (a := (none : Option Str)),
          unescapeOpt_none_iff v v' hv]

/-! Non-vacuity (flags): every way of writing an entry occurs -/
example : ser ⟨[';'], ['='], false, false, 0, 0⟩ 0
      (flatValO .plain [(['a'], some []), (['n'], none), (['b'], some ['x', ';'])])
    = .ok (some "a;n;b=x\\x3b".toList) := by
  rw [String.toList_ofList]
  decide +kernel
example : dictRoundTripF [';'] ['='] false false (some ['D']) (flatValO .plain [(['a'], some []), (['n'], none), (['b'], some ['x', ';'])])
    = some [(['a'], some ['D']), (['n'], some ['D']), (['b'], some ['x', ';'])] := by decide +kernel
example : dictRoundTripF [';'] ['='] false true none (flatValO .plain [(['a'], some []), (['n'], none), (['b'], some ['x', ';'])])
    = some [(['a'], none), (['n'], some []), (['b'], some ['x', ';'])] := by decide +kernel
example : dictRoundTripF [';'] ['='] true false none (flatValO .plain [(['a'], some []), (['n'], none)])
    = some [(['a'], some []), (['n'], some [])] := by decide +kernel
example : writesEq false false none = false ∧ writesEq false true none = true ∧ writesEq false true (some []) = false := by decide +kernel
example : unescapeOpt (some "\\x41".toList) = .ok (some ['A']) := by
  rw [String.toList_ofList]
  decide +kernel

/-- **C17 (reserved characters in values are protected).**  The text written for a value — any
text — contains no character of the delimiter or of the equal tag, no brace, bracket or double
quote; what it contains beyond the harmless characters of the value is the `\\xNN` (`\\uNNNN`,
`\\UNNNNNNNN` for a reserved character above U+00FF) notation. -/
theorem C17_values_protected (d eq v : Str) (hsd : SafeSep d) (hse : SafeSep eq) (hw : WideOk d eq) :
    Clean d (escapeValue (dangerous d eq) v) ∧ Clean eq (escapeValue (dangerous d eq) v)
      ∧ Clean ['{', '}', '[', ']', '"'] (escapeValue (dangerous d eq) v) :=
  ⟨escapeValue_clean_sep d eq d v hsd (fun _ h => List.mem_append_left _ h) hw,
   escapeValue_clean_sep d eq eq v hse (fun _ h => List.mem_append_right _ h) hw,
   escapeValue_clean _ _ v (by decide)
     (fun ch h => List.mem_append_left _ (List.mem_append_left _
       ((by decide : ∀ ch ∈ ['{', '}', '[', ']', '"'], ch ∈ ['{', '}', '[', ']', '"', '\\']) ch h)))
     (Or.inr (by decide))⟩

/-- **C17 (nested mappings serialise).**  On every tree of mappings, lists and scalars in which no
list directly contains `None`, with every setting of the flags, `serialize_dict` raises nothing.
(`capitalize_* ≠ 0` on text outside ASCII is outside the modelled case tables: the model then
answers `Unsupported`, never a Python exception.) -/
theorem C17_nested_serialises (c : SCfg) (v : Val) (lvl : Nat) (h : noNone v = true)
    (hcap : c.capK = 0 ∧ c.capV = 0) : ∃ r, ser c lvl v = .ok r := by
  cases hr : ser c lvl v with
  | ok r => exact ⟨r, rfl⟩
  | error e =>
    have := (ser_good c v lvl h e hr).2
    rcases this with h' | h'
    · exact absurd hcap.1 h'
    · exact absurd hcap.2 h'

theorem C17_nested_serialises_any_flags (c : SCfg) (v : Val) (lvl : Nat) (h : noNone v = true)
    (e : PyErr) (he : ser c lvl v = .error e) : e = .Unsupported :=
  (ser_good c v lvl h e he).1

/-- **C17 (typed values).**  `default_parse_value` types a text as `typedSpec` describes its stripped
form, wherever the model answers (`Exact`: no numeric or white-space character outside ASCII, a
decimal has at most 15 significant digits, at most 7 of them after the point, and is zero or at
least `0.0001`). -/
theorem C17_ini_value_typing (raw : Str) (h : Exact (stripWs raw)) :
    parseValue raw = .ok (typedSpec (stripWs raw)) :=
  parseValue_spec raw h

/-- **C17 (which texts are numbers).**  A stripped text `t` comes back
* as the integer it spells when it is `[+-]digits`;
* as the decimal it spells (its `repr`: no superfluous zeros) when it is `[+-]digits.digits` with a
  digit on at least one side of the point;
* without its quotes when it starts and ends with the same quote (and is at least two characters long);
* unchanged otherwise — also when `isnumber` lets it through but it is no literal (`.`, `- 5`:
  fix C17-f). -/
theorem C17_ini_typing_cases (t : Str) :
    (isIntLit t = true → typedSpec t = .int (intVal t)) ∧
    (isIntLit t = false → ∀ ip fp, decParts t = some (ip, fp) →
        typedSpec t = .flt (decLexeme (isNeg t) ip fp)) ∧
    (isIntLit t = false → decParts t = none → isQuoted t = true →
        typedSpec t = .str (t.drop 1).dropLast) ∧
    (isIntLit t = false → decParts t = none → isQuoted t = false → typedSpec t = .str t) := by
  refine ⟨?_, ?_, ?_, ?_⟩
  · intro h; simp [typedSpec, h]
  · intro h ip fp hd; simp [typedSpec, h, hd]
  · intro h hd hq; simp [typedSpec, h, hd, textOf, hq]
  · intro h hd hq; simp [typedSpec, h, hd, textOf, hq]

/-- an integer value of the mapping is written as its digits and comes back as itself; a text value
comes back as its stripped text, typed -/
theorem C17_ini_loaded (i : Int) (s : Str) :
    loaded (.int i) = .int i ∧ loaded (.str s) = typedSpec (stripWs s) :=
  ⟨loaded_int i, rfl⟩

/-- **C17 (INI round trip, lines).**  For every non-empty equal tag and every mapping whose keys are
non-empty stripped ASCII names that contain no character of the equal tag, start no comment and do
not end with `+`, and whose values are scalars on whose printed form the model answers: parsing the
lines `key eq value` that `save_file` writes gives the dictionary built from the upper-cased keys
and the typed values (a later entry with the same upper-cased key replaces the value at the place
of the first, as `dict` does). -/
theorem C17_ini_roundtrip_scalars (eq : Str) (m : List (Str × Val)) (heq : eq ≠ [])
    (hm : ∀ kv ∈ m, IniKey eq kv.1 ∧ kv.1.getLast? ≠ some '+' ∧ Exact (stripWs (pyStr kv.2))) :
    parseIni eq (iniLines eq m) = .ok (dictOfPairs (m.map (fun kv => (upper kv.1, loaded kv.2)))) := by
  unfold parseIni dictOfPairs
  rw [parseFrom_iniLines eq heq m hm [], List.foldl_map]

/-- **C17 (INI round trip).**  The statement's case: text keys, values that are integers or texts.
The mapping loads back with upper-cased keys, integers as integers, and every text typed as
`C17_ini_typing_cases` says (a text that spells a number loads as that number). -/
theorem C17_ini_roundtrip (eq : Str) (m : List (Str × Val)) (heq : eq ≠ [])
    (hk : ∀ kv ∈ m, IniKey eq kv.1 ∧ kv.1.getLast? ≠ some '+') (hv : ∀ kv ∈ m, IniValue kv.2) :
    parseIni eq (iniLines eq m) = .ok (dictOfPairs (m.map (fun kv => (upper kv.1, loaded kv.2)))) :=
  C17_ini_roundtrip_scalars eq m heq
    (fun kv h => ⟨(hk kv h).1, (hk kv h).2, (hv kv h).exact⟩)

/-- the same when the upper-cased keys are pairwise different: entry by entry, in order -/
theorem C17_ini_roundtrip_unique (eq : Str) (m : List (Str × Val)) (heq : eq ≠ [])
    (hk : ∀ kv ∈ m, IniKey eq kv.1 ∧ kv.1.getLast? ≠ some '+') (hv : ∀ kv ∈ m, IniValue kv.2)
    (hu : (m.map (fun kv => upper kv.1)).Nodup) :
    parseIni eq (iniLines eq m) = .ok (m.map (fun kv => (upper kv.1, loaded kv.2))) := by
  rw [C17_ini_roundtrip eq m heq hk hv, dictOfPairs_nodup _ (by rw [List.map_map]; exact hu)]

/-- **C17 (INI round trip through the file).**  When moreover no key, no printed value and the equal
tag contain a line break, reading the text `save_file` writes (`'\n'.join(lines)`) line by line,
as `load_lines` does, gives those lines back, so `load_ini(save_file(m))` is the same dictionary. -/
theorem C17_ini_file_roundtrip (eq : Str) (m : List (Str × Val)) (heq : eq ≠ [])
    (hm : ∀ kv ∈ m, IniKey eq kv.1 ∧ kv.1.getLast? ≠ some '+' ∧ Exact (stripWs (pyStr kv.2)))
    (hkl : ∀ kv ∈ m, ∀ c ∈ kv.1, c ≠ '\n' ∧ c ≠ '\r') (hel : ∀ c ∈ eq, c ≠ '\n' ∧ c ≠ '\r')
    (hvl : ∀ kv ∈ m, ∀ c ∈ pyStr kv.2, c ≠ '\n' ∧ c ≠ '\r') :
    loadIni eq (iniText eq m) = .ok (dictOfPairs (m.map (fun kv => (upper kv.1, loaded kv.2)))) := by
  unfold loadIni iniText
  rw [readLines_join _ (iniLines_line_ok eq heq m hkl hel hvl)]
  exact C17_ini_roundtrip_scalars eq m heq hm

/-- **C17 (`+=` concatenation).**  After any lines that parsed to `acc`, a line `K+=value` — with or
without blanks between the key and `+` (fix C17-g) — appends the printed typed value to the printed
value already stored under `K` (the result is a text, also when both were numbers); on a key not
seen before it stores the value behind the marker character `\x16`. -/
theorem C17_ini_concat (eq k ws raw : Str) (lines : List Str) (acc : List (Str × Val)) (heq : eq ≠ [])
    (hk : IniKey eq k) (hws : Blanks eq ws) (hplus : '+' ∉ eq) (hv : Exact (stripWs raw))
    (hacc : parseIni eq lines = .ok acc) :
    parseIni eq (lines ++ [k ++ ws ++ ['+'] ++ eq ++ raw]) =
      .ok (match Val.lookup (upper k) acc with
           | some old => dictSet (upper k) (.str (pyStr old ++ pyStr (typedSpec (stripWs raw)))) acc
           | none => dictSet (upper k) (.str (marker :: pyStr (typedSpec (stripWs raw)))) acc) := by
  unfold parseIni at hacc ⊢
  rw [parseFrom_append, hacc]
  simp only [parseFrom]
  obtain ⟨hig, hpl⟩ := parseLine_key eq (k ++ ws ++ ['+']) raw heq (iniKey_plus eq k ws hk hws hplus) hv
  unfold stepLine
  rw [hig, hpl]
  simp only [Bool.false_eq_true, ↓reduceIte]
  have hup : upper (k ++ ws ++ ['+']) = upper k ++ upper ws ++ ['+'] := by
    simp [upper, toUpperAscii]
  rw [hup, store_plus _ _ _ _ (upper_key_last k hk.stripped) (upper_blanks ws (fun c hc => (hws c hc).1))]
  cases Val.lookup (upper k) acc <;> rfl

/-- `K=a` followed by `K+=b` gives the printed `a` followed by the printed `b` -/
theorem C17_ini_concat_seen (eq k ws a b : Str) (heq : eq ≠ []) (hk : IniKey eq k)
    (hnp : k.getLast? ≠ some '+') (hws : Blanks eq ws) (hplus : '+' ∉ eq)
    (ha : Exact (stripWs a)) (hb : Exact (stripWs b)) :
    parseIni eq [k ++ eq ++ a, k ++ ws ++ ['+'] ++ eq ++ b] =
      .ok [(upper k, .str (pyStr (typedSpec (stripWs a)) ++ pyStr (typedSpec (stripWs b))))] := by
  have h1 : parseIni eq [k ++ eq ++ a] = .ok [(upper k, typedSpec (stripWs a))] := by
    have := C17_ini_roundtrip_scalars eq [(k, .str a)] heq (by
      intro kv hkv; simp only [List.mem_singleton] at hkv; subst hkv; exact ⟨hk, hnp, ha⟩)
    simp only [iniLines, List.map, dictOfPairs, List.foldl, dictSet, loaded] at this
    exact this
  have := C17_ini_concat eq k ws b [k ++ eq ++ a] _ heq hk hws hplus hb h1
  simp only [List.cons_append, List.nil_append] at this
  rw [this]
  simp [Val.lookup, dictSet]

/-- `K+=b` on a key not seen before gives the marker followed by the printed `b` -/
theorem C17_ini_concat_unseen (eq k ws b : Str) (heq : eq ≠ []) (hk : IniKey eq k)
    (hws : Blanks eq ws) (hplus : '+' ∉ eq) (hb : Exact (stripWs b)) :
    parseIni eq [k ++ ws ++ ['+'] ++ eq ++ b] =
      .ok [(upper k, .str (marker :: pyStr (typedSpec (stripWs b))))] := by
  have := C17_ini_concat eq k ws b [] [] heq hk hws hplus hb rfl
  simp only [List.nil_append] at this
  rw [this]
  simp [Val.lookup, dictSet]

/-- **C17 (comments and blank lines are ignored).**  Lines that are blank after `lstrip()` or start
(after leading white space) with `#` or `//` can be removed, wherever they stand, without changing
the result — errors of other lines included. -/
theorem C17_ini_comments_ignored (eq : Str) (lines : List Str) :
    parseIni eq (lines.filter (fun l => !isIgnored l)) = parseIni eq lines :=
  parseFrom_filter eq lines []

/-- the same for one comment line between any two groups of lines -/
theorem C17_ini_comment_line_ignored (eq : Str) (pre post : List Str) (c : Str) (hc : isIgnored c = true) :
    parseIni eq (pre ++ c :: post) = parseIni eq (pre ++ post) := by
  rw [← C17_ini_comments_ignored eq (pre ++ c :: post), ← C17_ini_comments_ignored eq (pre ++ post)]
  simp [List.filter_append, hc]

/-! ## counter-examples and limits (the model exhibits them; the harness replays them) -/

/-- fixed finding C17-e: text outside ASCII survives `unescape` (the unfixed code gives `{'k':'Ã©'}` for
`{'k':'é'}`), and so does a reserved character above U+00FF (the unfixed code writes it `\\x20ac`) -/
theorem C17_nonascii_example :
    dictRoundTrip [';'] ['='] (flatVal .plain [(['k'], ['é', '€', ';'])]) = some [(['k'], some ['é', '€', ';'])]
    ∧ serializeDict ['€'] ['='] (flatVal .plain [(['k'], ['a', '€', 'é'])])
        = .ok (some ['k', '=', 'a', '\\', 'u', '2', '0', 'a', 'c', 'é'])
    ∧ dictRoundTrip ['€'] ['='] (flatVal .plain [(['k'], ['a', '€', 'é'])]) = some [(['k'], some ['a', '€', 'é'])] := by
  decide +kernel

/-- a list that directly contains `None` makes `serialize_dict` raise `TypeError` (`str += None`);
outside the statement (it speaks of nested mappings): hence the hypothesis `noNone` -/
theorem C17_list_none_cex :
    serializeDict [';'] ['='] (.dict .plain [(['a'], .list .plain [.none])]) = .error .TypeError := by
  decide +kernel

/-- fixed finding C17-j: with escapes *and* maxsplit the requested number of real cuts is made (the unfixed
code returns this text unsplit, `['a;b;c;d']`: the escaped delimiter uses up the only split) -/
theorem C17_maxsplit_escape_example :
    splitWithEscape "a\\;b;c;d".toList [';'] 1 (some '\\') true = .ok ["a;b".toList, "c;d".toList] := by
  repeat rw [String.toList_ofList]
  decide +kernel

/-! ## maxsplit counts real cuts — finding C17-j, fixed

"With an escape character, a delimiter preceded by an odd run of escapes stays inside its item and
the result never depends on neighbouring items … (maxsplit included)".  The reference `splitRef`
(`Model/Esc.lean`) scans the characters once and counts only REAL cuts.  The code splits with
`str.split(delimiter, maxsplit)` first, so on the unfixed code an *escaped* delimiter among the first `maxsplit`
occurrences uses up one split (its guard for this case, `if maxsplit and maxsplit+1 < len(separated_items) and
delimiter in separated_items[-1]`, can never fire).  Fix C17-j splits the raw remainder once more before every join; the full
statement is `C17_split_maxsplit_real_cuts`. -/

/-- **C17-j (fixed): the witnesses of the finding.**  `'\;;'` with maxsplit 1 makes its one real cut (unfixed:
unsplit), `'a\;b;c;d'` is cut twice with maxsplit 2 and once with maxsplit 1 (unfixed: `['a;b', 'c;d']` and
`['a;b;c;d']`): the boundary `c;d` does not depend on the escape in the neighbouring item. -/
theorem C17_split_maxsplit_real_cuts_witnesses :
    splitWithEscape ['\\', ';', ';'] [';'] 1 (some '\\') true = .ok [[';'], []] ∧
    splitWithEscape [';'] [';'] 1 (some '\\') true = .ok [[], []] ∧
    splitWithEscape ['a', '\\', ';', 'b', ';', 'c', ';', 'd'] [';'] 2 (some '\\') true
      = .ok [['a', ';', 'b'], ['c'], ['d']] ∧
    splitWithEscape ['a', '\\', ';', 'b', ';', 'c', ';', 'd'] [';'] 1 (some '\\') true
      = .ok [['a', ';', 'b'], ['c', ';', 'd']] ∧
    splitWithEscape ['a', '\\', ';', 'b', '\\', ';', 'c', ';', 'd', ';', 'e'] [';'] 2 (some '\\') true
      = .ok [['a', ';', 'b', ';', 'c'], ['d'], ['e']] := by
  decide +kernel

/-- without maxsplit (`None` / `0`) -/
theorem C17_split_real_cuts_no_maxsplit (s d : Str) (e : Char) (tr : Bool) (hd : d ≠ []) :
    splitWithEscape s d 0 (some e) tr = splitRef s d 0 (some e) tr :=
  C17_split_maxsplit_real_cuts s d 0 e tr hd

/-- inside the class the result is NOT the walk over the pieces of `str.split(d, maxsplit)`
(the hypothesis of `C17_general_spec` is needed) -/
theorem C17_general_spec_needs_class :
    splitWithEscape ['\\', ';', ';'] [';'] 1 (some '\\') true
      ≠ .ok (specG '\\' [';'] true [] (splitMax [';'] 1 ['\\', ';', ';'])) := by
  decide +kernel

-- non-vacuity of the hypothesis of `C17_general_spec`: a limited split outside the class (the escaped delimiter comes
-- after the budget is used up / no escape at all), and the witnesses of the fixed finding inside it
example : escWithin '\\' [';'] (limOf 1) 0 [] ['a', ';', 'b', '\\', ';', 'c', ';', 'd'] = false := by decide +kernel
example : escWithin '\\' [';'] (limOf 2) 0 [] ['a', ';', 'b', ';', 'c'] = false := by decide +kernel
example : escWithin '\\' [';'] (limOf 1) 0 [] ['\\', ';', ';'] = true := by decide +kernel
example : escWithin '\\' [';'] (limOf 2) 0 [] ['a', '\\', ';', 'b', ';', 'c', ';', 'd'] = true := by decide +kernel

-- the code and the reference (no maxsplit; no escaped delimiter among the first maxsplit delimiters; inside the
-- class; delimiter of two characters; escape-free text)
example : splitWithEscape ['a', '\\', ';', 'b', ';', 'c', ';', 'd'] [';'] 0 (some '\\') true
    = splitRef ['a', '\\', ';', 'b', ';', 'c', ';', 'd'] [';'] 0 (some '\\') true := by decide +kernel
example : splitWithEscape ['a', ';', 'b', '\\', ';', 'c', ';', 'd'] [';'] 1 (some '\\') true
    = splitRef ['a', ';', 'b', '\\', ';', 'c', ';', 'd'] [';'] 1 (some '\\') true := by decide +kernel
example : splitWithEscape ['a', '\\', ';', 'b', ';', 'c', ';', 'd'] [';'] 2 (some '\\') false
    = splitRef ['a', '\\', ';', 'b', ';', 'c', ';', 'd'] [';'] 2 (some '\\') false := by decide +kernel
example : splitWithEscape ['a', '!', '!', ':', 'b', '!', ':', 'c', '!', ':', 'd'] ['!', ':'] 1 (some '!') true
    = .ok [['a', '!', ':', 'b'], ['c', '!', ':', 'd']] := by decide +kernel
example : splitRef ['a', '!', '!', ':', ':', 'b', '!', ':', ':', 'c'] [':', ':'] 0 (some '!') true
    = .ok [['a', '!'], ['b', ':', ':', 'c']] := by decide +kernel
example : splitRef ['a', ';', 'b', ';', 'c'] [';'] 1 (some '\\') false = .ok [['a'], ['b', ';', 'c']] := by decide +kernel
example : splitRef ['a'] [] 1 (some '\\') false = .error .ValueError := by decide +kernel

example : splitWithEscape "\\\\IT\\EM1\\;\\\\IT\\EM2;\\ITE\\\\M3\\\\;ITE\\M4\\\\".toList [';'] 0 (some '\\') true
    = .ok ["\\\\IT\\EM1;\\\\IT\\EM2".toList, "\\ITE\\\\M3\\".toList, "ITE\\M4\\".toList] := by
  repeat rw [String.toList_ofList]
  decide +kernel
example : splitWithEscape ['\\'] [';'] 0 (some '\\') true = .ok [['\\']] := by decide +kernel
example : splitWithEscape [';', '\\', '\\'] [';'] 0 (some '\\') true = .ok [[], ['\\']] := by decide +kernel
example : splitWithEscape "a!!;b!;c".toList [';'] 0 (some '!') true = .ok ["a!".toList, "b;c".toList] := by
  repeat rw [String.toList_ofList]
  decide +kernel
example : ([';'] : Str).getLast? ≠ some '\\' := by decide +kernel
example : run '\\' "ab\\\\".toList % 2 ≠ 1 := by
  rw [String.toList_ofList]
  decide +kernel
example : splitWithEscape "a;b;c".toList [] 2 (some '\\') true = pySplit [] 2 "a;b;c".toList := by
  rw [String.toList_ofList]
  decide +kernel
example : pySplit [';'] 2 "a;b;c;d".toList = .ok ["a".toList, "b".toList, "c;d".toList] := by
  repeat rw [String.toList_ofList]
  decide +kernel
example : deserializeList "a;;b c".toList [';'] true (some '\\') = .ok ["a".toList, [], "b c".toList] := by
  repeat rw [String.toList_ofList]
  decide +kernel
example : Clean [';'] "b c".toList := by
  rw [String.toList_ofList]
  decide +kernel
example : keyValue ['='] none (some ['D']) "key".toList = .ok ("key".toList, some ['D']) := by
  rw [String.toList_ofList]
  decide +kernel
example : SafeSep [';'] ∧ SafeSep ['=', '>'] ∧ SafeSep ['€'] := by decide +kernel
example : WideOk [';'] ['='] ∧ WideOk ['u'] ['é'] ∧ WideOk ['€', ';'] ['=', '>'] ∧ ¬ WideOk ['€'] ['u'] := by
  decide +kernel
example : escapeValue (dangerous [';'] ['=']) "a=b;{".toList = "a\\x3db\\x3b\\x7b".toList := by
  rw [String.toList_ofList, String.toList_ofList]
  decide +kernel
example : dictRoundTrip [';'] ['='] (flatVal .n0 [(['k'], "a;b={\\}\"".toList), ([], [])])
    = some [(['k'], some "a;b={\\}\"".toList), ([], some [])] := by
  rw [String.toList_ofList]
  decide +kernel
example : serializeDict [';'] ['='] (.dict .plain [(['k'], .str []), (['j'], .dict .plain [(['a'], .int 1)])])
    = .ok (some "k=;j={a=1}".toList) := by
  rw [String.toList_ofList]
  decide +kernel
example : noNone (.dict .plain [(['k'], .none), (['j'], .list .plain [.dict .plain []])]) = true := by decide +kernel

-- the docstring of `parse_ini`
example : parseIni ['='] ["// Ini file".toList, "KEY1 =VALUE1".toList, "# KEY2=VALUE2".toList, "KEY3= VALUE3".toList]
    = .ok [("KEY1".toList, .str "VALUE1".toList), ("KEY3".toList, .str "VALUE3".toList)] := by
  repeat rw [String.toList_ofList]
  decide +kernel
example : parseValue [' ', '1', '2', ' '] = .ok (.int 12) := by decide +kernel
example : parseValue ['-', '0', '7'] = .ok (.int (-7)) := by decide +kernel
example : parseValue ['+', '1', '.', '5', '0'] = .ok (.flt ['1', '.', '5']) := by decide +kernel
example : parseValue ['-', '.', '5'] = .ok (.flt ['-', '0', '.', '5']) := by decide +kernel
example : parseValue ['5', '.'] = .ok (.flt ['5', '.', '0']) := by decide +kernel
example : parseValue ['"', ' ', 'q', '"'] = .ok (.str [' ', 'q']) := by decide +kernel
example : parseValue ['\'', '1', '\''] = .ok (.str ['1']) := by decide +kernel
example : parseValue ['.'] = .ok (.str ['.']) := by decide +kernel          -- fix C17-f
example : parseValue ['-', ' ', '5'] = .ok (.str ['-', ' ', '5']) := by decide +kernel
example : parseValue ['1', 'e', '3'] = .ok (.str ['1', 'e', '3']) := by decide +kernel
example : parseValue ['é'] = .ok (.str ['é']) := by decide +kernel
-- outside `Exact` the model does not answer: long decimals, digits outside ASCII
example : parseValue ['1', '.', '1', '2', '3', '4', '5', '6', '7', '8'] = .error .Unsupported := by decide +kernel
example : parseValue ['0', '.', '0', '0', '0', '0', '1'] = .error .Unsupported := by decide +kernel
example : parseValue ['²'] = .error .Unsupported := by decide +kernel
example : Exact (stripWs [' ', '1', '.', '5', '0']) := exact_of _ (by decide +kernel) (by decide +kernel)
example : Exact (stripWs ['é', '"']) := exact_of _ (by decide +kernel) (by decide +kernel)
example : isIntLit ['+', '5'] = true ∧ decParts ['-', '.', '5'] = some ([], ['5'])
    ∧ isQuoted ['"', '"'] = true ∧ isQuoted ['"'] = false := by decide +kernel
example : IniKey ['='] "Key 1".toList ∧ IniKey ['=', '>'] "x.y/#".toList ∧ IniKey ['='] ['/'] := by
  rw [String.toList_ofList, String.toList_ofList]
  exact ⟨⟨by decide +kernel, by decide +kernel, by decide +kernel, by decide +kernel, by decide +kernel, by decide +kernel⟩,
   ⟨by decide +kernel, by decide +kernel, by decide +kernel, by decide +kernel, by decide +kernel, by decide +kernel⟩,
   ⟨by decide +kernel, by decide +kernel, by decide +kernel, by decide +kernel, by decide +kernel, by decide +kernel⟩⟩
example : IniValue (.int (-3)) ∧ IniValue (.str " 1.50".toList) ∧ IniValue (.str "'x' ".toList) := by
  rw [String.toList_ofList, String.toList_ofList]
  exact ⟨.int _, .text _ (exact_of _ (by decide +kernel) (by decide +kernel)),
   .text _ (exact_of _ (by decide +kernel) (by decide +kernel))⟩
example : parseIni ['='] (iniLines ['='] [("Key".toList, .int (-3)), ("b_1".toList, .str " 1.50".toList),
      ("n".toList, .str "'x' ".toList), ("key".toList, .str "12".toList)])
    = .ok [("KEY".toList, .int 12), ("B_1".toList, .flt "1.5".toList), ("N".toList, .str ['x'])] := by
  repeat rw [String.toList_ofList]
  decide +kernel
example : loadIni ['='] (iniText ['='] [("a".toList, .int 1), ("b".toList, .str "x=y".toList)])
    = .ok [("A".toList, .int 1), ("B".toList, .str "x=y".toList)] := by
  repeat rw [String.toList_ofList]
  decide +kernel
example : readLines "a=1\r\n\rb=2\n\nc".toList = ["a=1".toList, [], "b=2".toList, [], ['c']] := by
  repeat rw [String.toList_ofList]
  decide +kernel
example : Blanks ['='] [' ', '\t'] ∧ Blanks ['='] [] := by constructor <;> (unfold Blanks; decide +kernel)
example : parseIni ['='] ["k=a".toList, "k+=b".toList, "K +=c".toList] = .ok [(['K'], .str "abc".toList)] := by
  repeat rw [String.toList_ofList]
  decide +kernel
example : parseIni ['='] ["k=1".toList, "k+=2.50".toList] = .ok [(['K'], .str "12.5".toList)] := by
  repeat rw [String.toList_ofList]
  decide +kernel
example : parseIni ['='] ["k+= b".toList] = .ok [(['K'], .str [marker, 'b'])] := by
  rw [String.toList_ofList]
  decide +kernel
example : isIgnored "  # k=v".toList = true ∧ isIgnored "\t//k=v".toList = true ∧ isIgnored " \t".toList = true
    ∧ isIgnored "/ k=v".toList = false ∧ isIgnored "k#=v".toList = false := by
  repeat rw [String.toList_ofList]
  decide +kernel

/-! ## second tie: the definitions regenerated from the source of `split_with_escape` (`Gen/EscPy.lean`) -/

/-- **generated `for` loop = model scan**: the `for … in enumerate(separated_items[start:-1])` over the translated loop
body is `Esc.forScan` (same `break` with the same glued list and new `start_from_item`, same exhaustion, same
exception), for every snapshot of a slice that lies inside the list (`hlen`; the translated item store `l[i] = v` raises
`IndexError` outside the list, the model's `List.set` does not — inside the `while` loop the slice always lies inside:
`C17_generated_while_eq` has no such hypothesis). -/
theorem C17_generated_for_eq (s d : Str) (m : Nat) (e : Char) (tr : Bool) (hd : d ≠ []) (start : Nat)
    (snap : List Str) (i : Nat) (items : List Str) (hlen : snap.length = 0 ∨ start + i + snap.length ≤ items.length) :
    Gen.EscPy.forEnum (Gen.EscPy.forBody s d m e tr) snap i ⟨items, start⟩
      = (forScan ⟨e, d, tr, m⟩ start snap i items).map (EscGenEq.viewFor start) :=
  EscGenEq.forEnum_eq s d m e tr hd start snap i items hlen

/-- **generated `else` block of the `for` = `Esc.finalTrim`** (trim of the last item, then the `break` out of the `while`) -/
theorem C17_generated_else_eq (s d : Str) (m : Nat) (e : Char) (tr : Bool) (items : List Str) (start : Nat) :
    Gen.EscPy.forElse s d m e tr ⟨items, start⟩
      = (finalTrim ⟨e, d, tr, m⟩ items).map (fun l => Gen.EscPy.Ctl.brk ⟨l, start⟩) :=
  EscGenEq.forElse_eq s d m e tr items start

/-- **generated `while True:` = `Esc.whileLoop`**, for every fuel -/
theorem C17_generated_while_eq (s d : Str) (m : Nat) (e : Char) (tr : Bool) (hd : d ≠ []) (fuel : Nat)
    (items : List Str) (start : Nat) :
    (Gen.EscPy.whileTrue (Gen.EscPy.round s d m e tr) fuel ⟨items, start⟩).map (·.f0)
      = whileLoop ⟨e, d, tr, m⟩ fuel items start :=
  EscGenEq.whileTrue_eq s d m e tr hd fuel items start

/-- **generated function = model**: the Lean text regenerated from the source of `split_with_escape` equals the
hand-written `Esc.splitWithEscapeD`, for every fuel, text, delimiter (the empty one included: `ValueError`),
maxsplit, escape character (`none` included) and trim flag. -/
theorem C17_generated_split_eq (s d : Str) (m : Nat) (esc : Option Char) (tr : Bool) (fuel : Nat) :
    Gen.EscPy.splitWithEscape s d m esc tr fuel = splitWithEscapeD fuel s d m esc tr :=
  EscGenEq.splitWithEscape_eq s d m esc tr fuel

/-- **C17 for the translated code**: with fuel `|s| + 2` the regenerated function is the character-level reference. -/
theorem C17_generated_split_is_reference (s d : Str) (m : Nat) (e : Char) (tr : Bool) (hd : d ≠ []) :
    Gen.EscPy.splitWithEscape s d m (some e) tr (fuelFor s) = .ok (refAux e d tr (limOf m) 0 [] s) := by
  rw [C17_generated_split_eq]; exact C17_split_is_reference s d m e tr hd

-- non-vacuity: an odd run glued (with the maxsplit re-split), an even run halved, the last item trimmed
example : Gen.EscPy.forEnum (Gen.EscPy.forBody [] [';'] 1 '\\' true) [['a', '\\']] 0 ⟨[['a', '\\'], ['b', ';', 'c']], 0⟩
    = .ok (.brk ⟨[['a', ';', 'b'], ['c']], 0⟩) := by decide +kernel
example : Gen.EscPy.forEnum (Gen.EscPy.forBody [] [';'] 0 '\\' true) [['a', '\\', '\\'], ['b']] 0 ⟨[['a', '\\', '\\'], ['b'], []], 0⟩
    = .ok (.cont ⟨[['a', '\\'], ['b'], []], 0⟩) := by decide +kernel
-- `hlen` holds on the first example (the slice `items[0:-1]`), and is needed: a store outside the list raises in the translated code
example : ([['a', '\\']] : List Str).length = 0 ∨ 0 + 0 + ([['a', '\\']] : List Str).length ≤ ([['a', '\\'], ['b', ';', 'c']] : List Str).length := by decide +kernel
example : Gen.EscPy.forEnum (Gen.EscPy.forBody [] [';'] 0 '\\' true) [['a', '\\', '\\']] 0 ⟨[], 0⟩ = .error .IndexError
    ∧ forScan ⟨'\\', [';'], true, 0⟩ 0 [['a', '\\', '\\']] 0 [] = .ok (.exhausted []) := ⟨by decide +kernel, rfl⟩
example : Gen.EscPy.forElse [] [';'] 0 '\\' true ⟨[['a'], ['b', '\\', '\\', '\\']], 1⟩ = .ok (.brk ⟨[['a'], ['b', '\\', '\\']], 1⟩) := by
  decide +kernel
example : (Gen.EscPy.whileTrue (Gen.EscPy.round [] [';'] 0 '\\' true) 3 ⟨[['a', '\\'], ['b', '\\'], ['c', '\\', '\\']], 0⟩).map (·.f0)
    = .ok [['a', ';', 'b', ';', 'c', '\\']] := by decide +kernel
example : Gen.EscPy.splitWithEscape "a\\;b;c;d".toList [';'] 1 (some '\\') true 10 = .ok ["a;b".toList, "c;d".toList]
    ∧ Gen.EscPy.splitWithEscape ['a'] [] 0 (some '\\') true 3 = .error .ValueError
    ∧ Gen.EscPy.splitWithEscape "a\\;b".toList [';'] 0 none true 3 = .ok ["a\\".toList, ['b']] := by
  repeat rw [String.toList_ofList]
  decide +kernel

/-- **generated body of the escaping loop of `serialize_dict` = `Esc.escChar`**: one round of `for ch in in_buffer_str:`
(regenerated from the source) appends the escape notation of a reserved character / the character itself, for every
set of reserved characters, buffer and character. -/
theorem C17_generated_escape_body_eq (s d eq dang buf : Str) (c : Char) :
    Gen.EscPy.escBody s d eq dang buf c = buf ++ escChar dang c :=
  EscGenEq2.escBody_eq s d eq dang buf c

/-- **generated escaping loop = model**: the Lean text regenerated from the scalar branch of `serialize_dict` (after the
capitalisation: `dangerous_characters = …`, the `for` over the characters with the f-string formats, `return`) equals
`Esc.escapeValue (Esc.dangerous d eq) s`, for every text, delimiter and equal tag (no scope hypothesis: the region has no
other parameter). -/
theorem C17_generated_escape_eq (s d eq : Str) :
    Gen.EscPy.escapeLoop s d eq = escapeValue (dangerous d eq) s :=
  EscGenEq2.escapeLoop_eq s d eq

-- non-vacuity: a reserved ASCII character (\x3b), a reserved character above U+00FF used as equal tag (\u20ac), one
-- above U+FFFF used as delimiter (\U0001f600), an unreserved character kept
example : Gen.EscPy.escapeLoop "a;b{".toList [';'] ['='] = "a\\x3bb\\x7b".toList := by
  rw [String.toList_ofList, String.toList_ofList]
  decide +kernel
example : Gen.EscPy.escapeLoop ['x', Char.ofNat 0x20ac, Char.ofNat 0x1f600, 'y'] [Char.ofNat 0x1f600] [Char.ofNat 0x20ac]
    = "x\\u20ac\\U0001f600y".toList := by
  rw [String.toList_ofList]
  decide +kernel
example : Gen.EscPy.escBody [] [] [] ['='] ['k'] '=' = "k\\x3d".toList
    ∧ Gen.EscPy.escBody [] [] [] ['='] ['k'] 'v' = ['k', 'v'] := by
  rw [String.toList_ofList]
  decide +kernel

end N0.C17
