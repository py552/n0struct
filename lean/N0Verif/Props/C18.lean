import N0Verif.Proofs.NXmlFirst
import N0Verif.Proofs.NXmlStars
/-!
# C18 — n0xml keeps document order and its searches return only real nodes

The property statements with their example documents and test vectors.  The model (`Model/NXml.lean`) follows
`n0struct_xml.py` with fixes C18-a, C18-b, C18-c, C18-d, C18-e applied; its input is the element tree ElementTree reports (the
XML parser is trusted).
-/
namespace N0.C18
open N0 N0.Py N0.NXml

/-! ### a document used by the non-vacuity examples:
`<r><a>x</a><b><a>1</a><c/></b><a y="2">z</a></r>` -/
def s (x : String) : Str := x.toList

/-- For the kernel a string literal is `String.ofList` of its characters, so this rewrites `s "…"` to the list of characters
without computing anything; unfolding `String.toList` would decode the UTF-8 bytes of the literal, which dwarfs the functions
under test.  The examples with long literals rewrite with it before they evaluate. -/
theorem s_ofList (l : List Char) : s (String.ofList l) = l := String.toList_ofList

def exDoc : Elem :=
  .mk (s "r") none [] [
    .mk (s "a") (some (s "x")) [] [],
    .mk (s "b") none [] [.mk (s "a") (some (s "1")) [] [], .mk (s "c") none [] []],
    .mk (s "a") (some (s "z")) [(s "y", s "2")] []]

/-- **C18 (parse).**  The structure n0xml builds has, in document order, exactly the
elements ElementTree reports below the root: depth, tag, attributes, and the text of every
element without children (n0xml does not keep the text of elements that have children). -/
theorem C18_parse_preserves (e : Elem) : flatVal 0 (parseNode e) = flatKids 0 e.kids := by
  cases e with
  | mk tag text attrib kids => simp [parseNode, flatVal, flat_parseKids, Elem.kids]

example : flatVal 0 (parseNode exDoc) =
    [⟨0, s "a", [], some (some (s "x"))⟩, ⟨0, s "b", [], none⟩, ⟨1, s "a", [], some (some (s "1"))⟩,
     ⟨1, s "c", [], some none⟩, ⟨0, s "a", [(s "y", s "2")], some (some (s "z"))⟩] := by decide +kernel

/-- **C18 (get).**  `get` with explicit per-tag indexes (`tag[k]` at every step, list form)
returns exactly the stored value of the ElementTree element at that position, and the default
(`none`) when there is no such element. -/
theorem C18_get_positional (e : Elem) (st : Str × Nat) (p : List (Str × Nat))
    (hp : ∀ q ∈ st :: p, goodTag q.1 = true) :
    getL (parseNode e) ((st :: p).map renderStep) = .ok ((elemAt e (st :: p)).map valueOf) := by
  rw [List.map_cons, getL_parseNode]
  exact getL_valueOf e (st :: p) hp

example : getL (parseNode exDoc) ([(s "b", 0), (s "a", 0)].map renderStep) = .ok (some (.text (some (s "1")))) := by decide +kernel
example : getL (parseNode exDoc) ([(s "a", 1)].map renderStep) = .ok (some (.text (some (s "z")))) := by decide +kernel
example : getL (parseNode exDoc) ([(s "a", 2)].map renderStep) = .ok none := by decide +kernel
example : getL (parseNode exDoc) ([(s "b", 0), (s "c", 0), (s "a", 0)].map renderStep) = .ok none := by decide +kernel

/-- **C18 (findall resolves).**  Every `(path, value)` pair `findall` returns — any expression
(any list of steps: names, `*`, `**`, indexes, `text()` conditions, `..`), both `find_first`
modes — resolves through `get` to that same value.  Tags of the document must be addressable
(`goodV`: no `/`, no `[`). -/
theorem C18_findall_resolves (findFirst : Bool) (root : XVal) (hg : goodV root = true)
    (sought : List Str) (hs : List Hit) (h : findallL findFirst root sought = .ok (some hs)) :
    ∀ p ∈ hs, getL root p.1 = .ok (some p.2) :=
  findallL_resolves findFirst root hg sought hs h

/-- the same for the string form of the expression -/
theorem C18_findall_resolves_str (findFirst : Bool) (e : Elem) (hg : goodV (parseNode e) = true)
    (xp : Str) (hs : List Hit) (h : findall findFirst (parseNode e) xp = .ok (some hs)) :
    ∀ p ∈ hs, getL (parseNode e) p.1 = .ok (some p.2) :=
  findallL_resolves findFirst (parseNode e) hg (xpSteps xp) hs h

example : goodV (parseNode exDoc) = true := by decide +kernel
example : findall false (parseNode exDoc) (s "**/a[text()!=z]/../c") =
    .ok (some [([s "b", s "c"], .text none)]) := by
  repeat rw [s_ofList]
  decide +kernel
example : findall false (parseNode exDoc) (s "a[*]") =
    .ok (some [([s "a[0]"], .text (some (s "x"))), ([s "a[1]"], .text (some (s "z")))]) := by
  repeat rw [s_ofList]
  decide +kernel
example : findall false (parseNode exDoc) (s "../a") = .ok none := by
  rw [s_ofList]
  decide +kernel

/-- **C18 (conditions).**  For an expression made of plain steps — a name or `*`, an optional
`[i]`/`[*]`, an optional `[text() op v]` — `findall` returns exactly what the sibling-filter
semantics `selP` prescribes: at every step, in document order, exactly the siblings whose tag
matches (`tagTest`, see `C18_tagTest_plain`), whose per-tag index (`countTag`: number of earlier
siblings with the same tag) passes `idxOk` and whose value passes `condHolds`; nothing else, nothing
twice.  Unbounded in the number of steps and in the document. -/
theorem C18_conditions_exact (root : XVal) (ss : List Str) (sts : List Step)
    (h : AllSimple ss sts) : findallL false root ss = .ok (some (selP sts [] root)) :=
  findallL_simple root ss sts h

/-- for a plain step the tag test is: same tag, or the step is `*` -/
theorem C18_tagTest_plain (st : Step) (h : st.tag ≠ star2) (t : Str) :
    tagTest st t 0 = (t == st.tag || st.tag == star) := tagTest_simple st h t

/-- one step spelled out: the hits of `findall([step])` on the sibling list `items` -/
theorem C18_conditions_exact_one (items : List Item) (step : Str) (st : Step) (h : Simple step st) :
    findallL false (.nodes items) [step] =
      .ok (some (selG st 0 (fun p v => [(p, v)]) [] [] items)) := by
  rw [findallL_simple (.nodes items) [step] [st] (.cons h .nil), selP_one]

example : AllSimple [s "a[1]", s "*[text()!=none]"]
    [⟨s "a", some (some 1), none⟩, ⟨s "*", none, some (s "!=", s "none")⟩] := by
  repeat rw [s_ofList]
  exact .cons ⟨by decide +kernel, by decide +kernel, by decide +kernel⟩
    (.cons ⟨by decide +kernel, by decide +kernel, by decide +kernel⟩ .nil)
example : findallL false (parseNode exDoc) [s "a[text()!=x]"] =
    .ok (some [([s "a[1]"], .text (some (s "z")))]) := by
  repeat rw [s_ofList]
  decide +kernel
example : findallL false (parseNode exDoc) [s "*", s "a[0]"] =
    .ok (some [([s "b", s "a"], .text (some (s "1")))]) := by decide +kernel

/-- **C18 (`**`).**  `findall('**')` returns every leaf (every value that is not a list of
subnodes, i.e. the text of every element without children) exactly once, in document order, each
with its positional path; nothing for a document without elements (fix C18-b). -/
theorem C18_deep_wildcard (root : XVal) :
    findallL false root [star2] = .ok (some (leavesV [] root)) := findallL_deep root

theorem C18_deep_wildcard_str (e : Elem) :
    findall false (parseNode e) (s "**") = .ok (some (leavesV [] (parseNode e))) := by
  have : xpSteps (s "**") = [star2] := by decide +kernel
  simp [findall, this, findallL_deep]

example : leavesV [] (parseNode exDoc) =
    [([s "a"], .text (some (s "x"))), ([s "b", s "a"], .text (some (s "1"))),
     ([s "b", s "c"], .text none), ([s "a[1]"], .text (some (s "z")))] := by decide +kernel
example : findall false (parseNode (.mk (s "r") none [] [])) (s "**") = .ok (some []) := by decide +kernel

/-- what `bool(findall(...))` is -/
def nonEmpty : Option (List Hit) → Bool
  | some (_ :: _) => true
  | _ => false

/-- **C18 (findfirst).**  For **every** expression — any list of steps: names, `*`, `**`, indexes,
`text()` conditions, `..`, any length — `findfirst` is the first `findall` result, and the empty
tuple (`none`) when `findall` returns an empty list or `None`.  (Code with fix C18-d; on the
unfixed code the statement is false for a filtered `**` step directly followed by `..`.) -/
theorem C18_findfirst (root : XVal) (sought : List Str) (r : Option (List Hit))
    (h : findallL false root sought = .ok r) : findfirstL root sought = .ok (firstOf r) :=
  (findfirst_all root sought r h).1

/-- **C18 (in).**  For every expression, `xp in doc` is true exactly when `findall(xp)` is a
non-empty list (fix C18-a applied). -/
theorem C18_in_iff (root : XVal) (sought : List Str) (r : Option (List Hit))
    (h : findallL false root sought = .ok r) : containsL root sought = .ok (nonEmpty r) := by
  rw [(findfirst_all root sought r h).2.1]
  cases r with
  | none => rfl
  | some l => cases l <;> rfl

/-- with `find_first=True` `findall` returns a prefix of what it returns otherwise — `None`
exactly when the full search returns `None` — for every expression -/
theorem C18_find_first_prefix (root : XVal) (sought : List Str) (r : Option (List Hit))
    (h : findallL false root sought = .ok r) :
    ∃ r', findallL true root sought = .ok r' ∧
      ((∃ l l', r = some l ∧ r' = some l' ∧ l' <+: l) ∨ (r = none ∧ r' = none)) :=
  (findfirst_all root sought r h).2.2.1

/-- `findall` returns `None` only when a `..` leaves the node the search started from: the static
classification `kindL` of the step list says which expressions can (`false`), and then the result
is `None` or `[]`; an expression without `..` is never of that kind -/
theorem C18_findall_none (root : XVal) (sought : List Str) (r : Option (List Hit))
    (h : findallL false root sought = .ok r) :
    (kindL sought = true → r ≠ none) ∧ (kindL sought = false → r = none ∨ r = some []) ∧
    (NoUp sought → r ≠ none) :=
  ⟨(findfirst_all root sought r h).2.2.2.1, (findfirst_all root sought r h).2.2.2.2,
    fun hs => (findfirst_all root sought r h).2.2.2.1 (kindL_noUp sought hs)⟩

example : NoUp [s "**", s "a[text()!=z]"] := by
  rw [s_ofList, s_ofList]
  intro x hx
  simp at hx
  rcases hx with rfl | rfl <;> decide
example : findallL false (parseNode exDoc) [s "a[*]"] =
    .ok (some [([s "a[0]"], .text (some (s "x"))), ([s "a[1]"], .text (some (s "z")))]) := by
  repeat rw [s_ofList]
  decide +kernel
example : findallL true (parseNode exDoc) [s "a[*]"] =
    .ok (some [([s "a[0]"], .text (some (s "x")))]) := by
  repeat rw [s_ofList]
  decide +kernel

/-- `<r><a><b/><b/></a><a/></r>` -/
def cexDoc : Elem :=
  .mk (s "r") none [] [
    .mk (s "a") none [] [.mk (s "b") none [] [], .mk (s "b") none [] []],
    .mk (s "a") none [] []]

/-- the witness of finding C18-d (`**[1]/..` on `<r><a><b/><b/></a><a/></r>`): with the
fix `findall` lists both parents of a second-of-its-tag element, the first `<a>` and the root, and
`findfirst` is the first of them (before the fix `findall` returned the root only) -/
example :
    findallL false (parseNode cexDoc) [s "**[1]", s ".."]
      = .ok (some [([s "a[0]"], .nodes [(s "b", [], .text none), (s "b", [], .text none)]),
                   ([], parseNode cexDoc)]) ∧
    findfirstL (parseNode cexDoc) [s "**[1]", s ".."]
      = .ok (some ([s "a[0]"], .nodes [(s "b", [], .text none), (s "b", [], .text none)])) ∧
    filteredDeepUp [s "**[1]", s ".."] = true := by decide +kernel

example : containsL (parseNode cexDoc) [s "**[1]", s ".."] = .ok true := by
  repeat rw [s_ofList]
  decide +kernel
example : containsL (parseNode exDoc) [s "b", s "zz"] = .ok false ∧
    findallL false (parseNode exDoc) [s "b", s "zz"] = .ok (some []) := by decide +kernel
/-- an expression of the second kind (`kindL`: a `..` leaves the searched node): `None`, and `in` is false -/
example : containsL (parseNode exDoc) [s "..", s "a"] = .ok false ∧
    findallL false (parseNode exDoc) [s "..", s "a"] = .ok none ∧ kindL [s "..", s "a"] = false := by
  refine ⟨by decide +kernel, by decide +kernel, ?_⟩
  have e : s ".." = dotdot := by decide +kernel
  rw [e, kindL_up]
/-- a `..` that stays inside: first kind (a list is returned) -/
example : findallL false (parseNode exDoc) [s "b", s "a", s "..", s "c"] =
      .ok (some [([s "b", s "c"], .text none)]) ∧
    kindL [s "b", s "a", s "..", s "c"] = true := by
  refine ⟨by decide +kernel, ?_⟩
  have e : s ".." = dotdot := by decide +kernel
  have hc : s "c" ≠ dotdot := by decide +kernel
  have ha : s "a" ≠ dotdot := by decide +kernel
  have hb : s "b" ≠ dotdot := by decide +kernel
  have h1 : kindL [s "c"] = true := kindL_of_rest _ _ hc kindL_nil
  have h2 : kindL [s "..", s "c"] = false := by rw [e]; exact kindL_up _
  have h3 : kindL [s "a", s "..", s "c"] = true := by
    rw [kindL_skip _ _ ha h2]; simpa using h1
  exact kindL_of_rest _ _ hb h3
example : findfirstL (parseNode exDoc) [s "**", s "a"] = .ok (some ([s "b", s "a"], .text (some (s "1")))) := by
  decide +kernel

/-! ### the string forms

The theorems above speak about step lists (an official calling convention of `get`/`findall`); here they are lifted to the
strings the test-suite uses: result paths joined with `/`, positional paths `t1[k1]/…/tn[kn]`, expressions of the grammar. -/

/-- **C18 (get, string form).**  `get('t1[k1]/…/tn[kn]')` — the string — returns the stored value
of the ElementTree element at that position, the default when there is none (tags addressable and
not empty: `goodTagS`). -/
theorem C18_get_positional_str (e : Elem) (st : Str × Nat) (p : List (Str × Nat))
    (hp : ∀ q ∈ st :: p, goodTagS q.1 = true) :
    getS (parseNode e) (renderIdxPath (st :: p)) = .ok ((elemAt e (st :: p)).map valueOf) := by
  rw [getS_renderIdxPath _ _ hp]
  exact C18_get_positional e st p (fun q hq => goodTagS_goodTag _ (hp q hq))

example : renderIdxPath [(s "b", 0), (s "a", 0)] = s "b[0]/a[0]" := by
  repeat rw [s_ofList]
  decide +kernel
example : getS (parseNode exDoc) (s "b[0]/a[0]") = .ok (some (.text (some (s "1")))) := by
  rw [s_ofList, s_ofList]
  decide +kernel
example : getS (parseNode exDoc) (s "a[2]") = .ok none := by decide +kernel

/-- a `(path, value)` pair of the list form satisfies `get('/'.join(path)) == value` -/
theorem C18_findallL_resolves_get_str (findFirst : Bool) (root : XVal) (hg : goodVS root = true)
    (sought : List Str) (hs : List Hit) (h : findallL findFirst root sought = .ok (some hs)) :
    ∀ p ∈ hs, getS root (join ['/'] p.1) = .ok (some p.2) := fun p hp =>
  getS_of_getL root p.1 p.2 hg (findallL_resolves findFirst root (goodVS_goodV root hg) sought hs h p hp)

/-- **C18 (findall resolves, string form).**  Every `(path, value)` pair `findall(xp)` returns —
any expression string, both `find_first` modes — satisfies `get('/'.join(path)) == value`
(document tags addressable and not empty: `goodVS`). -/
theorem C18_findall_resolves_get_str (findFirst : Bool) (root : XVal) (hg : goodVS root = true)
    (xp : Str) (hs : List Hit) (h : findall findFirst root xp = .ok (some hs)) :
    ∀ p ∈ hs, getS root (join ['/'] p.1) = .ok (some p.2) :=
  C18_findallL_resolves_get_str findFirst root hg (xpSteps xp) hs h

/-- **C18 (`**`, string form).**  Every leaf `findall('**')` lists on a good document (`goodVS`) resolves through the
string form of `get` to its text. -/
theorem C18_deep_wildcard_resolves_str (root : XVal) (hg : goodVS root = true) :
    ∀ p ∈ leavesV [] root, getS root (join ['/'] p.1) = .ok (some p.2) :=
  C18_findallL_resolves_get_str false root hg [star2] _ (findallL_deep root)

example : goodVS (parseNode exDoc) = true := by decide +kernel
example : join ['/'] [s "b", s "a"] = s "b/a" := by decide +kernel
example : getS (parseNode exDoc) (s "b/a") = .ok (some (.text (some (s "1")))) := by decide +kernel
example : getS (parseNode exDoc) (s "a[1]") = .ok (some (.text (some (s "z")))) := by decide +kernel

/-- **C18 (expressions as strings).**  For an expression of the property's grammar — tokens `..`
or `tag[idx][text() op v]` with `tag` a name, `*` or `**`, `idx` absent, `[*]` or `[i]`, `op` `=` or
`!=` (`WfTok`) — whose text contains no `**/**` (which `findall` collapses): what `findall` reads
from the rendered string (`**/**` loop, `replace("/[","[").strip('/').split('/')`, the `'..'`
test and the step parser standing for the regex) is exactly the expression. -/
theorem C18_parse_render (e : List Tok) (hne : e ≠ []) (hwf : ∀ t ∈ e, WfTok t)
    (hN : isInfix starsPat (renderExpr e) = false) :
    parseExpr (renderExpr e) = some e ∧ xpSteps (renderExpr e) = e.map renderTok :=
  ⟨parseExpr_renderExpr e hne hwf hN, xpSteps_render e hne hwf hN⟩

/-- the hypothesis about the text, structurally: the rendering of a grammar expression contains no
`**/**` when no plain `**` token is directly followed by a token whose tag is `**` (`NoDD`) -/
theorem C18_parse_render_noDD (e : List Tok) (hne : e ≠ []) (hwf : ∀ t ∈ e, WfTok t) (hdd : NoDD e) :
    parseExpr (renderExpr e) = some e ∧ xpSteps (renderExpr e) = e.map renderTok :=
  C18_parse_render e hne hwf (renderExpr_noStars e hwf hdd)

/-- so `findall` on the rendered string is `findall` on the list of rendered steps -/
theorem C18_findall_rendered (findFirst : Bool) (root : XVal) (e : List Tok) (hne : e ≠ [])
    (hwf : ∀ t ∈ e, WfTok t) (hN : isInfix starsPat (renderExpr e) = false) :
    findall findFirst root (renderExpr e) = findallL findFirst root (e.map renderTok) := by
  unfold findall
  rw [xpSteps_render e hne hwf hN]

/-- one step: the step parser returns the groups the step was rendered from -/
theorem C18_parseStep_render (st : Step) (h : WfStep st) : parseStep (renderStepE st) = some st :=
  parseStep_render st h

/-! ### the `**/**` collapse (`while True: normalized = xpath.replace("**/**", "**") …`)

`normXp xp` is the text the loop of `findall` ends with (`xpSteps xp = splitPath (normXp xp)`);
`ddNF` is a strategy-independent normal form (leftmost rewriting `**/**` → `**`); `ddRun k` is the
text of `k + 1` consecutive `**` steps (`**`, `**/**`, `**/**/**`, …); `collapseDD` drops every plain
`**` token that is directly followed by a token with tag `**` (`Proofs/NXmlStars.lean`). -/

/-- **C18 (`**/**`: the normalisation).**  For every expression text: what the loop returns contains
no `**/**` any more — so it is not the join of any step list in which a step ending in `**` (a plain
`**` in particular) is directly followed by a step beginning with `**` —, normalising again changes
nothing, `findall` reads the same steps from the normalised text, and the result does not depend on
the replacement strategy of `str.replace` (it is the normal form `ddNF`). -/
theorem C18_dd_collapse_idem (xp : Str) :
    isInfix starsPat (normXp xp) = false ∧
    (∀ (pre post : List Str) (x y : Str),
      normXp xp ≠ join ['/'] (pre ++ (x ++ star2) :: (star2 ++ y) :: post)) ∧
    normXp (normXp xp) = normXp xp ∧ xpSteps (normXp xp) = xpSteps xp ∧ normXp xp = ddNF xp :=
  ⟨normXp_noDD xp, noDD_steps _ (normXp_noDD xp), normXp_idem xp, xpSteps_norm xp, normXp_eq xp⟩

/-- the same on the grammar of the property: the token list `findall` ends with has no plain `**`
directly before a `**…` token, collapsing is idempotent and only drops tokens -/
theorem C18_dd_collapse_tokens (e : List Tok) :
    NoDD (collapseDD e) ∧ collapseDD (collapseDD e) = collapseDD e ∧ ∀ t ∈ collapseDD e, t ∈ e :=
  ⟨collapseDD_NoDD e, collapseDD_idem e, collapseDD_mem e⟩

/-- **C18 (`**/**`: same result).**  An expression with a run of `k + 1` consecutive `**` steps —
anywhere: `a` is what precedes the run (empty or ending in `/`, or anything else), `b` what follows
(`/x…`, or the index / condition of the last `**`) — gives exactly the result of the expression with
the run collapsed to one `**`: the same `(path, value)` pairs in the same order (no duplicates
added, none lost), the same `None`, the same exception; likewise `findfirst` and `in`. -/
theorem C18_dd_collapse_same_result (findFirst : Bool) (root : XVal) (a b : Str) (k : Nat) :
    findall findFirst root (a ++ ddRun k ++ b) = findall findFirst root (a ++ star2 ++ b) ∧
    findfirst root (a ++ ddRun k ++ b) = findfirst root (a ++ star2 ++ b) ∧
    contains root (a ++ ddRun k ++ b) = contains root (a ++ star2 ++ b) := by
  unfold findall findfirst contains
  rw [xpSteps_run]
  exact ⟨rfl, rfl, rfl⟩

/-- one `**/**` anywhere in the text (also inside a longer run, overlapping occurrences included) -/
theorem C18_dd_collapse_one (findFirst : Bool) (root : XVal) (a b : Str) :
    findall findFirst root (a ++ starsPat ++ b) = findall findFirst root (a ++ star2 ++ b) := by
  unfold findall
  rw [xpSteps_rewrite]

/-- **C18 (parse ∘ render, `**/**` allowed).**  `C18_parse_render` without the hypothesis on the
text: for every non-empty grammar expression, what `findall` reads from the rendered string is the
collapsed token list, and the search is the list-form search for its rendered steps. -/
theorem C18_parse_render_dd (e : List Tok) (hne : e ≠ []) (hwf : ∀ t ∈ e, WfTok t) :
    parseExpr (renderExpr e) = some (collapseDD e) ∧
    xpSteps (renderExpr e) = (collapseDD e).map renderTok ∧
    ∀ findFirst root, findall findFirst root (renderExpr e) =
      findallL findFirst root ((collapseDD e).map renderTok) :=
  ⟨parseExpr_renderExpr_dd e hne hwf, xpSteps_render_dd e hne hwf,
    fun _ _ => by unfold findall; rw [xpSteps_render_dd e hne hwf]⟩

/-- `<r><a><c><b>1</b><d><b>3</b></d></c><b>2</b></a><b>4</b></r>` -/
def exDocD : Elem :=
  .mk (s "r") none [] [
    .mk (s "a") none [] [
      .mk (s "c") none [] [.mk (s "b") (some (s "1")) [] [],
        .mk (s "d") none [] [.mk (s "b") (some (s "3")) [] []]],
      .mk (s "b") (some (s "2")) [] []],
    .mk (s "b") (some (s "4")) [] []]

example : normXp (s "a/**/**/**/b") = s "a/**/b" := by
  rw [s_ofList, s_ofList]
  decide +kernel
example : normXp (s "**/**/x") = s "**/x" := by
  rw [s_ofList, s_ofList]
  decide +kernel
example : normXp (s "a/**/**/**/**/**[1]/b") = s "a/**[1]/b" := by
  rw [s_ofList, s_ofList]
  decide +kernel
example : s "a/**/**/**/b" = s "a/" ++ ddRun 2 ++ s "/b" := by
  repeat rw [s_ofList]
  decide +kernel
example : s "**/**/a" = [] ++ ddRun 1 ++ s "/a" := by
  rw [s_ofList, s_ofList]
  decide +kernel
example : xpSteps (s "a/**/**/**/b") = [s "a", s "**", s "b"] := by
  repeat rw [s_ofList]
  decide +kernel
example : findall false (parseNode exDocD) (s "a/**/**/**/b") =
    .ok (some [([s "a", s "c", s "b"], .text (some (s "1"))),
               ([s "a", s "c", s "d", s "b"], .text (some (s "3")))]) := by
  repeat rw [s_ofList]
  decide +kernel
example : findall false (parseNode exDocD) (s "a/**/b") =
    .ok (some [([s "a", s "c", s "b"], .text (some (s "1"))),
               ([s "a", s "c", s "d", s "b"], .text (some (s "3")))]) := by decide +kernel
example : findall false (parseNode exDoc) (s "**/**/a") =
    .ok (some [([s "b", s "a"], .text (some (s "1")))]) := by decide +kernel
/-- the list form is *not* normalised: two `**` steps need two levels in between -/
example : findallL false (parseNode exDocD) [s "a", s "**", s "**", s "b"] =
    .ok (some [([s "a", s "c", s "d", s "b"], .text (some (s "3")))]) := by decide +kernel
example : collapseDD [some ⟨s "a", none, none⟩, some stDeep, some stDeep, some ⟨s "**", some (some 1), none⟩,
      some ⟨s "b", none, none⟩] =
    [some ⟨s "a", none, none⟩, some ⟨s "**", some (some 1), none⟩, some ⟨s "b", none, none⟩] := by decide +kernel
example : renderExpr [some ⟨s "a", none, none⟩, some stDeep, some stDeep, some ⟨s "**", some (some 1), none⟩,
      some ⟨s "b", none, none⟩] = s "a/**/**/**[1]/b" := by
  repeat rw [s_ofList]
  decide +kernel
example : ∀ t ∈ [some ⟨s "a", none, none⟩, some stDeep, some stDeep, (some ⟨s "b", none, none⟩ : Tok)],
    WfTok t := by
  intro t ht
  simp at ht
  rcases ht with rfl | rfl | rfl
  · exact ⟨Or.inr (Or.inr ⟨by decide, by decide, by decide⟩), trivial⟩
  · exact ⟨Or.inr (Or.inl rfl), trivial⟩
  · exact ⟨Or.inr (Or.inr ⟨by decide, by decide, by decide⟩), trivial⟩

/-! ### a step is read whole (fix C18-e)

Before the fix the step regex was applied with `re.match`, had no end anchor and its tag class was
`[a-zA-Z0-9_]+`: `item-id`, `item-id[0]`, `item-id[text()=2]` were all read as the step `item`. -/

/-- **C18 (only real nodes: the step is read whole).**  Whatever the step parser (which stands for
`re.fullmatch` of the step regex) accepts, it has consumed: the text of the step is the tag
followed by what the index / condition groups read — nothing between the tag and the first `[`,
nothing left over — and a step read without index and condition *is* its tag. -/
theorem C18_step_whole (step : Str) (st : Step) (h : parseStep step = some st) :
    ∃ mid, step = st.tag ++ mid ∧ (mid = [] ∨ mid.head? = some '[') ∧
      (st.idx = none → st.cond = none → mid = []) := parseStep_whole step st h

/-- **C18 (only real nodes: a name selects by the whole name).**  For a name `t` — a word character
followed by word characters, `.` and `-`, e.g. `item-id`, `a.b`, `é` — `findall([t])` returns, in
document order, exactly the siblings whose tag **equals** `t`, each with its positional path: `t` for the first of them, `t[k]` for the
`k`-th after it (`stepName` writes the bracket only for a non-zero index when the step asks for none). -/
theorem C18_name_step (items : List Item) (t : Str) (hne : t ≠ [])
    (hh : ∀ c, t.head? = some c → isWord c = true) (hw : ∀ c ∈ t, isNameChar c = true) :
    findallL false (.nodes items) [t] =
        .ok (some (selG ⟨t, none, none⟩ 0 (fun p v => [(p, v)]) [] [] items)) ∧
      ∀ tag, tagTest ⟨t, none, none⟩ tag 0 = (tag == t) := by
  have hS := simple_name t hne hh hw
  have h2 : t ≠ star2 := hS.2.1
  have h1 : t ≠ star := by
    intro e; subst e
    have := hw '*' (by simp [star]); rw [show isNameChar '*' = false by decide] at this; cases this
  refine ⟨C18_conditions_exact_one items t ⟨t, none, none⟩ hS, fun tag => ?_⟩
  rw [C18_tagTest_plain _ h2]
  have : ((t == star) = false) := by simpa using h1
  simp [this]

/-- `<r><item>1</item><item-id>2</item-id><item.x>3</item.x><item>4</item><é>5</é></r>` -/
def exDocN : Elem :=
  .mk (s "r") none [] [
    .mk (s "item") (some (s "1")) [] [], .mk (s "item-id") (some (s "2")) [] [],
    .mk (s "item.x") (some (s "3")) [] [], .mk (s "item") (some (s "4")) [] [],
    .mk (s "é") (some (s "5")) [] []]

/-- the same document with its literals spelled as characters (see `s_ofList`) -/
theorem exDocN_chars : exDocN = .mk ['r'] none [] [
    .mk ['i','t','e','m'] (some ['1']) [] [], .mk ['i','t','e','m','-','i','d'] (some ['2']) [] [],
    .mk ['i','t','e','m','.','x'] (some ['3']) [] [], .mk ['i','t','e','m'] (some ['4']) [] [],
    .mk ['é'] (some ['5']) [] []] := by
  unfold exDocN
  repeat rw [s_ofList]

example : parseStep (s "item-id") = some ⟨s "item-id", none, none⟩ := by
  rw [s_ofList]
  decide +kernel
example : parseStep (s "item-id[0][text()=2]") = some ⟨s "item-id", some (some 0), some (s "=", s "2")⟩ := by
  repeat rw [s_ofList]
  decide +kernel
/-- what the code without fix C18-e truncated to a shorter step does not parse (`ValueError`) -/
example : parseStep (s "a[x]") = none ∧ parseStep (s "a[1]x") = none ∧ parseStep (s "a[1") = none ∧
    parseStep (s "a[text()=]") = none ∧ parseStep (s ".") = none ∧ parseStep (s "-a") = none := by
  repeat rw [s_ofList]
  decide +kernel
example : findall false (parseNode exDocN) (s "item-id") = .ok (some [([s "item-id"], .text (some (s "2")))]) := by
  rw [exDocN_chars]
  rw [s_ofList, s_ofList]
  decide +kernel
example : findall false (parseNode exDocN) (s "item-id[0]") = .ok (some [([s "item-id"], .text (some (s "2")))]) := by
  rw [exDocN_chars]
  repeat rw [s_ofList]
  decide +kernel
example : findall false (parseNode exDocN) (s "item-id[text()=2]") =
    .ok (some [([s "item-id"], .text (some (s "2")))]) := by
  rw [exDocN_chars]
  repeat rw [s_ofList]
  decide +kernel
example : findall false (parseNode exDocN) (s "item") =
    .ok (some [([s "item"], .text (some (s "1"))), ([s "item[1]"], .text (some (s "4")))]) := by
  rw [exDocN_chars]
  repeat rw [s_ofList]
  decide +kernel
example : findall false (parseNode exDocN) (s "é") = .ok (some [([s "é"], .text (some (s "5")))]) := by
  rw [exDocN_chars]
  rw [s_ofList, s_ofList]
  decide +kernel
example : findall false (parseNode exDocN) (s "item.x") = .ok (some [([s "item.x"], .text (some (s "3")))]) := by
  rw [exDocN_chars]
  rw [s_ofList, s_ofList]
  decide +kernel
example : findall false (parseNode exDocN) (s "item-zz") = .ok (some []) := by
  rw [exDocN_chars]
  rw [s_ofList]
  decide +kernel
example : contains (parseNode exDocN) (s "item-zz") = .ok false := by
  rw [exDocN_chars]
  rw [s_ofList]
  decide +kernel
example : findall false (parseNode exDocN) (s "item-id[1]x") = .error .ValueError := by
  rw [exDocN_chars]
  rw [s_ofList]
  decide +kernel
example : (s "item-id") ≠ [] ∧ (∀ c, (s "item-id").head? = some c → isWord c = true) ∧
    (∀ c ∈ s "item-id", isNameChar c = true) ∧ (∀ c ∈ s "é", isNameChar c = true) := by
  rw [s_ofList, s_ofList]
  decide +kernel

/-- `**/a[1][text()!=z]/../*[*]` -/
def exExpr : List Tok :=
  [some ⟨star2, none, none⟩, some ⟨s "a", some (some 1), some (opNe, s "z")⟩, none,
   some ⟨star, some none, none⟩, some ⟨s "b_2", none, some (opEq, s "none")⟩]

example : renderExpr exExpr = s "**/a[1][text()!=z]/../*[*]/b_2[text()=none]" := by
  rw [s_ofList]
  decide +kernel
example : isInfix starsPat (renderExpr exExpr) = false := by decide +kernel
example : ∀ t ∈ exExpr, WfTok t := by
  intro t ht
  simp only [exExpr, List.mem_cons, List.not_mem_nil, or_false] at ht
  repeat rw [s_ofList] at ht
  rcases ht with rfl | rfl | rfl | rfl | rfl
  · exact ⟨Or.inr (Or.inl rfl), trivial⟩
  · refine ⟨Or.inr (Or.inr ⟨by decide +kernel, by decide +kernel⟩), Or.inr rfl, by decide +kernel, by decide +kernel, ?_⟩
    intro h; revert h; decide
  · trivial
  · exact ⟨Or.inl rfl, trivial⟩
  · refine ⟨Or.inr (Or.inr ⟨by decide +kernel, by decide +kernel⟩), Or.inl rfl, by decide +kernel, by decide +kernel, ?_⟩
    intro _; decide +kernel
example : parseExpr (s "**/a[1][text()!=z]/../*[*]/b_2[text()=none]") = some exExpr := by
  rw [s_ofList]
  decide +kernel
example : NoDD exExpr := by
  refine ⟨?_, ?_, ?_, ?_, trivial⟩
  · rintro ⟨_, st, h, ht⟩
    cases h
    revert ht; decide +kernel
  · rintro ⟨h, _⟩; revert h; decide +kernel
  · rintro ⟨h, _⟩; cases h
  · rintro ⟨h, _⟩; revert h; decide +kernel

/-- **C18 (findfirst / in, string form).**  For every expression string. -/
theorem C18_findfirst_str (root : XVal) (xp : Str) (r : Option (List Hit))
    (h : findall false root xp = .ok r) :
    findfirst root xp = .ok (firstOf r) ∧ contains root xp = .ok (nonEmpty r) :=
  ⟨C18_findfirst root (xpSteps xp) r h, C18_in_iff root (xpSteps xp) r h⟩

example : findall false (parseNode cexDoc) (s "**[1]/..") =
      .ok (some [([s "a[0]"], .nodes [(s "b", [], .text none), (s "b", [], .text none)]), ([], parseNode cexDoc)]) ∧
    findfirst (parseNode cexDoc) (s "**[1]/..") =
      .ok (some ([s "a[0]"], .nodes [(s "b", [], .text none), (s "b", [], .text none)])) := by
  repeat rw [s_ofList]
  decide +kernel

/-- `<r><p k="1"><q/></p><p n="2" k="3">t</p></r>`: attributes on an element with children and on a leaf -/
def exDocA : Elem :=
  .mk (s "r") none [(s "root", s "0")] [
    .mk (s "p") none [(s "k", s "1")] [.mk (s "q") none [] []],
    .mk (s "p") (some (s "t")) [(s "n", s "2"), (s "k", s "3")] []]

/-- **C18 (attributes).**  `get_attrib` with explicit per-tag indexes (list form) returns exactly
the attributes — names, values, order — ElementTree reports for the element at that position,
whether or not it has children; the default (`none`) when there is no such element.
(`C18_parse_preserves` already states that the parsed structure carries every element's
attributes in document order; the root's own attributes are not kept by n0xml.) -/
theorem C18_get_attrib_positional (e : Elem) (st : Str × Nat) (p : List (Str × Nat))
    (hp : ∀ q ∈ st :: p, goodTag q.1 = true) :
    getAttrL (parseNode e) ((st :: p).map renderStep) = .ok ((elemAt e (st :: p)).map attribOf) :=
  getAttrL_parseNode e st p hp

/-- the same for the string `t1[k1]/…/tn[kn]` -/
theorem C18_get_attrib_positional_str (e : Elem) (st : Str × Nat) (p : List (Str × Nat))
    (hp : ∀ q ∈ st :: p, goodTagS q.1 = true) :
    getAttrS (parseNode e) (renderIdxPath (st :: p)) = .ok ((elemAt e (st :: p)).map attribOf) := by
  rw [getAttrS_renderIdxPath _ _ (by simp) hp]
  exact getAttrL_parseNode e st p (fun q hq => goodTagS_goodTag _ (hp q hq))

example : getAttrS (parseNode exDocA) (s "p[0]") = .ok (some [(s "k", s "1")]) := by decide +kernel
example : getAttrS (parseNode exDocA) (s "p[1]") = .ok (some [(s "n", s "2"), (s "k", s "3")]) := by decide +kernel
example : getAttrS (parseNode exDocA) (s "p[0]/q[0]") = .ok (some []) := by
  repeat rw [s_ofList]
  decide +kernel
example : getAttrS (parseNode exDocA) (s "p[2]") = .ok none := by decide +kernel
example : flatVal 0 (parseNode exDocA) =
    [⟨0, s "p", [(s "k", s "1")], none⟩, ⟨1, s "q", [], some none⟩,
     ⟨0, s "p", [(s "n", s "2"), (s "k", s "3")], some (some (s "t"))⟩] := by decide +kernel

end N0.C18
