import N0Verif.Proofs.FindAllSpell
import N0Verif.Proofs.FindAllTailFan
/-!
# C19 — dictionary findall returns complete, resolvable, history-independent results

The property statements, with the example trees and vectors that witness them.  The model (`Model/FindAll.lean`) follows
the code with `fixes/C19-a.patch` … `fixes/C19-f.patch` applied: a name / index step on a final element is a miss of that
branch (C19-d); `findall` hands `raise_exception` on to `_findall` (C19-e) — `findallTop … re`, default `true`;
`findfirst` searches with `false`; a `text()` condition compares a node that is not a string instead of raising
AttributeError (C19-f).  Every theorem about `findallTop` holds for both modes.

Reading.  The engine keeps two mutable default arguments.  The model threads the contents of the
two objects a call receives in and out of every call (`Out.fl`, `Out.ps`), and the top-level entry
`findallTop st t e` starts from the contents `st` of the module-level default objects and returns
their contents after the search.  "The result never depends on earlier searches" is then: a search
started from the fresh defaults `([], {})` leaves them `([], {})` — for every tree, expression,
fuel and outcome, exceptions included — hence in every sequence of searches each one runs from
the fresh state and returns what it returns when run alone.
"Resolves to the identical value" = resolves through the item-access model (C01 engine) to the
node at the same position; object identity is checked on the implementation by the harness.
-/
namespace N0.C19
open N0 N0.Py N0.Val N0.XPath N0.FindAll

/-! ## 1. history independence -/

/-- **State invariant.**  A search that starts from the fresh default objects leaves them
fresh: `found_xpath_list` is still `[]` and `parent_nodes_stack` still `{}`, whatever the tree,
the expression and the outcome (result, `None` or any exception). -/
theorem C19_state_invariant (fuel : Nat) (t : Val) (e : Str) (re : Bool) :
    (findallTop fuel fresh t e re).state = fresh :=
  findallTop_state fuel t e re

/-- The two halves in general form: the stack object a call of `_findall` receives is never
modified, and an empty path list stays empty (the in-place updates of the last element happen
only after the local name was rebound to a fresh list, or raise before writing). -/
theorem C19_objects_untouched (re : Bool) (fuel : Nat) (node : Val) (toks : List Str) (fl : FL) (ps : PS) :
    (fa re fuel node toks fl ps).ps = ps ∧ (fa re fuel node toks [] ps).fl = [] :=
  ⟨fa_ps re fuel node toks fl ps, fa_fl_nil re fuel node toks ps⟩

/-- **History independence.**  For every sequence of searches (on the same or on different
trees) run one after the other through the shared default objects, each result equals the
result of the same search run alone on a fresh module, and the defaults are fresh at the end. -/
theorem C19_history_independent (fuel : Nat) (hist : List (Val × Str)) :
    runHist fuel fresh hist = (hist.map (fun te => (findallTop fuel fresh te.1 te.2).res), fresh) := by
  induction hist with
  | nil => rfl
  | cons te rest ih =>
    obtain ⟨t, e⟩ := te
    simp only [runHist, findallTop_state, ih, List.map_cons]

/-- the same for a history in which every search has its own mode (`findall(xp, raise_exception)`) -/
theorem C19_history_independent_modes (fuel : Nat) (hist : List (Val × Str × Bool)) :
    runHistM fuel fresh hist =
      (hist.map (fun te => (findallTop fuel fresh te.1 te.2.1 te.2.2).res), fresh) := by
  induction hist with
  | nil => rfl
  | cons te rest ih =>
    obtain ⟨t, e, re⟩ := te
    simp only [runHistM, findallTop_state, ih, List.map_cons]

/-- **The result depends only on the tree and the expression.**  Whatever searches (on dict- or
list-rooted containers, succeeding or raising) were run before in the same process, the outcome of
a search is the outcome of `findallTop fuel fresh t e` — a function of `t` and `e` alone. -/
theorem C19_depends_only (fuel : Nat) (hist : List (Val × Str)) (t : Val) (e : Str) :
    (runHist fuel fresh (hist ++ [(t, e)])).1 =
      (runHist fuel fresh hist).1 ++ [(findallTop fuel fresh t e).res] := by
  rw [C19_history_independent, C19_history_independent]
  simp

/-- … and of the mode (`raise_exception`) given to this search, whatever the modes before -/
theorem C19_depends_only_modes (fuel : Nat) (hist : List (Val × Str × Bool)) (t : Val) (e : Str) (re : Bool) :
    (runHistM fuel fresh (hist ++ [(t, e, re)])).1 =
      (runHistM fuel fresh hist).1 ++ [(findallTop fuel fresh t e re).res] := by
  rw [C19_history_independent_modes, C19_history_independent_modes]
  simp

/-- `findfirst` leaves the state as it found it, like `findall` (`C19_state_invariant`): it calls `findall` once -/
theorem C19_findfirst_state (fuel : Nat) (t : Val) (e : Str) (re : Bool) :
    (findfirstTop fuel fresh t e re).2 = fresh := by
  have := findallTop_state fuel t e false
  unfold findfirstTop
  simp only
  split
  · exact this
  · split <;> exact this

/-- **A call changes at most the last element of the list object it received** (the only in-place
updates are `found_xpath_list[-1] += …` and `found_xpath_list[-1] = …`): all elements but the
last are as they were, for every call, outcome and starting contents. -/
theorem C19_list_changes_last_only (re : Bool) (fuel : Nat) (node : Val) (toks : List Str) (fl : FL) (ps : PS) :
    (fa re fuel node toks fl ps).fl.dropLast = fl.dropLast :=
  fa_dl re fuel node toks fl ps

/-- **The model returns values only, and only values of the tree.**  The model does **not** thread the tree (`Out` =
result and the contents of the two default objects), so "the tree is returned unchanged" has no content as a theorem; it
is checked on the implementation: stream `fa.pure` (driver operation of `Drv/FindAllList.lean`) compares the model's
answer *followed by the tree it was given* with the real result *followed by the encoding of the real container after the
call*, the evaluators `search`/`history`/`mixed` compare the encoding before and after.  Inside the model: every value of
the returned mapping occurs in the tree searched (`Sub`) — the search neither invents nor rebuilds values — for both
roots.  That the result depends on nothing but the tree and the expression is `C19_depends_only`. -/
theorem C19_pure (fuel : Nat) (t : Val) (e : Str) (re : Bool) (f : Found)
    (h : (findallTop fuel fresh t e re).res = .ok (some f)) : ∀ kv ∈ f, Sub t kv.2 :=
  fa_sub t re fuel t (tokens e) [] [] Sub.refl (by intro kv hkv; cases hkv) f h

/-! ## 2. exact paths -/

/-- **An exact path finds exactly its node.**  For a dict-rooted tree and a non-root position
`p` made of plain keys and of indexes of list elements that are containers (`PathOk`), searching
the canonical xpath of `p` (`"//" + names joined by "/"`, `"[i]"` appended, as `xpath()` writes
it) returns exactly one pair: that xpath and the node at `p`; the defaults are untouched. -/
theorem C19_exact_path (cls : Cls) (kvs : List (Str × Val)) (k : Str) (rest : Pos) (c : Val)
    (h : PathOk (.dict cls kvs) (.key k :: rest) c) (fuel : Nat) (hf : fuel > rest.length + 1)
    (re : Bool := true) :
    findallTop fuel fresh (.dict cls kvs) (slash ++ renderPos (.key k :: rest)) re =
      ⟨.ok (some [(slash ++ renderPos (.key k :: rest), c)]), [], []⟩ := by
  have hp := h.plain
  show fa re fuel _ (tokens _) [] [] = _
  rw [tokens_render k rest (TokPos.of_plain hp), fa_exact re (Seg.key k :: rest) _ c [] [] fuel h (by simpa using hf),
    keyOf_flPath k rest hp]
  rfl

/-- `PathOk` is what the property's quantifier gives: the position exists and leads to `c` -/
theorem C19_pathOk_getAt {v c : Val} {p : Pos} (h : PathOk v p c) : getAt v p = some c ∧ PlainPos p :=
  ⟨h.getAt, h.plain⟩

/-- **The key of an exact-path result resolves through item access to the identical value**
(model of `n0dict.__getitem__`, C01 engine), and the lookup leaves the tree as it is. -/
theorem C19_resolves (cls : Cls) (kvs : List (Str × Val)) (k : Str) (rest : Pos) (c : Val)
    (h : PathOk (.dict cls kvs) (.key k :: rest) c) (fuel : Nat) (hf : fuel ≥ 2 * (rest.length + 1))
    (xp : Str) (v : Val) (re : Bool)
    (hm : ∀ f, (findallTop fuel fresh (.dict cls kvs) (slash ++ renderPos (.key k :: rest)) re).res = .ok (some f) →
      (xp, v) ∈ f) :
    getItem fuel (.dict cls kvs) xp = (.dict cls kvs, .ok v) := by
  have hex := C19_exact_path cls kvs k rest c h fuel (by omega) re
  have := hm _ (by rw [hex])
  simp only [List.mem_singleton, Prod.mk.injEq] at this
  obtain ⟨rfl, rfl⟩ := this
  exact getCore_canonical fuel cls kvs (Seg.key k :: rest) v _ true true h.plain (by simp) h.getAt (by simpa using hf)

/-! ## 3. findfirst -/

/-- **findfirst as documented**: the search runs with `raise_exception=False` (`findall(node, xpath, False)`, which
reaches `_findall`: fix C19-e); what that search still raises is raised; nothing found (`None` or an empty mapping) is
`IndexError`, or `(None, None)` when `raise_exception` is false; exactly one pair is returned as it is; several pairs
are `IndexError`, or the first pair when `raise_exception` is false. -/
theorem C19_findfirst (fuel : Nat) (st : Defaults) (t : Val) (e : Str) (re : Bool) :
    (findfirstTop fuel st t e re).1 =
      match (findallTop fuel st t e false).res with
      | .error x => .error x
      | .ok f =>
        match f.getD [] with
        | [] => if re then .error .IndexError else .ok Option.none
        | [kv] => .ok (some kv)
        | kv :: _ :: _ => if re then .error .IndexError else .ok (some kv) := by
  unfold findfirstTop
  simp only
  cases (findallTop fuel st t e false).res with
  | error x => rfl
  | ok f =>
    simp only
    cases f.getD [] with
    | nil => rfl
    | cons kv more =>
      cases more with
      | nil => simp
      | cons _ _ => cases re <;> simp

/-- **A miss is never an exception of the search when `raise_exception=False`.**  For every tree,
expression, starting contents of the defaults and fuel, `findall(xpath, False)` does not raise
IndexError or KeyError — the two exceptions `_findall` uses for "not there" (index out of range, a
scalar where a container is expected, an index on a dictionary, `'..'` above the root) — and a step on a
final element is a plain miss (fix C19-d).  What may still be raised comes from the expression, not from
the tree (TypeError / ValueError / SyntaxError of a malformed step, nothing else: `C19_exceptions_from_expression`). -/
theorem C19_findall_quiet (fuel : Nat) (st : Defaults) (t : Val) (e : Str) :
    (findallTop fuel st t e false).res ≠ .error .IndexError ∧
    (findallTop fuel st t e false).res ≠ .error .KeyError :=
  fa_noMiss fuel t (tokens e) st.1 st.2

/-- **findfirst signals "none" as documented.**  `findfirst(xpath, False)` never raises IndexError
or KeyError: a miss of any kind is `(None, None)`.  `findfirst(xpath)` (`raise_exception=True`)
never raises KeyError: its only signal for none / many is its own IndexError. -/
theorem C19_findfirst_signals (fuel : Nat) (st : Defaults) (t : Val) (e : Str) :
    ((findfirstTop fuel st t e false).1 ≠ .error .IndexError ∧
     (findfirstTop fuel st t e false).1 ≠ .error .KeyError) ∧
    (findfirstTop fuel st t e true).1 ≠ .error .KeyError := by
  have hq := C19_findall_quiet fuel st t e
  rw [C19_findfirst, C19_findfirst]
  cases hr : (findallTop fuel st t e false).res with
  | error x =>
    rw [hr] at hq
    simp only
    have h1 : x ≠ .IndexError := fun h => hq.1 (by rw [h])
    have h2 : x ≠ .KeyError := fun h => hq.2 (by rw [h])
    exact ⟨⟨fun h => h1 (by cases h; rfl), fun h => h2 (by cases h; rfl)⟩, fun h => h2 (by cases h; rfl)⟩
  | ok f =>
    simp only
    cases f.getD [] with
    | nil => simp
    | cons kv more => cases more <;> simp

/-- a name / index / `[*]` step applied to a final element (fix C19-d): a miss of that branch —
`None`, objects untouched — in both modes (without the fix: `KeyError("Internal error…")`) -/
theorem C19_scalar_step_miss (re : Bool) (fuel : Nat) (node : Val) (tok : Str) (rest : List Str)
    (fl : FL) (ps : PS) (hn : FindAll.isContainer node = false)
    (hc : (∃ n, classify tok = .name n) ∨ (∃ i, classify tok = .idx i) ∨ classify tok = .star) :
    fa re (fuel + 1) node (tok :: rest) fl ps = ⟨.ok Option.none, fl, ps⟩ := by
  cases node <;> simp only [FindAll.isContainer, Bool.true_eq_false] at hn <;>
    rcases hc with ⟨n, h⟩ | ⟨i, h⟩ | h <;> simp only [fa, step, h, stepName, stepIdx, stepStar]

/-! ## 3a. `text()` conditions on nodes that are not strings (fix C19-f)

Without the fix the `text()` branch evaluates `parent_node.lower()`: AttributeError for an int, float,
bool, None, dict or list node, in both modes, which leaves every loop above it — one such leaf under a
fan-out or a wildcard aborts a search with real matches (`'*/n[text()=v]'` on
`{'x': {'n': 1}, 'y': {'n': 'v'}}`). -/

/-- **No search raises AttributeError**: for every tree, expression, starting contents of the
defaults, fuel and mode. -/
theorem C19_text_never_attribute_error (fuel : Nat) (st : Defaults) (t : Val) (e : Str) (re : Bool) :
    (findallTop fuel st t e re).res ≠ .error .AttributeError :=
  fa_no_attribute_error re fuel t (tokens e) st.1 st.2

/-- the same for `findfirst` -/
theorem C19_findfirst_never_attribute_error (fuel : Nat) (st : Defaults) (t : Val) (e : Str) (re : Bool) :
    (findfirstTop fuel st t e re).1 ≠ .error .AttributeError := by
  have hq := C19_text_never_attribute_error fuel st t e false
  rw [C19_findfirst]
  cases hr : (findallTop fuel st t e false).res with
  | error x =>
    rw [hr] at hq
    simp only
    exact fun h => hq (by cases h; rfl)
  | ok f =>
    simp only
    cases f.getD [] with
    | nil => cases re <;> simp
    | cons kv more => cases more <;> cases re <;> simp

/-- **Which exceptions a search can raise at all.**  With `raise_exception=False` every exception
comes from a token of the expression (TypeError: malformed bracket / unknown condition, ValueError:
`int()` or the unpacking of the condition, SyntaxError: `eval` of `last()…`); with
`raise_exception=True` IndexError and KeyError in addition.  (`OutOfFuel`, `Unsupported` are the
model's own markers.)  Nothing is raised because of the *kind of a node*. -/
theorem C19_exceptions_from_expression (fuel : Nat) (st : Defaults) (t : Val) (e : Str) (re : Bool) (x : PyErr)
    (h : (findallTop fuel st t e re).res = .error x) :
    x = .TypeError ∨ x = .ValueError ∨ x = .SyntaxError ∨ x = .Unsupported ∨ x = .OutOfFuel ∨
    (re = true ∧ (x = .IndexError ∨ x = .KeyError)) := by
  refine fa_errIn re (Q := fun x => x = .TypeError ∨ x = .ValueError ∨ x = .SyntaxError ∨ x = .Unsupported ∨
      x = .OutOfFuel ∨ (re = true ∧ (x = .IndexError ∨ x = .KeyError)))
    (by simp) ?_ (fun hre => by simp [hre]) (fun hre => by simp [hre]) fuel t (tokens e) st.1 st.2 x h
  intro y hy
  rcases hy with h | h | h | h <;> simp [h]

/-- **What a `text()` step does, for every kind of node**: it compares (`textEq`) and either misses
this branch (`None`, both objects untouched) or goes on in the same node with the same list object
and the node registered in a copy of the stack.  It never raises by itself. -/
theorem C19_text_step (re : Bool) (fuel : Nat) (node : Val) (tok : Str) (rest : List Str) (eq : Bool) (v : Str)
    (fl : FL) (ps : PS) (hc : classify tok = .text eq v) (b : Bool) (hb : textEq node v = .ok b) :
    fa re (fuel + 1) node (tok :: rest) fl ps =
      if b = eq then
        ⟨(fa re fuel node rest fl (push ps fl node)).res, (fa re fuel node rest fl (push ps fl node)).fl, ps⟩
      else ⟨.ok Option.none, fl, ps⟩ := by
  simp only [fa, step, hc, stepText, hb]
  cases b <;> cases eq <;> simp

/-- **String nodes**: the case-insensitive comparison of the texts (the fix does not touch it). -/
theorem C19_text_str_unchanged (s v : Str) (hs : ∀ c ∈ s, c.toNat < 128) :
    textEq (.str s) v = .ok (lower s == lower v) := by
  have : s.any (fun c => decide (c.toNat ≥ 128)) = false := by
    rw [List.any_eq_false]
    intro c hc
    have := hs c hc
    simp only [ge_iff_le, decide_eq_true_eq, Nat.not_le]
    exact this
  simp only [textEq, this, Bool.false_eq_true, if_false]

/-- **What is selected among nodes that are not strings**: an int node equals the expected text iff
`int(expected)` succeeds and is that number (`'01'`, `' 1 '`, `'+1'` equal `1`); a bool node is the
int `1` / `0`; None, a dict and a list equal no text — so `=` misses them and `!=` selects them. -/
theorem C19_text_nonstr_selects (v : Str) :
    (∀ i, textEq (.int i) v = .ok (pyInt v == some i)) ∧
    (∀ b, textEq (.bool b) v = .ok (pyInt v == some (if b then 1 else 0))) ∧
    textEq .none v = .ok false ∧
    (∀ c xs, textEq (.list c xs) v = .ok false) ∧
    (∀ c kvs, textEq (.dict c kvs) v = .ok false) :=
  ⟨fun _ => rfl, fun _ => rfl, rfl, fun _ _ => rfl, fun _ _ => rfl⟩

/-- a float node: `float(expected)` is outside the model (`Unsupported`), except that a text with a
character no float literal contains is not equal to it (`float()` refuses it) -/
theorem C19_text_float_node (r v : Str) (hv : pyInt v = Option.none) :
    textEq (.flt r) v = if v.all floatLitChar then .error .Unsupported else .ok false := by
  simp only [textEq, hv]

/-- a float node and an integer literal below 10^15 (converted exactly by `float()`): equal iff the
node prints as that integer followed by `.0` (`-0.0` equals `0`) -/
theorem C19_text_float_node_int (r v : Str) (i : Int) (hv : pyInt v = some i) (hi : i.natAbs < 10 ^ 15) :
    textEq (.flt r) v = .ok (r == intRepr i ++ ['.', '0'] || (i == 0 && r == ['-', '0', '.', '0'])) := by
  simp only [textEq, hv, hi, if_true]

/-- **findall and item access select the same nodes**: on every node that is neither a string nor a
float the comparison is the one item access makes for `[text()=v]` (`XPath.textEqCond`, the model
of `n0dict._find`); on a string node item access compares case-sensitively, findall
case-insensitively, so item access selects a subset. -/
theorem C19_text_agrees_item_access (node : Val) (v : Str) (hs : ∀ s, node ≠ .str s) (hf : ∀ r, node ≠ .flt r) :
    textEq node v = .ok (textEqCond node (.str v)) := by
  cases node with
  | str s => exact absurd rfl (hs s)
  | flt r => exact absurd rfl (hf r)
  | _ => rfl

theorem C19_text_str_item_access_subset (s v : Str) (hs : ∀ c ∈ s, c.toNat < 128)
    (h : textEqCond (.str s) (.str v) = true) : textEq (.str s) v = .ok true := by
  rw [C19_text_str_unchanged s v hs]
  simp only [textEqCond, pyEqCond, decide_eq_true_eq] at h
  subst h
  simp

-- non-vacuity of the C19-f theorems: a `text()` token, every kind of node
example : classify ['[', 't', 'e', 'x', 't', '(', ')', '=', '0', '1', ']'] = .text true ['0', '1'] ∧ classify ['[', 't', 'e', 'x', 't', '(', ')', '!', '=', 'v', ']'] = .text false ['v'] := by
  decide +kernel
example : textEq (.int 1) ['0', '1'] = .ok true ∧ textEq (.int 1) ['1', '.', '0'] = .ok false ∧
    textEq (.bool true) ['1'] = .ok true ∧ textEq (.bool true) ['t', 'r', 'u', 'e'] = .ok false ∧
    textEq .none ['n', 'o', 'n', 'e'] = .ok false ∧ textEq (.str ['V']) ['v'] = .ok true ∧
    textEqCond (.str ['V']) (.str ['v']) = false ∧ textEqCond (.str ['v']) (.str ['v']) = true ∧
    textEq (.flt ['1', '.', '5']) ['z', 'z'] = .ok false ∧ textEq (.flt ['1', '.', '5']) ['1', '.', '5'] = .error .Unsupported ∧
    textEq (.flt ['1', '.', '0']) ['0', '1'] = .ok true ∧ textEq (.flt ['1', '.', '5']) ['1'] = .ok false ∧
    pyInt ['z', 'z'] = Option.none ∧ pyInt ['0', '1'] = some 1 := by
  decide +kernel
example : fa true 5 (.int 1) [['[', 't', 'e', 'x', 't', '(', ')', '=', '0', '1', ']']] [['n']] [] = ⟨.ok (some [(['/', '/', 'n'], .int 1)]), [['n']], []⟩ ∧
    fa true 5 .none [['[', 't', 'e', 'x', 't', '(', ')', '=', '0', '1', ']']] [['n']] [] = ⟨.ok Option.none, [['n']], []⟩ ∧
    fa true 5 (.dict .n0 []) [['[', 't', 'e', 'x', 't', '(', ')', '!', '=', 'v', ']']] [['n']] [] = ⟨.ok (some [(['/', '/', 'n'], .dict .n0 [])]), [['n']], []⟩ := by
  decide +kernel
example : (findallTop 20 fresh (.dict .n0 []) ['[', 'x']).res = .error .TypeError ∧
    (findallTop 20 fresh (.dict .n0 []) ['[', '5', ']'] true).res = .error .IndexError ∧
    (findallTop 20 fresh (.dict .n0 []) ['[', '5', ']'] false).res = .ok Option.none := by
  decide +kernel

/-! ## 4. name on a list -/

/-- **A name applied to a list is the `[*]` step followed by the name**: the search re-enters the
same node with `"[*]"` prepended, which visits every element in order (`starLoop`) with the path
`…[i]` and merges what the elements return. -/
theorem C19_fanout (re : Bool) (fuel : Nat) (cls : Cls) (xs : List Val) (name : Str) (rest : List Str)
    (fl : FL) (ps : PS) (hn : classify name = .name name) :
    fa re (fuel + 2) (.list cls xs) (name :: rest) fl ps =
      stepStar (fa re fuel) re (.list cls xs) (name :: rest) fl ps := by
  have hs : classify ['[', '*', ']'] = .star := by decide
  simp only [fa, step, hn, stepName, hs]

/-- **Fan-out over all elements.**  When every element of the list is a dictionary or a list, a
name applied to the list returns the outcomes of *all* elements, element `i` searched for the
same expression under the path `…[i]`, merged in order (`mergeAll`: `dict.update`, the first
exception wins). -/
theorem C19_fanout_all (re : Bool) (fuel : Nat) (cls : Cls) (xs : List Val) (name : Str) (rest : List Str)
    (fl : FL) (ps : PS) (hn : classify name = .name name) (hfl : fl ≠ [])
    (hall : ∀ x ∈ xs, FindAll.isContainer x = true) :
    (fa re (fuel + 2) (.list cls xs) (name :: rest) fl ps).res =
      mergeAll (fanCalls (fun c cur => fa re fuel c (name :: rest) cur (push ps cur (.list cls xs)))
        fl.dropLast (fl.getLast?.getD []) 0 xs) [] :=
  fa_fanout re fuel cls xs hn rest fl ps hall

/-! ## 5. the descendant wildcard `'//*/name'`

Hypotheses on the tree (structural, `Proofs/FindAllWalk.lean`): `KeysOkV t` — every key is a plain
name and no dictionary lists a key twice (a Python `dict` cannot; the model's association lists
could); `ContOkV t` — every list contains only dictionaries or lists (the property's quantifier).
`descV name t` lists, in document order, the positions (relative to `t`) whose last segment is the
key `name`, with the node there: for a dictionary its own entry `name` first, then what lies below
each child in the order of the keys; for a list what lies below each element in order. -/

/-- **Completeness of the descendant wildcard, in document order.**  On a dict-rooted tree whose
lists contain only containers, `'//*/name'` returns exactly the pairs (canonical xpath of `p`,
node at `p`) for the positions `p` of `descV`, in that order — the `*` step first tries `name` on
the current node and then descends with the `*` kept into every container child. -/
theorem C19_descendant_complete (cls : Cls) (kvs : List (Str × Val)) (name : Str) (hn : PlainKey name)
    (hk : KeysOkV (.dict cls kvs)) (hc : ContOkV (.dict cls kvs)) (re : Bool := true) :
    ∃ n, ∀ fuel ≥ n,
      (findallTop fuel fresh (.dict cls kvs) (['/', '/', '*', '/'] ++ name) re).res =
        .ok (some ((descV name (.dict cls kvs)).map (fun pv => (slash ++ renderPos pv.1, pv.2)))) :=
  findallTop_of_tokens (fad_tokens_desc hn) (fad_descendant re hn cls kvs hk hc)

/-- **Both inclusions**: `descV` lists a pair `(p, w)` iff `p` ends with the key `name` and the
node at `p` is `w` — every node called `name`, at any depth, reachable through dictionaries and
lists, and nothing else. -/
theorem C19_descendant_positions (t : Val) (name : Str) (hk : KeysOkV t) (p : Pos) (w : Val) :
    (p, w) ∈ descV name t ↔ (∃ q, p = q ++ [.key name]) ∧ getAt t p = some w :=
  descV_mem name t hk p w

/-- no position is listed twice, and distinct positions have distinct canonical xpaths (so that
`dict.update` never overwrites a pair) -/
theorem C19_descendant_distinct (t : Val) (name : Str) (hk : KeysOkV t) :
    (descV name t).Pairwise (fun a b => a.1 ≠ b.1) ∧
    ∀ p q : Pos, PlainPos p → PlainPos q → slash ++ renderPos p = slash ++ renderPos q → p = q :=
  ⟨(descV_distinct name t hk), fun p q hp hq h => renderPos_inj p q hp hq (List.append_cancel_left h)⟩

/-- every list of the tree contains only dictionaries or lists (the property's quantifier) and
every key is a plain name -/
def GoodTree (t : Val) : Prop :=
  ∀ p v, getAt t p = some v → PlainPos p ∧
    (∀ cls xs, v = .list cls xs → ∀ x ∈ xs, FindAll.isContainer x = true)

/-- the structural hypotheses say what `GoodTree` says (and that keys are not repeated) -/
theorem C19_goodTree_of_ok (t : Val) (hk : KeysOkV t) (hc : ContOkV t) : GoodTree t := by
  intro p v h
  refine ⟨(keysOk_getAt p hk h).1, ?_⟩
  intro cls xs hv x hx
  have := contOk_getAt p hc h
  subst hv
  simp only [ContOkV] at this
  exact contOk_mem this hx

/-- the statement in the form "found iff it is a node called `name`" (membership, both ways) -/
theorem C19_descendant_complete_iff (cls : Cls) (kvs : List (Str × Val)) (name : Str) (hn : PlainKey name)
    (hk : KeysOkV (.dict cls kvs)) (hc : ContOkV (.dict cls kvs)) (re : Bool := true) :
    ∃ n, ∀ fuel ≥ n, ∃ f,
      (findallTop fuel fresh (.dict cls kvs) (['/', '/', '*', '/'] ++ name) re).res = .ok (some f) ∧
      ∀ xp v, (xp, v) ∈ f ↔
        ∃ p, getAt (.dict cls kvs) (p ++ [.key name]) = some v ∧ xp = slash ++ renderPos (p ++ [.key name]) :=
  found_iff_of_map (C19_descendant_complete cls kvs name hn hk hc re) (fun xp v => by
    constructor
    · rintro ⟨p, hm, rfl⟩
      obtain ⟨⟨q, rfl⟩, hg⟩ := (C19_descendant_positions _ name hk p v).1 hm
      exact ⟨q, hg, rfl⟩
    · rintro ⟨q, hg, rfl⟩
      exact ⟨_, (C19_descendant_positions _ name hk _ v).2 ⟨⟨q, rfl⟩, hg⟩, rfl⟩)

/-- **Completeness of the descendant wildcard with a two-step tail, `'//*/name/sub'`.**  On a
dict-rooted tree with `KeysOkV`, `ContOkV` in which no entry called `name` is a list (`NnlV`: below a
list the step `sub` fans out, which has its own rendering), the result is exactly — in document
order — the entries `sub` of the dictionaries called `name`, at any depth
(`tailOf sub (descV name root)`).  A node called `name` that is a final element, or a dictionary
without `sub`, is a miss of that branch (fix C19-d: without it the first such node aborts the whole
search with `KeyError("Internal error…")`) and the search goes on with the other branches. -/
theorem C19_descendant_tail (cls : Cls) (kvs : List (Str × Val)) (name sub : Str)
    (hn : PlainKey name) (hs : PlainKey sub)
    (hk : KeysOkV (.dict cls kvs)) (hc : ContOkV (.dict cls kvs)) (hl : NnlV name (.dict cls kvs))
    (re : Bool := true) :
    ∃ n, ∀ fuel ≥ n,
      (findallTop fuel fresh (.dict cls kvs) (['/', '/', '*', '/'] ++ name ++ ['/'] ++ sub) re).res =
        .ok (some ((tailOf sub (descV name (.dict cls kvs))).map (fun pv => (slash ++ renderPos pv.1, pv.2)))) :=
  findallTop_of_tokens (fat_tokens hn hs) (fat_descendant re hn hs cls kvs hk hc hl)

/-- **Both inclusions**: the pairs listed are exactly the nodes at the positions that end with the
keys `name`, `sub` — every such node, at any depth, and nothing else -/
theorem C19_descendant_tail_positions (t : Val) (name sub : Str) (hk : KeysOkV t) (p : Pos) (v : Val) :
    (p, v) ∈ tailOf sub (descV name t) ↔
      ∃ q, p = q ++ [.key name, .key sub] ∧ getAt t p = some v :=
  fat_tail_mem_getAt name sub t hk p v

/-- the statement in the form "found iff it is the node at a position `…/name/sub`" -/
theorem C19_descendant_tail_iff (cls : Cls) (kvs : List (Str × Val)) (name sub : Str)
    (hn : PlainKey name) (hs : PlainKey sub)
    (hk : KeysOkV (.dict cls kvs)) (hc : ContOkV (.dict cls kvs)) (hl : NnlV name (.dict cls kvs))
    (re : Bool := true) :
    ∃ n, ∀ fuel ≥ n, ∃ f,
      (findallTop fuel fresh (.dict cls kvs) (['/', '/', '*', '/'] ++ name ++ ['/'] ++ sub) re).res = .ok (some f) ∧
      ∀ xp v, (xp, v) ∈ f ↔
        ∃ q, getAt (.dict cls kvs) (q ++ [.key name, .key sub]) = some v ∧
          xp = slash ++ renderPos (q ++ [.key name, .key sub]) :=
  found_iff_of_map (C19_descendant_tail cls kvs name sub hn hs hk hc hl re) (fun xp v => by
    constructor
    · rintro ⟨p, hm, rfl⟩
      obtain ⟨q, rfl, hg⟩ := (C19_descendant_tail_positions _ name sub hk p v).1 hm
      exact ⟨q, hg, rfl⟩
    · rintro ⟨q, hg, rfl⟩
      exact ⟨_, (C19_descendant_tail_positions _ name sub hk _ v).2 ⟨q, rfl, hg⟩, rfl⟩)

/-! ## 6. every key resolves

`PathInv` (`Proofs/FindAllSpell.lean`): "the found-path list always renders the position of the current node" — the list
is the text of groups (a key and the integer indexes appended to it: negative ones as written, `last()-k` as the integer it
evaluates to) that spell a walk from the root to the node, and every proper prefix of the list that is registered in the
stack is registered with the node it leads to (what `'..'` relies on).  Every branch of `_findall` preserves it
(`path_resInv`); a `text()` condition only filters (fix C19-c). -/

/-- **Every key spells the position of its value.**  For every expression, every pair `(xp, v)` of
the result has `xp = "//" ++ steps` for steps (plain keys, attached integer indexes) along which
plain Python indexing from the root reaches `v`. -/
theorem C19_keys_spell (cls : Cls) (kvs : List (Str × Val)) (e : Str) (hk : KeysOkV (.dict cls kvs))
    (fuel : Nat) (re : Bool) (f : Found) (h : (findallTop fuel fresh (.dict cls kvs) e re).res = .ok (some f))
    (xp : Str) (v : Val) (hm : (xp, v) ∈ f) :
    ∃ steps, PlainSteps steps ∧ xp = renderSp .two steps ∧ stepsGet (.dict cls kvs) steps = some v := by
  obtain ⟨G, hok, hkey, hget⟩ := findall_spells _ hk e fuel f re h (xp, v) hm
  exact ⟨stepsOfP G, path_plainSteps hok, hkey.trans (path_keyOf_renderSp hok), hget⟩

/-- **Every key of every result resolves through item access (and `get`) to the value found**
(model of `n0dict.__getitem__`, C01 engine; `C01_spellings_string`), whatever the expression —
names, `*`, indexes in every spelling, `[*]`, `'..'`, `text()` conditions — and the lookup leaves
the tree as it is. -/
theorem C19_resolves_all (cls : Cls) (kvs : List (Str × Val)) (e : Str) (hk : KeysOkV (.dict cls kvs))
    (fuel : Nat) (re : Bool) (f : Found) (h : (findallTop fuel fresh (.dict cls kvs) e re).res = .ok (some f))
    (xp : Str) (v : Val) (hm : (xp, v) ∈ f) :
    ∃ n, ∀ fuel' ≥ n, getItem fuel' (.dict cls kvs) xp = (.dict cls kvs, .ok v) ∧
      ∀ d, get fuel' (.dict cls kvs) xp d = (.dict cls kvs, .ok v) := by
  obtain ⟨steps, hp, rfl, hget⟩ := C19_keys_spell cls kvs e hk fuel re f h xp v hm
  by_cases hne : steps = []
  · subst hne
    rw [stepsGet_nil] at hget
    cases hget
    refine ⟨1, fun fuel' hf => ?_⟩
    obtain ⟨k, rfl, _⟩ := exists_fuel_add (N := 0) (n := 1) hf
    exact ⟨fad_getItem_root k cls kvs, fun d => fad_get_root k cls kvs d⟩
  · exact ⟨2 * steps.length, fun fuel' hf =>
      ⟨getCore_spelling_dict fuel' cls kvs .two steps v _ true true hp hne hget hf,
       fun d => getCore_spelling_dict fuel' cls kvs .two steps v d false true hp hne hget hf⟩⟩

/-! ## findings and non-vacuity -/

def exTree : Val :=
  .dict .n0 [(['a'], .dict .plain [(['b'], .dict .plain [(['c'], .int 1)]), (['k'], .str ['V'])]),
             (['l'], .list .n0 [.dict .n0 [(['n'], .int 1)], .list .plain [.dict .plain [(['n'], .int 5)]]]),
             (['n'], .int 0)]

/-- **C19-c (fixed by `fixes/C19-c.patch`).**  A `text()` condition is not kept in the key: the search returns the
xpath of the node, which item access resolves (the comparison of findall is case-insensitive, `<>` is an operator item
access does not know). -/
theorem C19_text_key_fixed :
    (findallTop 20 fresh exTree ['a', '/', 'k', '[', 't', 'e', 'x', 't', '(', ')', '=', 'v', ']']).res
      = .ok (some [(['/', '/', 'a', '/', 'k'], .str ['V'])]) ∧
    (findallTop 20 fresh exTree ['a', '/', 'k', '[', 't', 'e', 'x', 't', '(', ')', '<', '>', 'w', ']']).res
      = .ok (some [(['/', '/', 'a', '/', 'k'], .str ['V'])]) ∧
    getItem 20 exTree ['/', '/', 'a', '/', 'k'] = (exTree, .ok (.str ['V'])) := by
  decide +kernel

/-- the trees of finding C19-f: `{'x': {'n': 1}, 'y': {'n': 'v'}}` and
`{'r': [{'name': 'a', 'id': 1}, {'name': 'b', 'id': None}]}` -/
def exNum : Val :=
  .dict .n0 [(['x'], .dict .n0 [(['n'], .int 1)]), (['y'], .dict .n0 [(['n'], .str ['v'])])]
def exRecs : Val :=
  .dict .n0 [(['r'], .list .n0 [.dict .n0 [(['n', 'a', 'm', 'e'], .str ['a']), (['i', 'd'], .int 1)],
                                .dict .n0 [(['n', 'a', 'm', 'e'], .str ['b']), (['i', 'd'], .none)]])]

/-- **C19-f (fixed by `fixes/C19-f.patch`).**  A numeric / None leaf under a wildcard or a fan-out does not abort
the search (without the fix: AttributeError in both modes); the numeric node is compared as a
number, as item access does; `!=` selects the node that has no text. -/
theorem C19_text_nonstr_fixed :
    (findallTop 20 fresh exNum ['*', '/', 'n', '[', 't', 'e', 'x', 't', '(', ')', '=', 'v', ']']).res = .ok (some [(['/', '/', 'y', '/', 'n'], .str ['v'])]) ∧
    (findallTop 20 fresh exNum ['*', '/', 'n', '[', 't', 'e', 'x', 't', '(', ')', '=', 'v', ']'] false).res = .ok (some [(['/', '/', 'y', '/', 'n'], .str ['v'])]) ∧
    (findfirstTop 20 fresh exNum ['*', '/', 'n', '[', 't', 'e', 'x', 't', '(', ')', '=', 'v', ']'] false).1 = .ok (some (['/', '/', 'y', '/', 'n'], .str ['v'])) ∧
    (findallTop 20 fresh exNum ['*', '/', 'n', '[', 't', 'e', 'x', 't', '(', ')', '=', '0', '1', ']']).res = .ok (some [(['/', '/', 'x', '/', 'n'], .int 1)]) ∧
    getItem 20 exNum ['x', '/', 'n', '[', 't', 'e', 'x', 't', '(', ')', '=', '1', ']'] = (exNum, .ok (.int 1)) ∧
    (findallTop 20 fresh exRecs ['r', '/', 'i', 'd', '[', 't', 'e', 'x', 't', '(', ')', '=', '1', ']', '/', '.', '.', '/', 'n', 'a', 'm', 'e']).res = .ok (some [(['/', '/', 'r', '[', '0', ']', '/', 'n', 'a', 'm', 'e'], .str ['a'])]) ∧
    (findallTop 20 fresh exRecs ['r', '/', 'i', 'd', '[', 't', 'e', 'x', 't', '(', ')', '!', '=', '1', ']', '/', '.', '.', '/', 'n', 'a', 'm', 'e']).res = .ok (some [(['/', '/', 'r', '[', '1', ']', '/', 'n', 'a', 'm', 'e'], .str ['b'])]) := by
  have h2 : (findallTop 20 fresh exNum ['*', '/', 'n', '[', 't', 'e', 'x', 't', '(', ')', '=', 'v', ']'] false).res
      = .ok (some [(['/', '/', 'y', '/', 'n'], .str ['v'])]) := by decide +kernel
  refine ⟨?_, h2, ?_, ?_, ?_, ?_, ?_⟩
  · decide +kernel
  -- `findfirst` is computed from the non-raising search
  · rw [C19_findfirst, h2]; rfl
  all_goals decide +kernel

/-- outside the quantifier: a list of scalars under a wildcard raises -/
theorem C19_scalar_in_list_cex :
    (findallTop 20 fresh (.dict .n0 [(['s'], .list .n0 [.int 1])]) ['/', '/', '*', '/', 'n']).res
      = .error .IndexError := by
  decide +kernel

/-- the tree of findings C19-d / C19-e:
`{'x': {'name': 'n'}, 'y': {'name': {'first': 'f'}}, 'a': {'b': 'x'}, 'l': [{'name': 'q'}]}` -/
def exMiss : Val :=
  .dict .n0 [(['x'], .dict .n0 [(['n', 'a', 'm', 'e'], .str ['n'])]),
             (['y'], .dict .n0 [(['n', 'a', 'm', 'e'], .dict .n0 [(['f', 'i', 'r', 's', 't'], .str ['f'])])]),
             (['a'], .dict .n0 [(['b'], .str ['x'])]),
             (['l'], .list .n0 [.dict .n0 [(['n', 'a', 'm', 'e'], .str ['q'])]])]

/-- **C19-d (fixed by `fixes/C19-d.patch`).**  A step below a final element is a miss of that branch:
`'//*/name/first'` goes on after `x/name` (a string) and finds `//y/name/first`; `'a/b/c'` is `None`
like `'a/zz'` (without the fix both raise `KeyError("Internal error…")`). -/
theorem C19_step_below_scalar_fixed :
    (findallTop 20 fresh exMiss ['/', '/', '*', '/', 'n', 'a', 'm', 'e', '/', 'f', 'i', 'r', 's', 't']).res
      = .ok (some [(['/', '/', 'y', '/', 'n', 'a', 'm', 'e', '/', 'f', 'i', 'r', 's', 't'], .str ['f'])]) ∧
    (findallTop 20 fresh exMiss ['a', '/', 'b', '/', 'c']).res = .ok Option.none ∧
    (findallTop 20 fresh exMiss ['a', '/', 'z', 'z']).res = .ok Option.none ∧
    (findallTop 20 fresh exMiss ['a', '/', 'b', '[', '0', ']']).res = .ok Option.none :=
  ⟨by decide +kernel, by decide +kernel, by decide +kernel, by decide +kernel⟩

/-- **C19-e (fixed by `fixes/C19-e.patch`).**  `raise_exception=False` reaches `_findall`:
`findfirst(…, False)` answers `(None, None)` for every kind of miss (an index out of range, `'..'`
above the root, a step below a final element), `findfirst(…)` signals it with its own IndexError,
`findall(…, False)` returns `None` where `findall(…)` raises. -/
theorem C19_raise_exception_threaded :
    (findfirstTop 20 fresh exMiss ['l', '[', '5', ']', '/', 'n', 'a', 'm', 'e'] false).1 = .ok Option.none ∧
    (findfirstTop 20 fresh exMiss ['.', '.'] false).1 = .ok Option.none ∧
    (findfirstTop 20 fresh exMiss ['a', '/', 'b', '/', 'c'] false).1 = .ok Option.none ∧
    (findfirstTop 20 fresh exMiss ['l', '[', '5', ']', '/', 'n', 'a', 'm', 'e'] true).1 = .error .IndexError ∧
    (findfirstTop 20 fresh exMiss ['.', '.'] true).1 = .error .IndexError ∧
    (findallTop 20 fresh exMiss ['l', '[', '5', ']'] false).res = .ok Option.none ∧
    (findallTop 20 fresh exMiss ['l', '[', '5', ']']).res = .error .IndexError ∧
    (findallTop 20 fresh exMiss ['.', '.']).res = .error .KeyError := by
  refine ⟨?_, ?_, ?_, ?_, ?_, ?_, ?_, ?_⟩ <;> decide +kernel

-- `C19_descendant_tail`: the hypotheses hold for `exMiss` (no entry `name` is a list); the nodes it must find:
-- `x/name` is a final element (a miss), `y/name` a dictionary with `first`, `l[0]/name` a final element
example : KeysOkV exMiss ∧ ContOkV exMiss ∧ NnlV ['n', 'a', 'm', 'e'] exMiss := by
  decide +kernel
example : tailOf ['f', 'i', 'r', 's', 't'] (descV ['n', 'a', 'm', 'e'] exMiss) =
    [([.key ['y'], .key ['n', 'a', 'm', 'e'], .key ['f', 'i', 'r', 's', 't']], .str ['f'])] := by
  decide +kernel
-- `C19_scalar_step_miss`: its hypotheses hold for a string node and a name / an index / `[*]`
example : FindAll.isContainer (.str ['x']) = false ∧ classify ['c'] = .name ['c'] ∧
    classify ['[', '0', ']'] = .idx 0 ∧ classify ['[', '*', ']'] = .star := by
  decide +kernel
-- `C19_findall_quiet` / `C19_findfirst_signals`: what is still raised with `raise_exception=False`
-- comes from the expression (a malformed step), a found pair is returned
example : (findallTop 20 fresh exMiss ['a', '/', '[', 'x'] false).res = .error .TypeError ∧
    (findfirstTop 20 fresh exMiss ['a', '/', 'b'] false).1 = .ok (some (['/', '/', 'a', '/', 'b'], .str ['x'])) := by
  decide +kernel
-- a history with modes: the raising search, its quiet twin, a search after both
example : (runHistM 20 fresh [(exMiss, ['l', '[', '5', ']'], true), (exMiss, ['l', '[', '5', ']'], false),
      (exMiss, ['a', '/', 'b'], true)]).1
    = [.error .IndexError, .ok Option.none, .ok (some [(['/', '/', 'a', '/', 'b'], .str ['x'])])] := by
  decide +kernel

-- non-vacuity of `C19_exact_path` / `C19_resolves`: key, index, index, key
example : PathOk exTree [.key ['l'], .idx 1, .idx 0, .key ['n']] (.int 5) := by
  refine ⟨⟨by decide, by decide, by decide⟩, _, _, _, rfl, rfl, ?_⟩
  refine ⟨_, _, _, rfl, rfl, rfl, ?_⟩
  refine ⟨_, _, _, rfl, rfl, rfl, ?_⟩
  exact ⟨⟨by decide, by decide, by decide⟩, _, _, _, rfl, rfl, rfl⟩
example : findallTop 20 fresh exTree ['/', '/', 'l', '[', '1', ']', '[', '0', ']', '/', 'n']
    = ⟨.ok (some [(['/', '/', 'l', '[', '1', ']', '[', '0', ']', '/', 'n'], .int 5)]), [], []⟩ := by
  decide +kernel
-- descendant wildcard, fan-out, `..`, `last()`, a leading index on a list root (fix C19-a)
example : (findallTop 20 fresh exTree ['/', '/', '*', '/', 'n']).res
    = .ok (some [(['/', '/', 'n'], .int 0), (['/', '/', 'l', '[', '0', ']', '/', 'n'], .int 1),
                 (['/', '/', 'l', '[', '1', ']', '[', '0', ']', '/', 'n'], .int 5)]) := by
  decide +kernel
example : (findallTop 20 fresh exTree ['l', '/', 'n']).res
    = .ok (some [(['/', '/', 'l', '[', '0', ']', '/', 'n'], .int 1),
                 (['/', '/', 'l', '[', '1', ']', '[', '0', ']', '/', 'n'], .int 5)]) := by
  decide +kernel
example : (findallTop 20 fresh exTree ['a', '/', 'b', '/', '.', '.', '/', 'k']).res
    = .ok (some [(['/', '/', 'a', '/', 'k'], .str ['V'])]) := by
  decide +kernel
example : (findallTop 20 fresh exTree ['l', '[', 'l', 'a', 's', 't', '(', ')', '-', '1', ']', '/', 'n']).res
    = .ok (some [(['/', '/', 'l', '[', '-', '2', ']', '/', 'n'], .int 1)]) := by
  decide +kernel
example : (findallTop 20 fresh (.list .n0 [.dict .n0 [(['n'], .int 1)]]) ['[', '0', ']', '/', 'n']).res
    = .ok (some [(['/', '/', '[', '0', ']', '/', 'n'], .int 1)]) := by
  decide +kernel
-- a history: the second search equals the search run alone, although the first one raised
example : (runHist 20 fresh [(exTree, ['.', '.']), (exTree, ['n'])]).1
    = [.error .KeyError, .ok (some [(['/', '/', 'n'], .int 0)])] := by
  decide +kernel
-- findfirst: many / none
example : (findfirstTop 20 fresh exTree ['l', '/', 'n'] true).1 = .error .IndexError := by
  decide +kernel
example : (findfirstTop 20 fresh exTree ['z'] false).1 = .ok Option.none := by
  decide +kernel
example : classify ['n'] = .name ['n'] := by
  decide +kernel
-- `C19_pure`: a node of the tree; `C19_list_changes_last_only`: a call that really writes
example : Sub exTree (.int 0) := Sub.entry (t := exTree) (k := ['n']) (Sub.refl (t := exTree)) (by simp)
example : (fa true 20 (.list .n0 [.dict .n0 []]) [['[', '0', ']']] [['l']] []).fl = [['l', '[', '0', ']']] := by
  decide +kernel
-- `C19_fanout_all`: both elements are visited
example : (fa true 20 (.list .n0 [.dict .n0 [(['n'], .int 1)], .dict .n0 [(['n'], .int 2)]]) [['n']] [['l']] []).res
    = .ok (some [(['/', '/', 'l', '[', '0', ']', '/', 'n'], .int 1), (['/', '/', 'l', '[', '1', ']', '/', 'n'], .int 2)]) := by
  decide +kernel

-- `C19_descendant_complete` & co.: the tree satisfies the hypotheses; the nodes it must find
example : KeysOkV exTree ∧ ContOkV exTree := by
  decide +kernel
example : descV ['n'] exTree = [([.key ['n']], .int 0), ([.key ['l'], .idx 0, .key ['n']], .int 1),
    ([.key ['l'], .idx 1, .idx 0, .key ['n']], .int 5)] := by
  decide +kernel
-- `C19_keys_spell` / `C19_resolves_all`: negative index, `[*]` on a nested list, name, `'..'`
-- (a `text()` condition followed by `'..'`: below; ending in a condition: `C19_text_key_fixed`)
def exExpr : Str := ['l', '[', '-', '1', ']', '/', '[', '*', ']', '/', 'n', '/', '.', '.']
example : (findallTop 20 fresh exTree exExpr).res
    = .ok (some [(['/', '/', 'l', '[', '-', '1', ']', '[', '0', ']'], .dict .plain [(['n'], .int 5)])]) := by
  decide +kernel
example : getItem 20 exTree ['/', '/', 'l', '[', '-', '1', ']', '[', '0', ']']
    = (exTree, .ok (.dict .plain [(['n'], .int 5)])) := by
  decide +kernel
example : (findallTop 20 fresh exTree ['a', '/', 'k', '[', 't', 'e', 'x', 't', '(', ')', '=', 'v', ']', '/', '.', '.', '/', 'b']).res
    = .ok (some [(['/', '/', 'a', '/', 'b'], .dict .plain [(['c'], .int 1)])]) := by
  decide +kernel
-- the hypothesis "no key twice" is needed: on an association list that repeats a key the second
-- entry is visited by `*` and overwrites the pair of the first
example : (findallTop 20 fresh (.dict .n0 [(['a'], .dict .n0 [(['n'], .int 1)]), (['a'], .dict .n0 [(['n'], .int 2)])])
    ['/', '/', '*', '/', 'n']).res = .ok (some [(['/', '/', 'a', '/', 'n'], .int 2)]) := by
  decide +kernel

/-! ## 7. list-rooted containers (`n0list.findall`)

`n0list.findall(xpath)` calls the same `findall(self, xpath)` as `n0dict.findall` does, so the
model's entry point is the same `findallTop`, applied to `.list cls xs`.  The search starts on a
list node with an empty path list: the first `[*]`/index step rebinds the local name to `[""]`, the
first element of the path list carries no name (`"[1][0]"`) and the keys reported are
`"//" ++ "[1][0]/a/b[2]"` — the canonical xpath of a position `p` below a list root is
`'/' :: '/' :: renderPos p`.  Sections 1 and 3 (`C19_state_invariant`, `C19_history_independent`,
`C19_depends_only`, `C19_pure`, `C19_findfirst`, …) and `C19_fanout`, `C19_descendant_positions`,
`C19_descendant_distinct` quantify over every `Val` and hold for list roots as stated. -/

/-- **An exact path finds exactly its node (list root).**  For a list-rooted tree and a position
`[n] ++ rest` made of indexes of container elements and plain keys (`PathOk`), searching its
canonical xpath — with the prefix `//` as `findall` reports it, with `/`, or with none
(`//[1]/a`, `/[1]/a`, `[1]/a`) — returns exactly one pair: `"//" ++` rendered position and the node
there; the defaults are untouched. -/
theorem C19_exact_path_list (cls : Cls) (xs : List Val) (n : Nat) (rest : Pos) (c : Val)
    (h : PathOk (.list cls xs) (.idx n :: rest) c) (lead : Lead) (fuel : Nat) (hf : fuel > rest.length + 1)
    (re : Bool := true) :
    findallTop fuel fresh (.list cls xs) (leadStr lead ++ renderPos (.idx n :: rest)) re =
      ⟨.ok (some [('/' :: '/' :: renderPos (.idx n :: rest), c)]), [], []⟩ := by
  have hp : PlainPos (.idx n :: rest) := h.plain
  show fa re fuel _ (tokens _) [] [] = _
  rw [fal_tokens_render lead n rest hp, fa_exact re (Seg.idx n :: rest) _ c [] [] fuel h (by simpa using hf),
    fal_keyOf_idx n rest hp]
  rfl

/-- **Fan-out at the list root.**  A name applied to a list root whose elements are dictionaries
or lists returns the outcomes of *all* elements, element `i` searched for the same expression under
the path `[i]`, merged in order (`C19_fanout_all` at the empty path list: the list is the root itself). -/
theorem C19_fanout_all_root (re : Bool) (fuel : Nat) (cls : Cls) (xs : List Val) (name : Str) (rest : List Str)
    (ps : PS) (hn : classify name = .name name) (hall : ∀ x ∈ xs, FindAll.isContainer x = true) :
    (fa re (fuel + 2) (.list cls xs) (name :: rest) [] ps).res =
      mergeAll (fanCalls (fun c cur => fa re fuel c (name :: rest) cur (push ps cur (.list cls xs)))
        [] [] 0 xs) [] :=
  fal_fanout_root re fuel cls xs name rest ps hn hall

/-- **Completeness of the descendant wildcard on a list root, in document order.**  On a
list-rooted tree whose lists (the root included) contain only containers, `'//*/name'` returns
exactly the pairs (`"//" ++` rendered `p`, node at `p`) for the positions `p` of `descV` — every
node called `name` at any depth below the elements (`C19_descendant_positions`), element by
element, a dictionary's own entry first, nothing else. -/
theorem C19_descendant_complete_list (cls : Cls) (xs : List Val) (name : Str) (hn : PlainKey name)
    (hk : KeysOkV (.list cls xs)) (hc : ContOkV (.list cls xs)) (re : Bool := true) :
    ∃ n, ∀ fuel ≥ n,
      (findallTop fuel fresh (.list cls xs) (['/', '/', '*', '/'] ++ name) re).res =
        .ok (some ((descV name (.list cls xs)).map (fun pv => ('/' :: '/' :: renderPos pv.1, pv.2)))) :=
  findallTop_of_tokens (fad_tokens_desc hn) (fal_descendant re hn cls xs hk hc)

/-- the statement in the form "found iff it is a node called `name`" (membership, both ways) -/
theorem C19_descendant_complete_iff_list (cls : Cls) (xs : List Val) (name : Str) (hn : PlainKey name)
    (hk : KeysOkV (.list cls xs)) (hc : ContOkV (.list cls xs)) (re : Bool := true) :
    ∃ n, ∀ fuel ≥ n, ∃ f,
      (findallTop fuel fresh (.list cls xs) (['/', '/', '*', '/'] ++ name) re).res = .ok (some f) ∧
      ∀ xp v, (xp, v) ∈ f ↔
        ∃ p, getAt (.list cls xs) (p ++ [.key name]) = some v ∧ xp = '/' :: '/' :: renderPos (p ++ [.key name]) :=
  found_iff_of_map (pre := ['/', '/']) (C19_descendant_complete_list cls xs name hn hk hc re) (fun xp v => by
    constructor
    · rintro ⟨p, hm, rfl⟩
      obtain ⟨⟨q, rfl⟩, hg⟩ := (C19_descendant_positions _ name hk p v).1 hm
      exact ⟨q, hg, rfl⟩
    · rintro ⟨q, hg, rfl⟩
      exact ⟨_, (C19_descendant_positions _ name hk _ v).2 ⟨⟨q, rfl⟩, hg⟩, rfl⟩)

/-- **Every key spells the position of its value (list root).**  For every expression, every pair
`(xp, v)` of a result on a list root has `xp = "//" ++ steps` — first the integer indexes applied at
the root (`[1][0]`, negative ones and `last()-k` as the integer written/evaluated), then plain keys
with their attached indexes — and plain Python indexing along `steps` from the root reaches `v`. -/
theorem C19_keys_spell_list (cls : Cls) (xs : List Val) (e : Str) (hk : KeysOkV (.list cls xs))
    (fuel : Nat) (re : Bool) (f : Found) (h : (findallTop fuel fresh (.list cls xs) e re).res = .ok (some f))
    (xp : Str) (v : Val) (hm : (xp, v) ∈ f) :
    ∃ steps, PlainSteps steps ∧ xp = renderSp .two steps ∧ stepsGet (.list cls xs) steps = some v := by
  obtain ⟨G, hok, hkey, hget⟩ := findall_spells _ hk e fuel f re h (xp, v) hm
  exact ⟨stepsOfP G, path_plainSteps hok, hkey.trans (path_keyOf_renderSp hok), hget⟩

/-- **Every key of every result on a list root resolves through item access and `get` on the
`n0list` to the value found** (model of `n0list.__getitem__`/`get`, C01 engine;
`C01_spellings_string_list`; the key `'//'` = the root itself), whatever the expression, and the
lookup leaves the tree as it is. -/
theorem C19_resolves_all_list (cls : Cls) (xs : List Val) (e : Str) (hk : KeysOkV (.list cls xs))
    (fuel : Nat) (re : Bool) (f : Found) (h : (findallTop fuel fresh (.list cls xs) e re).res = .ok (some f))
    (xp : Str) (v : Val) (hm : (xp, v) ∈ f) :
    ∃ n, ∀ fuel' ≥ n, getItem fuel' (.list cls xs) xp = (.list cls xs, .ok v) ∧
      ∀ d, get fuel' (.list cls xs) xp d = (.list cls xs, .ok v) := by
  obtain ⟨steps, hp, rfl, hget⟩ := C19_keys_spell_list cls xs e hk fuel re f h xp v hm
  by_cases hne : steps = []
  · subst hne
    rw [stepsGet_nil] at hget
    cases hget
    refine ⟨1, fun fuel' hf => ?_⟩
    obtain ⟨k, rfl, _⟩ := exists_fuel_add (N := 0) (n := 1) hf
    exact ⟨fal_getItem_root k cls xs, fun d => fal_get_root k cls xs d⟩
  · exact ⟨2 * steps.length, fun fuel' hf =>
      ⟨getCore_spelling_list fuel' cls xs .two steps v _ true true hp hne hget hf,
       fun d => getCore_spelling_list fuel' cls xs .two steps v d false true hp hne hget hf⟩⟩

/-- **The key of an exact-path result on a list root resolves** through item access and `get` to
the node at that position, tree unchanged (`C01_list_root_node` covers the spellings `[1]/a` and
`/[1]/a`; the `//` spelling `findall` reports goes through `C01_spellings_string_list`). -/
theorem C19_resolves_list (cls : Cls) (xs : List Val) (n : Nat) (rest : Pos) (c : Val)
    (hk : KeysOkV (.list cls xs)) (h : PathOk (.list cls xs) (.idx n :: rest) c) (lead : Lead)
    (fuel : Nat) (hf : fuel > rest.length + 1) :
    ∃ m, ∀ fuel' ≥ m,
      getItem fuel' (.list cls xs) ('/' :: '/' :: renderPos (.idx n :: rest)) = (.list cls xs, .ok c) ∧
      ∀ d, get fuel' (.list cls xs) ('/' :: '/' :: renderPos (.idx n :: rest)) d = (.list cls xs, .ok c) := by
  have hex := C19_exact_path_list cls xs n rest c h lead fuel hf
  exact C19_resolves_all_list cls xs _ hk fuel true _ (by rw [hex]) _ c (by simp)

/-- a list root: dict elements, a nested list with a dict and a list of lists, an empty dict -/
def exList : Val :=
  .list .n0 [.dict .n0 [(['n'], .int 1), (['s'], .list .n0 [.dict .n0 [(['n'], .int 2)]])],
             .list .plain [.dict .plain [(['n'], .int 5)],
                           .list .plain [.dict .plain [(['x'], .dict .plain [(['n'], .str ['V'])])]]],
             .dict .n0 []]

/-- a list root whose elements are scalars (outside the quantifier of the descendant theorem) -/
def exScalars : Val := .list .n0 [.int 1, .str ['x'], .none]

/-- outside the quantifier: scalars directly in the list root under a wildcard / a name raise -/
theorem C19_scalar_in_list_root_cex :
    (findallTop 20 fresh exScalars ['/', '/', '*', '/', 'n']).res = .error .IndexError ∧
    (findallTop 20 fresh exScalars ['n']).res = .error .IndexError ∧
    (findallTop 20 fresh exScalars ['[', '0', ']']).res = .error .IndexError := by
  decide +kernel

-- `C19_descendant_complete_list` & co.: the hypotheses hold, four nodes at depths 2..5 in document order
example : KeysOkV exList ∧ ContOkV exList := by
  decide +kernel
example : descV ['n'] exList = [([.idx 0, .key ['n']], .int 1), ([.idx 0, .key ['s'], .idx 0, .key ['n']], .int 2),
    ([.idx 1, .idx 0, .key ['n']], .int 5), ([.idx 1, .idx 1, .idx 0, .key ['x'], .key ['n']], .str ['V'])] := by
  decide +kernel
example : (findallTop 20 fresh exList ['/', '/', '*', '/', 'n']).res
    = .ok (some [(['/', '/', '[', '0', ']', '/', 'n'], .int 1),
                 (['/', '/', '[', '0', ']', '/', 's', '[', '0', ']', '/', 'n'], .int 2),
                 (['/', '/', '[', '1', ']', '[', '0', ']', '/', 'n'], .int 5),
                 (['/', '/', '[', '1', ']', '[', '1', ']', '[', '0', ']', '/', 'x', '/', 'n'], .str ['V'])]) := by
  decide +kernel
-- an empty list root: nothing to find, an empty mapping (not an exception)
example : (findallTop 20 fresh (.list .n0 []) ['/', '/', '*', '/', 'n']).res = .ok (some []) := by
  decide +kernel
-- `C19_exact_path_list`: index, index, index, key, key; the three prefixes
example : PathOk exList [.idx 1, .idx 1, .idx 0, .key ['x'], .key ['n']] (.str ['V']) := by
  refine ⟨_, _, _, rfl, rfl, rfl, ?_⟩
  refine ⟨_, _, _, rfl, rfl, rfl, ?_⟩
  refine ⟨_, _, _, rfl, rfl, rfl, ?_⟩
  refine ⟨⟨by decide, by decide, by decide⟩, _, _, _, rfl, rfl, ?_⟩
  exact ⟨⟨by decide, by decide, by decide⟩, _, _, _, rfl, rfl, rfl⟩
example : findallTop 20 fresh exList ['[', '1', ']', '[', '1', ']', '[', '0', ']', '/', 'x', '/', 'n']
    = ⟨.ok (some [(['/', '/', '[', '1', ']', '[', '1', ']', '[', '0', ']', '/', 'x', '/', 'n'], .str ['V'])]), [], []⟩ := by
  decide +kernel
example : findallTop 20 fresh exList ['/', '/', '[', '0', ']', '/', 's']
    = ⟨.ok (some [(['/', '/', '[', '0', ']', '/', 's'], .list .n0 [.dict .n0 [(['n'], .int 2)]])]), [], []⟩ := by
  decide +kernel
-- `C19_fanout_all_root`: a name at the root visits the dict elements and, through the nested list, its elements
example : (findallTop 20 fresh (.list .n0 [.dict .n0 [(['n'], .int 1)], .list .n0 [.dict .n0 [(['n'], .int 2)]], .dict .n0 []]) ['n']).res
    = .ok (some [(['/', '/', '[', '0', ']', '/', 'n'], .int 1), (['/', '/', '[', '1', ']', '[', '0', ']', '/', 'n'], .int 2)]) := by
  decide +kernel
-- `C19_keys_spell_list` / `C19_resolves_all_list`: negative index and `last()` at the root, `[*]`, `'..'`, `text()`
def exListExpr : Str := ['[', '-', '2', ']', '/', '[', 'l', 'a', 's', 't', '(', ')', ']', '/', '[', '*', ']', '/', 'x', '/', '.', '.']
example : (findallTop 20 fresh exList exListExpr).res
    = .ok (some [(['/', '/', '[', '-', '2', ']', '[', '-', '1', ']', '[', '0', ']'],
        .dict .plain [(['x'], .dict .plain [(['n'], .str ['V'])])])]) := by
  decide +kernel
example : getItem 20 exList ['/', '/', '[', '-', '2', ']', '[', '-', '1', ']', '[', '0', ']']
    = (exList, .ok (.dict .plain [(['x'], .dict .plain [(['n'], .str ['V'])])])) := by
  decide +kernel
example : (findallTop 20 fresh exList ['[', '1', ']', '[', '1', ']', '/', 'x', '/', 'n', '[', 't', 'e', 'x', 't', '(', ')', '=', 'v', ']']).res
    = .ok (some [(['/', '/', '[', '1', ']', '[', '1', ']', '[', '0', ']', '/', 'x', '/', 'n'], .str ['V'])]) := by
  decide +kernel
-- the root itself under the key `'//'` (steps = []), also when its elements are scalars; `'..'` above the root
example : (findallTop 20 fresh exScalars ['/', '/']).res = .ok (some [(['/', '/'], exScalars)]) := by
  decide +kernel
example : getItem 20 exScalars ['/', '/'] = (exScalars, .ok exScalars) := by
  decide +kernel
example : KeysOkV exScalars := by simp [exScalars, KeysOkV, KeysOkL]
example : (findallTop 20 fresh exList ['[', '0', ']', '/', '.', '.']).res = .error .KeyError := by
  decide +kernel
-- history: list-rooted and dict-rooted searches interleaved, one raising; findfirst none / many on a list root
example : (runHist 20 fresh [(exList, ['n']), (exTree, ['.', '.']), (exScalars, ['n']), (exList, ['n'])]).1
    = [.ok (some [(['/', '/', '[', '0', ']', '/', 'n'], .int 1), (['/', '/', '[', '1', ']', '[', '0', ']', '/', 'n'], .int 5)]),
       .error .KeyError, .error .IndexError,
       .ok (some [(['/', '/', '[', '0', ']', '/', 'n'], .int 1), (['/', '/', '[', '1', ']', '[', '0', ']', '/', 'n'], .int 5)])] := by
  decide +kernel
example : (findfirstTop 20 fresh exList ['n'] true).1 = .error .IndexError := by
  decide +kernel
example : (findfirstTop 20 fresh exList ['n'] false).1 = .ok (some (['/', '/', '[', '0', ']', '/', 'n'], .int 1)) := by
  decide +kernel
example : (findfirstTop 20 fresh exList ['z'] true).1 = .error .IndexError := by
  decide +kernel
example : (findfirstTop 20 fresh exList ['z'] false).1 = .ok Option.none := by
  decide +kernel
example : (findfirstTop 20 fresh exList ['[', '2', ']'] true).1 = .ok (some (['/', '/', '[', '2', ']'], .dict .n0 [])) := by
  decide +kernel


/-! ## two-step tails with lists under `name` (`Proofs/FindAllTailFan.lean`) -/

/-- **`'//*/name/sub'`, lists under `name` included.**  On a dict root with `KeysOkV`, `ContOkV` (no
hypothesis about what the entries called `name` hold) the search returns, for every fuel above a
bound, **exactly** the pairs of the DFS reference `tailOfL sub (descV name root)`: below every node
called `name` (any depth, document order) the entry `sub` of the node itself when it is a dictionary,
of every element in order when it is a list (lists of lists recursively: `subV`), nothing below a
final element — under the canonical xpaths `…/name[i]/sub`, `…/name[i][j]/sub`. -/
theorem C19_descendant_tail_lists (cls : Cls) (kvs : List (Str × Val)) (name sub : Str)
    (hn : PlainKey name) (hs : PlainKey sub)
    (hk : KeysOkV (.dict cls kvs)) (hc : ContOkV (.dict cls kvs)) (re : Bool := true) :
    ∃ n, ∀ fuel ≥ n,
      (findallTop fuel fresh (.dict cls kvs) (['/', '/', '*', '/'] ++ name ++ ['/'] ++ sub) re).res =
        .ok (some ((tailOfL sub (descV name (.dict cls kvs))).map (fun pv => (slash ++ renderPos pv.1, pv.2)))) :=
  findallTop_of_tokens (fat_tokens hn hs) (fatl_descendant re hn hs cls kvs hk hc)

/-- the reference lists no position twice and only plain positions (so no key is reported twice) -/
theorem C19_descendant_tail_lists_distinct (t : Val) (name sub : Str) (hs : PlainKey sub) (hk : KeysOkV t) :
    (tailOfL sub (descV name t)).Pairwise (fun a b => a.1 ≠ b.1) ∧ ∀ pv ∈ tailOfL sub (descV name t), PlainPos pv.1 :=
  ⟨fatl_tail_distinct name sub _ (descV_distinct name _ hk)
      (fun b hb => ((descV_mem name _ hk b.1 b.2).1 hb).1),
    fatl_tail_plain hs _ (descV_plain hk)⟩

/-- when no node called `name` is a list the reference is the one of `C19_descendant_tail` -/
theorem C19_descendant_tail_lists_agrees (sub : Str) (l : List (Pos × Val)) (h : ∀ b ∈ l, ∀ c xs, b.2 ≠ .list c xs) :
    tailOfL sub l = tailOf sub l := fatl_tailOfL_eq sub l h

/-- a tree with lists under `name`: a list of dictionaries (one without `sub`) and a nested list, a
dictionary, and a list directly in the root -/
def exTailL : Val :=
  .dict .n0 [(['x'], .dict .n0 [(['n', 'a', 'm', 'e'], .list .n0 [.dict .n0 [(['s', 'u', 'b'], .str ['a'])],
                .dict .n0 [(['o'], .int 1)], .list .n0 [.dict .n0 [(['s', 'u', 'b'], .str ['b'])]]])]),
             (['y'], .dict .n0 [(['n', 'a', 'm', 'e'], .dict .n0 [(['s', 'u', 'b'], .str ['c'])])]),
             (['n', 'a', 'm', 'e'], .list .n0 [.dict .n0 [(['s', 'u', 'b'], .str ['d'])]])]

-- non-vacuity of `C19_descendant_tail_lists`: the hypotheses hold for `exTailL`, the reference is not empty, and the
-- model's answer is what the real code returns (`{'//name[0]/sub': 'd', '//x/name[0]/sub': 'a', '//x/name[2][0]/sub': 'b',
-- '//y/name/sub': 'c'}`, both modes)
example : KeysOkV exTailL ∧ ContOkV exTailL := by
  decide +kernel
example : tailOfL ['s', 'u', 'b'] (descV ['n', 'a', 'm', 'e'] exTailL) =
    [([.key ['n', 'a', 'm', 'e'], .idx 0, .key ['s', 'u', 'b']], .str ['d']),
     ([.key ['x'], .key ['n', 'a', 'm', 'e'], .idx 0, .key ['s', 'u', 'b']], .str ['a']),
     ([.key ['x'], .key ['n', 'a', 'm', 'e'], .idx 2, .idx 0, .key ['s', 'u', 'b']], .str ['b']),
     ([.key ['y'], .key ['n', 'a', 'm', 'e'], .key ['s', 'u', 'b']], .str ['c'])] := by
  decide +kernel
example : ∀ re, (findallTop 20 fresh exTailL "//*/name/sub".toList re).res =
    .ok (some [("//name[0]/sub".toList, .str ['d']), ("//x/name[0]/sub".toList, .str ['a']),
      ("//x/name[2][0]/sub".toList, .str ['b']), ("//y/name/sub".toList, .str ['c'])]) := by
  rw [String.toList_ofList, String.toList_ofList, String.toList_ofList, String.toList_ofList, String.toList_ofList]
  decide +kernel


/-- **`'//*/name/sub'` on a list root (`n0list`), lists under `name` included**: exactly the pairs of the DFS
reference `tailOfL sub (descV name root)`, keys `"//" ++` rendered position (`//[0]/name[1][0]/sub`),
document order -/
theorem C19_descendant_tail_lists_list_root (cls : Cls) (xs : List Val) (name sub : Str)
    (hn : PlainKey name) (hs : PlainKey sub)
    (hk : KeysOkV (.list cls xs)) (hc : ContOkV (.list cls xs)) (re : Bool := true) :
    ∃ n, ∀ fuel ≥ n,
      (findallTop fuel fresh (.list cls xs) (['/', '/', '*', '/'] ++ name ++ ['/'] ++ sub) re).res =
        .ok (some ((tailOfL sub (descV name (.list cls xs))).map (fun pv => ('/' :: '/' :: renderPos pv.1, pv.2)))) :=
  findallTop_of_tokens (fat_tokens hn hs) (fatl_descendant_list re hn hs cls xs hk hc)

/-- a list root: a dictionary whose `name` is a list (dictionary, nested list, dictionary without `sub`),
and a nested list with a dictionary whose `name` is a dictionary -/
def exTailLR : Val :=
  .list .n0 [.dict .n0 [(['n', 'a', 'm', 'e'], .list .n0 [.dict .n0 [(['s', 'u', 'b'], .str ['a'])],
                .list .n0 [.dict .n0 [(['s', 'u', 'b'], .str ['b'])]], .dict .n0 [(['o'], .int 1)]])],
             .list .n0 [.dict .n0 [(['n', 'a', 'm', 'e'], .dict .n0 [(['s', 'u', 'b'], .str ['c'])])]]]

-- non-vacuity of `C19_descendant_tail_lists_list_root`; the real code returns
-- `{'//[0]/name[0]/sub': 'a', '//[0]/name[1][0]/sub': 'b', '//[1][0]/name/sub': 'c'}` (both modes)
example : KeysOkV exTailLR ∧ ContOkV exTailLR := by
  decide +kernel
example : tailOfL ['s', 'u', 'b'] (descV ['n', 'a', 'm', 'e'] exTailLR) =
    [([.idx 0, .key ['n', 'a', 'm', 'e'], .idx 0, .key ['s', 'u', 'b']], .str ['a']),
     ([.idx 0, .key ['n', 'a', 'm', 'e'], .idx 1, .idx 0, .key ['s', 'u', 'b']], .str ['b']),
     ([.idx 1, .idx 0, .key ['n', 'a', 'm', 'e'], .key ['s', 'u', 'b']], .str ['c'])] := by
  decide +kernel
example : ∀ re, (findallTop 20 fresh exTailLR "//*/name/sub".toList re).res =
    .ok (some [("//[0]/name[0]/sub".toList, .str ['a']), ("//[0]/name[1][0]/sub".toList, .str ['b']),
      ("//[1][0]/name/sub".toList, .str ['c'])]) := by
  rw [String.toList_ofList, String.toList_ofList, String.toList_ofList, String.toList_ofList]
  decide +kernel


/-- **Both inclusions for the fan-out reference**: the pairs listed are exactly the nodes at the positions
`… name`, any number of list indexes, `sub` — every such node, at any depth, and nothing else -/
theorem C19_descendant_tail_lists_positions (t : Val) (name sub : Str) (hk : KeysOkV t) (p : Pos) (v : Val) :
    (p, v) ∈ tailOfL sub (descV name t) ↔
      ∃ (q : Pos) (is : List Nat), p = q ++ [.key name] ++ is.map Seg.idx ++ [.key sub] ∧ getAt t p = some v :=
  fatl_tail_mem_getAt name sub t hk p v

/-- the statement in the form "found iff it is the node at a position `…/name[i]…[j]/sub`" (dict root) -/
theorem C19_descendant_tail_lists_iff (cls : Cls) (kvs : List (Str × Val)) (name sub : Str)
    (hn : PlainKey name) (hs : PlainKey sub)
    (hk : KeysOkV (.dict cls kvs)) (hc : ContOkV (.dict cls kvs)) (re : Bool := true) :
    ∃ n, ∀ fuel ≥ n, ∃ f,
      (findallTop fuel fresh (.dict cls kvs) (['/', '/', '*', '/'] ++ name ++ ['/'] ++ sub) re).res = .ok (some f) ∧
      ∀ xp v, (xp, v) ∈ f ↔
        ∃ (q : Pos) (is : List Nat),
          getAt (.dict cls kvs) (q ++ [.key name] ++ is.map Seg.idx ++ [.key sub]) = some v ∧
          xp = slash ++ renderPos (q ++ [.key name] ++ is.map Seg.idx ++ [.key sub]) :=
  found_iff_of_map (C19_descendant_tail_lists cls kvs name sub hn hs hk hc re) (fun xp v => by
    constructor
    · rintro ⟨p, hm, rfl⟩
      obtain ⟨q, is, rfl, hg⟩ := (C19_descendant_tail_lists_positions _ name sub hk p v).1 hm
      exact ⟨q, is, hg, rfl⟩
    · rintro ⟨q, is, hg, rfl⟩
      exact ⟨_, (C19_descendant_tail_lists_positions _ name sub hk _ v).2 ⟨q, is, rfl, hg⟩, rfl⟩)

/-- the same on a list root -/
theorem C19_descendant_tail_lists_iff_list_root (cls : Cls) (xs : List Val) (name sub : Str)
    (hn : PlainKey name) (hs : PlainKey sub)
    (hk : KeysOkV (.list cls xs)) (hc : ContOkV (.list cls xs)) (re : Bool := true) :
    ∃ n, ∀ fuel ≥ n, ∃ f,
      (findallTop fuel fresh (.list cls xs) (['/', '/', '*', '/'] ++ name ++ ['/'] ++ sub) re).res = .ok (some f) ∧
      ∀ xp v, (xp, v) ∈ f ↔
        ∃ (q : Pos) (is : List Nat),
          getAt (.list cls xs) (q ++ [.key name] ++ is.map Seg.idx ++ [.key sub]) = some v ∧
          xp = '/' :: '/' :: renderPos (q ++ [.key name] ++ is.map Seg.idx ++ [.key sub]) :=
  found_iff_of_map (pre := ['/', '/']) (C19_descendant_tail_lists_list_root cls xs name sub hn hs hk hc re) (fun xp v => by
    constructor
    · rintro ⟨p, hm, rfl⟩
      obtain ⟨q, is, rfl, hg⟩ := (C19_descendant_tail_lists_positions _ name sub hk p v).1 hm
      exact ⟨q, is, hg, rfl⟩
    · rintro ⟨q, is, hg, rfl⟩
      exact ⟨_, (C19_descendant_tail_lists_positions _ name sub hk _ v).2 ⟨q, is, rfl, hg⟩, rfl⟩)

-- non-vacuity of the membership forms: the position `x/name[2][0]/sub` of `exTailL` holds `'b'`
example : getAt exTailL ([.key ['x']] ++ [.key ['n', 'a', 'm', 'e']] ++ [2, 0].map Seg.idx ++ [.key ['s', 'u', 'b']])
    = some (.str ['b']) := by
  decide +kernel
example : getAt exTailLR ([.idx 0] ++ [.key ['n', 'a', 'm', 'e']] ++ [1, 0].map Seg.idx ++ [.key ['s', 'u', 'b']])
    = some (.str ['b']) := by
  decide +kernel

/-! ## 9. the descendant search with a tail of any length, `'//*/name/s1/…/sk'`

`joinSl name subs` is `'/'.join([name] + subs)`; `tailN subs` iterates the one-step tail function of
`C19_descendant_tail` (`tailOf`) along `subs` — `tailN [sub] = tailOf sub`, `tailN [] = id` (`'//*/name'`).
Hypothesis `NnlsV (name :: subs).dropLast root`: no entry called like a NON-final step is a list (the
last step may hold anything). -/

/-- **`'//*/name/s1/…/sk'` on a dict root, any k**: for every tree (any size and depth) with `KeysOkV`, `ContOkV` and
`NnlsV` (above), every plain names, both modes: exactly the pairs of the reference `tailN subs (descV name root)` — below every
node called `name` (any depth, document order) the node reached by the keys `s1 … sk` through
dictionaries — keys `"//" ++` rendered position, no key twice (`C19_descendant_tail_n_distinct`).  A
walk that meets a missing key or a final element is a miss of that branch only. -/
theorem C19_descendant_tail_n (cls : Cls) (kvs : List (Str × Val)) (name : Str) (subs : List Str)
    (hn : PlainKey name) (hs : ∀ s ∈ subs, PlainKey s)
    (hk : KeysOkV (.dict cls kvs)) (hc : ContOkV (.dict cls kvs))
    (hl : NnlsV (name :: subs).dropLast (.dict cls kvs)) (re : Bool := true) :
    ∃ n, ∀ fuel ≥ n,
      (findallTop fuel fresh (.dict cls kvs) (['/', '/', '*', '/'] ++ joinSl name subs) re).res =
        .ok (some ((tailN subs (descV name (.dict cls kvs))).map (fun pv => (slash ++ renderPos pv.1, pv.2)))) :=
  findallTop_of_tokens (fatn_tokens hn hs) (fatn_descendant re hn hs cls kvs hk hc hl)

/-- the reference lists no position twice and only plain positions (so no key is reported twice) -/
theorem C19_descendant_tail_n_distinct (t : Val) (name : Str) (subs : List Str) (hs : ∀ s ∈ subs, PlainKey s)
    (hk : KeysOkV t) :
    (tailN subs (descV name t)).Pairwise (fun a b => a.1 ≠ b.1) ∧ ∀ pv ∈ tailN subs (descV name t), PlainPos pv.1 :=
  ⟨fatn_tail_distinct subs _ (descV_distinct name _ hk), fatn_tail_plain subs hs _ (descV_plain hk)⟩

/-- one step is the reference of `C19_descendant_tail`; below one node the reference is the walk along the keys -/
theorem C19_descendant_tail_n_ref (sub : Str) (subs : List Str) (l : List (Pos × Val)) (p : Pos) (v : Val) :
    tailN [sub] l = tailOf sub l ∧
    tailN subs [(p, v)] = (match walkN subs v with
      | some x => [(p ++ subs.map Seg.key, x)]
      | Option.none => []) :=
  ⟨rfl, tailN_single subs p v⟩

/-- **Both inclusions**: the pairs listed are exactly the nodes at the positions that end with the keys
`name, s1, …, sk` — every such node, at any depth, and nothing else -/
theorem C19_descendant_tail_n_positions (t : Val) (name : Str) (subs : List Str) (hk : KeysOkV t) (p : Pos) (v : Val) :
    (p, v) ∈ tailN subs (descV name t) ↔
      ∃ q, p = q ++ (name :: subs).map Seg.key ∧ getAt t p = some v :=
  fatn_tail_mem_getAt name subs t hk p v

/-- the statement in the form "found iff it is the node at a position `…/name/s1/…/sk`" -/
theorem C19_descendant_tail_n_iff (cls : Cls) (kvs : List (Str × Val)) (name : Str) (subs : List Str)
    (hn : PlainKey name) (hs : ∀ s ∈ subs, PlainKey s)
    (hk : KeysOkV (.dict cls kvs)) (hc : ContOkV (.dict cls kvs))
    (hl : NnlsV (name :: subs).dropLast (.dict cls kvs)) (re : Bool := true) :
    ∃ n, ∀ fuel ≥ n, ∃ f,
      (findallTop fuel fresh (.dict cls kvs) (['/', '/', '*', '/'] ++ joinSl name subs) re).res = .ok (some f) ∧
      ∀ xp v, (xp, v) ∈ f ↔
        ∃ q, getAt (.dict cls kvs) (q ++ (name :: subs).map Seg.key) = some v ∧
          xp = slash ++ renderPos (q ++ (name :: subs).map Seg.key) :=
  found_iff_of_map (C19_descendant_tail_n cls kvs name subs hn hs hk hc hl re) (fun xp v => by
    constructor
    · rintro ⟨p, hm, rfl⟩
      obtain ⟨q, rfl, hg⟩ := (C19_descendant_tail_n_positions _ name subs hk p v).1 hm
      exact ⟨q, hg, rfl⟩
    · rintro ⟨q, hg, rfl⟩
      exact ⟨_, (C19_descendant_tail_n_positions _ name subs hk _ v).2 ⟨q, rfl, hg⟩, rfl⟩)

/-- a tree for tails of three and four steps: `a/b/c` at the root (a dictionary), below `x`, nested below
`a/b` itself, below a list element; branches that miss (`x/z/a/b` a final element, `l[1]/a` an integer,
`y/a` without `b`) -/
def exTailN : Val :=
  .dict .n0 [(['x'], .dict .n0 [(['a'], .dict .n0 [(['b'], .dict .n0 [(['c'], .str ['p']), (['o'], .int 1)])]),
                               (['z'], .dict .n0 [(['a'], .dict .n0 [(['b'], .str ['f'])])])]),
             (['a'], .dict .n0 [(['b'], .dict .n0 [(['c'], .dict .n0 [(['d'], .str ['q'])]),
                               (['a'], .dict .n0 [(['b'], .dict .n0 [(['c'], .str ['r'])])])])]),
             (['l'], .list .n0 [.dict .n0 [(['a'], .dict .n0 [(['b'], .dict .n0 [(['c'], .str ['s'])])])],
                               .dict .n0 [(['a'], .int 5)]]),
             (['y'], .dict .n0 [(['a'], .dict .n0 [(['k'], .int 1)])])]

-- non-vacuity of `C19_descendant_tail_n` (k = 3 and k = 4): the hypotheses hold for `exTailN`, the references are
-- not empty, and the model's answers are what the real code returns for `findall('//*/a/b/c')`
-- (`{'//a/b/c': {'d': 'q'}, '//x/a/b/c': 'p', '//a/b/a/b/c': 'r', '//l[0]/a/b/c': 's'}`) and
-- `findall('//*/a/b/c/d')` (`{'//a/b/c/d': 'q'}`), both modes
example : KeysOkV exTailN ∧ ContOkV exTailN ∧ NnlsV ([['a'], ['b'], ['c']] : List Str).dropLast exTailN ∧
    NnlsV ([['a'], ['b'], ['c'], ['d']] : List Str).dropLast exTailN := by
  rw []
  decide +kernel
example : joinSl ['a'] [['b'], ['c']] = "a/b/c".toList ∧ joinSl ['a'] [['b'], ['c'], ['d']] = "a/b/c/d".toList := by
  rw [String.toList_ofList, String.toList_ofList]
  decide +kernel
example : tailN [['b'], ['c']] (descV ['a'] exTailN) =
    [([.key ['a'], .key ['b'], .key ['c']], .dict .n0 [(['d'], .str ['q'])]),
     ([.key ['x'], .key ['a'], .key ['b'], .key ['c']], .str ['p']),
     ([.key ['a'], .key ['b'], .key ['a'], .key ['b'], .key ['c']], .str ['r']),
     ([.key ['l'], .idx 0, .key ['a'], .key ['b'], .key ['c']], .str ['s'])] := by
  decide +kernel
example : tailN [['b'], ['c'], ['d']] (descV ['a'] exTailN) =
    [([.key ['a'], .key ['b'], .key ['c'], .key ['d']], .str ['q'])] := by
  rw []
  decide +kernel
example : ∀ re, (findallTop 30 fresh exTailN "//*/a/b/c".toList re).res =
    .ok (some [("//a/b/c".toList, .dict .n0 [(['d'], .str ['q'])]), ("//x/a/b/c".toList, .str ['p']),
      ("//a/b/a/b/c".toList, .str ['r']), ("//l[0]/a/b/c".toList, .str ['s'])]) := by
  rw [String.toList_ofList, String.toList_ofList, String.toList_ofList, String.toList_ofList, String.toList_ofList]
  decide +kernel
example : ∀ re, (findallTop 30 fresh exTailN "//*/a/b/c/d".toList re).res =
    .ok (some [("//a/b/c/d".toList, .str ['q'])]) := by
  rw [String.toList_ofList, String.toList_ofList]
  decide +kernel


/-- **`'//*/name/s1/…/sk'` on a list root (`n0list`), any k**: exactly the pairs of the same reference
`tailN subs (descV name root)`, keys `"//" ++` rendered position (`//[0]/x/a/b/c`), document order -/
theorem C19_descendant_tail_n_list_root (cls : Cls) (xs : List Val) (name : Str) (subs : List Str)
    (hn : PlainKey name) (hs : ∀ s ∈ subs, PlainKey s)
    (hk : KeysOkV (.list cls xs)) (hc : ContOkV (.list cls xs))
    (hl : NnlsV (name :: subs).dropLast (.list cls xs)) (re : Bool := true) :
    ∃ n, ∀ fuel ≥ n,
      (findallTop fuel fresh (.list cls xs) (['/', '/', '*', '/'] ++ joinSl name subs) re).res =
        .ok (some ((tailN subs (descV name (.list cls xs))).map (fun pv => ('/' :: '/' :: renderPos pv.1, pv.2)))) :=
  findallTop_of_tokens (fatn_tokens hn hs) (fatn_descendant_list re hn hs cls xs hk hc hl)

/-- a list root for tails of three and four steps: matches in a dictionary element, below `x` (a dictionary),
in a nested list below `z`; `[1][0]/a/b` a final element and `[2]/a` an integer miss -/
def exTailNR : Val :=
  .list .n0 [.dict .n0 [(['a'], .dict .n0 [(['b'], .dict .n0 [(['c'], .str ['p'])])]),
                        (['x'], .dict .n0 [(['a'], .dict .n0 [(['b'], .dict .n0 [(['c'], .dict .n0 [(['d'], .str ['q'])])])])])],
             .list .n0 [.dict .n0 [(['a'], .dict .n0 [(['b'], .str ['f'])])],
                        .dict .n0 [(['z'], .dict .n0 [(['a'], .dict .n0 [(['b'], .dict .n0 [(['c'], .str ['r'])])])])]],
             .dict .n0 [(['a'], .int 5)]]

-- non-vacuity of `C19_descendant_tail_n_list_root` (k = 3, 4); the real code returns
-- `{'//[0]/a/b/c': 'p', '//[0]/x/a/b/c': {'d': 'q'}, '//[1][1]/z/a/b/c': 'r'}` and `{'//[0]/x/a/b/c/d': 'q'}` (both modes)
example : KeysOkV exTailNR ∧ ContOkV exTailNR ∧ NnlsV ([['a'], ['b'], ['c']] : List Str).dropLast exTailNR ∧
    NnlsV ([['a'], ['b'], ['c'], ['d']] : List Str).dropLast exTailNR := by
  decide +kernel
example : tailN [['b'], ['c']] (descV ['a'] exTailNR) =
    [([.idx 0, .key ['a'], .key ['b'], .key ['c']], .str ['p']),
     ([.idx 0, .key ['x'], .key ['a'], .key ['b'], .key ['c']], .dict .n0 [(['d'], .str ['q'])]),
     ([.idx 1, .idx 1, .key ['z'], .key ['a'], .key ['b'], .key ['c']], .str ['r'])] := by
  decide +kernel
example : ∀ re, (findallTop 30 fresh exTailNR "//*/a/b/c".toList re).res =
    .ok (some [("//[0]/a/b/c".toList, .str ['p']), ("//[0]/x/a/b/c".toList, .dict .n0 [(['d'], .str ['q'])]),
      ("//[1][1]/z/a/b/c".toList, .str ['r'])]) := by
  rw [String.toList_ofList, String.toList_ofList, String.toList_ofList, String.toList_ofList]
  decide +kernel
example : ∀ re, (findallTop 30 fresh exTailNR "//*/a/b/c/d".toList re).res =
    .ok (some [("//[0]/x/a/b/c/d".toList, .str ['q'])]) := by
  rw [String.toList_ofList, String.toList_ofList]
  decide +kernel

-- non-vacuity of the membership forms: the position `a/b/a/b/c` of `exTailN` holds `'r'`
example : getAt exTailN ([.key ['a'], .key ['b']] ++ ([['a'], ['b'], ['c']] : List Str).map Seg.key) = some (.str ['r']) := by
  decide +kernel

end N0.C19
