import N0Verif.Proofs.Names
import N0Verif.Gen.Symtab
/-!
# C20 — no public entry point can fail on a name the library never defined

`Gen.Symtab.table` is regenerated from the Python sources on every run of the check
(`harness/translate_names.py`).  The theorems below are therefore statements about the sources as they
stand at that run: when a function body starts to refer to a global name, an imported helper or an own
method that nothing defines, the corresponding instance theorem stops compiling.

Reading of the property (static, as its quantifier says):
* `C20_names_resolve`   every name the compiler treats as a global reference in any function,
                        method, lambda, comprehension, class body or module body of any module of
                        the package is bound at top level of that module, or star-imported from a
                        module that exports and defines it, or is a builtin;
* `C20_imports_resolve` every `from .m import x` (module level or function-local) finds `x` in `m`;
* `C20_attrs_resolve`   for every class the package exports, every `self.x` load in one of its
                        methods — own or inherited from a library base — finds `x` in the class
                        body / among the `self.x = …` stores of the class or of an ancestor, or
                        in `dir` of an external base (`dict`, `list`, `object`, …); a base the
                        translator cannot resolve would make every attribute resolve (`HasAttr.unknown`);
* `C20_exports_exist`   every name in every `__all__` exists in its module and is an attribute of
                        the package.
The generic parts (`checkX tbl = true → declarative statement`, for every table) are
`Proofs/Names.lean`; here they are instantiated with the generated table.
-/
namespace N0.C20
open N0.Names N0.Gen.Symtab

/-! the checkers accept the generated table: kernel evaluation, for `C20_refs` and `C20_all` of the bit-set form -/

theorem C20_refs : checkRefs table = true := (checkRefs_eq_bits table).trans (by decide +kernel)
theorem C20_imports : checkImports table = true := by decide +kernel
theorem C20_attrs : checkAttrs table = true := by decide +kernel
theorem C20_all : checkAll table = true := (checkAll_eq_bits table).trans (by decide +kernel)

theorem C20_names_resolve :
    ∀ (m : Nat) (mi : Mod), table.mod? m = some mi →
    ∀ (f n : Nat), (f, n) ∈ mi.refs → Resolves table m n :=
  checkRefs_sound table C20_refs

theorem C20_imports_resolve :
    ∀ (mi : Mod), mi ∈ table.mods →
    ∀ (f t n : Nat), (f, t, n) ∈ mi.imports → Defines table t n :=
  checkImports_sound table C20_imports

theorem C20_attrs_resolve :
    ∀ (m c : Nat), (m, c) ∈ table.concrete →
    ∀ (m' c' : Nat) (ci' : Cls), Ancestor table m c m' c' → table.cls? m' c' = some ci' →
    ∀ (f a : Nat), (f, a) ∈ ci'.loads → HasAttr table m c a :=
  checkAttrs_sound table C20_attrs

theorem C20_exports_exist :
    ∀ (m : Nat) (mi : Mod) (l : List Nat), table.mod? m = some mi → mi.all = some l →
    ∀ n ∈ l, Defines table m n ∧ Defines table table.pkg n :=
  checkAll_sound table C20_all

/-- no open finding is excused: the exception list generated from `known_findings/C20.json` is empty -/
theorem C20_no_exceptions : known = [] := by decide

/-- the lists of offenders the driver prints for references, imports and export lists are empty -/
theorem C20_no_offenders :
    badRefs table = [] ∧ badImports table = [] ∧ badAll table = [] :=
  ⟨(badRefs_nil_iff table).mpr C20_refs, (badImports_nil_iff table).mpr C20_imports,
   (badAll_nil_iff table).mpr C20_all⟩

/-! non-vacuity: the table is not empty and the checkers do reject defective tables -/

/-- the generated table has modules, references, export lists and exported classes -/
example : table.mods.length ≥ 2 ∧ (table.mods.map (fun mi => mi.refs.length)).sum ≥ 100 ∧
    table.concrete ≠ [] ∧ (table.mods.filter (fun mi => mi.all.isSome)).length ≥ 2 := by
  decide +kernel

/-- a two-module miniature: module 0 (package) star-imports module 1 which exports `5`, binds `5`
and `7`, and whose function `9` refers to `5` (bound), `6` (builtin) -/
def mini : Table where
  mods := [
    { name := 0, bound := [1], stars := [1], all := some [5], refs := [(8, 5)], imports := [(8, 1, 7)], classes := [] },
    { name := 1, bound := [5, 7], stars := [], all := some [5], refs := [(9, 5), (9, 6)], imports := [],
      classes := [{ name := 2, bases := [.ext 0], attrs := [3], loads := [(4, 3), (4, 10)] }] }]
  pkg := 0
  builtins := [6]
  ext := [[10]]
  priv := []
  concrete := [(1, 0)]

example : checkRefs mini = true ∧ checkImports mini = true ∧ checkAttrs mini = true ∧ checkAll mini = true := by
  decide +kernel

/-- hypotheses of `C20_names_resolve` are inhabited on the miniature and the conclusion is the
star-import case -/
example : Resolves mini 0 5 :=
  checkRefs_sound mini (by decide) 0 _ rfl 8 5 (by decide)

/-- the same miniature with the reference `7` from the package (module 1 does not export `7`):
the checker rejects it, and names the offender -/
def miniBad : Table := { mini with mods := [
    { name := 0, bound := [1], stars := [1], all := some [5], refs := [(8, 7)], imports := [], classes := [] },
    { name := 1, bound := [5, 7], stars := [], all := some [5, 11], refs := [], imports := [],
      classes := [{ name := 2, bases := [.ext 0], attrs := [3], loads := [(4, 12)] }] }] }

theorem C20_checker_rejects_cex :
    checkRefs miniBad = false ∧ badRefs miniBad = [(0, 8, 7)] ∧
    checkAttrs miniBad = false ∧ badAttrs miniBad = [(1, 0, 1, 0, 4, 12)] ∧
    checkAll miniBad = false ∧ badAll miniBad = [(1, 11, 0), (1, 11, 1)] := by
  decide +kernel

/-- … and the rejected reference is really unresolvable in the declarative sense (the checker is
not merely incomplete on it) -/
theorem C20_rejected_is_unresolvable_cex : ¬ Resolves miniBad 0 7 := by
  intro h
  rcases h with h | h
  · obtain ⟨fuel, hf⟩ := definesB_of_defines miniBad h
    have : ∀ fuel, definesB miniBad fuel 0 7 = false := by
      intro fuel
      match fuel with
      | 0 => rfl
      | _ + 1 => rfl  -- module 0 does not bind `7`, and module 1 does not export it
    rw [this fuel] at hf
    exact Bool.noConfusion hf
  · revert h; decide

end N0.C20
