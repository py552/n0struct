/-!
  `d[k] = v` on an insertion-ordered dict, represented as a list of pairs: the models write this function once per
  format.  `CsvFile.dictSet`, `Esc.dictSet`, `Json.dictInsert` and `Val.kvSet` are proved equal to `assocSet` with the
  proofs of their format (`dictSet_eq_assocSet`, `dictInsert_eq_assocSet`, `kvSet_eq_assocSet`); `Fwf.rowSet` is the same
  function written with the new key in the pair and has no such equation.
-/
namespace N0.Py

/-- `d[k] = v`: an existing key keeps its place and takes the new value, a new key goes to the end -/
def assocSet {κ α} [DecidableEq κ] (k : κ) (v : α) : List (κ × α) → List (κ × α)
  | [] => [(k, v)]
  | (k', v') :: r => if k' = k then (k', v) :: r else (k', v') :: assocSet k v r

theorem assocSet_fresh {κ α} [DecidableEq κ] (k : κ) (v : α) (r : List (κ × α)) (h : k ∉ r.map Prod.fst) :
    assocSet k v r = r ++ [(k, v)] := by
  induction r with
  | nil => rfl
  | cons kv r ih =>
    have hne : kv.1 ≠ k := fun e => h (e ▸ List.mem_cons_self ..)
    rw [assocSet, if_neg hne, ih fun e => h (List.mem_cons_of_mem _ e)]
    rfl

/-- `dict(acc + ps)` when the keys of `ps` are distinct and new -/
theorem foldl_assocSet_nodup {κ α} [DecidableEq κ] (acc ps : List (κ × α)) (hnd : (ps.map Prod.fst).Nodup)
    (hdis : ∀ k ∈ ps.map Prod.fst, k ∉ acc.map Prod.fst) :
    ps.foldl (fun d kv => assocSet kv.1 kv.2 d) acc = acc ++ ps := by
  induction ps generalizing acc with
  | nil => exact (List.append_nil acc).symm
  | cons kv ps ih =>
    have hnd' := List.nodup_cons.1 hnd
    rw [List.foldl_cons, assocSet_fresh kv.1 kv.2 acc (hdis _ (List.mem_cons_self ..)),
      ih (acc ++ [kv]) hnd'.2, List.append_assoc]
    · rfl
    · -- a later key is neither in `acc` nor the key just set
      intro k' hk' hmem
      rw [List.map_append] at hmem
      rcases List.mem_append.1 hmem with h | h
      · exact hdis k' (List.mem_cons_of_mem _ hk') h
      · exact hnd'.1 (List.mem_singleton.1 h ▸ hk')

/-- `dict(ps)` for distinct keys is `ps`, for every model copy `set` of `d[k] = v` -/
theorem foldl_set_nodup {κ α} [DecidableEq κ] {set : κ → α → List (κ × α) → List (κ × α)}
    (hset : ∀ k v r, set k v r = assocSet k v r) (ps : List (κ × α)) (h : (ps.map Prod.fst).Nodup) :
    ps.foldl (fun d kv => set kv.1 kv.2 d) [] = ps := by
  rw [show (fun d kv => set kv.1 kv.2 d) = fun d (kv : κ × α) => assocSet kv.1 kv.2 d from
    funext fun _ => funext fun _ => hset _ _ _]
  exact (foldl_assocSet_nodup [] ps h (fun _ _ hm => nomatch hm)).trans (List.nil_append _)

end N0.Py
