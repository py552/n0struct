import N0Verif.Py.StripLemmas
/-!
  The Python string primitives of `Py/Basic.lean`: `startsWith` as the prefix relation, `isInfix`, the equations of
  `split` (empty text, separator here, separator not here) from which those of `replace` follow, `join`, and
  `split` on one character, which is the model's `splitChar`.
  The lemma files of `Py/` are one library in three layers (`ListLemmas`: lists of any type; `StripLemmas`: strip; this
  file): each imports the one below, so `import N0Verif.Py.Lemmas` brings all three.  `AssocLemmas` stands apart (no imports).
-/
namespace N0.Py

theorem startsWith_nil (s : Str) : startsWith s [] = true := by cases s <;> rfl

theorem startsWith_append (p s : Str) : startsWith (p ++ s) p = true := by
  induction p with
  | nil => exact startsWith_nil _
  | cons c p ih => simp [startsWith, ih]

theorem endsWith_snoc (s : Str) (c : Char) : endsWith (s ++ [c]) [c] = true := by
  simp [endsWith, startsWith, startsWith_nil]

theorem contains_false_of_forall (s : Str) (c : Char) (h : ∀ x ∈ s, x ≠ c) : s.contains c = false := by
  cases hc : s.contains c with
  | false => rfl
  | true => exact absurd rfl (h c (List.contains_iff_mem.mp hc))

theorem startsWith_cons_ne (c d : Char) (s p : Str) (h : c ≠ d) :
    startsWith (c :: s) (d :: p) = false := by
  simp [startsWith, h]

theorem startsWith_iff (s p : Str) : startsWith s p = true ↔ p <+: s := by
  induction p generalizing s with
  | nil => simp [startsWith_nil]
  | cons a p ih =>
    cases s with
    | nil => simp [startsWith]
    | cons c s =>
      simp only [startsWith, Bool.and_eq_true, beq_iff_eq, ih, List.cons_prefix_cons]
      constructor
      · rintro ⟨rfl, h⟩; exact ⟨rfl, h⟩
      · rintro ⟨rfl, h⟩; exact ⟨rfl, h⟩

theorem startsWith_eq_append (s p : Str) (h : startsWith s p = true) : ∃ r, s = p ++ r :=
  ((startsWith_iff s p).mp h).imp fun _ e => e.symm

theorem eq_of_startsWith (s p : Str) (h : startsWith s p = true) : s = p ++ s.drop p.length := by
  obtain ⟨t, rfl⟩ := (startsWith_iff s p).mp h
  rw [List.drop_left]

theorem startsWith_append_left (x rest p : Str) (h : p.length ≤ x.length) :
    startsWith (x ++ rest) p = startsWith x p := by
  induction p generalizing x with
  | nil => rw [startsWith_nil, startsWith_nil]
  | cons a p ih =>
    cases x with
    | nil => exact absurd h (Nat.not_succ_le_zero _)
    | cons c x => rw [List.cons_append, startsWith, startsWith, ih x (Nat.le_of_succ_le_succ h)]

theorem startsWith_append_split (x y : Str) : ∀ p : Str,
    startsWith (x ++ y) p = (startsWith x (p.take x.length) && startsWith y (p.drop x.length)) := by
  induction x with
  | nil => intro p; cases p <;> rfl
  | cons c x ih =>
    intro p
    cases p with
    | nil => cases y <;> rfl
    | cons q p => simp only [List.cons_append, startsWith, List.length_cons, List.take_succ_cons,
        List.drop_succ_cons, ih p, Bool.and_assoc]

theorem startsWith_common (b x y : Str) : startsWith (b ++ x) (b ++ y) = startsWith x y := by
  induction b with
  | nil => rfl
  | cons c b ih => simp [startsWith, ih]

theorem startsWith_mem (s p : Str) (h : startsWith s p = true) : ∀ c ∈ p, c ∈ s := by
  obtain ⟨r, rfl⟩ := startsWith_eq_append s p h
  exact fun c hc => List.mem_append_left r hc

theorem startsWith_append_notMem (x : Char) (t : Str) (hx : x ∉ t) :
    ∀ (d p : Str), startsWith (p ++ t) (d ++ [x]) = startsWith p (d ++ [x])
  | d, [] => by
    have h1 : startsWith t (d ++ [x]) = false := by
      cases h : startsWith t (d ++ [x]) with
      | false => rfl
      | true => exact absurd (startsWith_mem t _ h x (by simp)) hx
    cases d <;> simpa [startsWith] using h1
  | [], c :: p => by simp [startsWith, startsWith_nil]
  | e :: d, c :: p => by
    simp only [List.cons_append, startsWith]
    rw [startsWith_append_notMem x t hx d p]

/-- a two-character prefix that a non-empty text does not have, it does not get by being continued, unless the text
is the first of the two characters and the continuation starts with the second -/
theorem startsWith_two_append (k t : Str) (x y : Char) (hk : k ≠ []) (h : startsWith k [x, y] = false)
    (ht : k = [x] → ∀ c, t.head? = some c → c ≠ y) : startsWith (k ++ t) [x, y] = false := by
  obtain _ | ⟨a, _ | ⟨b, k''⟩⟩ := k
  · exact absurd rfl hk
  · by_cases ha : a = x
    · subst ha
      obtain _ | ⟨c, t'⟩ := t
      · exact h
      · have hc : (c == y) = false := by simpa using ht rfl c rfl
        simp only [List.cons_append, List.nil_append, startsWith, hc, Bool.false_and, Bool.and_false]
    · have ha' : (a == x) = false := by simpa using ha
      simp only [List.cons_append, startsWith, ha', Bool.false_and]
  · simpa only [List.cons_append, startsWith] using h

theorem lower_cons (c : Char) (s : Str) : lower (c :: s) = toLowerAscii c :: lower s := rfl

theorem startsWith_lower_append (k rest p : Str) (o : Char) (hp : ∀ c ∈ p, c ≠ toLowerAscii o) :
    startsWith (lower (k ++ o :: rest)) p = true → startsWith (lower k) p = true := by
  induction k generalizing p with
  | nil =>
    cases p with
    | nil => intro _; rfl
    | cons c p' =>
      have hc := hp c (by simp)
      simp [lower, startsWith, Ne.symm hc]
  | cons x k ih =>
    cases p with
    | nil => intro _; simp [lower, startsWith]
    | cons c p' =>
      simp only [lower, List.cons_append, List.map_cons, startsWith, Bool.and_eq_true, beq_iff_eq]
      intro ⟨h1, h2⟩
      exact ⟨h1, ih p' (fun y hy => hp y (by simp [hy])) h2⟩

theorem isInfix_tail {p : Str} {c : Char} {s : Str} (h : isInfix p (c :: s) = false) : isInfix p s = false := by
  rw [isInfix, Bool.or_eq_false_iff] at h
  exact h.2

theorem isInfix_suffix {p s : Str} : ∀ {a : Str}, isInfix p (a ++ s) = false → isInfix p s = false
  | [], h => h
  | _ :: a, h => isInfix_suffix (a := a) (isInfix_tail h)

theorem isInfix_head {p : Str} {c : Char} {s : Str} (h : isInfix p (c :: s) = false) :
    startsWith (c :: s) p = false := by
  rw [isInfix, Bool.or_eq_false_iff] at h
  exact h.1

theorem isInfix_mem : ∀ (p s : Str), p ≠ [] → isInfix p s = true → ∀ x ∈ p, x ∈ s
  | p, [], hp, h, _, _ => by simp [isInfix, isEmpty_false_of_ne hp] at h
  | p, c :: s, hp, h, x, hx => by
    simp only [isInfix, Bool.or_eq_true] at h
    rcases h with h | h
    · exact startsWith_mem _ _ h x hx
    · exact List.mem_cons_of_mem _ (isInfix_mem p s hp h x hx)

theorem isInfix_false_of_not_mem (p s : Str) (x : Char) (hx : x ∈ p) (hs : x ∉ s) : isInfix p s = false := by
  cases h : isInfix p s with
  | false => rfl
  | true => exact absurd (isInfix_mem p s (by intro hp; subst hp; cases hx) h x hx) hs

theorem isInfix_skip (d0 : Char) (d' k t : Str) (h : ∀ c ∈ k, c ≠ d0) :
    isInfix (d0 :: d') (k ++ t) = isInfix (d0 :: d') t := by
  induction k with
  | nil => rfl
  | cons c k ih =>
    have hc : c ≠ d0 := h c (by simp)
    rw [List.cons_append, isInfix, ih (fun x hx => h x (by simp [hx]))]
    simp [startsWith, hc]

theorem isInfix_mid (p a b : Str) (hp : p ≠ []) : isInfix p (a ++ p ++ b) = true := by
  induction a with
  | nil =>
    cases p with
    | nil => exact absurd rfl hp
    | cons c p' =>
      rw [List.nil_append, List.cons_append, isInfix, ← List.cons_append, startsWith_append]
      rfl
  | cons c a ih =>
    rw [List.cons_append, List.cons_append, isInfix, ih, Bool.or_true]

theorem isInfix_append_notMem (d : Str) (x : Char) (p t : Str) (hx : x ∉ t) :
    isInfix (d ++ [x]) (p ++ t) = isInfix (d ++ [x]) p := by
  induction p with
  | nil =>
    rw [List.nil_append, isInfix_false_of_not_mem _ t x (by simp) hx]
    simp [isInfix]
  | cons c p ih =>
    rw [List.cons_append, isInfix, ih, ← List.cons_append, startsWith_append_notMem x t hx d (c :: p), isInfix]

theorem splitAux_ne_nil (sep : Str) (n f : Nat) (cur s : Str) : splitAux sep n f cur s ≠ [] := by
  induction f generalizing cur s with
  | zero => simp [splitAux]
  | succ f ih =>
    cases s with
    | nil => simp [splitAux]
    | cons c s =>
      simp only [splitAux]
      split
      · simp
      · exact ih _ _

theorem join_cons_of_ne_nil (sep x : Str) (l : List Str) (h : l ≠ []) :
    join sep (x :: l) = x ++ sep ++ join sep l := by
  cases l with
  | nil => exact absurd rfl h
  | cons y ys => rfl

theorem join_append (sep : Str) : ∀ (a b : List Str), a ≠ [] → b ≠ [] → join sep (a ++ b) = join sep a ++ sep ++ join sep b
  | [x], b, _, hb => join_cons_of_ne_nil sep x b hb
  | x :: y :: r, b, _, hb => by
    have e : join sep (x :: y :: r) = x ++ sep ++ join sep (y :: r) := rfl
    rw [e, List.cons_append, join_cons_of_ne_nil _ _ _ (show (y :: r) ++ b ≠ [] from List.cons_ne_nil y (r ++ b)),
      join_append sep (y :: r) b (List.cons_ne_nil y r) hb]
    simp only [List.append_assoc]

theorem length_drop_cons_le (n : Nat) (hn : 0 < n) (c : Char) (s : Str) : ((c :: s).drop n).length ≤ s.length := by
  cases n with
  | zero => exact absurd hn (Nat.lt_irrefl 0)
  | succ n =>
    rw [List.drop_succ_cons, List.length_drop]
    exact Nat.sub_le _ _

theorem splitAux_fuel (sep : Str) (n : Nat) (hn : 0 < n) (f1 f2 : Nat) (cur s : Str)
    (h1 : s.length ≤ f1) (h2 : s.length ≤ f2) :
    splitAux sep n f1 cur s = splitAux sep n f2 cur s := by
  induction f1 generalizing f2 cur s with
  | zero =>
    cases s with
    | nil => cases f2 <;> simp [splitAux]
    | cons c s => simp at h1
  | succ f1 ih =>
    cases s with
    | nil => cases f2 <;> simp [splitAux]
    | cons c s =>
      cases f2 with
      | zero => simp at h2
      | succ f2 =>
        have h1 : s.length ≤ f1 := Nat.le_of_succ_le_succ h1
        have h2 : s.length ≤ f2 := Nat.le_of_succ_le_succ h2
        have hd := length_drop_cons_le n hn c s
        simp only [splitAux]
        split
        · rw [ih f2 [] _ (Nat.le_trans hd h1) (Nat.le_trans hd h2)]
        · exact ih _ _ _ h1 h2

/-- put `pre` in front of the first piece -/
def consHead (pre : Str) : List Str → List Str
  | [] => [pre]
  | x :: xs => (pre ++ x) :: xs

theorem consHead_nil (l : List Str) (h : l ≠ []) : consHead [] l = l := by
  cases l with
  | nil => exact absurd rfl h
  | cons a t => rfl

theorem consHead_consHead (a b : Str) (l : List Str) : consHead a (consHead b l) = consHead (a ++ b) l := by
  cases l with
  | nil => rfl
  | cons x t => rw [consHead, consHead, consHead, List.append_assoc]

theorem splitAux_cur (sep : Str) (n f : Nat) (cur s : Str) :
    splitAux sep n f cur s = consHead cur.reverse (splitAux sep n f [] s) := by
  induction f generalizing cur s with
  | zero => simp [splitAux, consHead]
  | succ f ih =>
    cases s with
    | nil => simp [splitAux, consHead]
    | cons c s =>
      simp only [splitAux]
      split
      · simp [consHead]
      · rw [ih (c :: cur) s, ih [c] s]
        cases splitAux sep n f [] s <;> simp [consHead]

theorem join_consHead (sep pre : Str) (l : List Str) (h : l ≠ []) : join sep (consHead pre l) = pre ++ join sep l := by
  obtain _ | ⟨x, _ | ⟨y, t⟩⟩ := l
  · exact absurd rfl h
  · rfl
  · rw [consHead, join, join, List.append_assoc, List.append_assoc, List.append_assoc]

theorem split_ne_nil (sep s : Str) : split sep s ≠ [] := splitAux_ne_nil _ _ _ _ _

theorem split_nil (sep : Str) : split sep [] = [[]] := rfl

theorem split_nomatch (sep : Str) (c : Char) (s : Str) (h : startsWith (c :: s) sep = false) :
    split sep (c :: s) = consHead [c] (split sep s) := by
  unfold split
  simp only [List.length_cons, splitAux, h, Bool.false_eq_true, ↓reduceIte]
  rw [splitAux_cur sep sep.length (s.length + 1) [c] s]
  rfl

theorem split_match (sep : Str) (hs : sep ≠ []) (c : Char) (s : Str) (h : startsWith (c :: s) sep = true) :
    split sep (c :: s) = [] :: split sep ((c :: s).drop sep.length) := by
  have hn : 0 < sep.length := List.length_pos_iff.mpr hs
  unfold split
  simp only [List.length_cons, splitAux, h, ↓reduceIte, List.reverse_nil]
  rw [splitAux_fuel sep sep.length hn (s.length + 1) (((c :: s).drop sep.length).length + 1) []
    ((c :: s).drop sep.length) (Nat.le_succ_of_le (length_drop_cons_le _ hn c s)) (Nat.le_succ _)]

theorem split_sep_append (sep : Str) (hs : sep ≠ []) (r : Str) : split sep (sep ++ r) = [] :: split sep r := by
  cases sep with
  | nil => exact absurd rfl hs
  | cons o os =>
    rw [List.cons_append, split_match (o :: os) hs o (os ++ r) (startsWith_append (o :: os) r), ← List.cons_append,
      List.drop_left]

theorem splitAux_noSep (sep : Str) (n : Nat) : ∀ (s : Str) (f : Nat) (cur : Str), s.length < f →
    isInfix sep s = false → splitAux sep n f cur s = [cur.reverse ++ s] := by
  intro s
  induction s with
  | nil =>
    intro f cur hf _
    cases f with
    | zero => exact absurd hf (Nat.not_lt_zero _)
    | succ f => simp [splitAux]
  | cons c s ih =>
    intro f cur hf hin
    cases f with
    | zero => exact absurd hf (Nat.not_lt_zero _)
    | succ f =>
      rw [splitAux, if_neg (by rw [isInfix_head hin]; exact Bool.false_ne_true),
        ih f (c :: cur) (Nat.lt_of_succ_lt_succ hf) (isInfix_tail hin), List.reverse_cons, List.append_assoc]
      rfl

theorem join_ne_nil (sep x : Str) (rest : List Str) (hx : x ≠ []) : join sep (x :: rest) ≠ [] := by
  cases rest with
  | nil => exact hx
  | cons y ys => simp [join, hx]

theorem join_mem (sep : Str) (l : List Str) (c : Char) (h : c ∈ join sep l) : c ∈ sep ∨ ∃ g ∈ l, c ∈ g := by
  induction l with
  | nil => cases h
  | cons x xs ih =>
    cases xs with
    | nil => exact Or.inr ⟨x, List.mem_cons_self, h⟩
    | cons y ys =>
      simp only [join, List.mem_append] at h
      rcases h with (h | h) | h
      · exact Or.inr ⟨x, List.mem_cons_self, h⟩
      · exact Or.inl h
      · rcases ih h with h | ⟨g, hg, hcg⟩
        · exact Or.inl h
        · exact Or.inr ⟨g, List.mem_cons_of_mem x hg, hcg⟩

theorem infix_join_of_mem (sep : Str) : ∀ (l : List Str) (t : Str), t ∈ l → t <:+: join sep l
  | [x], t, h => by rw [List.mem_singleton.mp h]; exact List.infix_refl _
  | x :: y :: ys, t, h => by
    rcases List.mem_cons.mp h with rfl | h
    · exact ⟨[], sep ++ join sep (y :: ys), by rw [join, List.nil_append, List.append_assoc]⟩
    · exact (infix_join_of_mem sep (y :: ys) t h).trans (List.suffix_append _ _).isInfix

/-! ### a one-character separator -/

theorem startsWith_single (s : Str) (q : Char) : startsWith s [q] = (s.head? == some q) := by
  cases s with
  | nil => rfl
  | cons c s => simp [startsWith, startsWith_nil]

theorem isInfix_single (d : Char) (s : Str) : isInfix [d] s = s.contains d := by
  induction s with
  | nil => rfl
  | cons c s ih =>
    rw [isInfix, ih, startsWith_single, List.head?_cons, List.contains_cons, Option.some_beq_some, BEq.comm]

theorem splitChar_ne_nil (d : Char) (s : Str) : splitChar d s ≠ [] := by
  cases s with
  | nil => simp [splitChar]
  | cons c s =>
    rw [splitChar]
    split
    · simp
    · split <;> simp

/-- the equation of `splitChar` without the case that never applies -/
theorem splitChar_cons (d c : Char) (s : Str) :
    splitChar d (c :: s) = if c = d then [] :: splitChar d s else consHead [c] (splitChar d s) := by
  rw [splitChar]
  cases splitChar d s <;> rfl

theorem split_single (d : Char) (s : Str) : split [d] s = splitChar d s := by
  induction s with
  | nil => rfl
  | cons c s ih =>
    have hsw : startsWith (c :: s) [d] = (c == d) := by
      rw [startsWith_single, List.head?_cons, Option.some_beq_some]
    rw [splitChar_cons]
    by_cases hc : c = d
    · rw [if_pos hc, split_match [d] (List.cons_ne_nil d []) c s (by rw [hsw, beq_iff_eq]; exact hc), ← ih]
      rfl
    · rw [if_neg hc, split_nomatch [d] c s (by rw [hsw]; exact beq_eq_false_iff_ne.mpr hc), ih]

theorem splitChar_no_delim (c : Char) (a : Str) (h : ∀ x ∈ a, x ≠ c) : splitChar c a = [a] := by
  induction a with
  | nil => rfl
  | cons x a ih =>
    rw [splitChar_cons, if_neg (h x List.mem_cons_self), ih fun y hy => h y (List.mem_cons_of_mem x hy)]
    rfl

theorem join_splitChar (c : Char) : ∀ s : Str, join [c] (splitChar c s) = s
  | [] => rfl
  | a :: s => by
    rw [splitChar_cons]
    by_cases ha : a = c
    · rw [if_pos ha, join_cons_of_ne_nil _ _ _ (splitChar_ne_nil c s), join_splitChar c s, ha]
      rfl
    · rw [if_neg ha, join_consHead _ _ _ (splitChar_ne_nil c s), join_splitChar c s]
      rfl

theorem splitChar_infix (c : Char) (s t : Str) (h : t ∈ splitChar c s) : t <:+: s := by
  have := infix_join_of_mem [c] _ t h
  rwa [join_splitChar] at this

theorem splitChar_mem (c : Char) (s t : Str) (ht : t ∈ splitChar c s) : ∀ x ∈ t, x ∈ s :=
  fun _ hx => (splitChar_infix c s t ht).subset hx

theorem splitChar_append_sep (c : Char) : ∀ (x y : Str), splitChar c (x ++ c :: y) = splitChar c x ++ splitChar c y
  | [], y => by rw [List.nil_append, splitChar_cons, if_pos rfl]; rfl
  | a :: x, y => by
    rw [List.cons_append, splitChar_cons, splitChar_cons, splitChar_append_sep c x y]
    by_cases ha : a = c
    · rw [if_pos ha, if_pos ha]
      rfl
    · rw [if_neg ha, if_neg ha]
      cases h : splitChar c x with
      | nil => exact absurd h (splitChar_ne_nil c x)
      | cons p t => rfl

theorem splitChar_append (c : Char) (a r : Str) (h : ∀ x ∈ a, x ≠ c) :
    splitChar c (a ++ c :: r) = a :: splitChar c r := by
  rw [splitChar_append_sep, splitChar_no_delim c a h]
  rfl

theorem splitChar_noSep_append (c : Char) (m b : Str) (h : ∀ x ∈ m, x ≠ c) :
    splitChar c (m ++ b) = consHead m (splitChar c b) := by
  induction m with
  | nil => exact (consHead_nil _ (splitChar_ne_nil c b)).symm
  | cons a m ih =>
    rw [List.cons_append, splitChar_cons, if_neg (h a List.mem_cons_self),
      ih fun x hx => h x (List.mem_cons_of_mem a hx), consHead_consHead]
    rfl

theorem splitChar_join (c : Char) (steps : List Str) (hne : steps ≠ []) (h : ∀ s ∈ steps, ∀ x ∈ s, x ≠ c) :
    splitChar c (join [c] steps) = steps := by
  induction steps with
  | nil => exact absurd rfl hne
  | cons x rest ih =>
    cases rest with
    | nil => exact splitChar_no_delim c x (h x List.mem_cons_self)
    | cons y ys =>
      rw [join, List.append_assoc, List.singleton_append, splitChar_append c x _ (h x List.mem_cons_self),
        ih (List.cons_ne_nil y ys) fun s hs => h s (List.mem_cons_of_mem x hs)]

theorem replace_nil (old new : Str) : replace old new [] = [] := by
  simp [replace, split, splitAux, join]

theorem replace_noop (old new s : Str) (h : isInfix old s = false) : replace old new s = s := by
  rw [replace, split, splitAux_noSep old _ s _ [] (Nat.lt_succ_self _) h]
  rfl

theorem replace_cons_nomatch (old new : Str) (c : Char) (s : Str)
    (h : startsWith (c :: s) old = false) :
    replace old new (c :: s) = c :: replace old new s := by
  rw [replace, split_nomatch old c s h, join_consHead _ _ _ (split_ne_nil old s)]
  rfl

theorem replace_cons_match (old new : Str) (hold : old ≠ []) (c : Char) (s : Str)
    (h : startsWith (c :: s) old = true) :
    replace old new (c :: s) = new ++ replace old new ((c :: s).drop old.length) := by
  rw [replace, split_match old hold c s h, join_cons_of_ne_nil _ _ _ (split_ne_nil old _)]
  rfl

/-- a pass of `replace` with a replacement shorter than the pattern does not lengthen the text, and shortens it
when the pattern occurs -/
theorem replace_length (old new : Str) (hold : old ≠ []) (hlt : new.length < old.length) (s : Str) :
    (replace old new s).length + (if isInfix old s then 1 else 0) ≤ s.length := by
  have h0 : isInfix old [] = false := by
    cases old with
    | nil => exact absurd rfl hold
    | cons o os => rfl
  have aux : ∀ (n : Nat) (s : Str), s.length ≤ n →
      (replace old new s).length + (if isInfix old s then 1 else 0) ≤ s.length := by
    intro n
    induction n with
    | zero =>
      intro s h
      rw [List.eq_nil_of_length_eq_zero (Nat.le_zero.mp h), replace_nil, h0]
      exact Nat.le_refl 0
    | succ n ih =>
      intro s h
      cases s with
      | nil => rw [replace_nil, h0]; exact Nat.le_refl 0
      | cons c s =>
        cases hs : startsWith (c :: s) old with
        | true =>
          obtain ⟨r, hr⟩ := startsWith_eq_append _ _ hs
          have hin : isInfix old (c :: s) = true := by rw [isInfix, hs]; rfl
          have hl : (c :: s).length = old.length + r.length := by rw [hr, List.length_append]
          rw [replace_cons_match _ _ hold c s hs, if_pos hin, hr, List.drop_left, List.length_append,
            List.length_append]
          have := Nat.le_trans (Nat.le_add_right _ _) (ih r (by rw [List.length_cons] at hl h; omega))
          omega
        | false =>
          have := ih s (Nat.le_of_succ_le_succ h)
          rw [replace_cons_nomatch _ _ c s hs]
          simp only [isInfix, hs, Bool.false_or, List.length_cons] at this ⊢
          omega
  exact aux s.length s (Nat.le_refl _)

theorem replace_append_old (old new : Str) (hold : old ≠ []) (r : Str) :
    replace old new (old ++ r) = new ++ replace old new r := by
  cases old with
  | nil => exact absurd rfl hold
  | cons o os =>
    rw [List.cons_append, replace_cons_match (o :: os) new hold o (os ++ r) (startsWith_append (o :: os) r),
      ← List.cons_append, List.drop_left]

theorem replace_skip (hd : Char) (tl new bs r : Str) (h : ∀ x ∈ bs, x ≠ hd) :
    replace (hd :: tl) new (bs ++ r) = bs ++ replace (hd :: tl) new r := by
  induction bs with
  | nil => rfl
  | cons b bs ih =>
    have hb : b ≠ hd := h b (by simp)
    simp only [List.cons_append]
    rw [replace_cons_nomatch _ _ _ _ (startsWith_cons_ne b hd _ _ hb), ih (fun x hx => h x (by simp [hx]))]

theorem replace_of_not_mem (hd : Char) (tl new s : Str) (h : hd ∉ s) :
    replace (hd :: tl) new s = s := by
  have := replace_skip hd tl new s [] (fun x hx hxe => h (hxe ▸ hx))
  simpa [replace_nil] using this

theorem replace_single (c : Char) (r s : Str) :
    replace [c] r s = s.flatMap (fun x => if x = c then r else [x]) := by
  induction s with
  | nil => exact replace_nil _ _
  | cons x s ih =>
    by_cases hx : x = c
    · subst hx
      have := replace_append_old [x] r (by simp) s
      rw [List.singleton_append] at this
      rw [this, ih]
      simp
    · rw [replace_cons_nomatch _ _ _ _ (startsWith_cons_ne x c _ _ hx), ih]
      simp [hx]

theorem replace_single_nil (d : Char) (s : Str) : replace [d] [] s = s.filter (· ≠ d) := by
  rw [replace_single]
  induction s with
  | nil => rfl
  | cons x s ih => by_cases hx : x = d <;> simp [hx, ih]

theorem replace_lf_cons_lf (eol s : Str) :
    replace ['\n'] eol ('\n' :: s) = eol ++ replace ['\n'] eol s := by
  simp [replace_single]

theorem replace_lf_cons_ne (eol : Str) (c : Char) (s : Str) (h : c ≠ '\n') :
    replace ['\n'] eol (c :: s) = c :: replace ['\n'] eol s := by
  simp [replace_single, h]

theorem replace_lf_append (eol a b : Str) :
    replace ['\n'] eol (a ++ b) = replace ['\n'] eol a ++ replace ['\n'] eol b := by
  simp only [replace_single, List.flatMap_append]

/-- The requested EOL and the text do not interfere: the EOL is not empty and its characters
other than `'\n'` do not occur in the text (whose `'\n'` are all going to be replaced). -/
def EolDisjoint (eol text : Str) : Prop := eol ≠ [] ∧ ∀ c ∈ eol, c ≠ '\n' → c ∉ text

theorem EolDisjoint.tail {eol : Str} {c : Char} {t : Str} (h : EolDisjoint eol (c :: t)) : EolDisjoint eol t :=
  ⟨h.1, fun x hx hn hm => h.2 x hx hn (by simp [hm])⟩

theorem EolDisjoint.head_ne {e : Char} {es : Str} {c : Char} {t : Str}
    (h : EolDisjoint (e :: es) (c :: t)) (hc : c ≠ '\n') : c ≠ e := by
  intro hce
  by_cases he : e = '\n'
  · exact hc (hce.trans he)
  · exact h.2 e (by simp) he (by simp [hce])

theorem replace_roundtrip (eol text : Str) (h : EolDisjoint eol text) :
    replace eol ['\n'] (replace ['\n'] eol text) = text := by
  induction text with
  | nil => rw [replace_nil, replace_nil]
  | cons c t ih =>
    have iht := ih h.tail
    by_cases hc : c = '\n'
    · subst hc
      rw [replace_lf_cons_lf, replace_append_old _ _ h.1, iht]; rfl
    · rw [replace_lf_cons_ne _ _ _ hc]
      cases eol with
      | nil => exact absurd rfl h.1
      | cons e es =>
        rw [replace_cons_nomatch _ _ _ _ (startsWith_cons_ne c e _ _ (h.head_ne hc)), iht]

theorem ljust_length (n : Nat) (c : Char) (s : Str) (h : s.length ≤ n) : (ljust n c s).length = n := by
  rw [ljust, List.length_append, List.length_replicate, Nat.add_sub_cancel' h]

theorem rjust_length (n : Nat) (c : Char) (s : Str) (h : s.length ≤ n) : (rjust n c s).length = n := by
  rw [rjust, List.length_append, List.length_replicate, Nat.sub_add_cancel h]

end N0.Py
