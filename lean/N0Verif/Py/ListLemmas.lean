import N0Verif.Py.Basic
/-!
  Facts about lists of any type that the proofs about strings need and that core Lean does not state.  The last section
  holds two facts about numbers (a slice bound, fuel) that several areas share and that have no better home.
-/
namespace N0.Py

theorem mem_takeWhile_imp {α} (p : α → Bool) (l : List α) (c : α) (h : c ∈ l.takeWhile p) : p c = true := by
  induction l with
  | nil => cases h
  | cons x l ih =>
    by_cases hx : p x = true
    · rw [List.takeWhile_cons_of_pos hx] at h
      cases h with
      | head => exact hx
      | tail _ h => exact ih h
    · rw [List.takeWhile_cons_of_neg hx] at h
      cases h

theorem dropWhile_all {α} (p : α → Bool) (l : List α) (h : ∀ x ∈ l, p x = true) : l.dropWhile p = [] := by
  rw [← List.append_nil l, List.dropWhile_append_of_pos h, List.dropWhile_nil]

theorem takeWhile_all {α} (p : α → Bool) (a : List α) (h : ∀ c ∈ a, p c = true) :
    a.takeWhile p = a ∧ a.dropWhile p = [] := by
  refine ⟨?_, dropWhile_all p a h⟩
  rw [← List.append_nil a, List.takeWhile_append_of_pos h, List.takeWhile_nil]

theorem all_of_dropWhile_nil {α} (p : α → Bool) (l : List α) (h : l.dropWhile p = []) : ∀ x ∈ l, p x = true := by
  intro x hx
  rw [← List.takeWhile_append_dropWhile (p := p) (l := l), h, List.append_nil] at hx
  exact mem_takeWhile_imp p l x hx

theorem dropWhile_eq_self_of_head {α} (p : α → Bool) (l : List α) (h : ∀ x, l.head? = some x → p x = false) :
    l.dropWhile p = l := by
  cases l with
  | nil => rfl
  | cons x xs => exact List.dropWhile_cons_of_neg (by rw [h x rfl]; exact Bool.false_ne_true)

theorem head_dropWhile_false {α} (p : α → Bool) (l : List α) :
    ∀ c, (l.dropWhile p).head? = some c → p c = false := by
  intro c hc
  have := List.head?_dropWhile_not p l
  rw [hc] at this
  exact this

theorem dropWhile_head_not {α} (p : α → Bool) (l : List α) (x : α) (r : List α)
    (h : l.dropWhile p = x :: r) : p x = false :=
  head_dropWhile_false p l x (by rw [h]; rfl)

theorem takeWhile_append_stop {α} (p : α → Bool) (a : List α) (x : α) (r : List α) (ha : ∀ y ∈ a, p y = true)
    (hx : p x = false) : (a ++ x :: r).takeWhile p = a ∧ (a ++ x :: r).dropWhile p = x :: r := by
  have hx' : ¬ p x = true := by rw [hx]; exact Bool.false_ne_true
  rw [List.takeWhile_append_of_pos ha, List.dropWhile_append_of_pos ha, List.takeWhile_cons_of_neg hx',
    List.dropWhile_cons_of_neg hx', List.append_nil]
  exact ⟨rfl, rfl⟩

theorem mem_dropWhile_of_not {α} (p : α → Bool) (l : List α) (c : α) (hc : c ∈ l) (hp : p c = false) :
    c ∈ l.dropWhile p := by
  induction l with
  | nil => cases hc
  | cons x l ih =>
    by_cases hx : p x = true
    · rw [List.dropWhile_cons_of_pos hx]
      cases hc with
      | head => rw [hp] at hx; cases hx
      | tail _ h => exact ih h
    · rw [List.dropWhile_cons_of_neg hx]
      exact hc

theorem takeWhile_append_length {α} (f : α → Bool) (l1 l2 : List α) (h : l2.takeWhile f = []) :
    ((l1 ++ l2).takeWhile f).length = (l1.takeWhile f).length := by
  rw [List.takeWhile_append]
  by_cases hl : (l1.takeWhile f).length = l1.length
  · rw [if_pos hl, List.length_append, h, List.length_nil, Nat.add_zero, hl]
  · rw [if_neg hl]

theorem dropWhile_replicate_append {α} (p : α → Bool) (k : Nat) (x : α) (l : List α) (hx : p x = true) :
    (List.replicate k x ++ l).dropWhile p = l.dropWhile p :=
  List.dropWhile_append_of_pos fun _ hy => (List.eq_of_mem_replicate hy) ▸ hx

theorem isEmpty_false_of_ne {α} {l : List α} (h : l ≠ []) : l.isEmpty = false :=
  List.isEmpty_eq_false_iff.mpr h

theorem not_isEmpty {α} {l : List α} (h : l ≠ []) : (!l.isEmpty) = true := by
  rw [isEmpty_false_of_ne h]
  rfl

/-! ### positions in `a ++ x :: t` -/

theorem lt_of_getElem?_eq_some {α} {l : List α} {j : Nat} {x : α} (h : l[j]? = some x) : j < l.length :=
  (List.getElem?_eq_some_iff.mp h).1

theorem set_mid {α} (a : List α) (x y : α) (t : List α) : (a ++ x :: t).set a.length y = a ++ y :: t := by
  induction a with
  | nil => rfl
  | cons b a ih => exact congrArg (b :: ·) ih

theorem get_mid1 {α} (a : List α) (x n : α) (t : List α) : (a ++ x :: n :: t)[a.length + 1]? = some n := by
  induction a with
  | nil => rfl
  | cons b a ih => exact ih

theorem erase_mid1 {α} (a : List α) (x n : α) (t : List α) :
    (a ++ x :: n :: t).eraseIdx (a.length + 1) = a ++ x :: t := by
  induction a with
  | nil => rfl
  | cons b a ih => exact congrArg (b :: ·) ih

theorem dropLast_drop_mid {α} (a l : List α) : ((a ++ l).dropLast).drop a.length = l.dropLast := by
  by_cases h : l = []
  · subst h
    rw [List.append_nil]
    exact List.drop_eq_nil_of_le (by rw [List.length_dropLast]; exact Nat.sub_le _ _)
  · rw [List.dropLast_append_of_ne_nil h, List.drop_left]

theorem any_congr_mem {α} (l : List α) (p q : α → Bool) (h : ∀ x ∈ l, p x = q x) : l.any p = l.any q := by
  induction l with
  | nil => rfl
  | cons x xs ih =>
    rw [List.any_cons, List.any_cons, h x List.mem_cons_self, ih fun y hy => h y (List.mem_cons_of_mem x hy)]

theorem filterMap_congr {α β} {f g : α → Option β} {l : List α} (h : ∀ x ∈ l, f x = g x) :
    l.filterMap f = l.filterMap g := by
  induction l with
  | nil => rfl
  | cons a l ih =>
    rw [List.filterMap_cons, List.filterMap_cons, h a List.mem_cons_self,
      ih fun x hx => h x (List.mem_cons_of_mem a hx)]

theorem filterMap_cons_toList {α β} (f : α → Option β) (x : α) (l : List α) :
    (x :: l).filterMap f = (f x).toList ++ l.filterMap f := by
  rw [List.filterMap_cons]
  cases f x <;> rfl

theorem flatMap_id_of {α} (l : List α) (g : α → List α) (h : ∀ b ∈ l, g b = [b]) : l.flatMap g = l := by
  induction l with
  | nil => rfl
  | cons x xs ih =>
    rw [List.flatMap_cons, h x List.mem_cons_self, ih fun b hb => h b (List.mem_cons_of_mem x hb)]
    rfl

theorem mapM_ok {ε α β} (f : α → Except ε β) (g : α → β) (l : List α) (h : ∀ x ∈ l, f x = .ok (g x)) :
    l.mapM f = .ok (l.map g) := by
  induction l with
  | nil => rfl
  | cons a l ih =>
    rw [List.mapM_cons, h a List.mem_cons_self, ih fun x hx => h x (List.mem_cons_of_mem a hx)]
    rfl

/-- two `filterMap`s that between them keep exactly the elements that satisfy `p`, each once -/
theorem partition_count {α β γ} (l : List α) (f : α → Option β) (g : α → Option γ) (p : α → Bool)
    (h : ∀ x ∈ l, (f x).toList.length + (g x).toList.length = if p x then 1 else 0) :
    (l.filterMap f).length + (l.filterMap g).length = (l.filter p).length := by
  induction l with
  | nil => rfl
  | cons x l ih =>
    obtain ⟨hx, hl⟩ := List.forall_mem_cons.mp h
    rw [filterMap_cons_toList, filterMap_cons_toList, List.length_append, List.length_append,
      Nat.add_add_add_comm, hx, ih hl, List.filter_cons]
    cases p x
    · exact Nat.zero_add _
    · exact Nat.add_comm _ _

theorem toList_filterMap {α β} (o : Option α) (g : α → Option β) : o.toList.filterMap g = (o.bind g).toList := by
  cases o with
  | none => rfl
  | some a => cases h : g a <;> simp [h]

theorem filter_zipIdx_length {α} (l : List α) (k : Nat) {p : α → Bool} :
    ((l.zipIdx k).filter (fun x => p x.1)).length = (l.filter p).length :=
  calc ((l.zipIdx k).filter (fun x => p x.1)).length
      = (((l.zipIdx k).filter (p ∘ Prod.fst)).map Prod.fst).length := (List.length_map _).symm
    _ = (((l.zipIdx k).map Prod.fst).filter p).length := by rw [List.filter_map]
    _ = (l.filter p).length := by rw [List.zipIdx_map_fst]

theorem prefix_head {α} (a l : List α) (hp : a <+: l) (hne : a ≠ []) : a.head? = l.head? := by
  obtain ⟨t, rfl⟩ := hp
  cases a with
  | nil => exact absurd rfl hne
  | cons x a => rfl

theorem zipWith_take_left {α β γ} (f : α → β → γ) : ∀ (t : List α) (xs : List β),
    List.zipWith f t xs = List.zipWith f t (xs.take t.length)
  | [], _ => by simp
  | _ :: t, [] => by simp
  | a :: t, x :: xs => by simp [zipWith_take_left f t xs]

/-- comparing from the end: the reversed pattern against the last `|t|` elements, or the pattern against the
reversed list -/
theorem zipWith_tail_rev {α} (f : α → α → Bool) (t xs : List α) (h : t.length ≤ xs.length) :
    (List.zipWith f t.reverse (xs.drop (xs.length - t.length))).all id = (List.zipWith f t xs.reverse).all id := by
  rw [zipWith_take_left f t xs.reverse, List.take_reverse]
  have hl : t.length = (xs.drop (xs.length - t.length)).length := by simp; omega
  rw [← List.all_reverse (l := List.zipWith f t.reverse _), List.reverse_zipWith (by simpa using hl)]
  simp

theorem le_sum_map_of_getElem? {α} (g : α → Nat) : ∀ (rs : List α) (j : Nat) (x : α), rs[j]? = some x →
    g x ≤ (rs.map g).sum
  | [], j, x, h => by simp at h
  | r :: rs, 0, x, h => by simp at h; subst h; simp
  | r :: rs, j + 1, x, h => by
    have := le_sum_map_of_getElem? g rs j x (by simpa using h)
    simp; omega

theorem filler_length {α} (n : Nat) (filler : List α) (h : filler ≠ []) :
    n ≤ (List.replicate n filler).flatten.length := by
  have : 1 ≤ filler.length := List.length_pos_iff.mpr h
  simp only [List.length_flatten, List.map_replicate, List.sum_replicate_nat]
  exact Nat.le_mul_of_pos_right n this

theorem zipIdx_pairwise_snd {α : Type} : ∀ (xs : List α) (i : Nat), (xs.zipIdx i).Pairwise (fun a b => a.2 ≠ b.2)
  | [], _ => List.Pairwise.nil
  | x :: xs, i => by
    rw [List.zipIdx_cons]
    refine List.pairwise_cons.2 ⟨fun b hb e => ?_, zipIdx_pairwise_snd xs (i + 1)⟩
    have := (List.mem_zipIdx_iff_le_and_getElem?_sub.1 hb).1
    simp only at e
    omega

/-- a Bool function on lists written by recursion as "`f` of the head and the rest" (the list companion `PL`, `PK` of a
predicate `P` defined by mutual recursion over values, lists and entries) holds of the members -/
theorem allRec_mem {α} {f : α → Bool} {fL : List α → Bool} (h1 : ∀ x xs, fL (x :: xs) = (f x && fL xs)) :
    ∀ {xs : List α}, fL xs = true → ∀ {x}, x ∈ xs → f x = true
  | y :: ys, h, x, hx => by
    rw [h1, Bool.and_eq_true] at h
    rcases List.mem_cons.1 hx with rfl | hx
    · exact h.1
    · exact allRec_mem h1 h.2 hx

theorem allRecP_mem {α} {f : α → Prop} {fL : List α → Prop} (h1 : ∀ x xs, fL (x :: xs) ↔ f x ∧ fL xs) :
    ∀ {xs : List α}, fL xs → ∀ {x}, x ∈ xs → f x
  | y :: ys, h, x, hx => by
    rcases List.mem_cons.1 hx with rfl | hx
    · exact ((h1 _ _).1 h).1
    · exact allRecP_mem h1 ((h1 _ _).1 h).2 hx

/-! ### arithmetic (no list in them): slice bounds, fuel -/

/-- a slice bound that is not negative is taken as it is: for every function that normalises bounds the way Python
does (the translators emit one copy of it per generated module) -/
theorem normBound_natCast {nb : Nat → Int → Nat}
    (h : ∀ len x, nb len x = if x < 0 then (x + Int.ofNat len).toNat else x.toNat) (len a : Nat) :
    nb len (a : Int) = a := by
  rw [h, if_neg (Int.not_lt.mpr (Int.natCast_nonneg a)), Int.toNat_natCast]

theorem exists_fuel_add {n N fuel : Nat} (h : fuel ≥ N + n) : ∃ f, fuel = f + n ∧ f ≥ N :=
  ⟨fuel - n, (Nat.sub_add_cancel (Nat.le_trans (Nat.le_add_left n N) h)).symm, Nat.le_sub_of_add_le h⟩

end N0.Py
