import N0Verif.Py.ListLemmas
/-!
  `rstrip`/`lstrip` with a set of characters, `strip` by a predicate (`stripBy`) and its instance `stripWs`
  (`str.strip()`): when they change nothing, what they take off, and what survives.
-/
namespace N0.Py

theorem rstrip_append_of_all (chars s e : Str) (he : ∀ c ∈ e, chars.contains c = true)
    (hs : ∀ c, s.getLast? = some c → chars.contains c = false) :
    rstrip chars (s ++ e) = s := by
  unfold rstrip
  rw [List.reverse_append, List.dropWhile_append_of_pos (by intro x hx; exact he x (by simpa using hx))]
  cases hrev : s.reverse with
  | nil => simp at hrev; simp [hrev]
  | cons c r =>
    have hl : s.getLast? = some c := by
      rw [List.getLast?_eq_head?_reverse, hrev]; rfl
    have := hs c hl
    rw [List.dropWhile_cons_of_neg (by rw [this]; simp)]
    rw [← hrev]; simp

theorem rstrip_keep (chars s : Str) (h : ∀ c, s.getLast? = some c → chars.contains c = false) :
    rstrip chars s = s := by
  have := rstrip_append_of_all chars s [] (fun _ hc => nomatch hc) h
  rwa [List.append_nil] at this

theorem lstrip_keep (chars s : Str) (h : ∀ c, s.head? = some c → chars.contains c = false) :
    lstrip chars s = s :=
  dropWhile_eq_self_of_head _ s h

theorem rstrip_decomp (chars s : Str) :
    ∃ tail, s = rstrip chars s ++ tail ∧ ∀ c ∈ tail, chars.contains c = true := by
  refine ⟨(s.reverse.takeWhile (fun c => chars.contains c)).reverse, ?_, ?_⟩
  · rw [rstrip, ← List.reverse_append, List.takeWhile_append_dropWhile, List.reverse_reverse]
  · intro c hc
    exact mem_takeWhile_imp _ _ _ (List.mem_reverse.mp hc)

theorem mem_of_mem_rstrip (chars s : Str) (c : Char) (h : c ∈ rstrip chars s) : c ∈ s := by
  rw [rstrip, List.mem_reverse] at h
  exact List.mem_reverse.mp ((List.dropWhile_suffix _).mem h)

/-- `strip` by a predicate on characters: `Py.stripWs` (`str.strip()`), `CsvFile.stripWith` (also `bytes.strip()`)
and `Tlv.stripInt` (the blanks `int()` skips) are this function at their predicates, by `rfl` -/
def stripBy (p : Char → Bool) (s : Str) : Str := ((s.dropWhile p).reverse.dropWhile p).reverse

theorem stripWs_eq_stripBy : stripWs = stripBy isPySpace := rfl

theorem stripBy_eq_self (p : Char → Bool) (s : Str) (h1 : ∀ c, s.head? = some c → p c = false)
    (h2 : ∀ c, s.getLast? = some c → p c = false) : stripBy p s = s := by
  rw [stripBy, dropWhile_eq_self_of_head _ s h1, dropWhile_eq_self_of_head _ s.reverse (by
    intro x hx; rw [List.head?_reverse] at hx; exact h2 x hx), List.reverse_reverse]

theorem stripBy_all (p : Char → Bool) {w : Str} (h : ∀ c ∈ w, p c = true) : stripBy p w = [] := by
  rw [stripBy, dropWhile_all _ w h]
  rfl

theorem stripBy_surround (p : Char → Bool) (a m b : Str) (ha : ∀ c ∈ a, p c = true) (hb : ∀ c ∈ b, p c = true) :
    stripBy p (a ++ m ++ b) = stripBy p m := by
  cases hm : m.dropWhile p with
  | nil =>
    have hmall := all_of_dropWhile_nil _ _ hm
    rw [stripBy_all p hmall, stripBy_all]
    intro c hc
    rcases List.mem_append.mp hc with hc | hc
    · rcases List.mem_append.mp hc with hc | hc
      · exact ha c hc
      · exact hmall c hc
    · exact hb c hc
  | cons x r =>
    have hb' : ∀ c ∈ b.reverse, p c = true := fun c hc => hb c (List.mem_reverse.1 hc)
    rw [stripBy, stripBy, List.append_assoc, List.dropWhile_append_of_pos ha, List.dropWhile_append, hm,
      if_neg (by simp), List.reverse_append, List.dropWhile_append_of_pos hb']

theorem stripBy_pad (p : Char → Bool) (wl wr e : Str) (hwl : ∀ c ∈ wl, p c = true) (hwr : ∀ c ∈ wr, p c = true)
    (h1 : ∀ c, e.head? = some c → p c = false) (h2 : ∀ c, e.getLast? = some c → p c = false) :
    stripBy p (wl ++ e ++ wr) = e := by
  rw [stripBy_surround p wl e wr hwl hwr, stripBy_eq_self p e h1 h2]

theorem stripBy_infix (p : Char → Bool) (s : Str) : stripBy p s <:+: s := by
  have h1 : (s.dropWhile p) <:+ s := List.dropWhile_suffix _
  have h2 : ((s.dropWhile p).reverse.dropWhile p) <:+ (s.dropWhile p).reverse := List.dropWhile_suffix _
  exact (List.reverse_prefix.mpr h2 |>.isInfix).trans (by rw [List.reverse_reverse]; exact h1.isInfix)

theorem stripWs_eq_self (s : Str) (h1 : ∀ c, s.head? = some c → isPySpace c = false)
    (h2 : ∀ c, s.getLast? = some c → isPySpace c = false) : stripWs s = s :=
  stripBy_eq_self isPySpace s h1 h2

theorem stripWs_of_all (s : Str) (h : ∀ c ∈ s, isPySpace c = false) : stripWs s = s :=
  stripWs_eq_self s (fun c hc => h c (List.mem_of_mem_head? hc)) (fun c hc => h c (List.mem_of_getLast? hc))

theorem stripWs_id_of_ends (c d : Char) (m : Str) (hc : isPySpace c = false) (hd : isPySpace d = false) :
    stripWs (c :: m ++ [d]) = c :: m ++ [d] :=
  stripWs_eq_self _ (fun x hx => Option.some.inj hx ▸ hc) (fun x hx => by
    rw [List.getLast?_append, List.getLast?_singleton] at hx
    exact Option.some.inj hx ▸ hd)

theorem stripWs_allSpace {w : Str} (h : ∀ c ∈ w, isPySpace c = true) : stripWs w = [] :=
  stripBy_all isPySpace h

theorem stripWs_surround (a m b : Str) (ha : ∀ c ∈ a, isPySpace c = true) (hb : ∀ c ∈ b, isPySpace c = true) :
    stripWs (a ++ m ++ b) = stripWs m :=
  stripBy_surround isPySpace a m b ha hb

theorem stripWs_pad (wl wr e : Str) (hwl : ∀ c ∈ wl, isPySpace c = true) (hwr : ∀ c ∈ wr, isPySpace c = true)
    (h1 : ∀ c, e.head? = some c → isPySpace c = false) (h2 : ∀ c, e.getLast? = some c → isPySpace c = false) :
    stripWs (wl ++ e ++ wr) = e :=
  stripBy_pad isPySpace wl wr e hwl hwr h1 h2

theorem mem_stripWs (s : Str) (c : Char) (hc : c ∈ s) (hp : isPySpace c = false) : c ∈ stripWs s := by
  rw [stripWs, List.mem_reverse]
  exact mem_dropWhile_of_not _ _ _ (List.mem_reverse.mpr (mem_dropWhile_of_not _ _ _ hc hp)) hp

theorem stripWs_decomp (s : Str) :
    ∃ a b, s = a ++ stripWs s ++ b ∧ (∀ c ∈ a, isPySpace c = true) ∧ ∀ c ∈ b, isPySpace c = true := by
  refine ⟨s.takeWhile isPySpace, (((s.dropWhile isPySpace).reverse).takeWhile isPySpace).reverse, ?_,
    mem_takeWhile_imp _ _, fun c hc => mem_takeWhile_imp _ _ c (List.mem_reverse.1 hc)⟩
  rw [stripWs, List.append_assoc, ← List.reverse_append, List.takeWhile_append_dropWhile, List.reverse_reverse,
    List.takeWhile_append_dropWhile]

theorem stripWs_infix (s : Str) : stripWs s <:+: s := stripBy_infix isPySpace s

theorem stripWs_getLast (s : Str) : ∀ c, (stripWs s).getLast? = some c → isPySpace c = false := by
  intro c hc
  rw [stripWs, List.getLast?_reverse] at hc
  exact head_dropWhile_false _ _ c hc

theorem stripWs_head (s : Str) : ∀ c, (stripWs s).head? = some c → isPySpace c = false := by
  intro c hc
  have hp : stripWs s <+: s.dropWhile isPySpace := by
    have := List.reverse_prefix.mpr (List.dropWhile_suffix isPySpace (l := (s.dropWhile isPySpace).reverse))
    rwa [List.reverse_reverse] at this
  have hne : stripWs s ≠ [] := fun e => by rw [e] at hc; cases hc
  rw [prefix_head _ _ hp hne] at hc
  exact head_dropWhile_false _ _ c hc

theorem stripWs_idem (s : Str) : stripWs (stripWs s) = stripWs s :=
  stripWs_eq_self _ (stripWs_head s) (stripWs_getLast s)

end N0.Py
