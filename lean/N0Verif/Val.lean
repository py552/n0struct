import N0Verif.Py.Basic
import N0Verif.Proto
/-!
  The value model: what `json.loads`, `xmltodict` and `convert_recursively` produce.
  `dict` is an insertion-ordered association list; the class tag distinguishes
  `dict`/`list` from `n0dict`/`n0list` because the code branches on it.
  Floats are opaque lexemes (their Python `repr`).
-/
namespace N0

inductive Cls | plain | n0
  deriving DecidableEq, Repr, Inhabited

inductive Val
  | none
  | bool (b : Bool)
  | int (i : Int)
  | flt (repr : Str)
  | str (s : Str)
  | list (c : Cls) (xs : List Val)
  | dict (c : Cls) (kvs : List (Str × Val))
  deriving Repr, Inhabited

namespace Val

mutual
def beq : Val → Val → Bool
  | .none, .none => true
  | .bool a, .bool b => a == b
  | .int a, .int b => a == b
  | .flt a, .flt b => a == b
  | .str a, .str b => a == b
  | .list c xs, .list c' ys => c == c' && beqList xs ys
  | .dict c xs, .dict c' ys => c == c' && beqKvs xs ys
  | _, _ => false
def beqList : List Val → List Val → Bool
  | [], [] => true
  | x :: xs, y :: ys => beq x y && beqList xs ys
  | _, _ => false
def beqKvs : List (Str × Val) → List (Str × Val) → Bool
  | [], [] => true
  | (k, x) :: xs, (k', y) :: ys => k == k' && beq x y && beqKvs xs ys
  | _, _ => false
end

instance : BEq Val := ⟨beq⟩

mutual
theorem beq_eq : ∀ (a b : Val), beq a b = true ↔ a = b
  | .none, b => by cases b <;> simp [beq]
  | .bool a, b => by cases b <;> simp [beq]
  | .int a, b => by cases b <;> simp [beq]
  | .flt a, b => by cases b <;> simp [beq]
  | .str a, b => by cases b <;> simp [beq]
  | .list c xs, b => by cases b <;> simp [beq, beqList_eq xs]
  | .dict c xs, b => by cases b <;> simp [beq, beqKvs_eq xs]
theorem beqList_eq : ∀ (a b : List Val), beqList a b = true ↔ a = b
  | [], b => by cases b <;> simp [beqList]
  | x :: xs, b => by
      cases b with
      | nil => simp [beqList]
      | cons y ys => simp [beqList, beq_eq x y, beqList_eq xs ys]
theorem beqKvs_eq : ∀ (a b : List (Str × Val)), beqKvs a b = true ↔ a = b
  | [], b => by cases b <;> simp [beqKvs]
  | (k, x) :: xs, b => by
      cases b with
      | nil => simp [beqKvs]
      | cons y ys =>
        obtain ⟨k', y⟩ := y
        simp [beqKvs, beq_eq x y, beqKvs_eq xs ys, and_assoc]
end

instance : DecidableEq Val := fun a b =>
  if h : beq a b = true then isTrue ((beq_eq a b).1 h)
  else isFalse (fun h' => h ((beq_eq a b).2 h'))

/-- Python truthiness -/
def truthy : Val → Bool
  | .none => false
  | .bool b => b
  | .int i => i != 0
  | .flt r => !(r == "0.0".toList || r == "-0.0".toList)
  | .str s => !s.isEmpty
  | .list _ xs => !xs.isEmpty
  | .dict _ kvs => !kvs.isEmpty

def isScalar : Val → Bool
  | .list .. => false
  | .dict .. => false
  | _ => true

/-- `dict.get(k)` on an association list -/
def lookup (k : Str) : List (Str × Val) → Option Val
  | [] => Option.none
  | (k', v) :: rest => if k = k' then some v else lookup k rest

theorem lookup_mem {k : Str} {w : Val} : ∀ {kvs : List (Str × Val)}, lookup k kvs = some w → (k, w) ∈ kvs
  | [], h => nomatch h
  | (k', v) :: rest, h => by
    by_cases hk : k = k'
    · rw [lookup, if_pos hk] at h
      cases h
      exact hk ▸ List.mem_cons_self
    · rw [lookup, if_neg hk] at h
      exact List.mem_cons_of_mem _ (lookup_mem h)

theorem lookup_isSome_iff (k : Str) : ∀ (kvs : List (Str × Val)), (lookup k kvs).isSome = true ↔ k ∈ kvs.map (·.1)
  | [] => by simp [lookup]
  | (k', v) :: rest => by
    by_cases hk : k = k'
    · simp [lookup, hk]
    · simp [lookup, hk, lookup_isSome_iff k rest]

theorem lookup_isSome_of_mem {k : Str} {c : Val} {kvs : List (Str × Val)} (h : (k, c) ∈ kvs) :
    (lookup k kvs).isSome = true :=
  (lookup_isSome_iff k kvs).2 (List.mem_map.2 ⟨(k, c), h, rfl⟩)

/-- the converse of `lookup_mem`: a member is what `lookup` finds, for every way `U` of saying that no key stands again
further on (the regions say it each in their own words) -/
theorem lookup_of_mem {U : List (Str × Val) → Prop}
    (hU : ∀ k v rest, U ((k, v) :: rest) → lookup k rest = Option.none ∧ U rest) :
    ∀ {kvs : List (Str × Val)} {k : Str} {w : Val}, U kvs → (k, w) ∈ kvs → lookup k kvs = some w
  | (k', v) :: rest, k, w, hu, h => by
    rcases List.mem_cons.1 h with e | h
    · cases e; rw [lookup, if_pos rfl]
    · have hne : k ≠ k' := fun e => by
        have := lookup_isSome_of_mem h
        rw [e, (hU k' v rest hu).1] at this
        cases this
      rw [lookup, if_neg hne]
      exact lookup_of_mem hU (hU k' v rest hu).2 h

/-- induction on a value, the hypothesis being available for every member of a container -/
theorem memInduct {P : Val → Prop} (none : P .none) (bool : ∀ b, P (.bool b)) (int : ∀ i, P (.int i))
    (flt : ∀ r, P (.flt r)) (str : ∀ s, P (.str s)) (list : ∀ c xs, (∀ x ∈ xs, P x) → P (.list c xs))
    (dict : ∀ c kvs, (∀ kv ∈ kvs, P kv.2) → P (.dict c kvs)) (v : Val) : P v :=
  Val.rec (motive_1 := P) (motive_2 := fun xs => ∀ x ∈ xs, P x) (motive_3 := fun kvs => ∀ kv ∈ kvs, P kv.2)
    (motive_4 := fun kv => P kv.2) none bool int flt str list dict
    (fun _ h => nomatch h)
    (fun _ _ hx hxs _ h => (List.mem_cons.1 h).elim (fun e => e ▸ hx) (hxs _))
    (fun _ h => nomatch h)
    (fun _ _ hkv hkvs _ h => (List.mem_cons.1 h).elim (fun e => e ▸ hkv) (hkvs _))
    (fun _ _ h => h) v

/-- induction on values, lists of values and lists of entries at once (an entry counts as its value): the form for facts
about functions defined by mutual recursion over the three -/
theorem mutualInduct {PV : Val → Prop} {PK : List (Str × Val) → Prop} {PL : List Val → Prop}
    (hd : ∀ c kvs, PK kvs → PV (.dict c kvs)) (hl : ∀ c xs, PL xs → PV (.list c xs))
    (hs : ∀ v, v.isScalar = true → PV v)
    (hk0 : PK []) (hk1 : ∀ k c kvs, PV c → PK kvs → PK ((k, c) :: kvs))
    (hl0 : PL []) (hl1 : ∀ x xs, PV x → PL xs → PL (x :: xs)) :
    (∀ v, PV v) ∧ (∀ kvs, PK kvs) ∧ (∀ xs, PL xs) :=
  ⟨@Val.rec PV PL PK (fun kc => PV kc.2) (hs _ rfl) (fun _ => hs _ rfl) (fun _ => hs _ rfl) (fun _ => hs _ rfl)
      (fun _ => hs _ rfl) hl hd hl0 hl1 hk0 (fun kc kvs h1 h2 => hk1 kc.1 kc.2 kvs h1 h2) (fun _ _ h => h),
   @Val.rec_2 PV PL PK (fun kc => PV kc.2) (hs _ rfl) (fun _ => hs _ rfl) (fun _ => hs _ rfl) (fun _ => hs _ rfl)
      (fun _ => hs _ rfl) hl hd hl0 hl1 hk0 (fun kc kvs h1 h2 => hk1 kc.1 kc.2 kvs h1 h2) (fun _ _ h => h),
   @Val.rec_1 PV PL PK (fun kc => PV kc.2) (hs _ rfl) (fun _ => hs _ rfl) (fun _ => hs _ rfl) (fun _ => hs _ rfl)
      (fun _ => hs _ rfl) hl hd hl0 hl1 hk0 (fun kc kvs h1 h2 => hk1 kc.1 kc.2 kvs h1 h2) (fun _ _ h => h)⟩

end Val

/-! ### protocol: prefix encoding, one token per node -/
namespace Proto

def clsTag : Cls → String
  | .plain => "p" | .n0 => "n"

mutual
def encVal : Val → List String
  | .none => ["N"]
  | .bool true => ["T"]
  | .bool false => ["F"]
  | .int i => ["I" ++ toString i]
  | .flt r => ["R" ++ encStr r]
  | .str s => ["S" ++ encStr s]
  | .list c xs => ("L" ++ clsTag c ++ toString xs.length) :: encVals xs
  | .dict c kvs => ("D" ++ clsTag c ++ toString kvs.length) :: encKvs kvs
def encVals : List Val → List String
  | [] => []
  | x :: xs => encVal x ++ encVals xs
def encKvs : List (Str × Val) → List String
  | [] => []
  | (k, x) :: xs => encStr k :: (encVal x ++ encKvs xs)
end

def showVal (v : Val) : String := " ".intercalate (encVal v)

def parseInt (s : List Char) : Option Int :=
  match s with
  | '-' :: ds => if ds.all Py.isAsciiDigit && !ds.isEmpty then some (-(Py.natOfDigits ds : Int)) else none
  | ds => if ds.all Py.isAsciiDigit && !ds.isEmpty then some (Py.natOfDigits ds : Int) else none

def parseCls : Char → Option Cls
  | 'p' => some .plain | 'n' => some .n0 | _ => none

/-- decode one value from a token list (fuel = number of tokens) -/
def decVal : Nat → List String → Option (Val × List String)
  | 0, _ => none
  | _, [] => none
  | fuel + 1, t :: rest =>
    match t.toList with
    | ['N'] => some (.none, rest)
    | ['T'] => some (.bool true, rest)
    | ['F'] => some (.bool false, rest)
    | 'I' :: ds => (parseInt ds).map (fun i => (.int i, rest))
    | 'R' :: h => (decStr (String.ofList h)).map (fun s => (.flt s, rest))
    | 'S' :: h => (decStr (String.ofList h)).map (fun s => (.str s, rest))
    | 'L' :: c :: n => do
        let c ← parseCls c
        let n ← if n.all Py.isAsciiDigit && !n.isEmpty then some (Py.natOfDigits n) else none
        let rec items : Nat → List String → List Val → Option (List Val × List String)
          | 0, toks, acc => some (acc.reverse, toks)
          | k + 1, toks, acc => do
              let (v, toks') ← decVal fuel toks
              items k toks' (v :: acc)
        termination_by k => (fuel, k + 1)
        decreasing_by
          · exact Prod.Lex.right _ (Nat.succ_pos _)
          · exact Prod.Lex.right _ (Nat.lt_succ_self _)
        let (xs, rest') ← items n rest []
        pure (.list c xs, rest')
    | 'D' :: c :: n => do
        let c ← parseCls c
        let n ← if n.all Py.isAsciiDigit && !n.isEmpty then some (Py.natOfDigits n) else none
        let rec entries : Nat → List String → List (Str × Val) → Option (List (Str × Val) × List String)
          | 0, toks, acc => some (acc.reverse, toks)
          | k + 1, toks, acc =>
            match toks with
            | [] => none
            | kt :: toks1 => do
              let key ← decStr kt
              let (v, toks') ← decVal fuel toks1
              entries k toks' ((key, v) :: acc)
        termination_by k => (fuel, k + 1)
        decreasing_by
          · exact Prod.Lex.right _ (Nat.succ_pos _)
          · exact Prod.Lex.right _ (Nat.lt_succ_self _)
        let (kvs, rest') ← entries n rest []
        pure (.dict c kvs, rest')
    | _ => none
-- a node is read at the fuel of its parent less one; the loop over its children counts down at that fuel
termination_by fuel => (fuel, 0)
decreasing_by
  · exact Prod.Lex.left _ _ (Nat.lt_succ_self _)
  · exact Prod.Lex.left _ _ (Nat.lt_succ_self _)

def readVal (toks : List String) : Option (Val × List String) := decVal (toks.length + 1) toks

end Proto
end N0
